/-
Bridges between the executable Spec predicates of C01 (`Spec/C01.lean`: adjacent-pair checks) and the
propositions (`List.Pairwise`), in both directions. From the adjacent-pair check to the pairwise statement needs
transitivity, which every comparison of `Model/Order.lean` has (`TransCmp`).
-/
import Bermuda.Spec.C01
import Bermuda.Lemmas.Sort
import Bermuda.Lemmas.DateOrder
namespace Bermuda
open Std

theorem pairwise_of_chainB {α} {le : α → α → Bool} (htrans : ∀ a b c, le a b = true → le b c = true → le a c = true)
    {l : List α} (h : Spec.chainB le l = true) : l.Pairwise (fun a b => le a b = true) := by
  induction l with
  | nil => exact List.Pairwise.nil
  | cons a rest ih =>
    cases rest with
    | nil => exact List.pairwise_singleton _ _
    | cons b rest' =>
      simp only [Spec.chainB, Bool.and_eq_true] at h
      have ihp := ih h.2
      refine List.pairwise_cons.mpr ⟨fun x hx => ?_, ihp⟩
      rcases List.mem_cons.mp hx with rfl | hx
      · exact h.1
      · exact htrans a b x h.1 ((List.pairwise_cons.mp ihp).1 x hx)

theorem Spec.chainB_of_pairwise {α} {le : α → α → Bool} {l : List α}
    (h : l.Pairwise (fun a b => le a b)) : Spec.chainB le l = true := by
  induction l with
  | nil => rfl
  | cons a rest ih =>
    cases rest with
    | nil => rfl
    | cons b rest' =>
      simp only [Spec.chainB, Bool.and_eq_true]
      exact ⟨(List.pairwise_cons.mp h).1 b (by simp), ih (List.pairwise_cons.mp h).2⟩

/-- `Spec.sliceOrder t` is by definition `Spec.chainB sliceRel t` (the lambda written out in `Spec/C01.lean`) -/
def sliceRel (a b : Cell) : Bool := if a.md == b.md then Cell.le a b else Metadata.cmp a.md b.md == .lt

/-- the index bounds are written out: found by `get_elem_tactic`, each `t[i]` of a statement is slow to check -/
theorem Cell.md_eq_of_between_sorted {t : List Cell} (h : t.Pairwise (fun a b => Cell.le a b)) {i j k : Nat} (hij : i < j)
    (hjk : j < k) (hk : k < t.length)
    (hm : Metadata.cmp (t[i]'(Nat.lt_trans hij (Nat.lt_trans hjk hk))).md t[k].md = .eq) :
    Metadata.cmp (t[i]'(Nat.lt_trans hij (Nat.lt_trans hjk hk))).md (t[j]'(Nat.lt_trans hjk hk)).md = .eq :=
  have hs := List.pairwise_iff_getElem.mp h
  have hj := Nat.lt_trans hjk hk
  Cell.md_eq_of_between (hs i j (Nat.lt_trans hij hj) hj hij) (hs j k hj hk hjk) hm

theorem Cell.slice_order_sorted {t : List Cell} (h : t.Pairwise (fun a b => Cell.le a b)) {i j : Nat} (hij : i < j)
    (hj : j < t.length) :
    (Metadata.cmp (t[i]'(Nat.lt_trans hij hj)).md t[j].md = .eq ∧ Cell.le (t[i]'(Nat.lt_trans hij hj)) t[j] = true) ∨
      Metadata.cmp (t[i]'(Nat.lt_trans hij hj)).md t[j].md = .lt :=
  have hle := List.pairwise_iff_getElem.mp h i j (Nat.lt_trans hij hj) hj hij
  (Cell.le_cases hle).imp_left (⟨·, hle⟩)

theorem sliceRel_iff {a b : Cell} :
    sliceRel a b = true ↔ Cell.le a b = true ∧ (a.md = b.md ∨ Metadata.cmp a.md b.md = .lt) := by
  unfold sliceRel
  by_cases he : a.md = b.md
  · simp [he]
  · simp only [beq_iff_eq, he, if_false, false_or]
    exact ⟨fun h => ⟨Cell.le_of_md_lt h, h⟩, And.right⟩

theorem sliceRel_trans (a b c : Cell) (h1 : sliceRel a b = true) (h2 : sliceRel b c = true) :
    sliceRel a c = true := by
  rw [sliceRel_iff] at *
  refine ⟨Cell.le_trans a b c h1.1 h2.1, ?_⟩
  rcases h1.2 with e1 | l1
  · rw [e1]; exact h2.2
  · rcases h2.2 with e2 | l2
    · rw [← e2]; exact Or.inr l1
    · exact Or.inr (TransCmp.lt_trans l1 l2)

/-- invariant of the scan of `Spec.slicesContiguous` standing in the slice of `c₀`: every slice already left
(`seen`) is strictly below `c₀` and the rest -/
theorem slicesContiguous_go {seen : List Metadata} {c₀ : Cell} {l : List Cell}
    (hp : (c₀ :: l).Pairwise (fun a b => sliceRel a b = true))
    (hseen : ∀ s ∈ seen, ∀ c ∈ c₀ :: l, Metadata.cmp s c.md = .lt) :
    Spec.slicesContiguous.go seen (some c₀.md) l = true := by
  induction l generalizing seen c₀ with
  | nil => rfl
  | cons c rest ih =>
    obtain ⟨h₀, hrest⟩ := List.pairwise_cons.mp hp
    simp only [Spec.slicesContiguous.go]
    split
    · have hsub : (c₀ :: rest).Sublist (c₀ :: c :: rest) := (List.sublist_cons_self c rest).cons_cons c₀
      exact ih (hp.sublist hsub) fun s hs x hx => hseen s hs x (hsub.subset hx)
    · rename_i hne
      split
      · rename_i hcont
        have := hseen c.md (by simpa using hcont) c (by simp)
        rw [ReflCmp.compare_self (cmp := Metadata.cmp)] at this
        cases this
      · -- a new slice starts at `c`: the slice of `c₀` joins `seen`; it lies strictly below `c`, hence below the rest
        refine ih hrest fun s hs x hx => ?_
        have hsc : Metadata.cmp s c.md = .lt := by
          rcases List.mem_cons.mp hs with rfl | hs
          · exact (sliceRel_iff.mp (h₀ c (by simp))).2.resolve_left fun e => hne (by simp [e])
          · exact hseen s hs c (by simp)
        rcases List.mem_cons.mp hx with rfl | hx
        · exact hsc
        · rcases (sliceRel_iff.mp ((List.pairwise_cons.mp hrest).1 x hx)).2 with e | hlt
          · rw [← e]; exact hsc
          · exact TransCmp.lt_trans hsc hlt

theorem slicesContiguous_of_pairwise {l : List Cell} (hp : l.Pairwise (fun a b => sliceRel a b = true)) :
    Spec.slicesContiguous l = true := by
  cases l with
  | nil => rfl
  | cons c rest =>
    simp only [Spec.slicesContiguous, Spec.slicesContiguous.go]
    exact slicesContiguous_go hp (fun _ h => nomatch h)

end Bermuda
