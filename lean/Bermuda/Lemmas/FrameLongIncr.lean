/-
C14, long table of an INCREMENTAL triangle with scalar values: one row per cell and field; the reader
adds each row's field to the cell at the row's coordinates incl. prev_evaluation_date
(`fromLong_toLong_incremental`). The row lemmas and the reader's fold are those of `FrameLong.lean`.
-/
import Bermuda.Lemmas.FrameWideIncr
import Bermuda.Lemmas.FrameLong
namespace Bermuda.Frame
open Bermuda Bermuda.Spec.C14

/-- the domain of `fromLong_toLong_incremental`: as `WFlong`, every cell an `IncrementalCell` with scalar values -/
structure WFlongIncr (t : List Cell) (DK LK : List String) : Prop where
  ne : t ≠ []
  sorted : t.Pairwise (fun a b => Cell.cmp a b = .lt)
  inc : ∀ c ∈ t, c.kind = .incremental ∧ c.prev.isSome = true
  dates : ∀ c ∈ t, c.datesOk = true
  md : ∀ c ∈ t, MdOKL c.md DK LK
  names : LongNames DK LK
  cells : ∀ c ∈ t, CellOKL c (sampleCount c) ∧ c.values ≠ []
  one : ∀ c ∈ t, sampleCount c = 1
  inj : (t.map fun c => (mergeCell c).coord).Nodup

theorem WFlongIncr.table {t : List Cell} {DK LK : List String} (h : WFlongIncr t DK LK) : LongTable t DK LK :=
  ⟨h.ne, h.md, h.names, h.cells⟩

/-- as `lcell`, an `IncrementalCell` -/
def icell (c : Cell) : Cell :=
  { kind := .incremental, ps := c.ps, pe := c.pe, ev := c.ev, prev := some (prevOf c),
    md := mergeLossDetails c.md }

/-- what the long reader makes of an incremental cell: 0-d float arrays, loss details folded -/
def ilrecon (c : Cell) : Cell :=
  { icell c with values := c.values.map fun kv => (kv.1, Val.arr false [] [qAt kv.2 0]) }

def irowOf (t : List Cell) (E : Row → Row) (c : Cell) (kv : String × Val) : Row :=
  E (longRow c (allMetadataNames t) 0 (kv.1, qAt kv.2 0))

section
variable {t : List Cell} {DK LK : List String} (h : WFlongIncr t DK LK)
include h

theorem longIncrStep_row {E : Row → Row} (hE : KeepsOthers E) (acc : List Cell) {c : Cell} (hc : c ∈ t)
    (kv : String × Val) :
    longIncrStep (ldetailCols t E []) [] acc (irowOf t E c kv) =
      addField acc (icell c) kv.1 (Val.arr false [] [qAt kv.2 0]) := by
  have hr : RowOf (fun k => k ∈ DK ∨ k ∈ LK) c (irowOf t E c kv) := h.table.rowOf hc hE 0 _
  obtain ⟨d1, d2, d3⟩ := hr.dates
  have d4 := Row.col_of_get? (hr.prev (h.inc c hc))
  have d5 : Row.col (irowOf t E c kv) "field" = .str kv.1 := (lcol_field hE _ _ 0 _).1
  have d6 : Row.col (irowOf t E c kv) "value" = .num (qAt kv.2 0) := (lcol_field hE _ _ 0 _).2
  have hmd : rowMetadata (irowOf t E c kv) (ldetailCols t E []) [] = mergeLossDetails c.md :=
    h.table.rowMetadata_merged hE hc fun k hk => hr.md k (hk.imp_right (ldetailCols_sub h.table hE))
  unfold longIncrStep
  rw [d1, d2, d3, d4, d5, d6, hmd]
  rfl

theorem canonCell_ilrecon {c : Cell} (hc : c ∈ t) : canonCell (ilrecon c) = canonCell (mergeCell c) := by
  refine canonCell_eq_of (congrArg typedKind (h.inc c hc).1.symm) ⟨rfl, rfl, rfl, (prev_eq_prevOf (h.inc c hc).2).symm⟩
    (.of_eq ?_) (h.cells c hc).1.nodup
  simp only [ilrecon, List.map_map]
  refine List.map_congr_left fun kv hkv => ?_
  obtain ⟨data, hd, hlen⟩ := (h.cells c hc).1.vals kv hkv
  rw [h.one c hc] at hlen
  match data, hlen with
  | [q], _ =>
    have hq : qAt kv.2 0 = q := by simp [qAt, hd]
    simp only [Function.comp, hq, numV_of_valData hd (List.cons_ne_nil _ _) false []]

theorem fromLong_toLong_incr_eq :
    ((toLongRows t).bind fun tb => fromLongRows tb []) = Triangle.ofCells (t.map ilrecon) := by
  obtain ⟨E, hE, hw, _⟩ := toLongRows_ok h.table
  rw [hw]
  simp only [Except.bind]
  have hprev : (mkTable (lrows t E)).cols.contains "prev_evaluation_date" = true := by
    obtain ⟨c, hc⟩ := List.exists_mem_of_ne_nil _ h.ne
    obtain ⟨kv, _, hr⟩ := row_mem_lrows h.table hc (E := E)
    exact (h.table.rowOf hc hE 0 _).prev_col hr (h.inc c hc)
  unfold fromLongRows
  rw [if_pos hprev]
  unfold fromLongIncr
  have hrows : (mkTable (lrows t E)).rows = (t.map fun c => c.values.map (irowOf t E c)).flatten := by
    show lrows t E = _
    unfold lrows
    congr 1
    apply List.map_congr_left
    intro c hc
    unfold lblock
    rw [h.one c hc]
    simp [irowOf]
  show ((mkTable (lrows t E)).rows.foldlM (longIncrStep (ldetailCols t E []) []) []).bind Triangle.ofCells = _
  rw [hrows]
  have hfold := foldlM_cells (fun kv => Val.arr false [] [qAt kv.2 0]) icell (irowOf t E)
    (fun c hc acc kv _ => longIncrStep_row h hE acc hc kv)
    (fun c hc => ⟨(Cell.datesOk_congr (a := icell c) (b := c) (h.inc c hc).1.symm rfl rfl rfl
        (prev_eq_prevOf (h.inc c hc).2).symm).trans (h.dates c hc),
      (h.cells c hc).2, (h.cells c hc).1.nodup⟩)
    t [] (fun _ hc => hc) (by
      have : (t.map fun c => (icell c).coord) = t.map fun c => (mergeCell c).coord := by
        exact List.map_congr_left fun c hc =>
          Cell.coord_eq_iff.mpr ⟨rfl, rfl, rfl, rfl, (prev_eq_prevOf (h.inc c hc).2).symm⟩
      simpa [this] using h.inj)
  simp only [List.map_nil, List.nil_append] at hfold
  rw [hfold]
  rfl

/-- **fromLong_toLong, incremental triangles with scalar values**: one row per cell and field, and
the reader adds each row's field to the cell at the row's coordinates (previous evaluation date
included); loss details come back as details. -/
theorem fromLong_toLong_incremental :
    okAnd (fun out => longSpec t out && slicesSpec true t out)
      ((toLongRows t).bind fun tb => fromLongRows tb []) = true := by
  rw [fromLong_toLong_incr_eq h]
  exact longSpec_merged (k := .incremental) (fun _ _ => rfl) fun c hc => canonCell_ilrecon h hc

end

end Bermuda.Frame
