/-
C18: the concrete round trip used as non-vacuity example of `aggregate_disagg`
(`Properties/C18.lean: exT_roundtrip`). `List.mergeSort` does not reduce in the kernel, so every model run is
unfolded down to its sorts, each sort is replaced by the insertion sort, and the kernel evaluates the rest at once.
-/
import Bermuda.Lemmas.UnitsRoundtrip
namespace Bermuda.Units.Example
open Bermuda Bermuda.Units Bermuda.Spec.C18

def exY : Cell :=
  { kind := .cumulative, ps := ⟨2020, 1, 1⟩, pe := ⟨2020, 12, 31⟩, ev := ⟨2020, 12, 31⟩,
    values := [("open_claims", .int 7), ("paid_loss", .int 120)], md := {} }
def exT : List Cell := [exY]
def exH (ps pe : Date) (paid : Rat) : Cell :=
  { kind := .cell, ps := ps, pe := pe, ev := ⟨2020, 12, 31⟩, values := [("paid_loss", .flt paid)], md := {} }
def exOut : List Cell :=
  [exH ⟨2020, 1, 1⟩ ⟨2020, 6, 30⟩ 30, exH ⟨2020, 7, 1⟩ ⟨2020, 12, 31⟩ 90]
def exBack : List Cell := [{ exY with values := [("paid_loss", .flt 120)] }]
def exArgs : AggArgs := { periodRes := some (12, "month"), periodOrigin := ⟨2019, 12, 31⟩ }
def exW : Option (List Num) := some [.flt (1/4), .flt (3/4)]

theorem mergeSort_intLe (l : List Int) :
    l.mergeSort (fun a b => decide (a ≤ b)) = insertionSort (fun a b => decide (a ≤ b)) l :=
  mergeSort_eq_insertionSort (by simp only [decide_eq_true_eq]; omega)
    (by simp only [Bool.or_eq_true, decide_eq_true_eq]; omega) l

theorem exT_slices : Triangle.slices exT = [({}, exT)] := by decide +kernel

theorem exT_res : periodResolution exT = .ok 12 := by
  simp only [periodResolution, mergeSort_intLe]
  decide +kernel

theorem exT_wf : disaggWF 6 exT = true := by
  simp only [disaggWF, periodResolution, mergeSort_intLe]
  decide +kernel

theorem exT_disagg : disaggregateExperience exT 6 exW none = .ok exOut := by
  simp only [disaggregateExperience, periodResolution, triFields, sortStrings, disaggCore, disaggSlice, Triangle.slices,
    mergeSort_leOf, mergeSort_intLe, mergeSort_cellLe, ofCells_eq_insertionSort]
  decide +kernel

theorem exOut_agg : aggregate Transc.id exOut exArgs = .ok exBack := by
  simp only [aggregate, aggregateCum, aggregateSlice, aggregateEval, aggregatePeriod, sumTriangles, Triangle.slices,
    mergeSort_leOf, mergeSort_cellLe, ofCells_eq_insertionSort]
  decide +kernel

/-! twin slices: an EUR slice and a USD slice that differ ONLY in the currency collide after conversion -/
def twinCell (cur : String) (v : Val) : Cell :=
  { kind := .cumulative, ps := ⟨2020, 1, 1⟩, pe := ⟨2020, 12, 31⟩, ev := ⟨2020, 12, 31⟩,
    values := [("paid_loss", v)], md := { currency := some cur } }
def twinT : List Cell := [twinCell "EUR" (.int 100), twinCell "USD" (.int 125)]
def twinOut : List Cell := [twinCell "USD" (.flt 125), twinCell "USD" (.int 125)]

theorem twin_convert : convertCurrency twinT "USD" [("EUR", .flt (5/4))] = .ok twinOut := by
  simp only [convertCurrency, Triangle.slices, mergeSort_cellLe, ofCells_eq_insertionSort]
  decide +kernel

theorem twin_spec : currencySpec moneyFields "USD" [("EUR", 5/4)] twinT twinOut = true := by decide +kernel

/-! a cell whose evaluation date lies inside its first sub-period -/
def exU : Cell := { exY with ev := ⟨2020, 3, 31⟩ }

theorem exU_disagg : disaggregateExperience [exU] 6 exW none = .ok [] := by
  simp only [disaggregateExperience, periodResolution, triFields, sortStrings, disaggCore, disaggSlice, Triangle.slices,
    mergeSort_leOf, mergeSort_intLe, mergeSort_cellLe, ofCells_eq_insertionSort]
  decide +kernel

end Bermuda.Units.Example
