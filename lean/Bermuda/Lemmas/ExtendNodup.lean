/-
C15: the `nodup` clause — the result of the right-hand operators has each coordinate once — and, with it as the last
clause, `rightTriSpec_holds`: all clauses of `rightTriSpec` on the model's right triangle.
-/
import Bermuda.Lemmas.ExtendSpecDiag
namespace Bermuda.Extend

theorem rightDiagonalSlice_keys_nodup {dates : List Date} {hist : Bool} (hd : dates.Nodup) {s ys : List Cell}
    (h : rightDiagonalSlice dates hist s = .ok ys) : (ys.map ckey).Nodup := by
  obtain ⟨edge, hedge, rfl, _⟩ := rightDiagonalSlice_ok h
  have hrows := rightEdge_rows_nodup hedge
  rw [List.map_map]
  -- the pairs are pairwise different, and two of them with one coordinate are one: a right-edge cell is determined by its row
  refine List.Nodup.map_on (fun x hx y hy hxy => ?_) (nodup_flatMap_map_pair (List.Nodup.of_map _ hrows)
    fun _ _ => ((hd.sublist (diagDatesOf_sublist dates hist s)).filter _))
  obtain ⟨hk, hev⟩ := ckey_eq_iff.mp hxy
  exact Prod.ext (List.inj_on_of_nodup_map hrows (mem_diagPairs.mp hx).1 (mem_diagPairs.mp hy).1 hk) hev

theorem rightTriangleSlice_keys_nodup {cum : List Cell} {lags : Option (List Rat)} {u : LagUnit}
    (hinj : LagInj cum lags u) (hnd : ∀ l, lags = some l → l.Nodup)
    {p : Metadata × List Cell} (hp : p ∈ Triangle.slices cum) {ys : List Cell}
    (h : rightTriangleSlice lags u p.2 = .ok ys) : (ys.map ckey).Nodup := by
  obtain ⟨edge, hedge, h⟩ := rightTriangleSlice_ok h
  have hrows := rightEdge_rows_nodup hedge
  have hL : (lagListOf lags u p.2).Nodup := by
    cases lags with
    | some l => exact hnd l rfl
    | none => exact nodup_eraseDups _
  have hpairs : (rightPairs (lagListOf lags u p.2) u edge).Nodup :=
    nodup_flatMap_map_pair hL fun _ _ => (List.Nodup.of_map _ hrows).filter _
  rw [List.Nodup, List.pairwise_map]
  refine mapM_pairwise (f := rightCellOf u) ?_ _ _ (hpairs.imp_of_mem fun hx hy hne => And.intro hx (And.intro hy hne)) h
  -- two pairs whose cells share the coordinate: the same right-edge cell (by its row), then the same lag (`LagInj`)
  intro x y a b ⟨hx, hy, hne⟩ ha hb hkey
  obtain ⟨ev1, hev1, rfl, _⟩ := rightCellOf_ok.mp ha
  obtain ⟨ev2, hev2, rfl, _⟩ := rightCellOf_ok.mp hb
  obtain ⟨hrow, hev⟩ := ckey_eq_iff.mp hkey
  obtain ⟨hx1, hx2, hx3⟩ := mem_rightPairs.mp hx
  obtain ⟨hy1, hy2, hy3⟩ := mem_rightPairs.mp hy
  have hxy : x.2 = y.2 := List.inj_on_of_nodup_map hrows hx2 hy2 hrow
  rw [← hxy, ← (show ev1 = ev2 from hev)] at hev2
  rw [← hxy] at hy3
  exact hne (Prod.ext (hinj p hp x.2 (Triangle.rightEdge_latest hedge hx2).1 x.1 hx1 y.1 hy1 hx3 hy3 ev1 hev1 hev2) hxy)

theorem TailFacts.nodupCoords {t cum new out : List Cell} (hf : TailFacts t cum new out)
    (hk : (new.map ckey).Nodup) : Spec.C15.nodupCoords out = true := by
  apply nodupCoords_of_keys
  rw [(hf.outEq.map ckey).nodup_iff, List.map_map, show ckey ∘ tailCell t new = ckey from funext (ckey_tailCell t new)]
  exact hk

/-- the clause `nodup` of `rightDiagSpec` and `rightDiagHistSpec` -/
theorem DiagFacts.nodupClause {t cum new out : List Cell} {dates : List Date} {hist : Bool}
    (hf : DiagFacts t cum new out dates hist) :
    (!(Spec.C15.nodupList dates) || Spec.C15.nodupCoords out) = true := by
  cases hd : Spec.C15.nodupList dates with
  | false => rfl
  | true => simpa using hf.toTailFacts.nodupCoords ((edgeFn_rightDiagonalSlice dates hist).keys_nodup hf.newEq
      fun _ _ _ hys => rightDiagonalSlice_keys_nodup (nodupList_nodup dates hd) hys)

/-- ALL clauses of `rightTriSpec` hold of the model's right triangle, for any unit whose date arithmetic on the cumulative
form, beyond a cell's lag, keeps the order of lags (`hord`), is injective (`hinj`) and moves forward (`hmono`) -/
theorem rightTriSpec_holds {t cum new out : List Cell} {lags : Option (List Rat)} {u : LagUnit}
    (hf : TriFacts t cum new out lags u) (hu : u ≠ .timedelta) (hord : LagOrder cum u) (hinj : LagInj cum lags u)
    (hmono : Properties.C15.LagMonotone cum lags u) :
    Spec.C15.allHold (Spec.C15.rightTriSpec t lags u out) = true := by
  have hafter : ∀ c ∈ out, ∀ o ∈ t, rowKey o = rowKey c → o.ev < c.ev :=
    fun c hc o ho hk => hf.after hmono hc ho hk
  have h1 := spec_disjoint hafter
  have h2 := spec_afterLatest hf.outRows hafter
  have h3 := spec_rightTri_onGrid_u hf hord
  have h4 := spec_rightTri_complete_u hf hu
  obtain ⟨h5, h6, h7, h9⟩ := hf.toTailFacts.shared
  have h8 := spec_rightTri_emptyWhenComplete_u hf hord
  have hn : ((match (generalizing := false) lags with | some l => !(Spec.C15.nodupList l) | none => false) ||
      Spec.C15.nodupCoords out) = true := by
    refine Bool.or_eq_true_iff.mpr (Decidable.or_iff_not_imp_left.mpr fun hd => ?_)
    refine hf.toTailFacts.nodupCoords ((edgeFn_rightTriangleSlice lags u).keys_nodup hf.newEq fun _ hp _ hys =>
      rightTriangleSlice_keys_nodup hinj (fun l hl => nodupList_nodup l ?_) hp hys)
    subst hl
    simpa using hd
  refine allHold_iff.mpr ?_
  simp only [Spec.C15.rightTriSpec, List.mem_cons, List.not_mem_nil, or_false, forall_eq_or_imp, forall_eq]
  exact ⟨h1, h2, h3, h4, hn, h5, h6, h7, h8, h9⟩

/-! ### repeated requests: what makes a cell come twice -/

theorem dup_sublist_flatMap {α β : Type} (f : α → List β) {l : List α} {a : α} (ha : a ∈ l) {b : β}
    (h : List.Sublist [b, b] (f a)) : List.Sublist [b, b] (l.flatMap f) := by
  rw [List.flatMap_def]
  exact h.trans (List.sublist_flatten_of_mem (List.mem_map_of_mem ha))

theorem pair_sublist_flatMap {α β : Type} (f : α → List β) {l : List α} {a1 a2 : α}
    (h : List.Sublist [a1, a2] l) {b1 b2 : β} (h1 : b1 ∈ f a1) (h2 : b2 ∈ f a2) :
    List.Sublist [b1, b2] (l.flatMap f) := by
  have hs : List.Sublist ([a1, a2].flatMap f) (l.flatMap f) := h.flatMap f
  refine List.Sublist.trans ?_ hs
  simp only [List.flatMap_cons, List.flatMap_nil, List.append_nil]
  exact List.Sublist.append (List.singleton_sublist.mpr h1) (List.singleton_sublist.mpr h2)

end Bermuda.Extend
