/-
Concrete witnesses for the non-vacuity examples of `Properties/C01Ext.lean`: the triangles, the chains, and the
kernel evaluation of each chain. They are data and computations, not property statements, hence not in the
property file; they are declared in namespace `Properties.C01Ext`, where the examples name them.

The kernel cannot unfold `List.mergeSort` (well-founded recursion) on lists of two or more elements. A chain is
therefore unfolded down to its calls of `Triangle(...)`, the constructor's sort is replaced by the insertion sort
(`ofCells_eq_insertionSort` in `Lemmas/Sort.lean`), and the kernel evaluates the whole
chain at once (through `Codec.okIs`).
-/
import Bermuda.Model.AllOps3
import Bermuda.Properties.C01
namespace Bermuda.Properties.C01Ext
open Bermuda Bermuda.Properties.C01

/-! ### a concrete chain with six `Op2` operations

`coalesce` (one operand cell loses against an occupied coordinate, one is new), `add_statics`, `clip` on
the evaluation date, `to_incremental`, `to_cumulative` (round trip back to the clipped triangle), `merge`
(left join). -/

def exA : Metadata := { details := [("lob", .str "A")] }
def exB : Metadata := { details := [("lob", .str "B")], country := some "US" }

/-- a quarterly cumulative cell: quarter `q` of 2020, evaluated at the end of quarter `e` -/
def exCell (md : Metadata) (q e : Nat) (paid : Int) : Cell :=
  let qe (k : Nat) : Date := ⟨2020, 3 * k, if k == 2 || k == 3 then 30 else 31⟩
  { kind := .cumulative, ps := ⟨2020, 3 * q - 2, 1⟩, pe := qe q, ev := qe e,
    values := [("paid_loss", .int paid), ("earned_premium", .int 100)], md := md }

/-- two slices, ragged: 7 cells -/
def exT : List Cell :=
  [ exCell exA 1 1 10, exCell exA 1 2 20, exCell exA 1 3 25, exCell exA 2 2 7, exCell exA 2 3 9,
    exCell exB 1 1 1, exCell exB 1 2 2 ]

/-- `coalesce` operand: a cell at an occupied coordinate (loses) and a new one -/
def exOther : List Cell := [ exCell exA 1 1 999, exCell exB 2 2 3 ]
/-- `add_statics` source -/
def exSrc : List Cell := [ { exCell exA 1 4 0 with values := [("reported_loss", .int 40), ("earned_premium", .int 111)] } ]
/-- `merge` operand -/
def exO2 : List Cell := [ { exCell exB 2 2 0 with values := [("incurred_loss", .int 5)] } ]
def exD : Date := ⟨2020, 6, 30⟩

def exChain : List Op2 :=
  [ .coalesce [exOther], .addStatics exSrc ["reported_loss"],
    .clipFull { minEval := some exD, maxEval := some exD }, .toIncremental, .toCumulative,
    .merge (some .left) none exO2 ]

def exT1 : List Cell := exT ++ [exCell exB 2 2 3]
def exT2 : List Cell := exT1.map (addStaticsCell exSrc ["reported_loss"])
def exT3 : List Cell := (exT2.filter fun c => decide (exD ≤ c.ev)).filter (fun c => decide (c.ev ≤ exD))
def exT6 : List Cell := (joinCore .left exT3 exO2).filterMap mergeCellPair

theorem exT_canonical : Canonical exT := isCanonical_iff.mp (by decide +kernel)

theorem exChain_runs : run2 exT exChain = .ok exT6 := by
  simp only [exChain, run2, step2, coalesce, addStatics, Triangle.clipFull, Triangle.toIncremental,
    Triangle.toCumulative, merge, ofCells_eq_insertionSort]
  exact Codec.of_okIs (by decide +kernel)

section nonvacuity3
open Bermuda.Fn

def exAc : Metadata := { details := [("lob", .str "C")] }
def exBc : Metadata := { details := [("lob", .str "C")], country := some "US" }

def exLob : Ex :=
  .ite (.bin .eq (.month (.cattr .evaluationDate)) (.const (.int 3))) (.const (.str "C")) (.detail "lob")
def exBig : Ex := .bin .gt (.field "paid_loss") (.const (.int 5))
def exDouble : Ex := .bin .mul (.field "paid_loss") (.const (.int 2))
def exU : List Cell := [ exCell exB 2 2 3 ]

def exChain3 : List Op3 :=
  [ .deriveMetadataFn [("lob", exLob)], .filterFn exBig, .deriveFields [("double", exDouble)],
    .replaceFn [.periodEnd (.cattr .evaluationDate)], .union exU ]

/-- `map` of the first step, in the order of the input -/
def exL1 : List Cell :=
  [ { exCell exA 1 1 10 with md := exAc }, exCell exA 1 2 20, exCell exA 1 3 25, exCell exA 2 2 7, exCell exA 2 3 9,
    { exCell exB 1 1 1 with md := exBc }, exCell exB 1 2 2 ]
/-- the same cells as the constructor returns them -/
def exS1 : List Cell :=
  [ exCell exA 1 2 20, exCell exA 1 3 25, exCell exA 2 2 7, exCell exA 2 3 9, { exCell exA 1 1 10 with md := exAc },
    exCell exB 1 2 2, { exCell exB 1 1 1 with md := exBc } ]
def exS2 : List Cell := exS1.take 5
def exS3 : List Cell := exS2.map fun c =>
  { c with values := c.values ++ [("double", match c.values.get? "paid_loss" with | some (.int i) => .int (i * 2) | _ => .none)] }
def exS4 : List Cell := exS3.map fun c => { c with pe := c.ev }
def exS5 : List Cell := exS4 ++ exU

theorem exL1_not_sorted : ¬ exL1.Pairwise (fun a b => Cell.le a b) := by decide +kernel

theorem exL1_mapM : exT.mapM (deriveMetadataCell [("lob", exLob)]) = .ok exL1 := Codec.of_okIs (by decide +kernel)

theorem exChain3_runs : run3 exT exChain3 = .ok exS5 := by
  simp only [exChain3, run3, step3, Fn.deriveMetadata, exL1_mapM, Fn.filter, Fn.deriveFields, Fn.replace,
    Triangle.union, ofCells_eq_insertionSort]
  exact Codec.of_okIs (by decide +kernel)

end nonvacuity3

section nonvacuity4
open Bermuda.Fn

def exChain4 : List Op4 :=
  [ .getItemAny (.slice (some 1) (some 6) none), .base (.deriveFields [("double", exDouble)]), .base (.filterFn exBig) ]

def exG1 : List Cell := [ exCell exA 1 2 20, exCell exA 1 3 25, exCell exA 2 2 7, exCell exA 2 3 9, exCell exB 1 1 1 ]
def exG2 : List Cell := exG1.map fun c =>
  { c with values := c.values ++ [("double", match c.values.get? "paid_loss" with | some (.int i) => .int (i * 2) | _ => .none)] }
def exG3 : List Cell := exG2.take 4

theorem exChain4_runs : run4 exT exChain4 = .ok exG3 := by
  simp only [exChain4, run4, step4, step3, Triangle.getItemAny, pyGetSlice, triangleOnly, Fn.deriveFields, Fn.filter,
    ofCells_eq_insertionSort]
  exact Codec.of_okIs (by decide +kernel)

end nonvacuity4

end Bermuda.Properties.C01Ext
