/-
C14, rich matrix — the pieces of `triangle_to_rich_matrix`, each for any triangle the function accepts
(Lemmas/FrameRich.lean puts them together for a triangle on the index grid):
* the anti-diagonal of a cell whose period spans several index periods, and the exact `IndexError`
  condition (`richItem_spec`, `antiDiag_outside_iff`);
* the ids of `DisaggregatedValue` / `DisaggregatedPredictedValue`: one id per (cell, field) item whose
  period spans several index periods, numbered 0, 1, 2, … in program order, shared by all entries of that
  item (`itemsAssigns_spec`; `itemsAssigns_single` when no item spans);
* the `MissingValue`s: exactly one per position that is covered, inside the array and still `None` after the
  filling loop, numbered 0, 1, 2, … in the scan order slice, period, development, field
  (`mem_holes_iff`, `holes_sorted`, `missingAssigns_getElem`, `lastAssign_hole`), and what the array holds once
  they are written (`lastAssign_append_missing`).
-/
import Bermuda.Lemmas.FrameArray
import Bermuda.Model.FrameRich
namespace Bermuda.Frame
open Bermuda Bermuda.Spec.C14 Std

theorem mem_antiDiag {s e d : Nat} {p : Nat × Nat} :
    p ∈ antiDiag s e d ↔ ∃ i, i ≤ e - s ∧ s ≤ e ∧ p = (e - i, d + i) := by
  unfold antiDiag
  simp only [List.mem_map, List.mem_range]
  constructor
  · rintro ⟨i, hi, rfl⟩
    exact ⟨i, by omega, by omega, rfl⟩
  · rintro ⟨i, hi, hse, rfl⟩
    exact ⟨i, by omega, rfl⟩

theorem antiDiag_length (s e d : Nat) : (antiDiag s e d).length = e + 1 - s := by
  unfold antiDiag; simp

theorem antiDiag_self (j k : Nat) : antiDiag j j k = [(j, k)] := by
  unfold antiDiag
  rw [show j + 1 - j = 1 by omega]
  simp [List.range_succ]

/-- every entry of the anti-diagonal of `(s, e, d)` lies in periods `s … e`, one development step later
per period earlier -/
theorem antiDiag_range {s e d : Nat} {p : Nat × Nat} (hp : p ∈ antiDiag s e d) :
    s ≤ p.1 ∧ p.1 ≤ e ∧ p.1 + p.2 = e + d := by
  obtain ⟨i, hi, hse, rfl⟩ := mem_antiDiag.mp hp
  simp only
  omega

/-- **the `IndexError` condition**: some mark of the anti-diagonal falls outside an `nP × nD` array iff the
cell's last period index is outside, or its first period's development index `d + (e - s)` is -/
theorem antiDiag_outside_iff (s e d nP nD : Nat) :
    ((antiDiag s e d).any fun p => decide (p.1 ≥ nP) || decide (p.2 ≥ nD)) = true ↔
      s ≤ e ∧ (nP ≤ e ∨ nD ≤ d + (e - s)) := by
  rw [List.any_eq_true]
  constructor
  · rintro ⟨p, hp, hout⟩
    obtain ⟨i, hi, hse, rfl⟩ := mem_antiDiag.mp hp
    simp only [Bool.or_eq_true, decide_eq_true_eq] at hout
    refine ⟨hse, ?_⟩
    rcases hout with h | h
    · left; omega
    · right; omega
  · rintro ⟨hse, h | h⟩
    · exact ⟨(e, d), mem_antiDiag.mpr ⟨0, by omega, hse, by simp⟩, by simp; left; exact h⟩
    · refine ⟨(s, d + (e - s)), mem_antiDiag.mpr ⟨e - s, by omega, hse, ?_⟩, by simp; right; exact h⟩
      simp only [Prod.mk.injEq, and_true]
      omega

/-- **one field of one cell**, once the four index look-ups succeed: `IndexError` exactly under the
condition above, else the item with the resolved indices -/
theorem richItem_spec {ix : MatrixIndex} {fields : List String} {nP nD : Nat} {c : Cell} {kv : String × Val}
    {si fi s d e : Nat} (hf : fields.contains kv.1 = true)
    (hsi : indexOf? ix.slices c.md = some si) (hfi : indexOf? ix.fields kv.1 = some fi)
    (hs : ix.expNdx c.ps = .ok s) (hd : ix.devNdx (c.devLag .month) = .ok d) (he : ix.expNdx c.pe = .ok e) :
    richItem ix fields nP nD c kv =
      if s ≤ e ∧ (nP ≤ e ∨ nD ≤ d + (e - s)) then .error .indexError
      else .ok (some { si := si, fi := fi, s := s, e := e, d := d, pv := richValue kv.2 }) := by
  unfold richItem
  simp only [hf, Bool.not_true, Bool.false_eq_true, if_false, hsi, hfi, hs, hd, he, Except.bind]
  by_cases hout : s ≤ e ∧ (nP ≤ e ∨ nD ≤ d + (e - s))
  · rw [if_pos hout, if_pos ((antiDiag_outside_iff s e d nP nD).mpr hout)]
  · rw [if_neg hout]
    have : ¬ ((antiDiag s e d).any fun p => decide (p.1 ≥ nP) || decide (p.2 ≥ nD)) = true :=
      fun h => hout ((antiDiag_outside_iff s e d nP nD).mp h)
    rw [if_neg this]

/-- a field outside `fields` is skipped -/
theorem richItem_skipped {ix : MatrixIndex} {fields : List String} {nP nD : Nat} {c : Cell} {kv : String × Val}
    (hf : fields.contains kv.1 = false) : richItem ix fields nP nD c kv = .ok none := by
  unfold richItem
  simp only [hf, Bool.not_false, if_true]

theorem back_richPlain : ∀ v : Val, RVal.back? (richPlain (richValue v)) = backVal v
  | .none => rfl | .int _ => rfl | .flt _ => rfl
  | .arr _ _ [] => rfl | .arr _ _ [_] => rfl | .arr _ _ (_ :: _ :: _) => rfl

/-- is the item disaggregated (its period spans several index periods)? -/
def RichItem.spans (it : RichItem) : Bool := !(it.s == it.e)

/-- `next_disagg_id` before each item: the number of spanning items before it (from `id`) -/
def disaggIds : List RichItem → Nat → List Nat
  | [], _ => []
  | it :: rest, id => id :: disaggIds rest (if it.s == it.e then id else id + 1)

theorem disaggIds_length : ∀ (its : List RichItem) (id : Nat), (disaggIds its id).length = its.length
  | [], _ => rfl
  | it :: rest, id => by simp [disaggIds, disaggIds_length rest]

/-- **the ids are the running count of spanning items** -/
theorem disaggIds_getElem : ∀ (its : List RichItem) (id n : Nat) (h : n < (disaggIds its id).length),
    (disaggIds its id)[n] = id + ((its.take n).filter RichItem.spans).length
  | it :: rest, id, 0, _ => by simp [disaggIds]
  | it :: rest, id, n + 1, h => by
    simp only [disaggIds, List.getElem_cons_succ, List.take_succ_cons, List.filter_cons]
    rw [disaggIds_getElem rest _ n (by simpa [disaggIds] using h)]
    by_cases hse : (it.s == it.e) = true
    · simp [RichItem.spans, hse]
    · simp only [Bool.not_eq_true] at hse
      simp [RichItem.spans, hse]
      omega

/-- **the filling loop**: every item writes its own assignments with the id it found -/
theorem itemsAssigns_spec : ∀ (its : List RichItem) (id : Nat),
    itemsAssigns its id = ((its.zip (disaggIds its id)).map fun p => itemAssigns p.1 p.2).flatten
  | [], _ => rfl
  | it :: rest, id => by
    simp only [itemsAssigns, disaggIds, List.zip_cons_cons, List.map_cons, List.flatten_cons]
    rw [itemsAssigns_spec rest]

/-- a single-step item writes ONE entry: the value itself (or `None`) -/
theorem itemAssigns_single {it : RichItem} (h : it.spans = false) (id : Nat) :
    itemAssigns it id = [((it.si, it.fi, it.s, it.d), richPlain it.pv)] := by
  unfold RichItem.spans at h
  have : (it.s == it.e) = true := by simpa using h
  unfold itemAssigns
  rw [if_pos this]

def plainAssign (it : RichItem) : Pos × Option RVal := ((it.si, it.fi, it.s, it.d), richPlain it.pv)

theorem itemsAssigns_single : ∀ (its : List RichItem) (id : Nat), (∀ it ∈ its, it.s = it.e) →
    itemsAssigns its id = its.map plainAssign
  | [], _, _ => rfl
  | it :: rest, id, h => by
    have hb : (it.s == it.e) = true := by rw [h it List.mem_cons_self]; exact beq_self_eq_true _
    unfold itemsAssigns
    rw [itemsAssigns_single rest _ (fun x hx => h x (List.mem_cons_of_mem _ hx))]
    simp only [itemAssigns, hb, if_true, List.map_cons, plainAssign]
    rfl

/-- a spanning item writes its anti-diagonal, every entry the SAME disaggregated value with the item's id:
`DisaggregatedPredictedValue(id, array)` for a sample array, `DisaggregatedValue(id, value)` otherwise
(also for `None`) -/
theorem itemAssigns_spans {it : RichItem} (h : it.spans = true) (id : Nat) :
    itemAssigns it id = (antiDiag it.s it.e it.d).map fun p =>
      ((it.si, it.fi, p.1, p.2),
       some (if it.pv.1 then RVal.disaggPred id it.pv.2 else RVal.disagg id it.pv.2)) := by
  unfold RichItem.spans at h
  have : ¬ (it.s == it.e) = true := by simpa using h
  unfold itemAssigns
  rw [if_neg this]

/-- the entries an item writes all carry its id (or are plain) -/
theorem itemAssigns_ids {it : RichItem} {id : Nat} {e : Pos × Option RVal} (he : e ∈ itemAssigns it id) :
    (it.spans = false ∧ e.2 = richPlain it.pv) ∨
    (it.spans = true ∧ (e.2 = some (.disagg id it.pv.2) ∨ e.2 = some (.disaggPred id it.pv.2))) := by
  cases hsp : it.spans with
  | false =>
    rw [itemAssigns_single hsp] at he
    left
    simp only [List.mem_singleton] at he
    exact ⟨rfl, by rw [he]⟩
  | true =>
    rw [itemAssigns_spans hsp] at he
    right
    obtain ⟨p, _, rfl⟩ := List.mem_map.mp he
    refine ⟨rfl, ?_⟩
    cases it.pv.1 <;> simp

/-- **which positions get a `MissingValue`**: inside the array, covered by some cell, still `None` -/
theorem mem_holes_iff {nS nF nP nD : Nat} {cov : List (Nat × Nat × Nat)} {as : List (Pos × Option RVal)} {p : Pos} :
    p ∈ holes nS nF nP nD cov as ↔
      p.1 < nS ∧ p.2.1 < nF ∧ p.2.2.1 < nP ∧ p.2.2.2 < nD ∧ (p.1, p.2.2.1, p.2.2.2) ∈ cov ∧
        lastAssign as p = none := by
  unfold holes
  simp only [List.mem_flatMap, List.mem_range]
  constructor
  · rintro ⟨i, hi, j, hj, k, hk, hp⟩
    split at hp
    · rename_i hc
      obtain ⟨f, hf, hpf⟩ := List.mem_filterMap.mp hp
      split at hpf
      · rename_i hnone
        cases hpf
        exact ⟨hi, List.mem_range.mp hf, hj, hk, by simpa using hc, Option.isNone_iff_eq_none.mp hnone⟩
      · cases hpf
    · cases hp
  · rintro ⟨h1, h2, h3, h4, h5, h6⟩
    obtain ⟨i, f, j, k⟩ := p
    refine ⟨i, h1, j, h3, k, h4, ?_⟩
    rw [if_pos (by simpa using h5)]
    exact List.mem_filterMap.mpr ⟨f, List.mem_range.mpr h2, by rw [h6]; rfl⟩

/-- the scan order of the missing-value loop: slice, period, development, field -/
def scanLt (p q : Pos) : Prop :=
  p.1 < q.1 ∨ (p.1 = q.1 ∧ (p.2.2.1 < q.2.2.1 ∨ (p.2.2.1 = q.2.2.1 ∧
    (p.2.2.2 < q.2.2.2 ∨ (p.2.2.2 = q.2.2.2 ∧ p.2.1 < q.2.1)))))

/-- **the scan order**: the holes come out sorted by slice, period, development, field (hence without
repetition) -/
theorem holes_sorted (nS nF nP nD : Nat) (cov : List (Nat × Nat × Nat)) (as : List (Pos × Option RVal)) :
    (holes nS nF nP nD cov as).Pairwise scanLt := by
  have inner : ∀ {i j k : Nat} {p : Pos},
      p ∈ (if cov.contains (i, j, k) then
          (List.range nF).filterMap fun f => if (lastAssign as (i, f, j, k)).isNone then some (i, f, j, k) else none
        else []) → p.1 = i ∧ p.2.2.1 = j ∧ p.2.2.2 = k := by
    intro i j k p hp
    split at hp
    · obtain ⟨f, _, hpf⟩ := List.mem_filterMap.mp hp
      split at hpf <;> cases hpf
      exact ⟨rfl, rfl, rfl⟩
    · cases hp
  unfold holes
  -- the scan order is the lexicographic order of the four nested loops
  refine pairwise_flatMap_lex (·.1) List.pairwise_lt_range (fun i _ p hp => ?_) fun i _ =>
    pairwise_flatMap_lex (·.2.2.1) List.pairwise_lt_range (fun j _ p hp => ?_) fun j _ =>
      pairwise_flatMap_lex (·.2.2.2) List.pairwise_lt_range (fun k _ p hp => (inner hp).2.2) fun k _ => ?_
  · obtain ⟨j, _, hp⟩ := List.mem_flatMap.mp hp
    obtain ⟨k, _, hp⟩ := List.mem_flatMap.mp hp
    exact (inner hp).1
  · obtain ⟨k, _, hp⟩ := List.mem_flatMap.mp hp
    exact (inner hp).2.1
  · split
    · rw [List.pairwise_filterMap]
      refine (List.pairwise_lt_range (n := nF)).imp fun hff p hp q hq => ?_
      split at hp <;> cases hp
      split at hq <;> cases hq
      exact hff
    · exact List.Pairwise.nil

theorem scanLt_irrefl (p : Pos) : ¬ scanLt p p := by
  unfold scanLt
  omega

theorem holes_nodup (nS nF nP nD : Nat) (cov : List (Nat × Nat × Nat)) (as : List (Pos × Option RVal)) :
    (holes nS nF nP nD cov as).Nodup := by
  refine (holes_sorted nS nF nP nD cov as).imp ?_
  intro a b hab he
  subst he
  exact scanLt_irrefl a hab

/-- **the ids**: the `n`-th hole (scan order) gets `MissingValue(n)` -/
theorem missingAssigns_getElem (hs : List Pos) (n : Nat) (h : n < hs.length) :
    (missingAssigns hs)[n]'(by simp [missingAssigns, h]) = (hs[n], some (RVal.missing n)) := by
  unfold missingAssigns
  simp

theorem missingAssigns_length (hs : List Pos) : (missingAssigns hs).length = hs.length := by
  simp [missingAssigns]

theorem lastAssign_eq (as : List (Pos × Option RVal)) (p : Pos) :
    lastAssign as p = ((as.reverse.find? (·.1 == p)).map (·.2)).bind id := by
  unfold lastAssign
  cases as.reverse.find? (·.1 == p) <;> rfl

theorem lastAssign_append (A B : List (Pos × Option RVal)) (p : Pos) :
    lastAssign (A ++ B) p = match B.reverse.find? (·.1 == p) with
      | some e => e.2
      | none => lastAssign A p := by
  unfold lastAssign
  rw [List.reverse_append, List.find?_append]
  cases B.reverse.find? (·.1 == p) <;> rfl

/-- what the array holds at the `n`-th hole in the end: `MissingValue(n)` -/
theorem lastAssign_hole {A : List (Pos × Option RVal)} {hs : List Pos} (hnd : hs.Nodup) (n : Nat) (h : n < hs.length) :
    lastAssign (A ++ missingAssigns hs) hs[n] = some (RVal.missing n) := by
  rw [lastAssign_append]
  have hmem : (hs[n], some (RVal.missing n)) ∈ (missingAssigns hs).reverse := by
    rw [List.mem_reverse, ← missingAssigns_getElem hs n h]
    exact List.getElem_mem _
  cases hfind : (missingAssigns hs).reverse.find? (·.1 == hs[n]) with
  | none =>
    exfalso
    have := List.find?_eq_none.mp hfind _ hmem
    simp at this
  | some e =>
    have hm := List.mem_reverse.mp (List.mem_of_find?_eq_some hfind)
    have hk : e.1 = hs[n] := by simpa using List.find?_some hfind
    obtain ⟨m, hm', rfl⟩ := List.getElem_of_mem hm
    have hmlt : m < hs.length := by simpa [missingAssigns_length] using hm'
    rw [missingAssigns_getElem hs m hmlt] at hk ⊢
    simp only at hk
    have : m = n := (List.Nodup.getElem_inj_iff hnd).mp hk
    subst this
    simp

theorem lastAssign_append_missing {A : List (Pos × Option RVal)} {hs : List Pos}
    (hhs : ∀ p ∈ hs, lastAssign A p = none) (p : Pos) :
    lastAssign (A ++ missingAssigns hs) p = lastAssign A p ∨
      (lastAssign A p = none ∧ ∃ id, lastAssign (A ++ missingAssigns hs) p = some (.missing id)) := by
  rw [lastAssign_append]
  cases hfind : (missingAssigns hs).reverse.find? (·.1 == p) with
  | none => left; simp
  | some e =>
    right
    have hm := List.mem_reverse.mp (List.mem_of_find?_eq_some hfind)
    have hk : e.1 = p := by simpa using List.find?_some hfind
    unfold missingAssigns at hm
    obtain ⟨z, hz, rfl⟩ := List.mem_map.mp hm
    have := hhs z.1 (List.of_mem_zip hz).1
    simp only at hk
    rw [hk] at this
    exact ⟨this, z.2, by simp⟩

theorem back_append_missing {A : List (Pos × Option RVal)} {hs : List Pos}
    (hhs : ∀ p ∈ hs, lastAssign A p = none) (p : Pos) :
    RVal.back? (lastAssign (A ++ missingAssigns hs) p) = RVal.back? (lastAssign A p) := by
  rcases lastAssign_append_missing hhs p with h1 | ⟨h1, id, h2⟩
  · rw [h1]
  · rw [h1, h2]; rfl

end Bermuda.Frame
