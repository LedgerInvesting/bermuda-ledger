/-
What the three kinds of aggregation rule compute on lists of cell values, sample by sample: `_conforming_sum` is the
sum (`SumOf`: samples, range and Python kind in one statement), `_conforming_weighted_average` the weighted average
with the weights of ALL cells in the denominator, the `log_industry_lr` closure the log of the weighted average of
exp for any `Transc`; each through the same chain numpy operation → step → fold → closure. Core Lean only.
-/
import Bermuda.Model.Summarize
import Bermuda.Lemmas.ExceptFacts
import Bermuda.Lemmas.ListFacts
namespace Bermuda

/-! ### sums: `_conforming_sum` -/

/-- Python kind of the number(s): `int` / int64 array (`None` counts as integral: it adds nothing) -/
def Val.isIntKind : Val → Bool
  | .flt _ => false
  | .arr b _ _ => b
  | _ => true

def Val.isArr : Val → Bool
  | .arr _ _ _ => true
  | _ => false

/-- `r` is the sample-wise sum of the values `vs` (scalars broadcast, `None` counts 0): which samples it has, what
they are, and its Python kind -/
structure SumOf (r : Val) (vs : List Val) : Prop where
  range : ∀ i, r.inRange i = vs.all (·.inRange i)
  sample : ∀ i, (∀ v ∈ vs, v.inRange i = true) → r.at i = (vs.map (·.at i)).sum
  int : r.isIntKind = vs.all Val.isIntKind
  arr : r.isArr = vs.any Val.isArr

/-- the fields for two addends in binary form: the eleven cases of `nAdd` are checked against `a && b`, which `simp`
decides at a fraction of the cost of `[a, b].all _` -/
theorem SumOf.pair {a b r : Val} (hr : ∀ i, r.inRange i = (a.inRange i && b.inRange i))
    (hs : ∀ i, a.inRange i = true → b.inRange i = true → r.at i = a.at i + b.at i)
    (hk : r.isIntKind = (a.isIntKind && b.isIntKind)) (ha : r.isArr = (a.isArr || b.isArr)) : SumOf r [a, b] :=
  ⟨fun i => by rw [hr]; simp, fun i hi => by rw [hs i (hi a (by simp)) (hi b (by simp))]; simp [Rat.add_zero],
    by rw [hk]; simp, by rw [ha]; simp⟩

theorem nAdd_sum {a b r : Val} (h : Val.nAdd a b = .ok r) : SumOf r [a, b] := by
  cases a <;> cases b <;> simp only [Val.nAdd] at h
  case arr.arr i1 s1 d1 i2 s2 d2 =>
    split at h
    · cases h
      refine .pair (fun i => ?_) (fun i ha hb => ?_) rfl rfl
      · rw [Bool.eq_iff_iff]
        simp only [Val.inRange, List.length_zipWith, Bool.and_eq_true, decide_eq_true_eq]
        omega
      · simp only [Val.inRange, decide_eq_true_eq] at ha hb
        exact getD_zipWith_of_lt _ _ _ _ ha hb
    · cases h
  all_goals first
    | (cases h; done)
    | (cases h
       refine .pair (fun i => ?_) (fun i ha hb => ?_) ?_ ?_
       · simp only [Val.inRange, List.length_map, Bool.and_true, Bool.true_and]
       · simp only [Val.inRange, decide_eq_true_eq] at ha hb
         simp [Val.at, ha, hb, Rat.intCast_add, Rat.add_comm]
       · simp only [Val.isIntKind, Bool.and_true, Bool.true_and, Bool.false_and, Bool.and_false]
       · simp only [Val.isArr, Bool.or_false, Bool.or_true])

theorem SumOf.pair_at {a b r : Val} (h : SumOf r [a, b]) {i : Nat} (ha : a.inRange i = true)
    (hb : b.inRange i = true) : r.at i = a.at i + b.at i ∧ r.inRange i = true :=
  ⟨by rw [h.sample i (by simp [ha, hb])]; simp [Rat.add_zero], by rw [h.range]; simp [ha, hb]⟩

theorem iAdd_sum {a b r : Val} (h : Val.iAdd a b = .ok r) : SumOf r [a, b] := by
  unfold Val.iAdd at h
  split at h
  · cases h
  · rename_i r' hr
    split at h
    · cases h
    · cases h; exact nAdd_sum hr

theorem sumStep_sum {t v r : Val} (h : sumStep t v = .ok r) : SumOf r [t, v] := by
  unfold sumStep at h
  split at h
  · rename_i hn
    cases h
    cases v with
    | none =>
      exact .pair (fun i => (Bool.and_true _).symm) (fun i _ _ => (Rat.add_zero _).symm) (Bool.and_true _).symm
        (Bool.or_false _).symm
    | _ => cases hn
  · split at h
    · cases h
    · exact iAdd_sum h

theorem SumOf.cons {t t' v r : Val} {vs : List Val} (h1 : SumOf t' [t, v]) (h2 : SumOf r (t' :: vs)) :
    SumOf r (t :: v :: vs) where
  range i := by rw [h2.range, List.all_cons, h1.range]; simp [Bool.and_assoc]
  sample i hi := by
    have ht := h1.pair_at (hi t (by simp)) (hi v (by simp))
    rw [h2.sample i (by
      intro x hx
      rcases List.mem_cons.mp hx with rfl | hx
      · exact ht.2
      · exact hi x (by simp [hx])), List.map_cons, List.sum_cons, ht.1]
    simp [Rat.add_assoc]
  int := by rw [h2.int, List.all_cons, h1.int]; simp [Bool.and_assoc]
  arr := by rw [h2.arr, List.any_cons, h1.arr]; simp [Bool.or_assoc]

theorem smFoldE_sum {step : Val → Val → Except Err Val} (hstep : ∀ {t v r}, step t v = .ok r → SumOf r [t, v])
    {vs : List Val} {t r : Val} (h : smFoldE step t vs = .ok r) : SumOf r (t :: vs) := by
  induction vs generalizing t with
  | nil =>
    simp only [smFoldE] at h
    cases h
    exact ⟨fun i => by simp, fun i _ => by simp [Rat.add_zero], by simp, by simp⟩
  | cons v vs ih =>
    obtain ⟨t', ht', h⟩ := smFoldE_cons_ok h
    exact (hstep ht').cons (ih h)

/-- the `0` a Python sum starts from adds nothing -/
theorem SumOf.of_zero {r : Val} {vs : List Val} (h : SumOf r (.int 0 :: vs)) : SumOf r vs :=
  ⟨h.range, fun i hi => (h.sample i (List.forall_mem_cons.mpr ⟨rfl, hi⟩)).trans (Rat.zero_add _), h.int, h.arr⟩

theorem SumOf.perm {r : Val} {vs vs' : List Val} (h : SumOf r vs) (hp : vs.Perm vs') : SumOf r vs' :=
  ⟨fun i => (h.range i).trans hp.all_eq, fun i hi =>
    (h.sample i fun v hv => hi v (hp.mem_iff.mp hv)).trans (sum_perm (hp.map _)), h.int.trans hp.all_eq,
    h.arr.trans hp.any_eq⟩

theorem conformingSum_sum {vs : List Val} {r : Val} (h : conformingSum vs = .ok r) : SumOf r vs :=
  (smFoldE_sum sumStep_sum h).of_zero

/-! ### weighted averages: `_conforming_weighted_average` -/

theorem at_of_isNone {v : Val} (h : v.isNone = true) (i : Nat) : v.at i = 0 := by
  cases v <;> simp_all [Val.isNone, Val.at]

theorem smFoldE_at {α} {step : Val → α → Except Err Val} {w : α → Rat} {ok : α → Prop} {i : Nat}
    (hstep : ∀ {t x r}, step t x = .ok r → t.inRange i = true → ok x →
      r.at i = t.at i + w x ∧ r.inRange i = true)
    {xs : List α} {t r : Val} (h : smFoldE step t xs = .ok r) (ht : t.inRange i = true)
    (hx : ∀ x ∈ xs, ok x) : r.at i = t.at i + (xs.map w).sum ∧ r.inRange i = true := by
  induction xs generalizing t with
  | nil => simp only [smFoldE] at h; cases h; simp [ht, Rat.add_zero]
  | cons x rest ih =>
    obtain ⟨t', ht', h⟩ := smFoldE_cons_ok h
    have h1 := hstep ht' ht (hx x (by simp))
    have h2 := ih h h1.2 (fun y hy => hx y (by simp [hy]))
    exact ⟨by rw [h2.1, h1.1, List.map_cons, List.sum_cons, Rat.add_assoc], h2.2⟩


theorem nMul_at {a b r : Val} {i : Nat} (h : Val.nMul a b = .ok r)
    (ha : a.inRange i = true) (hb : b.inRange i = true) :
    r.at i = a.at i * b.at i ∧ r.inRange i = true := by
  -- two arrays first; of the other cases a `None` operand is an error, the rest close by `simp`
  cases a <;> cases b <;> simp only [Val.nMul] at h
  case arr.arr i1 s1 d1 i2 s2 d2 =>
    split at h
    · cases h
      simp only [Val.inRange, decide_eq_true_eq] at ha hb
      simp only [Val.at, Val.inRange, getD_zipWith_of_lt _ _ _ _ ha hb, List.length_zipWith,
        decide_eq_true_eq]
      exact ⟨trivial, by omega⟩
    · cases h
  all_goals first
    | (cases h; done)
    | (cases h
       simp only [Val.inRange, decide_eq_true_eq] at ha hb
       simp [Val.at, Val.inRange, ha, hb, Rat.intCast_mul, Rat.mul_comm])

theorem getD_ne_zero {d : List Rat} {i : Nat} (hz : ¬ (d.any fun x => x == 0) = true) (hi : i < d.length) :
    d.getD i 0 ≠ 0 := by
  intro h0
  apply hz
  rw [List.any_eq_true]
  refine ⟨d[i], List.getElem_mem hi, ?_⟩
  rw [List.getD_eq_getElem?_getD, List.getElem?_eq_getElem hi] at h0
  simpa using h0

theorem nDiv_at {a b r : Val} {i : Nat} (h : Val.nDiv a b = .ok r)
    (ha : a.inRange i = true) (hb : b.inRange i = true) :
    r.at i = a.at i / b.at i ∧ b.at i ≠ 0 ∧ r.inRange i = true := by
  cases a <;> cases b <;> simp only [Val.nDiv] at h
  -- a `None` operand is an error; a scalar divisor closes by `simp_all`; the three array divisors are left for the
  -- cases below
  all_goals first
    | (cases h; done)
    | (split at h
       · cases h
       · rename_i hz
         cases h
         simp only [Val.inRange, decide_eq_true_eq] at ha hb
         simp_all [Val.at, Val.inRange])
    | skip
  case int.arr x b s d | flt.arr x b s d =>
    split at h
    · cases h
    · rename_i hz
      cases h
      simp only [Val.inRange, decide_eq_true_eq] at hb
      exact ⟨by simp only [Val.at]; rw [getD_map_of_lt _ _ _ hb], getD_ne_zero hz hb, by simpa [Val.inRange] using hb⟩
  case arr.arr b1 s1 d1 b2 s2 d2 =>
    split at h
    · split at h
      · cases h
      · rename_i hz
        cases h
        simp only [Val.inRange, decide_eq_true_eq] at ha hb
        exact ⟨by simp only [Val.at]; rw [getD_zipWith_of_lt _ _ _ _ ha hb], getD_ne_zero hz hb,
          by simp only [Val.inRange, List.length_zipWith, decide_eq_true_eq]; omega⟩
    · cases h


theorem wavgStep_at {t r : Val} {vw : Val × Val} {i : Nat} (h : wavgStep t vw = .ok r)
    (ht : t.inRange i = true) (hv : vw.1.inRange i = true) (hw : vw.2.inRange i = true) :
    r.at i = t.at i + vw.1.at i * vw.2.at i ∧ r.inRange i = true := by
  unfold wavgStep at h
  split at h
  · rename_i hn
    cases h
    rw [at_of_isNone hn]
    exact ⟨by simp [Rat.zero_mul, Rat.add_zero], ht⟩
  · split at h
    · cases h
    · split at h
      · cases h
      · rename_i p hp
        have h1 := nMul_at hp hv hw
        have h2 := (iAdd_sum h).pair_at ht h1.2
        exact ⟨by rw [h2.1, h1.1], h2.2⟩

theorem sum_filter_none (ws : List Val) (i : Nat) :
    ((ws.filter fun w => !w.isNone).map (·.at i)).sum = (ws.map (·.at i)).sum := by
  induction ws with
  | nil => rfl
  | cons w ws ih =>
    rw [List.filter_cons]
    cases hn : w.isNone with
    | true => simp [ih, at_of_isNone hn, Rat.zero_add]
    | false => simp [ih]

theorem sumWeights_at {ws : List Val} {r : Val} {i : Nat} (h : sumWeights ws = .ok r)
    (hv : ∀ w ∈ ws, w.inRange i = true) :
    r.at i = (ws.map (·.at i)).sum ∧ r.inRange i = true := by
  have s := (smFoldE_sum nAdd_sum h).of_zero
  have hv' : ∀ w ∈ ws.filter (fun w => !w.isNone), w.inRange i = true := fun w hw => hv w (List.mem_filter.mp hw).1
  exact ⟨by rw [s.sample i hv', sum_filter_none], by rw [s.range]; exact List.all_eq_true.mpr hv'⟩

/-- **`_conforming_weighted_average` is the weighted average**: result × Σ weights = Σ value × weight, sample by
sample, where the weights in the denominator are those of ALL cells (a missing value counts 0 in the numerator
only), and the denominator is not zero -/
theorem conformingWavg_at {vs ws : List Val} {r : Val} {i : Nat} (h : conformingWavg vs ws = .ok r)
    (hv : ∀ v ∈ vs, v.inRange i = true) (hw : ∀ w ∈ ws, w.inRange i = true) :
    r.at i * (ws.map (·.at i)).sum = ((vs.zip ws).map fun p => p.1.at i * p.2.at i).sum ∧
    (ws.map (·.at i)).sum ≠ 0 ∧ r.inRange i = true := by
  unfold conformingWavg at h
  split at h
  · cases h
  · rename_i total htot
    split at h
    · cases h
    · rename_i sw hsw
      have h1 := smFoldE_at (w := fun p : Val × Val => p.1.at i * p.2.at i)
        (ok := fun p => p.1.inRange i = true ∧ p.2.inRange i = true)
        (fun h ht hp => wavgStep_at h ht hp.1 hp.2) htot (by simp [Val.inRange])
        (fun p hp => ⟨hv p.1 (List.of_mem_zip hp).1, hw p.2 (List.of_mem_zip hp).2⟩)
      have h2 := sumWeights_at (i := i) hsw hw
      have h3 := nDiv_at h h1.2 h2.2
      rw [h2.1] at h3
      refine ⟨?_, h3.2⟩
      rw [h3.1, h1.1, Rat.div_mul_cancel h3.2.1]
      simp [Val.at, Rat.zero_add]


/-! ### `log_industry_lr`: log of the weighted average of exp, for every `Transc` -/

theorem mapF_at {f : Rat → Rat} {v r : Val} {i : Nat} (h : Val.mapF f v = .ok r)
    (hv : v.inRange i = true) : r.at i = f (v.at i) ∧ r.inRange i = true := by
  cases v <;> simp only [Val.mapF] at h
  · cases h
  · cases h; simp [Val.at, Val.inRange]
  · cases h; simp [Val.at, Val.inRange]
  · cases h
    simp only [Val.inRange, decide_eq_true_eq] at hv
    simp only [Val.at, Val.inRange, List.length_map, decide_eq_true_eq]
    exact ⟨getD_map_of_lt _ _ _ hv, hv⟩

/-- a successful `np.exp(list)` is the elementwise `exp` of every entry -/
theorem expList_ok {tr : Transc} {vs es : List Val} (h : expList tr vs = .ok es) :
    smMapE (Val.mapF tr.exp) vs = .ok es ∧ ∀ v ∈ vs, v.isNone = false := by
  unfold expList at h
  split at h
  · cases h
  · rename_i hn
    refine ⟨?_, by simpa using hn⟩
    split at h
    · exact h
    · split at h
      · cases h; rfl
      · split at h
        · exact h
        · cases h

theorem smMapE_mapF_zip {f : Rat → Rat} {vs es : List Val} (ws : List Val) {i : Nat}
    (h : smMapE (Val.mapF f) vs = .ok es) (hv : ∀ v ∈ vs, v.inRange i = true) :
    ((es.zip ws).map fun p => p.1.at i * p.2.at i) = ((vs.zip ws).map fun p => f (p.1.at i) * p.2.at i) ∧
    ∀ e ∈ es, e.inRange i = true := by
  rw [smMapE_eq_mapM] at h
  induction vs generalizing es ws with
  | nil => simp only [List.mapM_nil] at h; cases h; simp
  | cons v vs ih =>
    obtain ⟨b, bs, hb, hbs, rfl⟩ := mapM_cons_ok_iff.mp h
    have h1 := mapF_at hb (hv v (by simp))
    cases ws with
    | nil =>
      refine ⟨by simp, ?_⟩
      intro e he
      rcases List.mem_cons.mp he with rfl | he
      · exact h1.2
      · exact (ih [] hbs (fun x hx => hv x (by simp [hx]))).2 e he
    | cons w ws =>
      have h2 := ih ws hbs (fun x hx => hv x (by simp [hx]))
      refine ⟨by simp [h1.1, h2.1], ?_⟩
      intro e he
      rcases List.mem_cons.mp he with rfl | he
      · exact h1.2
      · exact h2.2 e he

/-- **`log(weighted average of exp)`**: the `wavglog` closure -/
theorem wavglog_at {tr : Transc} {vs ws es : List Val} {a r : Val} {i : Nat}
    (he : expList tr vs = .ok es) (ha : conformingWavg es ws = .ok a) (hr : Val.mapF tr.log a = .ok r)
    (hv : ∀ v ∈ vs, v.inRange i = true) (hw : ∀ w ∈ ws, w.inRange i = true) :
    r.at i = tr.log (((vs.zip ws).map fun p => tr.exp (p.1.at i) * p.2.at i).sum / (ws.map (·.at i)).sum) ∧
    (ws.map (·.at i)).sum ≠ 0 ∧ r.inRange i = true := by
  have h1 := smMapE_mapF_zip ws (i := i) (expList_ok he).1 hv
  have h2 := conformingWavg_at (i := i) ha h1.2 hw
  have h4 := mapF_at hr h2.2.2
  refine ⟨?_, h2.2.1, h4.2⟩
  rw [h4.1, ← h1.1, ← h2.1, Rat.mul_div_cancel h2.2.1]

end Bermuda
