/-
Lemmas about the maximum-entropy quantile construction (`Model/ResampleME.lean`), over ℚ.

The sorted series `x₀ ≤ … ≤ x_{n-1}` and the outer ends `lo`, `hi` give interval ends `z₀ = lo`,
`z_i = (x_{i-1} + x_i)/2`, `z_n = hi`; every fact below comes from `x_{i-1} ≤ z_i ≤ x_i` (`zAt_between`) and
from the three closed forms of the shifted interval `[y0, y1]` (first / interior / last: `y_first`, `y_mid`, `y_last`).
-/
import Bermuda.Model.ResampleME
import Bermuda.Lemmas.Resample
import Mathlib.Tactic.Linarith
import Mathlib.Tactic.Ring
namespace Bermuda.Resample

/-- ascending, read with `getD` (what `sortQ` delivers) -/
def SortedD (sx : List Rat) : Prop := ∀ a b, a ≤ b → b < sx.length → sx.getD a 0 ≤ sx.getD b 0

theorem sortedD_sortQ (xs : List Rat) : SortedD (sortQ xs) := fun _ _ hab hb => sortQ_mono xs hab hb

/-! ### the index of a draw -/

theorem antitone_down {p : Nat → Bool} (hp : ∀ i, p (i + 1) = true → p i = true) {m : Nat}
    (hm : p m = true) : ∀ i, i ≤ m → p i = true := by
  induction m with
  | zero => intro i hi; rwa [Nat.le_zero.mp hi]
  | succ m ih =>
    intro i hi
    rcases Nat.lt_or_eq_of_le hi with h | rfl
    · exact ih (hp m hm) i (Nat.le_of_lt_succ h)
    · exact hm

/-- why `searchsorted(…, "right")` on an ascending grid is a count -/
theorem countP_range_antitone (p : Nat → Bool) (hp : ∀ i, p (i + 1) = true → p i = true) :
    ∀ m i, i < m → (p i = true ↔ i < (List.range m).countP p) := by
  intro m
  induction m with
  | zero => intro i hi; omega
  | succ m ih =>
    intro i hi
    have hle : (List.range m).countP p ≤ m := by
      simpa using List.countP_le_length (p := p) (l := List.range m)
    rw [List.range_succ, List.countP_append, List.countP_singleton]
    by_cases hm : p m = true
    · have hall : (List.range m).countP p = m := by
        simpa using List.countP_eq_length.mpr fun a ha =>
          antitone_down hp hm a (Nat.le_of_lt (List.mem_range.mp ha))
      simp only [hm, if_true, hall, antitone_down hp hm i (Nat.le_of_lt_succ hi), true_iff]
      exact hi
    · simp only [hm, Bool.false_eq_true, if_false, Nat.add_zero]
      rcases Nat.lt_or_eq_of_le (Nat.le_of_lt_succ hi) with h | rfl
      · exact ih i h
      · exact ⟨fun h => absurd h hm, fun h => absurd h (Nat.not_lt.mpr hle)⟩

theorem xrAt_mono {n : Nat} {i j : Nat} (h : i ≤ j) : xrAt n i ≤ xrAt n j :=
  div_le_div_of_nonneg_right (Nat.cast_le.mpr h) (Nat.cast_nonneg n)

theorem xrAt_succ {n : Nat} (i : Nat) : xrAt n (i + 1) = xrAt n i + 1 / n := by
  simp only [xrAt, Nat.cast_add, Nat.cast_one, add_div]

theorem xrAt_zero (n : Nat) : xrAt n 0 = 0 := by simp [xrAt]

theorem xrAt_self {n : Nat} (hn : 0 < n) : xrAt n n = 1 :=
  div_self (Nat.cast_ne_zero.mpr (Nat.pos_iff_ne_zero.mp hn))

theorem xrAt_lt_imp {n : Nat} {i j : Nat} (h : xrAt n i < xrAt n j) : i < j :=
  Nat.lt_of_not_le fun hc => absurd h (not_lt.mpr (xrAt_mono hc))

/-- a draw in `[0, 1)` falls into exactly one grid interval `[i/n, (i+1)/n)`, `i < n` -/
theorem meIdx_spec {n : Nat} (hn : 0 < n) {u : Rat} (h0 : 0 ≤ u) (h1 : u < 1) :
    ∃ i : Nat, i < n ∧ meIdx n u = (i : Int) ∧ xrAt n i ≤ u ∧ u < xrAt n (i + 1) := by
  have key := countP_range_antitone (fun i => decide (xrAt n i ≤ u))
    (fun i h => decide_eq_true (le_trans (xrAt_mono (Nat.le_succ i)) (of_decide_eq_true h))) (n + 1)
  simp only [decide_eq_true_eq] at key
  unfold meIdx
  generalize (List.range (n + 1)).countP (fun i => decide (xrAt n i ≤ u)) = c at key
  have hc1 : 0 < c := (key 0 (Nat.succ_pos n)).mp (by rw [xrAt_zero]; exact h0)
  have hcn : c ≤ n := Nat.le_of_not_lt fun h =>
    absurd ((key n (Nat.lt_succ_self n)).mpr h) (by rw [xrAt_self hn]; exact not_le.mpr h1)
  obtain ⟨i, rfl⟩ : ∃ i, c = i + 1 := ⟨c - 1, by omega⟩
  exact ⟨i, hcn, by omega, (key i (by omega)).mpr (Nat.lt_succ_self i),
    not_le.mp fun h => absurd ((key (i + 1) (by omega)).mp h) (Nat.lt_irrefl _)⟩

/-! ### one interval -/

/-- position of the draw inside its grid interval, in `[0, 1)` -/
theorem grid_frac_range {n : Nat} (hn : 0 < n) {i : Nat} {u : Rat} (hl : xrAt n i ≤ u) (hu : u < xrAt n (i + 1)) :
    0 ≤ (u - xrAt n i) * n ∧ (u - xrAt n i) * n < 1 := by
  have hn' : (0 : Rat) < n := Nat.cast_pos.mpr hn
  rw [xrAt_succ] at hu
  refine ⟨mul_nonneg (sub_nonneg.mpr hl) hn'.le, ?_⟩
  have := mul_lt_mul_of_pos_right (sub_lt_iff_lt_add'.mpr hu) hn'
  rwa [one_div, inv_mul_cancel₀ hn'.ne'] at this

theorem quantileOn_eq {sx : List Rat} (lo hi : Rat) (i : Nat) (u : Rat) :
    quantileOn sx lo hi i u =
      y0At sx lo hi i + ((u - xrAt sx.length i) * sx.length) * (y1At sx lo hi i - y0At sx lo hi i) := by
  simp only [quantileOn, xrAt_succ, add_sub_cancel_left, div_div_eq_mul_div, div_one]
  ring

theorem width_eq (sx : List Rat) (lo hi : Rat) (i : Nat) :
    y1At sx lo hi i - y0At sx lo hi i = zAt sx lo hi (i + 1) - zAt sx lo hi i := by
  simp only [y1At, y0At]; ring

theorem lerp_between {a b t : Rat} (t0 : 0 ≤ t) (t1 : t ≤ 1) :
    (a ≤ a + t * (b - a) ∧ a + t * (b - a) ≤ b) ∨ (b ≤ a + t * (b - a) ∧ a + t * (b - a) ≤ a) := by
  rcases le_total a b with h | h
  · have h1 := mul_nonneg t0 (sub_nonneg.mpr h)
    have h2 := mul_nonneg (sub_nonneg.mpr t1) (sub_nonneg.mpr h)
    exact Or.inl ⟨by linarith only [h1], by linarith only [h2]⟩
  · have h1 := mul_nonneg t0 (sub_nonneg.mpr h)
    have h2 := mul_nonneg (sub_nonneg.mpr t1) (sub_nonneg.mpr h)
    exact Or.inr ⟨by linarith only [h2], by linarith only [h1]⟩

/-- the value at a draw lies between the two ends of the SHIFTED interval, whatever their order -/
theorem quantileOn_between {sx : List Rat} (lo hi : Rat) {i : Nat} {u : Rat} (hn : 0 < sx.length)
    (hl : xrAt sx.length i ≤ u) (hu : u < xrAt sx.length (i + 1)) :
    (y0At sx lo hi i ≤ quantileOn sx lo hi i u ∧ quantileOn sx lo hi i u ≤ y1At sx lo hi i) ∨
    (y1At sx lo hi i ≤ quantileOn sx lo hi i u ∧ quantileOn sx lo hi i u ≤ y0At sx lo hi i) := by
  obtain ⟨t0, t1⟩ := grid_frac_range hn hl hu
  rw [quantileOn_eq]
  exact lerp_between t0 t1.le

theorem quantileOn_between_le {sx : List Rat} (lo hi : Rat) {i : Nat} {u : Rat} (hn : 0 < sx.length)
    (hl : xrAt sx.length i ≤ u) (hu : u < xrAt sx.length (i + 1))
    (hz : zAt sx lo hi i ≤ zAt sx lo hi (i + 1)) :
    y0At sx lo hi i ≤ quantileOn sx lo hi i u ∧ quantileOn sx lo hi i u ≤ y1At sx lo hi i := by
  have hw := width_eq sx lo hi i
  rcases quantileOn_between lo hi hn hl hu with h | h
  · exact h
  · exact ⟨by linarith only [hw, hz, h.1, h.2], by linarith only [hw, hz, h.1, h.2]⟩

theorem quantileOn_mono {sx : List Rat} (lo hi : Rat) (i : Nat) {u u' : Rat}
    (huu : u ≤ u') (hz : zAt sx lo hi i ≤ zAt sx lo hi (i + 1)) :
    quantileOn sx lo hi i u ≤ quantileOn sx lo hi i u' := by
  rw [quantileOn_eq, quantileOn_eq, width_eq]
  have := mul_le_mul_of_nonneg_right (mul_le_mul_of_nonneg_right (sub_le_sub_right huu (xrAt sx.length i))
    (Nat.cast_nonneg sx.length)) (sub_nonneg.mpr hz)
  linarith only [this]

/-! ### closed forms of the interval ends -/

section closed
variable {sx : List Rat} {lo hi : Rat}

theorem zAt_zero : zAt sx lo hi 0 = lo := if_pos rfl

theorem zAt_last (hn : 0 < sx.length) : zAt sx lo hi sx.length = hi := by
  rw [zAt, if_neg (Nat.pos_iff_ne_zero.mp hn), if_pos (Nat.le_refl _)]

theorem zAt_mid {i : Nat} (h0 : 0 < i) (h1 : i < sx.length) :
    zAt sx lo hi i = (sx.getD (i - 1) 0 + sx.getD i 0) / 2 := by
  rw [zAt, if_neg (Nat.pos_iff_ne_zero.mp h0), if_neg (Nat.not_le.mpr h1)]

theorem zAt_succ {i : Nat} (h : i + 1 < sx.length) :
    zAt sx lo hi (i + 1) = (sx.getD i 0 + sx.getD (i + 1) 0) / 2 := zAt_mid (Nat.succ_pos i) h

theorem zAt_one (h : 1 < sx.length) : zAt sx lo hi 1 = (sx.getD 0 0 + sx.getD 1 0) / 2 := zAt_succ h

theorem zAt_between (hs : SortedD sx) {i : Nat} (h : i + 1 < sx.length) :
    sx.getD i 0 ≤ zAt sx lo hi (i + 1) ∧ zAt sx lo hi (i + 1) ≤ sx.getD (i + 1) 0 := by
  have := hs i (i + 1) (Nat.le_succ i) h
  rw [zAt_succ h]
  exact ⟨by linarith only [this], by linarith only [this]⟩

theorem meanAt_zero : meanAt sx 0 = 3 / 4 * sx.getD 0 0 + 1 / 4 * sx.getD 1 0 := if_pos rfl

theorem meanAt_last {i : Nat} (h1 : i + 2 = sx.length) :
    meanAt sx (i + 1) = 3 / 4 * sx.getD (i + 1) 0 + 1 / 4 * sx.getD i 0 := by
  rw [meanAt, if_neg (Nat.succ_ne_zero i), if_pos (Nat.le_of_eq h1.symm), ← h1]
  rfl

theorem meanAt_mid {i : Nat} (h1 : i + 2 < sx.length) :
    meanAt sx (i + 1) = 1 / 4 * sx.getD i 0 + 1 / 2 * sx.getD (i + 1) 0 + 1 / 4 * sx.getD (i + 2) 0 := by
  rw [meanAt, if_neg (Nat.succ_ne_zero i), if_neg (Nat.not_le.mpr h1)]
  rfl

theorem y_first (h2 : 2 ≤ sx.length) :
    y0At sx lo hi 0 = (lo + sx.getD 0 0) / 2 ∧
    y1At sx lo hi 0 = zAt sx lo hi 1 + (sx.getD 0 0 - lo) / 2 := by
  simp only [y0At, y1At, shiftAt, meanAt_zero, zAt_zero, zAt_one h2]
  constructor <;> ring

/-- interior intervals are not shifted: `[z_i, z_{i+1}]` -/
theorem y_mid {i : Nat} (h0 : 0 < i) (h1 : i + 1 < sx.length) :
    y0At sx lo hi i = zAt sx lo hi i ∧ y1At sx lo hi i = zAt sx lo hi (i + 1) := by
  obtain ⟨k, rfl⟩ : ∃ k, i = k + 1 := ⟨i - 1, by omega⟩
  simp only [y0At, y1At, shiftAt, meanAt_mid h1, zAt_succ (Nat.lt_of_succ_lt h1), zAt_succ h1]
  constructor <;> ring

/-- last interval: `[ z_{n-1} − (hi − x_{n-1})/2 , (x_{n-1} + hi)/2 ]` -/
theorem y_last {i : Nat} (h0 : 0 < i) (h1 : i + 1 = sx.length) :
    y0At sx lo hi i = zAt sx lo hi i - (hi - sx.getD i 0) / 2 ∧
    y1At sx lo hi i = (sx.getD i 0 + hi) / 2 := by
  obtain ⟨k, rfl⟩ : ∃ k, i = k + 1 := ⟨i - 1, by omega⟩
  have zb : zAt sx lo hi (k + 1 + 1) = hi := h1 ▸ zAt_last (h1 ▸ Nat.succ_pos _)
  simp only [y0At, y1At, shiftAt, meanAt_last h1, zAt_succ (show k + 1 < sx.length by omega), zb]
  constructor <;> ring

theorem first_mid_last {i n : Nat} (h : i < n) : i = 0 ∨ (0 < i ∧ i + 1 < n) ∨ (0 < i ∧ i + 1 = n) := by
  omega

end closed

/-! ### ascending interval ends, the envelope -/

section envelope
variable {sx : List Rat} {lo hi : Rat}

theorem zAt_mono_interior (hs : SortedD sx) {i j : Nat} (hij : i ≤ j) (hj : j + 1 < sx.length) :
    zAt sx lo hi (i + 1) ≤ zAt sx lo hi (j + 1) := by
  rcases Nat.lt_or_eq_of_le hij with h | rfl
  · exact le_trans (zAt_between hs (by omega)).2 (le_trans (hs (i + 1) j h (by omega)) (zAt_between hs hj).1)
  · exact le_refl _

theorem zAt_in_range (hs : SortedD sx) {i : Nat} (h0 : 0 < i) (h1 : i < sx.length) :
    sx.getD 0 0 ≤ zAt sx lo hi i ∧ zAt sx lo hi i ≤ sx.getD (sx.length - 1) 0 := by
  obtain ⟨k, rfl⟩ : ∃ k, i = k + 1 := ⟨i - 1, by omega⟩
  obtain ⟨a, b⟩ := zAt_between (lo := lo) (hi := hi) hs h1
  exact ⟨(hs 0 k (Nat.zero_le k) (by omega)).trans a, b.trans (hs (k + 1) (sx.length - 1) (by omega) (by omega))⟩

/-- with `lo ≤ min x` and `max x ≤ hi` the ends `z_t` ascend -/
theorem zAt_mono_step (hs : SortedD sx) (h2 : 2 ≤ sx.length) (hlo : lo ≤ sx.getD 0 0)
    (hhi : sx.getD (sx.length - 1) 0 ≤ hi) {i : Nat} (hi' : i < sx.length) :
    zAt sx lo hi i ≤ zAt sx lo hi (i + 1) := by
  rcases first_mid_last hi' with rfl | ⟨h0, h1⟩ | ⟨h0, h1⟩
  · rw [zAt_zero]; exact le_trans hlo (zAt_between hs h2).1
  · obtain ⟨k, rfl⟩ : ∃ k, i = k + 1 := ⟨i - 1, by omega⟩
    exact zAt_mono_interior hs (Nat.le_succ k) h1
  · obtain ⟨k, rfl⟩ : ∃ k, i = k + 1 := ⟨i - 1, by omega⟩
    rw [h1, zAt_last (by omega)]
    rw [← h1] at hhi
    exact le_trans (zAt_between hs hi').2 hhi

theorem meLower_eq_min (sx : List Rat) (lo hi : Rat) : meLower sx lo hi =
    min ((lo + sx.getD 0 0) / 2) (zAt sx lo hi (sx.length - 1) - (hi - sx.getD (sx.length - 1) 0) / 2) :=
  (min_def _ _).symm

theorem meUpper_eq_max (sx : List Rat) (lo hi : Rat) : meUpper sx lo hi =
    max (zAt sx lo hi 1 + (sx.getD 0 0 - lo) / 2) ((sx.getD (sx.length - 1) 0 + hi) / 2) :=
  (max_def _ _).symm

/-- the first and the last interval are the envelope's own ends, an interior one lies in `[x₀, x_{n-1}]` -/
theorem interval_in_envelope (hs : SortedD sx) (h2 : 2 ≤ sx.length) (hlo : lo ≤ sx.getD 0 0)
    (hhi : sx.getD (sx.length - 1) 0 ≤ hi) {i : Nat} (hi' : i < sx.length) :
    meLower sx lo hi ≤ y0At sx lo hi i ∧ y1At sx lo hi i ≤ meUpper sx lo hi := by
  rw [meLower_eq_min, meUpper_eq_max]
  rcases first_mid_last hi' with rfl | ⟨h0, h1⟩ | ⟨h0, h1⟩
  · rw [(y_first h2).1, (y_first h2).2]
    exact ⟨min_le_left _ _, le_max_left _ _⟩
  · obtain ⟨k, rfl⟩ : ∃ k, i = k + 1 := ⟨i - 1, by omega⟩
    rw [(y_mid h0 h1).1, (y_mid h0 h1).2]
    have a := (zAt_in_range (lo := lo) (hi := hi) hs h0 hi').1
    have b := (zAt_in_range (lo := lo) (hi := hi) hs (Nat.succ_pos _) h1).2
    exact ⟨le_trans (min_le_left _ _) (by linarith only [a, hlo]), le_trans (by linarith only [b, hhi]) (le_max_right _ _)⟩
  · have e : sx.length - 1 = i := by omega
    rw [(y_last h0 h1).1, (y_last h0 h1).2, e]
    exact ⟨min_le_right _ _, le_max_right _ _⟩

/-- **the envelope**: a draw in `[0,1)` gives a value in `[meLower, meUpper]` -/
theorem quantileOn_envelope (hs : SortedD sx) (h2 : 2 ≤ sx.length) (hlo : lo ≤ sx.getD 0 0)
    (hhi : sx.getD (sx.length - 1) 0 ≤ hi) {i : Nat} (hi' : i < sx.length) {u : Rat}
    (hl : xrAt sx.length i ≤ u) (hu : u < xrAt sx.length (i + 1)) :
    meLower sx lo hi ≤ quantileOn sx lo hi i u ∧ quantileOn sx lo hi i u ≤ meUpper sx lo hi := by
  obtain ⟨a, b⟩ := quantileOn_between_le lo hi (by omega) hl hu (zAt_mono_step hs h2 hlo hhi hi')
  obtain ⟨c, d⟩ := interval_in_envelope hs h2 hlo hhi hi'
  exact ⟨le_trans c a, le_trans b d⟩

theorem limitsBind_iff : limitsBind sx lo hi = true ↔
    lo ≤ sx.getD 0 0 ∧ sx.getD (sx.length - 1) 0 ≤ hi ∧
    sx.getD 0 0 - lo ≤ 2 * (hi - zAt sx lo hi 1) ∧
    hi - sx.getD (sx.length - 1) 0 ≤ 2 * (zAt sx lo hi (sx.length - 1) - lo) := by
  simp only [limitsBind, Bool.and_eq_true, decide_eq_true_eq, and_assoc]

/-- when `limitsBind` holds the envelope is inside `[lo, hi]` -/
theorem envelope_in_limits (h : limitsBind sx lo hi = true) :
    lo ≤ meLower sx lo hi ∧ meUpper sx lo hi ≤ hi := by
  obtain ⟨h1, h2, h3, h4⟩ := limitsBind_iff.mp h
  rw [meLower_eq_min, meUpper_eq_max]
  exact ⟨le_min (by linarith only [h1]) (by linarith only [h4]), max_le (by linarith only [h3]) (by linarith only [h2])⟩

theorem limitsBind_of_slack (hs : SortedD sx) (h2 : 2 ≤ sx.length) {tm : Rat} (htm : 0 ≤ tm) :
    limitsBind sx (sx.getD 0 0 - tm) (sx.getD (sx.length - 1) 0 + tm) = true := by
  have a := (zAt_in_range (lo := sx.getD 0 0 - tm) (hi := sx.getD (sx.length - 1) 0 + tm) hs (i := sx.length - 1)
    (by omega) (by omega)).1
  have b := (zAt_in_range (lo := sx.getD 0 0 - tm) (hi := sx.getD (sx.length - 1) 0 + tm) hs Nat.one_pos h2).2
  rw [limitsBind_iff]
  exact ⟨by linarith only [htm], by linarith only [htm], by linarith only [b, htm], by linarith only [a, htm]⟩

/-- `bootstrap`'s limits `(0, x_{n-1})`, on non-negative data -/
theorem envelope_boot (hs : SortedD sx) (h2 : 2 ≤ sx.length) (hpos : 0 ≤ sx.getD 0 0) :
    0 ≤ meLower sx 0 (sx.getD (sx.length - 1) 0) ∧
    meUpper sx 0 (sx.getD (sx.length - 1) 0) =
      max (sx.getD 0 0 + sx.getD 1 0 / 2) (sx.getD (sx.length - 1) 0) := by
  have a := (zAt_in_range (lo := 0) (hi := sx.getD (sx.length - 1) 0) hs (i := sx.length - 1) (by omega) (by omega)).1
  rw [meLower_eq_min, meUpper_eq_max, zAt_one h2]
  refine ⟨le_min (by linarith only [hpos]) (by linarith only [a, hpos]), ?_⟩
  congr 1 <;> ring

/-- across intervals: the upper end of an earlier interval is below the lower end of a later one, unless
the earlier one is the (shifted) first or the later one the (shifted) last -/
theorem y1_le_y0 (hs : SortedD sx) (h2 : 2 ≤ sx.length) {i j : Nat} (hij : i < j) (hj : j < sx.length)
    (hfirst : 0 < i ∨ lo = sx.getD 0 0) (hlast : j + 1 < sx.length ∨ hi = sx.getD (sx.length - 1) 0) :
    y1At sx lo hi i ≤ y0At sx lo hi j := by
  obtain ⟨k, rfl⟩ : ∃ k, j = k + 1 := ⟨j - 1, by omega⟩
  have hz : zAt sx lo hi (i + 1) ≤ zAt sx lo hi (k + 1) := zAt_mono_interior hs (Nat.le_of_lt_succ hij) hj
  have hy1 : y1At sx lo hi i ≤ zAt sx lo hi (i + 1) := by
    rcases Nat.eq_zero_or_pos i with rfl | h
    · rw [(y_first h2).2, hfirst.resolve_left (Nat.lt_irrefl 0), sub_self, zero_div, add_zero]
    · exact (y_mid h (by omega)).2.le
  have hy0 : zAt sx lo hi (k + 1) ≤ y0At sx lo hi (k + 1) := by
    rcases Nat.lt_or_eq_of_le (Nat.succ_le_of_lt hj) with h | h
    · exact (y_mid (Nat.succ_pos k) h).1.ge
    · have e : sx.length - 1 = k + 1 := by omega
      rw [(y_last (Nat.succ_pos k) h).1, hlast.resolve_left (by omega), e, sub_self, zero_div, sub_zero]
  exact le_trans hy1 (le_trans hz hy0)

end envelope

/-! ### one draw, the list of quantiles -/

theorem meQuantile_unit {sx : List Rat} (lo hi : Rat) (hn : 0 < sx.length) {u : Rat} (h0 : 0 ≤ u) (h1 : u < 1) :
    ∃ i, i < sx.length ∧ xrAt sx.length i ≤ u ∧ u < xrAt sx.length (i + 1) ∧
      meQuantile sx lo hi u = .ok (quantileOn sx lo hi i u) := by
  obtain ⟨i, hi', hidx, hl, hu⟩ := meIdx_spec hn h0 h1
  refine ⟨i, hi', hl, hu, ?_⟩
  simp only [meQuantile, hidx, Int.toNat_natCast, if_neg (Int.not_lt.mpr (Int.natCast_nonneg i)),
    if_neg (Nat.not_le.mpr hi')]

theorem meQuantiles_spec {xs U : List Rat} {L : Option (Rat × Rat)} {qs : List Rat}
    (h : meQuantiles xs U L = .ok qs) :
    qs.length = xs.length ∧
    List.Forall₂ (fun u q => meQuantile (sortQ xs) (meLimits xs L).1 (meLimits xs L).2 u = .ok q)
      ((sortQ U).take xs.length) qs := by
  simp only [meQuantiles] at h
  split at h
  · cases h
  · split at h
    · cases h
    · rename_i qs' hqs
      split at h
      · cases h
      · cases h
        refine ⟨?_, mapMExcept_forall₂ hqs⟩
        rw [mapMExcept_length hqs, List.length_take]
        omega

theorem mem_take_sortQ {U : List Rat} {n : Nat} {u : Rat} (h : u ∈ (sortQ U).take n) : u ∈ U :=
  (sortQ_perm U).mem_iff.mp (List.mem_of_mem_take h)

theorem meQuantiles_mem {xs U : List Rat} {L : Option (Rat × Rat)} {qs : List Rat}
    (h : meQuantiles xs U L = .ok qs) (hn : 0 < xs.length) (hU : ∀ u ∈ U, 0 ≤ u ∧ u < 1) {q : Rat} (hq : q ∈ qs) :
    ∃ i u, i < (sortQ xs).length ∧ xrAt (sortQ xs).length i ≤ u ∧ u < xrAt (sortQ xs).length (i + 1) ∧
      q = quantileOn (sortQ xs) (meLimits xs L).1 (meLimits xs L).2 i u := by
  obtain ⟨u, hu, e⟩ := forall₂_mem_right (meQuantiles_spec h).2 q hq
  obtain ⟨u0, u1⟩ := hU u (mem_take_sortQ hu)
  obtain ⟨i, hi', a, b, e'⟩ := meQuantile_unit (sx := sortQ xs) (meLimits xs L).1 (meLimits xs L).2
    (by rw [sortQ_length]; exact hn) u0 u1
  exact ⟨i, u, hi', a, b, Except.ok.inj (e.symm.trans e')⟩

theorem meQuantiles_envelope {xs U : List Rat} {L : Option (Rat × Rat)} {qs : List Rat}
    (h : meQuantiles xs U L = .ok qs) (h2 : 2 ≤ xs.length) (hU : ∀ u ∈ U, 0 ≤ u ∧ u < 1)
    (hlo : (meLimits xs L).1 ≤ (sortQ xs).getD 0 0)
    (hhi : (sortQ xs).getD (xs.length - 1) 0 ≤ (meLimits xs L).2) :
    ∀ q ∈ qs, meLower (sortQ xs) (meLimits xs L).1 (meLimits xs L).2 ≤ q ∧
      q ≤ meUpper (sortQ xs) (meLimits xs L).1 (meLimits xs L).2 := by
  intro q hq
  obtain ⟨i, u, hi', a, b, rfl⟩ := meQuantiles_mem h (by omega) hU hq
  have hl : (sortQ xs).length = xs.length := sortQ_length xs
  exact quantileOn_envelope (sortedD_sortQ xs) (hl ▸ h2) hlo (hl ▸ hhi) hi' a b

theorem meQuantiles_within_limits {xs U : List Rat} {L : Option (Rat × Rat)} {qs : List Rat}
    (h : meQuantiles xs U L = .ok qs) (h2 : 2 ≤ xs.length) (hU : ∀ u ∈ U, 0 ≤ u ∧ u < 1)
    (hb : limitsBind (sortQ xs) (meLimits xs L).1 (meLimits xs L).2 = true) :
    ∀ q ∈ qs, (meLimits xs L).1 ≤ q ∧ q ≤ (meLimits xs L).2 := by
  intro q hq
  obtain ⟨h1, h2', _, _⟩ := limitsBind_iff.mp hb
  obtain ⟨a, b⟩ := meQuantiles_envelope h h2 hU h1 (sortQ_length xs ▸ h2') q hq
  obtain ⟨c, d⟩ := envelope_in_limits hb
  exact ⟨le_trans c a, le_trans b d⟩

/-- every quantile lies in one of the `n` shifted intervals (no assumption on the limits) -/
theorem meQuantiles_interval {xs U : List Rat} {L : Option (Rat × Rat)} {qs : List Rat}
    (h : meQuantiles xs U L = .ok qs) (hn : 0 < xs.length) (hU : ∀ u ∈ U, 0 ≤ u ∧ u < 1) :
    ∀ q ∈ qs, ∃ i, i < xs.length ∧
      ((y0At (sortQ xs) (meLimits xs L).1 (meLimits xs L).2 i ≤ q ∧
          q ≤ y1At (sortQ xs) (meLimits xs L).1 (meLimits xs L).2 i) ∨
       (y1At (sortQ xs) (meLimits xs L).1 (meLimits xs L).2 i ≤ q ∧
          q ≤ y0At (sortQ xs) (meLimits xs L).1 (meLimits xs L).2 i)) := by
  intro q hq
  obtain ⟨i, u, hi', a, b, rfl⟩ := meQuantiles_mem h hn hU hq
  exact ⟨i, sortQ_length xs ▸ hi', quantileOn_between _ _ (Nat.zero_lt_of_lt hi') a b⟩

theorem sumQ_nonneg : ∀ (l : List Rat), (∀ x ∈ l, 0 ≤ x) → 0 ≤ sumQ l
  | [], _ => le_refl _
  | a :: l, h => add_nonneg (h a List.mem_cons_self) (sumQ_nonneg l fun x hx => h x (List.mem_cons_of_mem _ hx))

theorem sumQ_map_div (x : List Rat) (S : Rat) : sumQ (x.map fun v => v / S) = sumQ x / S := by
  induction x with
  | nil => simp [sumQ]
  | cons a x ih =>
    simp only [sumQ, List.map_cons, List.foldr_cons] at ih ⊢
    rw [ih]; ring

theorem sumQ_map_const (x : List Rat) (c : Rat) : sumQ (x.map fun _ => c) = (x.length : Rat) * c := by
  induction x with
  | nil => simp [sumQ]
  | cons a x ih =>
    simp only [sumQ, List.map_cons, List.foldr_cons, List.length_cons] at ih ⊢
    rw [ih]; push_cast; ring

/-! ### the trimmed-mean limits -/

theorem absDiffs_nonneg : ∀ (l : List Rat), ∀ x ∈ absDiffs l, 0 ≤ x
  | [], x, h => by simp [absDiffs] at h
  | [_], x, h => by simp [absDiffs] at h
  | a :: b :: rest, x, h => by
    simp only [absDiffs, List.mem_cons] at h
    rcases h with rfl | h
    · split <;> linarith
    · exact absDiffs_nonneg (b :: rest) x h

theorem trimMean_nonneg (a : List Rat) (h : ∀ x ∈ a, 0 ≤ x) : 0 ≤ trimMean a :=
  div_nonneg
    (sumQ_nonneg _ fun x hx => h x ((sortQ_perm a).mem_iff.mp (List.mem_of_mem_drop (List.mem_of_mem_take hx))))
    (Nat.cast_nonneg _)

/-- without `L`: the limits are `min x - tm`, `max x + tm` with `tm ≥ 0`, and they bind -/
theorem limitsBind_trimmed (xs : List Rat) (h2 : 2 ≤ xs.length) :
    limitsBind (sortQ xs) (meLimits xs none).1 (meLimits xs none).2 = true := by
  have hl : (sortQ xs).length = xs.length := sortQ_length xs
  have := limitsBind_of_slack (sortedD_sortQ xs) (hl ▸ h2) (trimMean_nonneg _ (absDiffs_nonneg xs))
  rwa [hl] at this

/-! ### `bootstrap`'s limits -/

theorem getD_mem_of_lt {l : List Rat} {i : Nat} (h : i < l.length) : l.getD i 0 ∈ l := by
  rw [List.getD_eq_getElem?_getD, List.getElem?_eq_getElem h]
  exact List.getElem_mem h

theorem mem_getD {l : List Rat} {y : Rat} (h : y ∈ l) : ∃ i, i < l.length ∧ l.getD i 0 = y := by
  obtain ⟨i, hi, e⟩ := List.getElem_of_mem h
  exact ⟨i, hi, by rw [List.getD_eq_getElem?_getD, List.getElem?_eq_getElem hi]; simpa using e⟩

/-- `max(...)` is the last sorted value -/
theorem bootLimits_snd (xs : List Rat) (hn : 0 < xs.length) :
    (bootLimits xs).2 = (sortQ xs).getD (xs.length - 1) 0 := by
  have hl : (sortQ xs).length = xs.length := sortQ_length xs
  match xs, hn with
  | x :: rest, _ =>
    obtain ⟨hm, hge⟩ := foldl_max_rat rest x
    simp only [bootLimits]
    apply le_antisymm
    · obtain ⟨i, hi, e⟩ := mem_getD ((sortQ_perm (x :: rest)).mem_iff.mpr hm)
      rw [← e]
      exact sortedD_sortQ (x :: rest) i _ (by omega) (by omega)
    · exact hge _ ((sortQ_perm _).mem_iff.mp (getD_mem_of_lt (by omega)))

end Bermuda.Resample
