/-
The order on allocation levels, abstract classes and abstract environments of `Model/HeapIR.lean`
(`Lvl.sub`, `Cls.le`, `Cls.join`, `AEnv.le`, `AEnv.join`) and the positional update `setPad`: what the
analysis `absExec` computes with, apart from any heap. Core Lean only; below the generated programs.
-/
import Bermuda.Model.HeapIR
namespace Bermuda.HeapIR

theorem getD_setPad {α : Type} (d : α) (l : List α) (x y : Nat) (v : α) :
    (setPad d l x v).getD y d = if y = x then v else l.getD y d := by
  induction x generalizing l y with
  | zero => cases l <;> cases y <;> rfl
  | succ n ih =>
    cases l <;> cases y
    · rfl
    · simp only [setPad, List.getD_cons_succ, ih, Nat.add_right_cancel_iff, List.getD_nil]
    · rfl
    · simp only [setPad, List.getD_cons_succ, ih, Nat.add_right_cancel_iff]

theorem Lvl.sub_iff {a b : Lvl} : a.sub b = true ↔ a = b ∨ (a = .num ∧ b ≠ .ext) := by
  cases a <;> cases b <;> simp [Lvl.sub]

theorem Lvl.sub_refl (a : Lvl) : a.sub a = true := Lvl.sub_iff.mpr (Or.inl rfl)

theorem Lvl.sub_trans {a b c : Lvl} (h1 : a.sub b = true) (h2 : b.sub c = true) : a.sub c = true := by
  rw [Lvl.sub_iff] at *
  rcases h1 with rfl | ⟨rfl, hb⟩
  · exact h2
  · rcases h2 with rfl | ⟨rfl, hc⟩
    · right; exact ⟨rfl, hb⟩
    · right; exact ⟨rfl, hc⟩

/-- only the object of an unprotected parameter is classed `lv ext` -/
theorem Lvl.sub_ext {a : Lvl} (h : a.sub .ext = true) : a = .ext := by
  rw [Lvl.sub_iff] at h
  rcases h with rfl | ⟨_, h⟩
  · rfl
  · exact absurd rfl h

theorem Lvl.isExt_iff {t : Lvl} : t.isExt = true ↔ t = .ext := by cases t <;> simp [Lvl.isExt]

theorem Lvl.isNum_iff {t : Lvl} : t.isNum = true ↔ t = .num := by cases t <;> simp [Lvl.isNum]

theorem Lvl.isDeep_iff {t : Lvl} : t.isDeep = true ↔ t = .deep := by cases t <;> simp [Lvl.isDeep]

theorem Cls.isScalar_iff {c : Cls} : c.isScalar = true ↔ c = .scalar := by cases c <;> simp [Cls.isScalar]

theorem Lvl.elem_ne_ext {t t' : Lvl} (h : t.elem = some t') : t' ≠ .ext := by
  intro hc
  subst hc
  cases t with
  | sh k => cases k <;> simp [Lvl.elem] at h
  | _ => simp [Lvl.elem] at h

theorem Cls.le_refl (c : Cls) : c.le c = true := by
  cases c <;> simp [Cls.le, Lvl.sub_refl]

theorem Cls.le_any (c : Cls) : c.le .any = true := by cases c <;> simp [Cls.le]

theorem Cls.scalar_le (c : Cls) : Cls.le .scalar c = true := by simp [Cls.le]

theorem Cls.le_scalar {c : Cls} (h : c.le .scalar = true) : c = .scalar := by
  cases c <;> simp [Cls.le] at h ⊢

theorem Cls.le_lv {c : Cls} {t : Lvl} (h : c.le (.lv t) = true) : c = .scalar ∨ ∃ t', c = .lv t' ∧ t'.sub t = true := by
  cases c with
  | scalar => left; rfl
  | any => simp [Cls.le] at h
  | lv t' => right; exact ⟨t', rfl, by simpa [Cls.le] using h⟩

theorem Cls.le_join_left (c d : Cls) : c.le (c.join d) = true := by
  unfold Cls.join
  split
  · assumption
  · split
    · exact Cls.le_refl c
    · exact Cls.le_any c

theorem Cls.le_join_right (c d : Cls) : d.le (c.join d) = true := by
  unfold Cls.join
  split
  · exact Cls.le_refl d
  · split
    · assumption
    · exact Cls.le_any d

theorem Cls.join_scalar_left (c : Cls) : Cls.join .scalar c = c := by
  simp [Cls.join, Cls.scalar_le]

theorem Cls.join_scalar_right (c : Cls) : Cls.join c .scalar = c := by
  unfold Cls.join
  split
  · rename_i h; exact (Cls.le_scalar h).symm
  · simp [Cls.scalar_le]

theorem Cls.join_self (c : Cls) : c.join c = c := by rw [Cls.join, if_pos (Cls.le_refl c)]

theorem AEnv.get_join (a b : AEnv) (x : Var) : (a.join b).get x = (a.get x).join (b.get x) := by
  induction a generalizing b x with
  | nil => exact (Cls.join_scalar_left _).symm
  | cons c a ih =>
    cases b with
    | nil => exact (Cls.join_scalar_right _).symm
    | cons d b =>
      cases x with
      | zero => rfl
      | succ n => exact ih b n

theorem AEnv.le_iff_get : ∀ {a b : AEnv}, a.le b = true ↔ ∀ x, (a.get x).le (b.get x) = true
  | [], _ => ⟨fun _ _ => rfl, fun _ => rfl⟩
  | c :: a, b => by
    have hc : AEnv.le (c :: a) b = (c.le (b.get 0) && AEnv.le a b.tail) := by cases b <;> rfl
    have ht : ∀ x, AEnv.get b.tail x = b.get (x + 1) := fun x => by cases b <;> rfl
    rw [hc, Bool.and_eq_true, AEnv.le_iff_get (a := a)]
    exact ⟨fun h x => by cases x with
      | zero => exact h.1
      | succ x => exact ht x ▸ h.2 x, fun h => ⟨h 0, fun x => ht x ▸ h (x + 1)⟩⟩

theorem AEnv.get_set (a : AEnv) (x y : Var) (c : Cls) : (a.set x c).get y = if y = x then c else a.get y :=
  getD_setPad ..

end Bermuda.HeapIR
