/-
C07, the ISO clause. `Spec.C07.strictIso` (exactly `YYYY-MM-DD`) against the model's writer
`dateIso` (= `strftime("%Y-%m-%d")`) and the model's lenient reader `parseIso` (= `strptime`), all
three through the eight digits of the text (`IsoDigits`): the strict reader accepts exactly the digit
texts of real dates, so it reads back what `dateIso` writes, accepts ONE text per date, and whatever it
accepts `strptime` reads to the same date; hence the strict plain reader is a restriction of the
lenient one.
-/
import Bermuda.Lemmas.JsonIO
namespace Bermuda.JsonIO
open Bermuda Bermuda.Spec.C07

/-- the strict reader (Spec/C07.lean) has a digit function of its own, so that it depends on nothing of the model's
`strptime`; the two are the same function -/
theorem isoDigit_eq : isoDigit? = digitVal? := rfl

theorem ofNat_digit : ∀ k, k < 10 → Char.ofNat (48 + k) = digitChar k := by decide

theorem digitVal_eq_digitChar {c : Char} {k : Nat} (h : digitVal? c = some k) : c = digitChar k ∧ k < 10 := by
  unfold digitVal? at h
  split at h
  · rename_i hc
    simp only [Option.some.injEq] at h
    have hk : k < 10 := by omega
    refine ⟨?_, hk⟩
    rw [← ofNat_digit k hk, ← Char.ofNat_toNat c]
    congr 1; omega
  · cases h

theorem strictIso_chars (g : IsoDigits) (hg : g.Ok) :
    strictIso (String.ofList g.chars) = if 1 ≤ g.date.y && g.date.valid then some g.date else none := by
  obtain ⟨h1, h2, h3, h4, h5, h6, h7, h8⟩ := hg
  simp only [strictIso, String.toList_ofList, IsoDigits.chars, isoDigit_eq, digitVal_digitChar _ h1,
    digitVal_digitChar _ h2, digitVal_digitChar _ h3, digitVal_digitChar _ h4, digitVal_digitChar _ h5,
    digitVal_digitChar _ h6, digitVal_digitChar _ h7, digitVal_digitChar _ h8, beq_self_eq_true, Bool.and_self,
    if_true]
  rfl

theorem strictIso_inv {s : String} {d : Date} (h : strictIso s = some d) :
    ∃ g : IsoDigits, g.Ok ∧ s = String.ofList g.chars ∧ d = g.date ∧ 1 ≤ d.y ∧ d.valid = true := by
  unfold strictIso at h
  split at h
  · rename_i y1 y2 y3 y4 s1 m1 m2 s2 d1 d2 heq
    split at h
    · rename_i hs
      simp only [Bool.and_eq_true, beq_iff_eq] at hs
      obtain ⟨rfl, rfl⟩ := hs
      split at h
      · rename_i a b c dd e f g hh ha hb hc hd he hf hg hhh
        obtain ⟨rfl, ha'⟩ := digitVal_eq_digitChar ha
        obtain ⟨rfl, hb'⟩ := digitVal_eq_digitChar hb
        obtain ⟨rfl, hc'⟩ := digitVal_eq_digitChar hc
        obtain ⟨rfl, hd'⟩ := digitVal_eq_digitChar hd
        obtain ⟨rfl, he'⟩ := digitVal_eq_digitChar he
        obtain ⟨rfl, hf'⟩ := digitVal_eq_digitChar hf
        obtain ⟨rfl, hg'⟩ := digitVal_eq_digitChar hg
        obtain ⟨rfl, hh'⟩ := digitVal_eq_digitChar hhh
        dsimp only at h
        split at h
        · rename_i hv
          cases h
          simp only [Bool.and_eq_true, decide_eq_true_eq] at hv
          exact ⟨⟨a, b, c, dd, e, f, g, hh⟩, ⟨ha', hb', hc', hd', he', hf', hg', hh'⟩,
            String.toList_inj.mp (by rw [heq, String.toList_ofList]; rfl), rfl, hv.1, hv.2⟩
        · cases h
      · cases h
    · cases h
  · cases h

theorem strictIso_dateIso (d : Date) (h : wfDate d = true) : strictIso (dateIso d) = some d := by
  obtain ⟨g, hg, h1, rfl⟩ := wfDate_digits h
  simp only [wfDate, Bool.and_eq_true, decide_eq_true_eq] at h
  rw [dateIso_digits g hg h1, strictIso_chars g hg, if_pos]
  simp only [Bool.and_eq_true, decide_eq_true_eq]
  exact ⟨by omega, h.1.1⟩

theorem strictIso_parseIso {s : String} {d : Date} (h : strictIso s = some d) : parseIso s = .ok d := by
  obtain ⟨g, hg, rfl, rfl, hy, hv⟩ := strictIso_inv h
  exact parseIso_chars g hg hy hv

/-- the strict reader accepts ONE text per date -/
theorem strictIso_unique {s : String} {d : Date} (h : strictIso s = some d) (hy : 1000 ≤ d.y) :
    s = dateIso d := by
  obtain ⟨g, hg, rfl, rfl, -, -⟩ := strictIso_inv h
  refine (dateIso_digits g hg ?_).symm
  obtain ⟨_, h2, h3, h4, _⟩ := hg
  simp only [IsoDigits.date] at hy
  omega

theorem readDate_of_strict {kvs k d} (h : readDateS kvs k = some d) : readDate kvs k = some d := by
  unfold readDateS at h
  unfold readDate
  split at h
  · simp only [strictIso_parseIso h]
  · cases h

theorem readPrev_of_strict {kvs p} (h : readPrevS kvs = some p) : readPrev kvs = some p := by
  unfold readPrevS at h
  unfold readPrev
  split at h
  · rename_i hc
    rw [if_pos hc]
    obtain ⟨d, hd, rfl⟩ := Option.map_eq_some_iff.mp h
    rw [readDate_of_strict hd]; rfl
  · rename_i hc
    rw [if_neg hc]; exact h

theorem readCell_of_strict {v c} (h : readCellS v = some c) : readCell v = some c := by
  cases v with
  | obj kvs =>
    simp only [readCellS, readCell, Option.ite_none_right_eq_some, Option.bind_eq_some_iff] at h ⊢
    obtain ⟨hc, ps, h1, pe, h2, ev, h3, prev, h4, rest⟩ := h
    exact ⟨hc, ps, readDate_of_strict h1, pe, readDate_of_strict h2, ev, readDate_of_strict h3, prev,
      readPrev_of_strict h4, rest⟩
  | _ => simp [readCellS] at h

theorem readCells_of_strict {kvs l} (h : readCellsS kvs = some l) : readCells kvs = some l := by
  unfold readCellsS at h
  unfold readCells
  split at h
  · simpa using mapM_some_imp (k := id) (fun _ _ => readCell_of_strict) h
  · cases h

theorem readSlice_of_strict {v l} (h : readSliceS v = some l) : readSlice v = some l := by
  cases v with
  | obj kvs =>
    simp only [readSliceS, readSlice, Option.ite_none_right_eq_some, Option.bind_eq_some_iff,
      Option.map_eq_some_iff] at h ⊢
    obtain ⟨hc, rb, h1, co, h2, cu, h3, re, h4, ld, h5, lim, h6, det, h7, ldet, h8, cs, h9, rfl⟩ := h
    exact ⟨hc, rb, h1, co, h2, cu, h3, re, h4, ld, h5, lim, h6, det, h7, ldet, h8, cs, readCells_of_strict h9,
      rfl⟩
  | _ => simp [readSliceS] at h

theorem plainReadStrict_slices (ss : List JVal) :
    plainReadStrict (.obj [("slices", .arr ss)]) = (ss.mapM readSliceS).map List.flatten := by
  simp [plainReadStrict]

theorem plainReadStrict_inv {j cells} (h : plainReadStrict j = some cells) :
    ∃ ss lss, j = .obj [("slices", .arr ss)] ∧ ss.mapM readSliceS = some lss ∧ lss.flatten = cells := by
  unfold plainReadStrict at h
  split at h
  · obtain ⟨lss, hm, rfl⟩ := Option.map_eq_some_iff.mp h
    exact ⟨_, lss, rfl, hm, rfl⟩
  · cases h

theorem plainRead_of_strict {j cells} (h : plainReadStrict j = some cells) : plainRead j = some cells := by
  obtain ⟨ss, lss, rfl, hm, rfl⟩ := plainReadStrict_inv h
  rw [plainRead_slices, mapM_some_imp (k := id) (fun _ _ => readSlice_of_strict) hm, List.map_id]
  rfl

end Bermuda.JsonIO
