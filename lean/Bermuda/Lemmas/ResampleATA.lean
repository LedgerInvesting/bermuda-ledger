/-
Lemmas about the age-to-age arithmetic (`Model/ResampleATA.lean`): the chained product, identity resampling, the
development loop along one row, `bootstrapD` (numpy's index draws) as an instance of `bootstrap` (factor tables), the
empirical and the resampled table inverted.
`field_simp` and `positivity` are imported for the arithmetic theorems of `Properties/C17.lean`.
-/
import Bermuda.Model.ResampleATA
import Bermuda.Lemmas.Resample
import Mathlib.Tactic.Ring
import Mathlib.Tactic.FieldSimp
import Mathlib.Tactic.Positivity
namespace Bermuda.Resample

/-! ### the chained product -/

theorem chainTail_length (a : Rat) (xs : List Rat) : (chainTail a xs).length = xs.length := by
  induction xs generalizing a with
  | nil => rfl
  | cons x xs ih => simp [chainTail, ih]

theorem prodQ_cons (x : Rat) (xs : List Rat) : prodQ (x :: xs) = x * prodQ xs := rfl

/-- the `k`-th developed value is the start value times the product of the first `k+1` factors -/
theorem chainTail_getD (a : Rat) (xs : List Rat) (k : Nat) (hk : k < xs.length) :
    (chainTail a xs).getD k 0 = a * prodQ (xs.take (k + 1)) := by
  induction xs generalizing a k with
  | nil => simp at hk
  | cons x xs ih =>
    cases k with
    | zero => simp [chainTail, prodQ]
    | succ k =>
      have hk' : k < xs.length := by simpa using hk
      simp only [chainTail, List.getD_cons_succ, List.take_succ_cons, prodQ_cons]
      rw [ih (a * x) k hk']
      ring

theorem gatherE_map (arr : List Rat) (idx : List Nat) (h : ∀ j ∈ idx, j < arr.length) :
    gatherE arr idx = .ok (idx.map (arr.getD · 0)) := by
  rw [gatherE, mapMExcept_eq_mapM]
  refine mapM_ok_of_all fun j hj => ?_
  rw [List.getD_eq_getElem?_getD, List.getElem?_eq_getElem (h j hj)]
  rfl

/-- `arr[[0, 1, …, len-1]]` is `arr` -/
theorem gatherE_range (arr : List Rat) : gatherE arr (List.range arr.length) = .ok arr := by
  rw [gatherE_map arr _ (fun j hj => List.mem_range.mp hj), map_getD_range]

theorem gatherE_mem {arr r : List Rat} {idx : List Nat} (h : gatherE arr idx = .ok r) : ∀ x ∈ r, x ∈ arr := by
  intro x hx
  obtain ⟨j, _, hj⟩ := forall₂_mem_right (mapMExcept_forall₂ h) x hx
  split at hj
  · rename_i y hy
    cases hj
    exact List.mem_of_getElem? hy
  · cases hj

/-! ### one step of `_develop_triangle_by_atas` on one field -/

/-- what `developItems` writes for a field of the previous developed values that is in the table -/
theorem developItems_get {c : Cell} {tbl : List (String × List Rat)} {pidx : Nat} {f : String}
    {arr : List Rat} (htbl : assoc? tbl f = some arr) {vals its : Dict Val} {w : Val}
    (h : developItems c tbl pidx vals = .ok its) (hv : vals.get? f = some w) :
      (truthy (c.values.get? f) = .ok true ∧ ∃ x nv, arr[pidx]? = some x ∧ mulVal w x = .ok nv ∧
          its.get? f = some nv) ∨
      (truthy (c.values.get? f) = .ok false ∧ its.get? f = some .none) := by
  have hv' : Dict.get? (vals.filter fun p => (assoc? tbl p.1).isSome) f = some w :=
    (Assoc.get?_filter_key vals (fun g => (assoc? tbl g).isSome) f).trans (by rw [htbl]; exact hv)
  obtain ⟨nv, hget, _, arr', harr', hw⟩ := get?_forall₂ (fun _ _ h => h.1) (developItems_ok h) hv'
  obtain rfl := Option.some.inj (htbl.symm.trans harr')
  rcases hw with ⟨htr, x, hx, hmul⟩ | ⟨htr, rfl⟩
  · exact Or.inl ⟨htr, x, nv, hx, hmul, hget⟩
  · exact Or.inr ⟨htr, hget⟩

/-! ### the loop along one period's row -/

/-- a cell of a row after its first, for the field `f`: not the period's earliest lag, `f` truthy, and `x` is the
entry `resampled_atas[lag][f][period_idx]` -/
def RowCell (t : List Cell) (F : Factors) (f : String) (c : Cell) (x : Rat) : Prop :=
  initialLag t (c.ps, c.pe) ≠ some c.devLag ∧ c.values.keys.Nodup ∧
  truthy (c.values.get? f) = .ok true ∧
  ∃ tbl arr, assoc? F c.devLag = some tbl ∧ assoc? tbl f = some arr ∧
    arr[(periodsOf t).idxOf (c.ps, c.pe)]? = some x

theorem numGet_some {d : Dict Val} {f : String} {a : Rat} (h : numGet d f = some a) :
    ∃ v, d.get? f = some v ∧ ∀ x, mulVal v x = .ok (.flt (a * x)) := by
  unfold numGet at h
  split at h
  · rename_i i hi; cases h; exact ⟨_, hi, fun x => rfl⟩
  · rename_i q hq; cases h; exact ⟨_, hq, fun x => rfl⟩
  · cases h

theorem scan_row {t : List Cell} {F : Factors} {f : String} {row : List Cell} {xs : List Rat}
    (hrow : List.Forall₂ (RowCell t F f) row xs) : ∀ {vals : Dict Val} {a : Rat} {os : List Cell},
    Scan (DevStep t F) (·.values) vals row os → vals.keys.Nodup → numGet vals f = some a →
    List.Forall₂ (fun o y => numGet o.values f = some y) os (chainTail a xs) := by
  induction hrow with
  | nil => intro vals a os H _ _; cases H; exact .nil
  | @cons c x row' xs' hc _ ih =>
    intro vals a os H hnd ha
    obtain ⟨hinit, hcnd, htr, tbl, arr, hF, htbl, hx⟩ := hc
    obtain ⟨v, hv, hmul⟩ := numGet_some ha
    cases H with
    | cons hs ht =>
      cases hs with
      | first h0 => exact absurd h0 hinit
      | bare _ he => subst he; simp [Dict.get?] at hv
      | @items _ its _ _ hF' hits =>
        obtain rfl := Option.some.inj (hF.symm.trans hF')
        -- `f` is truthy in `c`: the item written for it is the previous value times the factor
        obtain ⟨_, x', nv, hx', h1, h2⟩ | ⟨htr', _⟩ := developItems_get htbl hits hv
        · obtain rfl := Option.some.inj (hx.symm.trans hx')
          rw [hmul x] at h1; cases h1
          have hget := dget_union_of_get c.values ((developItems_sublist hits).nodup hnd) h2
          have hnum : numGet (Dict.union c.values its) f = some (a * x) := by simp only [numGet, hget]
          exact .cons hnum (ih ht (Assoc.nodup_keys_union hcnd its) hnum)
        · cases htr.symm.trans htr'

/-! ### the draws-as-indices model is an instance of the factor-table model -/

theorem replicateD_atas {s rep : List Cell} {fields : List String} {d : Draws} {i : Nat}
    (h : replicateD s fields d i = .ok rep) (hu : useAtas s = true) :
    ∃ F out, resampledAtas s fields d.I = .ok F ∧ developByAtas s F = .ok out ∧ tagBootstrap out i = .ok rep := by
  simp only [replicateD, hu, if_true] at h
  split at h
  · cases h
  · rename_i F hF
    simp only [replicate, hu, if_true] at h
    split at h
    · cases h
    · rename_i out hout
      exact ⟨F, out, hF, hout, h⟩

/-- one direction only: where `resampledAtas` fails `replicateD` fails, but `paramOf` falls back to the empty table and
`replicate` runs on it -/
theorem replicateD_eq {s : List Cell} {fields : List String} {d : Draws} {i : Nat} {rep : List Cell}
    (h : replicateD s fields d i = .ok rep) : replicate s fields (paramOf s fields d) i = .ok rep := by
  by_cases hu : useAtas s = true
  · obtain ⟨F, out, hF, hout, ht⟩ := replicateD_atas h hu
    simp only [replicate, hu, if_true, paramOf, hF, hout]
    exact ht
  · simp only [replicateD, hu, Bool.false_eq_true, if_false] at h
    simp only [replicate, hu, Bool.false_eq_true, if_false, paramOf] at h ⊢
    exact h

theorem bootstrapSliceD_eq {s : List Cell} {n : Nat} {field : Option (List String)} {D : Nat → Draws}
    {reps : List (List Cell)} (h : bootstrapSliceD s n field D = .ok reps) :
    bootstrapSlice s n field (fun i => paramOf s (field.getD (fieldsOf s)) (D i)) = .ok reps :=
  mapMExcept_congr_ok h (fun _ _ _ hb => replicateD_eq hb)

theorem bootstrapD_eq_with (t : List Cell) (n : Int) (field : Option (List String)) (D : Nat → Nat → Draws) :
    bootstrapD t n field D =
      bootstrapWith (fun s k i => replicateD s (field.getD (fieldsOf s)) (D k i) i) t n := rfl

/-- **bridge**: whatever `bootstrapD` returns for index draws `D`, the factor-table model `bootstrap` returns
for the factor tables computed from them — so every structural theorem about `bootstrap` (for EVERY table)
applies to `bootstrapD` -/
theorem bootstrapD_eq {t : List Cell} {n : Int} {field : Option (List String)} {D : Nat → Nat → Draws}
    {reps : List (List Cell)} (h : bootstrapD t n field D = .ok reps) :
    bootstrap t n field (fun k i =>
      paramOf (((Triangle.slices t).map (·.2)).getD k []) (field.getD (fieldsOf (((Triangle.slices t).map (·.2)).getD k [])))
        (D k i)) = .ok reps := by
  rw [bootstrapD_eq_with] at h
  rw [bootstrap_eq_with]
  refine bootstrapWith_congr h fun s k hm i r hr => ?_
  have hk : ((Triangle.slices t).map (·.2))[k]? = some s := by
    simpa using List.mem_zipIdx_iff_getElem?.mp hm
  rw [List.getD_eq_getElem?_getD, hk]
  exact replicateD_eq hr

theorem ataTable_ok {s : List Cell} {fields : List String} {A : Factors} (h : ataTable s fields = .ok A) :
    List.Forall₂ (fun (lp : Rat × Rat) (lt : Rat × List (String × List Rat)) => lt.1 = lp.1 ∧
      ∃ cl, clipLags s lp.2 lp.1 = .ok cl ∧
        List.Forall₂ (fun f (fa : String × List Rat) => fa.1 = f ∧
          mapMExcept (fun p : Cell × Cell => safeAtaDiv (p.1.values.get? f) (p.2.values.get? f)) (lagPairs cl) = .ok fa.2)
          fields lt.2)
      ((sortedLags s).tail.zip (sortedLags s)) A := by
  refine (mapMExcept_forall₂ h).imp fun lp lt h => ?_
  split at h
  · cases h
  · rename_i cl hcl
    split at h
    · cases h
    · rename_i tbl htbl
      cases h
      refine ⟨rfl, cl, hcl, (mapMExcept_forall₂ htbl).imp fun f fa h => ?_⟩
      unfold ataColumn at h
      split at h
      · cases h
      · cases h; exact ⟨rfl, ‹_›⟩

theorem resampledAtas_ok {s : List Cell} {fields : List String} {I : IdxTable} {F : Factors} :
    resampledAtas s fields I = .ok F ↔ ∃ A, ataTable s fields = .ok A ∧
      List.Forall₂ (fun (lt lt' : Rat × List (String × List Rat)) => lt'.1 = lt.1 ∧
        List.Forall₂ (fun (fa fa' : String × List Rat) => fa'.1 = fa.1 ∧
          gatherE fa.2 (idxOf I lt.1 fa.1) = .ok fa'.2) lt.2 lt'.2) A F := by
  unfold resampledAtas
  cases ataTable s fields with
  | error e => exact ⟨nofun, fun ⟨_, h, _⟩ => nomatch h⟩
  | ok A =>
    show mapMExcept _ A = .ok F ↔ _
    rw [mapMExcept_ok_iff]
    constructor
    · refine fun h => ⟨A, rfl, h.imp fun lt lt' h => ?_⟩
      split at h
      · cases h
      · rename_i tbl htbl
        cases h
        refine ⟨rfl, (mapMExcept_forall₂ htbl).imp fun fa fa' h => ?_⟩
        split at h
        · cases h
        · cases h; exact ⟨rfl, ‹_›⟩
    · rintro ⟨_, hA, h⟩
      cases hA
      refine h.imp fun lt lt' h => ?_
      split
      · rename_i e he
        cases he.symm.trans (mapMExcept_ok_iff.mpr (h.2.imp fun fa fa' h => by rw [h.2, ← h.1]))
      · rename_i tbl htbl
        cases htbl.symm.trans (mapMExcept_ok_iff.mpr (h.2.imp fun fa fa' h => by rw [h.2, ← h.1]))
        rw [← h.1]

theorem ataTable_keys {s : List Cell} {fields : List String} {A : Factors} (h : ataTable s fields = .ok A) :
    ∀ lt ∈ A, lt.2.map (·.1) = fields := by
  intro lt hlt
  obtain ⟨_, _, _, _, _, hcols⟩ := forall₂_mem_right (ataTable_ok h) lt hlt
  exact (forall₂_map_eq (f := id) (hcols.imp fun _ _ h => h.1)).trans (List.map_id _)

theorem resampledAtas_keys {s : List Cell} {fields : List String} {I : IdxTable} {F : Factors}
    (h : resampledAtas s fields I = .ok F) : ∀ lt ∈ F, lt.2.map (·.1) = fields := by
  intro lt' hlt'
  obtain ⟨A, hA, hAF⟩ := resampledAtas_ok.mp h
  obtain ⟨lt, hlt, _, hcols⟩ := forall₂_mem_right hAF lt' hlt'
  exact (forall₂_map_eq (hcols.imp fun _ _ h => h.1)).trans (ataTable_keys hA lt hlt)

end Bermuda.Resample
