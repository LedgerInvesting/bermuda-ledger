/-
Lemmas for the HeapIR discipline (property C03), part 1: the ghost TYPING of the locations allocated
during a call, the concretisation of abstract classes/environments, and how an allocation and a write
into a typed location preserve "the heap is well typed" (`Typed`) and the frame `PreservesW n0 W`; `Ext`
puts the two together with the growth of the typing: the order in which a call moves from heap to heap.
-/
import Bermuda.Lemmas.HeapIROrder
import Bermuda.Lemmas.Heap
namespace Bermuda.HeapIR
open Bermuda.Heap

/-- which locations were allocated by the running call, and at which level -/
abbrev Typing := Loc → Option Lvl

variable {n n0 : Nat} {W : Loc → Prop} {τ τ' : Typing} {h : Heap}

def SatCls (τ : Typing) : Cls → Ref → Prop
  | .scalar, r => ∀ l, r ≠ .loc l
  | .lv t, r => ∀ l, r = .loc l → ∃ t', τ l = some t' ∧ t'.sub t = true
  | .any, _ => True

def EntryOK (τ : Typing) (t : Lvl) (r : Ref) : Prop :=
  match t.elem with
  | none => True
  | some t' => SatCls τ (.lv t') r

/-- the heap is well typed. `W`: the locations the call MAY write although they existed at entry (the objects
of the unprotected arguments); every location of level `ext` is one of them. Every other typed location was allocated
after entry (`n0 ≤ l`); `num` locations hold arrays; the entries of a typed dict-like object respect its level. -/
structure Typed (n0 : Nat) (W : Loc → Prop) (τ : Typing) (h : Heap) : Prop where
  bound : ∀ (l : Nat) t, τ l = some t → l < h.size ∧ (t ≠ .ext → n0 ≤ l)
  extW : ∀ l, τ l = some .ext → W l
  isArr : ∀ l, τ l = some .num → ∃ d, h.get l = some (.arr d)
  entries : ∀ l t es, τ l = some t → h.get l = some (.dict es) → ∀ e ∈ es, EntryOK τ t e.2

/-- THE FRAME: every location that existed at entry (`< n0`) and is not the object of an unprotected argument
(`W`) holds the same object; and (for the callers' typing) an array stays an array everywhere -/
def PreservesW (n : Nat) (W : Loc → Prop) (h h' : Heap) : Prop :=
  n ≤ h'.size ∧ (∀ l, l < n → ¬ W l → h'.get l = h.get l) ∧
    ∀ l d, l < n → h.get l = some (.arr d) → ∃ d', h'.get l = some (.arr d')

theorem PreservesW.refl (hn : n ≤ h.size) : PreservesW n W h h :=
  ⟨hn, fun _ _ _ => rfl, fun _ d _ hd => ⟨d, hd⟩⟩

theorem PreservesW.trans {h₁ h₂ h₃ : Heap} (a : PreservesW n W h₁ h₂)
    (b : PreservesW n W h₂ h₃) : PreservesW n W h₁ h₃ :=
  ⟨b.1, fun l hl hw => (b.2.1 l hl hw).trans (a.2.1 l hl hw), fun l d hl hd => by
    obtain ⟨d', hd'⟩ := a.2.2 l d hl hd
    exact b.2.2 l d' hl hd'⟩

/-- a frame for a later, larger entry point and fewer writable locations restricts to the earlier one -/
theorem PreservesW.mono {m : Nat} {V : Loc → Prop} {h' : Heap} (hnm : n ≤ m)
    (hvw : ∀ l, l < n → V l → W l) (a : PreservesW m V h h') : PreservesW n W h h' :=
  ⟨Nat.le_trans hnm a.1,
   fun l hl hw => a.2.1 l (Nat.lt_of_lt_of_le hl hnm) (fun hv => hw (hvw l hl hv)),
   fun l d hl hd => a.2.2 l d (Nat.lt_of_lt_of_le hl hnm) hd⟩

theorem PreservesW.of_preserves {h' : Heap} (a : Preserves n h h') : PreservesW n W h h' :=
  ⟨a.1, fun l hl _ => a.2 l hl, fun l d hl hd => ⟨d, by rw [a.2 l hl]; exact hd⟩⟩

/-- with no unprotected argument the frame is `Preserves` -/
theorem PreservesW.to_preserves {n : Nat} {h h' : Heap} (a : PreservesW n (fun _ => False) h h') :
    Preserves n h h' := ⟨a.1, fun l hl => a.2.1 l hl (fun hf => hf)⟩

/-- from `h` itself: steps are composed by `Ext.trans`, not by application as in `Lemmas/Heap` -/
theorem preservesW_set (hn : n ≤ h.size) {l : Loc} (hl : n ≤ l ∨ W l) (o : Obj)
    (hkeep : ∀ d, h.get l = some (.arr d) → ∃ d', o = .arr d') :
    PreservesW n W h (h.set l o) := by
  refine ⟨by rw [size_set]; exact hn, fun l' hl' hw => get_set_ne h l o ?_, ?_⟩
  · intro heq
    subst heq
    rcases hl with h1 | h1
    · exact absurd hl' (Nat.not_lt.mpr h1)
    · exact hw h1
  · intro l' d hl' hd
    by_cases heq : l = l'
    · subst heq
      obtain ⟨d', rfl⟩ := hkeep d hd
      exact ⟨d', get_set_eq h (Nat.lt_of_lt_of_le hl' hn) _⟩
    · exact ⟨d, by rw [get_set_ne h l o heq]; exact hd⟩

def Typing.le (τ τ' : Typing) : Prop := ∀ l t, τ l = some t → τ' l = some t

theorem Typing.le_refl (τ : Typing) : τ.le τ := fun _ _ h => h
theorem Typing.le_trans {a b c : Typing} (h1 : a.le b) (h2 : b.le c) : a.le c :=
  fun l t h => h2 l t (h1 l t h)

def SatEnv (τ : Typing) (a : AEnv) (env : List Ref) : Prop :=
  ∀ x, SatCls τ (a.get x) (env.getD x .none)

theorem SatCls.mono (hle : τ.le τ') {c : Cls} {r : Ref} (h : SatCls τ c r) : SatCls τ' c r := by
  cases c with
  | scalar => exact h
  | any => trivial
  | lv t =>
    intro l hl
    obtain ⟨t', h1, h2⟩ := h l hl
    exact ⟨t', hle l t' h1, h2⟩

theorem SatCls.of_le {c d : Cls} (hle : c.le d = true) {r : Ref} (h : SatCls τ c r) : SatCls τ d r := by
  cases d with
  | any => trivial
  | scalar => rw [Cls.le_scalar hle] at h; exact h
  | lv t =>
    rcases Cls.le_lv hle with rfl | ⟨t', rfl, hs⟩
    · intro l hl; exact absurd hl (h l)
    · intro l hl
      obtain ⟨t'', h1, h2⟩ := h l hl
      exact ⟨t'', h1, Lvl.sub_trans h2 hs⟩

theorem SatCls.nonloc (c : Cls) {r : Ref} (h : ∀ l, r ≠ .loc l) : SatCls τ c r :=
  SatCls.of_le (Cls.scalar_le c) (c := .scalar) h

theorem EntryOK.of_elem_none {t : Lvl} (h : t.elem = none) (r : Ref) : EntryOK τ t r := by
  unfold EntryOK; rw [h]; trivial

theorem EntryOK.iff_of_elem_some {t t' : Lvl} (h : t.elem = some t') {r : Ref} : EntryOK τ t r ↔ SatCls τ (.lv t') r := by
  unfold EntryOK; rw [h]

theorem EntryOK.imp {t : Lvl} {r : Ref} (f : ∀ t', t.elem = some t' → SatCls τ (.lv t') r → SatCls τ' (.lv t') r)
    (h : EntryOK τ t r) : EntryOK τ' t r := by
  cases ht : t.elem with
  | none => exact .of_elem_none ht r
  | some t' => exact (EntryOK.iff_of_elem_some ht).mpr (f t' ht ((EntryOK.iff_of_elem_some ht).mp h))

theorem EntryOK.mono (hle : τ.le τ') {t : Lvl} {r : Ref} (h : EntryOK τ t r) : EntryOK τ' t r :=
  h.imp fun _ _ => SatCls.mono hle

theorem SatEnv.mono (hle : τ.le τ') {a : AEnv} {env : List Ref} (h : SatEnv τ a env) :
    SatEnv τ' a env := fun x => (h x).mono hle

theorem SatEnv.set {a : AEnv} {env : List Ref} (h : SatEnv τ a env) (x : Var) {c : Cls} {r : Ref}
    (hc : SatCls τ c r) : SatEnv τ (a.set x c) (setPad .none env x r) := by
  intro y
  rw [AEnv.get_set, getD_setPad]
  split
  · exact hc
  · exact h y

theorem SatEnv.update_same {a : AEnv} {env : List Ref} (h : SatEnv τ a env) (x : Var) {r : Ref}
    (hc : SatCls τ (a.get x) r) : SatEnv τ a (setPad .none env x r) := by
  intro y
  rw [getD_setPad]
  split
  · subst_vars; exact hc
  · exact h y

theorem SatEnv.of_le {a b : AEnv} (hle : a.le b = true) {env : List Ref} (h : SatEnv τ a env) :
    SatEnv τ b env := fun x => (h x).of_le (AEnv.le_iff_get.mp hle x)

theorem SatEnv.join_left {a : AEnv} (b : AEnv) {env : List Ref} (h : SatEnv τ a env) :
    SatEnv τ (a.join b) env := by
  intro x
  rw [AEnv.get_join]
  exact (h x).of_le (Cls.le_join_left _ _)

theorem SatEnv.join_right (a : AEnv) {b : AEnv} {env : List Ref} (h : SatEnv τ b env) :
    SatEnv τ (a.join b) env := by
  intro x
  rw [AEnv.get_join]
  exact (h x).of_le (Cls.le_join_right _ _)

/-- the abstract exit `o` is reachable and describes `env` -/
def Covers (τ : Typing) (o : Option AEnv) (env : List Ref) : Prop := ∃ a, o = some a ∧ SatEnv τ a env

theorem Covers.ojoin_left {o : Option AEnv} (p : Option AEnv) {env : List Ref} (h : Covers τ o env) :
    Covers τ (ojoin o p) env := by
  obtain ⟨a, rfl, ha⟩ := h
  cases p with
  | none => exact ⟨a, rfl, ha⟩
  | some b => exact ⟨a.join b, rfl, ha.join_left b⟩

theorem Covers.ojoin_right (o : Option AEnv) {p : Option AEnv} {env : List Ref} (h : Covers τ p env) :
    Covers τ (ojoin o p) env := by
  obtain ⟨b, rfl, hb⟩ := h
  cases o with
  | none => exact ⟨b, rfl, hb⟩
  | some a => exact ⟨a.join b, rfl, hb.join_right a⟩

theorem Covers.mono {τ τ' : Typing} (hle : τ.le τ') {o : Option AEnv} {env : List Ref} (h : Covers τ o env) :
    Covers τ' o env := by
  obtain ⟨a, rfl, ha⟩ := h
  exact ⟨a, rfl, ha.mono hle⟩

def Typing.add (τ : Typing) (l : Loc) (t : Lvl) : Typing := fun l' => if l' = l then some t else τ l'

theorem Typing.le_add (ht : Typed n0 W τ h) (t : Lvl) :
    τ.le (τ.add h.size t) := by
  intro l t' hl
  have := (ht.bound l t' hl).1
  simp only [Typing.add]
  rw [if_neg (Nat.ne_of_lt this)]
  exact hl

theorem Typing.add_self (τ : Typing) (l : Loc) (t : Lvl) : τ.add l t l = some t := if_pos rfl

theorem SatCls.add_self (τ : Typing) (l : Loc) (t : Lvl) : SatCls (τ.add l t) (.lv t) (.loc l) :=
  fun _ hl => by cases hl; exact ⟨t, Typing.add_self .., Lvl.sub_refl t⟩

theorem Typing.add_some {l l' : Loc} {t t' : Lvl} (h : τ.add l t l' = some t') :
    (l' = l ∧ t = t') ∨ τ l' = some t' := by
  unfold Typing.add at h
  split at h
  · exact .inl ⟨‹_›, Option.some.inj h⟩
  · exact .inr h

/-- allocation of an object whose entries respect level `t` (never `ext`: that level is not allocated) -/
theorem Typed.alloc (ht : Typed n0 W τ h) (hn : n0 ≤ h.size)
    (t : Lvl) (o : Obj) (hte : t ≠ .ext)
    (harr : t = .num → ∃ d, o = .arr d)
    (hent : ∀ es, o = .dict es → ∀ e ∈ es, EntryOK τ t e.2) :
    Typed n0 W (τ.add h.size t) (h.alloc o).1 := by
  have hle := Typing.le_add ht t
  refine ⟨fun l t' hl => ?_, fun l hl => ?_, fun l hl => ?_, fun l t' es hl hg e he => ?_⟩
  · rw [size_alloc]
    rcases Typing.add_some hl with ⟨rfl, _⟩ | h1
    · exact ⟨Nat.lt_succ_self _, fun _ => hn⟩
    · exact ⟨Nat.lt_succ_of_lt (ht.bound l t' h1).1, (ht.bound l t' h1).2⟩
  · rcases Typing.add_some hl with ⟨_, h1⟩ | h1
    · exact absurd h1 hte
    · exact ht.extW l h1
  · rcases Typing.add_some hl with ⟨rfl, h1⟩ | h1
    · obtain ⟨d, rfl⟩ := harr h1
      exact ⟨d, get_alloc_self h _⟩
    · obtain ⟨d, hd⟩ := ht.isArr l h1
      exact ⟨d, by rw [get_alloc_lt h o (ht.bound l _ h1).1]; exact hd⟩
  · rcases Typing.add_some hl with ⟨rfl, rfl⟩ | h1
    · rw [get_alloc_self] at hg
      exact (hent es (Option.some.inj hg) e he).mono hle
    · rw [get_alloc_lt h o (ht.bound l _ h1).1] at hg
      exact (ht.entries l t' es h1 hg e he).mono hle

/-- a write into a typed location keeping the kind of object and the level of its entries -/
theorem Typed.set (ht : Typed n0 W τ h) {l : Loc} {t : Lvl}
    (hl : τ l = some t)
    (o : Obj) (harr : t = .num → ∃ d, o = .arr d)
    (hent : ∀ es, o = .dict es → ∀ e ∈ es, EntryOK τ t e.2) :
    Typed n0 W τ (h.set l o) := by
  have hb := (ht.bound l t hl).1
  refine ⟨?_, ht.extW, ?_, ?_⟩
  · intro l' t' hl'
    rw [size_set]
    exact ht.bound l' t' hl'
  · intro l' hl'
    by_cases hll : l = l'
    · subst hll
      rw [hl] at hl'
      obtain ⟨d, rfl⟩ := harr (Option.some.inj hl')
      exact ⟨d, get_set_eq h hb _⟩
    · rw [get_set_ne h l o hll]
      exact ht.isArr l' hl'
  · intro l' t' es hl' hg e he
    by_cases hll : l = l'
    · subst hll
      rw [get_set_eq h hb] at hg
      rw [hl] at hl'
      cases Option.some.inj hl'
      exact hent es (Option.some.inj hg) e he
    · rw [get_set_ne h l o hll] at hg
      exact ht.entries l' t' es hl' hg e he

theorem Typed.writable (ht : Typed n0 W τ h) {l : Loc} {t : Lvl} (hl : τ l = some t) : n0 ≤ l ∨ W l := by
  by_cases hext : t = .ext
  · exact .inr (ht.extW l (hext ▸ hl))
  · exact .inl ((ht.bound l t hl).2 hext)

/-- the typed heap `(τ', h')` is a future of `(τ, h)` inside the call: the order along which `SatCls`, `EntryOK`,
`SatEnv`, `Covers` are monotone; an allocation and a write into a typed location are its steps -/
structure Ext (n0 : Nat) (W : Loc → Prop) (τ : Typing) (h : Heap) (τ' : Typing) (h' : Heap) : Prop where
  le : τ.le τ'
  typed : Typed n0 W τ' h'
  frame : PreservesW n0 W h h'

theorem Ext.refl (ht : Typed n0 W τ h) (hn : n0 ≤ h.size) : Ext n0 W τ h τ h :=
  ⟨Typing.le_refl τ, ht, PreservesW.refl hn⟩

theorem Ext.trans {τ'' : Typing} {h' h'' : Heap} (a : Ext n0 W τ h τ' h') (b : Ext n0 W τ' h' τ'' h'') :
    Ext n0 W τ h τ'' h'' :=
  ⟨Typing.le_trans a.le b.le, b.typed, a.frame.trans b.frame⟩

theorem Ext.size {h' : Heap} (a : Ext n0 W τ h τ' h') : n0 ≤ h'.size := a.frame.1

theorem Ext.alloc (ht : Typed n0 W τ h) (hn : n0 ≤ h.size) (t : Lvl) (o : Obj) (hte : t ≠ .ext)
    (harr : t = .num → ∃ d, o = .arr d) (hent : ∀ es, o = .dict es → ∀ e ∈ es, EntryOK τ t e.2) :
    Ext n0 W τ h (τ.add h.size t) (h.alloc o).1 :=
  ⟨Typing.le_add ht t, ht.alloc hn t o hte harr hent, .of_preserves ((Preserves.refl hn).alloc o)⟩

theorem Ext.set (ht : Typed n0 W τ h) (hn : n0 ≤ h.size) {l : Loc} {t : Lvl} (hl : τ l = some t) (o : Obj)
    (harr : t = .num → ∃ d, o = .arr d) (hent : ∀ es, o = .dict es → ∀ e ∈ es, EntryOK τ t e.2)
    (hkeep : ∀ d, h.get l = some (.arr d) → ∃ d', o = .arr d') : Ext n0 W τ h τ (h.set l o) :=
  ⟨Typing.le_refl τ, ht.set hl o harr hent, preservesW_set hn (ht.writable hl) o hkeep⟩

/-- the level is exactly `t`: the only other level below `t`, `num`, holds arrays -/
theorem Typed.dict_of_sat (ht : Typed n0 W τ h) {t : Lvl} {l : Loc}
    {es : List (String × Ref)} (hr : SatCls τ (.lv t) (.loc l)) (hg : h.get l = some (.dict es)) :
    τ l = some t ∧ t ≠ .num ∧ ∀ e ∈ es, EntryOK τ t e.2 := by
  have notArr : ∀ {t'}, τ l = some t' → t' ≠ .num := fun h1 hnum => by
    obtain ⟨d, hd⟩ := ht.isArr l (hnum ▸ h1)
    rw [hd] at hg; cases hg
  obtain ⟨t', h1, h2⟩ := hr l rfl
  rcases Lvl.sub_iff.mp h2 with rfl | ⟨rfl, _⟩
  · exact ⟨h1, notArr h1, ht.entries l t' es h1 hg⟩
  · exact absurd rfl (notArr h1)

/-- the entries of a reference of class `lv t` respect level `t` (an array, an immutable value and a
missing object have no entries) -/
theorem contents_entryOK (ht : Typed n0 W τ h) {t : Lvl} {r : Ref}
    (hr : SatCls τ (.lv t) r) : ∀ e ∈ contents h r, EntryOK τ t e.2 := by
  intro e he
  unfold contents at he
  split at he
  · split at he
    · rename_i hg
      exact (ht.dict_of_sat hr hg).2.2 e he
    · cases he
  · cases he

end Bermuda.HeapIR
