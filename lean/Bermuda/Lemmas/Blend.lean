/-
C16 (blending): what each function of `Model/Blend.lean` returns, in the order of the model. The coordinate index is
`find?` on a triangle with pairwise distinct coordinates; `gatherCells`, `blendFields` and `blendLoop` are `List.mapM`;
`blend_ok` and `blend_inv` say what a successful `blend` is. The Spec bridges (`Lemmas/BlendSpec.lean`) and
`Properties/C16.lean` build on these.
-/
import Bermuda.Model.Blend
import Bermuda.Lemmas.ListFacts
import Bermuda.Lemmas.AssocModels
import Bermuda.Lemmas.ExceptFacts
import Bermuda.Lemmas.Forall2
import Bermuda.Lemmas.Canonical
import Mathlib.Tactic.Linarith
import Mathlib.Tactic.Ring
namespace Bermuda.Blend

theorem dot_bounds (w xs : List Rat) (lo hi : Rat) (hw : ∀ x ∈ w, 0 ≤ x) (hx : ∀ x ∈ xs, lo ≤ x ∧ x ≤ hi)
    (hl : w.length = xs.length) : lo * sumW w ≤ dot w xs ∧ dot w xs ≤ hi * sumW w := by
  induction w generalizing xs with
  | nil => simp [dot, sumW]
  | cons a w ih =>
    cases xs with
    | nil => cases hl
    | cons x xs =>
      obtain ⟨h1, h2⟩ := ih xs (fun y hy => hw y (List.mem_cons_of_mem _ hy))
        (fun y hy => hx y (List.mem_cons_of_mem _ hy)) (Nat.succ.inj hl)
      have ha := hw a List.mem_cons_self
      have l1 := mul_le_mul_of_nonneg_left (hx x List.mem_cons_self).1 ha
      have l2 := mul_le_mul_of_nonneg_left (hx x List.mem_cons_self).2 ha
      simp only [dot, sumW, List.foldr_cons] at h1 h2 ⊢
      exact ⟨by linarith only [h1, l1], by linarith only [h2, l2]⟩

theorem dot_const (w xs : List Rat) (v : Rat) (hx : ∀ x ∈ xs, x = v) (hl : w.length = xs.length) :
    dot w xs = v * sumW w := by
  induction w generalizing xs with
  | nil => simp [dot, sumW]
  | cons a w ih =>
    cases xs with
    | nil => cases hl
    | cons x xs =>
      have h1 := ih xs (fun y hy => hx y (List.mem_cons_of_mem _ hy)) (Nat.succ.inj hl)
      simp only [dot, sumW, List.foldr_cons] at h1 ⊢
      rw [h1, hx x List.mem_cons_self]; ring

/-! ### `mapE` (it is `List.mapM`: `mapE_eq_mapM`, `Lemmas/ExceptFacts.lean`) -/

theorem mapE_ok_length {α β} {f : α → Except Err β} {l : List α} {r : List β}
    (h : mapE f l = .ok r) : r.length = l.length :=
  mapM_ok_length (mapE_eq_mapM f l ▸ h)

theorem mapE_ok_getElem {α β} {f : α → Except Err β} {l : List α} {r : List β}
    (h : mapE f l = .ok r) (i : Nat) (hi : i < l.length) :
    f l[i] = .ok (r[i]'(by rw [mapE_ok_length h]; exact hi)) :=
  mapM_ok_getElem (mapE_eq_mapM f l ▸ h) i hi

theorem mapE_error_of_mem {α β} {f : α → Except Err β} {l : List α} {e : Err}
    (hall : ∀ a ∈ l, ∀ b, f a = .ok b ∨ f a = .error e → True)
    (hex : ∃ a ∈ l, f a = .error e) (hothers : ∀ a ∈ l, ∀ e', f a = .error e' → e' = e) :
    mapE f l = .error e :=
  mapE_eq_mapM f l ▸ mapM_error_of_forall hothers (hex.imp fun _ h => ⟨h.1, e, h.2⟩)

theorem weightList_dict_nil {vals : List WArr} (n : Nat) (hrows : vals.flatMap WArr.atleast2d = []) :
    weightList (.dict vals) n = .error .valueError := by
  simp only [weightList, hrows]

theorem weightList_dict {vals : List WArr} {r0 : List Rat} {rs : List (List Rat)} (n : Nat)
    (hrows : vals.flatMap WArr.atleast2d = r0 :: rs) :
    weightList (.dict vals) n =
      if (r0 :: rs).all (·.length == r0.length) = true ∧ (r0.length = 1 ∨ r0.length = n) then
        .ok ((List.range n).map fun i => some (column (r0 :: rs) (if r0.length = 1 then 0 else i)))
      else .error .valueError := by
  simp only [weightList, hrows]
  by_cases hrect : (r0 :: rs).all (·.length == r0.length) = true
  · simp only [hrect, true_and]
    by_cases h1 : r0.length = 1
    · simp [h1, List.map_const']
    · by_cases hn : r0.length = n
      · subst hn; simp [h1]
      · simp [h1, hn]
  · rw [if_neg hrect, if_neg (hrect ·.1)]

theorem weightList_length {w : Weights} {n : Nat} {wl} (h : weightList w n = .ok wl) : wl.length = n := by
  cases w with
  | none => cases h; exact List.length_replicate
  | list l => cases h; exact List.length_replicate
  | other => cases h
  | dict vals =>
    cases hrows : vals.flatMap WArr.atleast2d with
    | nil => rw [weightList_dict_nil n hrows] at h; cases h
    | cons r0 rs =>
      rw [weightList_dict n hrows] at h
      split at h
      · cases h; simp
      · cases h

theorem linear_value_core {vals : List Val} {w : List Rat} {out : Val}
    (h : linearBlend vals w = .ok out) :
    ∃ rows, mapE rowOf vals = .ok rows ∧
      out = .arr false [maxLen rows] (linearOut rows w (maxLen rows)) ∧
      (linearOut rows w (maxLen rows)).length = maxLen rows ∧
      (∀ r ∈ rows, r.length = 1 ∨ r.length = maxLen rows) ∧
      ∀ s (hs : s < (linearOut rows w (maxLen rows)).length),
        (linearOut rows w (maxLen rows))[s] = dot w (rows.map (bcast · s)) := by
  unfold linearBlend at h
  split at h
  · cases h
  · rename_i rows hrows
    dsimp only at h
    split at h
    · rename_i hall
      cases h
      refine ⟨rows, hrows, rfl, by simp [linearOut], ?_, ?_⟩
      · intro r hr
        have := List.all_eq_true.mp hall r hr
        simp only [Bool.or_eq_true, beq_iff_eq] at this
        exact this.symm
      · intro s hs
        simp [linearOut]
    · cases h

theorem linear_convex_core {vals : List Val} {w : List Rat} {rows : List (List Rat)}
    (hrows : mapE rowOf vals = .ok rows) (hlen : w.length = vals.length)
    (hw : ∀ x ∈ w, 0 ≤ x) (hsum : sumW w = 1) (s : Nat) (lo hi : Rat)
    (hb : ∀ x ∈ rows.map (bcast · s), lo ≤ x ∧ x ≤ hi) :
    lo ≤ dot w (rows.map (bcast · s)) ∧ dot w (rows.map (bcast · s)) ≤ hi := by
  have h := dot_bounds w _ lo hi hw hb (by rw [List.length_map, mapE_ok_length hrows, hlen])
  rwa [hsum, mul_one, mul_one] at h

theorem linear_agree_core {vals : List Val} {w : List Rat} {rows : List (List Rat)}
    (hrows : mapE rowOf vals = .ok rows) (hlen : w.length = vals.length)
    (hsum : sumW w = 1) (s : Nat) (v : Rat) (hv : ∀ x ∈ rows.map (bcast · s), x = v) :
    dot w (rows.map (bcast · s)) = v := by
  rw [dot_const w _ v hv (by rw [List.length_map, mapE_ok_length hrows, hlen]), hsum, mul_one]

theorem mixture_membership_core {vals : List Val} {w : List Rat} {idx : List Nat} {out : Val}
    (h : mixtureBlend vals w idx = .ok out) :
    ∃ (rows : List (List Rat)) (S : Nat) (data : List Rat),
      mapE samplesOf vals = .ok rows ∧ (∀ r ∈ rows, r.length = S) ∧
      out = .arr false [S] data ∧ data.length = S ∧
      ∀ i (hi : i < data.length) (j : Nat) (hj : j < rows.length), idx.getD i 0 = j →
        data[i] = (rows[j]).getD i 0 := by
  unfold mixtureBlend at h
  split at h
  · cases h
  · split at h
    · cases h
    · split at h
      · cases h
      · rename_i S hS
        split at h
        · cases h
        · split at h
          · cases h
          · rename_i rows hrows
            split at h
            · rename_i hall
              cases h
              refine ⟨rows, S, mixtureOut rows idx S, hrows, ?_, rfl, by simp [mixtureOut], ?_⟩
              · intro r hr
                have := List.all_eq_true.mp hall r hr
                simpa using this
              · intro i hi j hj hij
                subst hij
                simp only [mixtureOut, List.getElem_map, List.getElem_range]
                rw [List.getD_eq_getElem?_getD (l := rows), List.getElem?_eq_getElem hj]
                rfl
            · cases h

theorem blendSamples_ok_iff {vals : List Val} {w : Option (List Rat)} {m : Method} {idx : List Nat} {v : Val} :
    blendSamples vals w m idx = .ok v ↔
      (w.getD (List.replicate vals.length (1 / (vals.length : Rat)))).length = vals.length ∧
      (match m with
        | .mixture => mixtureBlend vals (w.getD (List.replicate vals.length (1 / (vals.length : Rat)))) idx
        | .linear => linearBlend vals (w.getD (List.replicate vals.length (1 / (vals.length : Rat))))) = .ok v := by
  cases w <;> cases m <;> simp [blendSamples] <;> split <;> simp [*]

theorem blendField_linear_ok {vals : List Val} {w : Option (List Rat)} {idx : List Nat} {v : Val}
    (h : blendField .linear vals w idx = .ok v) : blendSamples vals w .linear idx = .ok v := by
  cases vals with
  | nil => cases h
  | cons v0 rest => exact h

theorem blendField_mixture_ok_iff {v0 : Val} {rest : List Val} {w : Option (List Rat)} {idx : List Nat} {out : Val} :
    blendField .mixture (v0 :: rest) w idx = .ok out ↔ rest.all (sameType v0) = true ∧
      if isScalar v0 = true then out = v0 ∧ ∀ x ∈ rest, x = v0
      else blendSamples (v0 :: rest) w .mixture idx = .ok out := by
  -- three of the four cases are decided by the two tests; a scalar of one type with the others is left
  cases hty : rest.all (sameType v0) <;> cases hsc : isScalar v0 <;> simp [blendField, hty, hsc]
  split
  · next h => exact ⟨(nomatch ·), fun h' => let ⟨x, hx, hne⟩ := h; absurd (h'.2 x hx) hne⟩
  · next h =>
    exact ⟨fun h' => ⟨(Except.ok.inj h').symm, fun x hx => not_not.mp fun hne => h ⟨x, hx, hne⟩⟩, fun h' => h'.1 ▸ rfl⟩

theorem blendFields_eq_mapM (cells : List Cell) (w : Option (List Rat)) (m : Method)
    (idx : String → List Nat) (fs : List String) :
    blendFields cells w m idx fs =
      (fs.zip ·) <$> fs.mapM fun f => blendField m (fieldVals cells f) w (idx f) := by
  induction fs with
  | nil => rfl
  | cons f fs ih =>
    rw [blendFields, List.mapM_cons, ih]
    cases blendField m (fieldVals cells f) w (idx f) with
    | error e => rfl
    | ok v => cases List.mapM (m := Except Err) _ fs <;> rfl

theorem blendFields_inv {cells w m idx fs vs} (h : blendFields cells w m idx fs = .ok vs) :
    vs.map (·.1) = fs ∧ ∀ f v, (f, v) ∈ vs → blendField m (fieldVals cells f) w (idx f) = .ok v := by
  rw [blendFields_eq_mapM] at h
  obtain ⟨vals, hm, rfl⟩ := map_ok h
  obtain ⟨hlen, hz⟩ := mapM_ok_iff.mp hm
  exact ⟨List.map_fst_zip (Nat.le_of_eq hlen), hz⟩

theorem sameKeySet_self (a : List String) : sameKeySet a a = true := by
  simp [sameKeySet]

theorem blendCells_inv {c0 rest w m idx c} (h : blendCells (c0 :: rest) w m idx = .ok c) :
    c.coord = c0.coord ∧ c.kind = c0.kind ∧ c.values.keys = c0.values.keys ∧
    ∀ f v, (f, v) ∈ c.values → blendField m (fieldVals (c0 :: rest) f) w (idx f) = .ok v := by
  simp only [blendCells] at h
  split at h
  · split at h
    · cases h
    · rename_i vs hvs
      cases h
      exact ⟨rfl, rfl, blendFields_inv hvs⟩
  · cases h

theorem indexTriangle_nodup {t : List Cell} (h : (t.map Cell.coord).Nodup) :
    indexTriangle t = t.map fun c => (c.coord, c) := by
  unfold indexTriangle
  rw [show indexSet = fun d c => Assoc.set d c.coord c from funext₂ indexSet_eq_assoc]
  exact Assoc.foldl_set_fresh Cell.coord id t [] h

theorem mem_indexTriangle {t : List Cell} : ∀ p ∈ indexTriangle t, p.2 ∈ t ∧ p.1 = p.2.coord :=
  foldl_inv (fun d : List (Coord × Cell) => ∀ p ∈ d, p.2 ∈ t ∧ p.1 = p.2.coord) (fun _ h => nomatch h)
    fun d c hd hc => indexSet_eq_assoc d c ▸ Assoc.forall_mem_set hd ⟨hc, rfl⟩

theorem lookup_indexTriangle {t : List Cell} (h : (t.map Cell.coord).Nodup) (k : Coord) :
    lookup (indexTriangle t) k = t.find? (·.coord == k) := by
  rw [indexTriangle_nodup h, lookup, List.find?_map, Option.map_map]
  exact Option.map_id'

theorem lookup_indexTriangle_self {t : List Cell} (h : (t.map Cell.coord).Nodup) {c : Cell} (hc : c ∈ t) :
    lookup (indexTriangle t) c.coord = some c := by
  rw [indexTriangle_nodup h, lookup_eq_assoc]
  exact (Assoc.get?_eq_some_iff (by rwa [List.map_map])).mpr (List.mem_map.mpr ⟨c, hc, rfl⟩)

theorem lookup_indexTriangle_none {t : List Cell} {k : Coord} (hk : k ∉ t.map Cell.coord) :
    lookup (indexTriangle t) k = none := by
  rw [lookup_eq_assoc]
  refine Assoc.get?_eq_none_iff.mpr fun h => hk ?_
  obtain ⟨p, hp, rfl⟩ := List.mem_map.mp h
  obtain ⟨hm, e⟩ := mem_indexTriangle p hp
  exact e ▸ List.mem_map_of_mem hm

theorem gatherCells_eq_mapM (idxs : List (List (Coord × Cell))) (k : Coord) :
    gatherCells idxs k = idxs.mapM fun d => match lookup d k with
      | none => Except.error Err.valueError
      | some c => .ok c := by
  induction idxs with
  | nil => rfl
  | cons d ds ih =>
    rw [gatherCells, List.mapM_cons, ih]
    cases lookup d k with
    | none => rfl
    | some c => cases List.mapM (m := Except Err) _ ds <;> rfl

theorem gatherCells_ok_iff {idxs : List (List (Coord × Cell))} {k : Coord} {cs : List Cell} :
    gatherCells idxs k = .ok cs ↔ List.Forall₂ (fun d c => lookup d k = some c) idxs cs := by
  have step : ∀ d c, (match lookup d k with
      | none => Except.error Err.valueError
      | some c => .ok c) = Except.ok c ↔ lookup d k = some c := fun d c => by
    cases lookup d k with
    | none => exact ⟨(nomatch ·), (nomatch ·)⟩
    | some c' => exact ⟨fun h => congrArg some (Except.ok.inj h), fun h => congrArg Except.ok (Option.some.inj h)⟩
  simp only [gatherCells_eq_mapM, mapM_ok_forall₂, step]

theorem gatherCells_spec {k : Coord} : ∀ {idxs : List (List (Coord × Cell))} {cs : List Cell},
    gatherCells idxs k = .ok cs → List.Forall₂ (fun d c => lookup d k = some c) idxs cs :=
  gatherCells_ok_iff.mp

theorem gatherCells_length {idxs : List (List (Coord × Cell))} {k : Coord} {cs : List Cell}
    (h : gatherCells idxs k = .ok cs) : cs.length = idxs.length :=
  mapM_ok_length (gatherCells_eq_mapM idxs k ▸ h)

theorem gatherCells_mem {idxs : List (List (Coord × Cell))} {k : Coord} {cs : List Cell}
    (h : gatherCells idxs k = .ok cs) : ∀ c ∈ cs, ∃ d ∈ idxs, (k, c) ∈ d := fun c hc =>
  let ⟨d, hd, hl⟩ := forall₂_mem_right (gatherCells_spec h) c hc
  ⟨d, hd, Assoc.mem_of_get? hl⟩

theorem gatherCells_missing {idxs : List (List (Coord × Cell))} {k : Coord}
    (h : ∃ d ∈ idxs, lookup d k = none) : gatherCells idxs k = .error .valueError := by
  obtain ⟨d, hd, hl⟩ := h
  rw [gatherCells_eq_mapM]
  -- `ValueError` is the only class a step raises
  refine mapM_error_of_forall (fun d _ e he => ?_) ⟨d, hd, .valueError, by rw [hl]⟩
  cases hlk : lookup d k with
  | none => rw [hlk] at he; exact (Except.error.inj he).symm
  | some c => rw [hlk] at he; cases he

theorem blendLoop_eq_mapM (idxs : List (List (Coord × Cell))) (m : Method) (idx : Nat → String → List Nat) :
    ∀ (i : Nat) (ks : List (Coord × Cell)) (wl : List (Option (List Rat))),
    blendLoop idxs m idx i ks wl = ((ks.zip wl).zipIdx i).mapM fun p =>
      gatherCells idxs p.1.1.1 >>= fun cs => blendCells cs p.1.2 m (idx p.2)
  | _, [], _ => rfl
  | _, _ :: _, [] => rfl
  | i, (k, _) :: ks, w :: ws => by
    rw [blendLoop, List.zip_cons_cons, List.zipIdx_cons, List.mapM_cons, blendLoop_eq_mapM idxs m idx (i + 1) ks ws]
    dsimp only
    cases gatherCells idxs k with
    | error e => rfl
    | ok cs =>
      dsimp only [bind, Except.bind]
      cases blendCells cs w m (idx i) with
      | error e => rfl
      | ok c => cases List.mapM (m := Except Err) _ _ <;> rfl

theorem blendLoop_ok_iff {idxs m idx i} {ks : List (Coord × Cell)} {wl : List (Option (List Rat))} {out : List Cell} :
    blendLoop idxs m idx i ks wl = .ok out ↔ out.length = min ks.length wl.length ∧
      ∀ n (hk : n < ks.length) (hw : n < wl.length) (ho : n < out.length),
        ∃ cs, gatherCells idxs ks[n].1 = .ok cs ∧ blendCells cs wl[n] m (idx (i + n)) = .ok out[n] := by
  rw [blendLoop_eq_mapM, mapM_ok_forall₂, forall₂_iff_getElem]
  simp only [List.length_zipIdx, List.length_zip, List.getElem_zipIdx, List.getElem_zip, bind_eq_ok_iff, Nat.lt_min]
  exact and_congr_right fun _ => ⟨fun h n hk hw ho => h n ⟨hk, hw⟩ ho, fun h n hkw ho => h n hkw.1 hkw.2 ho⟩

theorem blendPrep_inv {t0 : List Cell} {rest : List (List Cell)} {w : Weights} {method : String} {m t wl}
    (h : blendPrep (t0 :: rest) w method = .ok (m, t, wl)) :
    t = t0 ∧ parseMethod method = some m ∧ weightList w t0.length = .ok wl := by
  unfold blendPrep at h
  split at h
  · cases h
  · split at h
    · cases h
    · rename_i m' hm'
      dsimp only at h
      split at h
      · cases h
      · split at h
        · cases h
        · split at h
          · cases h
          · split at h
            · cases h
            · rename_i wl' hwl
              cases h
              exact ⟨rfl, hm', hwl⟩

theorem blend_ok {ts : List (List Cell)} {w : Weights} {method : String} {idx : Nat → String → List Nat}
    {out : List Cell} : blend ts w method idx = .ok out ↔
    ∃ m t0 wl cells, blendPrep ts w method = .ok (m, t0, wl) ∧
      blendLoop (ts.map indexTriangle) m idx 0 (indexTriangle t0) wl = .ok cells ∧
      Triangle.ofCells cells = .ok out := by
  unfold blend
  cases blendPrep ts w method with
  | error e => exact ⟨(nomatch ·), fun ⟨_, _, _, _, h, _⟩ => nomatch h⟩
  | ok p =>
    obtain ⟨m, t0, wl⟩ := p
    dsimp only
    cases hloop : blendLoop (ts.map indexTriangle) m idx 0 (indexTriangle t0) wl with
    | error e => exact ⟨(nomatch ·), fun ⟨_, _, _, _, h, h', _⟩ => by cases h; rw [hloop] at h'; cases h'⟩
    | ok cells =>
      exact ⟨fun h => ⟨m, t0, wl, cells, rfl, hloop, h⟩,
        fun ⟨_, _, _, _, h, h', hof⟩ => by cases h; rw [hloop] at h'; cases h'; exact hof⟩

/-- `hnd`, `hs`: the first triangle is canonical, so the closing `Triangle(cells)` changes nothing; `t0[n]` is the first
of the cells gathered at its coordinate because it is looked up in the triangle's own index -/
theorem blend_inv {t0 : List Cell} {rest : List (List Cell)} {w : Weights} {method : String}
    {idx : Nat → String → List Nat} {out : List Cell}
    (h : blend (t0 :: rest) w method idx = .ok out)
    (hnd : (t0.map Cell.coord).Nodup) (hs : t0.Pairwise (fun a b => Cell.le a b)) :
    ∃ m wl, blendPrep (t0 :: rest) w method = .ok (m, t0, wl) ∧ wl.length = t0.length ∧
      out.length = t0.length ∧
      ∀ n (h0 : n < t0.length) (h1 : n < out.length) (h2 : n < wl.length), ∃ cs,
        gatherCells ((t0 :: rest).map indexTriangle) t0[n].coord = .ok (t0[n] :: cs) ∧
        blendCells (t0[n] :: cs) wl[n] m (idx n) = .ok out[n] := by
  obtain ⟨m, t, wl, cells, hprep, hloop, hof⟩ := blend_ok.mp h
  obtain ⟨rfl, -, hwlist⟩ := blendPrep_inv hprep
  have hwl := weightList_length hwlist
  rw [indexTriangle_nodup hnd, blendLoop_ok_iff] at hloop
  simp only [List.length_map, hwl, Nat.min_self, List.getElem_map, Nat.zero_add] at hloop
  obtain ⟨hlen, hat⟩ := hloop
  have hcell : ∀ n (h0 : n < t.length) (h1 : n < cells.length) (h2 : n < wl.length), ∃ cs,
      gatherCells ((t :: rest).map indexTriangle) t[n].coord = .ok (t[n] :: cs) ∧
      blendCells (t[n] :: cs) wl[n] m (idx n) = .ok cells[n] := by
    intro n h0 h1 h2
    obtain ⟨cs, hg, hb⟩ := hat n h0 h0 h1
    obtain _ | ⟨hl, _⟩ := gatherCells_spec hg
    obtain rfl := Option.some.inj ((lookup_indexTriangle_self hnd (List.getElem_mem h0)).symm.trans hl)
    exact ⟨_, hg, hb⟩
  have hco : cells.map Cell.coord = t.map Cell.coord :=
    List.ext_getElem (by simp [hlen]) fun n h1 h2 => by
      obtain ⟨cs, _, hb⟩ := hcell n (by simpa using h2) (by simpa using h1) (by simpa [hwl] using h2)
      simpa using (blendCells_inv hb).1
  obtain ⟨-, rfl⟩ := Triangle.ofCells_eq_ok.mp hof
  rw [List.mergeSort_of_pairwise (pairwise_le_of_coords hco hs)]
  exact ⟨m, wl, hprep, hwl, hlen, hcell⟩

end Bermuda.Blend
