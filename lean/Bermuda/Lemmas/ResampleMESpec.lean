/-
The executable predicates of `Spec/C17.lean` about the maximum-entropy arithmetic hold on the model's output.
-/
import Bermuda.Lemmas.ResampleME
import Bermuda.Lemmas.ResampleSpec
import Bermuda.Spec.C17
namespace Bermuda.Resample
open Bermuda.Spec.C17

theorem closeTo_refl {tol : Rat} (h : 0 ≤ tol) (a : Rat) : closeTo tol a a = true := by
  simp [closeTo, h]

theorem closeLists_refl {tol : Rat} (h : 0 ≤ tol) (l : List Rat) : closeLists tol l l = true := by
  simp only [closeLists, beq_self_eq_true, Bool.true_and, List.all_eq_true]
  intro p hp
  rw [show p.1 = p.2 from zip_of_map_eq id id l l rfl p hp]; exact closeTo_refl h _

variable {xs U qs : List Rat} {L : Option (Rat × Rat)} {tol : Rat}

theorem mem_reimposeRank (h : meQuantiles xs U L = .ok qs) {q : Rat} : q ∈ reimposeRank xs qs ↔ q ∈ qs :=
  (reimposeRank_perm' (meQuantiles_spec h).1).mem_iff

theorem meIntervalsOk_model (h : meQuantiles xs U L = .ok qs) (hn : 0 < xs.length)
    (hU : ∀ u ∈ U, 0 ≤ u ∧ u < 1) (ht : 0 ≤ tol) : meIntervalsOk xs L tol (reimposeRank xs qs) = true := by
  simp only [meIntervalsOk, List.all_eq_true, List.any_eq_true, List.mem_map, List.mem_range, Bool.or_eq_true,
    Bool.and_eq_true, decide_eq_true_eq]
  intro q hq
  obtain ⟨i, hi, hb⟩ := meQuantiles_interval h hn hU q ((mem_reimposeRank h).mp hq)
  refine ⟨_, ⟨i, hi, rfl⟩, ?_⟩
  rcases hb with ⟨a, b⟩ | ⟨a, b⟩
  · exact Or.inl ⟨by linarith only [a, ht], by linarith only [b, ht]⟩
  · exact Or.inr ⟨by linarith only [a, ht], by linarith only [b, ht]⟩

theorem meEnvelopeOk_model (h : meQuantiles xs U L = .ok qs) (h2 : 2 ≤ xs.length)
    (hU : ∀ u ∈ U, 0 ≤ u ∧ u < 1) (ht : 0 ≤ tol) : meEnvelopeOk xs L tol (reimposeRank xs qs) = true := by
  simp only [meEnvelopeOk]
  split
  · rename_i hc
    simp only [Bool.and_eq_true, decide_eq_true_eq] at hc
    simp only [List.all_eq_true, Bool.and_eq_true, decide_eq_true_eq]
    intro q hq
    obtain ⟨a, b⟩ := meQuantiles_envelope h h2 hU hc.1 hc.2 q ((mem_reimposeRank h).mp hq)
    exact ⟨by linarith only [a, ht], by linarith only [b, ht]⟩
  · rfl

theorem meLimitsOk_model (h : meQuantiles xs U L = .ok qs) (h2 : 2 ≤ xs.length)
    (hU : ∀ u ∈ U, 0 ≤ u ∧ u < 1) (ht : 0 ≤ tol) : meLimitsOk xs L tol (reimposeRank xs qs) = true := by
  simp only [meLimitsOk]
  split
  · rename_i hc
    simp only [List.all_eq_true, Bool.and_eq_true, decide_eq_true_eq]
    intro q hq
    obtain ⟨a, b⟩ := meQuantiles_within_limits h h2 hU hc q ((mem_reimposeRank h).mp hq)
    exact ⟨by linarith only [a, ht], by linarith only [b, ht]⟩
  · rfl

theorem mePermOk_model (h : meQuantiles xs U L = .ok qs) (ht : 0 ≤ tol) :
    mePermOk xs U L tol (reimposeRank xs qs) = true := by
  simp only [mePermOk, h]
  rw [sortQ_congr (reimposeRank_perm' (meQuantiles_spec h).1)]
  exact closeLists_refl ht _

theorem meValueOk_model (h : meQuantiles xs U L = .ok qs) (ht : 0 ≤ tol) :
    meValueOk xs U L tol (reimposeRank xs qs) = true := by
  simp only [meValueOk, h]
  exact closeLists_refl ht _

end Bermuda.Resample
