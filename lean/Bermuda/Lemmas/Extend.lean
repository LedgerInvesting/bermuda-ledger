/-
Lemmas for C15 (`Model/Extend.lean`) shared by all four operators: the "running best" folds of the Spec, the coordinate of
a cell (row key and evaluation date), the rows of a triangle, month-end arithmetic of `addMonths`; and the model side of
the two right-hand operators: the cells one slice contributes, the scheme both operators are instances of (`overSlices`,
`rightOp`, `EdgeFn`) and the stages of a run.
-/
import Bermuda.Model.Extend
import Bermuda.Spec.C15
import Bermuda.Lemmas.Sort
import Bermuda.Lemmas.Ops
import Bermuda.Lemmas.BasisRows
import Bermuda.Lemmas.DateUtils
import Bermuda.Lemmas.ExceptFacts
import Bermuda.Lemmas.ListFacts
import Bermuda.Lemmas.DateOrder
import Bermuda.Lemmas.AssocModels
import Bermuda.Lemmas.GroupByFacts
namespace Bermuda.Extend
open Std

/-! ### the running best of a fold

`maxEval`, `minEval`, `maxRat`, `minRat`, `sourceOf` and `firstOf` are folds that keep a current best and replace it by
a strictly better candidate: `foldl_best` for the order in question. -/

theorem maxEval_spec {l : List Cell} {m : Date} (h : maxEval l = some m) :
    (∃ o ∈ l, o.ev = m) ∧ ∀ o ∈ l, Date.cmp o.ev m ≠ .gt := by
  cases l with
  | nil => cases h
  | cons c rest =>
    cases h
    obtain ⟨hm, hb⟩ := foldl_best_map StrictWeak.dateLt.swap (·.ev) rest c.ev
    exact ⟨List.mem_map.mp hm, fun o ho => DateOrder.not_lt.mp (hb _ (List.mem_map_of_mem ho))⟩

theorem maxEval_of_mem {l : List Cell} {x : Cell} (hx : x ∈ l) :
    ∃ m, maxEval l = some m ∧ (∃ o ∈ l, o.ev = m) ∧ ∀ o ∈ l, Date.cmp o.ev m ≠ .gt := by
  cases l with
  | nil => cases hx
  | cons c rest => exact ⟨_, rfl, maxEval_spec rfl⟩

theorem maxEval_eq_some {l : List Cell} {x : Cell} (hx : x ∈ l) (hmax : ∀ o ∈ l, Date.cmp o.ev x.ev ≠ .gt) :
    maxEval l = some x.ev := by
  obtain ⟨m, hm, ⟨o, ho, hom⟩, hge⟩ := maxEval_of_mem hx
  rw [hm, ← hom]
  exact congrArg some (DateOrder.le_antisymm (hmax o ho) (hom ▸ hge x hx))

theorem maxEval_perm {l l' : List Cell} (h : l.Perm l') : maxEval l = maxEval l' := by
  cases hl : maxEval l with
  | none =>
    cases l with
    | nil => rw [← h.nil_eq]; rfl
    | cons c rest => cases hl
  | some m =>
    obtain ⟨⟨o, ho, rfl⟩, hmax⟩ := maxEval_spec hl
    exact (maxEval_eq_some (h.mem_iff.mp ho) fun o' ho' => hmax o' (h.mem_iff.mpr ho')).symm

theorem minEval_of_mem {l : List Cell} {x : Cell} (hx : x ∈ l) :
    ∃ m, Spec.C15.minEval l = some m ∧ (∃ o ∈ l, o.ev = m) ∧ ∀ o ∈ l, m ≤ o.ev := by
  cases l with
  | nil => cases hx
  | cons c rest =>
    obtain ⟨hm, hb⟩ := foldl_best_map StrictWeak.dateLt (·.ev) rest c.ev
    exact ⟨_, rfl, List.mem_map.mp hm, fun o ho => DateOrder.not_lt.mp (hb _ (List.mem_map_of_mem ho))⟩

theorem maxEval_lt_iff {l : List Cell} {d : Date} :
    Spec.C15.optLt (maxEval l) (some d) = true ↔ l ≠ [] ∧ ∀ o ∈ l, o.ev < d := by
  cases l with
  | nil => simp [maxEval, Spec.C15.optLt]
  | cons c rest =>
    obtain ⟨m, hm, ⟨o, ho, rfl⟩, hmax⟩ := maxEval_of_mem (l := c :: rest) List.mem_cons_self
    rw [hm]
    simp only [Spec.C15.optLt, decide_eq_true_eq, ne_eq, reduceCtorEq, not_false_eq_true, true_and]
    exact ⟨fun h o' ho' => DateOrder.lt_of_le_of_lt (hmax o' ho') h, fun h => h o ho⟩

theorem lt_minEval_iff {l : List Cell} {d : Date} :
    Spec.C15.optLt (some d) (Spec.C15.minEval l) = true ↔ l ≠ [] ∧ ∀ o ∈ l, d < o.ev := by
  cases l with
  | nil => simp [Spec.C15.minEval, Spec.C15.optLt]
  | cons c rest =>
    obtain ⟨m, hm, ⟨o, ho, rfl⟩, hmin⟩ := minEval_of_mem (l := c :: rest) List.mem_cons_self
    rw [hm]
    simp only [Spec.C15.optLt, decide_eq_true_eq, ne_eq, reduceCtorEq, not_false_eq_true, true_and]
    exact ⟨fun h o' ho' => DateOrder.lt_of_lt_of_le h (hmin o' ho'), fun h => h o ho⟩

theorem minEval_lt_iff {l : List Cell} {d : Date} :
    Spec.C15.optLt (Spec.C15.minEval l) (some d) = true ↔ ∃ o ∈ l, o.ev < d := by
  cases l with
  | nil => simp [Spec.C15.minEval, Spec.C15.optLt]
  | cons c rest =>
    obtain ⟨m, hm, ⟨o, ho, rfl⟩, hmin⟩ := minEval_of_mem (l := c :: rest) List.mem_cons_self
    rw [hm]
    simp only [Spec.C15.optLt, decide_eq_true_eq]
    exact ⟨fun h => ⟨o, ho, h⟩, fun ⟨o', ho', h⟩ => DateOrder.lt_of_le_of_lt (hmin o' ho') h⟩

theorem lt_maxEval_iff {l : List Cell} {d : Date} :
    Spec.C15.optLt (some d) (maxEval l) = true ↔ ∃ o ∈ l, d < o.ev := by
  cases l with
  | nil => simp [maxEval, Spec.C15.optLt]
  | cons c rest =>
    obtain ⟨m, hm, ⟨o, ho, rfl⟩, hmax⟩ := maxEval_of_mem (l := c :: rest) List.mem_cons_self
    rw [hm]
    simp only [Spec.C15.optLt, decide_eq_true_eq]
    exact ⟨fun h => ⟨o, ho, h⟩, fun ⟨o', ho', h⟩ => DateOrder.lt_of_lt_of_le h (hmax o' ho')⟩

theorem maxRat_spec {l : List Rat} {m : Rat} (h : Spec.C15.maxRat l = some m) :
    m ∈ l ∧ ∀ x ∈ l, x ≤ m := by
  cases l with
  | nil => cases h
  | cons q rest =>
    cases h
    exact foldl_max_rat rest q

theorem minRat_spec {l : List Rat} {m : Rat} (h : Spec.C15.minRat l = some m) :
    m ∈ l ∧ ∀ x ∈ l, m ≤ x := by
  cases l with
  | nil => cases h
  | cons q rest =>
    cases h
    exact foldl_min_rat rest q

theorem maxRat_map_eq {α : Type} {g : α → Rat} {l : List α} {x : α} (hx : x ∈ l) (hmax : ∀ o ∈ l, g o ≤ g x) :
    Spec.C15.maxRat (l.map g) = some (g x) := by
  obtain ⟨m, hm⟩ : ∃ m, Spec.C15.maxRat (l.map g) = some m := by
    cases l with
    | nil => cases hx
    | cons _ _ => exact ⟨_, rfl⟩
  obtain ⟨hmem, hle⟩ := maxRat_spec hm
  obtain ⟨o, ho, rfl⟩ := List.mem_map.mp hmem
  rw [hm, Rat.le_antisymm (hmax o ho) (hle _ (List.mem_map_of_mem hx))]

theorem minRat_map_eq {α : Type} {g : α → Rat} {l : List α} {x : α} (hx : x ∈ l) (hmin : ∀ o ∈ l, g x ≤ g o) :
    Spec.C15.minRat (l.map g) = some (g x) := by
  obtain ⟨m, hm⟩ : ∃ m, Spec.C15.minRat (l.map g) = some m := by
    cases l with
    | nil => cases hx
    | cons _ _ => exact ⟨_, rfl⟩
  obtain ⟨hmem, hle⟩ := minRat_spec hm
  obtain ⟨o, ho, rfl⟩ := List.mem_map.mp hmem
  rw [hm, Rat.le_antisymm (hle _ (List.mem_map_of_mem hx)) (hmin o ho)]

/-- the source of a fill cell `a`, when the row has an observation before it: the latest such observation -/
theorem sourceOf_spec {t : List Cell} {a o : Cell} (ho : o ∈ Spec.C15.rowOf t a) (hlt : o.ev < a.ev) :
    ∃ s, Spec.C15.sourceOf t a = some s ∧ s ∈ Spec.C15.rowOf t a ∧ s.ev < a.ev ∧
      ∀ o ∈ Spec.C15.rowOf t a, o.ev < a.ev → Date.cmp o.ev s.ev ≠ .gt := by
  have hmem : ∀ x, x ∈ (Spec.C15.rowOf t a).filter (fun o => o.ev < a.ev) ↔
      x ∈ Spec.C15.rowOf t a ∧ x.ev < a.ev := by simp
  obtain ⟨s, hs, hsm, hbest⟩ : ∃ s, Spec.C15.sourceOf t a = some s ∧
      s ∈ (Spec.C15.rowOf t a).filter (fun o => o.ev < a.ev) ∧
      ∀ x ∈ (Spec.C15.rowOf t a).filter (fun o => o.ev < a.ev), ¬ s.ev < x.ev := by
    refine foldl_optBest (StrictWeak.dateLt.on (·.ev)).swap ((hmem o).mpr ⟨ho, hlt⟩) ?_ ?_
    · exact fun _ => rfl
    · exact fun b x => (apply_ite some _ _ _).symm
  exact ⟨s, hs, ((hmem s).mp hsm).1, ((hmem s).mp hsm).2,
    fun x hx hxl => DateOrder.not_lt.mp (hbest x ((hmem x).mpr ⟨hx, hxl⟩))⟩

/-- the first observation of a non-empty row: no observation of the row is earlier -/
theorem firstOf_spec {t : List Cell} {a o : Cell} (ho : o ∈ Spec.C15.rowOf t a) :
    ∃ s, Spec.C15.firstOf t a = some s ∧ s ∈ Spec.C15.rowOf t a ∧ ∀ o ∈ Spec.C15.rowOf t a, ¬ (o.ev < s.ev) := by
  refine foldl_optBest (StrictWeak.dateLt.on (·.ev)) ho ?_ ?_
  · exact fun _ => rfl
  · exact fun b x => (apply_ite some _ _ _).symm

theorem rowKey_iff_period {a b : Cell} : rowKey a = rowKey b ↔ cellPeriod a = cellPeriod b ∧ a.md = b.md :=
  Prod.ext_iff

theorem sliceKey_eq_iff {a b : Cell} : sliceKey a = sliceKey b ↔ rowKey a = rowKey b := by
  simp only [sliceKey, rowKey, Prod.mk.injEq]
  constructor
  · rintro ⟨h1, h2, h3⟩; exact ⟨⟨h2, h3⟩, h1⟩
  · rintro ⟨⟨h2, h3⟩, h1⟩; exact ⟨h1, h2, h3⟩

theorem sameRow_iff {a b : Cell} : Spec.C15.sameRow a b = true ↔ rowKey a = rowKey b := by
  simp [Spec.C15.sameRow, rowKey_eq_iff, and_assoc]

theorem sameCoord_iff_row {a b : Cell} : Spec.C15.sameCoord a b = true ↔ rowKey a = rowKey b ∧ a.ev = b.ev := by
  simp only [Spec.C15.sameCoord, Bool.and_eq_true, beq_iff_eq, sameRow_iff]

theorem mem_rowOf {t : List Cell} {c o : Cell} : o ∈ Spec.C15.rowOf t c ↔ o ∈ t ∧ rowKey c = rowKey o := by
  simp [Spec.C15.rowOf, List.mem_filter, sameRow_iff]

theorem mem_sliceOf {t : List Cell} {c o : Cell} : o ∈ Spec.C15.sliceOf t c ↔ o ∈ t ∧ o.md = c.md := by
  simp [Spec.C15.sliceOf, List.mem_filter]

theorem rowOf_congr {t : List Cell} {a b : Cell} (h : rowKey a = rowKey b) :
    Spec.C15.rowOf t a = Spec.C15.rowOf t b :=
  List.filter_congr fun o _ => by rw [Bool.eq_iff_iff, sameRow_iff, sameRow_iff, h]

theorem sliceOf_congr {t : List Cell} {a b : Cell} (h : a.md = b.md) :
    Spec.C15.sliceOf t a = Spec.C15.sliceOf t b := by
  unfold Spec.C15.sliceOf; rw [h]

/-- the Spec's last lag of the row of `c`: the lag of a cell of the row that no cell of the row exceeds -/
theorem lastLag_eq {t : List Cell} {u : LagUnit} {c x : Cell} (hx : x ∈ t) (hk : rowKey c = rowKey x)
    (hmax : ∀ o ∈ t, rowKey o = rowKey x → o.devLag u ≤ x.devLag u) :
    Spec.C15.lastLag t u c = some (x.devLag u) :=
  maxRat_map_eq (mem_rowOf.mpr ⟨hx, hk⟩) fun o ho =>
    hmax o (mem_rowOf.mp ho).1 ((mem_rowOf.mp ho).2.symm.trans hk)

theorem md_of_rowKey {a b : Cell} (h : rowKey a = rowKey b) : a.md = b.md := (rowKey_eq_iff.mp h).1
theorem ps_of_rowKey {a b : Cell} (h : rowKey a = rowKey b) : a.ps = b.ps := (rowKey_eq_iff.mp h).2.1
theorem pe_of_rowKey {a b : Cell} (h : rowKey a = rowKey b) : a.pe = b.pe := (rowKey_eq_iff.mp h).2.2

theorem devLag_of_row {x c : Cell} (hk : rowKey x = rowKey c) (hev : x.ev = c.ev) (u : LagUnit) :
    x.devLag u = c.devLag u := by
  obtain ⟨_, _, h3⟩ := rowKey_eq_iff.mp hk
  unfold Cell.devLag
  rw [h3, hev]

theorem emptyCell_congr {e x : Cell} (hk : rowKey x = rowKey e) (d : Date) : emptyCell e d = emptyCell x d := by
  obtain ⟨h1, h2, h3⟩ := rowKey_eq_iff.mp hk
  simp [emptyCell, h1, h2, h3]

/-- coordinate of a cell: row key and evaluation date -/
def ckey (c : Cell) : RowKey × Date := (rowKey c, c.ev)

theorem ckey_eq_iff {a b : Cell} : ckey a = ckey b ↔ rowKey a = rowKey b ∧ a.ev = b.ev := Prod.ext_iff

theorem nodupCoords_of_keys : ∀ (l : List Cell), (l.map ckey).Nodup → Spec.C15.nodupCoords l = true
  | [], _ => rfl
  | c :: rest, h => by
    simp only [List.map_cons, List.nodup_cons] at h
    simp only [Spec.C15.nodupCoords, Bool.and_eq_true, Bool.not_eq_true', List.any_eq_false]
    refine ⟨?_, nodupCoords_of_keys rest h.2⟩
    intro o ho hs
    apply h.1
    rw [ckey_eq_iff.mpr (sameCoord_iff_row.mp hs)]
    exact List.mem_map_of_mem ho

theorem ckey_of_cmp_eq {a b : Cell} (ha : a.md.Canon) (hb : b.md.Canon) (h : Cell.cmp a b = .eq) : ckey a = ckey b := by
  obtain ⟨h1, h2, h3, h4, _⟩ := Cell.coord_eq_iff.mp ((Cell.cmp_eq_eq ha hb).mp h)
  exact ckey_eq_iff.mpr ⟨rowKey_eq_iff.mpr ⟨h1, h2, h3⟩, h4⟩

theorem nodupList_nodup {α} [BEq α] [LawfulBEq α] : ∀ (l : List α), Spec.C15.nodupList l = true → l.Nodup
  | [], _ => List.nodup_nil
  | a :: rest, h => by
    simp only [Spec.C15.nodupList, Bool.and_eq_true, Bool.not_eq_true', List.contains_eq_mem,
      decide_eq_false_iff_not] at h
    exact List.nodup_cons.mpr ⟨h.1, nodupList_nodup rest h.2⟩

theorem mapM_blocks_keys_nodup {ρ κ : Type} (f : ρ → Except Err (List Cell)) (tag : ρ → κ) (ctag : Cell → κ)
    (hct : ∀ a b : Cell, ckey a = ckey b → ctag a = ctag b) (L : List ρ) (parts : List (List Cell))
    (hnd : (L.map tag).Nodup) (h : L.mapM f = .ok parts)
    (hb : ∀ r ∈ L, ∀ ys, f r = .ok ys → (ys.map ckey).Nodup ∧ ∀ c ∈ ys, ctag c = tag r) :
    (parts.flatten.map ckey).Nodup := by
  obtain ⟨hlen, hzip⟩ := mapM_ok_iff.mp h
  -- the blocks, each tagged with the tag of the row it comes from
  have hG := nodup_flatten_tagged ctag ckey hct (G := (L.zip parts).map fun rp => (tag rp.1, rp.2))
    (by
      rw [List.map_map, show ((fun p : κ × List Cell => p.1) ∘ fun rp : ρ × List Cell => (tag rp.1, rp.2)) =
        tag ∘ Prod.fst from rfl, ← List.map_map, List.map_fst_zip (Nat.le_of_eq hlen)]
      exact hnd)
    (fun p hp => by
      obtain ⟨rp, hrp, rfl⟩ := List.mem_map.mp hp
      exact (hb rp.1 (List.of_mem_zip hrp).1 rp.2 (hzip _ _ hrp)).1)
    (fun p hp c hc => by
      obtain ⟨rp, hrp, rfl⟩ := List.mem_map.mp hp
      exact (hb rp.1 (List.of_mem_zip hrp).1 rp.2 (hzip _ _ hrp)).2 c hc)
  rwa [List.map_map, show ((fun p : κ × List Cell => p.2) ∘ fun rp : ρ × List Cell => (tag rp.1, rp.2)) = Prod.snd from rfl,
    List.map_snd_zip (Nat.le_of_eq hlen.symm)] at hG

theorem allHold_iff {l : List (String × Bool)} : Spec.C15.allHold l = true ↔ ∀ p ∈ l, p.2 = true :=
  List.all_eq_true

instance : TransCmp mdEvCmp := by unfold mdEvCmp; infer_instance

theorem mdEvCmp_not_gt {a b : Cell} (h : leOf mdEvCmp a b = true) :
    Metadata.cmp a.md b.md ≠ .gt ∧ (Metadata.cmp a.md b.md = .eq → ¬ (b.ev < a.ev)) :=
  (compareLex_ne_gt_iff.mp (bne_iff_ne.mp h)).imp_right fun h e => DateOrder.le_iff_not_lt.mp (h e)

theorem periodRows_partition (s : List Cell) : Partition cellPeriod s (periodRows s) :=
  .of_keys ((List.mergeSort_perm _ _).nodup_iff.mpr (nodup_eraseDups _))
    (fun k => by rw [(List.mergeSort_perm _ _).mem_iff, List.mem_eraseDups, List.mem_map])
    fun _ _ => List.mergeSort_perm _ _

theorem periodRows_spec {s : List Cell} {q : Period × List Cell} (hq : q ∈ periodRows s) :
    (∀ c, c ∈ q.2 ↔ c ∈ s ∧ cellPeriod c = q.1) ∧ q.2.Pairwise (fun a b => leOf mdEvCmp a b) := by
  refine ⟨fun c => (periodRows_partition s).mem_iff hq, ?_⟩
  obtain ⟨p, -, rfl⟩ := List.mem_map.mp hq
  exact sorted_mergeSort (cmp := mdEvCmp) _

theorem periodRows_cover {s : List Cell} {c : Cell} (hc : c ∈ s) :
    ∃ q ∈ periodRows s, q.1 = cellPeriod c ∧ c ∈ q.2 :=
  (periodRows_partition s).exists_group hc

/-- the resolution `fill_forward_gaps` / `backfill` work with; the Spec's `resolveRes` under the name the property
statements use -/
def resolvedRes (t : List Cell) (res? : Option Int) : Option Int :=
  match res? with
  | some r => some r
  | none => evalDateResolution t

theorem resolveRes_eq (t : List Cell) (res? : Option Int) : Spec.C15.resolveRes t res? = resolvedRes t res? := rfl

/-- month-aligned cell from 1970 on: period end and evaluation date are valid month ends -/
def MonthAligned (c : Cell) : Prop :=
  c.pe.valid = true ∧ c.pe.isMonthEnd = true ∧ c.ev.valid = true ∧ c.ev.isMonthEnd = true ∧
  1970 ≤ c.pe.y ∧ 1970 ≤ c.ev.y

/-- the integer lag of a month-aligned cell -/
def lagInt (c : Cell) : Int := monthToId c.ev - monthToId c.pe

theorem devLag_lagInt {c : Cell} (hc : MonthAligned c) : c.devLag = ((lagInt c : Int) : Rat) := by
  obtain ⟨_, h2, _, h4, _, _⟩ := hc
  exact devLagMonths_monthEnds h2 h4

theorem ev_monthEndOf {c : Cell} (hc : MonthAligned c) : c.ev = monthEndOf (monthToId c.pe + lagInt c) := by
  obtain ⟨_, _, h3, h4, _, _⟩ := hc
  have : monthToId c.pe + lagInt c = monthToId c.ev := by unfold lagInt; omega
  rw [this, monthEndOf_monthToId h3 h4]

/-- `add_months(period_end, k)` for an integer `k` is the end of the month `k` months on, in every year: a month-end
start has final lag `M + 1` exactly, so the `int()` that goes wrong before 1970 (D8) is never taken of a fraction -/
theorem addMonths_form {c : Cell} (hc : MonthAligned c) (k : Int) :
    addMonths c.pe ((k : Int) : Rat) = monthEndOf (monthToId c.pe + k) :=
  addMonths_monthEnd_all c.pe k hc.2.1

/-- a month-aligned cell with integer lag `k` sits at `add_months(period_end, k)` -/
theorem addMonths_lag_eq_ev {c : Cell} (hc : MonthAligned c) {k : Int} (hk : c.devLag = ((k : Int) : Rat)) :
    addMonths c.pe ((k : Int) : Rat) = c.ev := by
  have hk' : k = lagInt c := by
    rw [devLag_lagInt hc] at hk
    exact_mod_cast hk.symm
  subst hk'
  rw [addMonths_form hc, ← ev_monthEndOf hc]

theorem monthAligned_of_row {x e : Cell} (hk : rowKey x = rowKey e) (hev : x.ev = e.ev)
    (hx : MonthAligned x) : MonthAligned e := by
  obtain ⟨_, _, h3⟩ := rowKey_eq_iff.mp hk
  unfold MonthAligned at *
  rw [← h3, ← hev]; exact hx

/-! ### the cells one slice contributes -/

theorem addDevLag_total {u : LagUnit} (hu : u ≠ .timedelta) (pe : Date) (l : Rat) :
    ∃ ev, addDevLag pe l u = .ok ev := by
  cases u with
  | month => exact ⟨_, rfl⟩
  | day => exact ⟨_, rfl⟩
  | timedelta => exact absurd rfl hu

theorem mem_rightPairs {lags : List Rat} {u : LagUnit} {edge : List Cell} {p : Rat × Cell} :
    p ∈ rightPairs lags u edge ↔ p.1 ∈ lags ∧ p.2 ∈ edge ∧ p.1 > p.2.devLag u := by
  obtain ⟨l, c⟩ := p
  simp only [rightPairs, List.mem_flatMap, List.mem_map, List.mem_filter, decide_eq_true_eq,
    Prod.mk.injEq]
  constructor
  · rintro ⟨lag, hlag, c', ⟨hc', hgt⟩, rfl, rfl⟩
    exact ⟨hlag, hc', hgt⟩
  · rintro ⟨h1, h2, h3⟩
    exact ⟨l, h1, c, ⟨h2, h3⟩, rfl, rfl⟩

theorem rightCellOf_ok {u : LagUnit} {p : Rat × Cell} {c : Cell} :
    rightCellOf u p = .ok c ↔
      ∃ ev, addDevLag p.2.pe p.1 u = .ok ev ∧ c = emptyCell p.2 ev ∧ (emptyCell p.2 ev).datesOk = true := by
  unfold rightCellOf
  rw [bind_eq_ok_iff]
  exact exists_congr fun ev => and_congr_right fun _ => Cell.mk?_eq_ok.trans and_comm

/-- `c` is one of the cells `_make_right_triangle_slice` creates on `slice`: an empty cumulative cell
on the row of a right-edge cell `e`, at `period_end + lag` for a lag of the slice's lag list that
exceeds the lag of `e` -/
def SliceRightCell (lags : Option (List Rat)) (u : LagUnit) (slice : List Cell) (c : Cell) : Prop :=
  ∃ edge, Triangle.rightEdge slice = .ok edge ∧ ∃ e ∈ edge, ∃ lag ∈ lagListOf lags u slice,
    lag > e.devLag u ∧ ∃ ev, addDevLag e.pe lag u = .ok ev ∧ c = emptyCell e ev

/-- a successful `_make_right_triangle_slice`: the right edge exists and every constructor call of the comprehension
passes -/
theorem rightTriangleSlice_ok {lags : Option (List Rat)} {u : LagUnit} {slice cells : List Cell}
    (h : rightTriangleSlice lags u slice = .ok cells) :
    ∃ edge, Triangle.rightEdge slice = .ok edge ∧
      (rightPairs (lagListOf lags u slice) u edge).mapM (rightCellOf u) = .ok cells := by
  unfold rightTriangleSlice at h
  obtain ⟨edge, hedge, h⟩ := bind_ok h
  split at h
  · cases h
  · exact ⟨edge, hedge, h⟩

theorem rightTriangleSlice_mem {lags : Option (List Rat)} {u : LagUnit} {slice cells : List Cell}
    (h : rightTriangleSlice lags u slice = .ok cells) (c : Cell) :
    c ∈ cells ↔ SliceRightCell lags u slice c := by
  obtain ⟨edge, hedge, h⟩ := rightTriangleSlice_ok h
  constructor
  · intro hc
    obtain ⟨p, hp, hpc⟩ := mapM_ok_mem h c hc
    obtain ⟨ev, hev, rfl, _⟩ := rightCellOf_ok.mp hpc
    obtain ⟨h1, h2, h3⟩ := mem_rightPairs.mp hp
    exact ⟨edge, hedge, p.2, h2, p.1, h1, h3, ev, hev, rfl⟩
  · rintro ⟨edge', hedge', e, he, lag, hlag, hgt, ev, hev, rfl⟩
    rw [hedge] at hedge'; cases hedge'
    obtain ⟨y, hy, hfy⟩ := mapM_ok_mem' h (lag, e) (mem_rightPairs.mpr ⟨hlag, he, hgt⟩)
    obtain ⟨ev', hev', rfl, _⟩ := rightCellOf_ok.mp hfy
    rw [hev] at hev'; cases hev'
    exact hy

theorem mem_diagPairs {dates : List Date} {edge : List Cell} {p : Cell × Date} :
    p ∈ diagPairs dates edge ↔ p.1 ∈ edge ∧ p.2 ∈ dates ∧ p.1.ps ≤ p.2 := by
  obtain ⟨c, d⟩ := p
  simp only [diagPairs, List.mem_flatMap, List.mem_map, List.mem_filter, decide_eq_true_eq,
    Prod.mk.injEq]
  constructor
  · rintro ⟨c', hc', d', ⟨hd', hle⟩, rfl, rfl⟩
    exact ⟨hc', hd', hle⟩
  · rintro ⟨h1, h2, h3⟩
    exact ⟨c, h1, d, ⟨h2, h3⟩, rfl, rfl⟩

/-- the dates `_make_right_diagonal_slice` keeps for a slice -/
def diagDatesOf (dates : List Date) (hist : Bool) (slice : List Cell) : List Date :=
  if hist then dates else
    match maxEval slice with
    | some m => dates.filter fun d => m < d
    | none => dates

theorem diagDatesOf_sublist (dates : List Date) (hist : Bool) (slice : List Cell) :
    (diagDatesOf dates hist slice).Sublist dates := by
  unfold diagDatesOf
  split
  · exact .refl _
  · split
    · exact List.filter_sublist
    · exact .refl _

theorem mem_diagDatesOf {dates : List Date} {hist : Bool} {s : List Cell} {d : Date} :
    d ∈ diagDatesOf dates hist s ↔ d ∈ dates ∧ (hist = false → ∀ o ∈ s, o.ev < d) := by
  unfold diagDatesOf
  cases hist with
  | true => simp
  | false =>
    cases s with
    | nil => simp [maxEval]
    | cons c rest =>
      obtain ⟨m, hm, ⟨o, ho, rfl⟩, hmax⟩ := maxEval_of_mem (l := c :: rest) List.mem_cons_self
      simp only [Bool.false_eq_true, if_false, hm, List.mem_filter, decide_eq_true_eq, true_imp_iff]
      exact and_congr_right fun _ => ⟨fun h o' ho' => DateOrder.lt_of_le_of_lt (hmax o' ho') h, fun h => h o ho⟩

/-- `c` is one of the cells `_make_right_diagonal_slice` creates on `slice` -/
def SliceDiagCell (dates : List Date) (hist : Bool) (slice : List Cell) (c : Cell) : Prop :=
  ∃ edge, Triangle.rightEdge slice = .ok edge ∧ ∃ e ∈ edge, ∃ d ∈ diagDatesOf dates hist slice,
    e.ps ≤ d ∧ c = emptyCell e d

/-- a successful `_make_right_diagonal_slice`: the right edge exists, the cells are the empty cells of the
(edge cell, kept date) pairs, and each passes the constructor -/
theorem rightDiagonalSlice_ok {dates : List Date} {hist : Bool} {slice cells : List Cell}
    (h : rightDiagonalSlice dates hist slice = .ok cells) :
    ∃ edge, Triangle.rightEdge slice = .ok edge ∧
      cells = (diagPairs (diagDatesOf dates hist slice) edge).map (fun q => emptyCell q.1 q.2) ∧
      ∀ c ∈ cells, c.datesOk = true := by
  unfold rightDiagonalSlice at h
  obtain ⟨edge, hedge, h⟩ := bind_ok h
  refine ⟨edge, hedge, mapM_ok_eq_map h (fun x _ y hy => (Cell.mk?_eq_ok.mp hy).2), fun c hc => ?_⟩
  obtain ⟨q, _, hq⟩ := mapM_ok_mem h c hc
  obtain ⟨hd, rfl⟩ := Cell.mk?_eq_ok.mp hq
  exact hd

theorem rightDiagonalSlice_mem {dates : List Date} {hist : Bool} {slice cells : List Cell}
    (h : rightDiagonalSlice dates hist slice = .ok cells) (c : Cell) :
    c ∈ cells ↔ SliceDiagCell dates hist slice c := by
  obtain ⟨edge, hedge, rfl, _⟩ := rightDiagonalSlice_ok h
  simp only [List.mem_map]
  constructor
  · rintro ⟨p, hp, rfl⟩
    obtain ⟨h1, h2, h3⟩ := mem_diagPairs.mp hp
    exact ⟨edge, hedge, p.1, h1, p.2, h2, h3, rfl⟩
  · rintro ⟨edge', hedge', e, he, d, hd, hle, rfl⟩
    rw [hedge] at hedge'; cases hedge'
    exact ⟨(e, d), mem_diagPairs.mpr ⟨he, hd, hle⟩, rfl⟩

/-- the stages of the common tail: `Triangle(new_cells)`, then — on an incremental input — `to_incremental` and
`_fix_prev_evaluation_date` -/
theorem finishRight_ok {t new out : List Cell} (h : finishRight t new = .ok out) :
    ∃ right, Triangle.ofCells new = .ok right ∧
      ((Triangle.isIncremental t = false ∧ out = right) ∨
       (Triangle.isIncremental t = true ∧ ∃ inc, Triangle.toIncremental right = .ok inc ∧
          fixPrevEvaluationDate t inc = .ok out)) := by
  unfold finishRight at h
  obtain ⟨right, hright, h⟩ := bind_ok h
  refine ⟨right, hright, ?_⟩
  split at h
  · rename_i hinc
    obtain ⟨inc, hincr, h⟩ := bind_ok h
    exact Or.inr ⟨hinc, inc, hincr, h⟩
  · rename_i hinc
    exact Or.inl ⟨Bool.eq_false_iff.mpr hinc, (Except.ok.inj h).symm⟩

theorem finishRight_of_cum {cum new right : List Cell} (hni : Triangle.isIncremental cum = false)
    (hr : Triangle.ofCells new = .ok right) : finishRight cum new = .ok right := by
  unfold finishRight
  simp [hr, hni, pure_eq_ok]

theorem finishRight_of_inc {t new right u : List Cell} (hinc : Triangle.isIncremental t = true)
    (hr : Triangle.ofCells new = .ok right) (hu : Triangle.toIncremental right = .ok u) :
    finishRight t new = fixPrevEvaluationDate t u := by
  unfold finishRight
  simp only [hr, hinc, if_true, hu, ok_bind]

theorem finishRight_cum {t new out : List Cell} (hinc : Triangle.isIncremental t = false)
    (h : finishRight t new = .ok out) : out.Perm new := by
  obtain ⟨right, hr, ⟨_, rfl⟩ | ⟨h', _⟩⟩ := finishRight_ok h
  · exact Triangle.ofCells_perm hr
  · rw [hinc] at h'; cases h'

/-- the cumulative form the operators work on: `t` itself, or `to_cumulative(t)` -/
def CumOf (t cum : List Cell) : Prop :=
  (Triangle.isIncremental t = false ∧ cum = t) ∨
  (Triangle.isIncremental t = true ∧ Triangle.toCumulative t = .ok cum)

theorem CumOf.unique {t cum cum' : List Cell} (h : CumOf t cum) (h' : CumOf t cum') : cum' = cum := by
  rcases h with ⟨h1, h2⟩ | ⟨h1, h2⟩ <;> rcases h' with ⟨g1, g2⟩ | ⟨g1, g2⟩
  · rw [h2, g2]
  · rw [h1] at g1; cases g1
  · rw [h1] at g1; cases g1
  · rw [h2] at g2; cases g2; rfl

theorem CumOf.of_cum {t cum : List Cell} (h : CumOf t cum) (hinc : Triangle.isIncremental t = false) : cum = t :=
  CumOf.unique (Or.inl ⟨hinc, rfl⟩) h

theorem CumOf.of_inc {t cum : List Cell} (h : CumOf t cum) (hinc : Triangle.isIncremental t = true) :
    Triangle.toCumulative t = .ok cum := by
  rcases h with ⟨h', _⟩ | ⟨_, h⟩
  · rw [hinc] at h'; cases h'
  · exact h

/-! ### the two right-hand operators as one scheme

`make_right_triangle` and `make_right_diagonal` are the same program run with two slice functions:
`rightTriangleCells cum lags (some u)` and `rightDiagonalCells cum dates hist` unfold to `overSlices`,
`makeRightTriangleU t lags u?` and `makeRightDiagonal t dates hist` to `rightOp`, which is how the lemmas of this section
apply to them. What the common tail needs of a slice function is `EdgeFn`. -/

def overSlices (f : List Cell → Except Err (List Cell)) (cum : List Cell) : Except Err (List Cell) := do
  let new ← (Triangle.slices cum).mapM fun p => f p.2
  pure new.flatten

def rightOp (g : List Cell → Except Err (List Cell)) (t : List Cell) : Except Err (List Cell) := do
  let cum ← if Triangle.isIncremental t then Triangle.toCumulative t else pure t
  let new ← g cum
  finishRight t new

section Scheme
variable {f g : List Cell → Except Err (List Cell)} {t cum new out : List Cell}

theorem overSlices_ok : overSlices f cum = .ok new ↔
    ∃ parts, (Triangle.slices cum).mapM (fun p => f p.2) = .ok parts ∧ new = parts.flatten := by
  constructor
  · intro h
    obtain ⟨parts, hparts, h⟩ := bind_ok h
    cases h
    exact ⟨parts, hparts, rfl⟩
  · rintro ⟨parts, hparts, rfl⟩
    simp only [overSlices, hparts, ok_bind, pure_eq_ok]

theorem overSlices_mem {P : List Cell → Cell → Prop} (hP : ∀ s ys, f s = .ok ys → ∀ c, c ∈ ys ↔ P s c)
    (h : overSlices f cum = .ok new) (c : Cell) : c ∈ new ↔ ∃ p ∈ Triangle.slices cum, P p.2 c := by
  obtain ⟨parts, hparts, rfl⟩ := overSlices_ok.mp h
  exact mapM_flatten_mem_of hparts (fun p _ ys hys => hP p.2 ys hys) c

theorem overSlices_total (h : ∀ p ∈ Triangle.slices cum, ∃ ys, f p.2 = .ok ys) : ∃ new, overSlices f cum = .ok new := by
  obtain ⟨parts, hparts⟩ := mapM_ok_of_forall h
  exact ⟨_, overSlices_ok.mpr ⟨parts, hparts, rfl⟩⟩

theorem rightOp_of (hcum : CumOf t cum) (hnew : g cum = .ok new) : rightOp g t = finishRight t new := by
  unfold rightOp
  rcases hcum with ⟨hinc, rfl⟩ | ⟨hinc, hc⟩
  · simp only [hinc, hnew, Bool.false_eq_true, if_false, pure_eq_ok, ok_bind]
  · simp only [hinc, hc, hnew, if_true, ok_bind]

theorem rightOp_ok : rightOp g t = .ok out ↔ ∃ cum new, CumOf t cum ∧ g cum = .ok new ∧ finishRight t new = .ok out := by
  constructor
  · intro h
    unfold rightOp at h
    split at h <;> obtain ⟨cum, hcum, h⟩ := bind_ok h <;> obtain ⟨new, hnew, h⟩ := bind_ok h
    · exact ⟨cum, new, Or.inr ⟨‹_›, hcum⟩, hnew, h⟩
    · exact ⟨cum, new, Or.inl ⟨Bool.eq_false_iff.mpr ‹_›, (Except.ok.inj hcum).symm⟩, hnew, h⟩
  · rintro ⟨cum, new, hcum, hnew, h⟩
    rw [rightOp_of hcum hnew, h]

theorem rightOp_fin (hinc : Triangle.isIncremental t = false) (h : rightOp g t = .ok out) :
    ∃ new, g t = .ok new ∧ finishRight t new = .ok out := by
  obtain ⟨cum, new, hcum, hnew, hfin⟩ := rightOp_ok.mp h
  obtain rfl := hcum.of_cum hinc
  exact ⟨new, hnew, hfin⟩

def EdgeFn (f : List Cell → Except Err (List Cell)) : Prop :=
  ∀ s ys, f s = .ok ys → ∃ edge, Triangle.rightEdge s = .ok edge ∧
    ∀ c ∈ ys, c.datesOk = true ∧ ∃ e ∈ edge, c = emptyCell e c.ev

namespace EdgeFn
variable (hf : EdgeFn f)
include hf

theorem edges (h : overSlices f cum = .ok new) : ∀ p ∈ Triangle.slices cum, ∃ edge, Triangle.rightEdge p.2 = .ok edge := by
  obtain ⟨parts, hparts, _⟩ := overSlices_ok.mp h
  intro p hp
  obtain ⟨ys, _, hys⟩ := mapM_ok_mem' hparts p hp
  obtain ⟨edge, hedge, _⟩ := hf _ _ hys
  exact ⟨edge, hedge⟩

theorem cell (h : overSlices f cum = .ok new) {n : Cell} (hn : n ∈ new) :
    n.datesOk = true ∧ ∃ p ∈ Triangle.slices cum, ∃ e ∈ p.2, n = emptyCell e n.ev := by
  obtain ⟨parts, hparts, rfl⟩ := overSlices_ok.mp h
  obtain ⟨p, hp, ys, hys, hny⟩ := (mapM_flatten_mem hparts n).mp hn
  obtain ⟨edge, hedge, hc⟩ := hf _ _ hys
  obtain ⟨hd, e, he, hne⟩ := hc n hny
  exact ⟨hd, p, hp, e, (Triangle.rightEdge_latest hedge he).1, hne⟩

theorem empties (h : overSlices f cum = .ok new) :
    ∀ n ∈ new, n.kind = .cumulative ∧ n.values = [] ∧ n.prev = none := fun n hn => by
  obtain ⟨_, _, _, _, _, hne⟩ := hf.cell h hn
  rw [hne]; exact ⟨rfl, rfl, rfl⟩

theorem rows (h : overSlices f cum = .ok new) : ∀ n ∈ new, ∃ e ∈ cum, rowKey e = rowKey n := fun n hn => by
  obtain ⟨_, p, hp, e, he, hne⟩ := hf.cell h hn
  exact ⟨e, mem_of_mem_slices hp he, by rw [hne]; rfl⟩

/-- cells of different slices differ in the metadata -/
theorem keys_nodup (h : overSlices f cum = .ok new)
    (hb : ∀ p ∈ Triangle.slices cum, ∀ ys, f p.2 = .ok ys → (ys.map ckey).Nodup) : (new.map ckey).Nodup := by
  obtain ⟨parts, hparts, rfl⟩ := overSlices_ok.mp h
  refine mapM_blocks_keys_nodup (fun p : Metadata × List Cell => f p.2) (·.1) (fun c => c.md)
    (fun a b hab => md_of_rowKey (Prod.mk.inj hab).1) _ _ (slices_partition cum).nodup hparts
    fun p hp ys hys => ⟨hb p hp ys hys, fun c hc => ?_⟩
  obtain ⟨edge, hedge, hcs⟩ := hf _ _ hys
  obtain ⟨_, e, he, hce⟩ := hcs c hc
  rw [hce]
  exact ((Triangle.mem_slice_iff hp e).mp (Triangle.rightEdge_latest hedge he).1).2

theorem total_cum (hinc : Triangle.isIncremental t = false)
    (hs : ∀ p ∈ Triangle.slices t, ∃ ys, f p.2 = .ok ys) : ∃ out, rightOp (overSlices f) t = .ok out := by
  obtain ⟨new, hnew⟩ := overSlices_total hs
  obtain ⟨right, hright⟩ := Triangle.ofCells_isOk.mpr (kindsConsistent_of_all fun n hn => (hf.empties hnew n hn).1)
  exact ⟨right, (rightOp_of (.inl ⟨hinc, rfl⟩) hnew).trans (finishRight_of_cum hinc hright)⟩

end EdgeFn
end Scheme

theorem edgeFn_rightTriangleSlice (lags : Option (List Rat)) (u : LagUnit) : EdgeFn (rightTriangleSlice lags u) := by
  intro s ys h
  obtain ⟨edge, hedge, hm⟩ := rightTriangleSlice_ok h
  refine ⟨edge, hedge, fun c hc => ?_⟩
  obtain ⟨q, hq, hqc⟩ := mapM_ok_mem hm c hc
  obtain ⟨ev, _, rfl, hd⟩ := rightCellOf_ok.mp hqc
  exact ⟨hd, q.2, (mem_rightPairs.mp hq).2.1, rfl⟩

/-- the cells `make_right_triangle` asks for on a cumulative triangle -/
def RightTriCell (t : List Cell) (lags : Option (List Rat)) (u : LagUnit) (c : Cell) : Prop :=
  ∃ p ∈ Triangle.slices t, SliceRightCell lags u p.2 c

theorem rightTriangleCells_ok {t new : List Cell} {lags : Option (List Rat)} {u : LagUnit}
    (h : rightTriangleCells t lags (some u) = .ok new) :
    ∃ parts, (Triangle.slices t).mapM (fun p => rightTriangleSlice lags u p.2) = .ok parts ∧
      new = parts.flatten :=
  (overSlices_ok (f := rightTriangleSlice lags u)).mp h

theorem rightTriangleCells_mem {t new : List Cell} {lags : Option (List Rat)} {u : LagUnit}
    (h : rightTriangleCells t lags (some u) = .ok new) (c : Cell) :
    c ∈ new ↔ RightTriCell t lags u c :=
  overSlices_mem (f := rightTriangleSlice lags u) (fun _ _ hys => rightTriangleSlice_mem hys) h c

theorem makeRightTriangleU_ok {t out : List Cell} {lags : Option (List Rat)} {u? : Option LagUnit}
    (h : makeRightTriangleU t lags u? = .ok out) :
    ∃ cum new, CumOf t cum ∧ rightTriangleCells cum lags u? = .ok new ∧ finishRight t new = .ok out :=
  rightOp_ok.mp h

/-- what a cell asked for by `make_right_triangle` looks like, in terms of the whole triangle -/
theorem RightTriCell.row {t : List Cell} {lags : Option (List Rat)} {u : LagUnit} {c : Cell}
    (h : RightTriCell t lags u c) :
    ∃ e ∈ t, c = emptyCell e c.ev ∧
      (∀ o ∈ t, o.md = e.md → o.ps = e.ps → o.pe = e.pe → Date.cmp o.ev e.ev ≠ .gt) ∧
      ∃ p ∈ Triangle.slices t, p.1 = e.md ∧ ∃ lag ∈ lagListOf lags u p.2,
        lag > e.devLag u ∧ addDevLag e.pe lag u = .ok c.ev := by
  obtain ⟨p, hp, edge, hedge, e, he, lag, hlag, hgt, ev, hev, rfl⟩ := h
  obtain ⟨hep, hlatest⟩ := Triangle.rightEdge_latest hedge he
  obtain ⟨het, hem⟩ := (Triangle.mem_slice_iff hp e).mp hep
  refine ⟨e, het, rfl, ?_, p, hp, hem.symm, lag, hlag, hgt, hev⟩
  intro o ho hmd hps hpe
  exact hlatest o ((Triangle.mem_slice_iff hp o).mpr ⟨ho, hmd.trans hem⟩) hmd hps hpe

theorem edgeFn_rightDiagonalSlice (dates : List Date) (hist : Bool) : EdgeFn (rightDiagonalSlice dates hist) := by
  intro s ys h
  obtain ⟨edge, hedge, rfl, hd⟩ := rightDiagonalSlice_ok h
  refine ⟨edge, hedge, fun c hc => ⟨hd c hc, ?_⟩⟩
  obtain ⟨q, hq, rfl⟩ := List.mem_map.mp hc
  exact ⟨q.1, (mem_diagPairs.mp hq).1, rfl⟩

/-- the cells `make_right_diagonal` asks for on a cumulative triangle -/
def RightDiagCell (t : List Cell) (dates : List Date) (hist : Bool) (c : Cell) : Prop :=
  ∃ p ∈ Triangle.slices t, SliceDiagCell dates hist p.2 c

theorem rightDiagonalCells_ok {t new : List Cell} {dates : List Date} {hist : Bool}
    (h : rightDiagonalCells t dates hist = .ok new) :
    ∃ parts, (Triangle.slices t).mapM (fun p => rightDiagonalSlice dates hist p.2) = .ok parts ∧
      new = parts.flatten :=
  (overSlices_ok (f := rightDiagonalSlice dates hist)).mp h

theorem rightDiagonalCells_mem {t new : List Cell} {dates : List Date} {hist : Bool}
    (h : rightDiagonalCells t dates hist = .ok new) (c : Cell) :
    c ∈ new ↔ RightDiagCell t dates hist c :=
  overSlices_mem (f := rightDiagonalSlice dates hist) (fun _ _ hys => rightDiagonalSlice_mem hys) h c

theorem RightDiagCell.facts {cum : List Cell} {dates : List Date} {n : Cell}
    (h : RightDiagCell cum dates false n) :
    ∃ e ∈ cum, n = emptyCell e n.ev ∧ n.ev ∈ dates ∧ e.ps ≤ n.ev ∧
      ∀ o ∈ cum, o.md = n.md → o.ev < n.ev := by
  obtain ⟨p, hp, edge, hedge, e, he, d, hd, hle, rfl⟩ := h
  obtain ⟨het, hem⟩ := (Triangle.mem_slice_iff hp e).mp (Triangle.rightEdge_latest hedge he).1
  obtain ⟨hdd, hafter⟩ := mem_diagDatesOf.mp hd
  exact ⟨e, het, rfl, hdd, hle, fun o ho hmd => hafter rfl o ((Triangle.mem_slice_iff hp o).mpr ⟨ho, hmd.trans hem⟩)⟩

theorem makeRightDiagonal_ok {t out : List Cell} {dates : List Date} {hist : Bool}
    (h : makeRightDiagonal t dates hist = .ok out) :
    ∃ cum new, CumOf t cum ∧ rightDiagonalCells cum dates hist = .ok new ∧ finishRight t new = .ok out :=
  rightOp_ok.mp h

end Bermuda.Extend
