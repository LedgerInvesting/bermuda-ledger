/-
C15: the executable clauses of `rightDiagSpec` and `rightDiagHistSpec` hold of the model's outputs. Both are read off one
statement for either value of `include_historic`: the coordinates of the result are exactly those asked for, said of the
observed triangle (`DiagAsked`, `DiagFacts.asked`).
-/
import Bermuda.Lemmas.ExtendSpecTri
namespace Bermuda.Extend

/-- without the last argument: `include_historic = False` -/
structure DiagFacts (t cum new out : List Cell) (dates : List Date) (hist : Bool := false) : Prop
    extends TailFacts t cum new out where
  mem_new : ∀ n, n ∈ new ↔ RightDiagCell cum dates hist n
  newEq : rightDiagonalCells cum dates hist = .ok new

theorem rightDiag_facts {t out : List Cell} {dates : List Date} {hist : Bool}
    (h : makeRightDiagonal t dates hist = .ok out) :
    ∃ cum new, DiagFacts t cum new out dates hist := by
  obtain ⟨cum, new, hT, hnew⟩ := (edgeFn_rightDiagonalSlice dates hist).tail_facts h
  exact ⟨cum, new, hT, rightDiagonalCells_mem hnew, hnew⟩

/-- the coordinates `make_right_diagonal` asks for, said of the observed triangle -/
def DiagAsked (t : List Cell) (dates : List Date) (hist : Bool) (x : Cell) (d : Date) : Prop :=
  x ∈ t ∧ d ∈ dates ∧ x.ps ≤ d ∧ (hist = false → ∀ o ∈ t, o.md = x.md → o.ev < d)

theorem rightDiag_new_asked {t cum new : List Cell} {dates : List Date} {hist : Bool} (hg : SameGrid t cum)
    (hedges : ∀ p ∈ Triangle.slices cum, ∃ edge, Triangle.rightEdge p.2 = .ok edge)
    (hiff : ∀ n, n ∈ new ↔ RightDiagCell cum dates hist n) : CoordsAre new (DiagAsked t dates hist) := by
  constructor
  · intro n hn
    obtain ⟨p, hp, edge, hedge, e, he, d, hd, hle, rfl⟩ := (hiff n).mp hn
    obtain ⟨hec, hem⟩ := (Triangle.mem_slice_iff hp e).mp (Triangle.rightEdge_latest hedge he).1
    obtain ⟨x, hx, hxk, _⟩ := hg.1 e hec
    obtain ⟨hdd, hafter⟩ := mem_diagDatesOf.mp hd
    refine ⟨x, hxk.symm, hx, hdd, by rw [ps_of_rowKey hxk]; exact hle, fun hh o ho hm => ?_⟩
    obtain ⟨o', ho', hok, hoe⟩ := hg.2 o ho
    rw [← hoe]
    exact hafter hh o' ((Triangle.mem_slice_iff hp o').mpr ⟨ho', by rw [md_of_rowKey hok, hm, md_of_rowKey hxk, hem]⟩)
  · rintro x d ⟨hx, hd, hps, hafter⟩
    obtain ⟨p, hp, edge, hedge, e, he, _, hpm, hke⟩ := edge_of_row hg hedges hx
    refine ⟨_, (hiff _).mpr ⟨p, hp, edge, hedge, e, he, d, mem_diagDatesOf.mpr ⟨hd, fun hh o' ho' => ?_⟩,
      by rw [ps_of_rowKey hke]; exact hps, rfl⟩, hke, rfl⟩
    obtain ⟨ho'c, ho'm⟩ := (Triangle.mem_slice_iff hp o').mp ho'
    obtain ⟨o, ho, hok, hoe⟩ := hg.1 o' ho'c
    rw [← hoe]
    exact hafter hh o ho (by rw [md_of_rowKey hok, ho'm, hpm])

theorem DiagFacts.asked {t cum new out : List Cell} {dates : List Date} {hist : Bool}
    (hf : DiagFacts t cum new out dates hist) : CoordsAre out (DiagAsked t dates hist) :=
  (rightDiag_new_asked hf.cumOf.sameGrid hf.edges hf.mem_new).of_coords hf.fwd hf.bwd

theorem DiagFacts.cell {t cum new out : List Cell} {dates : List Date} (hf : DiagFacts t cum new out dates)
    {c : Cell} (hc : c ∈ out) :
    c.ev ∈ dates ∧ c.ps ≤ c.ev ∧ (∃ x ∈ t, rowKey x = rowKey c) ∧ ∀ o ∈ t, o.md = c.md → o.ev < c.ev := by
  obtain ⟨x, hk, hx, hd, hle, hafter⟩ := hf.asked.1 c hc
  exact ⟨hd, by rw [ps_of_rowKey hk]; exact hle, ⟨x, hx, hk.symm⟩,
    fun o ho hm => hafter rfl o ho (hm.trans (md_of_rowKey hk))⟩

theorem sliceMax_lt {t : List Cell} {c x : Cell} (hx : x ∈ t) (hxm : x.md = c.md) {d : Date}
    (h : ∀ o ∈ t, o.md = c.md → o.ev < d) : Spec.C15.optLt (Spec.C15.sliceMax t c) (some d) = true :=
  maxEval_lt_iff.mpr ⟨List.ne_nil_of_mem (mem_sliceOf.mpr ⟨hx, hxm⟩),
    fun o ho => h o (mem_sliceOf.mp ho).1 (mem_sliceOf.mp ho).2⟩

theorem spec_rightDiag_onGrid {t cum new out : List Cell} {dates : List Date}
    (hf : DiagFacts t cum new out dates) : Spec.C15.rightDiagOnGrid t dates out = true := by
  simp only [Spec.C15.rightDiagOnGrid, List.all_eq_true, Bool.and_eq_true, decide_eq_true_eq]
  intro c hc
  obtain ⟨hd, hle, ⟨x, hx, hxk⟩, hafter⟩ := hf.cell hc
  exact ⟨⟨by simpa using hd, sliceMax_lt hx (md_of_rowKey hxk) hafter⟩, hle⟩

theorem spec_rightDiag_complete {t cum new out : List Cell} {dates : List Date}
    (hf : DiagFacts t cum new out dates) : Spec.C15.rightDiagComplete t dates out = true := by
  simp only [Spec.C15.rightDiagComplete, List.all_eq_true, Bool.or_eq_true, Bool.not_eq_true']
  intro rep hrep d hd
  by_cases hcond : (Spec.C15.optLt (Spec.C15.sliceMax t rep) (some d) && decide (rep.ps ≤ d)) = true
  swap
  · left; simpa using hcond
  right
  simp only [Bool.and_eq_true, decide_eq_true_eq] at hcond
  obtain ⟨c, hc, hck, hce⟩ := hf.asked.2 rep d ⟨hrep, hd, hcond.2,
    fun _ o ho hm => (maxEval_lt_iff.mp hcond.1).2 o (mem_sliceOf.mpr ⟨ho, hm⟩)⟩
  simp only [List.any_eq_true, Bool.and_eq_true, beq_iff_eq]
  exact ⟨c, hc, sameRow_iff.mpr hck, hce⟩

theorem spec_rightDiag_emptyWhenComplete {t cum new out : List Cell} {dates : List Date}
    (hf : DiagFacts t cum new out dates) :
    (!(Spec.C15.rightDiagNothingMissing t dates) || out.isEmpty) = true := by
  cases out with
  | nil => simp
  | cons c rest =>
    obtain ⟨hd, hle, ⟨x, hx, hxk⟩, hafter⟩ := hf.cell (c := c) (by simp)
    simp only [Bool.or_eq_true, Bool.not_eq_true', List.isEmpty_cons, Bool.false_eq_true, or_false]
    simp only [Spec.C15.rightDiagNothingMissing]
    rw [List.all_eq_false]
    refine ⟨x, hx, ?_⟩
    simp only [Bool.not_eq_true, List.all_eq_false]
    refine ⟨c.ev, hd, ?_⟩
    have h1 : Spec.C15.optLt (Spec.C15.sliceMax t x) (some c.ev) = true :=
      sliceMax_lt hx rfl fun o ho hm => hafter o ho (hm.trans (md_of_rowKey hxk))
    have h2 : x.ps ≤ c.ev := by rw [ps_of_rowKey hxk]; exact hle
    simp [h1, h2]

theorem spec_rightDiagHist_onGrid {t cum new out : List Cell} {dates : List Date} {hist : Bool}
    (hf : DiagFacts t cum new out dates hist) : Spec.C15.rightDiagHistOnGrid t dates out = true := by
  simp only [Spec.C15.rightDiagHistOnGrid, List.all_eq_true, Bool.and_eq_true, decide_eq_true_eq,
    Bool.not_eq_true', List.isEmpty_eq_false_iff]
  intro c hc
  obtain ⟨x, hk, hx, hd, hle, _⟩ := hf.asked.1 c hc
  exact ⟨⟨by simpa using hd, by rw [ps_of_rowKey hk]; exact hle⟩,
    List.ne_nil_of_mem (mem_rowOf.mpr ⟨hx, hk⟩)⟩

theorem spec_rightDiagHist_complete {t cum new out : List Cell} {dates : List Date}
    (hf : DiagFacts t cum new out dates true) : Spec.C15.rightDiagHistComplete t dates out = true := by
  simp only [Spec.C15.rightDiagHistComplete, List.all_eq_true, Bool.or_eq_true, Bool.not_eq_true',
    decide_eq_false_iff_not]
  intro rep hrep d hd
  by_cases hps : rep.ps ≤ d
  swap
  · exact Or.inl hps
  right
  obtain ⟨c, hc, hck, hce⟩ := hf.asked.2 rep d ⟨hrep, hd, hps, nofun⟩
  simp only [List.any_eq_true, Bool.and_eq_true, beq_iff_eq]
  exact ⟨c, hc, sameRow_iff.mpr hck, hce⟩

/-- with `include_historic = True` a requested date that is the evaluation date of an observed cell `x` (not
before the period start) is served: the result has a cell on the coordinate of `x` -/
theorem rightDiag_hist_occupied {t cum new out : List Cell} {dates : List Date}
    (hf : DiagFacts t cum new out dates true) {x : Cell} (hx : x ∈ t) (hd : x.ev ∈ dates) (hps : x.ps ≤ x.ev) :
    ∃ c ∈ out, Spec.C15.sameCoord c x = true := by
  obtain ⟨c, hc, hck, hce⟩ := hf.asked.2 x x.ev ⟨hx, hd, hps, nofun⟩
  exact ⟨c, hc, sameCoord_iff_row.mpr ⟨hck, hce⟩⟩

end Bermuda.Extend
