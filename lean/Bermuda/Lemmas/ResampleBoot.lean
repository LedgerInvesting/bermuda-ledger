/-
Bridges from the structure theorems of `bootstrap` to the executable predicates of `Spec/C17.lean` that look a
replicate's cells up BY COORDINATE (`repCell`): the lookup finds exactly the cell the model paired with the source
cell, provided coordinates in the source are pairwise distinct and the bootstrap tag does not merge two slices.
-/
import Bermuda.Lemmas.Resample
import Bermuda.Spec.C17
namespace Bermuda.Resample
open Bermuda.Spec.C17

/-- the filter predicate of `Spec.C17.repCell` -/
def atCoord (c : Cell) (i : Nat) (o : Cell) : Bool :=
  o.ps == c.ps && o.pe == c.pe && o.ev == c.ev && o.prev == c.prev && o.md == tagMd c.md i

theorem repCell_eq (rep : List Cell) (c : Cell) (i : Nat) :
    repCell rep c i = match rep.filter (atCoord c i) with | [o] => some o | _ => none := rfl

theorem atCoord_tag {c o : Cell} {i : Nat} :
    atCoord c i (tagCell i o) = true ↔
      o.ps = c.ps ∧ o.pe = c.pe ∧ o.ev = c.ev ∧ o.prev = c.prev ∧ tagMd o.md i = tagMd c.md i := by
  simp only [atCoord, tagCell, tagMd, Bool.and_eq_true, beq_iff_eq]
  tauto

/-- the bootstrap tag keeps slices apart -/
def TagInjective (t : List Cell) (i : Nat) : Prop :=
  ∀ c1 ∈ t, ∀ c2 ∈ t, tagMd c1.md i = tagMd c2.md i → c1.md = c2.md

theorem repCell_perm {rep rep' : List Cell} (hp : rep.Perm rep') (c : Cell) (i : Nat) :
    repCell rep c i = repCell rep' c i := by
  rw [repCell_eq, repCell_eq]
  have hf : (rep.filter (atCoord c i)).Perm (rep'.filter (atCoord c i)) := hp.filter _
  generalize rep.filter (atCoord c i) = a at hf
  generalize rep'.filter (atCoord c i) = b at hf
  match a, b, hf with
  | [], b, hf => rw [List.nil_perm.mp hf]
  | [x], b, hf => rw [List.singleton_perm.mp hf]
  | x :: y :: r, b, hf =>
    have hl := hf.length_eq
    match b, hl with
    | _ :: _ :: _, _ => rfl

theorem filter_pairing {R : Cell → Cell → Prop} (hR : ∀ c o, R c o → o.coord = c.coord) {i : Nat} :
    ∀ {t' l : List Cell}, List.Forall₂ R t' l → (t'.map (·.coord)).Nodup → TagInjective t' i →
      ∀ p ∈ t'.zip l, (l.map (tagCell i)).filter (atCoord p.1 i) = [tagCell i p.2] := by
  intro t' l hf
  induction hf with
  | nil => intro _ _ p hp; simp at hp
  | @cons c0 o0 t'' l'' h0 hrest ih =>
    intro hnd hinj p hp
    simp only [List.map_cons, List.nodup_cons] at hnd
    have hinj' : TagInjective t'' i := fun a ha b hb => hinj a (by simp [ha]) b (by simp [hb])
    have hco0 := Cell.coord_eq_iff.mp (hR c0 o0 h0)
    -- a tagged partner of a cell of t'' never sits at the coordinates of a cell with another coordinate
    have miss : ∀ d, d ∈ c0 :: t'' → ∀ c' ∈ c0 :: t'', ∀ o', R c' o' → c'.coord ≠ d.coord →
        atCoord d i (tagCell i o') = false := by
      intro d hd c' hc' o' hr hne
      rw [Bool.eq_false_iff]
      intro hp
      obtain ⟨a1, a2, a3, a4, a5⟩ := atCoord_tag.mp hp
      obtain ⟨b1, b2, b3, b4, b5⟩ := Cell.coord_eq_iff.mp (hR c' o' hr)
      exact hne (Cell.coord_eq_iff.mpr ⟨hinj c' hc' d hd (b1 ▸ a5), b2.symm.trans a1, b3.symm.trans a2,
        b4.symm.trans a3, b5.symm.trans a4⟩)
    rcases List.mem_cons.mp (List.zip_cons_cons ▸ hp) with rfl | hp'
    · have hhead : atCoord c0 i (tagCell i o0) = true :=
        atCoord_tag.mpr ⟨hco0.2.1, hco0.2.2.1, hco0.2.2.2.1, hco0.2.2.2.2, by rw [hco0.1]⟩
      simp only [List.map_cons, List.filter_cons, hhead, if_true, List.cons.injEq, true_and]
      rw [List.filter_eq_nil_iff]
      intro x hx
      obtain ⟨o', ho', rfl⟩ := List.mem_map.mp hx
      obtain ⟨c', hc'', hr⟩ := forall₂_mem_right hrest o' ho'
      have hne : c'.coord ≠ c0.coord := fun e => hnd.1 (List.mem_map.mpr ⟨c', hc'', e⟩)
      simp [miss c0 (by simp) c' (by simp [hc'']) o' hr hne]
    · have hc' := (List.of_mem_zip hp').1
      have hne : c0.coord ≠ p.1.coord := fun e => hnd.1 (List.mem_map.mpr ⟨p.1, hc', e.symm⟩)
      have hhead := miss p.1 (by simp [hc']) c0 (by simp) o0 h0 hne
      simp only [List.map_cons, List.filter_cons, hhead, Bool.false_eq_true, if_false]
      exact ih hnd.2 hinj' p hp'

theorem repCell_of_zip {R : Cell → Cell → Prop} (hR : ∀ c o, R c o → o.coord = c.coord)
    {t' l rep : List Cell} {i : Nat} (hp : rep.Perm (l.map (tagCell i))) (hf : List.Forall₂ R t' l)
    (hnd : (t'.map (·.coord)).Nodup) (hinj : TagInjective t' i) :
    ∀ p ∈ t'.zip l, repCell rep p.1 i = some (tagCell i p.2) := by
  intro p hpz
  have := hp.filter (atCoord p.1 i)
  rw [filter_pairing hR hf hnd hinj p hpz] at this
  rw [repCell_eq, List.perm_singleton.mp this]

theorem repCell_of_pairing {R : Cell → Cell → Prop} (hR : ∀ c o, R c o → o.coord = c.coord)
    {t t' l rep : List Cell} {i : Nat} (hp : rep.Perm (l.map (tagCell i))) (hf : List.Forall₂ R t' l)
    (ht : t'.Perm t) (hnd : (t.map (·.coord)).Nodup) (hinj : TagInjective t i) :
    ∀ c ∈ t, ∃ o, R c o ∧ repCell rep c i = some (tagCell i o) := by
  intro c hc
  obtain ⟨j, hj, rfl⟩ := List.getElem_of_mem (ht.mem_iff.mpr hc)
  have hj' : j < l.length := hf.length_eq ▸ hj
  refine ⟨l[j], (List.forall₂_iff_get.mp hf).2 j hj hj', ?_⟩
  exact repCell_of_zip hR hp hf (((ht.map _).nodup_iff).mpr hnd)
    (fun a ha b hb => hinj a (ht.mem_iff.mp ha) b (ht.mem_iff.mp hb)) (t'[j], l[j]) (getElem_mem_zip hj hj')

/-- every cell of the source carries every field name of the source -/
def UniformFields (t : List Cell) : Prop := ∀ c ∈ t, ∀ c' ∈ t, ∀ f ∈ c'.values.keys, f ∈ c.values.keys

theorem replicateStructureOk_model {t t' l rep : List Cell} {i : Nat} (hp : rep.Perm (l.map (tagCell i)))
    (hf : List.Forall₂ (PreRel t) t' l) (ht : t'.Perm t) (hnd : (t.map (·.coord)).Nodup)
    (hinj : TagInjective t i) (hU : UniformFields t) : replicateStructureOk t rep i = true := by
  have hlen : rep.length = t.length := by
    rw [hp.length_eq, List.length_map, ← hf.length_eq, ht.length_eq]
  simp only [replicateStructureOk, hlen, beq_self_eq_true, Bool.true_and, List.all_eq_true]
  intro c hc
  obtain ⟨o, ⟨_, hkind, hsub, hsup⟩, hrep⟩ := repCell_of_pairing (fun _ _ h => h.1) hp hf ht hnd hinj c hc
  rw [hrep]
  simp only [tagCell, Spec.C17.sameKeys, Bool.and_eq_true, List.all_eq_true, List.contains_iff_mem, beq_iff_eq]
  refine ⟨hkind, ?_, hsub⟩
  intro f hf'
  obtain ⟨c', hc', hfc'⟩ := hsup f hf'
  exact hU c hc c' hc' f hfc'

/-! ### the earliest cell of every period, through the whole `bootstrap` -/

/-- what a replicate may do to a cell of the WHOLE triangle `T` before the tag -/
def BootRel (T : List Cell) (c o : Cell) : Prop :=
  PreRel T c o ∧
  (useAtas (sliceOf T c) = true → initialLag (sliceOf T c) (c.ps, c.pe) = some c.devLag → o = c)

theorem slice_is_sliceOf {t : List Cell} (hs : t.Pairwise (fun a b => Cell.le a b)) :
    ∀ s ∈ (Triangle.slices t).map (·.2), ∀ c ∈ s, sliceOf t c = s := by
  intro s hs' c hc
  obtain ⟨p, hp, rfl⟩ := List.mem_map.mp hs'
  rw [sliceOf, (slices_partition t).key_eq hp hc]
  exact (slice_of_sorted hs hp).symm

theorem sameValues_refl {a : Dict Val} (h : a.keys.Nodup) : sameValues a a = true := by
  simp only [sameValues, Spec.C17.sameKeys, Bool.and_eq_true, List.all_eq_true, List.contains_iff_mem, beq_iff_eq]
  refine ⟨⟨fun _ h => h, fun _ h => h⟩, ?_⟩
  rintro ⟨k, v⟩ hkv
  exact (Dict.get?_eq_some_iff_mem h).mpr hkv

theorem firstCellsUnchanged_model {t t' l rep : List Cell} {i : Nat} (hp : rep.Perm (l.map (tagCell i)))
    (hf : List.Forall₂ (BootRel t) t' l) (ht : t'.Perm t) (hnd : (t.map (·.coord)).Nodup)
    (hinj : TagInjective t i) (hwf : ∀ c ∈ t, c.values.keys.Nodup) :
    firstCellsUnchanged t rep i = true := by
  simp only [firstCellsUnchanged, List.all_eq_true]
  intro c hc
  split
  · rename_i hcond
    simp only [Bool.and_eq_true, beq_iff_eq] at hcond
    obtain ⟨o, ⟨_, hfirst⟩, hrep⟩ := repCell_of_pairing (fun _ _ h => h.1.1) hp hf ht hnd hinj c hc
    rw [hrep, hfirst hcond.1 hcond.2]
    exact sameValues_refl (hwf c hc)
  · rfl

theorem bootstrap_structure_first {t : List Cell} {n : Int} {field : Option (List String)}
    {P : Nat → Nat → RepParam} {reps : List (List Cell)}
    (h : bootstrap t n field P = .ok reps) (hk : kindsConsistent t = true)
    (hs : t.Pairwise (fun a b => Cell.le a b)) :
    ∀ i (hi : i < reps.length), ∃ t' l, t'.Perm t ∧ reps[i].Perm (l.map (tagCell i)) ∧
      List.Forall₂ (BootRel t) t' l := by
  intro i hi
  obtain ⟨t', l, h1, h2, hf⟩ := bootstrap_cells h hk i hi
  exact ⟨t', l, h1, h2, hf.imp fun c o ⟨s, hs', hc, hr⟩ =>
    ⟨hr.1.of_slice hk hs', slice_is_sliceOf hs s hs' c hc ▸ hr.2⟩⟩

end Bermuda.Resample
