/-
`disagg_spec_bridge` (C18): the groups of `disaggregate_experience`, slice by slice, and the proof
that the executable predicate `Spec.C18.disaggSpec` holds on the model's own output.
-/
import Bermuda.Lemmas.UnitsDates
import Bermuda.Lemmas.UnitsDisagg
namespace Bermuda.Units
open Bermuda Bermuda.Spec.C18

theorem all_of_const {α} {l : List α} {p : α → Bool} {b : Bool} (hne : l ≠ []) (h : ∀ a ∈ l, p a = b) :
    l.all p = b := by
  cases b
  · obtain ⟨a, ha⟩ := List.exists_mem_of_ne_nil _ hne
    exact List.all_eq_false.mpr ⟨a, ha, by simp [h a ha]⟩
  · exact List.all_eq_true.mpr h

theorem any_of_const {α} {l : List α} {p : α → Bool} {b : Bool} (hne : l ≠ []) (h : ∀ a ∈ l, p a = b) :
    l.any p = b := by
  cases b
  · exact List.any_eq_false.mpr fun a ha => by simp [h a ha]
  · obtain ⟨a, ha⟩ := List.exists_mem_of_ne_nil _ hne
    exact List.any_eq_true.mpr ⟨a, ha, h a ha⟩

/-- `part` is the group of `c` when the slice has `n` sub-periods per period: `SubCells` with `n` fixed
(`SubCellsN.subCells`), plus what `aggregate_disagg` needs: the field names and, in C09's vocabulary, the
sample-by-sample sums (`at`) and what kind of value every part is (`WeightedPart`) -/
structure SubCellsN (res n : Nat) (F : List String) (c : Cell) (part : List Cell) : Prop where
  periods : part.map period = obsSubs c res n
  cells : ∀ o ∈ part, o.md = c.md ∧ o.ev = c.ev ∧ o.kind = .cell ∧
    o.values.map (·.1) = (c.values.filter fun kv => F.contains kv.1).map (·.1)
  sums : part ≠ [] → ∀ f, F.contains f = true → ∀ i, total part f i = cellField c f i
  atSums : part ≠ [] → ∀ f, F.contains f = true → ∀ i,
    (part.map fun o => (o.getV f).at i).sum = (c.getV f).at i
  kinds : ∀ o ∈ part, ∀ kv ∈ c.values, F.contains kv.1 = true → ∃ w, WeightedPart kv.2 w (o.getV kv.1)

/-- what `disaggCell` returns is the group of its cell: each of the facts is read off the stages of
`disaggCell` (`disaggCell_ok`), one `subCell` at a time; the two sums are `disaggCell_sum` for the two
readings `comp · i` and `(·.at i)` of a value -/
theorem disaggCell_groups {c : Cell} {res n : Nat} {ws : List Rat} {F : List String} {cells : List Cell}
    (hk : KN c.values) (hws : ws ≠ []) (h : disaggCell c res n ws F = .ok cells) :
    SubCellsN res n F c cells := by
  obtain ⟨_, weighted, hW, hF⟩ := disaggCell_ok h
  have hcell : ∀ o ∈ cells, o.md = c.md ∧ o.ev = c.ev ∧ o.kind = .cell ∧
      o.values.map (·.1) = (c.values.filter fun kv => F.contains kv.1).map (·.1) := by
    intro o ho
    obtain ⟨k, _, hko⟩ := hF.mem_right ho
    obtain ⟨a, b, c', _, e, _⟩ := subCell_fields hk hW hko
    exact ⟨a, b, c', e⟩
  refine ⟨?_, hcell, fun hne f hf i => ?_,
    fun hne f hf i => disaggCell_sum (·.at i) rfl (fun hw _ _ hp => (weightValue_part hw hp).at_eq i) hk hws h hne hf,
    fun o ho kv hkv hf => ?_⟩
  · rw [hF.map_eq period (fun k => (obsSubs c res n)[k]!) fun k o hko => (subCell_fields hk hW hko).2.2.2.1]
    exact map_getElem!_range _
  · rw [cellField_eq hk, ← disaggCell_sum (comp · i) rfl (fun hw _ _ hp => weightValue_comp hw hp i) hk hws h hne hf]
    refine congrArg List.sum (List.map_congr_left fun o ho => cellField_eq ?_ f i)
    show (o.values.map (·.1)).Nodup
    rw [(hcell o ho).2.2.2]
    exact (List.filter_sublist.map _).nodup hk
  · obtain ⟨k, _, hko⟩ := hF.mem_right ho
    obtain ⟨parts, hw, hp⟩ := (subCell_fields hk hW hko).2.2.2.2.2 kv hkv hf
    exact ⟨_, weightValue_part hw hp⟩

def groupOf (res n : Nat) (ws : List Rat) (F : List String) (c : Cell) : List Cell :=
  (disaggCell c res n ws F).toOption.getD default

theorem disaggSlice_groups {sl out : List Cell} {res : Nat} {ws : List Rat} {F : List String}
    (hk : ∀ c ∈ sl, KN c.values) (hws : ws ≠ []) (h : disaggSlice sl res ws F = .ok out) :
    ∃ sres, periodResolution sl = .ok sres ∧
      out = sl.flatMap (groupOf res (sres / (res : Int)).toNat ws F) ∧
      ∀ c ∈ sl, SubCellsN res (sres / (res : Int)).toNat F c (groupOf res (sres / (res : Int)).toNat ws F c) := by
  obtain ⟨sres, hr, h⟩ := bind_ok h
  obtain ⟨parts, hm, h⟩ := bind_ok h
  cases h
  obtain ⟨rfl, hg⟩ := mapM_ok_fun hm
  exact ⟨sres, hr, (List.flatMap_def ..).symm, fun c hc => disaggCell_groups (hk c hc) hws (hg c hc)⟩

def nSub (t : List Cell) (res : Nat) (m : Metadata) : Nat :=
  match (Triangle.slices t).find? (·.1 == m) with
  | some sl => ((periodResolution sl.2).toOption.getD 0 / (res : Int)).toNat
  | none => 0

theorem nSub_eq {t : List Cell} {sl : Metadata × List Cell} (hs : sl ∈ Triangle.slices t) {sres : Int}
    (hr : periodResolution sl.2 = .ok sres) (res : Nat) : nSub t res sl.1 = (sres / (res : Int)).toNat := by
  unfold nSub
  rw [Assoc.find?_of_mem_nodup (slices_partition t).nodup hs]
  show ((periodResolution sl.2).toOption.getD 0 / (res : Int)).toNat = _
  rw [hr]; rfl

theorem disaggCore_groups {t out : List Cell} {res : Nat} {ws : List Rat} {F : List String}
    (hk : ∀ c ∈ t, KN c.values) (hws : ws ≠ []) (h : disaggCore t res ws F = .ok out) :
    ∃ G : Cell → List Cell, out.Perm (t.flatMap G) ∧
      ∀ sl ∈ Triangle.slices t, ∃ sres, periodResolution sl.2 = .ok sres ∧
        ∀ c ∈ sl.2, SubCellsN res (sres / (res : Int)).toNat F c (G c) := by
  obtain ⟨parts0, hm, h⟩ := bind_ok h
  obtain ⟨rfl, hg⟩ := mapM_ok_fun hm
  have hsl : ∀ sl ∈ Triangle.slices t, (disaggSlice sl.2 res ws F).toOption.getD default =
        sl.2.flatMap (fun c => groupOf res (nSub t res c.md) ws F c) ∧
      ∃ sres, periodResolution sl.2 = .ok sres ∧
        ∀ c ∈ sl.2, SubCellsN res (sres / (res : Int)).toNat F c (groupOf res (nSub t res c.md) ws F c) := by
    intro sl hs
    obtain ⟨sres, hr, he, hG⟩ := disaggSlice_groups (fun c hc => hk c (mem_slices_md hs hc).2) hws (hg sl hs)
    have hN : ∀ c ∈ sl.2, nSub t res c.md = (sres / (res : Int)).toNat := fun c hc => by
      rw [(mem_slices_md hs hc).1, nSub_eq hs hr]
    -- `rw`, not `hN c hc ▸ hG c hc`: a motive over `SubCellsN` is dear to elaborate
    exact ⟨he.trans (List.flatMap_congr fun c hc => by rw [hN c hc]), sres, hr,
      fun c hc => by rw [hN c hc]; exact hG c hc⟩
  -- the group as a function of the cell alone (later proofs filter `t.flatMap G`): the model works slice by slice with
  -- the slice's own sub-period count, which `nSub` looks up through the cell's metadata
  refine ⟨fun c => groupOf res (nSub t res c.md) ws F c, (Triangle.ofCells_perm h).trans ?_,
    fun sl hs => (hsl sl hs).2⟩
  rw [← List.flatMap_def, List.flatMap_congr fun sl hs => (hsl sl hs).1, ← List.flatMap_assoc]
  exact (Triangle.slices_flatMap_perm t).flatMap_right _

theorem SubCellsN.subCells {res n : Nat} {F : List String} {c : Cell} {part : List Cell}
    (h : SubCellsN res n F c part) : SubCells res (fun f => F.contains f) c part := by
  refine ⟨⟨n, h.periods⟩, fun o ho => ?_, h.sums⟩
  obtain ⟨hmd, hev, hkind, _⟩ := h.cells o ho
  have hm : (o.ps, o.pe) ∈ obsSubs c res n := h.periods ▸ List.mem_map.mpr ⟨o, ho, rfl⟩
  exact ⟨hmd, hev, hkind, by simpa [hev] using (List.mem_filter.mp hm).2⟩

/-- `SumOf` is C09's reading of `_conforming_sum`: the sum of floats of one kind is a float of that kind, with the
samples and the readings of the original (`vdata_eq_of_at`) -/
theorem SubCellsN.sum_back {res n : Nat} {F : List String} {c : Cell} {part : List Cell}
    (h : SubCellsN res n F c part) (hne : part ≠ []) (hk : KN c.values) {kv : String × Val} (hkv : kv ∈ c.values)
    (hf : F.contains kv.1 = true) {r : Val} (hs : SumOf r (part.map fun o => o.getV kv.1)) :
    r ≠ .none ∧ kv.2 ≠ .none ∧ vdata r = vdata kv.2 := by
  have hp : ∀ o ∈ part, ∃ w, WeightedPart kv.2 w (o.getV kv.1) := fun o ho => h.kinds o ho kv hkv hf
  obtain ⟨x, hx⟩ := List.exists_mem_of_ne_nil _ hne
  have hnn := let ⟨_, hw⟩ := hp x hx; hw.ne_none
  have hin : ∀ i, r.inRange i = kv.2.inRange i := fun i => by
    rw [hs.range, List.all_map]
    exact all_of_const hne fun o ho => let ⟨_, hw⟩ := hp o ho; hw.range i
  obtain ⟨a, b⟩ := vdata_eq_of_at (r := r) (v := kv.2)
    (by rw [hs.int, List.all_map]; exact all_of_const hne fun o ho => let ⟨_, hw⟩ := hp o ho; hw.float) hnn
    (by rw [hs.arr, List.any_map]; exact any_of_const hne fun o ho => let ⟨_, hw⟩ := hp o ho; hw.arr) hin
    fun i hi => by
      rw [hs.sample i fun v hv => by
        obtain ⟨o, ho, rfl⟩ := List.mem_map.mp hv
        obtain ⟨_, hw⟩ := hp o ho
        rw [hw.range i, hi], List.map_map]
      exact (h.atSums hne kv.1 hf i).trans (by rw [getV_of_mem_kn hk hkv])
  exact ⟨a, hnn, b⟩

theorem SubCellsN.ne_nil_iff {res n : Nat} {F : List String} {c : Cell} {part : List Cell}
    (h : SubCellsN res n F c part) : part ≠ [] ↔ obsSubs c res n ≠ [] := by
  rw [← h.periods, ne_eq, ne_eq, List.map_eq_nil_iff]

/-- what `disaggWF` says about one slice -/
structure SliceWF (res : Nat) (sl : List Cell) (L : Int) : Prop where
  hres : 1 ≤ res
  hL : 0 < L
  hdiv : L % (res : Int) = 0
  nodup : sl.Nodup
  cell : ∀ c ∈ sl, c.ps.valid = true ∧ c.ps.d = 1 ∧ 0 ≤ monthToId c.ps ∧
    c.pe = (addMonths c.ps ((L.toNat : Nat) : Rat)).pred ∧ KN c.values
  disj : ∀ c ∈ sl, ∀ c' ∈ sl, c ≠ c' → c.ev = c'.ev → c.pe < c'.ps ∨ c'.pe < c.ps

theorem disaggWF_slice {res : Nat} {t : List Cell} (h : disaggWF res t = true)
    {sl : Metadata × List Cell} (hsl : sl ∈ Triangle.slices t) :
    ∃ L, periodResolution sl.2 = .ok L ∧ SliceWF res sl.2 L := by
  unfold disaggWF at h
  have := List.all_eq_true.mp h sl hsl
  split at this
  · rename_i L hL
    simp only [Bool.and_eq_true, decide_eq_true_eq, beq_iff_eq, List.all_eq_true, Bool.or_eq_true,
      bne_iff_ne, ne_eq] at this
    obtain ⟨⟨⟨⟨⟨h1, h2⟩, h3⟩, h4⟩, h5⟩, h6⟩ := this
    refine ⟨L, hL, ⟨h1, h2, h3, h4, ?_, ?_⟩⟩
    · intro c hc
      obtain ⟨⟨⟨⟨a, b⟩, c'⟩, d⟩, e⟩ := h5 c hc
      exact ⟨a, b, c', d, e⟩
    · intro c hc c' hc' hne hev
      rcases h6 c hc c' hc' with ((h | h) | h) | h
      · exact absurd h hne
      · exact absurd hev h
      · exact .inl h
      · exact .inr h
  · cases this

theorem disaggWF_kn {res : Nat} {t : List Cell} (h : disaggWF res t = true) : ∀ c ∈ t, KN c.values := by
  intro c hc
  obtain ⟨sl, hsl, _, hcs⟩ := Triangle.exists_slice hc
  obtain ⟨L, _, w⟩ := disaggWF_slice h hsl
  exact (w.cell c hcs).2.2.2.2

theorem sliceWF_n {res : Nat} {sl : List Cell} {L : Int} (w : SliceWF res sl L) :
    1 ≤ (L / (res : Int)).toNat ∧ L = (((L / (res : Int)).toNat * res : Nat) : Int) := by
  have hr : (0 : Int) < res := by have := w.hres; omega
  have h1 : (res : Int) * (L / (res : Int)) = L :=
    Int.mul_ediv_cancel' (Int.dvd_of_emod_eq_zero w.hdiv)
  have hq : 0 < L / (res : Int) := by
    by_contra hc
    have : L / (res : Int) ≤ 0 := by omega
    have := Int.mul_le_mul_of_nonneg_left this (_root_.le_of_lt hr)
    have := w.hL
    omega
  constructor
  · omega
  · push_cast
    rw [Int.toNat_of_nonneg (_root_.le_of_lt hq)]
    rw [Int.mul_comm]; omega

theorem sliceWF_expected {res : Nat} {sl : List Cell} {L : Int} (w : SliceWF res sl L) {c : Cell}
    (hc : c ∈ sl) : expectedSubs res c = obsSubs c res (L / (res : Int)).toNat := by
  obtain ⟨_, hd, h70, hpe, _⟩ := w.cell c hc
  have e : L.toNat = (L / (res : Int)).toNat * res := by have := (sliceWF_n w).2; omega
  exact expectedSubs_eq w.hres hd h70 (sliceWF_n w).1 (e ▸ hpe)

/-- an expected sub-period lies inside the cell's period -/
theorem mem_expectedSubs {res : Nat} {sl : List Cell} {L : Int} (w : SliceWF res sl L) {c : Cell}
    (hc : c ∈ sl) {p : Date × Date} (hp : p ∈ expectedSubs res c) :
    c.ps ≤ p.1 ∧ p.1 ≤ p.2 ∧ p.2 ≤ c.pe := by
  obtain ⟨hv, hd, h70, _, _⟩ := w.cell c hc
  unfold expectedSubs at hp
  obtain ⟨hm, hf⟩ := List.mem_filter.mp hp
  rw [subperiods_firstOf hd h70] at hm
  obtain ⟨k, _, rfl⟩ := List.mem_map.mp hm
  simp only [Bool.and_eq_true, decide_eq_true_eq] at hf
  refine ⟨?_, subOf_start_le_end _ w.hres k, hf.1⟩
  have := subOf_start_ge (monthToId c.ps) res k
  rwa [firstOf_monthToId hv hd] at this

theorem expectedSubs_disjoint {res : Nat} {sl : List Cell} {L : Int} (w : SliceWF res sl L) {c c' : Cell}
    (hc : c ∈ sl) (hc' : c' ∈ sl) (hne : c ≠ c') (hev : c.ev = c'.ev) {p : Date × Date}
    (hp : p ∈ expectedSubs res c) (hp' : p ∈ expectedSubs res c') : False := by
  obtain ⟨a1, a2, a3⟩ := mem_expectedSubs w hc hp
  obtain ⟨b1, b2, b3⟩ := mem_expectedSubs w hc' hp'
  rcases w.disj c hc c' hc' hne hev with h | h
  · -- p.2 ≤ c.pe < c'.ps ≤ p.1 ≤ p.2
    have := DateOrder.lt_of_lt_of_le (DateOrder.lt_of_lt_of_le h b1) b2
    exact DateOrder.lt_irrefl _ (DateOrder.lt_of_lt_of_le this a3)
  · have := DateOrder.lt_of_lt_of_le (DateOrder.lt_of_lt_of_le h a1) a2
    exact DateOrder.lt_irrefl _ (DateOrder.lt_of_lt_of_le this b3)

theorem sliceWF_pe {res : Nat} {sl : List Cell} {L : Int} (w : SliceWF res sl L) {c : Cell} (hc : c ∈ sl) :
    c.pe = monthEndOf (monthToId c.ps + L - 1) ∧ firstOf (monthToId c.ps) = c.ps := by
  obtain ⟨hv, hd, h70, hpe, _⟩ := w.cell c hc
  refine ⟨?_, firstOf_monthToId hv hd⟩
  have hL := w.hL
  rw [hpe, addMonths_natCast, Int.toNat_of_nonneg hL.le, periodEnd_of_first _ hd _ (by omega)]

/-- two cells of a well-formed slice with the same coordinates are the same cell -/
theorem sliceWF_key_inj {res : Nat} {sl : List Cell} {L : Int} (w : SliceWF res sl L) {c c' : Cell}
    (hc : c ∈ sl) (hc' : c' ∈ sl) (hps : c.ps = c'.ps) (hpe : c.pe = c'.pe) (hev : c.ev = c'.ev) :
    c = c' := by
  by_contra hne
  obtain ⟨hcpe, hcps⟩ := sliceWF_pe w hc
  have h0 : ¬ monthEndOf (monthToId c.ps + L - 1) < firstOf (monthToId c.ps) := by
    rw [monthEndOf_lt_firstOf_iff]; have := w.hL; omega
  have hle : ¬ c.pe < c.ps := by rwa [← hcpe, hcps] at h0
  rcases w.disj c hc c' hc' hne hev with h | h
  · rw [← hps] at h; exact hle h
  · rw [← hpe] at h; exact hle h

theorem sliceWF_coord_nodup {res : Nat} {sl : List Cell} {L : Int} (w : SliceWF res sl L) :
    (sl.map Cell.coord).Nodup :=
  List.Nodup.map_on (fun a ha b hb hab => by
    obtain ⟨_, h1, h2, h3, _⟩ := Cell.coord_eq_iff.mp hab
    exact sliceWF_key_inj w ha hb h1 h2 h3) w.nodup

/-- the coordinates of a well-formed triangle are pairwise distinct -/
theorem disaggWF_coord_nodup {res : Nat} {t : List Cell} (hwf : disaggWF res t = true) :
    (t.map Cell.coord).Nodup := by
  have hnd := nodup_flatten_tagged (fun o : Cell => o.md) Cell.coord
    (fun x y h => congrArg Coord.md h) (G := Triangle.slices t)
    (slices_partition t).nodup
    (by
      intro sl hsl
      obtain ⟨L, _, w⟩ := disaggWF_slice hwf hsl
      exact sliceWF_coord_nodup w)
    (fun sl hsl c hc => (mem_slices_md hsl hc).1)
  rw [← List.flatMap_def] at hnd
  exact (((Triangle.slices_flatMap_perm t).map Cell.coord).nodup_iff).mp hnd

theorem disaggWF_nodup {res : Nat} {t : List Cell} (h : disaggWF res t = true) : t.Nodup :=
  (disaggWF_coord_nodup h).of_map _

theorem observable_iff {res : Nat} {sl : List Cell} {L : Int} (w : SliceWF res sl L) {c : Cell}
    (hc : c ∈ sl) : observable res c = true ↔ obsSubs c res (L / (res : Int)).toNat ≠ [] := by
  obtain ⟨_, hd, h70, _, _⟩ := w.cell c hc
  obtain ⟨j, _, he, hk⟩ := obsSubs_range w.hres hd h70 (L / (res : Int)).toNat
  have h0 : (addMonths c.ps ((res : Nat) : Rat)).pred = (subOf (monthToId c.ps) res 0).2 := by
    rw [addMonths_natCast, periodEnd_of_first _ hd _ (by omega)]
    unfold subOf
    rw [Nat.zero_add, Nat.one_mul]
  unfold observable
  rw [decide_eq_true_eq, h0, ← hk 0 (sliceWF_n w).1, he, ne_eq, List.map_eq_nil_iff, List.range_eq_nil]
  omega

section Groups
variable {t out : List Cell} {res : Nat} {F : List String} {G : Cell → List Cell}
  (hwf : disaggWF res t = true)
  (hG : ∀ sl ∈ Triangle.slices t, ∃ sres, periodResolution sl.2 = .ok sres ∧
    ∀ c ∈ sl.2, SubCellsN res (sres / (res : Int)).toNat F c (G c))
include hwf hG

theorem wf_groups {sl : Metadata × List Cell} (hs : sl ∈ Triangle.slices t) :
    ∃ L, periodResolution sl.2 = .ok L ∧ SliceWF res sl.2 L ∧
      ∀ c ∈ sl.2, SubCellsN res (L / (res : Int)).toNat F c (G c) := by
  obtain ⟨L, hL, w⟩ := disaggWF_slice hwf hs
  obtain ⟨sres, hsres, hin⟩ := hG sl hs
  obtain rfl : sres = L := by rw [hL] at hsres; cases hsres; rfl
  exact ⟨sres, hL, w, hin⟩

/-- a member of another group lies in another slice, or at another evaluation date, or in a disjoint period -/
theorem children_perm (hperm : out.Perm (t.flatMap G)) {c : Cell} (hc : c ∈ t) :
    (childrenOf res out c).Perm (G c) := by
  obtain ⟨sl, hs, _, hcs⟩ := Triangle.exists_slice hc
  obtain ⟨L, _, w, hsub⟩ := wf_groups hwf hG hs
  have hin : ∀ c' ∈ sl.2, ∀ o ∈ G c', (o.ps, o.pe) ∈ expectedSubs res c' := fun c' hc' o ho => by
    rw [sliceWF_expected w hc', ← (hsub c' hc').periods]; exact List.mem_map.mpr ⟨o, ho, rfl⟩
  unfold childrenOf
  refine (hperm.filter _).trans (List.Perm.of_eq ?_)
  rw [filter_flatMap_isolate G _ (disaggWF_nodup hwf) hc, List.filter_eq_self]
  · intro o ho
    simp only [Bool.and_eq_true, beq_iff_eq, List.contains_iff_mem]
    exact ⟨⟨((hsub c hcs).cells o ho).1, ((hsub c hcs).cells o ho).2.1⟩, hin c hcs o ho⟩
  · intro c' hc' hne
    rw [List.filter_eq_nil_iff]
    intro o ho
    simp only [Bool.and_eq_true, beq_iff_eq, not_and, List.contains_iff_mem]
    intro h1 hmem
    obtain ⟨sl', hs', _, hcs'⟩ := Triangle.exists_slice hc'
    obtain ⟨_, _, _, hsub'⟩ := wf_groups hwf hG hs'
    have hc's : c' ∈ sl.2 := (Triangle.mem_slice_iff hs c').mpr
      ⟨hc', by rw [← ((hsub' c' hcs').cells o ho).1, h1.1, (mem_slices_md hs hcs).1]⟩
    exact expectedSubs_disjoint w hcs hc's (fun e => hne e.symm)
      (by rw [← h1.2, ((hsub c' hc's).cells o ho).2.1]) hmem (hin c' hc's o ho)

end Groups

theorem disaggCore_spec {t out : List Cell} {res : Nat} {ws : List Rat} {F : List String}
    (hwf : disaggWF res t = true) (hws : ws ≠ []) (h : disaggCore t res ws F = .ok out) :
    disaggSpec res F 0 t out = true := by
  obtain ⟨G, hperm, hG⟩ := disaggCore_groups (disaggWF_kn hwf) hws h
  unfold disaggSpec
  simp only [Bool.and_eq_true, List.all_eq_true, beq_iff_eq]
  constructor
  · intro c hc
    have hch := children_perm hwf hG hperm hc
    obtain ⟨sl, hs, _, hcs⟩ := Triangle.exists_slice hc
    obtain ⟨L, _, w, hsub⟩ := wf_groups hwf hG hs
    have hsub := hsub c hcs
    refine ⟨⟨?_, ?_⟩, ?_⟩
    · rw [List.isPerm_iff, sliceWF_expected w hcs, ← hsub.periods]
      exact hch.map _
    · intro o ho
      obtain ⟨_, _, hkind, hkeys⟩ := hsub.cells o (hch.mem_iff.mp ho)
      refine ⟨hkind, ?_⟩
      unfold Dict.keys
      rw [hkeys]; exact sameKeys_refl _
    · by_cases hemp : (childrenOf res out c).isEmpty = true
      · simp [hemp]
      · simp only [hemp, Bool.false_or, List.all_eq_true]
        have hne : G c ≠ [] := fun he => hemp (by simpa [he] using hch.length_eq)
        intro kv hkv i _
        rw [total_perm hch, hsub.sums hne kv.1 (List.mem_filter.mp hkv).2 i]
        exact close_zero_self _
  · rw [hperm.length_eq, List.length_flatMap]
    exact congrArg List.sum (List.map_congr_left fun c hc => (children_perm hwf hG hperm hc).length_eq.symm)

end Bermuda.Units
