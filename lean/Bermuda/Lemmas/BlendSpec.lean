/-
Bridges between the C16 model (`Model/Blend.lean`) and the executable Spec predicates
(`Spec/C16.lean`): the predicates are TRUE on the model's own outputs.
-/
import Bermuda.Lemmas.Blend
import Bermuda.Spec.C16
namespace Bermuda.Blend
open Bermuda.Spec.C16

/-! ### the Spec's own copies of the model's helpers -/

theorem mapM_samples_of_rowOf {vals : List Val} {rows : List (List Rat)} (h : mapE rowOf vals = .ok rows) :
    vals.mapM samples = some rows := by
  refine mapM_option_of_mapM (fun v r hr => ?_) (mapE_eq_mapM _ vals ▸ h)
  cases v with
  | none => simp [rowOf] at hr
  | int i => simp only [rowOf, Except.ok.injEq] at hr; subst hr; rfl
  | flt q => simp only [rowOf, Except.ok.injEq] at hr; subst hr; rfl
  | arr b shape d =>
    match shape with
    | [] => simp [rowOf] at hr
    | [n] => simp only [rowOf, Except.ok.injEq] at hr; subst hr; rfl
    | _ :: _ :: _ => simp [rowOf] at hr

theorem mapM_arr1_of_samplesOf {vals : List Val} {rows : List (List Rat)} (h : mapE samplesOf vals = .ok rows) :
    vals.mapM arr1? = some rows := by
  refine mapM_option_of_mapM (fun v r hr => ?_) (mapE_eq_mapM _ vals ▸ h)
  cases v with
  | none => simp [samplesOf] at hr
  | int i => simp [samplesOf] at hr
  | flt q => simp [samplesOf] at hr
  | arr b shape d =>
    match shape with
    | [] => simp [samplesOf] at hr
    | [n] => simp only [samplesOf, Except.ok.injEq] at hr; subst hr; rfl
    | _ :: _ :: _ => simp [samplesOf] at hr

theorem wsum_eq_dot : ∀ (w xs : List Rat), wsum w xs = dot w xs
  | [], _ => by simp [wsum, dot]
  | _ :: _, [] => by simp [wsum, dot]
  | a :: w, x :: xs => by simp [wsum, dot, wsum_eq_dot w xs]

theorem pick_eq_bcast (row : List Rat) (s : Nat) : pick row s = bcast row s := by
  simp [pick, bcast]

theorem close_zero_self (a : Rat) : close 0 a a = true := by
  simp [close, absQ]

theorem minL_le {l : List Rat} {x : Rat} (hx : x ∈ l) : minL l ≤ x :=
  (foldl_min_rat l _).2 x (List.mem_cons_of_mem _ hx)

theorem le_maxL {l : List Rat} {x : Rat} (hx : x ∈ l) : x ≤ maxL l :=
  (foldl_max_rat l _).2 x (List.mem_cons_of_mem _ hx)

/-- tolerance 0: equality over ℚ, the strongest instance of `linearFieldOk` -/
theorem linearFieldOk_of_blend {vals : List Val} {w : List Rat} {v : Val}
    (h : linearBlend vals w = .ok v) (hl : w.length = vals.length) :
    linearFieldOk w 0 vals v = true := by
  obtain ⟨rows, hrows, rfl, hlen, hrl, hget⟩ := Blend.linear_value_core h
  unfold linearFieldOk
  rw [mapM_samples_of_rowOf hrows]
  have hS : rows.foldl (fun m r => max m r.length) 0 = maxLen rows := rfl
  simp only [hS, beq_self_eq_true, Bool.true_and, Bool.and_eq_true, beq_iff_eq, List.all_eq_true,
    List.mem_range]
  refine ⟨⟨⟨hlen, by rw [hl, mapE_ok_length hrows]⟩, fun r hr => by simpa using hrl r hr⟩, ?_⟩
  intro s hs
  have hs' : s < (linearOut rows w (maxLen rows)).length := by rw [hlen]; exact hs
  rw [List.getD_eq_getElem?_getD, List.getElem?_eq_getElem hs', Option.getD_some, hget s hs',
    wsum_eq_dot]
  simp only [pick_eq_bcast]
  exact close_zero_self _

theorem mixtureFieldOk_of_blend {vals : List Val} {w : Option (List Rat)} {idx : List Nat} {v : Val}
    (h : blendField .mixture vals w idx = .ok v) (hidx : ∀ i, idx.getD i 0 < vals.length) :
    mixtureFieldOk vals v = true := by
  cases vals with
  | nil => cases h
  | cons v0 rest =>
    obtain ⟨-, hv⟩ := blendField_mixture_ok_iff.mp h
    split at hv
    · rename_i hs
      obtain ⟨rfl, hall⟩ := hv
      have hall' : (v :: rest).all (· == v) = true := by simpa using hall
      cases v with
      | none => cases hs
      | arr _ _ _ => cases hs
      | int i => exact hall'
      | flt q => exact hall'
    · obtain ⟨rows, S, data, hrows, hall, rfl, hlen, hget⟩ := mixture_membership_core (blendSamples_ok_iff.mp hv).2
      unfold mixtureFieldOk
      rw [mapM_arr1_of_samplesOf hrows]
      -- `↓`: `all_zipIdx` must meet the `all` over `zipIdx` before `List.all_eq_true` opens it
      simp only [Bool.and_eq_true, ↓all_zipIdx, List.all_eq_true, beq_iff_eq, List.any_eq_true]
      refine ⟨⟨fun r hr => by rw [hall r hr, hlen], hlen.symm⟩, fun s hs1 => ?_⟩
      have hj : idx.getD s 0 < rows.length := by rw [mapE_ok_length hrows]; exact hidx s
      exact ⟨rows[idx.getD s 0], List.getElem_mem hj, (hget s hs1 _ hj rfl).symm⟩

/-- the bodies of `Spec.C16.convexOk` and `Spec.C16.agreeOk` under a name; the `rfl`s below hold them to the Spec -/
def convexFieldB (tol : Rat) (vals : List Val) (v : Val) : Bool :=
  match vals.mapM samples, v with
  | some rows, .arr _ _ data =>
    data.zipIdx.all fun (x, s) =>
      let col := rows.map (pick · s)
      minL col - tol * (1 + absQ (minL col)) ≤ x && x ≤ maxL col + tol * (1 + absQ (maxL col))
  | _, _ => false

def agreeFieldB (tol : Rat) (vals : List Val) (v : Val) : Bool :=
  match vals.mapM samples, v with
  | some (r0 :: _), .arr _ _ data => data.zipIdx.all fun (x, s) => close tol x (pick r0 s)
  | _, _ => false

theorem convexOk_eq (ts : List (List Cell)) (out : List Cell) (tol : Rat) :
    convexOk ts out tol = forFields ts out fun _ _ vals v => convexFieldB tol vals v := rfl

theorem agreeOk_eq (ts : List (List Cell)) (out : List Cell) (tol : Rat) :
    agreeOk ts out tol = forFields ts out fun _ _ vals v => agreeFieldB tol vals v := rfl

theorem convexField_of_blend {vals : List Val} {w : List Rat} {v : Val}
    (h : linearBlend vals w = .ok v) (hl : w.length = vals.length) (hw : ∀ x ∈ w, 0 ≤ x)
    (hsum : sumW w = 1) : convexFieldB 0 vals v = true := by
  obtain ⟨rows, hrows, rfl, -, -, hget⟩ := linear_value_core h
  unfold convexFieldB
  rw [mapM_samples_of_rowOf hrows]
  simp only [all_zipIdx, Bool.and_eq_true, decide_eq_true_eq]
  intro s hs1
  simp only [pick_eq_bcast, sub_zero, add_zero, zero_mul]
  rw [hget s hs1]
  exact linear_convex_core hrows hl hw hsum s _ _ fun y hy => ⟨minL_le hy, le_maxL hy⟩

theorem agreeField_of_blend {vals : List Val} {w : List Rat} {v v0 : Val}
    (h : linearBlend vals w = .ok v) (hl : w.length = vals.length) (hsum : sumW w = 1)
    (hne : vals ≠ []) (hall : ∀ x ∈ vals, x = v0) : agreeFieldB 0 vals v = true := by
  obtain ⟨rows, hrows, rfl, -, -, hget⟩ := linear_value_core h
  unfold agreeFieldB
  rw [mapM_samples_of_rowOf hrows]
  have hsame : ∀ r ∈ rows, rowOf v0 = .ok r := fun r hr =>
    let ⟨v, hv, hvr⟩ := mapM_ok_mem (mapE_eq_mapM rowOf vals ▸ hrows) r hr
    hall v hv ▸ hvr
  cases rows with
  | nil =>
    have := mapE_ok_length hrows
    cases vals with
    | nil => exact absurd rfl hne
    | cons _ _ => simp at this
  | cons r0 rs =>
    simp only [all_zipIdx]
    intro s hs1
    have hr0 : rowOf v0 = .ok r0 := hsame r0 (by simp)
    have hcol : ∀ y ∈ (r0 :: rs).map (bcast · s), y = bcast r0 s := by
      intro y hy
      obtain ⟨r, hr, rfl⟩ := List.mem_map.mp hy
      have := hsame r hr
      rw [hr0] at this
      cases this; rfl
    simp only [hget s hs1, linear_agree_core hrows hl hsum s _ hcol, pick_eq_bcast]
    exact close_zero_self _

theorem cellsAt_of_gather {k : Coord} {ts : List (List Cell)} {cs : List Cell}
    (hnd : ∀ t ∈ ts, (t.map Cell.coord).Nodup) (h : gatherCells (ts.map indexTriangle) k = .ok cs) :
    cellsAt ts k = some cs := by
  have hf : List.Forall₂ (fun t c => t.find? (·.coord == k) = some c) ts cs :=
    forall₂_imp_mem (List.forall₂_map_left_iff.mp (gatherCells_spec h)) fun t ht c hl =>
      (lookup_indexTriangle (hnd t ht) k).symm.trans hl
  clear h hnd
  unfold cellsAt
  induction hf with
  | nil => rfl
  | cons h1 _ ih => rw [List.mapM_cons, h1, ih]; rfl

theorem cellsAt_all_same {t0 : List Cell} {k : Coord} {ts : List (List Cell)} {cs : List Cell}
    (hall : ∀ t ∈ ts, t = t0) (h : cellsAt ts k = some cs) : ∀ c ∈ cs, t0.find? (·.coord == k) = some c := by
  intro c hc
  obtain ⟨t, ht, hf⟩ := mapM_some_mem h c hc
  rwa [hall t ht] at hf

theorem structureOk_of_forall₂ {t0 out : List Cell}
    (h : List.Forall₂ (fun c o => o.coord = c.coord ∧ o.kind = c.kind ∧ o.values.keys = c.values.keys) t0 out) :
    structureOk t0 out = true := by
  simp only [structureOk, Bool.and_eq_true, beq_iff_eq, List.all_eq_true]
  induction h with
  | nil => exact ⟨rfl, fun _ hp => nomatch hp⟩
  | cons h _ ih =>
    refine ⟨congrArg (· + 1) ih.1, fun p hp => ?_⟩
    rcases List.mem_cons.mp (List.zip_cons_cons ▸ hp) with rfl | hp
    · exact ⟨⟨h.1, h.2.1⟩, h.2.2 ▸ sameKeySet_self _⟩
    · exact ih.2 p hp

theorem forFields_intro {ts : List (List Cell)} {out : List Cell}
    {p : Nat → String → List Val → Val → Bool}
    (h : ∀ n (hn : n < out.length), ∃ cs, cellsAt ts out[n].coord = some cs ∧
      ∀ f v, (f, v) ∈ out[n].values → p n f (fieldVals cs f) v = true) :
    forFields ts out p = true := by
  unfold forFields
  rw [all_zipIdx]
  intro n hn
  obtain ⟨cs, hcs, hall⟩ := h n hn
  simp only [hcs, List.all_eq_true]
  intro r hr
  obtain ⟨f, v⟩ := r
  exact hall f v hr

/-- the common skeleton of the Spec bridges: `p` need only hold of the field blends the loop performs -/
theorem forFields_model {t0 : List Cell} {rest : List (List Cell)} {w : Weights}
    {method : String} {idx : Nat → String → List Nat} {out : List Cell}
    (h : blend (t0 :: rest) w method idx = .ok out)
    (hnd : ∀ t ∈ t0 :: rest, (t.map Cell.coord).Nodup) (hs : t0.Pairwise (fun a b => Cell.le a b))
    {p : Nat → String → List Val → Val → Bool}
    (hp : ∀ m wl n f cs v (h2 : n < wl.length) (h0 : n < t0.length), blendPrep (t0 :: rest) w method = .ok (m, t0, wl) →
      cellsAt (t0 :: rest) t0[n].coord = some cs →
      (fieldVals cs f).length = (t0 :: rest).length →
      blendField m (fieldVals cs f) wl[n] (idx n f) = .ok v → p n f (fieldVals cs f) v = true) :
    forFields (t0 :: rest) out p = true := by
  obtain ⟨m, wl, hprep, hwl, hlen, hat⟩ := blend_inv h (hnd t0 (by simp)) hs
  apply forFields_intro
  intro n hn
  have h0 : n < t0.length := hlen ▸ hn
  have h2 : n < wl.length := hwl ▸ h0
  obtain ⟨cs, hg, hb⟩ := hat n h0 hn h2
  obtain ⟨hco, _, _, hvals⟩ := blendCells_inv hb
  have hcs : cellsAt (t0 :: rest) t0[n].coord = some (t0[n] :: cs) := cellsAt_of_gather hnd hg
  refine ⟨_, hco ▸ hcs, fun f v hmem => ?_⟩
  exact hp m wl n f _ v h2 h0 hprep hcs (by simpa [fieldVals] using gatherCells_length hg) (hvals f v hmem)

theorem weightList_spec {w : Weights} {n M : Nat} {wl : List (Option (List Rat))}
    (h : weightList w n = .ok wl) (i : Nat) (hi : i < wl.length) :
    (wl[i]).getD (List.replicate M (1 / (M : Rat))) = specWeights w i M := by
  cases w with
  | none => cases h; simp [specWeights]
  | list l => cases h; simp [specWeights]
  | other => cases h
  | dict vals =>
    cases hrows : vals.flatMap WArr.atleast2d with
    | nil => rw [weightList_dict_nil n hrows] at h; cases h
    | cons r0 rs =>
      rw [weightList_dict n hrows] at h
      split at h
      · cases h
        by_cases h1 : r0.length = 1 <;> simp [specWeights, hrows, h1, column]
      · cases h

theorem forFields_linear_model {t0 : List Cell} {rest : List (List Cell)} {w : Weights}
    {method : String} {idx : Nat → String → List Nat} {out : List Cell}
    (h : blend (t0 :: rest) w method idx = .ok out) (hm : parseMethod method = some .linear)
    (hnd : ∀ t ∈ t0 :: rest, (t.map Cell.coord).Nodup) (hs : t0.Pairwise (fun a b => Cell.le a b))
    {p : Nat → String → List Val → Val → Bool}
    (hp : ∀ n f cs v (h0 : n < t0.length), cellsAt (t0 :: rest) t0[n].coord = some cs →
      (fieldVals cs f).length = (t0 :: rest).length →
      linearBlend (fieldVals cs f) (specWeights w n (t0 :: rest).length) = .ok v →
      (specWeights w n (t0 :: rest).length).length = (fieldVals cs f).length →
      p n f (fieldVals cs f) v = true) :
    forFields (t0 :: rest) out p = true := by
  refine forFields_model h hnd hs fun m wl n f cs v h2 h0 hprep hcs hlenv hb => ?_
  obtain ⟨-, hmm, hwlist⟩ := blendPrep_inv hprep
  obtain rfl := Option.some.inj (hmm.symm.trans hm)
  obtain ⟨hl, hlin⟩ := blendSamples_ok_iff.mp (blendField_linear_ok hb)
  rw [hlenv, weightList_spec hwlist n h2] at hl hlin
  exact hp n f cs v h0 hcs hlenv hlin (hl.trans hlenv.symm)

end Bermuda.Blend
