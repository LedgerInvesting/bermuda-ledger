/-
C18, `program_earned_premium`: the monthly patterns (`monthlyWriting`, `monthlyEarning`) and their convolution
(`monthlyCombined`) — sums, signs, and the prefix bound "earned so far ≤ written so far" —, the buckets of the output
loop, the stages of a successful call, `Spec.C18.prefixSums` in closed form.
-/
import Bermuda.Lemmas.Units
namespace Bermuda.Units
open Bermuda

theorem sum_repeatEach (l : List Rat) (n : Nat) : (repeatEach l n).sum = n * l.sum := by
  unfold repeatEach
  induction l with
  | nil => simp
  | cons a rest ih =>
    simp only [List.flatMap_cons, List.sum_append, ih, List.sum_replicate, nsmul_eq_mul, List.sum_cons]; ring

/-- the buckets of the `while start < size` loop are consecutive and reach `size` -/
theorem bounds_cover (ores size : Nat) :
    ∀ (fuel start stop j : Nat), start ≤ stop → ∃ S, start ≤ S ∧
      (1 ≤ ores → (start < stop ∨ size ≤ start) → size ≤ start + fuel →
        (bounds ores size fuel start stop).length ≤ j → size ≤ S) ∧
      ∀ l : List Rat,
        (((bounds ores size fuel start stop).take j).map (bucket l)).sum = ((l.take S).drop start).sum := by
  intro fuel
  induction fuel with
  | zero =>
    intro start stop j _
    exact ⟨start, le_refl _, fun _ _ hf _ => by omega, fun l => by simp [bounds]⟩
  | succ k ih =>
    intro start stop j hle
    unfold bounds
    by_cases hs : start < size
    · rw [if_pos hs]
      cases j with
      | zero => exact ⟨start, le_refl _, fun _ _ _ hlen => by simp at hlen, fun l => by simp⟩
      | succ j' =>
        obtain ⟨S, hS, hall, hl⟩ := ih stop (stop + ores) j' (by omega)
        refine ⟨S, by omega, fun ho hlt hf hlen => hall ho (by omega) (by omega) (by simpa using hlen), fun l => ?_⟩
        rw [List.take_succ_cons, List.map_cons, List.sum_cons, hl l]
        have := drop_split (l.take S) hle
        rw [List.take_take, Nat.min_eq_left hS] at this
        exact this
    · rw [if_neg hs]
      exact ⟨start, le_refl _, fun _ _ _ _ => by omega, fun l => by simp⟩

/-- the buckets visited by the loop cover the list exactly once -/
theorem bounds_sum (l : List Rat) (ores size : Nat) (hores : 1 ≤ ores) (hl : l.length ≤ size)
    (fuel start stop : Nat) (hle : start ≤ stop) (hlt : start < stop ∨ size ≤ start) (hf : size ≤ start + fuel) :
    ((bounds ores size fuel start stop).map (bucket l)).sum = (l.drop start).sum := by
  obtain ⟨S, _, hS, h⟩ := bounds_cover ores size fuel start stop _ hle
  rw [← List.take_length (l := bounds ores size fuel start stop), h l,
    List.take_of_length_le (hl.trans (hS hores hlt hf (le_refl _)))]

/-- `np.repeat(f(l), n)` for a scaling `f` sums to `n` times the scaled total -/
theorem sum_repeatEach_map (l : List Rat) (f : Rat → Rat) (c : Rat) (n : Nat) (hf : ∀ x, f x = x * c) :
    (repeatEach (l.map f) n).sum = n * (l.sum * c) := by
  rw [sum_repeatEach, funext hf, sum_map_mul_right]

theorem monthlyWriting_sum (vol : Rat) (wp : List Rat) (wres : Nat) (hs : wp.sum ≠ 0) (hr : wres ≠ 0) :
    (monthlyWriting vol wp wres).sum = vol := by
  unfold monthlyWriting
  rw [sum_repeatEach_map wp _ (vol / wp.sum / wres) wres fun w => by ring]
  have : (wres : Rat) ≠ 0 := by exact_mod_cast hr
  field_simp

theorem monthlyEarning_sum (ep : List Rat) (eres : Nat) (c : Bool) (hs : ep.sum ≠ 0) (hr : eres ≠ 0) :
    (monthlyEarning ep eres c).sum = 1 := by
  have hraw : (repeatEach (ep.map fun e => e / ep.sum / (eres : Rat)) eres).sum = 1 := by
    rw [sum_repeatEach_map ep _ (1 / ep.sum / eres) eres fun e => by ring]
    have : (eres : Rat) ≠ 0 := by exact_mod_cast hr
    field_simp
  unfold monthlyEarning
  simp only
  cases c with
  | false => simpa using hraw
  | true =>
    simp only [if_true]
    rw [sum_zipWith_add _ _ (by simp), List.sum_append, List.sum_cons, sum_map_div]
    simp only [List.sum_cons, List.sum_nil]
    rw [hraw, sum_map_div, hraw]; norm_num

theorem foldl_zipWith_sum (rows : List (List Rat)) (acc : List Rat)
    (h : ∀ r ∈ rows, r.length = acc.length) :
    (rows.foldl (fun acc r => List.zipWith (· + ·) acc r) acc).length = acc.length ∧
    (rows.foldl (fun acc r => List.zipWith (· + ·) acc r) acc).sum = acc.sum + (rows.map List.sum).sum := by
  induction rows generalizing acc with
  | nil => simp
  | cons r rest ih =>
    simp only [List.foldl_cons, List.map_cons, List.sum_cons]
    have hr : r.length = acc.length := h r (by simp)
    have hlen : (List.zipWith (· + ·) acc r).length = acc.length := by simp [hr]
    obtain ⟨h1, h2⟩ := ih (List.zipWith (· + ·) acc r) (fun r' hr' => by rw [hlen]; exact h r' (by simp [hr']))
    refine ⟨h1.trans hlen, ?_⟩
    rw [h2, sum_zipWith_add _ _ hr.symm]; ring

theorem take_foldl_zipWith (rows : List (List Rat)) (acc : List Rat) (m : Nat) :
    (rows.foldl (fun acc r => List.zipWith (· + ·) acc r) acc).take m =
      (rows.map (List.take m)).foldl (fun acc r => List.zipWith (· + ·) acc r) (acc.take m) := by
  induction rows generalizing acc with
  | nil => rfl
  | cons r rest ih =>
    simp only [List.foldl_cons, List.map_cons]
    rw [ih, List.take_zipWith]

theorem padded_take_sum (me : List Rat) (n k m : Nat) :
    ((List.replicate n (0 : Rat) ++ me ++ List.replicate k 0).take m).sum = (me.take (m - n)).sum := by
  simp [List.take_append, List.take_replicate]

/-- the cumulative convolution: what the first `m` months earn is, for every writing month `n`, the premium
written then times the first `m - n` months of the earning pattern -/
theorem monthlyCombined_take_sum (mw me : List Rat) (m : Nat) :
    (monthlyCombined mw me).length = mw.length - 1 + me.length ∧
    ((monthlyCombined mw me).take m).sum =
      ((List.range mw.length).map fun n => mw[n]! * (me.take (m - n)).sum).sum := by
  unfold monthlyCombined
  simp only
  have hrows : ∀ r ∈ (List.range mw.length).map (fun n =>
      ((List.replicate n (0 : Rat)) ++ me ++ List.replicate (mw.length - n - 1) 0).map (mw[n]! * ·)),
      r.length = mw.length - 1 + me.length := by
    intro r hr
    obtain ⟨n, hn, rfl⟩ := List.mem_map.mp hr
    have : n < mw.length := List.mem_range.mp hn
    rw [List.length_map, List.length_append, List.length_append, List.length_replicate, List.length_replicate]
    omega
  constructor
  · rw [(foldl_zipWith_sum _ _ fun r hr => (hrows r hr).trans List.length_replicate.symm).1,
      List.length_replicate]
  · rw [take_foldl_zipWith, (foldl_zipWith_sum _ _ fun r hr => by
      obtain ⟨r0, hr0, rfl⟩ := List.mem_map.mp hr
      rw [List.length_take, List.length_take, hrows r0 hr0, List.length_replicate]).2,
      List.take_replicate, List.sum_replicate, nsmul_eq_mul, mul_zero, zero_add, List.map_map, List.map_map]
    congr 2
    funext n
    simp only [Function.comp, ← List.map_take, sum_map_mul_left, padded_take_sum]

theorem monthlyCombined_sum (mw me : List Rat) : (monthlyCombined mw me).sum = mw.sum * me.sum := by
  -- at the full length every `me.take (m - n)` is all of `me`
  obtain ⟨hlen, h⟩ := monthlyCombined_take_sum mw me (mw.length - 1 + me.length)
  rw [← hlen, List.take_length] at h
  have : ∀ n ∈ List.range mw.length,
      mw[n]! * (me.take ((monthlyCombined mw me).length - n)).sum = ((· * me.sum) ∘ (mw[·]!)) n := by
    intro n hn
    have : n < mw.length := List.mem_range.mp hn
    rw [List.take_of_length_le (by omega)]; rfl
  rw [h, List.map_congr_left this, ← List.map_map, map_getElem!_range, sum_map_mul_right]

theorem programEarnedPremium_ok {vol : Rat} {wp ep : List Rat} {wres eres ores : Nat} {off : Int}
    {c : Bool} {w e : List Rat} (h : programEarnedPremium vol wp wres ep eres ores off c = .ok (w, e)) :
    wp.sum ≠ 0 ∧ ep.sum ≠ 0 ∧ wres ≠ 0 ∧ eres ≠ 0 ∧ ores ≠ 0 ∧
    ∃ bs, bs = bounds ores (monthlyCombined (monthlyWriting vol wp wres) (monthlyEarning ep eres c)).length
        ((monthlyCombined (monthlyWriting vol wp wres) (monthlyEarning ep eres c)).length + 1) 0
        (if off > 0 then off.toNat else ores) ∧
      w = 0 :: bs.map (bucket (monthlyWriting vol wp wres)) ∧
      e = 0 :: bs.map (bucket (monthlyCombined (monthlyWriting vol wp wres) (monthlyEarning ep eres c))) := by
  unfold programEarnedPremium at h
  split at h
  · cases h
  · rename_i hcond
    simp only [Bool.or_eq_true, beq_iff_eq, not_or] at hcond
    obtain ⟨⟨⟨⟨hw, he⟩, hwr⟩, her⟩, hor⟩ := hcond
    cases h
    exact ⟨hw, he, hwr, her, hor, _, rfl, rfl, rfl⟩

theorem NN.sublist {l l' : List Rat} (h : NN l) (hs : ∀ x ∈ l', x ∈ l) : NN l' := fun x hx => h x (hs x hx)

theorem NN.bucket {l : List Rat} (h : NN l) (b : Nat × Nat) : 0 ≤ bucket l b := by
  unfold Units.bucket
  exact (h.sublist fun x hx => List.mem_of_mem_take (List.mem_of_mem_drop hx)).sum

/-- an output pattern of `program_earned_premium`: a leading 0, then buckets of a monthly pattern -/
theorem NN.buckets {l : List Rat} (h : NN l) (bs : List (Nat × Nat)) : NN (0 :: bs.map (Units.bucket l)) := by
  intro x hx
  rcases List.mem_cons.mp hx with rfl | hx
  · exact le_refl _
  · obtain ⟨b, _, rfl⟩ := List.mem_map.mp hx
    exact h.bucket b

theorem NN.zipWith_add : ∀ {a b : List Rat}, NN a → NN b → NN (List.zipWith (· + ·) a b)
  | [], _, _, _ => by intro x hx; simp at hx
  | _ :: _, [], _, _ => by intro x hx; simp at hx
  | x :: a, y :: b, ha, hb => by
    intro z hz
    simp only [List.zipWith_cons_cons, List.mem_cons] at hz
    rcases hz with rfl | hz
    · have := ha x (by simp); have := hb y (by simp); linarith
    · exact NN.zipWith_add (fun u hu => ha u (by simp [hu])) (fun u hu => hb u (by simp [hu])) z hz

theorem NN.repeatEach {l : List Rat} (h : NN l) (n : Nat) : NN (repeatEach l n) := by
  intro x hx
  unfold Units.repeatEach at hx
  obtain ⟨a, ha, hxa⟩ := List.mem_flatMap.mp hx
  rw [(List.mem_replicate.mp hxa).2]; exact h a ha

theorem NN.take {l : List Rat} (h : NN l) (m : Nat) : NN (l.take m) :=
  h.sublist fun _ hx => List.mem_of_mem_take hx

theorem NN.append {a b : List Rat} (ha : NN a) (hb : NN b) : NN (a ++ b) := by
  intro x hx
  rcases List.mem_append.mp hx with h | h
  · exact ha x h
  · exact hb x h

theorem NN.replicate_zero (n : Nat) : NN (List.replicate n 0) := by
  intro x hx; rw [(List.mem_replicate.mp hx).2]

theorem NN.map {l : List Rat} (h : NN l) {f : Rat → Rat} (hf : ∀ x, 0 ≤ x → 0 ≤ f x) : NN (l.map f) := by
  intro y hy
  obtain ⟨x, hx, rfl⟩ := List.mem_map.mp hy
  exact hf x (h x hx)

theorem NN.getElem! {l : List Rat} (h : NN l) {n : Nat} (hn : n < l.length) : 0 ≤ l[n]! := by
  rw [getElem!_pos l n hn]; exact h _ (List.getElem_mem hn)

theorem NN.take_sum_le {l : List Rat} (h : NN l) (m : Nat) : (l.take m).sum ≤ l.sum := by
  have := (List.sum_take_add_sum_drop l m).symm
  have h2 : 0 ≤ (l.drop m).sum := (h.sublist fun _ hx => List.mem_of_mem_drop hx).sum
  linarith

theorem monthlyWriting_nn {vol : Rat} {wp : List Rat} {wres : Nat} (hv : 0 ≤ vol) (hw : NN wp)
    (hs : wp.sum ≠ 0) : NN (monthlyWriting vol wp wres) :=
  (hw.map fun _ h => div_nonneg (mul_nonneg hv (div_nonneg h (hw.sum_pos hs).le))
    (Nat.cast_nonneg _)).repeatEach _

theorem monthlyEarning_nn {ep : List Rat} {eres : Nat} {c : Bool} (he : NN ep) (hs : ep.sum ≠ 0) :
    NN (monthlyEarning ep eres c) := by
  have hraw : NN (repeatEach (ep.map fun e => e / ep.sum / (eres : Rat)) eres) :=
    (he.map fun _ h => div_nonneg (div_nonneg h (he.sum_pos hs).le) (Nat.cast_nonneg _)).repeatEach _
  have hhalf := hraw.map fun x (hx : 0 ≤ x) => div_nonneg hx (by norm_num : (0 : Rat) ≤ 2)
  unfold monthlyEarning
  cases c with
  | false => exact hraw
  | true => exact (hhalf.append (NN.replicate_zero 1)).zipWith_add ((NN.replicate_zero 1).append hhalf)

theorem foldl_zipWith_nn (rows : List (List Rat)) (acc : List Rat) (ha : NN acc)
    (h : ∀ r ∈ rows, NN r) : NN (rows.foldl (fun acc r => List.zipWith (· + ·) acc r) acc) := by
  induction rows generalizing acc with
  | nil => simpa using ha
  | cons r rest ih =>
    simp only [List.foldl_cons]
    exact ih _ (NN.zipWith_add ha (h r (by simp))) fun r' hr' => h r' (by simp [hr'])

theorem monthlyCombined_nn {mw me : List Rat} (hw : NN mw) (he : NN me) : NN (monthlyCombined mw me) := by
  unfold monthlyCombined
  refine foldl_zipWith_nn _ _ (NN.replicate_zero _) fun r hr => ?_
  obtain ⟨n, hn, rfl⟩ := List.mem_map.mp hr
  exact (((NN.replicate_zero n).append he).append (NN.replicate_zero _)).map fun _ =>
    mul_nonneg (hw.getElem! (by simpa using hn))

/-- cumulative earned never exceeds cumulative written, month by month: a policy written in month `n` has
earned nothing before `n` and at most its premium afterwards -/
theorem monthlyCombined_prefix_le {mw me : List Rat} (hw : NN mw) (he : NN me) (hs : me.sum = 1)
    (m : Nat) : ((monthlyCombined mw me).take m).sum ≤ (mw.take m).sum := by
  rw [(monthlyCombined_take_sum mw me m).2, ← sum_range_indicator]
  refine sum_le_sum _ _ _ fun n hn => mul_le_mul_of_nonneg_left ?_ (hw.getElem! (by simpa using hn))
  split
  · exact hs ▸ he.take_sum_le _
  · rw [Nat.sub_eq_zero_of_le (by omega)]; simp

theorem prefixFold (l : List Rat) (pre : List Rat) (s : Rat) :
    (l.foldl (fun (acc : List Rat × Rat) x => (acc.1 ++ [acc.2 + x], acc.2 + x)) (pre, s)).1 =
      pre ++ (List.range l.length).map fun k => s + (l.take (k + 1)).sum := by
  induction l generalizing pre s with
  | nil => simp
  | cons a rest ih =>
    rw [List.foldl_cons, ih, List.length_cons, List.range_succ_eq_map, List.map_cons, List.map_map]
    simp only [List.append_assoc, List.singleton_append, List.take_succ_cons, List.sum_cons,
      List.take_zero, List.sum_nil, add_zero]
    congr 2
    apply List.map_congr_left
    intro k _
    simp only [Function.comp, Nat.succ_eq_add_one]; ring

open Spec.C18 in
theorem prefixSums_eq (l : List Rat) :
    prefixSums l = (List.range l.length).map fun k => (l.take (k + 1)).sum := by
  unfold prefixSums
  rw [prefixFold]; simp

end Bermuda.Units
