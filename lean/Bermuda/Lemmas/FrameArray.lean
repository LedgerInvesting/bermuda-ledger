/-
C14, array data frame of a regular single-slice cumulative triangle:
`fromArrayFrame (toArrayFrame t field) = t` (numerically), with the period resolution given or
inferred from the first two period starts (`round` of the fractional month lag).
Also here, because the Matrix and rich-matrix round trips end the same way: cells read back by scanning a
duplicate-free key list are sorted by the constructor into the order of the triangle they came from
(`ofCells_scan`).
-/
import Bermuda.Lemmas.DateUtils
import Bermuda.Lemmas.FrameLong
namespace Bermuda.Frame
open Bermuda Bermuda.Spec.C14 Std

theorem frameCols_eq (rows : List ArrayRow) :
    frameCols rows = distinctKeys (fun e : Int × Val => e.1) (rows.flatMap (·.entries)) := by
  unfold frameCols distinctKeys
  rw [List.foldl_flatMap]
  rfl

theorem mem_periodsOf {t : List Cell} {p : Date × Date} : p ∈ periodsOf t ↔ ∃ c ∈ t, (c.ps, c.pe) = p := by
  unfold periodsOf
  rw [(List.mergeSort_perm _ _).mem_iff, List.mem_eraseDups, List.mem_map]

theorem periodsOf_nodup (t : List Cell) : (periodsOf t).Nodup :=
  (List.mergeSort_perm _ _).nodup_iff.mpr (nodup_eraseDups _)

theorem periodsOf_starts_le (t : List Cell) : (periodsOf t).Pairwise (fun a b => a.1 ≤ b.1) :=
  (sorted_mergeSort _).imp fun h =>
    compareLex_ne_gt_left (c₁ := cmpOn (fun p : Date × Date => p.1) Date.cmp) (bne_iff_ne.mp h)

theorem mem_periodCells {t : List Cell} {p : Date × Date} {c : Cell} :
    c ∈ periodCells t p ↔ c ∈ t ∧ (c.ps, c.pe) = p := by
  unfold periodCells
  rw [(List.mergeSort_perm _ _).mem_iff, List.mem_filter]
  simp [Prod.ext_iff]

theorem okAnd_backSpec_map {t : List Cell} {r : Cell → Cell} (h : ∀ c ∈ t, canonCell (r c) = canonCell c) :
    okAnd (backSpec t) (.ok (t.map r)) = true := by
  simp only [okAnd, backSpec, sameNumeric, List.map_map]
  rw [beq_iff_eq]
  exact List.map_congr_left h

theorem sorted_filterMap {t : List Cell} {back : Cell → Option Cell}
    (hs : t.Pairwise (fun a b => Cell.cmp a b = .lt))
    (hcmp : ∀ a ∈ t, ∀ b ∈ t, ∀ x ∈ back a, ∀ y ∈ back b, Cell.cmp x y = Cell.cmp a b) :
    (t.filterMap back).Pairwise (fun a b => Cell.cmp a b = .lt) :=
  List.Pairwise.filterMap back (R := fun a b => a ∈ t ∧ b ∈ t ∧ Cell.cmp a b = .lt)
    (fun a a' h x hx y hy => by rw [hcmp a h.1 a' h.2.1 x hx y hy, h.2.2])
    (hs.imp_of_mem fun ha hb hlt => ⟨ha, hb, hlt⟩)

theorem ofCells_scan {κ : Type} {t : List Cell} {keys : List κ} {pos : Cell → κ} {g : κ → Option Cell}
    {back : Cell → Option Cell} {kd : CellKind} (hs : t.Pairwise (fun a b => Cell.cmp a b = .lt))
    (hnd : keys.Nodup) (hpos : ∀ c ∈ t, pos c ∈ keys)
    (hg : ∀ k x, g k = some x ↔ ∃ c ∈ t, pos c = k ∧ back c = some x)
    (hcoord : ∀ c ∈ t, ∀ x ∈ back c, x.coord = c.coord ∧ x.kind = kd) :
    Triangle.ofCells (keys.filterMap g) = .ok (t.filterMap back) := by
  have hcmp : ∀ a ∈ t, ∀ b ∈ t, ∀ x ∈ back a, ∀ y ∈ back b, Cell.cmp x y = Cell.cmp a b :=
    fun a ha b hb x hx y hy => Cell.cmp_congr_coord (hcoord a ha x hx).1 (hcoord b hb y hy).1
  have hmem : ∀ x, x ∈ keys.filterMap g ↔ x ∈ t.filterMap back := by
    intro x
    rw [List.mem_filterMap, List.mem_filterMap]
    constructor
    · rintro ⟨k, _, hk⟩
      obtain ⟨c, hc, _, hx⟩ := (hg k x).mp hk
      exact ⟨c, hc, hx⟩
    · rintro ⟨c, hc, hx⟩
      exact ⟨pos c, hpos c hc, (hg _ x).mpr ⟨c, hc, rfl, hx⟩⟩
  have hsorted := sorted_filterMap hs hcmp
  refine Triangle.ofCells_of_perm_strict ((List.perm_ext_iff_of_nodup ?_ (StrictSorted.nodup hsorted)).mpr hmem) hsorted ?_
  · -- a cell that comes back comes from one cell only, hence from one key
    refine List.Nodup.filterMap (fun k k' x hx hx' => ?_) hnd
    obtain ⟨c, hc, rfl, hb⟩ := (hg k x).mp (Option.mem_def.mp hx)
    obtain ⟨c', hc', rfl, hb'⟩ := (hg k' x).mp (Option.mem_def.mp hx')
    rw [eq_of_cmp_eq_of_pairwise_lt hs hc hc' (by
      rw [← hcmp c hc c' hc' x hb x hb']; exact ReflCmp.compare_self (cmp := Cell.cmp))]
  · refine kindsConsistent_of_all (k := kd) fun x hx => ?_
    obtain ⟨c, hc, hb⟩ := List.mem_filterMap.mp ((hmem x).mp hx)
    exact (hcoord c hc x hb).2

structure RegCell (c : Cell) (field : String) (res : Int) (md : Metadata) : Prop where
  md : c.md = md
  prev : c.prev = none
  dates : c.datesOk = true
  vals : ∃ v q, c.values = [(field, v)] ∧ valNum? v = some q
  psv : c.ps.valid = true
  ps1 : c.ps.d = 1
  ps70 : 0 ≤ monthToId c.ps
  pe : c.pe = monthEndOf (monthToId c.ps + res - 1)
  evv : c.ev.valid = true
  eve : c.ev.isMonthEnd = true

/-- regular single-slice cumulative triangle of `res`-month periods starting on firsts of month
(from 1970 on), evaluated at month ends, one numeric scalar field. The bound 1970 (`RegCell.ps70`) is the library's:
the reader computes `period_end = add_months(period_start, res) - 1 day`, and `add_months` lands a month late for a
result before 1970 that is not a month end (`periodEnd_of_first` needs `0 ≤ monthToId d + res`) -/
structure RegularSingle (t : List Cell) (field : String) (res : Int) (md : Metadata) : Prop where
  ne : t ≠ []
  sorted : t.Pairwise (fun a b => Cell.cmp a b = .lt)
  kinds : kindsConsistent t = true
  notInc : ∀ c ∈ t, c.kind ≠ .incremental
  canon : md.Canon
  res1 : 1 ≤ res
  cell : ∀ c ∈ t, RegCell c field res md

def lagOf (c : Cell) : Int := monthToId c.ev - monthToId c.pe

theorem devLag_of_monthEnds {c : Cell} (hp : c.pe.isMonthEnd = true) (he : c.ev.isMonthEnd = true) :
    c.devLag .month = ((lagOf c : Int) : Rat) :=
  devLagMonths_monthEnds hp he

theorem truncLag_of_monthEnds {c : Cell} (hp : c.pe.isMonthEnd = true) (he : c.ev.isMonthEnd = true) :
    truncInt (c.devLag .month) = lagOf c := by
  rw [devLag_of_monthEnds hp he, truncInt_intCast]

theorem addMonths_lagOf {c : Cell} (hp : c.pe.isMonthEnd = true) (hv : c.ev.valid = true)
    (he : c.ev.isMonthEnd = true) : addMonths c.pe ((lagOf c : Int) : Rat) = c.ev := by
  rw [addMonths_monthEnd_all c.pe (lagOf c) hp, ← monthEndOf_monthToId hv he]
  unfold lagOf
  rw [show monthToId c.pe + (monthToId c.ev - monthToId c.pe) = monthToId c.ev by omega]

theorem ev_eq_of_lagOf_eq {a b : Cell} (hpe : a.pe = b.pe) (hl : lagOf a = lagOf b) (av : a.ev.valid = true)
    (ae : a.ev.isMonthEnd = true) (bv : b.ev.valid = true) (be : b.ev.isMonthEnd = true) : a.ev = b.ev := by
  unfold lagOf at hl
  rw [hpe] at hl
  exact eq_of_monthToId_monthEnds av ae bv be (by omega)

theorem eq_of_coord_eq {t : List Cell} (hs : t.Pairwise (fun a b => Cell.cmp a b = .lt)) {a b : Cell} (ha : a ∈ t)
    (hb : b ∈ t) (h : a.coord = b.coord) : a = b :=
  eq_of_cmp_eq_of_pairwise_lt hs ha hb (Cell.cmp_of_coord_eq h)

theorem typedKind_cumulative {k : CellKind} (h : k ≠ .incremental) : typedKind k = .cumulative := by
  cases k <;> simp_all [typedKind]

theorem numV_flt_of_valNum? {v : Val} {q : Rat} (h : valNum? v = some q) : numV (Val.flt q) = numV v := by
  match v, h with
  | .int i, h => cases h; rfl
  | .flt q', h => cases h; rfl
  | .arr _ _ [q'], h => cases h; rfl

/-- the number in the one field of a `RegCell` -/
def aq (c : Cell) : Rat := (c.values.head?.bind fun kv => valNum? kv.2).getD 0

/-- what comes back from the array frame -/
def arecon (field : String) (md : Metadata) (c : Cell) : Cell :=
  { kind := .cumulative, ps := c.ps, pe := c.pe, ev := c.ev, prev := none,
    values := [(field, Val.flt (aq c))], md := md }

section areg
variable {t : List Cell} {field : String} {res : Int} {md : Metadata} (h : RegularSingle t field res md)
include h

theorem pe_monthEnd_reg {c : Cell} (hc : c ∈ t) : c.pe.isMonthEnd = true := by
  rw [(h.cell c hc).pe]
  exact monthEndOf_isMonthEnd _

theorem value_reg {c : Cell} (hc : c ∈ t) :
    ∃ v, c.values = [(field, v)] ∧ valNum? v = some (aq c) ∧ (Dict.get? c.values field).getD .none = v := by
  obtain ⟨v, q, hv, hq⟩ := (h.cell c hc).vals
  exact ⟨v, hv, by simp [aq, hv, hq], by rw [hv, Dict.get?_cons, if_pos (beq_self_eq_true _)]; rfl⟩

theorem toArrayFrame_reg :
    toArrayFrame t field = .ok ((periodsOf t).map (arrayRowOf t field)) := by
  have hfilt : (t.filter fun c => c.values.contains field) = t := by
    rw [List.filter_eq_self]
    intro c hc
    obtain ⟨v, hv, _, _⟩ := value_reg h hc
    exact Dict.contains_iff_mem.mpr (by rw [hv, Dict.keys_cons]; exact List.mem_cons_self)
  have hmetas : ¬ (metasOf t).length > 1 :=
    Nat.not_lt.mpr (List.subperm_of_subset (l₂ := [md]) (metasOf_nodup t) fun m hm => by
      obtain ⟨c, hc, rfl⟩ := mem_metasOf.mp hm
      exact List.mem_singleton.mpr (h.cell c hc).md).length_le
  unfold toArrayFrame
  rw [hfilt, Triangle.ofCells_of_strictSorted h.kinds h.sorted]
  simp only [Except.bind]
  rw [if_neg hmetas, firstIsIncremental_false h.notInc]
  rfl

theorem periodCells_nodup (p : Date × Date) : (periodCells t p).Nodup :=
  (List.mergeSort_perm _ _).nodup_iff.mpr ((StrictSorted.nodup h.sorted).sublist List.filter_sublist)

theorem lagOf_injOn_periodCells (p : Date × Date) :
    ∀ a ∈ periodCells t p, ∀ b ∈ periodCells t p, lagOf a = lagOf b → a = b := fun a ha b hb hl => by
  obtain ⟨ha, ha2⟩ := mem_periodCells.mp ha
  obtain ⟨hb, hb2⟩ := mem_periodCells.mp hb
  have ra := h.cell a ha
  have rb := h.cell b hb
  obtain ⟨hps, hpe⟩ := Prod.ext_iff.mp (ha2.trans hb2.symm)
  simp only at hps hpe
  have hev := ev_eq_of_lagOf_eq hpe hl ra.evv ra.eve rb.evv rb.eve
  exact eq_of_coord_eq h.sorted ha hb
    (Cell.coord_eq_iff.mpr ⟨ra.md.trans rb.md.symm, hps, hpe, hev, ra.prev.trans rb.prev.symm⟩)

theorem entries_reg (p : Date × Date) :
    (arrayRowOf t field p).entries =
      (periodCells t p).map fun c => (lagOf c, (Dict.get? c.values field).getD .none) := by
  show rowEntries (periodCells t p) field = _
  unfold rowEntries
  rw [List.foldl_ext _ (fun es c => setEntry es (lagOf c) ((Dict.get? c.values field).getD .none)) _
    fun es c hc => by
      have hct := (mem_periodCells.mp hc).1
      rw [truncLag_of_monthEnds (pe_monthEnd_reg h hct) (h.cell c hct).eve]]
  exact Assoc.foldl_set_fresh lagOf (fun c : Cell => (Dict.get? c.values field).getD .none) (periodCells t p) []
    (List.Nodup.map_on (lagOf_injOn_periodCells h p) (periodCells_nodup h p))

theorem entries_keys_nodup (p : Date × Date) :
    ((arrayRowOf t field p).entries.map (·.1)).Nodup := by
  rw [entries_reg h p, List.map_map]
  exact List.Nodup.map_on (lagOf_injOn_periodCells h p) (periodCells_nodup h p)

theorem frameCell_of_cell {p : Date × Date} {c : Cell} (hc : c ∈ periodCells t p) :
    frameCell field md (arrayRowOf t field p) p.2 (lagOf c) = some (arecon field md c) := by
  obtain ⟨hct, hcp⟩ := mem_periodCells.mp hc
  obtain ⟨v, hv, hq, hg⟩ := value_reg h hct
  have hmem : (lagOf c, (Dict.get? c.values field).getD .none) ∈ (arrayRowOf t field p).entries := by
    rw [entries_reg h p]
    exact List.mem_map.mpr ⟨c, hc, rfl⟩
  obtain ⟨hp1, hp2⟩ : p.1 = c.ps ∧ p.2 = c.pe := by rw [← hcp]; exact ⟨rfl, rfl⟩
  unfold frameCell
  rw [Assoc.find?_of_mem_nodup (entries_keys_nodup h p) hmem]
  simp only [Option.bind_some, hg, hq, Option.map_some]
  simp only [arecon, arrayRowOf, hp1, hp2,
    addMonths_lagOf (pe_monthEnd_reg h hct) (h.cell c hct).evv (h.cell c hct).eve]

theorem of_frameCell_eq_some {p : Date × Date} {lag : Int} {x : Cell}
    (hx : frameCell field md (arrayRowOf t field p) p.2 lag = some x) :
    ∃ c ∈ periodCells t p, lagOf c = lag ∧ x = arecon field md c := by
  have hx' := hx
  unfold frameCell at hx
  cases hf : (arrayRowOf t field p).entries.find? (·.1 == lag) with
  | none => simp [hf] at hx
  | some e =>
    have he := List.mem_of_find?_eq_some hf
    have hk : e.1 = lag := by simpa using List.find?_some hf
    rw [entries_reg h p] at he
    obtain ⟨c, hc, rfl⟩ := List.mem_map.mp he
    refine ⟨c, hc, hk, ?_⟩
    have := frameCell_of_cell h hc
    simp only at hk
    rw [hk, hx'] at this
    exact Option.some.inj this

theorem rowCells_reg {p : Date × Date} (hp : p ∈ periodsOf t) (cols : List Int) :
    rowCells field md res cols (arrayRowOf t field p) =
      .ok (cols.filterMap (frameCell field md (arrayRowOf t field p) p.2)) := by
  obtain ⟨c, hc, hcp⟩ := mem_periodsOf.mp hp
  have hr := h.cell c hc
  have hpe : (addMonths (arrayRowOf t field p).period (res : Rat)).pred = p.2 := by
    show (addMonths p.1 (res : Rat)).pred = p.2
    rw [← hcp, periodEnd_of_first c.ps hr.ps1 res (by have := hr.ps70; have := h.res1; omega), hr.pe]
  unfold rowCells
  rw [hpe]
  refine Cell.mapM_mk?_ok fun x hx => ?_
  obtain ⟨lag, _, hl⟩ := List.mem_filterMap.mp hx
  obtain ⟨c', hc', _, rfl⟩ := of_frameCell_eq_some h hl
  have r' := h.cell c' (mem_periodCells.mp hc').1
  -- the date rules carry over; a `CumulativeCell` without previous date meets the class rule
  obtain ⟨h1, h2, h3, -, -⟩ := Cell.datesOk_iff.mp r'.dates
  exact Cell.datesOk_iff.mpr ⟨h1, h2, h3, by simp [arecon], fun _ hp => nomatch hp⟩

theorem canonCell_arecon {c : Cell} (hc : c ∈ t) : canonCell (arecon field md c) = canonCell c := by
  obtain ⟨v, hv, hq, _⟩ := value_reg h hc
  unfold canonCell
  simp only [arecon, (h.cell c hc).prev, (h.cell c hc).md, typedKind_cumulative (h.notInc c hc), hv,
    List.map_cons, List.map_nil, numV_flt_of_valNum? hq]
  rfl

theorem frameResolution_inferred
    (hp : ∃ p0 p1 rest, periodsOf t = p0 :: p1 :: rest ∧ monthToId p1.1 = monthToId p0.1 + res) :
    frameResolution ((periodsOf t).map (arrayRowOf t field)) none = .ok res := by
  obtain ⟨p0, p1, rest, hper, hres⟩ := hp
  obtain ⟨c0, hc0, hcp0⟩ := mem_periodsOf.mp (show p0 ∈ periodsOf t by rw [hper]; simp)
  obtain ⟨c1, hc1, hcp1⟩ := mem_periodsOf.mp (show p1 ∈ periodsOf t by rw [hper]; simp)
  rw [hper]
  simp only [List.map_cons, frameResolution, arrayRowOf]
  rw [round_devLag_firsts p0.1 p1.1 (by rw [← hcp0]; exact (h.cell c0 hc0).ps1)
    (by rw [← hcp1]; exact (h.cell c1 hc1).ps1)]
  congr 1; omega

theorem fromArrayFrame_toArrayFrame_eq {pr : Option Int}
    (hr : frameResolution ((periodsOf t).map (arrayRowOf t field)) pr = .ok res) :
    ((toArrayFrame t field).bind fun rows => fromArrayFrame rows field md pr) = .ok (t.map (arecon field md)) := by
  rw [toArrayFrame_reg h]
  simp only [Except.bind]
  unfold fromArrayFrame
  simp only [hr, Except.bind]
  generalize hcols : frameCols ((periodsOf t).map (arrayRowOf t field)) = cols
  rw [List.mapM_map, mapM_ok_of_all (f := rowCells field md res _ ∘ arrayRowOf t field) (g := fun p =>
    cols.filterMap (frameCell field md (arrayRowOf t field p) p.2)) (fun p hp => rowCells_reg h hp _)]
  -- the scan: one key per period and lag column; the reader finds `arecon c` at (period, lag) of `c`
  have hscan := ofCells_scan (kd := .cumulative) (keys := (periodsOf t).flatMap fun p => cols.map fun lag => (p, lag))
    (pos := fun c => ((c.ps, c.pe), lagOf c)) (back := fun c => some (arecon field md c))
    (g := fun k => frameCell field md (arrayRowOf t field k.1) k.1.2 k.2) h.sorted
    (nodup_flatMap_map_pair (periodsOf_nodup t) fun _ _ => hcols ▸ frameCols_eq _ ▸ distinctKeys_nodup _ _)
    (fun c hc => by
      have hp : (c.ps, c.pe) ∈ periodsOf t := mem_periodsOf.mpr ⟨c, hc, rfl⟩
      refine List.mem_flatMap.mpr ⟨_, hp, List.mem_map_of_mem ?_⟩
      rw [← hcols, frameCols_eq, mem_distinctKeys]
      refine ⟨(lagOf c, (Dict.get? c.values field).getD .none), List.mem_flatMap.mpr ⟨_, List.mem_map_of_mem hp, ?_⟩, rfl⟩
      rw [entries_reg h]
      exact List.mem_map.mpr ⟨c, mem_periodCells.mpr ⟨hc, rfl⟩, rfl⟩)
    (fun k x => ⟨fun hx => by
        obtain ⟨c, hc, hl, rfl⟩ := of_frameCell_eq_some h hx
        obtain ⟨hct, hcp⟩ := mem_periodCells.mp hc
        exact ⟨c, hct, by rw [hcp, hl], rfl⟩,
      fun ⟨c, hc, hk, hx⟩ => by
        rw [← hk, ← Option.some.inj hx]
        exact frameCell_of_cell h (mem_periodCells.mpr ⟨hc, rfl⟩)⟩)
    (fun c hc x hx => by
      obtain rfl := Option.some.inj (Option.mem_def.mp hx)
      exact ⟨Cell.coord_eq_iff.mpr ⟨(h.cell c hc).md.symm, rfl, rfl, rfl, (h.cell c hc).prev.symm⟩, rfl⟩)
  rw [List.filterMap_flatMap, List.filterMap_eq_map'] at hscan
  simpa only [List.flatMap_def, List.filterMap_map, Function.comp_def] using hscan

/-- **fromArrayFrame_toArrayFrame**, the period resolution given (`pr = some res`) or inferred from the first
two period starts (`frameResolution_inferred`) -/
theorem fromArrayFrame_toArrayFrame_of {pr : Option Int}
    (hr : frameResolution ((periodsOf t).map (arrayRowOf t field)) pr = .ok res) :
    okAnd (backSpec t) ((toArrayFrame t field).bind fun rows => fromArrayFrame rows field md pr) = true := by
  rw [fromArrayFrame_toArrayFrame_eq h hr]
  exact okAnd_backSpec_map fun c hc => canonCell_arecon h hc

end areg

end Bermuda.Frame
