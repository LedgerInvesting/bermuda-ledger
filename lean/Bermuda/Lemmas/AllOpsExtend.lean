/-
C01 closure for `Model/AllOps.lean` (`Op2`): the extension operators `make_right_triangle`, `make_right_diagonal`,
`fill_forward_gaps`, `backfill`. Every added cell is built through the validating constructor
(`Cell.mk?`; `backfill` keeps cells only while they are valid: `takeValid`), so the date rules of the
added cells hold by construction — no calendar arithmetic is needed.
-/
import Bermuda.Lemmas.AllOpsBasis
import Bermuda.Lemmas.ExtendFill
import Bermuda.Lemmas.ExtendBackfill
namespace Bermuda.AllOps
open Bermuda Bermuda.Properties.C01 Bermuda.Extend

theorem rightTriangleSlice_allOk {lags : Option (List Rat)} {u : LagUnit} {slice out : List Cell}
    (h : rightTriangleSlice lags u slice = .ok out) : AllOk out := by
  obtain ⟨_, _, h⟩ := rightTriangleSlice_ok h
  refine mapM_forall h fun _ _ c hc => ?_
  obtain ⟨_, _, rfl, hd⟩ := rightCellOf_ok.mp hc
  exact hd

theorem rightTriangleCells_allOk {cum out : List Cell} {lags : Option (List Rat)} {u? : Option LagUnit}
    (h : rightTriangleCells cum lags u? = .ok out) : AllOk out := by
  cases u? with
  | none =>
    simp only [rightTriangleCells] at h
    split at h
    · cases h; exact AllOk.nil
    · cases h
  | some u =>
    obtain ⟨parts, hp, rfl⟩ := rightTriangleCells_ok h
    exact AllOk.flatten (mapM_forall hp fun _ _ _ => rightTriangleSlice_allOk)

theorem fixPrev_canonical {t right out : List Cell} (hr : AllOk right)
    (h : fixPrevEvaluationDate t right = .ok out) : Canonical out := by
  unfold fixPrevEvaluationDate at h
  simp only [] at h
  obtain ⟨obsEdge, _, h⟩ := bind_ok h
  obtain ⟨fixed, hfix, h⟩ := bind_ok h
  exact ofCells_canonical h (AllOk.append (fun c hc => hr c (List.mem_filter.mp hc).1)
    (mapM_forall hfix fun _ _ _ => mk?_ok_dates))

theorem finishRight_canonical {t new out : List Cell} (hn : AllOk new) (h : finishRight t new = .ok out) :
    Canonical out := by
  obtain ⟨right, hr, ⟨_, rfl⟩ | ⟨_, inc, hi, h⟩⟩ := finishRight_ok h
  · exact ofCells_canonical hr hn
  · exact fixPrev_canonical (allOk_of (toIncremental_canonical (ofCells_canonical hr hn) hi)) h

theorem makeRightTriangle_canonical {t out : List Cell} {lags : Option (List Rat)} {unit : String}
    (h : makeRightTriangle t lags unit = .ok out) : Canonical out := by
  obtain ⟨_, new, _, hn, h⟩ := makeRightTriangleU_ok h
  exact finishRight_canonical (rightTriangleCells_allOk hn) h

theorem rightDiagonalCells_allOk {cum out : List Cell} {dates : List Date} {hist : Bool}
    (h : rightDiagonalCells cum dates hist = .ok out) : AllOk out := by
  obtain ⟨parts, hp, rfl⟩ := rightDiagonalCells_ok h
  refine AllOk.flatten (mapM_forall hp fun _ _ _ h => ?_)
  obtain ⟨_, _, _, hd⟩ := rightDiagonalSlice_ok h
  exact hd

theorem makeRightDiagonal_canonical {t out : List Cell} {dates : List Date} {hist : Bool}
    (h : makeRightDiagonal t dates hist = .ok out) : Canonical out := by
  obtain ⟨_, new, _, hn, h⟩ := makeRightDiagonal_ok h
  exact finishRight_canonical (rightDiagonalCells_allOk hn) h

theorem fillRow_allOk {res : Int} {noneFlag : Bool} {row out : List Cell} (hr : AllOk row)
    (h : fillRow res noneFlag row = .ok out) : AllOk out := by
  obtain ⟨_, d, hd, rfl⟩ := fillRow_ok.mp h
  intro c hc
  obtain ⟨p, hp, rfl⟩ := List.mem_map.mp hc
  rcases (fillRow_loose hd).2.2 p hp with ⟨h1, _⟩ | ⟨_, _, _, _, _, _, h3⟩
  · exact hr _ h1
  · exact h3

theorem fillForwardGaps_canonical {t out : List Cell} {res? : Option Int} {noneFlag : Bool}
    (ht : AllOk t) (h : fillForwardGaps t res? noneFlag = .ok out) : Canonical out := by
  rcases fillForwardGaps_ok.mp h with ⟨_, rfl⟩ | ⟨res, parts, _, hparts, hof⟩
  · exact canonical_nil
  · exact ofCells_canonical hof (AllOk.flatten (mapM_forall hparts fun r hr _ =>
      fillRow_allOk fun c hc => ht c ((mem_slicePeriodRow_iff hr c).mp hc).1))

theorem backfillRow_allOk {statics : List String} {res? : Option Int} {minLag minAllowed : Int}
    {row out : List Cell} (h : backfillRow statics res? minLag minAllowed row = .ok out) : AllOk out := by
  rcases backfillRow_shape h with ⟨rfl, _⟩ | ⟨_, _, _, _, _, _, _, rfl⟩
  · exact AllOk.nil
  · exact takeValid_datesOk _

theorem backfill_canonical {t out : List Cell} {statics : List String} {res? : Option Int} {minLag : Int}
    (ht : AllOk t) (h : backfill t statics res? minLag = .ok out) : Canonical out := by
  obtain ⟨_, parts, addTri, _, hparts, hadd, hout⟩ := backfill_ok.mp h
  exact add_canonical ht (allOk_of (ofCells_canonical hadd
    (AllOk.flatten (mapM_forall hparts fun _ _ _ => backfillRow_allOk)))) hout

end Bermuda.AllOps
