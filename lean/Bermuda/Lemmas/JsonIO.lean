/-
Helper lemmas for C07: ISO dates through their eight decimal digits (`IsoDigits`), sortedness of typed
cells, key lists, and the top level of the plain reader.
-/
import Bermuda.Model.JsonIO
import Bermuda.Lemmas.Sort
import Bermuda.Lemmas.DateOrder
import Bermuda.Lemmas.Triangle
import Bermuda.Lemmas.Assoc
import Bermuda.Spec.C07
namespace Bermuda.JsonIO
open Bermuda

theorem digitVal_digitChar : ∀ k, k < 10 → digitVal? (digitChar k) = some k := by decide
theorem digitChar_ne_dash : ∀ k, k < 10 → (digitChar k == '-') = false := by decide
theorem digitChar_ne_space : ∀ k, k < 10 → (digitChar k == ' ') = false := by decide

theorem digitChar_add (n k : Nat) : digitChar (10 * n + k) = digitChar k := by
  unfold digitChar; rw [Nat.mul_add_mod]

theorem natDigits_digit (fuel : Nat) {k : Nat} (hk : k < 10) : natDigits (fuel + 1) k = [digitChar k] := by
  rw [natDigits, if_pos hk]

theorem natDigits_snoc (fuel : Nat) {n k : Nat} (hn : 1 ≤ n) (hk : k < 10) :
    natDigits (fuel + 1) (10 * n + k) = natDigits fuel n ++ [digitChar k] := by
  rw [natDigits, if_neg (by omega), digitChar_add, Nat.mul_add_div (by decide), Nat.div_eq_of_lt hk,
    Nat.add_zero]

theorem pad2_digits (a : Nat) {b : Nat} (hb : b < 10) : pad2 (10 * a + b) = [digitChar a, digitChar b] := by
  rw [pad2, digitChar_add, Nat.mul_add_div (by decide), Nat.div_eq_of_lt hb, Nat.add_zero]

theorem splitDash_cons {c : Char} (hc : (c == '-') = false) (rest : List Char) :
    splitDash (c :: rest) = (c :: (splitDash rest).1, (splitDash rest).2) := by
  rw [splitDash, hc]; rfl

theorem splitDash_dash (rest : List Char) : splitDash ('-' :: rest) = ([], some rest) := rfl

theorem smallField_digits (sp : Bool) {a b : Nat} (ha : a < 10) (hb : b < 10) (h : 1 ≤ 10 * a + b) :
    smallField? sp [digitChar a, digitChar b] = some (10 * a + b) := by
  simp only [smallField?, digitChar_ne_space a ha, Bool.and_false, Bool.false_eq_true, if_false,
    digitVal_digitChar a ha, digitVal_digitChar b hb, Option.bind_some]
  rw [if_neg (by omega)]

structure IsoDigits where
  (y1 y2 y3 y4 m1 m2 d1 d2 : Nat)

namespace IsoDigits

def Ok (g : IsoDigits) : Prop :=
  g.y1 < 10 ∧ g.y2 < 10 ∧ g.y3 < 10 ∧ g.y4 < 10 ∧ g.m1 < 10 ∧ g.m2 < 10 ∧ g.d1 < 10 ∧ g.d2 < 10

def chars (g : IsoDigits) : List Char :=
  [digitChar g.y1, digitChar g.y2, digitChar g.y3, digitChar g.y4, '-', digitChar g.m1, digitChar g.m2, '-',
   digitChar g.d1, digitChar g.d2]

def date (g : IsoDigits) : Date :=
  ⟨((1000 * g.y1 + 100 * g.y2 + 10 * g.y3 + g.y4 : Nat) : Int), 10 * g.m1 + g.m2, 10 * g.d1 + g.d2⟩

end IsoDigits

/-- `strftime` writes the digits of a date whose year has four of them (glibc `%Y` does not pad) -/
theorem dateIso_digits (g : IsoDigits) (hg : g.Ok) (hy : 1 ≤ g.y1) : dateIso g.date = String.ofList g.chars := by
  obtain ⟨h1, h2, h3, h4, _, h6, _, h8⟩ := hg
  have e : 1000 * g.y1 + 100 * g.y2 + 10 * g.y3 + g.y4 = 10 * (10 * (10 * g.y1 + g.y2) + g.y3) + g.y4 := by
    omega
  simp only [dateIso, dateIsoChars, yearChars, IsoDigits.date, IsoDigits.chars, Int.toNat_natCast, e]
  rw [natDigits_snoc _ (by omega) h4, natDigits_snoc _ (by omega) h3, natDigits_snoc _ hy h2,
    natDigits_digit _ h1, pad2_digits _ h6, pad2_digits _ h8]
  rfl

theorem parseIso_chars (g : IsoDigits) (hg : g.Ok) (hy : 1 ≤ g.date.y) (hv : g.date.valid = true) :
    parseIso (String.ofList g.chars) = .ok g.date := by
  obtain ⟨h1, h2, h3, h4, h5, h6, h7, h8⟩ := hg
  -- `unfold`, not `simp`: the `Decidable` instances inside `valid` mention `g.date` too
  unfold IsoDigits.date at hy hv ⊢
  simp only [Date.valid, Bool.and_eq_true, decide_eq_true_eq] at hy hv
  have nd := fun k hk => splitDash_cons (digitChar_ne_dash k hk)
  simp only [parseIso, String.toList_ofList, IsoDigits.chars, parseIsoChars, nd _ h1, nd _ h2, nd _ h3, nd _ h4,
    nd _ h5, nd _ h6, splitDash_dash, digitVal_digitChar _ h1, digitVal_digitChar _ h2, digitVal_digitChar _ h3,
    digitVal_digitChar _ h4, smallField_digits false h5 h6 hv.1.1.1, smallField_digits true h7 h8 hv.1.2]
  rw [if_neg (by omega)]

theorem digit_step (n : Nat) : ∃ q r, r < 10 ∧ n = 10 * q + r :=
  ⟨n / 10, n % 10, Nat.mod_lt _ (by decide), (Nat.div_add_mod n 10).symm⟩

theorem wfDate_digits {d : Date} (h : wfDate d = true) : ∃ g : IsoDigits, g.Ok ∧ 1 ≤ g.y1 ∧ d = g.date := by
  obtain ⟨y, m, dd⟩ := d
  simp only [wfDate, Date.valid, Bool.and_eq_true, decide_eq_true_eq] at h
  have := (DateOrder.dim_bounds y m).2
  obtain ⟨n, rfl⟩ : ∃ n : Nat, y = (n : Int) := ⟨y.toNat, by omega⟩
  obtain ⟨q1, y4, h4, rfl⟩ := digit_step n
  obtain ⟨q2, y3, h3, rfl⟩ := digit_step q1
  obtain ⟨y1, y2, h2, rfl⟩ := digit_step q2
  obtain ⟨m1, m2, hm, rfl⟩ := digit_step m
  obtain ⟨d1, d2, hd, rfl⟩ := digit_step dd
  have b : (1 ≤ y1 ∧ y1 < 10) ∧ m1 < 10 ∧ d1 < 10 := by omega
  refine ⟨⟨y1, y2, y3, y4, m1, m2, d1, d2⟩, ⟨b.1.2, h2, h3, h4, b.2.1, hm, b.2.2, hd⟩, b.1.1, ?_⟩
  simp only [IsoDigits.date, Date.mk.injEq, Int.natCast_inj, and_true]
  omega

theorem JCell.le_eq (a b : JCell) : JCell.le a b = leOf Cell.cmp a.toCell b.toCell := rfl

theorem JCell.le_trans (a b c : JCell) : JCell.le a b = true → JCell.le b c = true → JCell.le a c = true := by
  simp only [JCell.le_eq]; exact leOf_trans _ _ _

theorem pairwise_of_sortedJ : ∀ t : List JCell, sortedJ t = true →
    t.Pairwise (fun a b => JCell.le a b = true)
  | [], _ => List.Pairwise.nil
  | [a], _ => by simp
  | a :: b :: rest, h => by
    simp only [sortedJ, Bool.and_eq_true] at h
    have ih := pairwise_of_sortedJ (b :: rest) h.2
    refine List.Pairwise.cons ?_ ih
    intro x hx
    rcases List.mem_cons.mp hx with rfl | hx
    · exact h.1
    · exact JCell.le_trans _ _ _ h.1 ((List.pairwise_cons.mp ih).1 x hx)

/-- `Triangle(cells)` leaves an already sorted one-class list alone -/
theorem ofJCells_of_pairwise {cells : List JCell} (hk : kindsConsistent (cells.map JCell.toCell) = true)
    (hs : cells.Pairwise fun a b => JCell.le a b = true) : ofJCells cells = .ok cells := by
  rw [ofJCells, if_pos hk, List.mergeSort_of_pairwise hs]

def typed (c : JCell) : JCell := { c with kind := typedKind c.kind }

theorem asTyped_eq_map (t : List JCell) : asTyped t = t.map typed := rfl

theorem le_typed (a b : JCell) : JCell.le (typed a) (typed b) = JCell.le a b := rfl

theorem kindsConsistent_typed (t : List JCell) (h : kindsConsistent (t.map JCell.toCell) = true) :
    kindsConsistent ((asTyped t).map JCell.toCell) = true := by
  obtain ⟨k, hk⟩ := kindsConsistent_iff.mp h
  refine kindsConsistent_of_all (k := typedKind k) fun c hc => ?_
  simp only [asTyped_eq_map, List.map_map, List.mem_map, Function.comp] at hc
  obtain ⟨c0, hc0, rfl⟩ := hc
  exact congrArg typedKind (hk _ (List.mem_map_of_mem hc0))

theorem nodupKeys_iff (l : List String) : nodupKeys l = true ↔ l.Nodup := by
  induction l with
  | nil => simp [nodupKeys]
  | cons a t ih => simp [nodupKeys, ih]

/-- `Dict.keys_map_val` in the spelling of the plain readers, which take the keys of an object by `.map (·.1)` -/
theorem keys_map_snd {α β : Type} (g : String × α → β) (d : Dict α) :
    (d.map fun p => (p.1, g p)).map (·.1) = Dict.keys d :=
  Dict.keys_map_val g d

open Bermuda.Spec.C07 in
theorem plainRead_slices (ss : List JVal) :
    plainRead (.obj [("slices", .arr ss)]) = (ss.mapM readSlice).map List.flatten := by
  simp [plainRead]

open Bermuda.Spec.C07 in
theorem plainRead_inv {j cells} (h : plainRead j = some cells) :
    ∃ ss lss, j = .obj [("slices", .arr ss)] ∧ ss.mapM readSlice = some lss ∧ lss.flatten = cells := by
  unfold plainRead at h
  split at h
  · obtain ⟨lss, hm, rfl⟩ := Option.map_eq_some_iff.mp h
    exact ⟨_, lss, rfl, hm, rfl⟩
  · cases h

end Bermuda.JsonIO
