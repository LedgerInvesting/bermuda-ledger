/-
Date arithmetic (C12, and what C08, C14, C15, C17, C18 need of it). A valid date is taken as its month index and its day of
the month: the order of dates, the year and the month lag are one statement each in these coordinates, and on month-aligned
dates (`firstOf`, `monthEndOf`) each operation of `date_utils.py` is one equation in the index (attribute `cal`).
`Rat.floor` of core is definitionally Mathlib's `⌊·⌋` on ℚ, so `Int.floor_*` lemmas apply after a `show`.
-/
import Bermuda.Model.DateUtils
import Bermuda.Lemmas.DateOrder
import Bermuda.Lemmas.CalAttr
import Mathlib.Data.Rat.Floor
import Mathlib.Tactic.FieldSimp
import Mathlib.Tactic.Ring
import Mathlib.Tactic.NormNum
import Mathlib.Tactic.Linarith
import Mathlib.Tactic.Positivity


namespace Bermuda

export DateOrder (dim_bounds dim_pos valid_iff isMonthEnd_iff monthFraction_monthEnd devLagMonths_monthEnds succ_valid)

theorem dim_twelve (y : Int) : dim y 12 = 31 := by simp [dim]

theorem floor_int_add (M : Int) (f : Rat) (h0 : 0 ≤ f) (h1 : f < 1) : ((M : Rat) + f).floor = M := by
  show ⌊(M : Rat) + f⌋ = M
  rw [Int.floor_eq_iff]
  constructor <;> linarith

theorem floor_intCast (M : Int) : ((M : Rat)).floor = M := Rat.floor_intCast M

theorem roundHalfEven_cases (q : Rat) :
    roundHalfEven q = q.floor ∧ q - q.floor ≤ 1 / 2 ∨ roundHalfEven q = q.floor + 1 ∧ 1 / 2 ≤ q - q.floor := by
  unfold roundHalfEven
  simp only []
  split
  · exact Or.inl ⟨rfl, le_of_lt ‹_›⟩
  · split
    · exact Or.inr ⟨rfl, le_of_lt ‹_›⟩
    · split
      · exact Or.inl ⟨rfl, not_lt.mp ‹_›⟩
      · exact Or.inr ⟨rfl, not_lt.mp ‹_›⟩

theorem roundHalfEven_near (q : Rat) : q - 1 / 2 ≤ roundHalfEven q ∧ (roundHalfEven q : Rat) ≤ q + 1 / 2 := by
  have h1 : ((q.floor : Int) : Rat) ≤ q := Int.floor_le q
  have h2 : q < (q.floor : Rat) + 1 := Int.lt_floor_add_one q
  rcases roundHalfEven_cases q with ⟨e, h⟩ | ⟨e, h⟩ <;> rw [e]
  · constructor <;> linarith
  · push_cast; constructor <;> linarith

theorem roundHalfEven_ge_one {q : Rat} (h : 1/2 < q) : 1 ≤ roundHalfEven q := by
  have : (0 : Rat) < roundHalfEven q := by linarith [(roundHalfEven_near q).1]
  exact_mod_cast this

theorem roundHalfEven_le {q : Rat} {N : Int} (h : q ≤ N) : roundHalfEven q ≤ N := by
  have : (roundHalfEven q : Rat) < ((N + 1 : Int) : Rat) := by
    push_cast; linarith [(roundHalfEven_near q).2]
  have : roundHalfEven q < N + 1 := by exact_mod_cast this
  omega

theorem roundHalfEven_eq_of_near (n : Int) (q : Rat) (h1 : (n : Rat) - 1/2 < q) (h2 : q < (n : Rat) + 1/2) :
    roundHalfEven q = n := by
  unfold roundHalfEven
  -- from `n` on the floor is `n` and the fraction is below a half; below `n` the floor is `n - 1` and the fraction above a half
  rcases le_or_gt (n : Rat) q with hq | hq
  · have hf : q.floor = n := by
      show ⌊q⌋ = n
      have h12 : (n : Rat) + 1 / 2 < n + 1 := add_lt_add_right (show (1 : Rat) / 2 < 1 by norm_num) (n : Rat)
      exact Int.floor_eq_iff.mpr ⟨hq, h2.trans h12⟩
    simp only [hf]
    rw [if_pos (sub_lt_iff_lt_add'.mpr h2)]
  · have hf : q.floor = n - 1 := by
      show ⌊q⌋ = n - 1
      refine Int.floor_eq_iff.mpr ⟨?_, ?_⟩
      · rw [Int.cast_sub, Int.cast_one]
        exact le_of_lt (lt_of_le_of_lt (sub_le_sub_left (by norm_num) _) h1)
      · rw [Int.cast_sub, Int.cast_one, sub_add_cancel]; exact hq
    have h3 : (1 : Rat)/2 < q - ((n - 1 : Int) : Rat) := by
      rw [Int.cast_sub, Int.cast_one, lt_sub_iff_add_lt, show (1 : Rat)/2 + ((n : Rat) - 1) = n - 1/2 by ring]
      exact h1
    simp only [hf]
    rw [if_neg (not_lt.mpr h3.le), if_pos h3]
    omega

theorem roundHalfEven_intCast (n : Int) : roundHalfEven (n : Rat) = n :=
  roundHalfEven_eq_of_near n n (sub_lt_self _ (by norm_num)) (lt_add_of_pos_right _ (by norm_num))

theorem roundHalfEven_natCast (n : Nat) : roundHalfEven (n : Rat) = n := by
  exact_mod_cast roundHalfEven_intCast n

/-- a day `d` of an `n`-day month carried to an `n'`-day month, `round(d / n · n')`, is a day of that month:
`d / n · n' ≥ 28 / 31 > 1 / 2` rounds to at least 1 -/
theorem roundHalfEven_scaled {d n n' : Nat} (h1 : 1 ≤ d) (h2 : d ≤ n) (hn : n ≤ 31) (hn' : 28 ≤ n') :
    1 ≤ roundHalfEven ((d : Rat) / (n : Rat) * (n' : Rat)) ∧
      roundHalfEven ((d : Rat) / (n : Rat) * (n' : Rat)) ≤ n' := by
  have hn0 : (0 : Rat) < n := by exact_mod_cast (by omega : 0 < n)
  constructor
  · apply roundHalfEven_ge_one
    rw [div_mul_eq_mul_div, lt_div_iff₀ hn0]
    have : (n' : Rat) ≤ d * n' := le_mul_of_one_le_left (Nat.cast_nonneg _) (by exact_mod_cast h1)
    have : (28 : Rat) ≤ n' := by exact_mod_cast hn'
    have : (n : Rat) ≤ 31 := by exact_mod_cast hn
    linarith
  · apply roundHalfEven_le
    have : (d : Rat) / n ≤ 1 := (div_le_one hn0).mpr (by exact_mod_cast h2)
    simpa using mul_le_of_le_one_left (Nat.cast_nonneg n') this

theorem truncInt_intCast (z : Int) : truncInt (z : Rat) = z := by
  unfold truncInt
  split
  · exact Rat.floor_intCast z
  · rw [← Int.cast_neg, Rat.floor_intCast]; omega

/-- `int()` of a non-integer truncates toward zero: the floor from zero on, one above the floor below zero -/
theorem truncInt_add_frac (M : Int) {f : Rat} (h0 : 0 < f) (h1 : f < 1) :
    truncInt ((M : Rat) + f) = if 0 ≤ M then M else M + 1 := by
  unfold truncInt
  by_cases hM : 0 ≤ M
  · have : (0 : Rat) ≤ M := by exact_mod_cast hM
    rw [if_pos (by linarith), if_pos hM, floor_int_add M f h0.le h1]
  · have : (M : Rat) ≤ -1 := by exact_mod_cast (by omega : M ≤ -1)
    have e : -((M : Rat) + f) = ((-M - 1 : Int) : Rat) + (1 - f) := by push_cast; ring
    rw [if_neg (by linarith), if_neg hM, e, floor_int_add _ _ (by linarith) (by linarith)]
    omega

/-- the calendar month with index `M` (1970-01 = 0) -/
def yearOf (M : Int) : Int := 1970 + M / 12
def monthOf (M : Int) : Nat := (M % 12).toNat + 1

theorem yearOf_monthToId {d : Date} (h : d.valid = true) : yearOf (monthToId d) = d.y := by
  obtain ⟨h1, h2, -, -⟩ := (valid_iff d).mp h
  unfold yearOf monthToId; omega

theorem monthOf_monthToId {d : Date} (h : d.valid = true) : monthOf (monthToId d) = d.m := by
  obtain ⟨h1, h2, -, -⟩ := (valid_iff d).mp h
  unfold monthOf monthToId; omega

theorem monthToId_mk (M : Int) (day : Nat) : monthToId ⟨yearOf M, monthOf M, day⟩ = M := by
  unfold monthToId yearOf monthOf
  simp only
  omega

theorem monthOf_range (M : Int) : 1 ≤ monthOf M ∧ monthOf M ≤ 12 := by
  unfold monthOf; omega

theorem monthToId_nonneg_iff {d : Date} (hv : d.valid = true) : 0 ≤ monthToId d ↔ 1970 ≤ d.y := by
  obtain ⟨h1, h2, -, -⟩ := (valid_iff d).mp hv
  unfold monthToId; omega

theorem lt_iff_monthToId {a b : Date} (ha : a.valid = true) (hb : b.valid = true) :
    a < b ↔ monthToId a < monthToId b ∨ monthToId a = monthToId b ∧ a.d < b.d := by
  obtain ⟨a1, a2, -, -⟩ := (valid_iff a).mp ha
  obtain ⟨b1, b2, -, -⟩ := (valid_iff b).mp hb
  rw [DateOrder.lt_iff]
  unfold monthToId
  omega

theorem monthFraction_range {dt : Date} (hv : dt.valid = true) : 0 < monthFraction dt ∧ monthFraction dt ≤ 1 := by
  obtain ⟨_, _, h1, h2⟩ := (valid_iff _).mp hv
  have hd : (0 : Rat) < dim dt.y dt.m := Nat.cast_pos.mpr (Nat.lt_of_lt_of_le h1 h2)
  exact ⟨div_pos (Nat.cast_pos.mpr h1) hd, (div_le_one hd).mpr (Nat.cast_le.mpr h2)⟩

theorem devLagMonths_eq (s e : Date) :
    devLagMonths s e = ((monthToId e - monthToId s : Int) : Rat) - monthFraction s + monthFraction e := by
  unfold devLagMonths monthToId
  push_cast; ring

theorem devLagMonths_self (d : Date) : devLagMonths d d = 0 := by
  rw [devLagMonths_eq, Int.sub_self, Int.cast_zero, zero_sub, neg_add_cancel]

theorem valid_monthDay (M : Int) {day : Nat} (h1 : 1 ≤ day) (h2 : day ≤ dim (yearOf M) (monthOf M)) :
    (Date.mk (yearOf M) (monthOf M) day).valid = true := by
  rw [valid_iff]
  have := monthOf_range M
  simp only
  omega

/-- the last day of the month with index `M` -/
def monthEndOf (M : Int) : Date := ⟨yearOf M, monthOf M, dim (yearOf M) (monthOf M)⟩

theorem monthEndOf_valid (M : Int) : (monthEndOf M).valid = true :=
  valid_monthDay M (dim_pos _ _) (Nat.le_refl _)

theorem monthEndOf_isMonthEnd (M : Int) : (monthEndOf M).isMonthEnd = true := (isMonthEnd_iff _).mpr rfl

theorem monthToId_monthEndOf (M : Int) : monthToId (monthEndOf M) = M := monthToId_mk M _

theorem monthEndOf_monthToId {d : Date} (hv : d.valid = true) (he : d.isMonthEnd = true) : monthEndOf (monthToId d) = d := by
  unfold monthEndOf
  rw [yearOf_monthToId hv, monthOf_monthToId hv, ← (isMonthEnd_iff d).mp he]

/-- first day of month `M` -/
def firstOf (M : Int) : Date := ⟨yearOf M, monthOf M, 1⟩

theorem monthToId_firstOf (M : Int) : monthToId (firstOf M) = M := monthToId_mk M 1

theorem firstOf_valid (M : Int) : (firstOf M).valid = true := valid_monthDay M (Nat.le_refl 1) (dim_pos _ _)

theorem firstOf_monthToId {d : Date} (hv : d.valid = true) (hd : d.d = 1) : firstOf (monthToId d) = d := by
  unfold firstOf
  rw [yearOf_monthToId hv, monthOf_monthToId hv, ← hd]

theorem pred_firstOf (M : Int) : (firstOf M).pred = monthEndOf (M - 1) := by
  obtain ⟨hv, he, hm⟩ := DateOrder.pred_first (firstOf_valid M) rfl
  rw [← monthEndOf_monthToId hv he, hm, monthToId_firstOf]

theorem idToMonth_true (id : Int) : idToMonth id true = firstOf id := rfl

theorem idToMonth_false (id : Int) : idToMonth id false = monthEndOf id :=
  (pred_firstOf (id + 1)).trans (congrArg monthEndOf (Int.add_sub_cancel id 1))

/-- the date `add_months` builds from a month index and a fraction of that month: day `round(f · days in month)`,
a day 0 falling back to the last day of the month before -/
def dayInMonth (M : Int) (f : Rat) : Date :=
  let day := roundHalfEven (f * (dim (yearOf M) (monthOf M) : Rat))
  if day == 0 then (firstOf M).pred else ⟨yearOf M, monthOf M, day.toNat⟩

/-- the part of `addMonths` after the final lag has been computed: a whole lag counts as the full month before -/
def addMonthsLag (finalLag : Rat) : Date :=
  dayInMonth (if finalLag - finalLag.floor == 0 then truncInt finalLag - 1 else truncInt finalLag)
    (if finalLag - finalLag.floor == 0 then 1 else finalLag - finalLag.floor)

theorem addMonths_eq_lag (dt : Date) (delta : Rat) :
    addMonths dt delta = addMonthsLag (devLagMonths ⟨1969, 12, 31⟩ dt + delta) := rfl

theorem initLag_eq (dt : Date) : devLagMonths ⟨1969, 12, 31⟩ dt = (monthToId dt : Rat) + monthFraction dt := by
  rw [devLagMonths_eq, monthFraction_monthEnd (d := ⟨1969, 12, 31⟩) rfl]
  -- `monthToId ⟨1969, 12, 31⟩` evaluates to `-1`
  show (((monthToId dt - (-1) : Int) : Rat)) - 1 + monthFraction dt = _
  rw [Int.sub_neg, Int.cast_add, Int.cast_one, add_sub_cancel_right]

theorem finalLag_int (d : Date) (k : Int) :
    devLagMonths ⟨1969, 12, 31⟩ d + (k : Rat) = ((monthToId d + k : Int) : Rat) + monthFraction d := by
  rw [initLag_eq]; push_cast; ring

theorem finalLag_devLag (p e : Date) :
    devLagMonths ⟨1969, 12, 31⟩ p + devLagMonths p e = ((monthToId e : Int) : Rat) + monthFraction e := by
  rw [initLag_eq, devLagMonths_eq]; push_cast; ring

theorem dayInMonth_of_pos {M : Int} {f : Rat} (h : 1 ≤ roundHalfEven (f * (dim (yearOf M) (monthOf M) : Rat))) :
    dayInMonth M f =
      ⟨yearOf M, monthOf M, (roundHalfEven (f * (dim (yearOf M) (monthOf M) : Rat))).toNat⟩ :=
  if_neg (by simp only [beq_iff_eq]; omega)

theorem dayInMonth_one (M : Int) : dayInMonth M 1 = monthEndOf M := by
  have hd : roundHalfEven (1 * (dim (yearOf M) (monthOf M) : Rat)) = (dim (yearOf M) (monthOf M) : Nat) := by
    rw [one_mul, roundHalfEven_natCast]
  rw [dayInMonth_of_pos (by rw [hd]; exact_mod_cast dim_pos _ _), hd, Int.toNat_natCast]
  rfl

theorem addMonthsLag_add_one (M : Int) : addMonthsLag ((M : Rat) + 1) = monthEndOf M := by
  have hcast : (M : Rat) + 1 = ((M + 1 : Int) : Rat) := by push_cast; rfl
  unfold addMonthsLag
  simp only [hcast, Rat.floor_intCast, sub_self, beq_self_eq_true, if_true, truncInt_intCast, Int.add_sub_cancel]
  exact dayInMonth_one M

/-- fractional final lag `M + f`, `0 < f < 1`: the fraction is `f`; the month index is `int(M + f)`, which is `M` from
1970 on and `M + 1` before (D8) -/
theorem addMonthsLag_add_frac (M : Int) {f : Rat} (h0 : 0 < f) (h1 : f < 1) :
    addMonthsLag ((M : Rat) + f) = dayInMonth (if 0 ≤ M then M else M + 1) f := by
  unfold addMonthsLag
  rw [floor_int_add M f h0.le h1, add_sub_cancel_left, beq_false_of_ne h0.ne', truncInt_add_frac M h0 h1]
  rfl

/-- D8: before 1970 a day that is not the last of its month lands in month `M + 1`. `M'` is a variable so that a caller
fixes the branch by `(if_pos _).symm` / `(if_neg _).symm` before rewriting -/
theorem addMonthsLag_scaled (M : Int) {d n : Nat} (h1 : 1 ≤ d) (h2 : d ≤ n) (hn : n ≤ 31) {M' : Int}
    (hM' : M' = if 0 ≤ M ∨ d = n then M else M + 1) :
    addMonthsLag ((M : Rat) + (d : Rat) / (n : Rat)) = ⟨yearOf M', monthOf M',
      (roundHalfEven ((d : Rat) / (n : Rat) * (dim (yearOf M') (monthOf M') : Rat))).toNat⟩ := by
  have hn0 : (0 : Rat) < n := by exact_mod_cast (by omega : 0 < n)
  rw [← dayInMonth_of_pos (roundHalfEven_scaled h1 h2 hn (dim_bounds _ _).1).1, hM']
  rcases Nat.lt_or_eq_of_le h2 with hlt | rfl
  · rw [addMonthsLag_add_frac M (div_pos (by exact_mod_cast h1) hn0) ((div_lt_one hn0).mpr (by exact_mod_cast hlt))]
    simp only [hlt.ne, or_false]
  · rw [div_self hn0.ne', addMonthsLag_add_one, dayInMonth_one, if_pos (Or.inr rfl)]

/-- the inverse law for every target date from 1970 on and every month-end target (no assumption on the start date) -/
theorem addMonths_devLag_eq (p e : Date) (he : e.valid = true) (h : 1970 ≤ e.y ∨ e.isMonthEnd = true) :
    addMonths p (devLagMonths p e) = e := by
  obtain ⟨h1, h2, h3, h4⟩ := (valid_iff e).mp he
  have hM : 0 ≤ monthToId e ∨ e.d = dim e.y e.m := h.imp (monthToId_nonneg_iff he).mpr (isMonthEnd_iff e).mp
  have hn : ((dim e.y e.m : Nat) : Rat) ≠ 0 := by exact_mod_cast (dim_pos _ _).ne'
  rw [addMonths_eq_lag, finalLag_devLag, monthFraction, addMonthsLag_scaled _ h3 h4 (dim_bounds _ _).2 (if_pos hM).symm,
    yearOf_monthToId he, monthOf_monthToId he, div_mul_cancel₀ _ hn, roundHalfEven_natCast, Int.toNat_natCast]

/-- … and fails for every target before 1970 that is not a month end -/
theorem addMonths_devLag_pre1970_ne (p e : Date) (he : e.valid = true) (h70 : e.y < 1970)
    (hme : e.isMonthEnd = false) : addMonths p (devLagMonths p e) ≠ e := by
  obtain ⟨h1, h2, h3, h4⟩ := (valid_iff e).mp he
  have hne : e.d ≠ dim e.y e.m := mt (isMonthEnd_iff e).mpr (Bool.eq_false_iff.mp hme)
  have hM : ¬ 0 ≤ monthToId e := fun h => Int.not_le.mpr h70 ((monthToId_nonneg_iff he).mp h)
  rw [addMonths_eq_lag, finalLag_devLag, monthFraction,
    addMonthsLag_scaled _ h3 h4 (dim_bounds _ _).2 (if_neg (not_or.mpr ⟨hM, hne⟩)).symm]
  intro h
  have := congrArg monthToId h
  rw [monthToId_mk] at this
  omega

/-- the exact extent of D8 -/
theorem addMonths_devLag_eq_iff (p e : Date) (he : e.valid = true) :
    addMonths p (devLagMonths p e) = e ↔ (1970 ≤ e.y ∨ e.isMonthEnd = true) := by
  refine ⟨fun h => ?_, addMonths_devLag_eq p e he⟩
  by_cases h70 : 1970 ≤ e.y
  · exact Or.inl h70
  · right
    cases hme : e.isMonthEnd
    · exact absurd h (addMonths_devLag_pre1970_ne p e he (by omega) hme)
    · rfl

theorem addMonths_zero_iff (d : Date) (hv : d.valid = true) : addMonths d 0 = d ↔ (1970 ≤ d.y ∨ d.isMonthEnd = true) := by
  have := addMonths_devLag_eq_iff d d hv
  rwa [devLagMonths_self] at this

theorem addMonths_int_scaled (d : Date) (k : Int) (h1 : 1 ≤ d.d) (h2 : d.d ≤ dim d.y d.m) {M' : Int}
    (hM' : M' = if 0 ≤ monthToId d + k ∨ d.d = dim d.y d.m then monthToId d + k else monthToId d + k + 1) :
    addMonths d (k : Rat) = ⟨yearOf M', monthOf M',
      (roundHalfEven ((d.d : Rat) / (dim d.y d.m : Rat) * (dim (yearOf M') (monthOf M') : Rat))).toNat⟩ := by
  rw [addMonths_eq_lag, finalLag_int, monthFraction, addMonthsLag_scaled _ h1 h2 (dim_bounds _ _).2 hM']

theorem addMonths_int_day_form (d : Date) (k : Int) (hv : d.valid = true) (h : 0 ≤ monthToId d + k) :
    addMonths d (k : Rat) = ⟨yearOf (monthToId d + k), monthOf (monthToId d + k),
      (roundHalfEven ((d.d : Rat) / (dim d.y d.m : Rat)
        * (dim (yearOf (monthToId d + k)) (monthOf (monthToId d + k)) : Rat))).toNat⟩ :=
  addMonths_int_scaled d k ((valid_iff d).mp hv).2.2.1 ((valid_iff d).mp hv).2.2.2 (if_pos (Or.inl h)).symm

theorem addMonths_int_month (d : Date) (k : Int) (hv : d.valid = true) (h : 0 ≤ monthToId d + k) :
    (addMonths d (k : Rat)).valid = true ∧ monthToId (addMonths d (k : Rat)) = monthToId d + k := by
  obtain ⟨-, -, h3, h4⟩ := (valid_iff d).mp hv
  obtain ⟨r1, r2⟩ := roundHalfEven_scaled h3 h4 (dim_bounds _ _).2
    (dim_bounds (yearOf (monthToId d + k)) (monthOf (monthToId d + k))).1
  rw [addMonths_int_day_form d k hv h]
  exact ⟨valid_monthDay _ (by omega) (by omega), monthToId_mk _ _⟩

theorem addMonths_monthEnd_all (d : Date) (k : Int) (he : d.isMonthEnd = true) :
    addMonths d (k : Rat) = monthEndOf (monthToId d + k) := by
  rw [addMonths_eq_lag, finalLag_int, monthFraction_monthEnd he, addMonthsLag_add_one]

theorem resolutionDelta_month (d : Date) (q : Int) (neg : Bool) :
    resolutionDelta d q .month neg = addMonths d (((if neg then -q else q) : Int) : Rat) := by
  cases neg <;> rfl

theorem resolutionDelta_day (d : Date) (q : Int) (neg : Bool) :
    resolutionDelta d q .day neg = d.addDays (if neg then -q else q) := by
  cases neg <;> rfl

theorem daysBeforeMonth_succ (y : Int) (m : Nat) (h : 1 ≤ m) :
    daysBeforeMonth y (m + 1) = daysBeforeMonth y m + dim y m := by
  unfold daysBeforeMonth
  obtain ⟨n, rfl⟩ : ∃ n, m = n + 1 := ⟨m - 1, by omega⟩
  simp only [Nat.add_sub_cancel, List.range_succ, List.foldl_append, List.foldl_cons, List.foldl_nil]

theorem daysBeforeMonth_mono (y : Int) {m m' : Nat} (h1 : 1 ≤ m) (h : m ≤ m') :
    daysBeforeMonth y m ≤ daysBeforeMonth y m' := by
  induction m', h using Nat.le_induction with
  | base => exact Nat.le_refl _
  | succ n hn ih =>
    rw [daysBeforeMonth_succ y n (by omega)]
    omega

theorem daysBeforeMonth_one (y : Int) : daysBeforeMonth y 1 = 0 := by
  simp [daysBeforeMonth]

def yearLen (y : Int) : Int := if isLeap y then 366 else 365

theorem daysBeforeMonth_thirteen (y : Int) : (daysBeforeMonth y 13 : Int) = yearLen y := by
  simp only [daysBeforeMonth, List.range_succ, List.range_zero, List.nil_append, List.cons_append, List.foldl_cons,
    List.foldl_nil, dim, yearLen]
  split <;> rfl

theorem isLeap_iff (y : Int) : isLeap y = true ↔ (y % 4 = 0 ∧ y % 100 ≠ 0) ∨ y % 400 = 0 := by
  simp [isLeap]

theorem daysBeforeYear_succ (y : Int) : daysBeforeYear (y + 1) = daysBeforeYear y + yearLen y := by
  unfold daysBeforeYear yearLen
  simp only [Int.add_sub_cancel, isLeap_iff]
  split <;> omega

theorem daysBeforeYear_mono {y y' : Int} (h : y ≤ y') : daysBeforeYear y ≤ daysBeforeYear y' := by
  induction y', h using Int.leInduction with
  | base => exact Int.le_refl _
  | succ n _ ih => rw [daysBeforeYear_succ]; unfold yearLen; split <;> omega

theorem ordinal_succ {d : Date} (hv : d.valid = true) : d.succ.ordinal = d.ordinal + 1 := by
  obtain ⟨h1, h2, h3, h4⟩ := (valid_iff d).mp hv
  unfold Date.succ
  split
  · simp only [Date.ordinal]; omega
  · split
    · have hd : d.d = dim d.y d.m := by omega
      simp only [Date.ordinal, daysBeforeMonth_succ d.y d.m h1]
      omega
    · have hm : d.m = 12 := by omega
      have hd : d.d = dim d.y 12 := by rw [← hm]; omega
      have h13 := daysBeforeMonth_thirteen d.y
      rw [daysBeforeMonth_succ d.y 12 (by omega)] at h13
      simp only [Date.ordinal, daysBeforeYear_succ, daysBeforeMonth_one, hm, hd]
      omega

theorem iterate_succ_valid {d : Date} (hv : d.valid = true) (n : Nat) : (Date.succ^[n] d).valid = true := by
  induction n generalizing d with
  | zero => exact hv
  | succ n ih => exact ih (succ_valid hv)

theorem ordinal_iterate_succ {d : Date} (hv : d.valid = true) (n : Nat) :
    (Date.succ^[n] d).ordinal = d.ordinal + n := by
  induction n generalizing d with
  | zero => simp
  | succ n ih =>
    rw [Function.iterate_succ_apply, ih (succ_valid hv), ordinal_succ hv]
    push_cast; omega

theorem daysBeforeYear_bounds (y : Int) (h : 1 ≤ y) :
    365 * (y - 1) ≤ daysBeforeYear y ∧ daysBeforeYear y ≤ 366 * (y - 1) := by
  unfold daysBeforeYear; simp only; omega

theorem findYear_spec (n : Int) : ∀ (fuel : Nat) (y : Int), daysBeforeYear y < n →
    n ≤ daysBeforeYear (y + fuel + 1) →
    daysBeforeYear (Date.ofOrdinal.findYear n fuel y) < n ∧
      n ≤ daysBeforeYear (Date.ofOrdinal.findYear n fuel y + 1) := by
  intro fuel
  induction fuel with
  | zero =>
    intro y h1 h2
    have e : y + ((0 : Nat) : Int) + 1 = y + 1 := by omega
    rw [e] at h2
    simpa [Date.ofOrdinal.findYear] using ⟨h1, h2⟩
  | succ f ih =>
    intro y h1 h2
    unfold Date.ofOrdinal.findYear
    split
    · rename_i hlt
      apply ih (y + 1) hlt
      have : y + 1 + (f : Int) + 1 = y + ((f + 1 : Nat) : Int) + 1 := by push_cast; omega
      rw [this]; exact h2
    · rename_i hge
      exact ⟨h1, by omega⟩

theorem findMonth_spec (y : Int) : ∀ (fuel m : Nat) (rest : Int), 1 ≤ m → m + fuel = 13 → 1 ≤ rest →
    (daysBeforeMonth y m : Int) + rest ≤ daysBeforeMonth y 13 →
    let r := Date.ofOrdinal.findMonth y fuel m rest
    1 ≤ r.1 ∧ r.1 ≤ 12 ∧ 1 ≤ r.2 ∧ r.2 ≤ dim y r.1 ∧
      (daysBeforeMonth y r.1 : Int) + r.2 = daysBeforeMonth y m + rest := by
  intro fuel
  induction fuel with
  | zero =>
    intro m rest h1 h2 h3 h4
    have : m = 13 := by omega
    subst this
    omega
  | succ f ih =>
    intro m rest h1 h2 h3 h4
    unfold Date.ofOrdinal.findMonth
    have hs := daysBeforeMonth_succ y m h1
    split
    · rename_i hgt
      have := ih (m + 1) (rest - dim y m) (by omega) (by omega) (by omega) (by rw [hs]; push_cast; omega)
      simp only at this ⊢
      rw [hs] at this
      push_cast at this
      omega
    · rename_i hle
      simp only
      refine ⟨h1, by omega, h3, by omega, ?_⟩
      trivial

/-- `3652059` is `date.max.toordinal()` (9999-12-31), the last ordinal Python accepts -/
theorem ofOrdinal_spec (n : Int) (h1 : 1 ≤ n) (h2 : n ≤ 3652059) :
    (Date.ofOrdinal n).valid = true ∧ (Date.ofOrdinal n).ordinal = n := by
  have hy0 : 1 ≤ (n - 1) / 366 + 1 := by omega
  -- the search starts at a year that begins before day `n`, and 401 years later day `n` is behind
  have hlo := (daysBeforeYear_bounds ((n - 1) / 366 + 1) hy0).2
  have hup := (daysBeforeYear_bounds ((n - 1) / 366 + 1 + ((400 : Nat) : Int) + 1) (by omega)).1
  obtain ⟨hA, hB⟩ := findYear_spec n 400 ((n - 1) / 366 + 1) (by omega) (by omega)
  unfold Date.ofOrdinal
  simp only
  generalize Date.ofOrdinal.findYear n 400 ((n - 1) / 366 + 1) = y at hA hB
  rw [daysBeforeYear_succ] at hB
  have hm := findMonth_spec y 12 1 (n - daysBeforeYear y) (by omega) (by omega) (by omega)
    (by rw [daysBeforeMonth_one, daysBeforeMonth_thirteen]; omega)
  simp only at hm
  rw [daysBeforeMonth_one] at hm
  generalize Date.ofOrdinal.findMonth y 12 1 (n - daysBeforeYear y) = r at hm
  obtain ⟨m, d⟩ := r
  simp only at hm ⊢
  obtain ⟨a, b, c, e, f⟩ := hm
  constructor
  · rw [valid_iff]; simp only; omega
  · simp only [Date.ordinal]; omega

theorem addDays_ordinal (d : Date) (n : Int) (h1 : 1 ≤ d.ordinal + n) (h2 : d.ordinal + n ≤ 3652059) :
    (d.addDays n).valid = true ∧ (d.addDays n).ordinal = d.ordinal + n :=
  ofOrdinal_spec _ h1 h2

theorem ordinal_lt_of_lt {a b : Date} (ha : a.valid = true) (hb : b.valid = true) (h : a < b) :
    a.ordinal < b.ordinal := by
  rw [valid_iff] at ha hb
  rw [DateOrder.lt_iff] at h
  unfold Date.ordinal
  rcases h with h | ⟨hy, h | ⟨hm, hd⟩⟩
  · -- earlier year
    have h1 : (daysBeforeMonth a.y a.m : Int) + a.d ≤ daysBeforeMonth a.y 13 := by
      have := daysBeforeMonth_succ a.y a.m ha.1
      have := daysBeforeMonth_mono a.y (m := a.m + 1) (m' := 13) (by omega) (by omega)
      omega
    rw [daysBeforeMonth_thirteen] at h1
    have h2 := daysBeforeYear_succ a.y
    have h3 := daysBeforeYear_mono (y := a.y + 1) (y' := b.y) (by omega)
    omega
  · -- same year, earlier month
    rw [hy]
    have := daysBeforeMonth_succ b.y a.m ha.1
    have := daysBeforeMonth_mono b.y (m := a.m + 1) (m' := b.m) (by omega) (by omega)
    rw [hy] at ha
    omega
  · rw [hy, hm]; omega

theorem ordinal_lt_iff {a b : Date} (ha : a.valid = true) (hb : b.valid = true) : a.ordinal < b.ordinal ↔ a < b := by
  refine ⟨fun h => ?_, ordinal_lt_of_lt ha hb⟩
  rcases DateOrder.lt_trichotomy a b with hl | rfl | hg
  · exact hl
  · omega
  · have := ordinal_lt_of_lt hb ha hg
    omega

theorem ordinal_le_iff {a b : Date} (ha : a.valid = true) (hb : b.valid = true) : a.ordinal ≤ b.ordinal ↔ a ≤ b := by
  rw [DateOrder.le_iff_not_lt, ← ordinal_lt_iff hb ha, Int.not_lt]

theorem ordinal_inj {a b : Date} (ha : a.valid = true) (hb : b.valid = true) : a.ordinal = b.ordinal ↔ a = b :=
  ⟨fun h => DateOrder.le_antisymm ((ordinal_le_iff ha hb).mp (Int.le_of_eq h))
    ((ordinal_le_iff hb ha).mp (Int.le_of_eq h.symm)), fun h => h ▸ rfl⟩

theorem ofOrdinal_ordinal {d : Date} (hv : d.valid = true) (h1 : 1 ≤ d.ordinal) (h2 : d.ordinal ≤ 3652059) :
    Date.ofOrdinal d.ordinal = d :=
  (ordinal_inj (ofOrdinal_spec _ h1 h2).1 hv).mp (ofOrdinal_spec _ h1 h2).2

/-! ### month-aligned dates in the month index

Against an aligned date the order sees only the month `monthToId d` of a valid date. On aligned dates every operation of
`date_utils.py` is one equation in the index (the `cal` lemmas), after which `omega` decides. The users (UnitsDates,
AggregateAnchor) reach them through `simp only [cal]`, so most of them are named nowhere. -/

theorem lt_firstOf_iff {d : Date} (hv : d.valid = true) {N : Int} : d < firstOf N ↔ monthToId d < N := by
  have := ((valid_iff d).mp hv).2.2.1
  rw [lt_iff_monthToId hv (firstOf_valid N), monthToId_firstOf]
  show _ ∨ _ ∧ d.d < 1 ↔ _
  omega

theorem firstOf_le_iff {d : Date} (hv : d.valid = true) {N : Int} : firstOf N ≤ d ↔ N ≤ monthToId d := by
  rw [DateOrder.le_iff_not_lt, lt_firstOf_iff hv, Int.not_lt]

theorem monthEndOf_lt_iff {d : Date} (hv : d.valid = true) {M : Int} : monthEndOf M < d ↔ M < monthToId d := by
  have h4 := ((valid_iff d).mp hv).2.2.2
  rw [lt_iff_monthToId (monthEndOf_valid M) hv, monthToId_monthEndOf]
  -- in its own month no day comes after the last
  refine or_iff_left fun ⟨e, h⟩ => ?_
  rw [← yearOf_monthToId hv, ← monthOf_monthToId hv, ← e] at h4
  exact absurd h (Nat.not_lt.mpr h4)

theorem le_monthEndOf_iff {d : Date} (hv : d.valid = true) {M : Int} : d ≤ monthEndOf M ↔ monthToId d ≤ M := by
  rw [DateOrder.le_iff_not_lt, monthEndOf_lt_iff hv, Int.not_lt]

attribute [cal] monthToId_monthEndOf monthToId_firstOf monthEndOf_isMonthEnd monthEndOf_valid firstOf_valid idToMonth_false
  idToMonth_true pred_firstOf

@[cal] theorem monthEndOf_lt_monthEndOf {M N : Int} : monthEndOf M < monthEndOf N ↔ M < N := by
  rw [monthEndOf_lt_iff (monthEndOf_valid N), monthToId_monthEndOf]

@[cal] theorem monthEndOf_le_monthEndOf {M N : Int} : monthEndOf M ≤ monthEndOf N ↔ M ≤ N := by
  rw [le_monthEndOf_iff (monthEndOf_valid M), monthToId_monthEndOf]

@[cal] theorem monthEndOf_inj {M N : Int} : monthEndOf M = monthEndOf N ↔ M = N :=
  ⟨fun h => by simpa only [monthToId_monthEndOf] using congrArg monthToId h, fun h => h ▸ rfl⟩

@[cal] theorem monthEndOf_lt_firstOf_iff {M N : Int} : monthEndOf M < firstOf N ↔ M < N := by
  rw [monthEndOf_lt_iff (firstOf_valid N), monthToId_firstOf]

@[cal] theorem firstOf_lt_firstOf {M N : Int} : firstOf M < firstOf N ↔ M < N := by
  rw [lt_firstOf_iff (firstOf_valid M), monthToId_firstOf]

@[cal] theorem firstOf_le_firstOf {M N : Int} : firstOf M ≤ firstOf N ↔ M ≤ N := by
  rw [firstOf_le_iff (firstOf_valid N), monthToId_firstOf]

@[cal] theorem firstOf_le_monthEndOf {M N : Int} : firstOf M ≤ monthEndOf N ↔ M ≤ N := by
  rw [le_monthEndOf_iff (firstOf_valid M), monthToId_firstOf]

@[cal] theorem firstOf_inj {M N : Int} : firstOf M = firstOf N ↔ M = N :=
  ⟨fun h => by simpa only [monthToId_firstOf] using congrArg monthToId h, fun h => h ▸ rfl⟩

@[cal] theorem monthEndOf_succ (M : Int) : (monthEndOf M).succ = firstOf (M + 1) := by
  have h := pred_firstOf (M + 1)
  rw [Int.add_sub_cancel] at h
  rw [← h]; exact DateOrder.succ_pred (firstOf_valid (M + 1))

/-- in every year: a month-end start has a whole final lag, so D8's `int()` of a fraction is never taken -/
@[cal] theorem addMonths_monthEndOf (M k : Int) : addMonths (monthEndOf M) (k : Rat) = monthEndOf (M + k) := by
  rw [addMonths_monthEnd_all _ k (monthEndOf_isMonthEnd M), monthToId_monthEndOf]

@[cal] theorem devLagMonths_monthEndOf (M N : Int) :
    devLagMonths (monthEndOf M) (monthEndOf N) = ((N - M : Int) : Rat) := by
  rw [devLagMonths_monthEnds (monthEndOf_isMonthEnd M) (monthEndOf_isMonthEnd N), monthToId_monthEndOf,
    monthToId_monthEndOf]

theorem inv_dim_bounds (y : Int) (m : Nat) :
    (1 : Rat) / 31 ≤ 1 / (dim y m : Rat) ∧ (1 : Rat) / (dim y m : Rat) ≤ 1 / 28 := by
  obtain ⟨h28, h31⟩ := dim_bounds y m
  have a : (28 : Rat) ≤ (dim y m : Rat) := by exact_mod_cast h28
  have b : (dim y m : Rat) ≤ 31 := by exact_mod_cast h31
  exact ⟨one_div_le_one_div_of_le (lt_of_lt_of_le (by norm_num) a) b,
    one_div_le_one_div_of_le (by norm_num) a⟩

/-- two day fractions differ by at most `1/28 − 1/31 < 1/2` -/
theorem round_sub_add_dayFractions (k : Int) {a b : Rat} (ha1 : 1/31 ≤ a) (ha2 : a ≤ 1/28) (hb1 : 1/31 ≤ b)
    (hb2 : b ≤ 1/28) : roundHalfEven ((k : Rat) - a + b) = k := by
  apply roundHalfEven_eq_of_near
  · have : (k : Rat) - 1/28 + 1/31 ≤ k - a + b := add_le_add (sub_le_sub_left ha2 _) hb1
    exact lt_of_lt_of_le (by rw [sub_add, sub_lt_sub_iff_left]; norm_num) this
  · have : (k : Rat) - a + b ≤ k - 1/31 + 1/28 := add_le_add (sub_le_sub_left ha1 _) hb2
    exact lt_of_le_of_lt this (by rw [sub_add, sub_eq_add_neg, add_lt_add_iff_left]; norm_num)

/-- `28/31 ≤ (1 / n) · n' ≤ 31/28` rounds to 1 -/
theorem roundHalfEven_first (y y' : Int) (m m' : Nat) :
    roundHalfEven (((1 : Nat) : Rat) / (dim y m : Rat) * (dim y' m' : Rat)) = 1 := by
  obtain ⟨a1, a2⟩ := inv_dim_bounds y m
  obtain ⟨b1, b2⟩ := dim_bounds y' m'
  have c1 : (28 : Rat) ≤ (dim y' m' : Rat) := by exact_mod_cast b1
  have c2 : (dim y' m' : Rat) ≤ 31 := by exact_mod_cast b2
  rw [Nat.cast_one]
  exact roundHalfEven_eq_of_near 1 _
    (lt_of_lt_of_le (by norm_num) (mul_le_mul a1 c1 (by norm_num) (le_trans (by norm_num) a1)))
    (lt_of_le_of_lt (mul_le_mul a2 c2 (le_trans (by norm_num) c1) (by norm_num)) (by norm_num))

theorem round_devLag_firsts (s e : Date) (hs : s.d = 1) (he : e.d = 1) :
    roundHalfEven (devLagMonths s e) = monthToId e - monthToId s := by
  obtain ⟨s1, s2⟩ := inv_dim_bounds s.y s.m
  obtain ⟨e1, e2⟩ := inv_dim_bounds e.y e.m
  rw [devLagMonths_eq]
  unfold monthFraction
  rw [hs, he, Nat.cast_one]
  exact round_sub_add_dayFractions _ s1 s2 e1 e2

theorem addMonths_natCast (d : Date) (n : Nat) : addMonths d ((n : Nat) : Rat) = addMonths d ((n : Int) : Rat) := by
  rw [Int.cast_natCast]

/-- `h`: the result is from 1970 on (D8) -/
theorem addMonths_firstOf (d : Date) (k : Int) (hd : d.d = 1)
    (h : 0 ≤ monthToId d + k) : addMonths d (k : Rat) = firstOf (monthToId d + k) := by
  have h28 := (dim_bounds d.y d.m).1
  rw [addMonths_int_scaled d k (by omega) (by omega) (if_pos (Or.inl h)).symm, hd, roundHalfEven_first]
  rfl

theorem periodEnd_of_first (d : Date) (hd : d.d = 1) (res : Int)
    (h : 0 ≤ monthToId d + res) :
    (addMonths d (res : Rat)).pred = monthEndOf (monthToId d + res - 1) := by
  rw [addMonths_firstOf d res hd h, pred_firstOf]

theorem devLagMonths_lt_of_lt {pe e1 e2 : Date} (v1 : e1.valid = true) (v2 : e2.valid = true) (h : e1 < e2) :
    devLagMonths pe e1 < devLagMonths pe e2 := by
  obtain ⟨a1, b1⟩ := monthFraction_range v1
  obtain ⟨a2, b2⟩ := monthFraction_range v2
  rw [devLagMonths_eq, devLagMonths_eq]
  rcases (lt_iff_monthToId v1 v2).mp h with hlt | ⟨he, hd⟩
  · -- an earlier month: the whole months differ by at least one, the day fractions lie in (0, 1]
    have hc := (Int.cast_le (R := Rat)).mpr
      (show monthToId e1 - monthToId pe + 1 ≤ monthToId e2 - monthToId pe by omega)
    rw [Int.cast_add, Int.cast_one] at hc
    linarith only [hc, a2, b1]
  · have hf : monthFraction e1 < monthFraction e2 := by
      unfold monthFraction
      rw [← yearOf_monthToId v1, ← monthOf_monthToId v1, he, yearOf_monthToId v2, monthOf_monthToId v2]
      exact div_lt_div_of_pos_right (Nat.cast_lt.mpr hd) (Nat.cast_pos.mpr (dim_pos _ _))
    rw [he]
    exact (add_lt_add_iff_left _).mpr hf

theorem devLagMonths_lt_iff {pe e1 e2 : Date} (v1 : e1.valid = true) (v2 : e2.valid = true) :
    devLagMonths pe e1 < devLagMonths pe e2 ↔ e1 < e2 := by
  refine ⟨fun h => ?_, devLagMonths_lt_of_lt v1 v2⟩
  rcases DateOrder.lt_trichotomy e1 e2 with hl | rfl | hg
  · exact hl
  · exact absurd h (lt_irrefl _)
  · exact absurd h (lt_asymm (devLagMonths_lt_of_lt v2 v1 hg))

theorem ediv_window {x o q n : Int} (hq : 1 ≤ q) (h1 : o + n * q < x) (h2 : x ≤ o + (n + 1) * q) :
    (x - o - 1) / q = n := by
  have hq0 : 0 < q := by omega
  have a1 : n ≤ (x - o - 1) / q := (Int.le_ediv_iff_mul_le hq0).mpr (by linarith)
  have a2 : (x - o - 1) / q < n + 1 := (Int.ediv_lt_iff_lt_mul hq0).mpr (by linarith)
  omega

theorem eq_of_monthToId_firsts {a b : Date} (av : a.valid = true) (a1 : a.d = 1) (bv : b.valid = true) (b1 : b.d = 1)
    (h : monthToId a = monthToId b) : a = b := by
  rw [← firstOf_monthToId av a1, ← firstOf_monthToId bv b1, h]

theorem eq_of_monthToId_monthEnds {a b : Date} (av : a.valid = true) (ae : a.isMonthEnd = true) (bv : b.valid = true)
    (be : b.isMonthEnd = true) (h : monthToId a = monthToId b) : a = b := by
  rw [← monthEndOf_monthToId av ae, ← monthEndOf_monthToId bv be, h]

end Bermuda
