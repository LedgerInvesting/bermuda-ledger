/-
C14, Matrix form: the index INFERRED by `MatrixIndex.from_triangle` (`MatrixIndex.ofTriangle`: origins
are minima, resolutions are the gcd of the differences of the sorted distinct period boundaries and
of the sorted distinct evaluation months) puts a month-aligned triangle with periods of one length
`e`, starts a multiple of `e` apart, on its grid (`matrixIndex_onGrid`): the gcd of the boundary
differences IS `e` (`periodResolution_contiguous`), both resolutions are positive, the origins are
attained minima. The development lags must be congruent modulo `min(exp, dev)`; that holds by itself
when one resolution divides the other (`lags_congruent_of_dvd`).
Totality: the inference succeeds on every non-empty triangle with contiguous periods and at least two evaluation
months (`ofTriangle_ok`; with a single evaluation month the library itself refuses, "Must supply eval_resolution").
-/
import Bermuda.Lemmas.FrameMatrix
import Bermuda.Lemmas.AccessorsHelpers
namespace Bermuda.Frame
open Bermuda Bermuda.Spec.C14 Std

theorem mem_sortInts {l : List Int} {x : Int} : x ∈ sortInts l ↔ x ∈ l := List.mem_mergeSort

theorem multiGcd_dvd : ∀ {ds : List Int} {r : Int}, multiGcd ds = some r → ∀ d ∈ ds, r ∣ d
  | x :: rest, _, rfl, d, hd => by
    rcases List.mem_cons.mp hd with rfl | hd
    · exact (gcdFold_dvd rest _).1
    · exact (gcdFold_dvd rest x).2 d hd

theorem dvd_multiGcd : ∀ {ds : List Int} {r g : Int}, multiGcd ds = some r → (∀ d ∈ ds, g ∣ d) → g ∣ r
  | x :: rest, _, _, rfl, hg =>
    dvd_gcdFold (hg x List.mem_cons_self) (fun y hy => hg y (List.mem_cons_of_mem _ hy))

theorem multiGcd_pos : ∀ {ds : List Int} {r : Int}, multiGcd ds = some r → (∀ d ∈ ds, 0 < d) → 0 < r
  | x :: rest, _, rfl, hp => gcdFold_pos rest (hp x List.mem_cons_self)

theorem multiGcd_diffs_some {l : List Int} (h : 2 ≤ l.length) : ∃ r, multiGcd (diffs l) = some r := by
  match l, h with
  | a :: b :: rest, _ =>
    exact ⟨_, rfl⟩

theorem minInt_cons (a : Int) (l : List Int) : minInt (a :: l) = some (l.foldl (fun y x => min x y) a) := by
  unfold minInt
  rw [List.foldl_cons]
  exact foldl_some (fun _ _ => rfl) l a

theorem minInt_spec : ∀ {l : List Int} {m : Int}, minInt l = some m → m ∈ l ∧ ∀ x ∈ l, m ≤ x
  | a :: l, m, h => by
    rw [minInt_cons, Option.some.injEq] at h
    subst h
    have hstep : (fun y x : Int => min x y) = fun m x => if x < m then x else m := by
      funext y x
      rw [Int.min_def]
      split <;> split <;> omega
    rw [hstep]
    obtain ⟨hm, hb⟩ := foldl_best StrictWeak.intLt l a
    exact ⟨hm, fun x hx => Int.not_lt.mp (hb x hx)⟩

theorem minInt_some {l : List Int} (h : l ≠ []) : ∃ m, minInt l = some m := by
  cases l with
  | nil => exact absurd rfl h
  | cons a l => exact ⟨_, minInt_cons a l⟩

/-- the sorted distinct period boundaries (starts, and the months after the ends) -/
def boundaries (t : List Cell) : List Int :=
  sortInts (((periodsOf t).map fun p => monthToId p.1) ++ ((periodsOf t).map fun p => monthToId p.2 + 1)).eraseDups

theorem periodResolution_eq (t : List Cell) : periodResolution t = multiGcd (diffs (boundaries t)) := rfl

theorem mem_boundaries {t : List Cell} {x : Int} :
    x ∈ boundaries t ↔ ∃ c ∈ t, x = monthToId c.ps ∨ x = monthToId c.pe + 1 := by
  unfold boundaries
  rw [mem_sortInts, List.mem_eraseDups, List.mem_append, List.mem_map, List.mem_map]
  constructor
  · rintro (⟨p, hp, rfl⟩ | ⟨p, hp, rfl⟩) <;> obtain ⟨c, hc, rfl⟩ := mem_periodsOf.mp hp
    · exact ⟨c, hc, Or.inl rfl⟩
    · exact ⟨c, hc, Or.inr rfl⟩
  · rintro ⟨c, hc, rfl | rfl⟩
    · exact Or.inl ⟨(c.ps, c.pe), mem_periodsOf.mpr ⟨c, hc, rfl⟩, rfl⟩
    · exact Or.inr ⟨(c.ps, c.pe), mem_periodsOf.mpr ⟨c, hc, rfl⟩, rfl⟩

/-- periods of `e` months whose starts are a multiple of `e` months apart (contiguous periods, or
with gaps of whole periods) -/
structure Contiguous (t : List Cell) (e : Int) : Prop where
  pos : 1 ≤ e
  len : ∀ c ∈ t, monthToId c.pe = monthToId c.ps + e - 1
  step : ∀ a ∈ t, ∀ b ∈ t, e ∣ monthToId b.ps - monthToId a.ps

theorem boundaries_congr {t : List Cell} {e : Int} (hc : Contiguous t e) :
    ∀ x ∈ boundaries t, ∀ y ∈ boundaries t, e ∣ y - x := by
  have key : ∀ x ∈ boundaries t, ∃ a ∈ t, ∃ n : Int, x = monthToId a.ps + n * e := by
    intro x hx
    obtain ⟨a, ha, rfl | rfl⟩ := mem_boundaries.mp hx
    · exact ⟨a, ha, 0, by omega⟩
    · exact ⟨a, ha, 1, by have := hc.len a ha; omega⟩
  intro x hx y hy
  obtain ⟨a, ha, n, rfl⟩ := key x hx
  obtain ⟨b, hb, m, rfl⟩ := key y hy
  obtain ⟨q, hq⟩ := hc.step a ha b hb
  exact ⟨q + m - n, by rw [Int.mul_sub, Int.mul_add, ← hq]; simp only [Int.mul_comm e]; omega⟩

/-- the gcd inference finds the period length -/
theorem periodResolution_contiguous {t : List Cell} {e r : Int} (hne : t ≠ []) (hc : Contiguous t e)
    (h : periodResolution t = some r) : r = e := by
  rw [periodResolution_eq] at h
  -- the `C13L` lemmas speak of `Bermuda.diffs` (Model/Accessors.lean), which is `Frame.diffs` by unfolding
  have hpos : 0 < r := multiGcd_pos h (C13L.diffs_pos (pairwise_lt_sortInt (nodup_eraseDups _)))
  have h1 : e ∣ r := dvd_multiGcd h ((C13L.dvd_diffs_iff _ _).mpr (boundaries_congr hc))
  have h2 : r ∣ e := by
    obtain ⟨c, hcm⟩ := List.exists_mem_of_ne_nil _ hne
    have := (C13L.dvd_diffs_iff _ _).mp (multiGcd_dvd h) (monthToId c.ps) (mem_boundaries.mpr ⟨c, hcm, Or.inl rfl⟩)
      (monthToId c.pe + 1) (mem_boundaries.mpr ⟨c, hcm, Or.inr rfl⟩)
    rwa [show monthToId c.pe + 1 - monthToId c.ps = e by have := hc.len c hcm; omega] at this
  have := hc.pos
  exact Int.dvd_antisymm (by omega) (by omega) h2 h1

theorem evalDateResolution_pos {t : List Cell} {r : Int} (h : evalDateResolution t = some r) : 0 < r :=
  multiGcd_pos h (C13L.diffs_pos (pairwise_lt_sortInt (nodup_eraseDups _)))

/-- the inferred evaluation resolution divides the distance of any two evaluation months -/
theorem evalDateResolution_dvd {t : List Cell} {r : Int} (h : evalDateResolution t = some r) :
    ∀ a ∈ t, ∀ b ∈ t, r ∣ monthToId b.ev - monthToId a.ev := by
  have hm : ∀ c ∈ t, monthToId c.ev ∈ sortInts ((t.map fun c => monthToId c.ev).eraseDups) := fun c hc => by
    rw [mem_sortInts, List.mem_eraseDups]; exact List.mem_map_of_mem hc
  exact fun a ha b hb => (C13L.dvd_diffs_iff _ _).mp (multiGcd_dvd h) _ (hm a ha) _ (hm b hb)

theorem nat_multiple {x o s : Int} (hs : 1 ≤ s) (hle : o ≤ x) (hd : s ∣ x - o) :
    ∃ k : Nat, x = o + (k : Int) * s := by
  obtain ⟨q, hq⟩ := hd
  have hq0 : 0 ≤ q := by
    by_contra hneg
    have : s * q ≤ s * (-1) := Int.mul_le_mul_of_nonneg_left (by omega) (by omega)
    omega
  exact ⟨q.toNat, by rw [Int.toNat_of_nonneg hq0, Int.mul_comm]; omega⟩

theorem ofTriangle_eq_ok {t : List Cell} {ix : MatrixIndex} :
    MatrixIndex.ofTriangle t = .ok ix ↔
      ix.slices = Triangle.metadata t ∧ ix.fields = sortStrings (allFields t) ∧
      minInt (t.map fun c => monthToId c.ps) = some ix.expOrigin ∧
      minInt (t.map fun c => truncInt (c.devLag .month)) = some ix.devOrigin ∧
      periodResolution t = some ix.expResolution ∧ evalDateResolution t = some ix.devResolution := by
  unfold MatrixIndex.ofTriangle
  generalize minInt (t.map fun c => monthToId c.ps) = a
  generalize periodResolution t = b
  generalize minInt (t.map fun c => truncInt (c.devLag .month)) = c
  generalize evalDateResolution t = d
  obtain ⟨s, f, eo, dor, er, dr⟩ := ix
  rcases a with _ | a
  · simp
  rcases b with _ | b
  · simp
  rcases c with _ | c
  · simp
  rcases d with _ | d
  · simp
  simp [eq_comm]

theorem ofTriangleWith_eq_ok {t : List Cell} {evalRes : Option Int} {fields : Option (List String)} {ix : MatrixIndex} :
    MatrixIndex.ofTriangleWith t evalRes fields = .ok ix ↔
      ix.slices = Triangle.metadata t ∧ indexFields t fields = .ok ix.fields ∧
      minInt (t.map fun c => monthToId c.ps) = some ix.expOrigin ∧
      minInt (t.map fun c => truncInt (c.devLag .month)) = some ix.devOrigin ∧
      periodResolution t = some ix.expResolution ∧
      indexDevResolution (evalDateResolution t) evalRes = .ok ix.devResolution := by
  unfold MatrixIndex.ofTriangleWith
  generalize minInt (t.map fun c => monthToId c.ps) = a
  generalize periodResolution t = b
  generalize minInt (t.map fun c => truncInt (c.devLag .month)) = c
  generalize indexFields t fields = fs
  generalize indexDevResolution (evalDateResolution t) evalRes = d
  obtain ⟨s, f, eo, dor, er, dr⟩ := ix
  rcases a with _ | a
  · simp
  rcases b with _ | b
  · simp
  rcases c with _ | c
  · simp
  rcases fs with _ | fs
  · simp [Except.bind]
  rcases d with _ | d
  · simp [Except.bind]
  simp [Except.bind, eq_comm]

/-- the default call builds the index `MatrixIndex.ofTriangle` of the plain Matrix form -/
theorem ofTriangleWith_default {t : List Cell} {ix : MatrixIndex} (hix : MatrixIndex.ofTriangle t = .ok ix)
    (hd : ix.devResolution ≠ 0) (hf : ix.fields ≠ []) : MatrixIndex.ofTriangleWith t none none = .ok ix := by
  obtain ⟨hsl, hfl, h1, h3, h2, h4⟩ := ofTriangle_eq_ok.mp hix
  refine ofTriangleWith_eq_ok.mpr ⟨hsl, ?_, h1, h3, h2, ?_⟩
  · unfold indexFields
    rw [← hfl]
    cases hfs : ix.fields with
    | nil => exact absurd hfs hf
    | cons a l => rfl
  · rw [h4]
    simp [indexDevResolution, Option.filter, hd]

/-- the part of `GridCell` that does not mention the index -/
structure MonthCell (c : Cell) : Prop where
  notInc : c.kind ≠ .incremental
  prev : c.prev = none
  dates : c.datesOk = true
  canon : c.md.Canon
  psv : c.ps.valid = true
  ps1 : c.ps.d = 1
  pev : c.pe.valid = true
  pee : c.pe.isMonthEnd = true
  evv : c.ev.valid = true
  eve : c.ev.isMonthEnd = true
  vals : ∀ kv ∈ c.values, (scalarNum? kv.2).isSome = true
  nodup : (Dict.keys c.values).Nodup
  vne : c.values ≠ []

/-- the index `MatrixIndex.from_triangle` infers puts a triangle with contiguous periods and congruent lags on
its grid; `hk` is discharged by `lags_congruent_of_dvd` when one inferred resolution divides the other -/
theorem matrixIndex_onGrid {t : List Cell} {ix : MatrixIndex} {e : Int} (hne : t ≠ [])
    (hsorted : t.Pairwise (fun a b => Cell.cmp a b = .lt)) (hkinds : kindsConsistent t = true)
    (hcell : ∀ c ∈ t, MonthCell c) (hc : Contiguous t e)
    (hix : MatrixIndex.ofTriangle t = .ok ix)
    (hk : ∀ a ∈ t, ∀ b ∈ t, devSpacing ix ∣ lagOf b - lagOf a) : OnGrid t ix := by
  obtain ⟨hsl, hfl, h1, h3, h2, h4⟩ := ofTriangle_eq_ok.mp hix
  have her : ix.expResolution = e := periodResolution_contiguous hne hc h2
  have hdr := evalDateResolution_pos h4
  have hpos := hc.pos
  have hsp : 1 ≤ devSpacing ix := by unfold devSpacing; omega
  obtain ⟨heo_mem, heo_le⟩ := minInt_spec h1
  obtain ⟨hdo_mem, hdo_le⟩ := minInt_spec h3
  obtain ⟨c0, hc0, hc0e⟩ := List.mem_map.mp heo_mem
  obtain ⟨c1, hc1, hc1e⟩ := List.mem_map.mp hdo_mem
  rw [truncLag_of_monthEnds (hcell c1 hc1).pee (hcell c1 hc1).eve] at hc1e
  refine { ne := hne, sorted := hsorted, kinds := hkinds, slices := hsl, fields := hfl,
           e1 := by omega, s1 := hsp, cell := fun c hcm => ?_ }
  have m := hcell c hcm
  -- `MonthCell` repeats `GridCell`'s field names
  refine { m with j := ?_, pe := by rw [her]; exact hc.len c hcm, k := ?_ }
  · rw [her]
    refine nat_multiple hpos (heo_le _ (List.mem_map_of_mem hcm)) ?_
    rw [← hc0e]; exact hc.step c0 hc0 c hcm
  · refine nat_multiple hsp ?_ ?_
    · rw [← truncLag_of_monthEnds m.pee m.eve]
      -- (`List.mem_map_of_mem` here sends the unifier into `truncInt`)
      exact hdo_le _ (List.mem_map.mpr ⟨c, hcm, rfl⟩)
    · rw [← hc1e]; exact hk c1 hc1 c hcm

/-- the lag condition holds by itself when one of the two inferred resolutions divides the other
(the usual case: yearly periods seen quarterly, quarterly periods seen quarterly, …) -/
theorem lags_congruent_of_dvd {t : List Cell} {ix : MatrixIndex} {e : Int} (hne : t ≠ [])
    (hc : Contiguous t e) (hix : MatrixIndex.ofTriangle t = .ok ix)
    (hd : ix.devResolution ∣ ix.expResolution ∨ ix.expResolution ∣ ix.devResolution) :
    ∀ a ∈ t, ∀ b ∈ t, devSpacing ix ∣ lagOf b - lagOf a := by
  obtain ⟨-, -, -, -, h2, h4⟩ := ofTriangle_eq_ok.mp hix
  have her : ix.expResolution = e := periodResolution_contiguous hne hc h2
  have hdr := evalDateResolution_pos h4
  have hpos := hc.pos
  intro a ha b hb
  have hev := evalDateResolution_dvd h4 a ha b hb
  have hps := hc.step a ha b hb
  rw [show lagOf b - lagOf a = (monthToId b.ev - monthToId a.ev) - (monthToId b.ps - monthToId a.ps) by
    have := hc.len a ha; have := hc.len b hb; unfold lagOf; omega]
  unfold devSpacing
  rw [her] at hd ⊢
  rcases hd with hd | hd
  · rw [Int.min_eq_right (Int.le_of_dvd (by omega) hd)]
    exact Int.dvd_sub hev (Int.dvd_trans hd hps)
  · rw [Int.min_eq_left (Int.le_of_dvd hdr hd)]
    exact Int.dvd_sub (Int.dvd_trans hd hev) hps

theorem periodResolution_some {t : List Cell} {e : Int} (hne : t ≠ []) (hc : Contiguous t e) :
    periodResolution t = some e := by
  obtain ⟨c, hcm⟩ := List.exists_mem_of_ne_nil _ hne
  have h1 : monthToId c.ps ∈ boundaries t := mem_boundaries.mpr ⟨c, hcm, Or.inl rfl⟩
  have h2 : monthToId c.pe + 1 ∈ boundaries t := mem_boundaries.mpr ⟨c, hcm, Or.inr rfl⟩
  have hl := hc.len c hcm
  have hp := hc.pos
  obtain ⟨r, hr⟩ := multiGcd_diffs_some (C13L.two_le_length_of_mem_ne h1 h2 (by omega))
  rw [periodResolution_eq, hr]
  rw [← periodResolution_eq] at hr
  rw [periodResolution_contiguous hne hc hr]

theorem evalDateResolution_some {t : List Cell} {a b : Cell} (ha : a ∈ t) (hb : b ∈ t)
    (hne : monthToId a.ev ≠ monthToId b.ev) : ∃ d, evalDateResolution t = some d := by
  unfold evalDateResolution
  apply multiGcd_diffs_some
  refine C13L.two_le_length_of_mem_ne (a := monthToId a.ev) (b := monthToId b.ev) ?_ ?_ hne
  · rw [mem_sortInts, List.mem_eraseDups]; exact List.mem_map_of_mem ha
  · rw [mem_sortInts, List.mem_eraseDups]; exact List.mem_map_of_mem hb

/-- **totality of the index inference** on the stated domain -/
theorem ofTriangle_ok {t : List Cell} {e : Int} (hne : t ≠ []) (hc : Contiguous t e)
    (hev : ∃ a ∈ t, ∃ b ∈ t, monthToId a.ev ≠ monthToId b.ev) :
    ∃ ix d, MatrixIndex.ofTriangle t = .ok ix ∧ evalDateResolution t = some d ∧
      ix.expResolution = e ∧ ix.devResolution = d := by
  obtain ⟨a, ha, b, hb, hab⟩ := hev
  obtain ⟨d, hd⟩ := evalDateResolution_some ha hb hab
  obtain ⟨eo, heo⟩ := minInt_some (l := t.map fun c => monthToId c.ps) (by simpa using hne)
  obtain ⟨dor, hdo⟩ := minInt_some (l := t.map fun c => truncInt (c.devLag .month)) (by simpa using hne)
  exact ⟨{ slices := Triangle.metadata t, fields := sortStrings (allFields t), expOrigin := eo, devOrigin := dor,
           expResolution := e, devResolution := d }, d,
    ofTriangle_eq_ok.mpr ⟨rfl, rfl, heo, hdo, periodResolution_some hne hc, hd⟩, hd, rfl, rfl⟩

theorem isMonthly_of_monthCell {t : List Cell} (h : ∀ c ∈ t, MonthCell c) : isMonthly t = true :=
  isMonthly_of fun c hc => ⟨(h c hc).ps1, (h c hc).pee, (h c hc).eve⟩

/-- `is_semi_regular()` holds on the same domain: periods of one length `e` whose starts are a multiple of `e` apart
are disjoint, and the month lag from the eve of a start to the end is `e` for each -/
theorem isSemiRegular_of_contiguous {t : List Cell} {e : Int} (hc : Contiguous t e)
    (hcell : ∀ c ∈ t, MonthCell c) : isSemiRegular t = true := by
  have hp : ∀ p ∈ periodsOf t, ∃ c ∈ t, (c.ps, c.pe) = p := fun p hp => mem_periodsOf.mp hp
  have hlag : ∀ p ∈ periodsOf t, devLagMonths p.1.pred p.2 = ((e : Int) : Rat) := by
    intro p hpm
    obtain ⟨c, hcm, rfl⟩ := hp p hpm
    have m := hcell c hcm
    obtain ⟨_, hpe, hid⟩ := DateOrder.pred_first m.psv m.ps1
    rw [devLagMonths_monthEnds hpe m.pee, hid, hc.len c hcm]
    congr 1; omega
  have hnd := periodsOf_nodup t
  unfold isSemiRegular
  simp only [Bool.and_eq_true]
  refine ⟨?_, ?_⟩
  · rw [List.all_eq_true]
    intro pq hpq
    obtain ⟨i, hi, rfl⟩ := List.getElem_of_mem hpq
    simp only [List.length_zip, List.length_tail] at hi
    rw [List.getElem_zip]
    simp only [List.getElem_tail, decide_eq_true_eq]
    have h1 : i < (periodsOf t).length := by omega
    have h2 : i + 1 < (periodsOf t).length := by omega
    have hle1 := List.pairwise_iff_getElem.mp (periodsOf_starts_le t) i (i + 1) h1 h2 (Nat.lt_succ_self i)
    have hne : (periodsOf t)[i]'h1 ≠ (periodsOf t)[i + 1]'h2 := fun he =>
      absurd ((List.Nodup.getElem_inj_iff hnd).mp he) (Nat.ne_of_lt (Nat.lt_succ_self i))
    obtain ⟨a, ha, hae⟩ := hp _ (List.getElem_mem h1)
    obtain ⟨b, hb, hbe⟩ := hp _ (List.getElem_mem h2)
    rw [← hae, ← hbe] at hle1 hne ⊢
    have ma := hcell a ha
    have mb := hcell b hb
    have hid := DateOrder.monthToId_mono ((valid_iff _).mp ma.psv).2.1 hle1
    obtain ⟨q, hq⟩ := hc.step a ha b hb
    have hla := hc.len a ha
    have hlb := hc.len b hb
    have hpos := hc.pos
    -- equal starts would make the periods equal
    have hlt : monthToId a.ps < monthToId b.ps := by
      rcases Int.lt_or_eq_of_le hid with h | h
      · exact h
      · exfalso
        apply hne
        rw [eq_of_monthToId_firsts ma.psv ma.ps1 mb.psv mb.ps1 h,
          eq_of_monthToId_monthEnds ma.pev ma.pee mb.pev mb.pee (by rw [hla, hlb, h])]
    refine (lt_iff_monthToId ma.pev mb.psv).mpr (Or.inl ?_)
    have hq1 : 1 ≤ q := by
      by_contra hneg
      have : e * q ≤ e * 0 := Int.mul_le_mul_of_nonneg_left (by omega) (by omega)
      omega
    have : e * 1 ≤ e * q := Int.mul_le_mul_of_nonneg_left hq1 (by omega)
    omega
  · cases hps : periodsOf t with
    | nil => rfl
    | cons p rest =>
      simp only
      rw [List.all_eq_true]
      intro q hq
      rw [hlag q (hps ▸ List.mem_cons_of_mem _ hq), hlag p (hps ▸ List.mem_cons_self)]
      exact beq_self_eq_true _

end Bermuda.Frame
