/-
C14, what the wide and the long table share besides the metadata columns: the cells the tables can hold (`CellOK`), the
table a writer makes of per-cell blocks, with or without its `scenario` column (`writeRows_ok`), what a row written for
a cell carries (`RowOf`) and a way of reading a table back (`Reads`) — the group key of a row, its metadata as read back
and the coordinate columns of the table follow from these two alone. On the reader's side the scenario sort of a block
is the identity and samples come back as `reconVal`; a rebuilt cell compares like the original (`canonCell_eq_of`), and
the constructor leaves a sorted triangle of such cells alone (`wideSpec_map`).
-/
import Bermuda.Lemmas.FrameMeta
namespace Bermuda.Frame
open Bermuda Bermuda.Spec.C14

/-- the samples of a value the tables can hold: a number as one sample, an array of at most one dimension as its
data; `None` and higher-dimensional arrays have none -/
def valData : Val → Option (List Rat)
  | .none => none
  | .int i => some [(i : Rat)]
  | .flt q => some [q]
  | .arr _ shape data => if shape.length ≤ 1 then some data else none

theorem valData_inv {v : Val} {data : List Rat} (h : valData v = some data) :
    (∃ i : Int, v = .int i ∧ data = [(i : Rat)]) ∨ (∃ q, v = .flt q ∧ data = [q]) ∨
      ∃ b s, v = .arr b s data ∧ s.length ≤ 1 := by
  cases v with
  | none => simp [valData] at h
  | int i => exact .inl ⟨i, rfl, (Option.some.inj h).symm⟩
  | flt q => exact .inr (.inl ⟨q, rfl, (Option.some.inj h).symm⟩)
  | arr b s d =>
    simp only [valData] at h
    split at h
    · next hs => cases h; exact .inr (.inr ⟨b, s, rfl, hs⟩)
    · cases h

/-- a cell the tabular forms can hold: every value numeric with one common sample count `n`;
a sampled cell (`n ≥ 2`) has at least one of the triangle's fields (cells may carry DIFFERENT field sets) -/
structure CellOK (c : Cell) (F : List String) (n : Nat) : Prop where
  pos : 1 ≤ n
  vals : ∀ kv ∈ c.values, ∃ data, valData kv.2 = some data ∧ data.length = n
  full : 2 ≤ n → ∃ f ∈ F, f ∈ Dict.keys c.values
  nodup : (Dict.keys c.values).Nodup

theorem exists_data_iff {o : Option (List Rat)} {n : Nat} :
    (∃ data, o = some data ∧ data.length = n) ↔ o.map List.length = some n := by
  cases o <;> simp

instance (c : Cell) (F : List String) (n : Nat) : Decidable (CellOK c F n) :=
  decidable_of_iff (1 ≤ n ∧ (∀ kv ∈ c.values, (valData kv.2).map List.length = some n) ∧
      (2 ≤ n → ∃ f ∈ F, f ∈ Dict.keys c.values) ∧ (Dict.keys c.values).Nodup)
    ⟨fun ⟨a, b, c, d⟩ => ⟨a, fun kv h => exists_data_iff.mpr (b kv h), c, d⟩,
     fun ⟨a, b, c, d⟩ => ⟨a, fun kv h => exists_data_iff.mp (b kv h), c, d⟩⟩

theorem CellOK.data_ne {c : Cell} {F : List String} {n : Nat} (h : CellOK c F n) {data : List Rat}
    (hl : data.length = n) : data ≠ [] := by
  intro he
  have := h.pos
  rw [he] at hl
  simp at hl
  omega

theorem replicate_eraseDups (n k : Nat) : (List.replicate (k + 1) n).eraseDups = [n] := by
  induction k with
  | zero => simp [List.eraseDups_cons]
  | succ k ih => rw [List.replicate_succ, List.eraseDups_cons]; simp

theorem pickLength_mixed {n : Nat} (hn : 1 ≤ n) (l : List Nat) (hall : ∀ x ∈ l, x = n ∨ x = 1)
    (hmem : 2 ≤ n → n ∈ l) : pickLength l = .ok n := by
  unfold pickLength
  by_cases h2 : 2 ≤ n
  · have hne1 : (n != 1) = true := by simp; omega
    have hl' : ∀ x ∈ l.filter (· != 1), x = n := by
      intro x hx
      obtain ⟨hx1, hx2⟩ := List.mem_filter.mp hx
      rcases hall x hx1 with h | h
      · exact h
      · subst h; simp at hx2
    have hin : n ∈ l.filter (· != 1) := List.mem_filter.mpr ⟨hmem h2, hne1⟩
    have hrep : l.filter (· != 1) = List.replicate (l.filter (· != 1)).length n :=
      List.eq_replicate_iff.mpr ⟨rfl, hl'⟩
    obtain ⟨k, hk⟩ : ∃ k, (l.filter (· != 1)).length = k + 1 := by
      cases hf : l.filter (· != 1) with
      | nil => rw [hf] at hin; cases hin
      | cons a t => exact ⟨t.length, rfl⟩
    rw [hrep, hk, replicate_eraseDups]
  · have h1 : n = 1 := by omega
    subst h1
    have hf : l.filter (· != 1) = [] := by
      rw [List.filter_eq_nil_iff]
      intro x hx
      rcases hall x hx with h | h <;> simp [h]
    rw [hf]; rfl

theorem commonFieldLength_ok {c : Cell} {F : List String} {n : Nat} (h : CellOK c F n) :
    commonFieldLength c F = .ok n := by
  unfold commonFieldLength
  have hl : F.mapM (fieldLen c) = .ok (F.map fun f => if (Dict.keys c.values).contains f then n else 1) := by
    apply mapM_ok_of_all
    intro f hf
    cases hg : Dict.get? c.values f with
    | none =>
      have : (Dict.keys c.values).contains f = false := by
        have := Dict.get?_eq_none_iff.mp hg
        simpa using this
      simp only [fieldLen, hg, this]
      rfl
    | some v =>
      rw [if_pos (List.contains_iff_mem.mpr (Dict.mem_keys_of_get? hg))]
      obtain ⟨data, hd, hlen⟩ := h.vals (f, v) (Dict.mem_of_get? hg)
      subst hlen
      rcases valData_inv hd with ⟨i, rfl, rfl⟩ | ⟨q, rfl, rfl⟩ | ⟨b, s, rfl, hs⟩
      · simp [fieldLen, hg]
      · simp [fieldLen, hg]
      · simp [fieldLen, hg, Nat.not_lt.mpr hs]
  rw [hl]
  simp only [Except.bind]
  apply pickLength_mixed h.pos
  · intro x hx
    obtain ⟨f, _, rfl⟩ := List.mem_map.mp hx
    by_cases hc : (Dict.keys c.values).contains f = true
    · left; rw [if_pos hc]
    · right; rw [if_neg hc]
  · intro h2
    obtain ⟨f, hf, hk⟩ := h.full h2
    exact List.mem_map.mpr ⟨f, hf, if_pos (List.contains_iff_mem.mpr hk)⟩

theorem fieldEntry_of_valData {v : Val} {data : List Rat} (hd : valData v = some data) {i : Nat}
    (hi : i < data.length) : fieldEntry v i = .ok data[i]? := by
  rcases valData_inv hd with ⟨k, rfl, rfl⟩ | ⟨q, rfl, rfl⟩ | ⟨b, s, rfl, _⟩
  · obtain rfl : i = 0 := by simpa using hi
    rfl
  · obtain rfl : i = 0 := by simpa using hi
    rfl
  · simp only [fieldEntry]
    by_cases h1 : data.length > 1
    · rw [if_pos h1]
    · rw [if_neg h1]
      have hl : data.length = 1 := by omega
      match data, hl, hi with
      | [q], _, hi =>
        obtain rfl : i = 0 := by simpa using hi
        rfl

def pureEntry (c : Cell) (i : Nat) (f : String) : Option (String × Rat) :=
  ((Dict.get? c.values f).bind fun v => (valData v).bind (·[i]?)).map fun q => (f, q)

theorem fieldEntryAt_ok {c : Cell} {F : List String} {n : Nat} (h : CellOK c F n) {i : Nat} (hi : i < n)
    (f : String) : fieldEntryAt c i f = .ok (pureEntry c i f) := by
  unfold fieldEntryAt pureEntry
  cases hg : Dict.get? c.values f with
  | none => rfl
  | some v =>
    obtain ⟨data, hd, hlen⟩ := h.vals (f, v) (Dict.mem_of_get? hg)
    simp only [fieldEntry_of_valData hd (hlen ▸ hi), hd, Option.bind_some, Except.map]

def fieldDictPure (c : Cell) (F : List String) (i : Nat) : Dict Rat := F.filterMap (pureEntry c i)

theorem cleanFieldDicts_ok {c : Cell} {F : List String} {n : Nat} (h : CellOK c F n) :
    cleanFieldDicts c F = .ok ((List.range n).map (fieldDictPure c F)) := by
  unfold cleanFieldDicts
  rw [commonFieldLength_ok h]
  show (List.range n).mapM (fieldDictAt c F) = _
  apply mapM_ok_of_all
  intro i hi
  unfold fieldDictAt fieldDictPure
  rw [mapM_ok_of_all fun f _ => fieldEntryAt_ok h (List.mem_range.mp hi) f]
  simp [Except.map, List.filterMap_map]

theorem zip_range_map {β : Type} (f : Nat → β) (n : Nat) :
    (List.range ((List.range n).map f).length).zip ((List.range n).map f) =
      (List.range n).map fun i => (i, f i) := by
  rw [List.length_map, List.length_range, zip_map_self]

/-- the sample count of the cell's FIRST value; for a `CellOK` cell every value has it (`sampleCount_eq`), and it
is `Spec.C14.scenarioCount`, the maximum over the values (`scenarioCount_eq` in `FrameRows`) -/
def sampleCount (c : Cell) : Nat :=
  match c.values with
  | [] => 1
  | kv :: _ => ((valData kv.2).map List.length).getD 1

theorem sampleCount_eq {c : Cell} {F : List String} {n : Nat} (h : CellOK c F n) : sampleCount c = n := by
  unfold sampleCount
  cases hv : c.values with
  | nil =>
    have : ¬ 2 ≤ n := fun h2 => by
      obtain ⟨f, _, hf⟩ := h.full h2
      simp [hv, Dict.keys] at hf
    have := h.pos
    show 1 = n
    omega
  | cons kv rest =>
    obtain ⟨data, hd, hl⟩ := h.vals kv (by rw [hv]; exact List.mem_cons_self)
    simp [hd, hl]

/-- a row transformation that only touches the `scenario` column (`id` or `eraseScenario`) -/
def KeepsOthers (E : Row → Row) : Prop := ∀ r k, k ≠ "scenario" → Dict.get? (E r) k = Dict.get? r k

theorem keepsOthers_id : KeepsOthers id := fun _ _ _ => rfl

theorem keepsOthers_erase : KeepsOthers eraseScenario := by
  intro r k hk
  unfold eraseScenario
  have := Dict.get?_filter_j r (fun s => s != "scenario") k
  rw [this]
  have : (k != "scenario") = true := by simpa using hk
  rw [if_pos this]

theorem KeepsOthers.mem_keys {E : Row → Row} (hE : KeepsOthers E) (r : Row) {k : String} (hk : k ≠ "scenario") :
    k ∈ Dict.keys (E r) ↔ k ∈ Dict.keys r := by
  rw [mem_keys_iff_get?_ne_none, hE r k hk, ← mem_keys_iff_get?_ne_none]

theorem not_core_ne_scenario {k : String} (h : k ∉ coreNames) : k ≠ "scenario" := by
  intro he; subst he; exact h (by decide)

/-- `_drop_constant_scenario` on a table with at least one row: the rows as they are, or every row without
its `scenario` column when that column is constant -/
theorem dropConstantScenario_ok {rows : List Row} (hne : rows ≠ []) :
    ∃ E : Row → Row, KeepsOthers E ∧ dropConstantScenario rows = .ok (rows.map E) ∧
      (E = id ∨ ∃ r ∈ rows, scenarioConstant rows r = true) := by
  unfold dropConstantScenario
  match rows, hne with
  | r :: rest, _ =>
    simp only
    by_cases hconst : scenarioConstant (r :: rest) r = true
    · rw [if_pos hconst]
      exact ⟨eraseScenario, keepsOthers_erase, rfl, Or.inr ⟨r, List.mem_cons_self, hconst⟩⟩
    · exact ⟨id, keepsOthers_id, by rw [if_neg hconst, List.map_id], Or.inl rfl⟩

theorem scenario_eq_of_constant {rows : List Row} {r a b : Row} (h : scenarioConstant rows r = true)
    (ha : a ∈ rows) (hb : b ∈ rows) {x y : Rat} (hx : Row.col a "scenario" = .num x)
    (hy : Row.col b "scenario" = .num y) : x = y := by
  unfold scenarioConstant at h
  simp only [Bool.or_eq_true, Bool.and_eq_true, List.all_eq_true, List.mem_map, forall_exists_index,
    and_imp, forall_apply_eq_imp_iff₂, beq_iff_eq] at h
  rcases h with ⟨_, hall⟩ | hall
  · have e := (hall a ha).trans (hall b hb).symm
    rw [hx, hy] at e
    exact MVal.num.inj e
  · have e := hall a ha
    rw [hx] at e
    cases e

/-- the body of both writers (cf. `writeRows_length`) on their domains. `htwo`: a sampled cell has rows with different
scenario numbers, so the `scenario` column is dropped only when every cell has one scenario -/
theorem writeRows_ok {f : Cell → Except Err (List Row)} {B : Cell → List Row} {t : List Cell}
    (hf : ∀ c ∈ t, f c = .ok (B c)) {r0 : Row} (hr0 : r0 ∈ (t.map B).flatten) (hs0 : "scenario" ∈ Dict.keys r0)
    (htwo : ∀ c ∈ t, sampleCount c ≠ 1 → ∃ a ∈ (t.map B).flatten, ∃ b ∈ (t.map B).flatten, ∃ x y, x ≠ y ∧
      Row.col a "scenario" = .num x ∧ Row.col b "scenario" = .num y) :
    ∃ E : Row → Row, KeepsOthers E ∧
      ((t.mapM f).bind fun blocks => (dropConstantScenario blocks.flatten).map mkTable) =
        .ok (mkTable (t.map fun c => (B c).map E).flatten) ∧
      ((E = id ∧ (colsOf (t.map fun c => (B c).map E).flatten).contains "scenario" = true) ∨
        ∀ c ∈ t, sampleCount c = 1) := by
  obtain ⟨E, hE, hdrop, hmode⟩ := dropConstantScenario_ok (List.ne_nil_of_mem hr0)
  refine ⟨E, hE, ?_, ?_⟩
  · rw [mapM_ok_of_all hf]
    simp only [Except.bind, hdrop, Except.map, List.map_flatten, List.map_map, Function.comp_def]
  · rcases hmode with rfl | ⟨r, _, hconst⟩
    · exact Or.inl ⟨rfl, List.contains_iff_mem.mpr (mem_colsOf.mpr ⟨r0, by simpa using hr0, hs0⟩)⟩
    · refine Or.inr fun c hc => Classical.byContradiction fun hne => ?_
      obtain ⟨a, ha, b, hb, x, y, hxy, hx, hy⟩ := htwo c hc hne
      exact hxy (scenario_eq_of_constant hconst ha hb hx hy)

theorem get?_metadataDict (c : Cell) (N : List String) (k : String) :
    Dict.get? (metadataDict c N) k = if k ∈ N then some (Row.col (flatDict c.md) k) else none :=
  Assoc.get?_map_key N _ k

theorem keys_metadataDict (c : Cell) (N : List String) : Dict.keys (metadataDict c N) = N :=
  Assoc.keys_map_key N _

theorem metadataDict_wf (c : Cell) {N : List String} (h : N.Nodup) : (metadataDict c N).WF := by
  rwa [Dict.WF, keys_metadataDict]

/-- the coordinate columns without `prev_evaluation_date`, which no group key holds: what `cellKeyVal` looks at -/
def cumBase (c : Cell) : Row :=
  [("period_start", MVal.date c.ps), ("period_end", .date c.pe), ("evaluation_date", .date c.ev)]

theorem baseDict_cum {c : Cell} (h : c.prev = none) : baseDict c = cumBase c := by
  unfold baseDict cumBase
  rw [h]
  cases c.kind <;> rfl

theorem baseDict_keys {c : Cell} {k : String} (h : k ∈ Dict.keys (baseDict c)) :
    k ∈ ["period_start", "period_end", "evaluation_date", "prev_evaluation_date"] := by
  unfold baseDict at h
  rw [Dict.keys_append, List.mem_append] at h
  rcases h with h | h
  · simp only [Dict.keys_cons, Dict.keys_nil, List.mem_cons, List.not_mem_nil, or_false] at h
    rcases h with rfl | rfl | rfl <;> simp
  · split at h
    · simp only [Dict.keys_cons, Dict.keys_nil, List.mem_cons, List.not_mem_nil, or_false] at h
      simp [h]
    · cases h

theorem get?_baseDict (c : Cell) :
    Dict.get? (baseDict c) "period_start" = some (.date c.ps) ∧
    Dict.get? (baseDict c) "period_end" = some (.date c.pe) ∧
    Dict.get? (baseDict c) "evaluation_date" = some (.date c.ev) := ⟨rfl, rfl, rfl⟩

theorem coord_mem_baseDict (c : Cell) {k : String} (hk : k ∈ ["period_start", "period_end", "evaluation_date"]) :
    k ∈ Dict.keys (baseDict c) := by
  unfold baseDict
  rw [Dict.keys_append]
  exact List.mem_append_left _ hk

theorem baseScenario_keys {c : Cell} {v : MVal} {k : String}
    (h : k ∈ Dict.keys (baseDict c ++ [("scenario", v)])) :
    k ∈ ["period_start", "period_end", "evaluation_date", "prev_evaluation_date", "scenario"] := by
  have : k ∈ Dict.keys (baseDict c) ∨ k = "scenario" := by
    simpa only [Dict.keys_append, Dict.keys_cons, Dict.keys_nil, List.mem_append, List.mem_singleton] using h
  rcases this with h | rfl
  · have := baseDict_keys h
    simp only [List.mem_cons, List.not_mem_nil, or_false] at this ⊢
    rcases this with rfl | rfl | rfl | rfl <;> simp
  · simp

def prevOf (c : Cell) : Date := c.prev.getD Date.min

theorem prev_eq_prevOf {c : Cell} (h : c.prev.isSome = true) : c.prev = some (prevOf c) := by
  obtain ⟨p, hp⟩ := Option.isSome_iff_exists.mp h
  simp [prevOf, hp]

/-- `r` was written for `c`; `K`: the detail columns of the layout -/
structure RowOf (K : String → Prop) (c : Cell) (r : Row) : Prop where
  coord : ∀ k ∈ ["period_start", "period_end", "evaluation_date", "prev_evaluation_date"],
    Dict.get? r k = Dict.get? (baseDict c) k
  md : ∀ k, k ∈ sixNames ∨ K k → Row.col r k = Row.col (flatDict c.md) k

/-- column `k` of every row written for `c`, for `k` a group-key column: a coordinate or a metadata entry -/
def cellKeyVal (c : Cell) (k : String) : MVal :=
  match Dict.get? (cumBase c) k with
  | some v => v
  | none => Row.col (flatDict c.md) k

theorem cellKeyVal_of_not_coord (c : Cell) {k : String}
    (hk : k ∉ ["period_start", "period_end", "evaluation_date"]) :
    cellKeyVal c k = Row.col (flatDict c.md) k := by
  unfold cellKeyVal
  rw [Dict.get?_eq_none_iff.mpr (by simpa [cumBase, Dict.keys] using hk)]

theorem coords_of_cellKeyVal {a b : Cell}
    (h : ∀ k ∈ ["period_start", "period_end", "evaluation_date"], cellKeyVal a k = cellKeyVal b k) :
    a.ps = b.ps ∧ a.pe = b.pe ∧ a.ev = b.ev :=
  ⟨MVal.date.inj (h "period_start" (by simp)), MVal.date.inj (h "period_end" (by simp)),
    MVal.date.inj (h "evaluation_date" (by simp))⟩

namespace RowOf
variable {K : String → Prop} {c : Cell} {r : Row} (h : RowOf K c r)
include h

theorem dates : Row.col r "period_start" = .date c.ps ∧ Row.col r "period_end" = .date c.pe ∧
    Row.col r "evaluation_date" = .date c.ev := by
  unfold Row.col
  rw [h.coord _ (.head _), h.coord _ (.tail _ (.head _)), h.coord _ (.tail _ (.tail _ (.head _)))]
  exact ⟨rfl, rfl, rfl⟩

theorem col_coord {k : String} (hk : k ∈ ["period_start", "period_end", "evaluation_date"]) :
    Row.col r k = cellKeyVal c k := by
  simp only [List.mem_cons, List.not_mem_nil, or_false] at hk
  rcases hk with rfl | rfl | rfl
  · exact h.dates.1
  · exact h.dates.2.1
  · exact h.dates.2.2

theorem prev (hinc : c.kind = .incremental ∧ c.prev.isSome = true) :
    Dict.get? r "prev_evaluation_date" = some (.date (prevOf c)) := by
  rw [h.coord _ (.tail _ (.tail _ (.tail _ (.head _))))]
  unfold baseDict
  rw [hinc.1, prev_eq_prevOf hinc.2]
  rfl

variable {rows : List Row} (hr : r ∈ rows)
include hr

theorem coord_cols :
    ∀ k ∈ ["period_start", "period_end", "evaluation_date"], (colsOf rows).contains k = true := by
  intro k hk
  refine List.contains_iff_mem.mpr (mem_colsOf.mpr ⟨r, hr, ?_⟩)
  rw [mem_keys_iff_get?_ne_none, h.coord k (List.mem_append_left ["prev_evaluation_date"] hk), ← mem_keys_iff_get?_ne_none]
  exact coord_mem_baseDict c hk

theorem prev_col (hinc : c.kind = .incremental ∧ c.prev.isSome = true) :
    (colsOf rows).contains "prev_evaluation_date" = true :=
  List.contains_iff_mem.mpr (mem_colsOf.mpr ⟨r, hr, Dict.mem_keys_of_get? (h.prev hinc)⟩)

end RowOf

theorem noprev_col {rows : List Row} {K : String → Prop} (h : ∀ r ∈ rows, ∃ c, RowOf K c r ∧ c.prev = none) :
    (colsOf rows).contains "prev_evaluation_date" = false := by
  rw [← Bool.not_eq_true, List.contains_iff_mem, mem_colsOf]
  rintro ⟨r, hr, hk⟩
  obtain ⟨c, hc, hp⟩ := h r hr
  rw [mem_keys_iff_get?_ne_none, hc.coord _ (.tail _ (.tail _ (.tail _ (.head _)))), baseDict_cum hp] at hk
  exact hk rfl

/-- a way of reading a table of rows written for `t`: the table's columns `cols`, the reader's arguments `D`
(`detail_cols`) and `L` (`loss_detail_cols`), and what a cell's metadata comes back as (`μ`). The wide reader
with the columns it was written from has `μ = id`; so has the long reader handed the loss-detail columns, while
`from_long_csv` (`L = []`) has `μ = mergeLossDetails`. -/
structure Reads (t : List Cell) (K : String → Prop) (cols D L : List String) (μ : Metadata → Metadata) : Prop where
  sub : ∀ k, k ∈ D ∨ k ∈ L → K k
  notCoord : ∀ k, k ∈ sixNames ∨ K k → k ∉ ["period_start", "period_end", "evaluation_date"]
  md : ∀ c ∈ t, ∀ r : Row, (∀ k, k ∈ sixNames ∨ k ∈ D ∨ k ∈ L → Row.col r k = Row.col (flatDict c.md) k) →
    rowMetadata r D L = μ c.md
  /-- key columns that are not table columns are filled in from the metadata read -/
  flat : ∀ c ∈ t, ∀ k, k ∈ sixNames ∨ k ∈ D ∨ k ∈ L → cols.contains k = false →
    Row.col (flatDict (μ c.md)) k = Row.col (flatDict c.md) k

section reads
variable {t : List Cell} {K : String → Prop} {cols D L : List String} {μ : Metadata → Metadata}
  (R : Reads t K cols D L μ)
include R

theorem Reads.isK {k : String} (hk : k ∈ sixNames ∨ k ∈ D ∨ k ∈ L) : k ∈ sixNames ∨ K k :=
  hk.imp_right (R.sub k)

theorem RowOf.rowMetadata_read {c : Cell} (hc : c ∈ t) {r : Row} (hr : RowOf K c r) : rowMetadata r D L = μ c.md :=
  R.md c hc r fun k hk => hr.md k (R.isK hk)

theorem RowOf.keyEntry {c : Cell} (hc : c ∈ t) {r : Row} (hr : RowOf K c r)
    (hcols : ∀ k ∈ ["period_start", "period_end", "evaluation_date"], cols.contains k = true) {k : String}
    (hk : k ∈ ["period_start", "period_end", "evaluation_date"] ∨ k ∈ sixNames ∨ k ∈ D ∨ k ∈ L) :
    keyEntry cols D L r k = cellKeyVal c k := by
  unfold Frame.keyEntry
  rcases hk with hco | hmd
  · rw [if_pos (hcols k hco)]
    exact hr.col_coord hco
  · rw [cellKeyVal_of_not_coord c (R.notCoord k (R.isK hmd)), hr.rowMetadata_read R hc]
    split
    · exact hr.md k (R.isK hmd)
    · next hn => exact R.flat c hc k hmd (Bool.eq_false_iff.mpr hn)

theorem cellKeyVal_inj {a b : Cell} (ha : a ∈ t) (hb : b ∈ t)
    (h : ∀ k, k ∈ ["period_start", "period_end", "evaluation_date"] ∨ k ∈ sixNames ∨ k ∈ D ∨ k ∈ L →
      cellKeyVal a k = cellKeyVal b k) :
    a.ps = b.ps ∧ a.pe = b.pe ∧ a.ev = b.ev ∧ μ a.md = μ b.md := by
  obtain ⟨c1, c2, c3⟩ := coords_of_cellKeyVal fun k hk => h k (Or.inl hk)
  refine ⟨c1, c2, c3, ?_⟩
  -- the metadata is read from the key columns alone
  rw [← R.md a ha (flatDict a.md) fun _ _ => rfl, R.md b hb (flatDict a.md) fun k hk => by
    rw [← cellKeyVal_of_not_coord a (R.notCoord k (R.isK hk)), ← cellKeyVal_of_not_coord b (R.notCoord k (R.isK hk))]
    exact h k (Or.inr hk)]

end reads

/-- what the readers make of a field's samples: a float for one, a float vector otherwise -/
def reconVal (data : List Rat) : Val :=
  match data with
  | [q] => .flt q
  | _ => .arr false [data.length] data

theorem numV_of_valData {v : Val} {data : List Rat} (h : valData v = some data) (hne : data ≠ [])
    (b : Bool) (s : List Nat) : numV (.arr b s data) = numV v := by
  rcases valData_inv h with ⟨i, rfl, rfl⟩ | ⟨q, rfl, rfl⟩ | ⟨b', s', rfl, _⟩
  · rfl
  · rfl
  · match data, hne with
    | [q], _ => rfl
    | _ :: _ :: _, _ => rfl

theorem numV_reconVal (data : List Rat) : numV (reconVal data) = numV (.arr false [] data) :=
  match data with
  | [] => rfl
  | [_] => rfl
  | _ :: _ :: _ => rfl

theorem range_map_pos {α : Type} (row : Nat → α) {n : Nat} (hn : 1 ≤ n) :
    ∃ tl, (List.range n).map row = row 0 :: tl := by
  obtain ⟨k, rfl⟩ : ∃ k, n = k + 1 := ⟨n - 1, by omega⟩
  exact ⟨_, by rw [List.range_succ_eq_map, List.map_cons]⟩

theorem pairwise_scenarioLe {n : Nat} {row : Nat → Row}
    (hs : ∀ i, Row.col (row i) "scenario" = MVal.num ((i + 1 : Nat) : Rat)) :
    ((List.range n).map row).Pairwise (fun a b => scenarioLe a b = true) := by
  rw [List.pairwise_map]
  refine List.pairwise_lt_range.imp ?_
  intro i j hij
  simp only [scenarioLe, hs]
  have : ((i + 1 : Nat) : Rat) ≤ ((j + 1 : Nat) : Rat) := by exact_mod_cast (by omega : i + 1 ≤ j + 1)
  simpa using this

theorem sortGroup_sorted {cols : List String} {g : List Row}
    (h : g.length ≤ 1 ∨ (cols.contains "scenario" = true ∧ g.Pairwise (fun a b => scenarioLe a b = true))) :
    sortGroup cols g = .ok g := by
  unfold sortGroup
  by_cases h1 : g.length > 1
  · obtain ⟨hsc, hs⟩ := h.resolve_left (by omega)
    rw [if_pos h1, if_pos hsc, List.mergeSort_of_pairwise hs]
  · rw [if_neg h1]

/-- the readers build `CumulativeCell`s: the class may change from `Cell` to `CumulativeCell`, so this is not
`Cell.datesOk_congr` -/
theorem datesOk_cumulative {c x : Cell} (hd : c.datesOk = true)
    (hx : x.kind = .cumulative ∧ x.ps = c.ps ∧ x.pe = c.pe ∧ x.ev = c.ev ∧ x.prev = none) : x.datesOk = true := by
  obtain ⟨x1, x2, x3, x4, x5⟩ := hx
  obtain ⟨h1, h2, h3, -⟩ := Cell.datesOk_iff.mp hd
  rw [Cell.datesOk_iff, x1, x2, x3, x4, x5]
  exact ⟨h1, h2, h3, by simp, fun _ h => nomatch h⟩

theorem sortByKey_perm {l₁ l₂ : List (String × NumV)} (hp : l₁.Perm l₂) (hn : (l₂.map (·.1)).Nodup) :
    l₁.mergeSort (fun a b => compare a.1 b.1 != .gt) = l₂.mergeSort (fun a b => compare a.1 b.1 != .gt) :=
  mergeSort_perm_of_nodup_key (cmp := compare) (key := fun p : String × NumV => p.1) hp ((hp.map _).nodup_iff.mpr hn)

theorem typedKind_cum {k : CellKind} (h : k ≠ .incremental) : typedKind .cumulative = typedKind k := by
  cases k <;> first | rfl | exact absurd rfl h

theorem canonCell_eq_of {x c : Cell} (hk : typedKind x.kind = typedKind c.kind)
    (hd : x.ps = c.ps ∧ x.pe = c.pe ∧ x.ev = c.ev ∧ x.prev = c.prev)
    (hv : (x.values.map fun kv => (kv.1, numV kv.2)).Perm (c.values.map fun kv => (kv.1, numV kv.2)))
    (hn : (Dict.keys c.values).Nodup) : canonCell x = canonCell { c with md := x.md } := by
  obtain ⟨h1, h2, h3, h4⟩ := hd
  unfold canonCell
  rw [hk, h1, h2, h3, h4, sortByKey_perm hv (by rw [List.map_map]; exact hn)]

theorem slicesSpec_of_perm {merge : Bool} {t out : List Cell}
    (h : (out.map (·.md)).Perm (t.map fun c => if merge then mergeLossDetails c.md else c.md)) :
    slicesSpec merge t out = true := by
  have hmem : ∀ m, m ∈ (out.map (·.md)).eraseDups ↔
      m ∈ (t.map fun c => if merge then mergeLossDetails c.md else c.md).eraseDups := fun m => by
    rw [List.mem_eraseDups, List.mem_eraseDups]
    exact h.mem_iff
  have hlen := ((List.perm_ext_iff_of_nodup (nodup_eraseDups _) (nodup_eraseDups _)).mpr hmem).length_eq
  simp only [slicesSpec, Bool.and_eq_true, beq_iff_eq, List.all_eq_true, List.contains_iff_mem]
  exact ⟨⟨hlen.symm, fun m hm => (hmem m).mpr hm⟩, fun m hm => (hmem m).mp hm⟩

theorem coord_of_canonCell {x c : Cell} (h : canonCell x = canonCell c) : x.coord = c.coord :=
  congrArg (fun k : CanonCell => (⟨k.md, k.ps, k.pe, k.ev, k.prev⟩ : Coord)) h

theorem wideSpec_map {t : List Cell} {rc : Cell → Cell} {k : CellKind}
    (hs : t.Pairwise (fun a b => Cell.cmp a b = .lt)) (hk : ∀ c ∈ t, (rc c).kind = k)
    (hcanon : ∀ c ∈ t, canonCell (rc c) = canonCell c) :
    okAnd (fun out => wideSpec t out && slicesSpec false t out) (Triangle.ofCells (t.map rc)) = true := by
  have hof : Triangle.ofCells (t.map rc) = .ok (t.map rc) :=
    Triangle.ofCells_of_sorted (kindsConsistent_of_all (List.forall_mem_map.mpr hk)) <| List.pairwise_map.mpr <|
      hs.imp_of_mem fun ha hb hlt =>
      Cell.le_of_cmp_lt
        ((Cell.cmp_congr_coord (coord_of_canonCell (hcanon _ ha)) (coord_of_canonCell (hcanon _ hb))).trans hlt)
  have hcan : (t.map rc).map canonCell = t.map canonCell := by
    rw [List.map_map]
    exact List.map_congr_left hcanon
  have hmds : (t.map rc).map (·.md) = t.map (·.md) := by
    rw [List.map_map]
    exact List.map_congr_left fun c hc => congrArg CanonCell.md (hcanon c hc)
  rw [hof]
  simp only [okAnd, wideSpec, sameNumeric, hcan, beq_self_eq_true, Bool.true_and]
  exact slicesSpec_of_perm (by rw [hmds]; exact .refl _)

end Bermuda.Frame
