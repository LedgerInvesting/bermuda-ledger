/-
Closed instances on which the operations of C17 SUCCEED in the model, with the facts about them that the non-vacuity
theorems and examples of `Properties/C17.lean` cite: a two-cell sample triangle (`exSamples`), the 2 × 2 age-to-age square
(`exSquare`) and the same square under two metadata (`exTwo`).
-/
import Bermuda.Lemmas.ResampleMulti
namespace Bermuda.Resample

/-! ### two cells with three samples each: the instance of `thin` and `moment_match` -/

def exCell (y : Nat) (d : List Rat) (s : Int) : Cell :=
  { kind := .cumulative, ps := ⟨y, 1, 1⟩, pe := ⟨y, 12, 31⟩, ev := ⟨y, 12, 31⟩, prev := none,
    values := [("earned_premium", .int s), ("paid_loss", .arr false [3] d)], md := default }

def exSamples : List Cell := [exCell 2020 [10, 20, 30] 7, exCell 2021 [5, 1, 3] 9]

def exOut : List Cell := exSamples.map fun c =>
  { c with values := c.values.set "paid_loss" (generateSamples ((c.values.get? "paid_loss").getD .none) [1, 2, 3]) }

theorem ex_fields : fieldsOf exSamples = ["earned_premium", "paid_loss"] := by
  simp only [fieldsOf, sortStrings, mergeSort_leOf]; decide +kernel

def mkSq (y : Nat) (ev : Date) (v : Rat) : Cell :=
  { kind := .cumulative, ps := ⟨y, 1, 1⟩, pe := ⟨y, 12, 31⟩, ev := ev, prev := none,
    values := [("paid_loss", .flt v)], md := default }

def exSquare : List Cell :=
  [mkSq 2020 ⟨2020, 12, 31⟩ 100, mkSq 2020 ⟨2021, 12, 31⟩ 150,
   mkSq 2021 ⟨2021, 12, 31⟩ 80, mkSq 2021 ⟨2022, 12, 31⟩ 160]

/-! ### `bootstrapD` on `exSquare` with draws `[1, 0]`: the two periods swap their factors

`List.mergeSort` does not reduce in the kernel: the replicate of a slice (`ex_sq_rep`, `ex_sqB_rep`) is unfolded down to
its sorts, each sort is replaced by the insertion sort (`Lemmas/Sort.lean`), and the kernel evaluates the rest at once. -/

theorem mergeSort_periodLe (l : List (Date × Date)) :
    l.mergeSort (fun a b => periodCmp a b != .gt) = insertionSort (fun a b => periodCmp a b != .gt) l :=
  have : Std.TransCmp periodCmp := by unfold periodCmp; infer_instance
  mergeSort_leOf l

def exDraws : Nat → Nat → Draws := fun _ _ => { I := [(12, [("paid_loss", [1, 0])])] }
def exF : Factors := [(12, [("paid_loss", [2, 3 / 2])])]
def exDev : List Cell :=
  [mkSq 2020 ⟨2020, 12, 31⟩ 100, mkSq 2020 ⟨2021, 12, 31⟩ 200,
   mkSq 2021 ⟨2021, 12, 31⟩ 80, mkSq 2021 ⟨2022, 12, 31⟩ 120]

theorem ex_sq_sorted : exSquare.Pairwise (fun a b => Cell.le a b) := by decide +kernel
theorem ex_sq_kinds : kindsConsistent exSquare = true := by decide +kernel
theorem ex_sq_slices : (Triangle.slices exSquare).map (·.2) = [exSquare] :=
  slices_single (m := default) (by decide) (by decide +kernel) ex_sq_sorted
theorem ex_sq_fields : fieldsOf exSquare = ["paid_loss"] := by
  simp only [fieldsOf, sortStrings, mergeSort_leOf]; decide +kernel
theorem ex_sq_use : useAtas exSquare = true := by
  simp only [useAtas, periodsOf, mergeSort_periodLe]; decide +kernel
theorem ex_sq_lags : sortedLags exSquare = [0, 12] := by
  simp only [sortedLags, sortQ_eq_insertionSort]; decide +kernel
theorem ex_sq_clip : clipLags exSquare 0 12 = .ok exSquare := by
  have : (exSquare.filter fun c => decide ((0:Rat) ≤ c.devLag) && decide (c.devLag ≤ 12)) = exSquare := by decide +kernel
  rw [clipLags, this]
  exact Triangle.ofCells_of_sorted ex_sq_kinds ex_sq_sorted
theorem ex_sq_table : ataTable exSquare ["paid_loss"] = .ok [(12, [("paid_loss", [3 / 2, 2])])] := by
  simp only [ataTable, ex_sq_lags, List.tail_cons, List.zip_cons_cons, List.zip_nil_left, mapMExcept, ex_sq_clip]
  decide +kernel
theorem ex_sq_res : resampledAtas exSquare ["paid_loss"] (exDraws 0 0).I = .ok exF := by
  simp only [resampledAtas, ex_sq_table]
  decide +kernel
theorem ex_sq_rep : replicateD exSquare ["paid_loss"] (exDraws 0 0) 0 = .ok (exDev.map (tagCell 0)) := by
  simp only [exSquare, replicateD, replicate, useAtas, periodsOf, resampledAtas, ataTable, sortedLags, clipLags,
    developByAtas, developLoop, tagBootstrap, Triangle.deriveMetadata, mergeSort_periodLe, sortQ_eq_insertionSort,
    ofCells_eq_insertionSort]
  decide +kernel

/-! ### a closed TWO-slice instance: `exSquare` (default metadata) and the same square under `country = "US"`;
slice 0 swaps its factors (draws `[1, 0]`), slice 1 keeps them (`[0, 1]`) -/

def exMd2 : Metadata := { (default : Metadata) with country := some "US" }
def exSquareB : List Cell := exSquare.map fun c => { c with md := exMd2 }
def exDevB : List Cell := exSquareB
def exTwo : List Cell := exSquare ++ exSquareB
def exDraws2 : Nat → Nat → Draws := fun k _ =>
  if k = 0 then { I := [(12, [("paid_loss", [1, 0])])] } else { I := [(12, [("paid_loss", [0, 1])])] }

theorem ex_sqB_sorted : exSquareB.Pairwise (fun a b => Cell.le a b) := by decide +kernel
theorem ex_two_kinds : kindsConsistent exTwo = true := by decide +kernel
theorem ex_two_slices : (Triangle.slices exTwo).map (·.2) = [exSquare, exSquareB] := by
  simp only [Triangle.slices, mergeSort_cellLe]; decide +kernel
/- `fieldsOf` and `useAtas` never read the metadata: on `exSquareB` each unfolds to what it is on `exSquare` -/
theorem ex_sqB_fields : fieldsOf exSquareB = ["paid_loss"] := ex_sq_fields
theorem ex_sqB_use : useAtas exSquareB = true := ex_sq_use
theorem ex_sqB_rep : replicateD exSquareB ["paid_loss"] (exDraws2 1 0) 0 = .ok (exDevB.map (tagCell 0)) := by
  simp only [exSquareB, exSquare, List.map, replicateD, replicate, useAtas, periodsOf, resampledAtas, ataTable, sortedLags,
    clipLags, developByAtas, developLoop, tagBootstrap, Triangle.deriveMetadata, mergeSort_periodLe,
    sortQ_eq_insertionSort, ofCells_eq_insertionSort]
  decide +kernel
theorem ex_sqA_rep2 : replicateD exSquare ["paid_loss"] (exDraws2 0 0) 0 = .ok (exDev.map (tagCell 0)) := ex_sq_rep
theorem ex_two_sum : Triangle.ofCells (exDev.map (tagCell 0) ++ exDevB.map (tagCell 0)) =
    .ok (exDev.map (tagCell 0) ++ exDevB.map (tagCell 0)) :=
  Triangle.ofCells_of_sorted (by decide +kernel) (by decide +kernel)

theorem ex_two_tagInj : ∀ i, TagInjective exTwo i := by
  intro i c1 h1 c2 h2 h
  have hmd : ∀ c ∈ exTwo, c.md = default ∨ c.md = exMd2 := by decide +kernel
  have hc : ∀ m : Metadata, (Spec.C17.tagMd m i).country = m.country := fun _ => rfl
  have hne : (default : Metadata).country ≠ exMd2.country := by decide +kernel
  have hcc : c1.md.country = c2.md.country := (hc c1.md).symm.trans ((congrArg (·.country) h).trans (hc c2.md))
  rcases hmd c1 h1 with e1 | e1 <;> rcases hmd c2 h2 with e2 | e2 <;> rw [e1, e2] at hcc ⊢
  · exact absurd hcc hne
  · exact absurd hcc.symm hne

theorem ex_sq_layout : SliceLayout exSquare :=
  ⟨ex_sq_sorted, by decide +kernel, by decide +kernel, by decide +kernel⟩
theorem ex_sqB_layout : SliceLayout exSquareB :=
  ⟨ex_sqB_sorted, by decide +kernel, by decide +kernel, by decide +kernel⟩
theorem ex_sq_tagInj (i : Nat) : TagInjective exSquare i := fun c1 h1 c2 h2 _ => ex_sq_layout.oneMd c1 h1 c2 h2
theorem ex_sq_slice_eq : ∀ s ∈ (Triangle.slices exSquare).map (·.2), s = exSquare := by
  intro s hs; rw [ex_sq_slices] at hs; simpa using hs

theorem ex_sq_zip : (sortedLags exSquare).tail.zip (sortedLags exSquare) = [((12 : Rat), (0 : Rat))] := by
  rw [ex_sq_lags]; rfl

theorem ex_sq_regular : RegularLags exSquare := by
  refine ⟨by decide +kernel, ?_, ?_⟩
  · intro c hc prev hp pl hz
    rw [ex_sq_zip] at hz
    simp only [List.mem_cons, Prod.mk.injEq, List.not_mem_nil, or_false] at hz
    obtain ⟨hl, rfl⟩ := hz
    have hprev : ∀ c ∈ exSquare, c.devLag = 12 → ∀ prev,
        (exSquare.filter fun d => (d.ps, d.pe) == (c.ps, c.pe) && d.devLag < c.devLag).getLast? = some prev →
        prev.devLag = 0 := by decide +kernel
    exact (hprev c hc hl prev hp).symm
  · intro l pl hz cl hcl nx pv hpair
    rw [ex_sq_zip] at hz
    simp only [List.mem_cons, Prod.mk.injEq, List.not_mem_nil, or_false] at hz
    obtain ⟨rfl, rfl⟩ := hz
    rw [ex_sq_clip] at hcl
    cases hcl
    have : ∀ p ∈ lagPairs exSquare, p.1.devLag = 12 ∧ p.2.devLag = 0 := by decide +kernel
    exact this (nx, pv) hpair

theorem ex_sq_columns : ColumnsInRatios exSquare ["paid_loss"] (exDraws 0 0).I :=
  columnsInRatios_of_regular ex_sq_regular _ _

end Bermuda.Resample
