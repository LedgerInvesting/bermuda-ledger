/-
C14: what the plain Matrix form (`OnGrid`, Lemmas/FrameMatrix.lean) and the rich matrix (`RichGrid`: any values,
field subsets, incremental cells) have in common. First the positional facts about a triangle on the grid of a
`MatrixIndex`, stated for `PosGrid` (no cell classes, values or index fields); then the reader, which is one
function for both forms (`fromMatrix_eq_fromRich`): both round trips end in `fromRich_grid`, the Matrix one at
`OnGrid.rich`.
-/
import Bermuda.Lemmas.FrameArray
import Bermuda.Model.FrameRich
namespace Bermuda.Frame
open Bermuda Bermuda.Spec.C14 Std

theorem maxLagOf_spec (t : List Cell) (hne : t ≠ []) :
    (∃ c ∈ t, maxLagOf t = c.devLag .month) ∧ ∀ c ∈ t, c.devLag .month ≤ maxLagOf t := by
  obtain ⟨c0, rest, rfl⟩ := List.exists_cons_of_ne_nil hne
  obtain ⟨hm, hb⟩ := foldl_max_rat ((c0 :: rest).map fun c => c.devLag .month) (c0.devLag .month)
  refine ⟨?_, fun c hc => hb _ (List.mem_cons_of_mem _ (List.mem_map_of_mem hc))⟩
  rcases List.mem_cons.mp hm with e | hl
  · exact ⟨c0, List.mem_cons_self, e⟩
  · obtain ⟨c, hc, e⟩ := List.mem_map.mp hl
    exact ⟨c, hc, e.symm⟩

theorem indexOf?_mem {α : Type} [BEq α] [LawfulBEq α] {l : List α} {a : α} (h : a ∈ l) :
    indexOf? l a = some (l.findIdx (· == a)) ∧ ∃ hlt : l.findIdx (· == a) < l.length,
      l[l.findIdx (· == a)] = a := by
  have hlt : l.findIdx (· == a) < l.length := List.findIdx_lt_length_of_exists ⟨a, h, by simp⟩
  refine ⟨by unfold indexOf?; simp [hlt], hlt, ?_⟩
  simpa using List.findIdx_getElem (p := (· == a)) (w := hlt)

theorem findIdx_inj {α : Type} [BEq α] [LawfulBEq α] {l : List α} {a b : α} (ha : a ∈ l) (hb : b ∈ l)
    (he : l.findIdx (· == a) = l.findIdx (· == b)) : a = b := by
  obtain ⟨_, h1, e1⟩ := indexOf?_mem ha
  obtain ⟨_, h2, e2⟩ := indexOf?_mem hb
  rw [← e1, ← e2]
  simp only [he]

theorem findIdx_getElem_nodup {α : Type} [BEq α] [LawfulBEq α] {l : List α} (hnd : l.Nodup) {i : Nat} {f : α}
    (hf : l[i]? = some f) :
    l.findIdx (· == f) = i := by
  obtain ⟨hlt, hfe⟩ := List.getElem?_eq_some_iff.mp hf
  obtain ⟨_, hlt2, he⟩ := indexOf?_mem (hfe ▸ List.getElem_mem hlt)
  exact (List.Nodup.getElem_inj_iff hnd).mp (he.trans hfe.symm)

theorem find?_reverse_unique {α β : Type} [BEq α] [LawfulBEq α] {l : List (α × β)} {p : α} {o : Option β}
    (h : ∀ e ∈ l, e.1 = p → o = some e.2) (hex : o ≠ none → ∃ e ∈ l, e.1 = p) :
    (l.reverse.find? (·.1 == p)).map (·.2) = o := by
  cases hfind : l.reverse.find? (·.1 == p) with
  | none =>
    refine (Classical.byContradiction fun hne => ?_ : o = none).symm
    obtain ⟨e, he, hep⟩ := hex hne
    simpa [hep] using List.find?_eq_none.mp hfind e (List.mem_reverse.mpr he)
  | some e =>
    exact (h e (List.mem_reverse.mp (List.mem_of_find?_eq_some hfind)) (by simpa using List.find?_some hfind)).symm

theorem filterMap_zip_range {α β : Type} (l : List α) (g : Nat × α → Option β) (g' : α → Option β)
    (hg : ∀ i a, l[i]? = some a → g (i, a) = g' a) :
    (List.zip (List.range l.length) l).filterMap g = l.filterMap g' := by
  rw [List.filterMap_congr (g := fun p => g' p.2) fun p hp => hg p.1 p.2 ((mem_zip_range l p.1 p.2).mp hp)]
  conv => rhs; rw [← List.map_snd_zip (l₁ := List.range l.length) (l₂ := l) (by simp), List.filterMap_map]
  rfl

theorem isMonthly_of {t : List Cell}
    (h : ∀ c ∈ t, c.ps.d = 1 ∧ c.pe.isMonthEnd = true ∧ c.ev.isMonthEnd = true) : isMonthly t = true := by
  unfold isMonthly
  rw [List.all_eq_true]
  intro c hc
  obtain ⟨h1, h2, h3⟩ := h c hc
  simp [h1, h2, h3]

def triples (I J K : Nat) : List (Nat × Nat × Nat) :=
  (List.range I).flatMap fun i => (List.range J).flatMap fun j => (List.range K).map fun k => (i, j, k)

theorem mem_triples {I J K : Nat} {p : Nat × Nat × Nat} :
    p ∈ triples I J K ↔ p.1 < I ∧ p.2.1 < J ∧ p.2.2 < K := by
  unfold triples
  simp only [List.mem_flatMap, List.mem_map, List.mem_range]
  constructor
  · rintro ⟨i, hi, j, hj, k, hk, rfl⟩; exact ⟨hi, hj, hk⟩
  · rintro ⟨hi, hj, hk⟩; exact ⟨p.1, hi, p.2.1, hj, p.2.2, hk, rfl⟩

theorem triples_nodup (I J K : Nat) : (triples I J K).Nodup := by
  refine nodup_flatMap_key (·.1) List.nodup_range (fun i _ p hp => ?_) fun i _ =>
    nodup_flatMap_key (·.2.1) List.nodup_range (fun j _ p hp => ?_) fun j _ =>
      List.Nodup.map_on (fun a _ b _ hab => by simpa using hab) List.nodup_range
  · obtain ⟨j, _, hp⟩ := List.mem_flatMap.mp hp
    obtain ⟨k, _, rfl⟩ := List.mem_map.mp hp
    rfl
  · obtain ⟨k, _, rfl⟩ := List.mem_map.mp hp
    rfl

theorem mapM_grid {ε β : Type} {f : Nat → Nat → Nat → Except ε (Option β)} {g : Nat × Nat × Nat → Option β}
    (hf : ∀ p, f p.1 p.2.1 p.2.2 = .ok (g p)) (I J K : Nat) (F : List β → Except ε (List β)) :
    (((List.range I).mapM fun i => (List.range J).mapM fun j => (List.range K).mapM fun k => f i j k).bind
      fun cells => F ((cells.flatten.flatten).filterMap id)) = F ((triples I J K).filterMap g) := by
  rw [mapM_ok_of_all (g := fun i => (List.range J).map fun j => (List.range K).map fun k => g (i, j, k))
    fun i _ => mapM_ok_of_all fun j _ => mapM_ok_of_all fun k _ => hf (i, j, k)]
  unfold triples
  simp only [Except.bind, List.flatten_flatten, List.map_map, Function.comp_def, List.flatMap_def,
    List.map_flatten, List.filterMap_flatten, List.filterMap_map, id]

/-- what `MatrixIndex.resolve_indices` returns for a cell on the grid (`pos_expNdx_cell`, `pos_devNdx_lag`,
`indexOf?_mem`): period index (`//`), development index (`int(…)`), slice and field index (first occurrence) -/
def jOf (ix : MatrixIndex) (c : Cell) : Nat := ((monthToId c.ps - ix.expOrigin) / ix.expResolution).toNat
def kOf (ix : MatrixIndex) (c : Cell) : Nat := ((lagOf c - ix.devOrigin) / devSpacing ix).toNat

def siOf (ix : MatrixIndex) (c : Cell) : Nat := ix.slices.findIdx (· == c.md)
def fiOf (ix : MatrixIndex) (f : String) : Nat := ix.fields.findIdx (· == f)

structure PosCell (c : Cell) (ix : MatrixIndex) : Prop where
  dates : c.datesOk = true
  canon : c.md.Canon
  psv : c.ps.valid = true
  ps1 : c.ps.d = 1
  pev : c.pe.valid = true
  pee : c.pe.isMonthEnd = true
  evv : c.ev.valid = true
  eve : c.ev.isMonthEnd = true
  j : ∃ j : Nat, monthToId c.ps = ix.expOrigin + (j : Int) * ix.expResolution
  pe : monthToId c.pe = monthToId c.ps + ix.expResolution - 1
  k : ∃ k : Nat, lagOf c = ix.devOrigin + (k : Int) * devSpacing ix

/-- a month-aligned triangle whose periods and development lags lie on the grid of `ix`; cells with
the same period and evaluation date have the same previous evaluation date -/
structure PosGrid (t : List Cell) (ix : MatrixIndex) : Prop where
  ne : t ≠ []
  sorted : t.Pairwise (fun a b => Cell.cmp a b = .lt)
  slices : ix.slices = Triangle.metadata t
  e1 : 1 ≤ ix.expResolution
  s1 : 1 ≤ devSpacing ix
  cell : ∀ c ∈ t, PosCell c ix
  prevEq : ∀ a ∈ t, ∀ b ∈ t, a.ps = b.ps → a.pe = b.pe → a.ev = b.ev → a.prev = b.prev

theorem ediv_grid {x o s : Int} {n : Nat} (hs : 1 ≤ s) (h : x = o + (n : Int) * s) : (x - o) / s = n := by
  rw [h, add_sub_cancel_left, Int.mul_ediv_cancel _ (by omega)]

section pgrid
variable {t : List Cell} {ix : MatrixIndex} (h : PosGrid t ix)
include h

theorem pos_grid_j {c : Cell} (hc : c ∈ t) : monthToId c.ps = ix.expOrigin + (jOf ix c : Int) * ix.expResolution := by
  obtain ⟨j, hj⟩ := (h.cell c hc).j
  rw [jOf, ediv_grid h.e1 hj, Int.toNat_natCast]
  exact hj

theorem pos_grid_k {c : Cell} (hc : c ∈ t) : lagOf c = ix.devOrigin + (kOf ix c : Int) * devSpacing ix := by
  obtain ⟨k, hk⟩ := (h.cell c hc).k
  rw [kOf, ediv_grid h.s1 hk, Int.toNat_natCast]
  exact hk

theorem pos_expNdx_cell {c : Cell} (hc : c ∈ t) : ix.expNdx c.ps = .ok (jOf ix c) := by
  unfold MatrixIndex.expNdx
  simp only [ediv_grid h.e1 (pos_grid_j h hc)]
  rw [if_neg (by omega), Int.toNat_natCast]

theorem pos_devLag_cell {c : Cell} (hc : c ∈ t) : c.devLag .month = ((lagOf c : Int) : Rat) :=
  devLag_of_monthEnds (h.cell c hc).pee (h.cell c hc).eve

theorem pos_devNdx_lag {c : Cell} (hc : c ∈ t) : ix.devNdx ((lagOf c : Int) : Rat) = .ok (kOf ix c) := by
  have hs : (devSpacing ix : Rat) ≠ 0 := by
    have := h.s1
    exact_mod_cast (by omega : devSpacing ix ≠ 0)
  have hq : (((lagOf c : Int) : Rat) - (ix.devOrigin : Rat)) / ((min ix.devResolution ix.expResolution : Int) : Rat) =
      ((kOf ix c : Int) : Rat) := by
    rw [show (min ix.devResolution ix.expResolution : Int) = devSpacing ix from min_comm _ _, pos_grid_k h hc]
    push_cast
    rw [add_sub_cancel_left, mul_div_assoc, div_self hs, mul_one]
  unfold MatrixIndex.devNdx
  simp only [hq, truncInt_intCast]
  rw [if_neg (by omega), Int.toNat_natCast]

theorem pos_expNdx_pe {c : Cell} (hc : c ∈ t) : ix.expNdx c.pe = .ok (jOf ix c) := by
  have he := h.e1
  have hn : (monthToId c.pe - ix.expOrigin) / ix.expResolution = (jOf ix c : Int) := by
    rw [(h.cell c hc).pe, pos_grid_j h hc,
      show ix.expOrigin + (jOf ix c : Int) * ix.expResolution + ix.expResolution - 1 - ix.expOrigin =
        (ix.expResolution - 1) + ix.expResolution * (jOf ix c : Int) by rw [Int.mul_comm]; omega,
      Int.add_mul_ediv_left _ _ (by omega : ix.expResolution ≠ 0), Int.ediv_eq_zero_of_lt (by omega) (by omega)]
    omega
  unfold MatrixIndex.expNdx
  simp only [hn]
  rw [if_neg (by omega), Int.toNat_natCast]

theorem pos_md_mem_slices {c : Cell} (hc : c ∈ t) : c.md ∈ ix.slices := by
  rw [h.slices]
  exact Triangle.mem_metadata.mpr ⟨c, hc, rfl⟩

theorem pos_slice {c : Cell} (hc : c ∈ t) : siOf ix c < ix.slices.length ∧ ix.slices[siOf ix c]?.getD {} = c.md := by
  obtain ⟨_, hlt, he⟩ := indexOf?_mem (pos_md_mem_slices h hc)
  refine ⟨hlt, ?_⟩
  unfold siOf
  rw [List.getElem?_eq_getElem hlt, he]; rfl

theorem pos_position_inj {a b : Cell} (ha : a ∈ t) (hb : b ∈ t) (hs : siOf ix a = siOf ix b)
    (hj : jOf ix a = jOf ix b) (hk : kOf ix a = kOf ix b) : a = b := by
  have ga := h.cell a ha
  have gb := h.cell b hb
  have hmd : a.md = b.md := findIdx_inj (pos_md_mem_slices h ha) (pos_md_mem_slices h hb) hs
  have hpsid : monthToId a.ps = monthToId b.ps := by rw [pos_grid_j h ha, pos_grid_j h hb, hj]
  have hps : a.ps = b.ps := eq_of_monthToId_firsts ga.psv ga.ps1 gb.psv gb.ps1 hpsid
  have hpe : a.pe = b.pe := eq_of_monthToId_monthEnds ga.pev ga.pee gb.pev gb.pee (by rw [ga.pe, gb.pe, hpsid])
  have hev : a.ev = b.ev :=
    ev_eq_of_lagOf_eq hpe (by rw [pos_grid_k h ha, pos_grid_k h hb, hk]) ga.evv ga.eve gb.evv gb.eve
  exact eq_of_coord_eq h.sorted ha hb (Cell.coord_eq_iff.mpr ⟨hmd, hps, hpe, hev, h.prevEq a ha b hb hps hpe hev⟩)

theorem find?_gridPos {β : Type} {pay : Val → β} {es : List ((Nat × Nat × Nat × Nat) × β)}
    (hes : ∀ e, e ∈ es ↔ ∃ c ∈ t, ∃ kv ∈ c.values, kv.1 ∈ ix.fields ∧
      e = ((siOf ix c, fiOf ix kv.1, jOf ix c, kOf ix c), pay kv.2))
    {c : Cell} (hc : c ∈ t) (hnd : (Dict.keys c.values).Nodup) {f : String} (hf : f ∈ ix.fields) :
    (es.reverse.find? (·.1 == (siOf ix c, fiOf ix f, jOf ix c, kOf ix c))).map (·.2) =
      (Dict.get? c.values f).map pay := by
  refine find?_reverse_unique (fun e he hep => ?_) (fun hne => ?_)
  · obtain ⟨c', hc', kv, hkv, hkf, rfl⟩ := (hes e).mp he
    simp only [Prod.mk.injEq] at hep
    obtain ⟨h1, h2, h3, h4⟩ := hep
    obtain rfl : c' = c := pos_position_inj h hc' hc h1 h3 h4
    obtain rfl : kv.1 = f := findIdx_inj hkf hf h2
    rw [(Dict.get?_eq_some_iff_mem hnd (k := kv.1) (v := kv.2)).mpr hkv]
    rfl
  · cases hg : Dict.get? c.values f with
    | none => rw [hg] at hne; exact absurd rfl hne
    | some v => exact ⟨_, (hes _).mpr ⟨c, hc, (f, v), Dict.mem_of_get? hg, hf, rfl⟩, rfl⟩

omit h in
theorem find?_gridPos_none {β : Type} {pay : Val → β} {es : List ((Nat × Nat × Nat × Nat) × β)}
    (hes : ∀ e, e ∈ es ↔ ∃ c ∈ t, ∃ kv ∈ c.values, kv.1 ∈ ix.fields ∧
      e = ((siOf ix c, fiOf ix kv.1, jOf ix c, kOf ix c), pay kv.2))
    {i j k : Nat} (hno : ∀ c ∈ t, ¬ (siOf ix c = i ∧ jOf ix c = j ∧ kOf ix c = k)) (fi : Nat) :
    (es.reverse.find? (·.1 == (i, fi, j, k))).map (·.2) = none :=
  find?_reverse_unique (fun e he hep => by
    obtain ⟨c, hc, kv, _, _, rfl⟩ := (hes e).mp he
    simp only [Prod.mk.injEq] at hep
    exact absurd ⟨hep.1, hep.2.2.1, hep.2.2.2⟩ (hno c hc)) (fun hne => absurd rfl hne)

/-- the period dimension both writers allot (the index of the last period start) covers every cell -/
theorem pos_lastPeriod_spec :
    ∃ jmax, ix.expNdx (lastPeriodStart t) = .ok jmax ∧ ∀ c ∈ t, jOf ix c ≤ jmax := by
  obtain ⟨c0, hc0⟩ := List.exists_mem_of_ne_nil _ h.ne
  obtain ⟨pl, hpl⟩ := Option.isSome_iff_exists.mp
    (List.getLast?_isSome.mpr (List.ne_nil_of_mem (mem_periodsOf.mpr ⟨c0, hc0, rfl⟩)))
  obtain ⟨cl, hcl, hclp⟩ := mem_periodsOf.mp (List.mem_of_getLast? hpl)
  refine ⟨jOf ix cl, ?_, fun c hc => ?_⟩
  · rw [show lastPeriodStart t = cl.ps by unfold lastPeriodStart; rw [hpl]; simp [← hclp]]
    exact pos_expNdx_cell h hcl
  have hle : c.ps ≤ cl.ps := by
    rcases getLast?_max (periodsOf_starts_le t) hpl _ (mem_periodsOf.mpr ⟨c, hc, rfl⟩) with hR | he
    · rw [← hclp] at hR
      exact hR
    · rw [← hclp] at he
      exact DateOrder.le_of_eq (congrArg Prod.fst he)
  have hid := DateOrder.monthToId_mono ((valid_iff _).mp (h.cell c hc).psv).2.1 hle
  rw [pos_grid_j h hc, pos_grid_j h hcl] at hid
  have := Int.le_of_mul_le_mul_right (by omega : (jOf ix c : Int) * ix.expResolution ≤ (jOf ix cl : Int) * ix.expResolution)
    (by have := h.e1; omega)
  omega

theorem pos_maxLag_spec :
    ∃ kmax, ix.devNdx (maxLagOf t) = .ok kmax ∧ ∀ c ∈ t, kOf ix c ≤ kmax := by
  obtain ⟨⟨cm, hcm, hmax⟩, hall⟩ := maxLagOf_spec t h.ne
  refine ⟨kOf ix cm, by rw [hmax, pos_devLag_cell h hcm]; exact pos_devNdx_lag h hcm, fun c hc => ?_⟩
  have := hall c hc
  rw [hmax, pos_devLag_cell h hc, pos_devLag_cell h hcm] at this
  have hl : lagOf c ≤ lagOf cm := by exact_mod_cast this
  rw [pos_grid_k h hc, pos_grid_k h hcm] at hl
  have := Int.le_of_mul_le_mul_right (by omega : (kOf ix c : Int) * devSpacing ix ≤ (kOf ix cm : Int) * devSpacing ix)
    (by have := h.s1; omega)
  omega

/-- the dates `matrix_to_triangle` computes at the position of a cell are the cell's -/
theorem pos_grid_dates {c : Cell} (hc : c ∈ t) :
    idToMonth (ix.expOrigin + (jOf ix c : Int) * ix.expResolution) = c.ps ∧
    idToMonth (ix.expOrigin + ((jOf ix c : Int) + 1) * ix.expResolution - 1) false = c.pe ∧
    addMonths c.pe (matrixLag ix (kOf ix c)) = c.ev := by
  have g := h.cell c hc
  refine ⟨?_, ?_, ?_⟩
  · rw [← pos_grid_j h hc, idToMonth_true, firstOf_monthToId g.psv g.ps1]
  · rw [idToMonth_false, ← monthEndOf_monthToId g.pev g.pee, g.pe, pos_grid_j h hc]
    congr 1; rw [Int.add_mul]; omega
  · unfold matrixLag
    rw [← pos_grid_k h hc, addMonths_lagOf g.pee g.evv g.eve]

end pgrid

/-- the three nested loops of the reader as one `ofCells_scan` over `triples` -/
theorem ofCells_gridScan {t : List Cell} {ix : MatrixIndex} (h : PosGrid t ix) {back : Cell → Option Cell}
    {kd : CellKind} {f : Nat → Nat → Nat → Except Err (Option Cell)} {J K : Nat}
    (hj : ∀ c ∈ t, jOf ix c < J) (hk : ∀ c ∈ t, kOf ix c < K)
    (hcoord : ∀ c ∈ t, ∀ x ∈ back c, x.coord = c.coord ∧ x.kind = kd)
    (hcell : ∀ c ∈ t, f (siOf ix c) (jOf ix c) (kOf ix c) = .ok (back c))
    (helse : ∀ i j k, (∀ c ∈ t, ¬ (siOf ix c = i ∧ jOf ix c = j ∧ kOf ix c = k)) → f i j k = .ok none) :
    (((List.range ix.slices.length).mapM fun i => (List.range J).mapM fun j => (List.range K).mapM fun k => f i j k).bind
      fun cells => Triangle.ofCells ((cells.flatten.flatten).filterMap id)) = .ok (t.filterMap back) := by
  have hex : ∀ p : Nat × Nat × Nat, ∃ o, f p.1 p.2.1 p.2.2 = .ok o ∧
      ∀ x, o = some x ↔ ∃ c ∈ t, (siOf ix c, jOf ix c, kOf ix c) = p ∧ back c = some x := by
    intro p
    by_cases hp : ∃ c ∈ t, (siOf ix c, jOf ix c, kOf ix c) = p
    · obtain ⟨c, hc, rfl⟩ := hp
      refine ⟨_, hcell c hc, fun x => ⟨fun hb => ⟨c, hc, rfl, hb⟩, fun ⟨c', hc', e, hb⟩ => ?_⟩⟩
      simp only [Prod.mk.injEq] at e
      rw [← pos_position_inj h hc' hc e.1 e.2.1 e.2.2]
      exact hb
    · exact ⟨none, helse _ _ _ fun c hc hpos => hp ⟨c, hc, by rw [hpos.1, hpos.2.1, hpos.2.2]⟩,
        fun x => ⟨fun hn => (nomatch hn), fun ⟨c, hc, e, _⟩ => absurd ⟨c, hc, e⟩ hp⟩⟩
  choose g hg hsome using hex
  rw [mapM_grid hg]
  exact ofCells_scan (pos := fun c => (siOf ix c, jOf ix c, kOf ix c)) h.sorted (triples_nodup _ _ _)
    (fun c hc => mem_triples.mpr ⟨(pos_slice h hc).1, hj c hc, hk c hc⟩) hsome hcoord

/-- the previous evaluation date `rich_matrix_to_triangle` gives an incremental cell -/
def gridPrev (ix : MatrixIndex) (c : Cell) : Date :=
  if kOf ix c = 0 then c.ps.pred else addMonths c.pe (matrixLag ix (kOf ix c - 1))

structure RichCell (c : Cell) (ix : MatrixIndex) (inc : Bool) : Prop where
  pos : PosCell c ix
  kind : if inc = true then c.kind = .incremental else c.kind ≠ .incremental
  prev : c.prev = if inc = true then some (gridPrev ix c) else none
  nodup : (Dict.keys c.values).Nodup

/-- a month-aligned triangle on the grid of `ix`: cumulative (no previous dates) or incremental with
every previous evaluation date one development step before the evaluation date (the eve of the period
start for the first step); values are arbitrary; `ix.fields` any duplicate-free non-empty list -/
structure RichGrid (t : List Cell) (ix : MatrixIndex) : Prop where
  ne : t ≠ []
  sorted : t.Pairwise (fun a b => Cell.cmp a b = .lt)
  slices : ix.slices = Triangle.metadata t
  e1 : 1 ≤ ix.expResolution
  s1 : 1 ≤ devSpacing ix
  fieldsNodup : ix.fields.Nodup
  fieldsNe : ix.fields ≠ []
  cell : ∀ c ∈ t, RichCell c ix (firstIsIncremental t)

theorem RichGrid.pos {t : List Cell} {ix : MatrixIndex} (h : RichGrid t ix) : PosGrid t ix where
  ne := h.ne
  sorted := h.sorted
  slices := h.slices
  e1 := h.e1
  s1 := h.s1
  cell := fun c hc => (h.cell c hc).pos
  prevEq := by
    intro a ha b hb hps hpe hev
    rw [(h.cell a ha).prev, (h.cell b hb).prev]
    unfold gridPrev kOf lagOf
    rw [hps, hpe, hev]

def Matrix.rich (m : Matrix) : RichMatrix :=
  { index := m.index, nPeriods := m.nPeriods, nDevs := m.nDevs, incremental := m.incremental,
    assigns := m.entries.map fun e => (e.1, some (RVal.plain (Val.flt e.2))) }

theorem Matrix.back_rich (m : Matrix) (p : Pos) : RVal.back? (m.rich.get? p) = (m.get? p).map Val.flt := by
  show RVal.back? (lastAssign (m.entries.map _) p) = _
  unfold lastAssign Matrix.get?
  rw [← List.map_reverse, List.find?_map]
  show RVal.back? ((Option.map _ (m.entries.reverse.find? fun e => e.1 == p)).bind _) = _
  cases m.entries.reverse.find? fun e => e.1 == p <;> rfl

theorem fromMatrix_eq_fromRich (m : Matrix) : fromMatrix m = fromRich m.rich := by
  have hv : ∀ i j k, matrixValues m i j k = richValues m.rich i j k := fun i j k => by
    unfold matrixValues richValues
    simp only [Matrix.back_rich, Option.map_map]
    rfl
  unfold fromMatrix fromRich
  simp only [matrixCell, richCell, hv]
  rfl

/-- the cell that comes back for `c` when `W c f` is what comes back from its position under field `f`
(`Spec.C14.richBack` is the instance `W c f = (c.values.get? f).bind backVal`) -/
def gridBack (fields : List String) (W : Cell → String → Option Val) (c : Cell) : Option Cell :=
  match fields.filterMap fun f => (W c f).map fun v => (f, v) with
  | [] => none
  | vs => some { c with kind := typedKind c.kind, values := vs }

theorem gridBack_coords {F : List String} {W : Cell → String → Option Val} {c x : Cell} (hx : gridBack F W c = some x) :
    x.coord = c.coord ∧ x.kind = typedKind c.kind := by
  unfold gridBack at hx
  split at hx
  · cases hx
  · cases hx
    exact ⟨rfl, rfl⟩

theorem mk?_typed {c : Cell} (hd : c.datesOk = true) (vs : Dict Val) :
    Cell.mk? { c with kind := typedKind c.kind, values := vs } = .ok { c with kind := typedKind c.kind, values := vs } := by
  -- the date rules ask of the class only whether it is `IncrementalCell`
  refine Cell.mk?_of_datesOk (Eq.trans ?_ hd)
  obtain ⟨k, _, _, _, prev, _, _⟩ := c
  cases k <;> cases prev <;> rfl

theorem cell_eq_typed {c : Cell} {k : CellKind} {p : Option Date} (hk : typedKind c.kind = k) (hp : c.prev = p)
    (vs : Dict Val) :
    ({ kind := k, ps := c.ps, pe := c.pe, ev := c.ev, prev := p, values := vs, md := c.md } : Cell) =
      { c with kind := typedKind c.kind, values := vs } := by
  subst hk hp
  rfl

section read
variable {t : List Cell} {ix : MatrixIndex} {M : RichMatrix} {W : Cell → String → Option Val}

theorem richValues_cell (h : RichGrid t ix) (hix : M.index = ix)
    (hat : ∀ c ∈ t, ∀ f ∈ ix.fields, RVal.back? (M.get? (siOf ix c, fiOf ix f, jOf ix c, kOf ix c)) = W c f)
    {c : Cell} (hc : c ∈ t) :
    richValues M (siOf ix c) (jOf ix c) (kOf ix c) = ix.fields.filterMap fun f => (W c f).map fun v => (f, v) := by
  unfold richValues
  rw [hix]
  refine filterMap_zip_range ix.fields _ _ fun i f hif => ?_
  simp only
  rw [← findIdx_getElem_nodup h.fieldsNodup hif]
  exact congrArg _ (hat c hc f (List.mem_of_getElem? hif))

theorem richCell_cell (h : RichGrid t ix) (hix : M.index = ix) (hinc : M.incremental = firstIsIncremental t)
    (hat : ∀ c ∈ t, ∀ f ∈ ix.fields, RVal.back? (M.get? (siOf ix c, fiOf ix f, jOf ix c, kOf ix c)) = W c f)
    {c : Cell} (hc : c ∈ t) :
    richCell M (siOf ix c) (jOf ix c) (kOf ix c) = .ok (gridBack ix.fields W c) := by
  have g := h.cell c hc
  obtain ⟨d1, d2, d3⟩ := pos_grid_dates h.pos hc
  unfold richCell
  simp only [richValues_cell h hix hat hc, hinc]
  simp only [hix, d1, d2, d3, (pos_slice h.pos hc).2]
  unfold gridBack
  cases hb : ix.fields.filterMap fun f => (W c f).map fun v => (f, v) with
  | nil => simp
  | cons x l =>
    simp only [List.isEmpty_cons, Bool.false_eq_true, if_false]
    have hk := g.kind
    have hp := g.prev
    cases hi : firstIsIncremental t with
    | false =>
      rw [hi] at hk hp
      simp only [Bool.not_false, if_true]
      rw [cell_eq_typed (typedKind_cumulative (by simpa using hk)) (by simpa using hp), mk?_typed g.pos.dates]
      rfl
    | true =>
      rw [hi] at hk hp
      simp only [Bool.not_true, Bool.false_eq_true, if_false, beq_iff_eq]
      rw [cell_eq_typed (by rw [show c.kind = .incremental by simpa using hk]; rfl) (by simpa [gridPrev] using hp),
        mk?_typed g.pos.dates]
      rfl

theorem fromRich_grid (h : RichGrid t ix) (hix : M.index = ix) (hinc : M.incremental = firstIsIncremental t)
    (hat : ∀ c ∈ t, ∀ f ∈ ix.fields, RVal.back? (M.get? (siOf ix c, fiOf ix f, jOf ix c, kOf ix c)) = W c f)
    (helse : ∀ i fi j k, (∀ c ∈ t, ¬ (siOf ix c = i ∧ jOf ix c = j ∧ kOf ix c = k)) →
      RVal.back? (M.get? (i, fi, j, k)) = none)
    (hj : ∀ c ∈ t, jOf ix c < M.nPeriods) (hk : ∀ c ∈ t, kOf ix c < M.nDevs) :
    fromRich M = .ok (t.filterMap (gridBack ix.fields W)) := by
  unfold fromRich
  rw [hix]
  refine ofCells_gridScan h.pos (kd := if firstIsIncremental t then .incremental else .cumulative) hj hk
    (fun c hc x hx => ?_) (fun c hc => richCell_cell h hix hinc hat hc) (fun i j k hno => ?_)
  · obtain ⟨x1, x6⟩ := gridBack_coords (Option.mem_def.mp hx)
    refine ⟨x1, ?_⟩
    have hkk := (h.cell c hc).kind
    rw [x6]
    cases hi : firstIsIncremental t with
    | false => rw [hi] at hkk; exact typedKind_cumulative (by simpa using hkk)
    | true => rw [hi] at hkk; rw [show c.kind = .incremental by simpa using hkk]; rfl
  · have : richValues M i j k = [] := by
      unfold richValues
      rw [List.filterMap_eq_nil_iff]
      intro p _
      rw [helse i p.1 j k hno]
      rfl
    unfold richCell
    simp [this]

end read

end Bermuda.Frame
