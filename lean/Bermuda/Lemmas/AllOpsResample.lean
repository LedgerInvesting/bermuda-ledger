/-
C01 closure for `Model/AllOps.lean` (`Op2`): the resampling utilities `blend`, `thin`, `bootstrap`, `moment_match`.
Their result cells are input cells with other values, so the class and the coordinate of every cell stay; what each
operation does to a cell is read off the lemmas of `Lemmas/Blend.lean` and `Lemmas/Resample.lean`.
-/
import Bermuda.Lemmas.AllOpsBasis
import Bermuda.Lemmas.Blend
import Bermuda.Lemmas.Resample
namespace Bermuda.AllOps
open Bermuda Bermuda.Properties.C01 Bermuda.Blend Bermuda.Resample

theorem datesOk_of_frame {a b : Cell} (hc : a.coord = b.coord) (hk : a.kind = b.kind) : a.datesOk = b.datesOk := by
  injection hc with _ h1 h2 h3 h4
  exact Cell.datesOk_congr hk h1 h2 h3 h4

theorem canonical_of_frames {t l : List Cell} (ht : Canonical t)
    (h : List.Forall₂ (fun c o => o.coord = c.coord ∧ o.kind = c.kind) t l) : Canonical l :=
  let ⟨_, hk, hs⟩ := ofCells_same_coords h ht.2.1 ht.1
  ⟨hs, hk, fun o ho =>
    let ⟨c, hc, hco⟩ := forall₂_mem_right h o ho
    (datesOk_of_frame hco.1 hco.2).trans (allOk_of ht c hc)⟩

theorem mapE_ok_mem {α β : Type} {f : α → Except Err β} {l : List α} {out : List β}
    (h : Blend.mapE f l = .ok out) : ∀ b ∈ out, ∃ a ∈ l, f a = .ok b :=
  mapM_ok_mem (Blend.mapE_eq_mapM f l ▸ h)

theorem blendCells_dates {cells : List Cell} {w : Option (List Rat)} {m : Method}
    {idx : String → List Nat} {c : Cell} (hc : AllOk cells) (h : blendCells cells w m idx = .ok c) :
    c.datesOk = true := by
  cases cells with
  | nil => cases h
  | cons c0 rest =>
    obtain ⟨h1, h2, _⟩ := blendCells_inv h
    exact (datesOk_of_frame h1 h2).trans (hc c0 (by simp))

theorem blendLoop_allOk {idxs : List (List (Coord × Cell))} {m : Method} {idx : Nat → String → List Nat}
    (hidx : ∀ d ∈ idxs, ∀ p ∈ d, p.2.datesOk = true) {ks : List (Coord × Cell)} {i : Nat}
    {ws : List (Option (List Rat))} {out : List Cell} (h : blendLoop idxs m idx i ks ws = .ok out) : AllOk out := by
  rw [blendLoop_eq_mapM] at h
  refine mapM_forall h fun p _ c hc => ?_
  obtain ⟨cs, hcs, hc⟩ := bind_ok hc
  refine blendCells_dates (fun y hy => ?_) hc
  obtain ⟨d, hd, hp⟩ := gatherCells_mem hcs y hy
  exact hidx d hd (_, y) hp

theorem blend_canonical {ts : List (List Cell)} {w : Weights} {method : String}
    {idx : Nat → String → List Nat} {out : List Cell} (hts : ∀ t ∈ ts, AllOk t)
    (h : blend ts w method idx = .ok out) : Canonical out := by
  obtain ⟨_, _, _, cells, _, hcells, h⟩ := blend_ok.mp h
  refine ofCells_canonical h (blendLoop_allOk (fun d hd p hp => ?_) hcells)
  obtain ⟨t, ht, rfl⟩ := List.mem_map.mp hd
  exact hts t ht _ (mem_indexTriangle p hp).1

theorem thin_canonical {t r : List Cell} {k : Nat} {idx : List Nat} (ht : Canonical t)
    (h : thin t k idx = .ok (.fresh r)) : Canonical r := by
  rw [thin_fresh h ht.2.1 ht.1]
  exact canonical_of_frames ht (List.forall₂_map_right_iff.mpr (List.forall₂_same.mpr fun _ _ => ⟨rfl, rfl⟩))

theorem replicate_canonical {s : List Cell} {fields : List String} {p : RepParam} {i : Nat}
    {out : List Cell} (h : replicate s fields p i = .ok out) : Canonical out := by
  unfold replicate at h
  split at h
  · split at h
    · cases h
    · exact deriveMetadata_canonical h
  · split at h
    · cases h
    · split at h
      · cases h
      · exact deriveMetadata_canonical h

/-- `sum(triangles)` is modelled twice, for `aggregate` and for `bootstrap` -/
theorem resampleSum_eq (ts : List (List Cell)) : Resample.sumTriangles ts = Bermuda.sumTriangles ts := by
  cases ts with
  | nil => rfl
  | cons a rest => exact sumFrom_eq_smFoldE a rest

theorem bootstrap_all_canonical {t : List Cell} {n : Int} {field : Option (List String)}
    {P : Nat → Nat → RepParam} {reps : List (List Cell)}
    (h : bootstrap t n field P = .ok reps) : ∀ r ∈ reps, Canonical r := by
  intro r hr
  obtain ⟨i, hi, rfl⟩ := List.getElem_of_mem hr
  obtain ⟨rs, hrs, hsum⟩ := (bootstrapWith_ok (bootstrap_eq_with t n field P ▸ h)).2 i hi
  refine sumTriangles_canonical (fun x hx => ?_) (resampleSum_eq _ ▸ hsum)
  obtain ⟨_, _, hrep⟩ := forall₂_mem_right hrs x hx
  exact replicate_canonical hrep

theorem momentMatch_canonical {t out : List Cell} {fields : List String} {distOk : Bool}
    {draws : Nat → String → List Rat} (ht : Canonical t)
    (h : momentMatch t fields distOk draws = .ok out) : Canonical out :=
  canonical_of_frames ht (momentLoop_rel (momentMatch_loop h) ht.2.1 ht.1)

end Bermuda.AllOps
