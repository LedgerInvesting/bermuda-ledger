/-
Containers of C10 (Model/Join.lean): the duplicate-free key list `dedupJ`, `firstsBy`, `Spec.nodupB` (the dict
update/union facts are in `Lemmas/Assoc.lean`). What `join` itself returns is in `Lemmas/JoinHelpers.lean`.
Core Lean only.
-/
import Bermuda.Model.Join
import Bermuda.Spec.C10
import Bermuda.Lemmas.Assoc
namespace Bermuda
open List

theorem dedupJ_cons {α} [BEq α] (a : α) (l : List α) :
    dedupJ (a :: l) = if (dedupJ l).contains a then dedupJ l else a :: dedupJ l := rfl

theorem mem_dedupJ {α} [BEq α] [LawfulBEq α] {a : α} {l : List α} : a ∈ dedupJ l ↔ a ∈ l := by
  induction l generalizing a with
  | nil => simp [dedupJ]
  | cons b l ih =>
    rw [dedupJ_cons]
    split
    · rename_i h
      have hb : b ∈ l := ih.mp (List.contains_iff_mem.mp h)
      constructor
      · intro h'; exact List.mem_cons_of_mem _ (ih.mp h')
      · intro h'
        rcases List.mem_cons.mp h' with rfl | h'
        · exact ih.mpr hb
        · exact ih.mpr h'
    · simp [ih]

theorem nodup_dedupJ {α} [BEq α] [LawfulBEq α] (l : List α) : (dedupJ l).Nodup := by
  induction l with
  | nil => simp [dedupJ]
  | cons b l ih =>
    rw [dedupJ_cons]
    split
    · exact ih
    · rename_i h
      exact List.nodup_cons.mpr ⟨fun hm => h (List.contains_iff_mem.mpr hm), ih⟩

theorem dedupJ_of_nodup {α} [BEq α] [LawfulBEq α] {l : List α} (h : l.Nodup) : dedupJ l = l := by
  induction l with
  | nil => rfl
  | cons a l ih =>
    rw [List.nodup_cons] at h
    rw [dedupJ_cons, ih h.2]
    have : l.contains a = false := by
      rw [Bool.eq_false_iff]; intro hc; exact h.1 (List.contains_iff_mem.mp hc)
    rw [this]; rfl

theorem dedupJ_append_of_subset {α} [BEq α] [LawfulBEq α] {L M : List α} (h : ∀ x ∈ L, x ∈ M) :
    dedupJ (L ++ M) = dedupJ M := by
  induction L with
  | nil => rfl
  | cons a L ih =>
    rw [List.cons_append, dedupJ_cons, ih (fun x hx => h x (by simp [hx]))]
    have : (dedupJ M).contains a = true := List.contains_iff_mem.mpr (mem_dedupJ.mpr (h a (by simp)))
    rw [this]; rfl

theorem nodupB_iff {α} [BEq α] [LawfulBEq α] {l : List α} : Spec.nodupB l = true ↔ l.Nodup := by
  induction l with
  | nil => simp [Spec.nodupB]
  | cons a l ih =>
    simp only [Spec.nodupB, Bool.and_eq_true, Bool.not_eq_true', List.nodup_cons, ih]
    rw [Bool.eq_false_iff, Ne, List.contains_iff_mem]

theorem Dict.get?_nil_j {α} (k : String) : Dict.get? ([] : Dict α) k = none := rfl

/-! ### `firstsBy` -/

theorem mem_firstsBy {α κ} [BEq κ] [LawfulBEq κ] (key : α → κ) {seen : List κ} {l : List α} {c : α} :
    c ∈ firstsBy key seen l ↔ key c ∉ seen ∧ l.find? (fun d => key d == key c) = some c := by
  induction l generalizing seen with
  | nil => simp [firstsBy]
  | cons a l ih =>
    rw [firstsBy, List.find?_cons]
    by_cases hk : key a = key c
    · -- `a` has the key of `c`: the search stops at `a`, and a later `c` is dropped because its key is seen by then
      split <;> rename_i hs
      · simp [ih, ← hk, List.contains_iff_mem.mp hs]
      · have hm : key a ∉ seen := fun h => hs (List.contains_iff_mem.mpr h)
        simp [ih, ← hk, hm, eq_comm]
    · -- `a` has another key: it is not `c`, and seeing its key does not concern `c`
      have hne : c ≠ a := fun e => hk (e ▸ rfl)
      have hkc : ¬ key c = key a := fun e => hk e.symm
      have hb : (key a == key c) = false := beq_eq_false_iff_ne.mpr hk
      split
      · simp [ih, hb]
      · simp [ih, hb, hne, hkc]

theorem firstsBy_keys_nodup {α κ} [BEq κ] [LawfulBEq κ] (key : α → κ) (seen : List κ) (l : List α) :
    ((firstsBy key seen l).map key).Nodup := by
  induction l generalizing seen with
  | nil => exact List.nodup_nil
  | cons a l ih =>
    rw [firstsBy]
    split
    · exact ih seen
    · rw [List.map_cons, List.nodup_cons]
      refine ⟨fun hmem => ?_, ih _⟩
      obtain ⟨c, hc, hkc⟩ := List.mem_map.mp hmem
      exact ((mem_firstsBy key).mp hc).1 (hkc ▸ List.mem_cons_self)

theorem firstsBy_covers {α κ} [BEq κ] [LawfulBEq κ] (key : α → κ) (seen : List κ) (l : List α) :
    ∀ d ∈ l, key d ∈ seen ∨ key d ∈ (firstsBy key seen l).map key := by
  intro d hd
  by_cases hs : key d ∈ seen
  · exact Or.inl hs
  · obtain ⟨c, hc⟩ := Option.isSome_iff_exists.mp
      (List.find?_isSome.mpr ⟨d, hd, beq_self_eq_true (key d)⟩ : (l.find? fun x => key x == key d).isSome)
    have hk : key c = key d := eq_of_beq (List.find?_some (p := fun x => key x == key d) hc)
    rw [← hk] at hs hc
    exact Or.inr (List.mem_map.mpr ⟨c, (mem_firstsBy key).mpr ⟨hs, hc⟩, hk⟩)

end Bermuda
