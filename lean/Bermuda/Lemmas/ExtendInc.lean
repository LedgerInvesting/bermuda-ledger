/-
Lemmas for the incremental path of `make_right_triangle` / `make_right_diagonal` (C15): the rows `to_incremental`
works on, the edge cells of `_fix_prev_evaluation_date` (one per row of its argument, as `right_edge` has one per
observed row), the stages of the common tail on an incremental input, and what `to_cumulative` keeps of an incremental
input (`SameGrid`: rows and evaluation dates).
-/
import Bermuda.Lemmas.Extend
import Mathlib.Data.List.Nodup
namespace Bermuda.Extend
open Std

/-! ### `incAt` (`Lemmas/Basis.lean`) spelt out for the two positions in a row (not used below) -/

/-- the incremental cell between two consecutive cumulative cells `a`, `b` of row `k` -/
def pairCell (k : RowKey) (a b : Cell) (v : Dict Val) : Cell :=
  { kind := .incremental, ps := k.1.1, pe := k.1.2, prev := some a.ev, ev := b.ev, md := k.2, values := v }

/-- the first incremental cell of row `k` -/
def firstCell (k : RowKey) (c0 : Cell) : Cell :=
  { kind := .incremental, ps := k.1.1, pe := k.1.2, prev := some k.1.1.pred, ev := c0.ev, md := k.2,
    values := c0.values }

theorem rowKey_firstCell (k : RowKey) (c0 : Cell) : rowKey (firstCell k c0) = k := rfl
theorem rowKey_pairCell (k : RowKey) (a b : Cell) (v : Dict Val) : rowKey (pairCell k a b v) = k := rfl

/-! ### rows of a triangle (`orderedRows`) -/

theorem orderedRows_spec {t : List Cell} {p : RowKey × List Cell} (hp : p ∈ orderedRows t) :
    (∀ c, c ∈ p.2 ↔ c ∈ t ∧ rowKey c = p.1) ∧ p.2.Pairwise (fun a b => leOf Cell.cmp a b) :=
  ⟨fun _ => (orderedRows_partition t).mem_iff hp,
    (mem_orderedRows_iff.mp hp).2 ▸ sorted_mergeSort (cmp := Cell.cmp) _⟩

theorem orderedRows_key_unique {t : List Cell} {p q : RowKey × List Cell} (hp : p ∈ orderedRows t)
    (hq : q ∈ orderedRows t) (h : p.1 = q.1) : p = q :=
  inj_of_nodup_map (orderedRows_keys_nodup t) hp hq h

/-- `to_incremental` on a non-incremental triangle: the rows converted one by one, then sorted -/
theorem toIncremental_ok {right inc : List Cell} (hni : Triangle.isIncremental right = false)
    (h : Triangle.toIncremental right = .ok inc) :
    ∃ parts, (orderedRows right).mapM (fun p => incRow p.1 p.2) = .ok parts ∧ inc.Perm parts.flatten := by
  rw [toIncremental_if, hni] at h
  obtain ⟨D, hD, h⟩ := bind_ok h
  obtain ⟨parts, hp, rfl⟩ := map_ok hD
  cases h
  exact ⟨parts, hp, List.mergeSort_perm _ _⟩

/-- the `edge_cells` of `_fix_prev_evaluation_date` -/
def edgeCellsOf (inc : List Cell) : List Cell :=
  (Triangle.slices inc).flatMap fun (_, slc) => (periodRows slc).filterMap fun (_, row) => row.head?

/-- `e` is the head of its (slice, period) row of `inc`: it is in `inc`, and no cell of `inc` with the
same metadata and period has an earlier evaluation date -/
theorem edgeCellsOf_mem {inc : List Cell} {e : Cell} (he : e ∈ edgeCellsOf inc) :
    e ∈ inc ∧ ∀ x ∈ inc, x.md = e.md → cellPeriod x = cellPeriod e → Date.cmp e.ev x.ev ≠ .gt := by
  unfold edgeCellsOf at he
  obtain ⟨p, hp, he⟩ := List.mem_flatMap.mp he
  obtain ⟨q, hq, hhead⟩ := List.mem_filterMap.mp he
  obtain ⟨hrow, hsorted⟩ := periodRows_spec hq
  have heq : e ∈ q.2 := List.mem_of_head? hhead
  obtain ⟨hes, hep⟩ := (hrow e).mp heq
  obtain ⟨hei, hem⟩ := (Triangle.mem_slice_iff hp e).mp hes
  refine ⟨hei, ?_⟩
  intro x hx hmd hper
  have hxs : x ∈ p.2 := (Triangle.mem_slice_iff hp x).mpr ⟨hx, hmd.trans hem⟩
  have hxq : x ∈ q.2 := (hrow x).mpr ⟨hxs, hper.trans hep⟩
  rcases head?_min hsorted hhead x hxq with rfl | hle
  · exact DateOrder.le_refl _
  · exact DateOrder.le_iff_not_lt.mpr ((mdEvCmp_not_gt hle).2 (by rw [hmd]; exact ReflCmp.compare_self))

/-- every (metadata, period) group of `inc` has its head among the edge cells -/
theorem edgeCellsOf_cover {inc : List Cell} {d : Cell} (hd : d ∈ inc) :
    ∃ e ∈ edgeCellsOf inc, e.md = d.md ∧ cellPeriod e = cellPeriod d := by
  obtain ⟨p, hp, hpm, hdp⟩ := Triangle.exists_slice hd
  obtain ⟨q, hq, hqp, hdq⟩ := periodRows_cover hdp
  cases hh : q.2.head? with
  | none =>
    have : q.2 = [] := by simpa using hh
    rw [this] at hdq; cases hdq
  | some e =>
    have heq : e ∈ q.2 := List.mem_of_head? hh
    obtain ⟨hrow, _⟩ := periodRows_spec hq
    obtain ⟨hes, hep⟩ := (hrow e).mp heq
    obtain ⟨_, hem⟩ := (Triangle.mem_slice_iff hp e).mp hes
    refine ⟨e, ?_, hem.trans hpm, hep.trans hqp⟩
    unfold edgeCellsOf
    exact List.mem_flatMap.mpr ⟨p, hp, List.mem_filterMap.mpr ⟨q, hq, hh⟩⟩

/-- a list built slice by slice, row by row, with at most one cell per row, has pairwise different row keys -/
theorem nodup_rowKey_blocks {σ β} (L : List (Metadata × σ)) (rows : Metadata × σ → List β) (key : β → Period)
    (pick : β → Option Cell) (hL : (L.map (·.1)).Nodup) (hk : ∀ p ∈ L, ((rows p).map key).Nodup)
    (hp : ∀ p ∈ L, ∀ q ∈ rows p, ∀ c, pick q = some c → rowKey c = (key q, p.1)) :
    ((L.flatMap fun p => (rows p).filterMap pick).map rowKey).Nodup := by
  have := nodup_flatten_tagged (fun c : Cell => c.md) rowKey (fun _ _ h => md_of_rowKey h)
    (G := L.map fun p => (p.1, (rows p).filterMap pick)) (by rwa [List.map_map])
    (fun g hg => by
      obtain ⟨p, hpL, rfl⟩ := List.mem_map.mp hg
      refine List.Nodup.sublist (filterMap_map_sublist (h := fun q => (key q, p.1)) (rows p) (hp p hpL)) ?_
      rw [show (rows p).map (fun q => (key q, p.1)) = ((rows p).map key).map (fun k => (k, p.1)) by
        rw [List.map_map]; rfl]
      exact List.Nodup.map (fun a b h => (Prod.mk.inj h).1) (hk p hpL))
    (fun g hg c hc => by
      obtain ⟨p, hpL, rfl⟩ := List.mem_map.mp hg
      obtain ⟨q, hq, hpick⟩ := List.mem_filterMap.mp hc
      exact congrArg Prod.snd (hp p hpL q hq c hpick))
  rwa [List.map_map, ← List.flatMap_def] at this

/-- `right_edge` has one cell per slice row -/
theorem rightEdge_rows_nodup {t obs : List Cell} (h : Triangle.rightEdge t = .ok obs) :
    (obs.map rowKey).Nodup := by
  unfold Triangle.rightEdge at h
  have hperm := Triangle.ofCells_perm h
  rw [(hperm.map rowKey).nodup_iff]
  refine nodup_rowKey_blocks (Triangle.slices t) (fun p => groupBy (fun c : Cell => (c.ps, c.pe)) p.2) (·.1)
    (fun q => lastBy? (fun a b => Date.cmp a.ev b.ev != .gt) q.2) (slices_partition t).nodup
    (fun p _ => groupBy_keys_nodup _ p.2) fun p hp q hq c hc => ?_
  have hcq : c ∈ q.2 := mem_of_lastBy? hc
  have hkey : (c.ps, c.pe) = q.1 := key_of_mem_groupBy hq hcq
  exact Prod.ext hkey ((Triangle.mem_slice_iff hp c).mp (mem_of_mem_groupBy hq hcq)).2

/-- the edge cells of `_fix_prev_evaluation_date`: one per (slice, period) -/
theorem edgeCellsOf_rows_nodup (inc : List Cell) : ((edgeCellsOf inc).map rowKey).Nodup := by
  unfold edgeCellsOf
  refine nodup_rowKey_blocks (Triangle.slices inc) (fun p => periodRows p.2) (·.1) (fun q => q.2.head?)
    (slices_partition inc).nodup (fun p _ => (periodRows_partition p.2).nodup) fun p hp q hq c hc => ?_
  obtain ⟨hcs, hper⟩ := ((periodRows_spec hq).1 c).mp (List.mem_of_head? hc)
  exact Prod.ext hper ((Triangle.mem_slice_iff hp c).mp hcs).2

/-! ### `_fix_prev_evaluation_date` and the incremental tail of the right-hand operators -/

/-- the comprehension `fixed_edge_cells` of `_fix_prev_evaluation_date` before the constructor calls; spelt as in the model, so that
`fixPrev_eq` sees it by unfolding -/
def fixedCells (obs inc : List Cell) : List Cell :=
  obs.flatMap fun cell =>
    ((edgeCellsOf inc).filter fun ob => cellPeriod ob == cellPeriod cell && ob.md == cell.md).map fun ob =>
      { ob with prev := some cell.ev }

theorem mem_fixedCells {obs inc : List Cell} {y : Cell} : y ∈ fixedCells obs inc ↔
    ∃ cell ∈ obs, ∃ ob ∈ edgeCellsOf inc, cellPeriod ob = cellPeriod cell ∧ ob.md = cell.md ∧
      y = { ob with prev := some cell.ev } := by
  simp only [fixedCells, List.mem_flatMap, List.mem_map, List.mem_filter, Bool.and_eq_true, beq_iff_eq]
  constructor
  · rintro ⟨cell, hcell, ob, ⟨hob, hp, hm⟩, rfl⟩
    exact ⟨cell, hcell, ob, hob, hp, hm, rfl⟩
  · rintro ⟨cell, hcell, ob, hob, hp, hm, rfl⟩
    exact ⟨cell, hcell, ob, ⟨hob, hp, hm⟩, rfl⟩

theorem fixPrev_eq {t inc obs : List Cell} (hobs : Triangle.rightEdge t = .ok obs) :
    fixPrevEvaluationDate t inc =
      if ∀ y ∈ fixedCells obs inc, y.datesOk = true then
        Triangle.ofCells ((inc.filter fun c => !(edgeCellsOf inc).contains c) ++ fixedCells obs inc)
      else .error .valueError := by
  have : fixPrevEvaluationDate t inc = (do
      let fixed ← (fixedCells obs inc).mapM Cell.mk?
      Triangle.ofCells ((inc.filter fun c => !(edgeCellsOf inc).contains c) ++ fixed)) := by
    unfold fixPrevEvaluationDate
    rw [hobs]
    rfl
  rw [this, Cell.mapM_mk?]
  split <;> rfl

/-- a successful `_fix_prev_evaluation_date`: the observed right edge exists, every re-linked first cell passes the
constructor, and the result is the untouched cells together with the re-linked ones -/
theorem fixPrev_ok {t inc out : List Cell} (h : fixPrevEvaluationDate t inc = .ok out) :
    ∃ obs, Triangle.rightEdge t = .ok obs ∧ (∀ y ∈ fixedCells obs inc, y.datesOk = true) ∧
      out.Perm ((inc.filter fun c => !(edgeCellsOf inc).contains c) ++ fixedCells obs inc) := by
  obtain ⟨obs, hobs, _⟩ := bind_ok (show (Triangle.rightEdge t >>= _) = .ok out from h)
  rw [fixPrev_eq hobs] at h
  split at h
  · exact ⟨obs, hobs, ‹_›, Triangle.ofCells_perm h⟩
  · cases h

/-- what an added cell of an incremental result looks like: an empty incremental cell at the coordinate
of a new cumulative cell, whose previous evaluation date is either the observed right edge of its row
(and then it is the earliest added cell of the row) or the evaluation date of the added cell just
before it in the row -/
def ChainCell (t new : List Cell) (c : Cell) : Prop :=
  c.kind = .incremental ∧ c.values = [] ∧
  ((∃ obs e, Triangle.rightEdge t = .ok obs ∧ e ∈ obs ∧ e.md = c.md ∧ cellPeriod e = cellPeriod c ∧
      c.prev = some e.ev ∧ (∃ n ∈ new, rowKey n = rowKey c ∧ n.ev = c.ev) ∧
      ∀ n' ∈ new, rowKey n' = rowKey c → Date.cmp c.ev n'.ev ≠ .gt) ∨
   (∃ a ∈ new, ∃ b ∈ new, rowKey a = rowKey c ∧ rowKey b = rowKey c ∧ c.prev = some a.ev ∧
      c.ev = b.ev ∧ a.ev < b.ev ∧
      ∀ n' ∈ new, rowKey n' = rowKey c → ¬ (a.ev < n'.ev ∧ n'.ev < b.ev)))

/-- the common tail on an incremental input: the sorted new cells `right` are converted by `to_incremental` and
re-linked by `_fix_prev_evaluation_date` -/
theorem finishRight_inc_ok {t new out : List Cell} (hinc : Triangle.isIncremental t = true)
    (hkind : ∀ n ∈ new, n.kind = .cumulative) (h : finishRight t new = .ok out) :
    ∃ right inc, right.Perm new ∧ Triangle.isIncremental right = false ∧
      Triangle.toIncremental right = .ok inc ∧ fixPrevEvaluationDate t inc = .ok out := by
  obtain ⟨right, hright, ⟨h', _⟩ | ⟨_, inc, hincr, h⟩⟩ := finishRight_ok h
  · rw [hinc] at h'; cases h'
  have hperm := Triangle.ofCells_perm hright
  exact ⟨right, inc, hperm,
    not_isIncremental_of_all (fun c hc => by rw [hkind c (hperm.mem_iff.mp hc)]; simp), hincr, h⟩

/-! ### `to_cumulative` keeps rows and evaluation dates -/

theorem toCumulative_grid {t cum : List Cell} (hinc : Triangle.isIncremental t = true)
    (h : Triangle.toCumulative t = .ok cum) :
    (∀ c ∈ cum, c.kind = .cumulative ∧ ∃ x ∈ t, rowKey x = rowKey c ∧ x.ev = c.ev) ∧
    (∀ x ∈ t, ∃ c ∈ cum, rowKey c = rowKey x ∧ c.ev = x.ev) := by
  obtain ⟨hk, hp⟩ := Bermuda.toCumulative_cells hinc h
  refine ⟨fun c hc => ⟨(hk c hc).1, ?_⟩, fun x hx => ?_⟩
  · obtain ⟨x, hx, e⟩ := List.mem_map.mp (hp.mem_iff.mp (List.mem_map_of_mem hc))
    exact ⟨x, hx, (Prod.mk.inj e).1, (Prod.mk.inj e).2⟩
  · obtain ⟨c, hc, e⟩ := List.mem_map.mp (hp.mem_iff.mpr (List.mem_map_of_mem hx))
    exact ⟨c, hc, (Prod.mk.inj e).1, (Prod.mk.inj e).2⟩

/-- `t` and `cum` have the same rows and the same evaluation dates on every row -/
def SameGrid (t cum : List Cell) : Prop :=
  (∀ c ∈ cum, ∃ x ∈ t, rowKey x = rowKey c ∧ x.ev = c.ev) ∧
  (∀ x ∈ t, ∃ c ∈ cum, rowKey c = rowKey x ∧ c.ev = x.ev)

theorem SameGrid.refl (t : List Cell) : SameGrid t t :=
  ⟨fun c hc => ⟨c, hc, rfl, rfl⟩, fun x hx => ⟨x, hx, rfl, rfl⟩⟩

theorem CumOf.sameGrid {t cum : List Cell} (h : CumOf t cum) : SameGrid t cum := by
  rcases h with ⟨_, rfl⟩ | ⟨hinc, hcum⟩
  · exact .refl _
  · obtain ⟨hA, hB⟩ := toCumulative_grid hinc hcum
    exact ⟨fun c hc => (hA c hc).2, hB⟩

theorem EdgeFn.rows_obs {f : List Cell → Except Err (List Cell)} (hf : EdgeFn f) {t cum new : List Cell}
    (hcum : CumOf t cum) (h : overSlices f cum = .ok new) : ∀ n ∈ new, ∃ x ∈ t, rowKey x = rowKey n := fun n hn => by
  obtain ⟨e, he, hek⟩ := hf.rows h n hn
  obtain ⟨x, hx, hxk, _⟩ := hcum.sameGrid.1 e he
  exact ⟨x, hx, hxk.trans hek⟩

end Bermuda.Extend
