/-
Lemmas for the bridge theorem of C20 (`spec_holds_on_model`): the Spec predicates hold on what the
model computes. Statistics first (names ↔ values), then metrics (tables), then rows and neighbours.
-/
import Bermuda.Model.Plot
import Bermuda.Spec.C20
import Bermuda.Lemmas.Plot
import Bermuda.Lemmas.DateOrder
import Bermuda.Lemmas.Assoc
import Bermuda.Lemmas.Sort
import Bermuda.Generated.PlotMetrics
import Mathlib.Tactic.Linarith
namespace Bermuda.Plot
open Bermuda Bermuda.Spec.C20

theorem all2_map {α β} (f : α → β → Bool) (g : α → β) (l : List α)
    (h : ∀ a ∈ l, f a (g a) = true) : all2 f l (l.map g) = true := by
  induction l with
  | nil => rfl
  | cons a rest ih =>
    simp only [List.map_cons, all2, Bool.and_eq_true]
    exact ⟨h a (by simp), ih fun b hb => h b (by simp [hb])⟩

theorem approx_zero_iff {a b : Rat} : approx 0 a b = true ↔ a = b := by
  unfold approx absR
  rw [decide_eq_true_iff, zero_mul]
  constructor
  · intro h
    split at h <;> linarith
  · rintro rfl; simp

theorem approx_self (a : Rat) : approx 0 a a = true := approx_zero_iff.mpr rfl

theorem entryApprox_self (e : MetricEntry) : entryApprox 0 e e = true := by
  cases e with
  | mean q => exact approx_self q
  | samples d =>
    simp only [entryApprox, beq_self_eq_true, Bool.true_and]
    simpa using all2_map _ id d fun x _ => approx_self x.2

theorem leTol_of_le {a b : Rat} (h : a ≤ b) : leTol 0 a b = true := by
  simp [leTol, h]

/-- the positional constructor call of `from_metric`, spelled out against the generated tables -/
theorem stats_eq (xs : List Rat) : statNames.zip (statValues xs) =
    [("mean", .exact (mean xs)), ("median", .exact (median xs)), ("sd", .sqrt (variance xs)),
     ("min", .exact (minimum xs)), ("max", .exact (maximum xs)),
     ("q2_5", .exact (quantile xs ((1 : Rat) / 40))), ("q5", .exact (quantile xs ((1 : Rat) / 20))),
     ("q10", .exact (quantile xs ((1 : Rat) / 10))), ("q20", .exact (quantile xs ((1 : Rat) / 5))),
     ("q50", .exact (quantile xs ((1 : Rat) / 2))), ("q80", .exact (quantile xs ((4 : Rat) / 5))),
     ("q90", .exact (quantile xs ((9 : Rat) / 10))), ("q95", .exact (quantile xs ((19 : Rat) / 20))),
     ("q97_5", .exact (quantile xs ((39 : Rat) / 40)))] := rfl

theorem stats_keys (xs : List Rat) : (statNames.zip (statValues xs)).map (·.1) = requiredStats := by
  rw [stats_eq]; rfl

theorem parseLevel_names :
    parseLevel "mean" = none ∧ parseLevel "median" = none ∧ parseLevel "sd" = none ∧
    parseLevel "min" = none ∧ parseLevel "max" = none ∧
    parseLevel "q2_5" = some ((1 : Rat) / 40) ∧ parseLevel "q5" = some ((1 : Rat) / 20) ∧
    parseLevel "q10" = some ((1 : Rat) / 10) ∧ parseLevel "q20" = some ((1 : Rat) / 5) ∧
    parseLevel "q50" = some ((1 : Rat) / 2) ∧ parseLevel "q80" = some ((4 : Rat) / 5) ∧
    parseLevel "q90" = some ((9 : Rat) / 10) ∧ parseLevel "q95" = some ((19 : Rat) / 20) ∧
    parseLevel "q97_5" = some ((39 : Rat) / 40) := by decide +kernel

/-! ### min / max: the fold of the Spec equals the end of the sorted sample -/

theorem minOf_eq_minimum (xs : List Rat) : minOf xs = minimum xs := by
  cases xs with
  | nil => simp [minOf, minimum, sortRat, nth]
  | cons a rest =>
    obtain ⟨hmem, hbest⟩ := foldl_best StrictWeak.ratLt rest a
    unfold minOf minimum
    apply le_antisymm
    · exact not_lt.mp (hbest _ (mem_sortRat.mp (nth_mem (sortRat_ne_nil (List.cons_ne_nil a rest)) 0)))
    · exact first_le_mem (sortRat_sorted _) (mem_sortRat.mpr hmem)

theorem maxOf_eq_maximum (xs : List Rat) : maxOf xs = maximum xs := by
  cases xs with
  | nil => simp [maxOf, maximum, sortRat, nth]
  | cons a rest =>
    obtain ⟨hmem, hbest⟩ := foldl_best StrictWeak.ratLt.swap rest a
    unfold maxOf maximum
    rw [← sortRat_length (a :: rest)]
    apply le_antisymm
    · exact mem_le_last (sortRat_sorted _) (mem_sortRat.mpr hmem)
    · exact not_lt.mp (hbest _ (mem_sortRat.mp (nth_mem (sortRat_ne_nil (List.cons_ne_nil a rest)) _)))

/-! ### a summary built by the model carries the statistics its names state -/

theorem statsMatch_self (xs : List Rat) : statsMatch 0 xs (statNames.zip (statValues xs)) = true := by
  rw [stats_eq]
  obtain ⟨-, -, -, -, -, p6, p7, p8, p9, p10, p11, p12, p13, p14⟩ := parseLevel_names
  simp [statsMatch, requiredStats, List.lookup, statOf, p6, p7, p8, p9, p10, p11, p12, p13, p14,
    svalApprox, approx_self, minOf_eq_minimum, maxOf_eq_maximum]

theorem summaryMatches_self (mv : MV) : summaryMatches 0 mv (fieldSummary mv) = true := by
  cases mv with
  | scalar q => simp [summaryMatches, fieldSummary, svalApprox, approx_self]
  | sample xs =>
    cases xs with
    | nil => simpa [summaryMatches, fieldSummary] using statsMatch_self []
    | cons x rest =>
      cases rest with
      | nil => simp [summaryMatches, fieldSummary, svalApprox, approx_self]
      | cons y r => simpa [summaryMatches, fieldSummary] using statsMatch_self (x :: y :: r)

/-! ### at tolerance 0 the value clause of the Spec implies its order clause -/

/-- a level read off a name is a percentage built from naturals -/
theorem parseLevel_nonneg {n : String} {l : Rat} (h : parseLevel n = some l) : 0 ≤ l := by
  have h100 : (0 : Rat) ≤ 100 := by norm_num
  unfold parseLevel at h
  split at h
  · simp only at h
    split at h
    · cases h
    · split at h
      · split at h
        · cases h
        · cases h; exact div_nonneg (Nat.cast_nonneg _) h100
      · split at h
        · cases h
        · cases h
          exact div_nonneg (add_nonneg (Nat.cast_nonneg _) (div_nonneg (Nat.cast_nonneg _) (Nat.cast_nonneg _))) h100
  · cases h

/-- none of the five moment names parses as a level -/
theorem statOf_of_level {xs : List Rat} {n : String} {l : Rat} (h : parseLevel n = some l) :
    statOf xs n = some (.exact (quantile xs l)) := by
  obtain ⟨p1, p2, p3, p4, p5, -⟩ := parseLevel_names
  have hne : ∀ m, parseLevel m = none → (n == m) = false := fun m hm =>
    beq_false_of_ne fun e => by rw [e, hm] at h; cases h
  simp only [statOf, hne _ p1, hne _ p2, hne _ p3, hne _ p4, hne _ p5, h, Bool.false_eq_true, if_false, Option.map_some]

theorem svalApprox_exact {v : SVal} {a b : Rat} (h : svalApprox 0 (.exact a) v = true) (hv : exactOf v = some b) :
    a = b := by
  cases v with
  | exact q => cases hv; exact approx_zero_iff.mp h
  | sqrt _ => cases hv

theorem statsMatch_entry {xs : List Rat} {st : List (String × SVal)} (h : statsMatch 0 xs st = true)
    {e : String × SVal} (he : e ∈ st) : ∃ v, statOf xs e.1 = some v ∧ svalApprox 0 v e.2 = true := by
  have := List.all_eq_true.mp (Bool.and_eq_true_iff.mp h).2 e he
  split at this
  · exact ⟨_, ‹_›, this⟩
  · cases this

theorem namedQuantiles_of_statsMatch {xs : List Rat} {st : List (String × SVal)} (h : statsMatch 0 xs st = true)
    (fc : Bool) : ∀ p ∈ namedQuantiles ⟨st, fc⟩, 0 ≤ p.1 ∧ quantile xs p.1 = p.2 := by
  intro p hp
  obtain ⟨e, he, hp⟩ := List.mem_filterMap.mp hp
  obtain ⟨l, hl, hp⟩ := Option.bind_eq_some_iff.mp hp
  obtain ⟨v, hv, hp⟩ := Option.bind_eq_some_iff.mp hp
  cases hp
  obtain ⟨w, hw, ha⟩ := statsMatch_entry h he
  rw [statOf_of_level hl] at hw
  cases hw
  exact ⟨parseLevel_nonneg hl, svalApprox_exact ha hv⟩

theorem lookup_of_statsMatch {xs : List Rat} {st : List (String × SVal)} (h : statsMatch 0 xs st = true)
    {n : String} {a b : Rat} (hn : statOf xs n = some (.exact a)) (hb : (st.lookup n).bind exactOf = some b) :
    a = b := by
  obtain ⟨s, hs, hs'⟩ := Option.bind_eq_some_iff.mp hb
  obtain ⟨l₁, l₂, rfl, -⟩ := List.lookup_eq_some_iff.mp hs
  obtain ⟨w, hw, ha⟩ := statsMatch_entry h (e := (n, s)) (by simp)
  rw [hn] at hw
  cases hw
  exact svalApprox_exact ha hs'

/-- for every sample and every list of entries that matches it, not only the one the model builds -/
theorem summaryMonotone_of_statsMatch {xs : List Rat} {st : List (String × SVal)} (h : statsMatch 0 xs st = true)
    (fc : Bool) : summaryMonotone 0 ⟨st, fc⟩ = true := by
  have hq := namedQuantiles_of_statsMatch h fc
  unfold summaryMonotone
  simp only [Bool.and_eq_true, List.all_eq_true]
  constructor
  · intro p hp p' hp'
    obtain ⟨h0, e⟩ := hq p hp
    obtain ⟨_, e'⟩ := hq p' hp'
    by_cases hle : p.1 ≤ p'.1
    · simp [hle, ← e, ← e', leTol_of_le (quantile_mono_all xs h0 hle)]
    · simp [hle]
  · split
    · rename_i lo hi hlo hhi
      have elo : minOf xs = lo := lookup_of_statsMatch h rfl hlo
      have ehi : maxOf xs = hi := lookup_of_statsMatch h rfl hhi
      rw [List.all_eq_true]
      intro p hp
      obtain ⟨_, e⟩ := hq p hp
      obtain ⟨lo', hi'⟩ := quantile_bounds xs p.1
      rw [← minOf_eq_minimum, elo] at lo'
      rw [← maxOf_eq_maximum, ehi] at hi'
      simp [← e, leTol_of_le lo', leTol_of_le hi']
    · rfl

theorem summaryMonotone_self (mv : MV) : summaryMonotone 0 (fieldSummary mv) = true := by
  have hm : parseLevel "mean" = none := parseLevel_names.1
  unfold fieldSummary
  split
  · simp [summaryMonotone, namedQuantiles, hm, List.lookup]
  · simp [summaryMonotone, namedQuantiles, hm, List.lookup]
  · exact summaryMonotone_of_statsMatch (statsMatch_self _) _

/-! ### metrics: the generated table against the Spec's table -/

/-- the Spec's reading of a metric kind, compiled to the expression language of the model -/
def bodyOf : Kind → Nat × MExpr
  | .ratio f => (1, .div (.mul (.num 100) (.field .cell f)) (.field .cell "earned_premium"))
  | .pass f => (1, .field .cell f)
  | .ata f => (3, .div (.field .next f) (.field .cell f))
  | .ataIncr f => (3, .sub (.div (.field .next f) (.field .cell f)) (.num 1))

/-- COMMON_METRIC_DICT (generated) is, entry by entry and in order, the Spec's table -/
theorem table_matches :
    Generated.PlotMetrics.metrics.map (fun m => (toSnake m.name, m.arity, m.body)) =
      table.map (fun e => (e.1, bodyOf e.2)) := by decide +kernel

theorem table_names_nodup : (table.map (·.1)).Nodup := by decide +kernel

/-- `expected` with the successor made explicit -/
def expectedWith (c : Cell) (n : Option Cell) : Kind → Option MV
  | .ratio loss => ratio100 c loss
  | .pass f => cellField c f
  | .ata f => do
    let nn ← n
    let a ← cellField nn f
    let b ← cellField c f
    MV.bin ratDiv a b
  | .ataIncr f => do
    let r ← (do
      let nn ← n
      let a ← cellField nn f
      let b ← cellField c f
      MV.bin ratDiv a b)
    MV.bin ratSub r (.scalar 1)

theorem expected_eq (t : List Cell) (c : Cell) (k : Kind) :
    expected t c k = expectedWith c (nextInSlice t c) k := by
  cases k <;> rfl

theorem eval_bodyOf (k : Kind) (nm : String) (c : Cell) (p n : Option Cell) :
    safeApplyMetric ⟨nm, (bodyOf k).1, (bodyOf k).2⟩ c p n = expectedWith c n k := by
  cases k with
  | ratio f =>
    simp only [bodyOf, safeApplyMetric, MExpr.eval, expectedWith, ratio100, cellField]
    cases readField (some c) f <;> cases readField (some c) "earned_premium" <;> simp
  | pass f => rfl
  | ata f =>
    cases n <;> simp [bodyOf, safeApplyMetric, MExpr.eval, expectedWith, cellField, readField]
  | ataIncr f =>
    cases n <;> simp [bodyOf, safeApplyMetric, MExpr.eval, expectedWith, cellField, readField]

theorem metric_names_eq : Generated.PlotMetrics.metrics.map (toSnake ·.name) = table.map (·.1) := by
  have := congrArg (List.map (·.1)) table_matches
  simpa only [List.map_map, Function.comp_def] using this

/-- what the metric table computes for a cell, entry by entry, is what the Spec's table says, whatever is then
stored under the name (`pay`: the summary, or the `metric` entry of `keep_samples`) -/
theorem filterMap_metrics_table {γ : Type} (pay : MV → γ) (c : Cell) (p n : Option Cell) :
    (Generated.PlotMetrics.metrics.filterMap fun m =>
        (safeApplyMetric m c p n).map fun mv => (toSnake m.name, pay mv)) =
      table.filterMap fun e => (expectedWith c n e.2).map fun mv => (e.1, pay mv) := by
  -- `safeApplyMetric` never reads the name of a metric, so the triple of `table_matches` evaluates like the metric itself
  have h := congrArg (List.filterMap fun x : String × Nat × MExpr =>
    (safeApplyMetric ⟨"", x.2.1, x.2.2⟩ c p n).map fun mv => (x.1, pay mv)) table_matches
  rw [List.filterMap_map, List.filterMap_map] at h
  refine Eq.trans ?_ (h.trans ?_)
  · rfl
  · congr 1
    funext e
    simp only [Function.comp, eval_bodyOf]

theorem lookup_filterMap_absent {κ β γ : Type} {l : List (String × κ)} {g : String × κ → Option β} {h : β → γ}
    {k : String} (hk : k ∉ l.map (·.1)) :
    (l.filterMap fun e => (g e).map fun v => (e.1, h v)).lookup k = none := by
  rw [List.lookup_eq_none_iff]
  intro q hq
  obtain ⟨e, hel, hq⟩ := List.mem_filterMap.mp hq
  obtain ⟨v, -, rfl⟩ := Option.map_eq_some_iff.mp hq
  exact bne_iff_ne.mpr fun heq => hk (List.mem_map.mpr ⟨e, hel, heq.symm⟩)

theorem lookup_filterMap_names {κ β γ : Type} (l : List (String × κ)) (g : String × κ → Option β) (h : β → γ)
    (hn : (l.map (·.1)).Nodup) {e0 : String × κ} (he : e0 ∈ l) :
    (l.filterMap fun e => (g e).map fun v => (e.1, h v)).lookup e0.1 = (g e0).map h := by
  induction l with
  | nil => cases he
  | cons e rest ih =>
    obtain ⟨hnot, hrest⟩ := List.nodup_cons.mp hn
    rw [List.filterMap_cons]
    rcases List.mem_cons.mp he with rfl | he'
    · cases g e0 with
      | none => exact lookup_filterMap_absent hnot
      | some v => exact List.lookup_cons_self
    · have hne : e0.1 ≠ e.1 := fun heq => hnot (List.mem_map.mpr ⟨e0, he', heq⟩)
      cases g e with
      | none => exact ih hrest he'
      | some v => rw [Option.map_some, List.lookup_cons, beq_false_of_ne hne]; exact ih hrest he'

theorem lookup_metrics_table {γ : Type} (pay : MV → γ) (c : Cell) (p n : Option Cell) {e : String × Kind}
    (he : e ∈ table) :
    (Generated.PlotMetrics.metrics.filterMap fun m =>
        (safeApplyMetric m c p n).map fun mv => (toSnake m.name, pay mv)).lookup e.1 =
      (expectedWith c n e.2).map pay := by
  rw [filterMap_metrics_table]
  exact lookup_filterMap_names table (fun e => expectedWith c n e.2) pay table_names_nodup he

/-- the neighbour triples of a row, by structural recursion -/
def triplesAux (prev : Option Cell) : List Cell → List (Cell × Option Cell × Option Cell)
  | [] => []
  | c :: rest => (c, prev, rest.head?) :: triplesAux (some c) rest

theorem zip3_triples (row : List Cell) : ∀ prev : Option Cell,
    zip3 row (prev :: row.dropLast.map some) ((row.drop 1).map some ++ [none]) = triplesAux prev row := by
  induction row with
  | nil => intro prev; rfl
  | cons c rest ih =>
    intro prev
    cases rest with
    | nil => simp [zip3, triplesAux]
    | cons d r =>
      have := ih (some c)
      simp only [List.dropLast_cons_cons, List.map_cons, List.drop_succ_cons, List.drop_zero] at this ⊢
      simp only [zip3, List.cons_append]
      rw [this]
      rfl

theorem rowTriples_eq (row : List Cell) : rowTriples row = triplesAux none row := zip3_triples row none

theorem mem_triplesAux {row : List Cell} {prev : Option Cell} {tr : Cell × Option Cell × Option Cell}
    (h : tr ∈ triplesAux prev row) :
    ∃ pre post, row = pre ++ tr.1 :: post ∧ tr.2.1 = pre.getLast?.or prev ∧ tr.2.2 = post.head? := by
  induction row generalizing prev with
  | nil => cases h
  | cons c rest ih =>
    simp only [triplesAux, List.mem_cons] at h
    rcases h with rfl | h
    · exact ⟨[], rest, rfl, rfl, rfl⟩
    · obtain ⟨pre, post, hr, hp, hn⟩ := ih h
      refine ⟨c :: pre, post, by rw [hr]; rfl, ?_, hn⟩
      rw [hp, List.getLast?_cons]
      cases pre.getLast? <;> rfl

theorem mem_rowTriples {row : List Cell} {tr : Cell × Option Cell × Option Cell} (h : tr ∈ rowTriples row) :
    ∃ pre post, row = pre ++ tr.1 :: post ∧ tr.2.1 = pre.getLast? ∧ tr.2.2 = post.head? := by
  obtain ⟨pre, post, hr, hp, hn⟩ := mem_triplesAux (rowTriples_eq row ▸ h)
  exact ⟨pre, post, hr, hp.trans Option.or_none, hn⟩

theorem triplesAux_fst (row : List Cell) (prev : Option Cell) : (triplesAux prev row).map (·.1) = row := by
  induction row generalizing prev with
  | nil => rfl
  | cons c rest ih => simp [triplesAux, ih]

/-! ### the fold of `nextInSlice` picks an element of minimal evaluation date -/

def minStep (best : Option Cell) (d : Cell) : Option Cell :=
  match best with
  | none => some d
  | some b => if d.ev < b.ev then some d else some b

theorem nextInSlice_eq (t : List Cell) (c : Cell) :
    nextInSlice t c = (t.filter fun d => sameSlicePeriod c d && decide (c.ev < d.ev)).foldl minStep none := rfl

theorem foldl_minStep_eq_head? {l post : List Cell} (hp : post.Pairwise (fun a b => a.ev < b.ev))
    (h : ∀ d, d ∈ l ↔ d ∈ post) : l.foldl minStep none = post.head? := by
  cases post with
  | nil => rw [List.eq_nil_iff_forall_not_mem.mpr fun d hd => List.not_mem_nil ((h d).mp hd)]; rfl
  | cons d0 r =>
    have hd0 : d0 ∈ l := (h d0).mpr List.mem_cons_self
    obtain ⟨m, hm, hmem, hmin⟩ := foldl_optBest (step := minStep) (StrictWeak.dateLt.on fun c : Cell => c.ev) hd0
      (fun _ => rfl) fun _ _ => (apply_ite some _ _ _).symm
    rw [hm]
    rcases List.mem_cons.mp ((h m).mp hmem) with rfl | hmr
    · rfl
    · exact absurd ((List.pairwise_cons.mp hp).1 m hmr) (hmin d0 hd0)

/-- what `build_plot_data` relies on: no two cells share (metadata, period, evaluation date) — the
summaries live in a dict keyed by the cell — and the value keys of a cell are distinct (a dict) -/
def ValidT (t : List Cell) : Prop :=
  t.Pairwise (fun a b => ¬ (rowKey a = rowKey b ∧ a.ev = b.ev)) ∧
  ∀ c ∈ t, (c.values.map (·.1)).Nodup

theorem valid_distinct {t : List Cell} (hv : ValidT t) {a b : Cell} (ha : a ∈ t) (hb : b ∈ t)
    (hk : rowKey a = rowKey b) (he : a.ev = b.ev) : a = b :=
  List.Pairwise.forall_of_forall_of_flip (R := fun a b => rowKey a = rowKey b → a.ev = b.ev → a = b)
    (fun _ _ _ _ => rfl) (hv.1.imp fun n hk he => (n ⟨hk, he⟩).elim)
    (hv.1.imp fun n hk he => (n ⟨hk.symm, he.symm⟩).elim) ha hb hk he

theorem valid_nodup {t : List Cell} (hv : ValidT t) : t.Nodup :=
  hv.1.imp fun h heq => h ⟨by rw [heq], by rw [heq]⟩

theorem sameSlicePeriod_iff {c d : Cell} : sameSlicePeriod c d = true ↔ rowKey d = rowKey c := by
  simp only [rowKey_eq_iff, sameSlicePeriod, Bool.and_eq_true, beq_iff_eq]
  constructor
  · rintro ⟨⟨h1, h2⟩, h3⟩; exact ⟨h1.symm, h2.symm, h3.symm⟩
  · rintro ⟨h1, h2, h3⟩; exact ⟨⟨h1.symm, h2.symm⟩, h3.symm⟩

theorem row_strict {t : List Cell} (hv : ValidT t) {kr : RowKey × List Cell} (hkr : kr ∈ slicePeriodRows t) :
    kr.2.Pairwise (fun a b => a.ev < b.ev) := by
  refine pairwise_lt_of_sorted_nodup (cmp := evCmp) (fun a ha b hb hc => ?_) ?_ ?_
  · obtain ⟨hat, hak⟩ := (mem_row_iff hkr).mp ha
    obtain ⟨hbt, hbk⟩ := (mem_row_iff hkr).mp hb
    exact valid_distinct hv hat hbt (hak.trans hbk.symm) (Date.cmp_eq_eq.mp hc)
  · rw [row_eq hkr]; exact sorted_mergeSort _
  · rw [row_eq hkr]; exact (List.mergeSort_perm _ _).nodup_iff.mpr ((valid_nodup hv).filter _)

/-- the successor handed to a metric is the Spec's "next evaluation of the same slice and period" -/
theorem successor_eq {t : List Cell} (hv : ValidT t) {kr : RowKey × List Cell}
    (hkr : kr ∈ slicePeriodRows t) {tr : Cell × Option Cell × Option Cell} (htr : tr ∈ rowTriples kr.2) :
    tr.2.2 = nextInSlice t tr.1 := by
  obtain ⟨pre, post, hrow, -, hn⟩ := mem_rowTriples htr
  have hstrict := row_strict hv hkr
  rw [hrow] at hstrict
  obtain ⟨-, hrest, hpre⟩ := List.pairwise_append.mp hstrict
  obtain ⟨hpost_gt, hpost_pw⟩ := List.pairwise_cons.mp hrest
  have hck := ((mem_row_iff hkr).mp (by rw [hrow]; simp : tr.1 ∈ kr.2)).2
  rw [hn, nextInSlice_eq]
  -- the candidates of the fold are the cells of the row after `tr.1`
  refine (foldl_minStep_eq_head? hpost_pw fun d => ?_).symm
  simp only [List.mem_filter, Bool.and_eq_true, decide_eq_true_eq, sameSlicePeriod_iff]
  constructor
  · rintro ⟨hdt, hdk, hlt⟩
    have hd_row : d ∈ kr.2 := (mem_row_iff hkr).mpr ⟨hdt, hdk.trans hck⟩
    rw [hrow, List.mem_append, List.mem_cons] at hd_row
    rcases hd_row with h | rfl | h
    · exact absurd (DateOrder.lt_trans hlt (hpre d h tr.1 List.mem_cons_self)) (DateOrder.lt_irrefl _)
    · exact absurd hlt (DateOrder.lt_irrefl _)
    · exact h
  · intro hd
    obtain ⟨hdt, hdk⟩ := (mem_row_iff hkr).mp (by rw [hrow]; simp [hd] : d ∈ kr.2)
    exact ⟨hdt, hdk.trans hck.symm, hpost_gt d hd⟩

/-! ### `field_summaries[cell]` is the cell's own entry -/

/-- with a repeated key `get?` answers with the first entry, so the second would be compared with it: reflexivity needs
distinct keys (unlike `Bermuda.valuesEq` of `Model/Eq.lean`, which runs over the keys) -/
theorem valuesEq_refl (d : Dict Val) (hn : (d.map (·.1)).Nodup) : valuesEq d d = true := by
  simp only [valuesEq, beq_self_eq_true, Bool.true_and, List.all_eq_true]
  intro kv hkv
  rw [(Dict.get?_eq_some_iff_mem hn).mpr hkv]
  simp [Val.eqv]

theorem cellEq_refl {c : Cell} (hn : (c.values.map (·.1)).Nodup) : cellEq c c = true := by
  simp [cellEq, valuesEq_refl c.values hn]

theorem cellEq_coords {a b : Cell} (h : cellEq a b = true) : rowKey a = rowKey b ∧ a.ev = b.ev := by
  simp only [cellEq, Bool.and_eq_true, beq_iff_eq] at h
  obtain ⟨⟨⟨⟨⟨h1, h2⟩, h3⟩, h4⟩, _⟩, _⟩ := h
  exact ⟨rowKey_eq_iff.mpr ⟨h4, h1, h2⟩, h3⟩

/-- the assignments into `field_summaries`: one per cell of each row, with its row neighbours -/
theorem mem_fieldSummariesAll {ms : List Metric} {t : List Cell} {e : Cell × List Entry} :
    e ∈ fieldSummariesAll ms t ↔
      ∃ kr ∈ slicePeriodRows t, ∃ tr ∈ rowTriples kr.2, (tr.1, cellSummariesAll ms tr.1 tr.2.1 tr.2.2) = e := by
  simp only [fieldSummariesAll, List.mem_flatMap, List.mem_map]

/-- `d[c]` for a dict given by its assignments: empty when no key equals `c`, else the value assigned to such a key -/
theorem lookupLastAll_spec (c : Cell) (l : List (Cell × List Entry)) :
    ((∀ e ∈ l, cellEq e.1 c = false) ∧ lookupLastAll c l = []) ∨
      ∃ e ∈ l, cellEq e.1 c = true ∧ lookupLastAll c l = e.2 := by
  unfold lookupLastAll
  cases hl : (l.filter fun e => cellEq e.1 c).getLast? with
  | none =>
    rw [List.getLast?_eq_none_iff, List.filter_eq_nil_iff] at hl
    exact .inl ⟨fun e he => Bool.eq_false_iff.mpr (hl e he), rfl⟩
  | some e =>
    obtain ⟨h1, h2⟩ := List.mem_filter.mp (List.mem_of_getLast? hl)
    exact .inr ⟨e, h1, h2, rfl⟩

theorem mem_cellSummaries {ms : List Metric} {c : Cell} {p n : Option Cell} {e : String × Summary}
    (he : e ∈ cellSummaries ms c p n) : ∃ mv, e.2 = fieldSummary mv := by
  obtain ⟨m, -, hm⟩ := List.mem_filterMap.mp he
  obtain ⟨mv, -, rfl⟩ := Option.map_eq_some_iff.mp hm
  exact ⟨mv, rfl⟩

theorem nonEmpty_cellSummariesAll (ms : List Metric) (c : Cell) (p n : Option Cell) :
    nonEmpty (cellSummariesAll ms c p n) = cellSummaries ms c p n := by
  unfold nonEmpty cellSummariesAll cellSummaries
  rw [List.filterMap_map]
  congr 1
  funext m
  simp only [Function.comp]
  cases safeApplyMetric m c p n <;> rfl

theorem fieldSummaries_eq_map (ms : List Metric) (t : List Cell) :
    fieldSummaries ms t = (fieldSummariesAll ms t).map fun e => (e.1, nonEmpty e.2) := by
  unfold fieldSummaries fieldSummariesAll
  rw [List.map_flatMap]
  congr 1
  funext kr
  rw [List.map_map]
  apply List.map_congr_left
  intro tr _
  simp only [Function.comp, nonEmpty_cellSummariesAll]

theorem lookupLast_map (c : Cell) (l : List (Cell × List Entry)) :
    lookupLast c (l.map fun e => (e.1, nonEmpty e.2)) = nonEmpty (lookupLastAll c l) := by
  unfold lookupLast lookupLastAll
  rw [List.filter_map, List.getLast?_map]
  simp only [Function.comp_def]
  cases (l.filter fun e => cellEq e.1 c).getLast? with
  | none => rfl
  | some e => rfl

/-- the slots `field_summaries[c]` of a cell of a valid triangle are the cell's own, computed against its row
predecessor and the next evaluation of its slice and period: an assignment under the key `c` exists (`c` sits in its
row), and every assignment under an equal key is `c`'s -/
theorem own_entryAll {t : List Cell} (hv : ValidT t) (ms : List Metric) {c : Cell} (hc : c ∈ t) :
    ∃ p, lookupLastAll c (fieldSummariesAll ms t) = cellSummariesAll ms c p (nextInSlice t c) := by
  obtain ⟨kr, hkr, _, hcrow⟩ := row_cover hc
  have hfst : c ∈ (rowTriples kr.2).map (·.1) := by rw [rowTriples_eq, triplesAux_fst]; exact hcrow
  obtain ⟨tr, htr, rfl⟩ := List.mem_map.mp hfst
  rcases lookupLastAll_spec tr.1 (fieldSummariesAll ms t) with ⟨hno, -⟩ | ⟨e, he, heq, hval⟩
  · have := hno _ (mem_fieldSummariesAll.mpr ⟨kr, hkr, tr, htr, rfl⟩)
    rw [cellEq_refl (hv.2 _ hc)] at this
    cases this
  · obtain ⟨kr', hkr', tr', htr', rfl⟩ := mem_fieldSummariesAll.mp he
    obtain ⟨hk, hev⟩ := cellEq_coords heq
    obtain ⟨pre, post, hrow, -⟩ := mem_rowTriples htr'
    have := valid_distinct hv ((mem_row_iff hkr').mp (hrow ▸ List.mem_append_right pre List.mem_cons_self)).1 hc hk hev
    exact ⟨tr'.2.1, by rw [hval, successor_eq hv hkr' htr', this]⟩

theorem own_entry {t : List Cell} (hv : ValidT t) (ms : List Metric) {c : Cell} (hc : c ∈ t) :
    ∃ p, lookupLast c (fieldSummaries ms t) = cellSummaries ms c p (nextInSlice t c) := by
  obtain ⟨p, hp⟩ := own_entryAll hv ms hc
  exact ⟨p, by rw [fieldSummaries_eq_map, lookupLast_map, hp, nonEmpty_cellSummariesAll]⟩

/-- every cell of a valid triangle has its slot list: one entry per metric of the table, in table order -/
theorem own_entries_names {t : List Cell} (hv : ValidT t) (ms : List Metric) {c : Cell} (hc : c ∈ t) :
    (lookupLastAll c (fieldSummariesAll ms t)).map (·.1) = ms.map (toSnake ·.name) := by
  obtain ⟨p, hp⟩ := own_entryAll hv ms hc
  rw [hp, cellSummariesAll, List.map_map]
  rfl

theorem record_lookup {t : List Cell} (hv : ValidT t) {c : Cell} (hc : c ∈ t) {e : String × Kind}
    (he : e ∈ table) :
    (mkRecord c (lookupLast c (fieldSummaries Generated.PlotMetrics.metrics t))).metrics.lookup e.1 =
      (expected t c e.2).map fieldSummary := by
  obtain ⟨p, hp⟩ := own_entry hv Generated.PlotMetrics.metrics hc
  simp only [mkRecord, hp]
  rw [expected_eq]
  exact lookup_metrics_table fieldSummary c p _ he

theorem valuesOk_model {t : List Cell} (hv : ValidT t) (sel : Kind → Bool) :
    valuesOk 0 sel t (buildPlotData Generated.PlotMetrics.metrics t) = true := by
  unfold valuesOk buildPlotData
  apply all2_map
  intro c hc
  rw [List.all_eq_true]
  intro e he
  have het : e ∈ table := (List.mem_filter.mp he).1
  rw [record_lookup hv hc het]
  cases expected t c e.2 with
  | none => rfl
  | some mv => exact summaryMatches_self mv

theorem absentOk_model {t : List Cell} (hv : ValidT t) : absentOk t (buildPlotData Generated.PlotMetrics.metrics t) = true := by
  unfold absentOk buildPlotData
  apply all2_map
  intro c hc
  rw [List.all_eq_true]
  intro e he
  rw [record_lookup hv hc he]
  cases expected t c e.2 <;> rfl

theorem monotoneOk_model (ms : List Metric) (t : List Cell) : monotoneOk 0 (buildPlotData ms t) = true := by
  unfold monotoneOk buildPlotData
  simp only [List.all_eq_true, List.mem_map]
  rintro r ⟨c, _, rfl⟩ e he
  simp only [mkRecord, fieldSummaries_eq_map, lookupLast_map] at he
  rcases lookupLastAll_spec c (fieldSummariesAll ms t) with ⟨-, h⟩ | ⟨x, hx, -, h⟩
  · rw [h] at he; cases he
  · obtain ⟨kr, _, tr, _, rfl⟩ := mem_fieldSummariesAll.mp hx
    rw [h, nonEmpty_cellSummariesAll] at he
    obtain ⟨mv, hmv⟩ := mem_cellSummaries he
    rw [hmv]
    exact summaryMonotone_self mv

theorem nonEmpty_keep (b : Bool) (l : List Entry) : nonEmpty (keepEntries b l) = nonEmpty l := by
  cases b
  · rfl
  · simp only [keepEntries, if_true, nonEmpty]
    induction l with
    | nil => rfl
    | cons e l ih =>
      rcases e with ⟨k, _ | s⟩
      · simpa [List.filter_cons] using ih
      · simp [ih]

/-- for BOTH option values the coordinates, fields and non-empty summaries are those of the default call -/
theorem base_eq (b : Bool) (ms : List Metric) (t : List Cell) :
    (buildPlotDataOpt b ms t).map (·.base) = buildPlotData ms t := by
  unfold buildPlotDataOpt buildPlotData
  rw [List.map_map]
  apply List.map_congr_left
  intro c _
  simp only [Function.comp, nonEmpty_keep, fieldSummaries_eq_map, lookupLast_map]

theorem sameSet_self (a : List String) : sameSet a a = true := by
  simp [sameSet]

theorem entriesOk_model {t : List Cell} (hv : ValidT t) (b : Bool) :
    (buildPlotDataOpt b Generated.PlotMetrics.metrics t).all (entriesOk b) = true := by
  unfold buildPlotDataOpt
  rw [List.all_map, List.all_eq_true]
  intro c hc
  simp only [Function.comp, entriesOk, mkRecord, beq_self_eq_true, Bool.true_and]
  cases b
  · have hn := (own_entries_names hv Generated.PlotMetrics.metrics hc).trans metric_names_eq
    simp only [keepEntries, Bool.false_eq_true, if_false, Bool.and_eq_true]
    rw [hn]
    refine ⟨sameSet_self _, ?_⟩
    have hl := congrArg List.length hn
    rw [List.length_map, List.length_map] at hl
    simp [hl]
  · simp only [keepEntries, if_true, List.all_filter, List.all_eq_true]
    intro e _
    cases e.2 <;> simp

theorem tooltipOk_model (b : Bool) (ms : List Metric) (t : List Cell) :
    (buildPlotDataOpt b ms t).all tooltipOk = true := by
  unfold buildPlotDataOpt
  rw [List.all_map, List.all_eq_true]
  intro c _
  simp only [Function.comp, tooltipOk, tooltipNames, mkRecord, beq_self_eq_true]

end Bermuda.Plot
