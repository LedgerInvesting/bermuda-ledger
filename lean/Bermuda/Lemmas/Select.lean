/-
Helper lemmas for C11 (selection operators): chained filters.
-/
import Bermuda.Model.Select
import Bermuda.Spec.C11
import Bermuda.Lemmas.DateOrder
namespace Bermuda

theorem Date.le_iff (a b : Date) :
    a ≤ b ↔ a.y < b.y ∨ (a.y = b.y ∧ (a.m < b.m ∨ (a.m = b.m ∧ a.d ≤ b.d))) := DateOrder.le_iff a b

theorem optFilter_eq {β} (b : Option β) (p : β → Cell → Bool) (l : List Cell) :
    optFilter b p l = l.filter (fun c => b.all (fun x => p x c)) := by
  cases b
  · simp only [optFilter, Option.all_none]; exact (List.filter_eq_self.mpr (fun _ _ => rfl)).symm
  · simp [optFilter]

theorem optFilter_mem {β} {b : Option β} {p : β → Cell → Bool} {l : List Cell} {c : Cell}
    (h : c ∈ optFilter b p l) : c ∈ l := by
  rw [optFilter_eq] at h
  exact (List.mem_filter.mp h).1

theorem devFilter_some (b : Option Rat) (u : LagUnit) (p : Rat → Rat → Bool) (l : List Cell) :
    devFilter b (some u) p l = .ok (l.filter (fun c => b.all (fun q => p q (c.devLag u)))) := by
  cases b
  · simp only [devFilter, Option.all_none]; congr 1; exact (List.filter_eq_self.mpr (fun _ _ => rfl)).symm
  · simp [devFilter]

theorem clipFull_eq (t : List Cell) (a : ClipFull) (u : LagUnit) (hu : a.unit = some u) :
    Triangle.clipFull t a = Triangle.ofCells (t.filter (Spec.C11.clipKeep a u)) := by
  unfold Triangle.clipFull
  simp only [hu, devFilter_some, optFilter_eq, bind, Except.bind, List.filter_filter]
  congr 1
  apply List.filter_congr
  intro c _
  -- the six chained filters and the documented conjunction differ only in the order of the conjuncts
  simp only [Spec.C11.clipKeep, Spec.C11.inDates, Spec.C11.inLags, Option.all_none, Bool.true_and, Bool.and_true]
  ac_rfl

def gstepSel {α κ} [BEq κ] (key : α → κ) (acc : List (κ × List α)) (a : α) : List (κ × List α) :=
  let k := key a
  if acc.any (·.1 == k) then acc.map (fun p => if p.1 == k then (p.1, p.2 ++ [a]) else p)
  else acc ++ [(k, [a])]

theorem groupBy_eq_foldl_sel {α κ} [BEq κ] (key : α → κ) (l : List α) :
    groupBy key l = l.foldl (gstepSel key) [] := rfl

theorem devFilter_mem {b : Option Rat} {u : Option LagUnit} {p : Rat → Rat → Bool} {l r : List Cell}
    (h : devFilter b u p l = .ok r) {c : Cell} (hc : c ∈ r) : c ∈ l := by
  unfold devFilter at h
  split at h
  · cases h; exact hc
  · split at h
    · cases h; exact (List.mem_filter.mp hc).1
    · split at h
      · cases h; cases hc
      · cases h

theorem pyIndex_mem {α} {l : List α} {i : Int} {a : α} (h : pyIndex l i = .ok a) : a ∈ l := by
  unfold pyIndex at h
  dsimp only at h
  generalize (if i < 0 then i + (l.length : Int) else i) = k at h
  split at h
  · cases h
  · split at h
    · rename_i x hx; cases h; exact List.mem_of_getElem? hx
    · cases h

end Bermuda
