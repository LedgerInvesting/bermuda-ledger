/-
The value clause `Spec.C17.chainCellOk` holds at every step of the model's development loop; the whole clause
`Spec.C17.chainOkSlice` (cells and row predecessors looked up by coordinate: `rowClause`) holds on a replicate of one slice.
-/
import Bermuda.Lemmas.ResampleATA
import Bermuda.Lemmas.ResampleBoot
namespace Bermuda.Resample
open Bermuda.Spec.C17

theorem truthy_isFalsy {v : Val} {tr : Bool} (h : truthy (some v) = .ok tr) : isFalsy (some v) = !tr := by
  cases v <;> simp [truthy] at h <;> subst h <;> simp [isFalsy, bne]

theorem mulVal_num {w nv : Val} {x : Rat} (h : mulVal w x = .ok nv) :
    ∃ q, num? (some w) = some q ∧ nv = .flt (q * x) := by
  cases w <;> simp [mulVal] at h <;> subst h
  · exact ⟨_, rfl, rfl⟩
  · exact ⟨_, rfl, rfl⟩

theorem chainCellOk_step {F : Factors} {fields : List String} {pidx : Nat} {c : Cell} {vals its : Dict Val}
    {tbl : List (String × List Rat)} (hF : assoc? F c.devLag = some tbl)
    (hT : ∀ f, (assoc? tbl f).isSome = fields.contains f)
    (hits : developItems c tbl pidx vals = .ok its) (hv : vals.keys.Nodup) (hc : c.values.keys.Nodup) :
    chainCellOk F fields pidx c vals { c with values := Dict.union c.values its } = true := by
  have hitsnd : its.keys.Nodup := (developItems_sublist hits).nodup hv
  simp only [chainCellOk, List.all_eq_true]
  rintro ⟨f, v⟩ hfv
  have hcget : c.values.get? f = some v := (Dict.get?_eq_some_iff_mem hc).mpr hfv
  dsimp only
  split
  · rename_i hcond
    simp only [Bool.and_eq_true] at hcond
    obtain ⟨hfld, hcon⟩ := hcond
    obtain ⟨arr, harr⟩ : ∃ arr, assoc? tbl f = some arr := by
      have := hT f; rw [hfld] at this
      exact Option.isSome_iff_exists.mp this
    obtain ⟨w, hw⟩ := Dict.get?_of_mem_keys (Dict.contains_iff_mem.mp hcon)
    rcases developItems_get harr hits hw with ⟨htr, x, nv, hx, hmul, hget⟩ | ⟨htr, hget⟩
    · rw [hcget] at htr
      have hfal := truthy_isFalsy htr
      simp only [Bool.not_true] at hfal
      obtain ⟨q, hq, rfl⟩ := mulVal_num hmul
      have ho : (Dict.union c.values its).get? f = some (.flt (q * x)) :=
        dget_union_of_get c.values hitsnd hget
      have hfac : factorAt F c.devLag f pidx = some x := by simp [factorAt, hF, harr, hx]
      have hq' : num? (vals.get? f) = some q := by rw [hw]; exact hq
      simp only [hfal, ho, hfac, hq', Bool.false_eq_true, if_false]
      simp [num?]
    · rw [hcget] at htr
      have hfal := truthy_isFalsy htr
      simp only [Bool.not_false] at hfal
      have ho : (Dict.union c.values its).get? f = some .none :=
        dget_union_of_get c.values hitsnd hget
      simp [hfal, ho]
  · rename_i hcond
    have hnot : f ∉ its.keys := by
      intro hmem
      apply hcond
      obtain ⟨h2, h1⟩ := developItems_keys hits f hmem
      rw [hT f] at h1
      rw [h1, Dict.contains_iff_mem.mpr h2]; rfl
    rw [show (Dict.union c.values its).get? f = c.values.get? f from Assoc.get?_union_of_not_mem c.values hnot, hcget]
    simp

theorem chainCellOk_empty (F : Factors) (fields : List String) (pidx : Nat) (c : Cell)
    (hc : c.values.keys.Nodup) : chainCellOk F fields pidx c [] { c with values := Dict.union c.values [] } = true := by
  simp only [chainCellOk, List.all_eq_true]
  rintro ⟨f, v⟩ hfv
  have : c.values.get? f = some v := (Dict.get?_eq_some_iff_mem hc).mpr hfv
  simp [Dict.contains, Dict.union, this]

/-- every table of `F` has exactly the selected fields as keys -/
def TableKeys (F : Factors) (fields : List String) : Prop :=
  ∀ lag tbl, assoc? F lag = some tbl → ∀ f, (assoc? tbl f).isSome = fields.contains f

/-- the cell clause of `Spec.C17.chainOkSlice` for one step of the loop (one conjunct of `ChainFrom`) -/
def StepOk (t : List Cell) (F : Factors) (fields : List String) (vals : Dict Val) (c o : Cell) : Prop :=
  if initialLag t (c.ps, c.pe) = some c.devLag then o = c
  else chainCellOk F fields ((periodsOf t).idxOf (c.ps, c.pe)) c vals o = true

theorem DevStep.keysNodup {t : List Cell} {F : Factors} {vals : Dict Val} {c o : Cell} (h : DevStep t F vals c o)
    (hc : c.values.keys.Nodup) : o.values.keys.Nodup := by
  cases h with
  | first => exact hc
  | bare => exact Assoc.nodup_keys_union hc _
  | items => exact Assoc.nodup_keys_union hc _

theorem DevStep.ok {t : List Cell} {F : Factors} {fields : List String} (hT : TableKeys F fields) {vals : Dict Val}
    {c o : Cell} (hv : vals.keys.Nodup) (hc : c.values.keys.Nodup) (h : DevStep t F vals c o) :
    StepOk t F fields vals c o := by
  cases h with
  | first h0 => exact (if_pos h0).mpr rfl
  | bare hn he => subst he; exact (if_neg hn).mpr (chainCellOk_empty F fields _ c hc)
  | items hn _ hF hits => exact (if_neg hn).mpr (chainCellOk_step hF (hT _ _ hF) hits hv hc)

/-- distinct field names are an invariant of the running values, so every step satisfies the cell clause -/
theorem developLoop_stepOk {t : List Cell} {F : Factors} {fields : List String} (hT : TableKeys F fields)
    {cs : List Cell} {vals : Dict Val} {os : List Cell} (h : developLoop t F vals cs = .ok os)
    (hv : vals.keys.Nodup) (hcs : ∀ c ∈ cs, c.values.keys.Nodup) :
    Scan (StepOk t F fields) (·.values) vals cs os :=
  (developLoop_scan h).imp_inv (I := fun v => v.keys.Nodup) (P := fun c => c.values.keys.Nodup)
    (fun _ _ _ _ hc hs => hs.keysNodup hc) (fun _ _ _ hv hc hs => hs.ok hT hv hc) hv hcs

/-- the loop's outputs, cell after cell: the earliest cell of a period is returned as it is, every other cell
satisfies the cell clause against the values of the developed cell BEFORE it in the list -/
def ChainFrom (t : List Cell) (F : Factors) (fields : List String) : Dict Val → List Cell → List Cell → Prop
  | _, [], [] => True
  | vals, c :: cs, o :: os =>
    (if initialLag t (c.ps, c.pe) = some c.devLag then o = c
     else chainCellOk F fields ((periodsOf t).idxOf (c.ps, c.pe)) c vals o = true) ∧
    ChainFrom t F fields o.values cs os
  | _, _, _ => False

theorem chainFrom_of_scan {t : List Cell} {F : Factors} {fields : List String} {vals : Dict Val} {cs os : List Cell}
    (H : Scan (StepOk t F fields) (·.values) vals cs os) : ChainFrom t F fields vals cs os := by
  induction H with
  | nil => trivial
  | cons hr _ ih => exact ⟨hr, ih⟩

theorem resampledAtas_tableKeys {s : List Cell} {fields : List String} {I : IdxTable} {F : Factors}
    (h : resampledAtas s fields I = .ok F) : TableKeys F fields := by
  intro lag tbl hlt f
  rw [assoc?_eq_assoc, Assoc.get?_isSome, resampledAtas_keys h (lag, tbl) (Assoc.mem_of_get? hlt)]

/-! ### the whole clause `chainOkSlice` on the replicate of one slice -/

/-- rows are laid out by development lag: for the cell at position `j`, the cells of its period with a smaller lag
are none when it is the period's earliest cell, and otherwise end with the cell at position `j - 1`
(true of a sorted slice whose evaluation dates order the lags) -/
def RowsByLag (s : List Cell) : Prop :=
  ∀ j (hj : j < s.length),
    (initialLag s (s[j].ps, s[j].pe) = some s[j].devLag →
      (s.filter fun d => (d.ps, d.pe) == (s[j].ps, s[j].pe) && d.devLag < s[j].devLag) = []) ∧
    (initialLag s (s[j].ps, s[j].pe) ≠ some s[j].devLag → ∃ j', j' + 1 = j ∧
      (s.filter fun d => (d.ps, d.pe) == (s[j].ps, s[j].pe) && d.devLag < s[j].devLag).getLast? = s[j']?)

/-- the frame the two age-to-age clauses of `Spec/C17.lean` share: a cell that has a row predecessor must be found in
the replicate, and so must the predecessor; `K c prev o po` is asked of the two cells found -/
def rowClause (s rep : List Cell) (i : Nat) (K : Cell → Cell → Cell → Cell → Bool) (c : Cell) : Bool :=
  match (s.filter fun d => (d.ps, d.pe) == (c.ps, c.pe) && d.devLag < c.devLag).getLast?, repCell rep c i with
  | none, _ => true
  | _, none => false
  | some prev, some o =>
    match repCell rep prev i with
    | none => false
    | some po => K c prev o po

theorem rowClause_iff {s rep : List Cell} {i : Nat} {K : Cell → Cell → Cell → Cell → Bool} {c : Cell} :
    rowClause s rep i K c = true ↔
      ∀ prev, (s.filter fun d => (d.ps, d.pe) == (c.ps, c.pe) && d.devLag < c.devLag).getLast? = some prev →
        ∃ o po, repCell rep c i = some o ∧ repCell rep prev i = some po ∧ K c prev o po = true := by
  unfold rowClause
  cases (s.filter fun d => (d.ps, d.pe) == (c.ps, c.pe) && d.devLag < c.devLag).getLast? with
  | none => exact ⟨fun _ _ h => (nomatch h), fun _ => rfl⟩
  | some prev =>
    cases repCell rep c i with
    | none => exact ⟨nofun, fun h => by obtain ⟨_, _, h1, _⟩ := h prev rfl; exact nomatch h1⟩
    | some o =>
      dsimp only
      constructor
      · intro h p hp
        cases hp
        cases hpo : repCell rep prev i with
        | none => rw [hpo] at h; exact nomatch h
        | some po => rw [hpo] at h; exact ⟨o, po, rfl, rfl, h⟩
      · intro h
        obtain ⟨_, po, h1, h2, h3⟩ := h prev rfl
        cases h1
        rw [h2]
        exact h3

theorem chainOkSlice_eq (s rep : List Cell) (i : Nat) (fields : List String) (I : IdxTable) :
    chainOkSlice s rep i fields I = match resampledAtas s fields I with
      | .error _ => true
      | .ok F => s.all (rowClause s rep i fun c _ o po =>
          chainCellOk F fields ((periodsOf s).idxOf (c.ps, c.pe)) c po.values o) := rfl

theorem spec_chain_slice' {s out rep : List Cell} {fields : List String} {I : IdxTable} {F : Factors} {i : Nat}
    (hF : resampledAtas s fields I = .ok F) (h : developByAtas s F = .ok out)
    (hp : rep.Perm (out.map (tagCell i)))
    (hk : kindsConsistent s = true) (hs : s.Pairwise (fun a b => Cell.le a b))
    (hnd : (s.map (·.coord)).Nodup) (hmd : ∀ c ∈ s, ∀ c' ∈ s, c.md = c'.md)
    (hwf : ∀ c ∈ s, c.values.keys.Nodup) (hrows : RowsByLag s) :
    chainOkSlice s rep i fields I = true := by
  have hloop := developByAtas_loop h hk hs
  obtain ⟨hlen, hat⟩ := (developLoop_stepOk (resampledAtas_tableKeys hF) hloop List.nodup_nil hwf).succ_getElem
  -- the pair is written out: left to unification (`_`) this step is very slow to elaborate
  have look : ∀ j (hj : j < s.length), repCell rep s[j] i = some (tagCell i (out[j]'(hlen ▸ hj))) := fun j hj =>
    repCell_of_zip (R := DevRel s) (fun _ _ hh => hh.1) hp (developLoop_rel hloop) hnd (fun a ha b hb _ => hmd a ha b hb)
      (s[j], out[j]'(hlen ▸ hj)) (getElem_mem_zip hj (hlen ▸ hj))
  simp only [chainOkSlice_eq, hF, List.all_eq_true]
  intro c hc
  obtain ⟨j, hj, rfl⟩ := List.getElem_of_mem hc
  obtain ⟨hinit, hnon⟩ := hrows j hj
  refine rowClause_iff.mpr fun prev hprev => ?_
  by_cases hi0 : initialLag s (s[j].ps, s[j].pe) = some s[j].devLag
  · rw [hinit hi0] at hprev
    cases hprev
  · obtain ⟨j', hjj, hlast⟩ := hnon hi0
    subst hjj
    have hj' : j' < s.length := by omega
    obtain rfl : s[j'] = prev := Option.some.inj ((List.getElem?_eq_getElem hj').symm.trans (hlast.symm.trans hprev))
    exact ⟨_, _, look (j' + 1) hj, look j' hj', (if_neg hi0).mp (hat j' hj (hlen ▸ hj) (hlen ▸ hj'))⟩

theorem spec_chain_replicate' {s rep : List Cell} {fields : List String} {d : Draws} {i : Nat}
    (h : replicateD s fields d i = .ok rep) (hu : useAtas s = true)
    (hk : kindsConsistent s = true) (hs : s.Pairwise (fun a b => Cell.le a b))
    (hnd : (s.map (·.coord)).Nodup) (hmd : ∀ c ∈ s, ∀ c' ∈ s, c.md = c'.md)
    (hwf : ∀ c ∈ s, c.values.keys.Nodup) (hrows : RowsByLag s) :
    chainOkSlice s rep i fields d.I = true := by
  obtain ⟨F, out, hF, hout, ht⟩ := replicateD_atas h hu
  exact spec_chain_slice' hF hout (tagBootstrap_perm ht) hk hs hnd hmd hwf hrows

end Bermuda.Resample
