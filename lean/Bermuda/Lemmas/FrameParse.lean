/-
C14, `parse_date` (io/array.py) on the documented spellings: `YYYY`, `YYYYQn`, `YYYYHn`, `YYYY-MM`,
`YYYY-MM-DD` give the first day of that year / quarter / half-year / month, resp. that day; what the model
refuses (`ValueError`). Statements are about `parseDateChars`, the characters of the stripped text
(`parseDate s = parseDateChars s.trimAscii.toString.toList`); the stripping itself is exercised by the
correspondence only (the kernel-evaluated texts of `Properties.C14.parseDate_examples` are character lists too).
-/
import Bermuda.Lemmas.DateUtils
import Bermuda.Model.FrameStatics
namespace Bermuda.Frame
open Bermuda

def digitChar (k : Nat) : Char := Char.ofNat (48 + k)

theorem digitChar_spec : ∀ k < 10, (digitChar k).isDigit = true ∧ (digitChar k).toNat - 48 = k := by
  decide

def year4 (y : Nat) : List Char := [digitChar (y / 1000), digitChar (y / 100 % 10), digitChar (y / 10 % 10), digitChar (y % 10)]

theorem digitsVal1 (a : Char) : digitsVal [a] = a.toNat - 48 := by simp [digitsVal]

theorem digitsVal2 (a b : Char) : digitsVal [a, b] = (a.toNat - 48) * 10 + (b.toNat - 48) := by simp [digitsVal]

theorem digitsVal4 (a b c d : Char) : digitsVal [a, b, c, d] =
    (((a.toNat - 48) * 10 + (b.toNat - 48)) * 10 + (c.toNat - 48)) * 10 + (d.toNat - 48) := by
  simp [digitsVal]

theorem digits?_map_digitChar {ks : List Nat} {n : Nat} (hne : ks ≠ []) (h : ∀ k ∈ ks, k < 10)
    (hn : ks.foldl (fun n k => n * 10 + k) 0 = n) : digits? (ks.map digitChar) = some n := by
  have hall : (ks.map digitChar).all Char.isDigit = true := by
    rw [List.all_map, List.all_eq_true]; exact fun k hk => (digitChar_spec k (h k hk)).1
  have hemp : (ks.map digitChar).isEmpty = false :=
    List.isEmpty_eq_false_iff.mpr (mt List.map_eq_nil_iff.mp hne)
  unfold digits? digitsVal
  rw [hemp, hall, List.foldl_map, List.foldl_ext _ (fun n k => n * 10 + k) _ fun n k hk => by rw [(digitChar_spec k (h k hk)).2], hn]
  rfl

theorem digits_year4 {y : Nat} (h : y < 10000) : digits? (year4 y) = some y :=
  digits?_map_digitChar (ks := [y / 1000, y / 100 % 10, y / 10 % 10, y % 10]) (List.cons_ne_nil _ _)
    (fun k hk => by simp only [List.mem_cons, List.not_mem_nil, or_false] at hk; omega)
    (by simp only [List.foldl_cons, List.foldl_nil]; omega)

theorem digits_one {k : Nat} (h : k < 10) : digits? [digitChar k] = some k :=
  digits?_map_digitChar (ks := [k]) (List.cons_ne_nil _ _)
    (fun k hk => by simp only [List.mem_cons, List.not_mem_nil, or_false] at hk; omega)
    (by simp only [List.foldl_cons, List.foldl_nil]; omega)

theorem digits_two {m : Nat} (h : m < 100) : digits? [digitChar (m / 10), digitChar (m % 10)] = some m :=
  digits?_map_digitChar (ks := [m / 10, m % 10]) (List.cons_ne_nil _ _)
    (fun k hk => by simp only [List.mem_cons, List.not_mem_nil, or_false] at hk; omega)
    (by simp only [List.foldl_cons, List.foldl_nil]; omega)

theorem mkDate_ok {y m d : Nat} (hy : 1 ≤ y ∧ y ≤ 9999) (hv : (⟨(y : Int), m, d⟩ : Date).valid = true) :
    mkDate? y m d = .ok ⟨(y : Int), m, d⟩ := by
  unfold mkDate?
  have h1 : decide (1 ≤ y) = true := by simp [hy.1]
  have h2 : decide (y ≤ 9999) = true := by simp [hy.2]
  simp only [h1, h2, hv, Bool.and_self, if_true]

theorem first_valid (y : Int) {m : Nat} (hm : 1 ≤ m ∧ m ≤ 12) : (⟨y, m, 1⟩ : Date).valid = true := by
  rw [valid_iff]
  have := dim_pos y m
  exact ⟨hm.1, hm.2, Nat.le_refl 1, this⟩

/-- **`YYYY`** → 1 January of that year -/
theorem parseDate_year {y : Nat} (hy : 1 ≤ y ∧ y ≤ 9999) : parseDateChars (year4 y) = .ok ⟨(y : Int), 1, 1⟩ := by
  have hd := digits_year4 (y := y) (by omega)
  unfold year4 at hd ⊢
  simp only [parseDateChars, hd]
  exact mkDate_ok hy (first_valid _ (by omega))

/-! On digit characters `parse_date` reads the numbers and hands them to `mkDate?`: the four longer spellings as
equations, for any digits; which dates result, and what is refused, follows from `mkDate?` alone. -/

/-- **`YYYYQn`**: the first month of quarter `n = 1 … 4`; another digit is refused -/
theorem parseDate_quarter_eq {y q : Nat} (hy : y < 10000) (hq : q < 10) :
    parseDateChars (year4 y ++ ['Q', digitChar q]) =
      if 1 ≤ q ∧ q ≤ 4 then mkDate? y ((q - 1) * 3 + 1) 1 else .error .valueError := by
  have hd := digits_year4 hy
  have hq1 := digits_one hq
  unfold year4 at hd ⊢
  simp only [List.cons_append, List.nil_append, parseDateChars, hd, hq1, Bool.and_eq_true, decide_eq_true_eq]

/-- **`YYYYHn`**: January for `n = 1`, July for `n = 2`; another digit is refused -/
theorem parseDate_half_eq {y n : Nat} (hy : y < 10000) (hn : n < 10) :
    parseDateChars (year4 y ++ ['H', digitChar n]) =
      if 1 ≤ n ∧ n ≤ 2 then mkDate? y (if n = 1 then 1 else 7) 1 else .error .valueError := by
  have hd := digits_year4 hy
  have hq1 := digits_one hn
  unfold year4 at hd ⊢
  simp only [List.cons_append, List.nil_append, parseDateChars, hd, hq1, Bool.and_eq_true, decide_eq_true_eq,
    beq_iff_eq]

theorem parseDate_month_eq {y m : Nat} (hy : y < 10000) (hm : m < 100) :
    parseDateChars (year4 y ++ ['-', digitChar (m / 10), digitChar (m % 10)]) = mkDate? y m 1 := by
  have hd := digits_year4 hy
  have hm2 := digits_two hm
  unfold year4 at hd ⊢
  simp only [List.cons_append, List.nil_append, parseDateChars, hd, hm2]

theorem parseDate_iso_eq {y m d : Nat} (hy : y < 10000) (hm : m < 100) (hd' : d < 100) :
    parseDateChars (year4 y ++ ['-', digitChar (m / 10), digitChar (m % 10), '-', digitChar (d / 10), digitChar (d % 10)]) =
      mkDate? y m d := by
  have hd := digits_year4 hy
  have hm2 := digits_two hm
  have hd2 := digits_two hd'
  unfold year4 at hd ⊢
  simp only [List.cons_append, List.nil_append, parseDateChars, hd, hm2, hd2]

theorem parseDate_length_refused {cs : List Char} (h : cs.length ≠ 4 ∧ cs.length ≠ 6 ∧ cs.length ≠ 7 ∧ cs.length ≠ 10) :
    parseDateChars cs = .error .valueError := by
  unfold parseDateChars
  split
  · exact absurd rfl h.1
  · exact absurd rfl h.2.1
  · exact absurd rfl h.2.1
  · exact absurd rfl h.2.2.1
  · exact absurd rfl h.2.2.2
  · rfl

theorem parseDate_year_nondigit {a b c d : Char} (h : ([a, b, c, d].all Char.isDigit) = false) :
    parseDateChars [a, b, c, d] = .error .valueError := by
  have : digits? [a, b, c, d] = none := by
    unfold digits?
    simp only [h, Bool.not_false, Bool.or_true, if_true]
  simp only [parseDateChars, this]

end Bermuda.Frame
