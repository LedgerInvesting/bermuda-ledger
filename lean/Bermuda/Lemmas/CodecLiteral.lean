/-
Literal byte vectors (C06): `List.mergeSort` is defined by well-founded recursion, so the kernel cannot evaluate
`encode t` directly; the pool is built instead from a given list `D` of the distinct keys. One evaluation of the
encoder per file suffices: what the two decoders return for the file follows from the round-trip theorems.
-/
import Bermuda.Lemmas.CodecDict
import Bermuda.Lemmas.CodecGolden
namespace Bermuda.Codec

/-- a strictly sorted list is determined by its members -/
theorem sortedKeys_eq_of {t : RawTriangle} {D : List Bytes}
    (hs : D.Pairwise fun a b => bytesLe a b = true ∧ a ≠ b) (hm : ∀ k, k ∈ D ↔ k ∈ allKeys t) :
    sortedKeys t = D := by
  have ht := sortedKeys_sorted t
  refine List.Perm.eq_of_pairwise (le := fun a b => bytesLe a b = true)
    (fun a b _ _ => bytesLe_antisymm a b) (ht.imp And.left) (hs.imp And.left) ?_
  exact (List.perm_ext_iff_of_nodup (ht.imp And.right) (hs.imp And.right)).mpr fun k => by
    rw [mem_sortedKeys, hm]

/-- the finite check behind `encode t = B`: `D` is the strictly sorted key set of `t`, and writing `t` with the
pool built from `D` gives `B` -/
def literalOk (t : RawTriangle) (D : List Bytes) (B : Bytes) : Bool :=
  decide (D.Pairwise fun a b => bytesLe a b = true ∧ a ≠ b) &&
  (allKeys t).all D.contains && D.all (allKeys t).contains &&
  K.magic ++ (K.version ++ (writePool (padPool D 0) ++ writeRecords (padPool D 0) none t)) == B

theorem encode_of_literalOk {t : RawTriangle} {D : List Bytes} {B : Bytes} (h : literalOk t D B = true) :
    encode t = B := by
  simp only [literalOk, Bool.and_eq_true, decide_eq_true_eq, List.all_eq_true, List.contains_iff_mem,
    beq_iff_eq] at h
  obtain ⟨⟨⟨hs, h1⟩, h2⟩, hB⟩ := h
  rw [← hB, encode, poolOf, sortedKeys_eq_of hs fun k => ⟨h2 k, h1 k⟩]

theorem decoders_of_encode {t : RawTriangle} {B : Bytes} (h : encode t = B) (hw : wf t = true) :
    decode B = .ok t ∧ decodeLayout B = .ok t :=
  h ▸ decode_encode_main t hw

theorem golden_file {t : RawTriangle} {D : List Bytes} {B : Bytes} (h : literalOk t D B = true)
    (hc : t.all cellOk = true) (hk : 2 * (allKeys t).length < 32768) :
    encode t = B ∧ decode B = .ok t ∧ decodeLayout B = .ok t :=
  ⟨encode_of_literalOk h, decoders_of_encode (encode_of_literalOk h) (wf_of_cells_keys t hc hk)⟩

namespace Golden

/-! The recorded `…Keys` lists hold every key occurrence in byte order, so `dedupAdj`, which the kernel can run, gives
the distinct keys `D`. -/

theorem missing_cells_file : encode missing_cellsCells = missing_cellsBytes ∧
    decode missing_cellsBytes = .ok missing_cellsCells ∧ decodeLayout missing_cellsBytes = .ok missing_cellsCells :=
  golden_file (D := dedupAdj missing_cellsKeys) (by decide +kernel) (by decide +kernel) (by decide +kernel)

theorem missing_eval_file : encode missing_evalCells = missing_evalBytes ∧
    decode missing_evalBytes = .ok missing_evalCells ∧ decodeLayout missing_evalBytes = .ok missing_evalCells :=
  golden_file (D := dedupAdj missing_evalKeys) (by decide +kernel) (by decide +kernel) (by decide +kernel)

theorem meyers_file : encode meyersCells = meyersBytes ∧
    decode meyersBytes = .ok meyersCells ∧ decodeLayout meyersBytes = .ok meyersCells :=
  golden_file (D := dedupAdj meyersKeys) (by decide +kernel) (by decide +kernel) (by decide +kernel)

theorem holey_init_tri_file : encode holey_init_triCells = holey_init_triBytes ∧
    decode holey_init_triBytes = .ok holey_init_triCells ∧
    decodeLayout holey_init_triBytes = .ok holey_init_triCells :=
  golden_file (D := dedupAdj holey_init_triKeys) (by decide +kernel) (by decide +kernel) (by decide +kernel)

end Golden
end Bermuda.Codec
