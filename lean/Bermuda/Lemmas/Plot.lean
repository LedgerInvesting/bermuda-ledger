/-
Helper lemmas for C20: the sorted sample, the piecewise-linear interpolation of `np.quantile`,
the rows of `slicePeriodRows` as the classes of (metadata, period).
-/
import Bermuda.Model.Plot
import Bermuda.Lemmas.Partition
import Bermuda.Lemmas.Sort
import Mathlib.Tactic.Linarith
namespace Bermuda.Plot

def SortedR (s : List Rat) : Prop := s.Pairwise (· ≤ ·)

theorem sortRat_sorted (xs : List Rat) : SortedR (sortRat xs) := pairwise_sortRat xs

theorem sortRat_length (xs : List Rat) : (sortRat xs).length = xs.length :=
  (List.mergeSort_perm xs _).length_eq

theorem sortRat_ne_nil {xs : List Rat} (h : xs ≠ []) : sortRat xs ≠ [] :=
  fun e => h (List.eq_nil_of_length_eq_zero (by rw [← sortRat_length, e]; rfl))

theorem nth_clamp (s : List Rat) (i : Nat) : nth s i = nth s (min i (s.length - 1)) := by
  simp [nth]

theorem nth_of_lt {s : List Rat} {i : Nat} (hi : i < s.length) : nth s i = s[i] := by
  unfold nth
  rw [Nat.min_eq_left (by omega), List.getD_eq_getElem?_getD, List.getElem?_eq_getElem hi, Option.getD_some]

theorem nth_mono {s : List Rat} (hs : SortedR s) {i j : Nat} (h : i ≤ j) : nth s i ≤ nth s j := by
  by_cases hl : 0 < s.length
  · exact getD_mono_of_pairwise (fun _ => le_refl _) hs (by omega) (by omega) 0
  · rw [List.eq_nil_of_length_eq_zero (by omega : s.length = 0)]; exact le_refl _

theorem nth_le_last {s : List Rat} (hs : SortedR s) (i : Nat) : nth s i ≤ nth s (s.length - 1) := by
  rw [nth_clamp s i]; exact nth_mono hs (Nat.min_le_right _ _)

theorem nth_mem {s : List Rat} (hs : s ≠ []) (i : Nat) : nth s i ∈ s := by
  have hl : 0 < s.length := List.length_pos_iff.mpr hs
  rw [nth_clamp, nth_of_lt (by omega : min i (s.length - 1) < s.length)]
  exact List.getElem_mem _

theorem mem_le_last {s : List Rat} (hs : SortedR s) {x : Rat} (hx : x ∈ s) : x ≤ nth s (s.length - 1) := by
  obtain ⟨i, hi, rfl⟩ := List.getElem_of_mem hx
  rw [← nth_of_lt hi]; exact nth_le_last hs i

theorem first_le_mem {s : List Rat} (hs : SortedR s) {x : Rat} (hx : x ∈ s) : nth s 0 ≤ x := by
  obtain ⟨i, hi, rfl⟩ := List.getElem_of_mem hx
  rw [← nth_of_lt hi]; exact nth_mono hs (Nat.zero_le _)

theorem mem_sortRat {xs : List Rat} {x : Rat} : x ∈ sortRat xs ↔ x ∈ xs :=
  (List.mergeSort_perm xs _).mem_iff

/-- the piecewise-linear interpolation of `np.quantile` at virtual index `h` -/
def interp (s : List Rat) (h : Rat) : Rat :=
  nth s h.floor.toNat + (nth s (h.floor.toNat + 1) - nth s h.floor.toNat) * (h - (h.floor : Rat))

theorem quantile_eq_interp (xs : List Rat) (q : Rat) :
    quantile xs q = interp (sortRat xs) (q * ((xs.length : Rat) - 1)) := rfl

theorem frac_bounds (h : Rat) : 0 ≤ h - (h.floor : Rat) ∧ h - (h.floor : Rat) < 1 := by
  have h1 := Rat.floor_le h
  have h2 := Rat.lt_floor_add_one h
  push_cast at h2
  constructor <;> linarith

theorem interp_bounds {s : List Rat} (hs : SortedR s) (h : Rat) :
    nth s h.floor.toNat ≤ interp s h ∧ interp s h ≤ nth s (h.floor.toNat + 1) := by
  unfold interp
  have hd : nth s h.floor.toNat ≤ nth s (h.floor.toNat + 1) := nth_mono hs (by omega)
  obtain ⟨f0, f1⟩ := frac_bounds h
  constructor
  · nlinarith [mul_nonneg (sub_nonneg.mpr hd) f0]
  · nlinarith [mul_nonneg (sub_nonneg.mpr hd) (sub_nonneg.mpr (le_of_lt f1))]

theorem interp_mono {s : List Rat} (hs : SortedR s) {h h' : Rat} (h0 : 0 ≤ h) (hh : h ≤ h') :
    interp s h ≤ interp s h' := by
  have hfl : h.floor ≤ h'.floor := Rat.floor_monotone hh
  have hnn : 0 ≤ h.floor := Rat.le_floor_iff.mpr (by simpa using h0)
  rcases Int.lt_or_eq_of_le hfl with hlt | heq
  · have h1 := (interp_bounds hs h).2
    have h2 := (interp_bounds hs h').1
    have h3 : nth s (h.floor.toNat + 1) ≤ nth s h'.floor.toNat := nth_mono hs (by omega)
    linarith
  · unfold interp
    rw [← heq]
    have hd : nth s h.floor.toNat ≤ nth s (h.floor.toNat + 1) := nth_mono hs (by omega)
    nlinarith [mul_nonneg (sub_nonneg.mpr hd) (sub_nonneg.mpr hh)]

theorem quantile_nil (q : Rat) : quantile [] q = 0 := by
  simp [quantile, sortRat, nth]

theorem quantile_mono_all (xs : List Rat) {q q' : Rat} (h0 : 0 ≤ q) (h : q ≤ q') :
    quantile xs q ≤ quantile xs q' := by
  cases xs with
  | nil => simp [quantile_nil]
  | cons a rest =>
    rw [quantile_eq_interp, quantile_eq_interp]
    have hn : (1 : Rat) ≤ ((a :: rest).length : Rat) := by
      have : 1 ≤ (a :: rest).length := by simp
      exact_mod_cast this
    apply interp_mono (sortRat_sorted _)
    · exact mul_nonneg h0 (by linarith)
    · exact mul_le_mul_of_nonneg_right h (by linarith)

theorem quantile_bounds (xs : List Rat) (q : Rat) :
    minimum xs ≤ quantile xs q ∧ quantile xs q ≤ maximum xs := by
  rw [quantile_eq_interp]
  have hs := sortRat_sorted xs
  obtain ⟨lo, hi⟩ := interp_bounds hs (q * ((xs.length : Rat) - 1))
  unfold minimum maximum
  constructor
  · exact le_trans (nth_mono hs (Nat.zero_le _)) lo
  · have := nth_le_last hs ((q * ((xs.length : Rat) - 1)).floor.toNat + 1)
    rw [sortRat_length] at this
    exact le_trans hi this

theorem rowKey_eq_iff {a b : Cell} : rowKey a = rowKey b ↔ a.md = b.md ∧ a.ps = b.ps ∧ a.pe = b.pe := by
  simp only [rowKey, Prod.mk.injEq]

/-- a row of `slice_period_rows` is the cells of the triangle with that (metadata, period), sorted
by evaluation date -/
theorem row_eq {t : List Cell} {kr : RowKey × List Cell} (hkr : kr ∈ slicePeriodRows t) :
    kr.2 = (t.filter (fun c => rowKey c == kr.1)).mergeSort (leOf evCmp) := by
  obtain ⟨g, hg, rfl⟩ := List.mem_map.mp hkr
  show g.2.mergeSort _ = _
  rw [groupBy_group_eq ((List.mergeSort_perm _ _).mem_iff.mp hg)]
  rfl

theorem slicePeriodRows_partition (t : List Cell) : Partition rowKey t (slicePeriodRows t) :=
  ((groupBy_partition rowKey t).reorder (List.mergeSort_perm _ _)).mapGroups
    (f := fun r => r.mergeSort fun a b => Date.cmp a.ev b.ev != .gt) fun _ _ => List.mergeSort_perm _ _

theorem mem_row_iff {t : List Cell} {kr : RowKey × List Cell} (hkr : kr ∈ slicePeriodRows t) {d : Cell} :
    d ∈ kr.2 ↔ d ∈ t ∧ rowKey d = kr.1 :=
  (slicePeriodRows_partition t).mem_iff hkr

theorem row_cover {t : List Cell} {c : Cell} (hc : c ∈ t) :
    ∃ kr ∈ slicePeriodRows t, kr.1 = rowKey c ∧ c ∈ kr.2 :=
  (slicePeriodRows_partition t).exists_group hc

end Bermuda.Plot
