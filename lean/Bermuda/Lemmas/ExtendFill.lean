/-
Lemmas for `fill_forward_gaps` (C15): the lag dictionary, one fill step, the loop over the new lags of one row — what
every returned row looks like and, on a row whose lags lie on the grid of the resolution, its closed form — and the whole
triangle: the stages of a run, the run in closed form on the grid and, from it, when it returns.
-/
import Bermuda.Lemmas.Extend
import Bermuda.Lemmas.Partition
namespace Bermuda.Extend

/-! ### the lag dictionary -/

theorem mem_lagSet {d : LagDict} {k : Rat} {v : Cell} {p : Rat × Cell} :
    p ∈ lagSet d k v ↔ p = (k, v) ∨ (p ∈ d ∧ p.1 ≠ k) := by
  rw [lagSet_eq_assoc]; exact Assoc.mem_set

theorem key_mem_lagSet {d : LagDict} {k k' : Rat} {v : Cell} :
    k' ∈ (lagSet d k v).map (·.1) ↔ k' = k ∨ k' ∈ d.map (·.1) := by
  rw [lagSet_eq_assoc]; exact Assoc.mem_keys_set

theorem lagSet_keys_nodup {d : LagDict} {k : Rat} {v : Cell} (h : (d.map (·.1)).Nodup) :
    ((lagSet d k v).map (·.1)).Nodup :=
  lagSet_eq_assoc d k v ▸ Assoc.nodup_keys_set h k v

theorem lagSet_fresh {d : LagDict} {k : Rat} (h : k ∉ d.map (·.1)) (v : Cell) : lagSet d k v = d ++ [(k, v)] := by
  rw [lagSet_eq_assoc]; exact Assoc.set_of_not_mem h v

/-- `{cell.dev_lag(): cell for cell in row}`, built on top of `init`: the keys stay pairwise different, every entry is
one of `init` or a cell of the row under its lag, and every lag of the row is a key -/
theorem lagDictOf_fold (row : List Cell) (init : LagDict) (hn : (init.map (·.1)).Nodup) :
    ((row.foldl (fun d c => lagSet d c.devLag c) init).map (·.1)).Nodup ∧
    (∀ p ∈ row.foldl (fun d c => lagSet d c.devLag c) init, p ∈ init ∨ (p.2 ∈ row ∧ p.1 = p.2.devLag)) ∧
    ∀ k, (k ∈ init.map (·.1) ∨ ∃ o ∈ row, o.devLag = k) →
      k ∈ (row.foldl (fun d c => lagSet d c.devLag c) init).map (·.1) := by
  induction row generalizing init with
  | nil => exact ⟨hn, fun p hp => Or.inl hp, fun k hk => hk.elim id fun ⟨_, h, _⟩ => nomatch h⟩
  | cons a rest ih =>
    obtain ⟨h1, h2, h3⟩ := ih (lagSet init a.devLag a) (lagSet_keys_nodup hn)
    refine ⟨h1, fun p hp => ?_, fun k hk => h3 k ?_⟩
    · rcases h2 p hp with h | h
      · rcases mem_lagSet.mp h with rfl | ⟨h, _⟩
        · exact Or.inr ⟨List.mem_cons_self, rfl⟩
        · exact Or.inl h
      · exact Or.inr ⟨List.mem_cons_of_mem _ h.1, h.2⟩
    · rcases hk with hk | ⟨o, ho, rfl⟩
      · exact Or.inl (key_mem_lagSet.mpr (Or.inr hk))
      · rcases List.mem_cons.mp ho with rfl | ho
        · exact Or.inl (key_mem_lagSet.mpr (Or.inl rfl))
        · exact Or.inr ⟨o, ho, rfl⟩

theorem lagDictOf_keys_nodup (row : List Cell) : ((lagDictOf row).map (·.1)).Nodup :=
  (lagDictOf_fold row [] List.nodup_nil).1

/-- entries of `{cell.dev_lag(): cell for cell in row}` come from the row -/
theorem lagDictOf_mem {row : List Cell} {p : Rat × Cell} (hp : p ∈ lagDictOf row) :
    p.2 ∈ row ∧ p.1 = p.2.devLag :=
  ((lagDictOf_fold row [] List.nodup_nil).2.1 p hp).resolve_left List.not_mem_nil

/-- every lag of the row is a key of the dictionary (whatever cell it ends up holding) -/
theorem lagDictOf_key {row : List Cell} {o : Cell} (ho : o ∈ row) : o.devLag ∈ (lagDictOf row).map (·.1) :=
  (lagDictOf_fold row [] List.nodup_nil).2.2 _ (Or.inr ⟨o, ho, rfl⟩)

/-- no two cells of the row share a lag: the dictionary is the row, keyed by lag -/
theorem lagDictOf_complete {row : List Cell} (hnd : row.Pairwise (fun a b => a.devLag ≠ b.devLag))
    {c : Cell} (hc : c ∈ row) : (c.devLag, c) ∈ lagDictOf row := by
  have : lagDictOf row = row.map fun c => (c.devLag, c) := by
    unfold lagDictOf
    simp only [lagSet_eq_assoc]
    exact Assoc.foldl_set_fresh (fun c : Cell => c.devLag) id row []
      (by simpa [List.Nodup, List.pairwise_map] using hnd)
  rw [this]
  exact List.mem_map_of_mem hc

/-! ### rows of `slice_period_rows` -/

theorem mem_slicePeriodRows {t : List Cell} {r : SliceKey × List Cell} (h : r ∈ slicePeriodRows t) :
    ∃ c0 ∈ t, r.1 = sliceKey c0 ∧ r.2 = (t.filter fun c => sliceKey c == r.1).mergeSort evLe := by
  unfold slicePeriodRows at h
  obtain ⟨k, hk, rfl⟩ := List.mem_map.mp h
  have hk' := (List.mergeSort_perm _ _).mem_iff.mp hk
  rw [List.mem_eraseDups] at hk'
  obtain ⟨c0, hc0, rfl⟩ := List.mem_map.mp hk'
  exact ⟨c0, hc0, rfl, rfl⟩

theorem slicePeriodRows_partition (t : List Cell) : Partition sliceKey t (slicePeriodRows t) :=
  .of_keys ((List.mergeSort_perm _ _).nodup_iff.mpr (nodup_eraseDups _))
    (fun k => by rw [(List.mergeSort_perm _ _).mem_iff, List.mem_eraseDups, List.mem_map])
    fun _ _ => List.mergeSort_perm _ _

theorem mem_slicePeriodRow_iff {t : List Cell} {r : SliceKey × List Cell} (h : r ∈ slicePeriodRows t) (c : Cell) :
    c ∈ r.2 ↔ c ∈ t ∧ sliceKey c = r.1 :=
  (slicePeriodRows_partition t).mem_iff h

theorem slicePeriodRows_cover {t : List Cell} {c : Cell} (hc : c ∈ t) :
    ∃ r ∈ slicePeriodRows t, r.1 = sliceKey c ∧ c ∈ r.2 :=
  (slicePeriodRows_partition t).exists_group hc

theorem slicePeriodRows_nil {t : List Cell} (h : slicePeriodRows t = []) : t = [] := by
  have := (slicePeriodRows_partition t).flatMap_perm
  rw [h] at this
  exact this.nil_eq.symm

/-! ### `range`, new lags, one fill step -/

theorem grid_lt_iff {res : Int} (hres : 0 < res) (a j k : Int) : a + res * j < a + res * k ↔ j < k := by
  rw [Int.add_lt_add_iff_left]
  exact ⟨fun h => Int.lt_of_mul_lt_mul_left h (Int.le_of_lt hres), fun h => Int.mul_lt_mul_of_pos_left h hres⟩

theorem mem_pyRange_iff {a b s x : Int} (hs : 0 < s) :
    x ∈ pyRange a b s ↔ ∃ i : Nat, x = a + s * (i : Int) ∧ x < b := by
  unfold pyRange
  rw [if_pos hs]
  simp only [List.mem_map, List.mem_range]
  constructor
  · rintro ⟨i, hi, rfl⟩
    refine ⟨i, rfl, ?_⟩
    have h1 : ((i : Int) + 1) ≤ (b - a + s - 1) / s := by omega
    have h2 := (Int.le_ediv_iff_mul_le hs).mp h1
    have : ((i : Int) + 1) * s = s * (i : Int) + s := by ring
    omega
  · rintro ⟨i, rfl, h⟩
    refine ⟨i, ?_, rfl⟩
    have h1 : ((i : Int) + 1) * s ≤ b - a + s - 1 := by
      have : ((i : Int) + 1) * s = s * (i : Int) + s := by ring
      omega
    have h2 := (Int.le_ediv_iff_mul_le hs).mpr h1
    omega

/-- the cell `fill_forward_gaps` puts at lag `lag`, copied from `src` -/
def fillCell (noneFlag : Bool) (src : Cell) (lag : Int) : Cell :=
  if noneFlag then
    { src with ev := addMonths src.pe (lag : Rat),
               values := src.values.map fun (kv : String × Val) => (kv.1, Val.none) }
  else { src with ev := addMonths src.pe (lag : Rat) }

theorem fillCell_fields (nf : Bool) (o : Cell) (x : Int) :
    (fillCell nf o x).md = o.md ∧ (fillCell nf o x).ps = o.ps ∧ (fillCell nf o x).pe = o.pe ∧
    (fillCell nf o x).ev = addMonths o.pe (x : Rat) := by
  cases nf <;> simp [fillCell]

theorem fillCell_fillCell (nf : Bool) (o : Cell) (l' l : Int) :
    fillCell nf (fillCell nf o l') l = fillCell nf o l := by
  cases nf <;> simp [fillCell, List.map_map, Function.comp]

theorem fillCell_datesOk (nf : Bool) (src : Cell) (lag : Int) :
    (fillCell nf src lag).datesOk = ({ src with ev := addMonths src.pe (lag : Rat) } : Cell).datesOk := by
  cases nf <;> rfl

/-- blanking the values does not touch what the constructor checks -/
theorem fillStep_eq {res : Int} {nf : Bool} {d : LagDict} {lag : Int} {src : Cell}
    (hsrc : lagGet d ((lag - res : Int) : Rat) = some src) :
    fillStep res nf d lag =
      if (fillCell nf src lag).datesOk then .ok (lagSet d lag (fillCell nf src lag)) else .error .valueError := by
  have hb : ∀ vs, ({ src with ev := addMonths src.pe (lag : Rat), values := vs } : Cell).datesOk =
      ({ src with ev := addMonths src.pe (lag : Rat) } : Cell).datesOk := fun _ => rfl
  unfold fillStep
  simp only [hsrc, bind, Except.bind, Cell.mk?]
  cases nf <;> by_cases hd : ({ src with ev := addMonths src.pe (lag : Rat) } : Cell).datesOk = true <;>
    simp [fillCell, hb, hd, pure, Except.pure]

theorem fillStep_ok {res : Int} {nf : Bool} {d d' : LagDict} {lag : Int}
    (h : fillStep res nf d lag = .ok d') :
    ∃ src, lagGet d ((lag - res : Int) : Rat) = some src ∧ d' = lagSet d lag (fillCell nf src lag) ∧
      (fillCell nf src lag).datesOk = true := by
  cases hg : lagGet d ((lag - res : Int) : Rat) with
  | none =>
    unfold fillStep at h
    simp only [hg] at h
    cases h
  | some src =>
    rw [fillStep_eq hg] at h
    split at h
    · cases h; exact ⟨src, rfl, rfl, ‹_›⟩
    · cases h

theorem newLags_ends {res : Int} {row : List Cell} {x : Int} (h : x ∈ newLags res row) :
    ∃ f l, row.head? = some f ∧ row.getLast? = some l := by
  unfold newLags at h
  split at h
  · exact ⟨_, _, ‹_›, ‹_›⟩
  · cases h

/-- the new lags of a row: the lags of `range(first, last + res, res)` that no cell of the row has -/
theorem mem_newLags {res : Int} {row : List Cell} {f l : Cell} (hf : row.head? = some f)
    (hl : row.getLast? = some l) {x : Int} :
    x ∈ newLags res row ↔ x ∈ pyRange (truncInt f.devLag) (truncInt (l.devLag + res)) res ∧
      ∀ o ∈ row, o.devLag ≠ (x : Rat) := by
  unfold newLags
  rw [hf, hl]
  simp only
  rw [(List.mergeSort_perm _ _).mem_iff, List.mem_filter, List.mem_eraseDups]
  refine and_congr_right fun _ => ?_
  simp only [Bool.not_eq_true', List.any_eq_false, beq_iff_eq]
  constructor
  · intro h o ho heq
    obtain ⟨p, hp, hpk⟩ := List.mem_map.mp (lagDictOf_key ho)
    exact h p hp (hpk.trans heq)
  · intro h p hp hpk
    obtain ⟨hp1, hp2⟩ := lagDictOf_mem hp
    exact h p.2 hp1 (hp2.symm.trans hpk)

theorem newLags_lt (res : Int) (row : List Cell) : (newLags res row).Pairwise (· < ·) := by
  unfold newLags
  split
  · exact pairwise_lt_sortInt ((nodup_eraseDups _).filter _)
  · exact List.Pairwise.nil

theorem newLags_fresh (res : Int) (row : List Cell) :
    ((lagDictOf row).map (·.1) ++ (newLags res row).map fun (x : Int) => (x : Rat)).Nodup := by
  refine List.nodup_append.mpr ⟨lagDictOf_keys_nodup row, ?_, ?_⟩
  · exact ((newLags_lt res row).imp Int.ne_of_lt).map _ fun _ _ hne e => hne (Int.cast_injective e)
  · intro k hk y hy e
    obtain ⟨x, hx, rfl⟩ := List.mem_map.mp hy
    obtain ⟨p, hp, rfl⟩ := List.mem_map.mp hk
    obtain ⟨f, l, hf, hl⟩ := newLags_ends hx
    exact ((mem_newLags hf hl).mp hx).2 p.2 (lagDictOf_mem hp).1 ((lagDictOf_mem hp).2.symm.trans e)

/-! ### one row of `fill_forward_gaps` -/

/-- all observed lags of the row lie on one integer grid of step `res` -/
def GridRow (res : Int) (row : List Cell) : Prop :=
  ∃ a : Int, ∀ o ∈ row, ∃ j : Int, o.devLag = ((a + res * j : Int) : Rat)

/-- `c` is a cell `fill_forward_gaps` adds to `row`: at an unobserved grid lag strictly between the
row's first and last lag, copied (or blanked) from the observation `o` with the greatest lag below it -/
def FillCellOf (res : Int) (nf : Bool) (row : List Cell) (c : Cell) : Prop :=
  ∃ f l, row.head? = some f ∧ row.getLast? = some l ∧ ∃ lag : Int,
    f.devLag < (lag : Rat) ∧ (lag : Rat) < l.devLag ∧ (∃ i : Nat, lag = truncInt f.devLag + res * (i : Int)) ∧
    (∀ o ∈ row, o.devLag ≠ (lag : Rat)) ∧
    ∃ o ∈ row, o.devLag < (lag : Rat) ∧ (∀ o' ∈ row, o'.devLag ≤ (lag : Rat) → o'.devLag ≤ o.devLag) ∧
      c = fillCell nf o lag

theorem fillRow_ok {res : Int} {nf : Bool} {row cells : List Cell} :
    fillRow res nf row = .ok cells ↔ (row = [] ∨ res ≠ 0) ∧
      ∃ d, (newLags res row).foldlM (fillStep res nf) (lagDictOf row) = .ok d ∧ cells = d.map (·.2) := by
  unfold fillRow
  cases row with
  | nil =>
    exact ⟨fun h => ⟨Or.inl rfl, [], rfl, by cases h; rfl⟩, fun ⟨_, d, hd, hc⟩ => by cases hd; rw [hc]; rfl⟩
  | cons c rest =>
    simp only [List.isEmpty_cons, Bool.false_eq_true, if_false, beq_iff_eq]
    by_cases hr : res = 0
    · rw [if_pos hr]
      exact ⟨fun h => (by cases h), fun ⟨h, _⟩ => absurd hr (h.resolve_left (List.cons_ne_nil _ _))⟩
    · rw [if_neg hr]
      exact ⟨fun h => let ⟨d, hd, h⟩ := bind_ok h; ⟨Or.inr hr, d, hd, by cases h; rfl⟩,
        fun ⟨_, d, hd, hc⟩ => by rw [hd, hc]; rfl⟩

/-- what an entry of the filled dictionary is, with no assumption on the resolution -/
def FillEntry (res : Int) (nf : Bool) (row : List Cell) (p : Rat × Cell) : Prop :=
  (p.2 ∈ row ∧ p.1 = p.2.devLag) ∨
  ∃ o ∈ row, ∃ lag ∈ newLags res row, p.1 = ((lag : Int) : Rat) ∧ p.2 = fillCell nf o lag ∧
    p.2.datesOk = true

theorem fillRow_loose {res : Int} {nf : Bool} {row : List Cell} {d : LagDict}
    (hd : (newLags res row).foldlM (fillStep res nf) (lagDictOf row) = .ok d) :
    (d.map (·.1)).Nodup ∧ (∀ p ∈ lagDictOf row, p ∈ d) ∧ ∀ p ∈ d, FillEntry res nf row p := by
  refine foldlM_inv
    (fun d => (d.map (·.1)).Nodup ∧ (∀ p ∈ lagDictOf row, p ∈ d) ∧ ∀ p ∈ d, FillEntry res nf row p) hd
    ⟨lagDictOf_keys_nodup row, fun _ hp => hp, fun p hp => Or.inl (lagDictOf_mem hp)⟩ ?_
  intro d0 x d1 ⟨hn, hsub, hent⟩ hx hstep
  obtain ⟨src, hsrc, rfl, hok⟩ := fillStep_ok hstep
  refine ⟨lagSet_keys_nodup hn, fun p hp => mem_lagSet.mpr (Or.inr ⟨hsub p hp, fun e => ?_⟩), fun p hp => ?_⟩
  · exact (List.nodup_append.mp (newLags_fresh res row)).2.2 _ (List.mem_map_of_mem hp) _
      (List.mem_map_of_mem hx) e
  · rcases mem_lagSet.mp hp with rfl | ⟨hp0, _⟩
    · right
      rcases hent _ (Assoc.mem_of_get? hsrc) with ⟨h1, _⟩ | ⟨o, ho, lag', _, _, h2, _⟩
      · exact ⟨src, h1, x, hx, rfl, rfl, hok⟩
      · simp only at h2
        refine ⟨o, ho, x, hx, rfl, ?_, hok⟩
        show fillCell nf src x = fillCell nf o x
        rw [h2, fillCell_fillCell]
    · exact hent p hp0

/-- no observed cell of a row is lost -/
theorem fillRow_preserves {res : Int} {nf : Bool} {row cells : List Cell}
    (h : fillRow res nf row = .ok cells) (hnd : row.Pairwise (fun a b => a.devLag ≠ b.devLag)) :
    ∀ c ∈ row, c ∈ cells := by
  obtain ⟨_, d, hd, rfl⟩ := fillRow_ok.mp h
  exact fun c hc => List.mem_map.mpr ⟨_, (fillRow_loose hd).2.1 _ (lagDictOf_complete hnd hc), rfl⟩

/-- The lags are new keys, so every step appends; the lookup one step below finds either an
entry of the initial dictionary or an earlier copy, and a copy of a copy is a copy of the source
(`fillCell_fillCell`): with `src x` the initial entry the chain below `x` ends in, the cell at `x` is
`fillCell nf (src x) x` whatever happened before, and the loop returns exactly when each of these passes the constructor. -/
theorem fill_loop {res : Int} {nf : Bool} {d0 : LagDict} {l : List Int} (src : Int → Cell)
    (hfresh : (d0.map (·.1) ++ l.map fun (x : Int) => (x : Rat)).Nodup)
    (hsrc : ∀ pre x suf, l = pre ++ x :: suf →
      lagGet d0 ((x - res : Int) : Rat) = some (src x) ∨ (x - res ∈ pre ∧ src (x - res) = src x))
    {d' : LagDict} :
    l.foldlM (fillStep res nf) d0 = .ok d' ↔
      (∀ x ∈ l, (fillCell nf (src x) x).datesOk = true) ∧
      d' = d0 ++ l.map fun (x : Int) => ((x : Rat), fillCell nf (src x) x) := by
  suffices H : ∀ suf pre, l = pre ++ suf →
      (suf.foldlM (fillStep res nf) (d0 ++ pre.map fun (x : Int) => ((x : Rat), fillCell nf (src x) x)) = .ok d' ↔
        (∀ x ∈ suf, (fillCell nf (src x) x).datesOk = true) ∧
        d' = d0 ++ (pre ++ suf).map fun (x : Int) => ((x : Rat), fillCell nf (src x) x)) by
    simpa using H l [] rfl
  intro suf
  induction suf with
  | nil =>
    intro pre _
    rw [List.foldlM_nil, List.append_nil]
    exact ⟨fun h => ⟨fun _ hx => (List.not_mem_nil hx).elim, by cases h; rfl⟩, fun h => by rw [h.2]; rfl⟩
  | cons x suf ih =>
    intro pre hl
    subst hl
    have hkeys : ((d0 ++ pre.map fun (x : Int) => ((x : Rat), fillCell nf (src x) x)).map (·.1)) =
        d0.map (·.1) ++ pre.map fun (x : Int) => (x : Rat) := by
      simp [List.map_map, Function.comp_def]
    have hfr : ((d0.map (·.1) ++ pre.map fun (x : Int) => (x : Rat)) ++
        ((x : Rat) :: suf.map fun (x : Int) => (x : Rat))).Nodup := by
      simpa [List.append_assoc] using hfresh
    obtain ⟨hn, _, hdis⟩ := List.nodup_append.mp hfr
    rw [← hkeys] at hn hdis
    obtain ⟨s, hs, hcopy⟩ : ∃ s, lagGet (d0 ++ pre.map fun (x : Int) => ((x : Rat), fillCell nf (src x) x))
        ((x - res : Int) : Rat) = some s ∧ fillCell nf s x = fillCell nf (src x) x := by
      rcases hsrc pre x suf rfl with h0 | ⟨hp, he⟩
      · exact ⟨src x, (Assoc.get?_eq_some_iff hn).mpr (List.mem_append_left _ (Assoc.mem_of_get? h0)), rfl⟩
      · refine ⟨fillCell nf (src (x - res)) (x - res), (Assoc.get?_eq_some_iff hn).mpr
          (List.mem_append_right _ (List.mem_map.mpr ⟨x - res, hp, rfl⟩)), ?_⟩
        rw [fillCell_fillCell, he]
    have hx : ((x : Int) : Rat) ∉
        (d0 ++ pre.map fun (x : Int) => ((x : Rat), fillCell nf (src x) x)).map (·.1) :=
      fun hm => hdis _ hm _ List.mem_cons_self rfl
    rw [List.foldlM_cons, fillStep_eq hs, hcopy, lagSet_fresh hx]
    by_cases hd : (fillCell nf (src x) x).datesOk = true
    · have := ih (pre ++ [x]) (by simp)
      simp only [List.map_append, List.map_cons, List.map_nil, ← List.append_assoc] at this
      simp only [hd, if_true, ok_bind, List.forall_mem_cons, true_and]
      rw [this]
      simp
    · simp [hd, error_bind]

/-- the entry of `d` with the greatest key below `x` -/
def below (d : LagDict) (x : Rat) : Cell :=
  ((Spec.C15.maxRat ((d.map (·.1)).filter (· < x))).bind (lagGet d)).getD default

theorem below_spec {d : LagDict} {x k0 : Rat} (hk0 : k0 ∈ d.map (·.1)) (hlt : k0 < x) :
    ∃ k, lagGet d k = some (below d x) ∧ k < x ∧ ∀ k' ∈ d.map (·.1), k' < x → k' ≤ k := by
  have hmem : k0 ∈ (d.map (·.1)).filter (· < x) := List.mem_filter.mpr ⟨hk0, by simpa using hlt⟩
  obtain ⟨m, hm⟩ : ∃ m, Spec.C15.maxRat ((d.map (·.1)).filter (· < x)) = some m := by
    cases hf : (d.map (·.1)).filter (· < x) with
    | nil => rw [hf] at hmem; cases hmem
    | cons _ _ => exact ⟨_, rfl⟩
  obtain ⟨h1, h2⟩ := maxRat_spec hm
  obtain ⟨hmk, hmx⟩ := List.mem_filter.mp h1
  obtain ⟨c, hc⟩ : ∃ c, lagGet d m = some c := Assoc.get?_of_mem_keys hmk
  refine ⟨m, ?_, by simpa using hmx, fun k' hk' hlt' => h2 k' (List.mem_filter.mpr ⟨hk', by simpa using hlt'⟩)⟩
  unfold below
  rw [hm, Option.bind_some, hc]
  rfl

theorem below_pred {d : LagDict} {x y : Rat} (hxy : y < x) (hgap : ∀ k ∈ d.map (·.1), k < x → k ≤ y) :
    lagGet d y = some (below d x) ∨ (y ∉ d.map (·.1) ∧ below d y = below d x) := by
  by_cases hy : y ∈ d.map (·.1)
  · left
    obtain ⟨k, hk, hkx, hmax⟩ := below_spec hy hxy
    have hky : k = y :=
      Rat.le_antisymm (hgap k (Assoc.mem_keys_of_get? hk) hkx) (hmax y hy hxy)
    rw [← hky]
    exact hk
  · refine Or.inr ⟨hy, ?_⟩
    unfold below
    congr 3
    refine List.filter_congr fun k hk => ?_
    rw [decide_eq_decide]
    exact ⟨fun h => _root_.lt_trans h hxy,
      fun h => _root_.lt_of_le_of_ne (hgap k hk h) fun e => hy (e ▸ hk)⟩

theorem below_row {row : List Cell} {x : Rat} {o0 : Cell} (ho0 : o0 ∈ row) (hlt : o0.devLag < x) :
    below (lagDictOf row) x ∈ row ∧ (below (lagDictOf row) x).devLag < x ∧
      ∀ o' ∈ row, o'.devLag < x → o'.devLag ≤ (below (lagDictOf row) x).devLag := by
  obtain ⟨k, hk, hkx, hmax⟩ := below_spec (lagDictOf_key ho0) hlt
  obtain ⟨h1, h2⟩ := lagDictOf_mem (Assoc.mem_of_get? hk)
  simp only at h1 h2
  rw [← h2]
  exact ⟨h1, hkx, fun o' ho' hlt' => hmax _ (lagDictOf_key ho') hlt'⟩

theorem newLags_grid {res : Int} {row : List Cell} (hres : 0 < res) (hgrid : GridRow res row) {x : Int}
    (hx : x ∈ newLags res row) :
    ∃ f l, row.head? = some f ∧ row.getLast? = some l ∧ f.devLag < ((x : Int) : Rat) ∧ ((x : Int) : Rat) < l.devLag ∧
      (∃ i : Nat, x = truncInt f.devLag + res * (i : Int)) ∧
      (∀ k ∈ (lagDictOf row).map (·.1), k < ((x : Int) : Rat) → k ≤ ((x - res : Int) : Rat)) ∧
      (((x - res : Int) : Rat) ∉ (lagDictOf row).map (·.1) → x - res ∈ newLags res row) := by
  obtain ⟨a, ha⟩ := hgrid
  obtain ⟨f, l, hf, hl⟩ := newLags_ends hx
  obtain ⟨hrange, hne⟩ := (mem_newLags hf hl).mp hx
  obtain ⟨i, hxi, hxb⟩ := (mem_pyRange_iff hres).mp hrange
  obtain ⟨jf, hjf⟩ := ha f (List.mem_of_head? hf)
  obtain ⟨jl, hjl⟩ := ha l (List.mem_of_getLast? hl)
  have hxa : x = a + res * (jf + i) := by rw [hxi, hjf, truncInt_intCast]; ring
  have hlast : truncInt (l.devLag + (res : Rat)) = a + res * (jl + 1) := by
    have : l.devLag + (res : Rat) = (((a + res * (jl + 1) : Int)) : Rat) := by rw [hjl]; push_cast; ring
    rw [this, truncInt_intCast]
  have hji : jf + i < jl + 1 := (grid_lt_iff hres a _ _).mp (by rw [← hlast, ← hxa]; exact hxb)
  have hnel : jf + (i : Int) ≠ jl := fun heq => hne l (List.mem_of_getLast? hl) (by rw [hjl, hxa, heq])
  have hnef : (i : Int) ≠ 0 := fun heq => hne f (List.mem_of_head? hf) (by rw [hjf, hxa, heq]; simp)
  refine ⟨f, l, hf, hl, ?_, ?_, ⟨i, hxi⟩, fun k hk hkx => ?_, fun hkey => ?_⟩
  · rw [hjf, hxa]
    exact Int.cast_lt.mpr ((grid_lt_iff hres a _ _).mpr (by omega))
  · rw [hjl, hxa]
    exact Int.cast_lt.mpr ((grid_lt_iff hres a _ _).mpr (by omega))
  · -- a grid point below `x` is at most `x - res`
    obtain ⟨p, hp, rfl⟩ := List.mem_map.mp hk
    obtain ⟨j, hj⟩ := ha p.2 (lagDictOf_mem hp).1
    rw [(lagDictOf_mem hp).2, hj, hxa] at hkx ⊢
    have : j < jf + i := (grid_lt_iff hres a _ _).mp (Int.cast_lt.mp hkx)
    rw [show a + res * (jf + i) - res = a + res * (jf + i - 1) by ring]
    exact Int.cast_le.mpr (Int.not_lt.mp fun h => by have := (grid_lt_iff hres a _ _).mp h; omega)
  · refine (mem_newLags hf hl).mpr
      ⟨(mem_pyRange_iff hres).mpr ⟨i - 1, ?_, by omega⟩, fun o ho heq => hkey (heq ▸ lagDictOf_key ho)⟩
    have : ((i - 1 : Nat) : Int) = (i : Int) - 1 := by omega
    rw [this, hxi]; ring

def filledRow (res : Int) (nf : Bool) (row : List Cell) : List Cell :=
  (lagDictOf row).map (·.2) ++
    (newLags res row).map fun (x : Int) => fillCell nf (below (lagDictOf row) ((x : Int) : Rat)) x

theorem fillRow_closed {res : Int} {nf : Bool} {row cells : List Cell} (hres : 0 < res) (hgrid : GridRow res row) :
    fillRow res nf row = .ok cells ↔
      (∀ x ∈ newLags res row, (fillCell nf (below (lagDictOf row) ((x : Int) : Rat)) x).datesOk = true) ∧
      cells = filledRow res nf row := by
  unfold filledRow
  have hloop := fun d' => fill_loop (res := res) (nf := nf) (d' := d') (fun x => below (lagDictOf row) ((x : Int) : Rat))
    (newLags_fresh res row) fun pre x suf hL => by
      have hx : x ∈ newLags res row := by rw [hL]; simp
      obtain ⟨_, _, _, _, _, _, _, hgap, hnew⟩ := newLags_grid hres hgrid hx
      refine (below_pred (Int.cast_lt.mpr (by omega)) hgap).imp_right fun ⟨hkey, he⟩ => ⟨?_, he⟩
      -- the new lags are sorted: a smaller one stands before `x`
      have hs := newLags_lt res row
      have hy := hnew hkey
      rw [hL] at hs hy
      rcases List.mem_append.mp hy with hy | hy
      · exact hy
      · have := (List.pairwise_cons.mp (List.pairwise_append.mp hs).2.1).1
        rcases List.mem_cons.mp hy with hy | hy
        · omega
        · have := this _ hy; omega
  rw [fillRow_ok]
  constructor
  · rintro ⟨_, d, hd, rfl⟩
    obtain ⟨h1, rfl⟩ := (hloop _).mp hd
    exact ⟨h1, by simp [List.map_map, Function.comp_def]⟩
  · rintro ⟨h1, rfl⟩
    exact ⟨Or.inr (by omega), _, (hloop _).mpr ⟨h1, rfl⟩, by simp [List.map_map, Function.comp_def]⟩

theorem mem_filledRow {res : Int} {nf : Bool} {row : List Cell} (hres : 0 < res) (hgrid : GridRow res row) {c : Cell}
    (hc : c ∈ filledRow res nf row) : c ∈ row ∨ FillCellOf res nf row c := by
  rcases List.mem_append.mp hc with hc | hc
  · obtain ⟨p, hp, rfl⟩ := List.mem_map.mp hc
    exact Or.inl (lagDictOf_mem hp).1
  · obtain ⟨x, hx, rfl⟩ := List.mem_map.mp hc
    obtain ⟨f, l, hf, hl, hfx, hxl, hi, _⟩ := newLags_grid hres hgrid hx
    have hne := ((mem_newLags hf hl).mp hx).2
    obtain ⟨ho, hlt, hmax⟩ := below_row (List.mem_of_head? hf) hfx
    exact Or.inr ⟨f, l, hf, hl, x, hfx, hxl, hi, hne, _, ho, hlt,
      fun o' ho' hle => hmax o' ho' (_root_.lt_of_le_of_ne hle (hne o' ho')), rfl⟩

theorem filledRow_complete {res : Int} {nf : Bool} {row : List Cell} (hres : 0 < res) (hgrid : GridRow res row)
    {f l : Cell} (hf : row.head? = some f) (hl : row.getLast? = some l) {x : Int}
    (hx : x ∈ pyRange (truncInt f.devLag) (truncInt (l.devLag + res)) res) :
    ∃ c ∈ filledRow res nf row, ∃ o ∈ row, c.md = o.md ∧ c.ps = o.ps ∧ c.pe = o.pe ∧
      ((c = o ∧ o.devLag = ((x : Int) : Rat)) ∨ c.ev = addMonths c.pe ((x : Int) : Rat)) := by
  by_cases hobs : ((x : Int) : Rat) ∈ (lagDictOf row).map (·.1)
  · obtain ⟨p, hp, hpx⟩ := List.mem_map.mp hobs
    obtain ⟨h1, h2⟩ := lagDictOf_mem hp
    exact ⟨p.2, List.mem_append_left _ (List.mem_map_of_mem hp), p.2, h1, rfl, rfl, rfl,
      Or.inl ⟨rfl, h2.symm.trans hpx⟩⟩
  · have hx' : x ∈ newLags res row :=
      (mem_newLags hf hl).mpr ⟨hx, fun o ho heq => hobs (heq ▸ lagDictOf_key ho)⟩
    obtain ⟨f', _, hf', _, hfx, _⟩ := newLags_grid hres hgrid hx'
    obtain ⟨f1, f2, f3, f4⟩ := fillCell_fields nf (below (lagDictOf row) ((x : Int) : Rat)) x
    exact ⟨_, List.mem_append_right _ (List.mem_map_of_mem hx'), _, (below_row (List.mem_of_head? hf') hfx).1,
      f1, f2, f3, Or.inr (by rw [f4, f3])⟩

theorem filledRow_datesOk {res : Int} {nf : Bool} {row : List Cell} (hres : 0 < res) (hgrid : GridRow res row)
    (hctor : ∀ o ∈ row, ∀ l ∈ row, ∀ x : Int, o.devLag < ((x : Int) : Rat) → ((x : Int) : Rat) < l.devLag →
      ({ o with ev := addMonths o.pe ((x : Int) : Rat) } : Cell).datesOk = true) :
    ∀ x ∈ newLags res row, (fillCell nf (below (lagDictOf row) ((x : Int) : Rat)) x).datesOk = true := by
  intro x hx
  obtain ⟨f, l, hf, hl, hfx, hxl, _⟩ := newLags_grid hres hgrid hx
  obtain ⟨ho, hlt, _⟩ := below_row (List.mem_of_head? hf) hfx
  rw [fillCell_datesOk]
  exact hctor _ ho l (List.mem_of_getLast? hl) x hlt hxl

/-! ### the whole triangle -/

theorem fillForwardGaps_ok {t out : List Cell} {res? : Option Int} {nf : Bool} :
    fillForwardGaps t res? nf = .ok out ↔
    (slicePeriodRows t = [] ∧ out = []) ∨
    ∃ res parts, resolvedRes t res? = some res ∧
      (slicePeriodRows t).mapM (fun r => fillRow res nf r.2) = .ok parts ∧
      Triangle.ofCells parts.flatten = .ok out := by
  have hnil : Triangle.ofCells [] = .ok out ↔ out = [] := Triangle.ofCells_nil
  have hbind : ∀ res, ((slicePeriodRows t).mapM (fun r => fillRow res nf r.2) >>=
      fun filled => Triangle.ofCells filled.flatten) = .ok out ↔
      ∃ res' parts, some res = some res' ∧ (slicePeriodRows t).mapM (fun r => fillRow res' nf r.2) = .ok parts ∧
        Triangle.ofCells parts.flatten = .ok out :=
    fun res => ⟨fun h => let ⟨p, hp, h⟩ := bind_ok h; ⟨res, p, rfl, hp, h⟩,
      fun ⟨_, p, e, hp, h⟩ => by cases e; rw [hp]; exact h⟩
  unfold fillForwardGaps
  by_cases hr : slicePeriodRows t = []
  · simp only [hr, List.isEmpty_nil, if_true, List.mapM_nil, pure_eq_ok, hnil]
    constructor
    · exact fun h => Or.inl ⟨trivial, h⟩
    · rintro (⟨_, h⟩ | ⟨_, _, _, hp, h⟩)
      · exact h
      · cases hp; exact hnil.mp h
  · have hE : (slicePeriodRows t).isEmpty = false := by simpa using hr
    simp only [hE, Bool.false_eq_true, if_false, hr, false_and, false_or]
    cases res? with
    | some r => simp only [resolvedRes, pure_bind, hbind]
    | none =>
      cases he : evalDateResolution t with
      | some r => simp only [resolvedRes, he, pure_bind, hbind]
      | none => simp [resolvedRes, he, throw_bind]

theorem fillForwardGaps_closed {t out : List Cell} {res? : Option Int} {nf : Bool} {res : Int}
    (hres : resolvedRes t res? = some res) (hpos : 0 < res) (hgrid : ∀ r ∈ slicePeriodRows t, GridRow res r.2) :
    fillForwardGaps t res? nf = .ok out ↔
      (∀ r ∈ slicePeriodRows t, ∀ x ∈ newLags res r.2,
        (fillCell nf (below (lagDictOf r.2) ((x : Int) : Rat)) x).datesOk = true) ∧
      Triangle.ofCells ((slicePeriodRows t).flatMap fun r => filledRow res nf r.2) = .ok out := by
  have hrows := fun parts => mapM_ok_iff_of (f := fun r : SliceKey × List Cell => fillRow res nf r.2)
    (P := fun r => ∀ x ∈ newLags res r.2, (fillCell nf (below (lagDictOf r.2) ((x : Int) : Rat)) x).datesOk = true)
    (g := fun r => filledRow res nf r.2) (out := parts) fun r hr _ => fillRow_closed hpos (hgrid r hr)
  rw [fillForwardGaps_ok]
  constructor
  · rintro (⟨h0, rfl⟩ | ⟨res', parts, hres', hparts, hof⟩)
    · rw [h0]; exact ⟨fun _ hr => (List.not_mem_nil hr).elim, Triangle.ofCells_nil.mpr rfl⟩
    · rw [hres] at hres'; cases hres'
      obtain ⟨hall, rfl⟩ := (hrows parts).mp hparts
      exact ⟨hall, by rwa [List.flatMap_def]⟩
  · rintro ⟨hall, hof⟩
    exact Or.inr ⟨res, _, hres, (hrows _).mpr ⟨hall, rfl⟩, by rwa [← List.flatMap_def]⟩

/-- totality of `fill_forward_gaps`: on a class-consistent triangle, for a positive (given or inferred)
resolution on whose grid the lags of every slice row lie, the call returns as soon as no constructor call raises:
moving an observed cell to an integer lag strictly between its own lag and a lag of its row gives a valid cell. -/
theorem fillForwardGaps_total {t : List Cell} {res? : Option Int} {nf : Bool} {res : Int}
    (hk : kindsConsistent t = true) (hresv : resolvedRes t res? = some res) (hres : 0 < res)
    (hgrid : ∀ r ∈ slicePeriodRows t, GridRow res r.2)
    (hctor : ∀ o ∈ t, ∀ l ∈ t, rowKey l = rowKey o → ∀ x : Int, o.devLag < ((x : Int) : Rat) →
      ((x : Int) : Rat) < l.devLag → ({ o with ev := addMonths o.pe ((x : Int) : Rat) } : Cell).datesOk = true) :
    ∃ out, fillForwardGaps t res? nf = .ok out := by
  have hkinds : ∀ c ∈ (slicePeriodRows t).flatMap (fun r => filledRow res nf r.2), ∃ o ∈ t, c.kind = o.kind := by
    intro c hc
    obtain ⟨r, hr, hcr⟩ := List.mem_flatMap.mp hc
    rcases mem_filledRow hres (hgrid r hr) hcr with h1 | ⟨_, _, _, _, _, _, _, _, _, o, ho, _, _, rfl⟩
    · exact ⟨c, ((mem_slicePeriodRow_iff hr c).mp h1).1, rfl⟩
    · exact ⟨o, ((mem_slicePeriodRow_iff hr o).mp ho).1, by cases nf <;> rfl⟩
  obtain ⟨out, hout⟩ := Triangle.ofCells_isOk.mpr (kindsConsistent_of_kinds_mem hkinds hk)
  refine ⟨out, (fillForwardGaps_closed hresv hres hgrid).mpr ⟨fun r hr => ?_, hout⟩⟩
  refine filledRow_datesOk hres (hgrid r hr) fun o ho l hl x h1 h2 => ?_
  obtain ⟨hot, hok⟩ := (mem_slicePeriodRow_iff hr o).mp ho
  obtain ⟨hlt, hlk⟩ := (mem_slicePeriodRow_iff hr l).mp hl
  exact hctor o hot l hlt (sliceKey_eq_iff.mp (hlk.trans hok.symm)) x h1 h2

end Bermuda.Extend
