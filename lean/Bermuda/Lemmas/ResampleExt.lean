/-
Helper lemmas for `meEnsembleRaw` (guards of `maximum_entropy_ensemble`): on numbers, Python `==` is equality of
the numeric values that `numOf` extracts.
-/
import Bermuda.Model.ResampleExt
import Bermuda.Lemmas.Resample
namespace Bermuda.Resample

theorem numOf_isNum {v : Val} (h : isNum v = true) : ∃ q, numOf v = .ok q := by
  cases v <;> simp [isNum] at h <;> exact ⟨_, rfl⟩

/-- the order is crossed on purpose: `meEnsemble` compares every later number with the first as `q == head` -/
theorem scalarEq_numOf {a b : Val} {p q : Rat} (ha : numOf a = .ok p) (hb : numOf b = .ok q) :
    scalarEq a b = (q == p) := by
  cases a <;> cases b <;> simp [numOf] at ha hb <;> subst ha <;> subst hb <;>
    (simp only [scalarEq]; rw [Bool.eq_iff_iff]; simp only [beq_iff_eq]; exact eq_comm)

theorem all_eq_head_nums {x : Val} {rest : List Val} {nums : List Rat} (h : mapMExcept numOf (x :: rest) = .ok nums) :
    nums.all (fun q => q == nums.headD 0) = rest.all (scalarEq x) := by
  obtain _ | ⟨hp, hns⟩ := mapMExcept_forall₂ h
  clear h
  simp only [List.headD_cons, List.all_cons, beq_self_eq_true, Bool.true_and]
  induction hns with
  | nil => rfl
  | cons hv _ ih => rw [List.all_cons, List.all_cons, ih, scalarEq_numOf hp hv]

theorem meEnsemble_of_nums {x y : Val} {rest : List Val} {nums : List Rat} (qs : List Rat)
    (h : mapMExcept numOf (x :: y :: rest) = .ok nums) :
    meEnsemble (x :: y :: rest) qs =
      if (y :: rest).all (scalarEq x) then .ok (x :: y :: rest) else .ok ((reimposeRank nums qs).map Val.flt) := by
  simp only [meEnsemble, h, all_eq_head_nums h]

theorem mapM_isNum (l : List Val) (h : ∀ v ∈ l, isNum v = true) : ∃ ns, mapMExcept numOf l = .ok ns :=
  mapMExcept_eq_mapM numOf l ▸ mapM_ok_of_forall fun v hv => numOf_isNum (h v hv)

end Bermuda.Resample
