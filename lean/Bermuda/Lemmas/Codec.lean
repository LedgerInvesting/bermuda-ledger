/-
Codec lemmas (C05/C06/C19), part 1: fixed-width integers, and for every syntactic class below the dictionaries what
its reader does with what its writer wrote: it reads it back (`Reads`), and on a strict prefix it raises (`StrongP`)
or at worst returns with nothing left (`WeakP`). The layout decoder (Model/CodecLayout.lean) differs from the
reader's mirror only on input no writer produces, so `ReadBack` speaks of both and each class is treated once.
-/
import Bermuda.Model.CodecLayout
import Bermuda.Lemmas.DateOrder
namespace Bermuda.Codec

def Reads {α} (r : P α) (w : Bytes) (x : α) : Prop := ∀ rest, r (w ++ rest) = .ok (x, rest)

/-- the reader raised -/
def Fails {α} (r : Except Err α) : Prop := ∃ e, r = .error e

/-- on every strict prefix of `w` the reader raises -/
def StrongP {α} (r : P α) (w : Bytes) : Prop := ∀ j, j < w.length → Fails (r (w.take j))

/-- on every strict prefix of `w` the reader raises or returns having consumed everything -/
def WeakP {α} (r : P α) (w : Bytes) : Prop :=
  ∀ j, j < w.length → Fails (r (w.take j)) ∨ ∃ v, r (w.take j) = .ok (v, [])

theorem StrongP.weak {α} {r : P α} {w : Bytes} (h : StrongP r w) : WeakP r w :=
  fun j hj => Or.inl (h j hj)

theorem bindP_of_ok {α β} {p : P α} {f : α → P β} {s s' : Bytes} {a : α} (h : p s = .ok (a, s')) :
    bindP p f s = f a s' := by
  simp only [bindP, h]

theorem bindP_of_error {α β} {p : P α} {f : α → P β} {s : Bytes} {e : Err} (h : p s = .error e) :
    bindP p f s = .error e := by
  simp only [bindP, h]

theorem bindP_eq_ok {α β} {p : P α} {f : α → P β} {s : Bytes} {r : β × Bytes} :
    bindP p f s = .ok r ↔ ∃ a s', p s = .ok (a, s') ∧ f a s' = .ok r := by
  unfold bindP
  rcases p s with e | ⟨a, s'⟩
  · exact ⟨nofun, fun ⟨_, _, h, _⟩ => nomatch h⟩
  · exact ⟨fun h => ⟨a, s', rfl, h⟩, fun ⟨_, _, h, h'⟩ => by cases h; exact h'⟩

theorem Reads.bind {α β} {r : P α} {k : α → P β} {w₁ w₂ : Bytes} {x : α} {y : β}
    (h₁ : Reads r w₁ x) (h₂ : Reads (k x) w₂ y) : Reads (bindP r k) (w₁ ++ w₂) y := by
  intro rest
  rw [List.append_assoc, bindP_of_ok (h₁ _), h₂]

/-- What is shown of a reader `r`, and of its counterpart `rL` in the layout decoder, on what the writer wrote:
both read `w` back as `x`; on a strict prefix of `w` the reader raises or — only if `early` — returns having consumed
everything (a string body read by a plain `stream.read`, a value whose tag byte is missing). -/
structure ReadBack {α} (early : Bool) (r rL : P α) (w : Bytes) (x : α) : Prop where
  reads : Reads r w x
  readsL : Reads rL w x
  cut : ∀ j, j < w.length → Fails (r (w.take j)) ∨ early = true ∧ ∃ v, r (w.take j) = .ok (v, [])

namespace ReadBack
variable {α β : Type} {b b₁ b₂ : Bool} {r rL : P α} {w w₁ w₂ : Bytes} {x : α}

theorem strong (h : ReadBack false r rL w x) : StrongP r w :=
  fun j hj => (h.cut j hj).elim id fun h => nomatch h.1

theorem weak (h : ReadBack b r rL w x) : WeakP r w := fun j hj => (h.cut j hj).imp_right And.right

theorem weaken (h : ReadBack false r rL w x) : ReadBack b r rL w x :=
  ⟨h.reads, h.readsL, fun j hj => .inl (h.strong j hj)⟩

theorem pure (x : α) : ReadBack b (fun s => .ok (x, s)) (fun s => .ok (x, s)) [] x :=
  ⟨fun _ => rfl, fun _ => rfl, fun _ hj => nomatch hj⟩

theorem take_append (h : ReadBack b r rL w x) (s : Bytes) (i : Nat) :
    (Fails (r ((w ++ s).take i)) ∨ b = true ∧ ∃ v, r ((w ++ s).take i) = .ok (v, [])) ∨
      w.length ≤ i ∧ r ((w ++ s).take i) = .ok (x, s.take (i - w.length)) := by
  rw [List.take_append]
  by_cases hi : i < w.length
  · rw [show i - w.length = 0 by omega, List.take_zero, List.append_nil]
    exact .inl (h.cut i hi)
  · rw [List.take_of_length_le (by omega)]
    exact .inr ⟨by omega, h.reads _⟩

/-- where the first may return early with nothing left, the second must cope with empty input (`h0`) -/
theorem bind {k kL : α → P β} {y : β} (h₁ : ReadBack b₁ r rL w₁ x) (h₂ : ReadBack b₂ (k x) (kL x) w₂ y)
    (h0 : b₁ = true → ∀ a, Fails (k a []) ∨ b₂ = true ∧ ∃ v, k a [] = .ok (v, [])) :
    ReadBack b₂ (bindP r k) (bindP rL kL) (w₁ ++ w₂) y where
  reads := h₁.reads.bind h₂.reads
  readsL := h₁.readsL.bind h₂.readsL
  cut j hj := by
    rcases h₁.take_append w₂ j with (⟨e, he⟩ | ⟨hb, v, hv⟩) | ⟨hi, he⟩
    · exact .inl ⟨e, bindP_of_error he⟩
    · exact bindP_of_ok hv ▸ h0 hb v
    · exact bindP_of_ok he ▸ h₂.cut _ (by simp only [List.length_append] at hj; omega)

theorem seq {k kL : α → P β} {y : β} (h₁ : ReadBack false r rL w₁ x) (h₂ : ReadBack b (k x) (kL x) w₂ y) :
    ReadBack b (bindP r k) (bindP rL kL) (w₁ ++ w₂) y :=
  h₁.bind h₂ nofun

theorem bind_pure {k kL : α → P β} {y : β} (h : ReadBack b r rL w x) (hk : ∀ s, k x s = .ok (y, s))
    (hkL : ∀ s, kL x s = .ok (y, s)) (h0 : b = true → ∀ a, ∃ v, k a [] = .ok (v, [])) :
    ReadBack b (bindP r k) (bindP rL kL) w y :=
  List.append_nil w ▸ h.bind ⟨hk, hkL, nofun⟩ fun hb a => .inr ⟨hb, h0 hb a⟩

theorem map (h : ReadBack b r rL w x) (f : α → β) {y : β} (e : f x = y) :
    ReadBack b (bindP r fun a s => .ok (f a, s)) (bindP rL fun a s => .ok (f a, s)) w y :=
  h.bind_pure (fun _ => e ▸ rfl) (fun _ => e ▸ rfl) fun _ _ => ⟨_, rfl⟩

theorem cons {r' rL' : P α} (t : UInt8) (h : ReadBack b r rL w x) (he : ∀ s, r' (t :: s) = r s)
    (heL : ∀ s, rL' (t :: s) = rL s) (h0 : Fails (r' []) ∨ b = true ∧ ∃ v, r' [] = .ok (v, [])) :
    ReadBack b r' rL' (t :: w) x where
  reads rest := (he _).trans (h.reads rest)
  readsL rest := (heL _).trans (h.readsL rest)
  cut
    | 0, _ => h0
    | j + 1, hj => he _ ▸ h.cut j (Nat.lt_of_succ_lt_succ hj)

end ReadBack

theorem natLE_length (k n : Nat) : (natLE k n).length = k := by
  induction k generalizing n with
  | zero => rfl
  | succ k ih => simp [natLE, ih]

theorem leNat_natLE (k n : Nat) : leNat (natLE k n) = n % 256 ^ k := by
  induction k generalizing n with
  | zero => simp [natLE, leNat, Nat.mod_one]
  | succ k ih =>
    simp only [natLE, leNat, ih]
    have : (UInt8.ofNat (n % 256)).toNat = n % 256 := by simp
    rw [this, Nat.pow_succ, Nat.mul_comm (256 ^ k) 256, Nat.mod_mul]

theorem leInt_intLE (k : Nat) (i : Int) (h1 : -(256 ^ k : Nat) ≤ 2 * i) (h2 : 2 * i < (256 ^ k : Nat)) :
    leInt (intLE k i) = i := by
  unfold leInt intLE
  rw [show (256 : Int) ^ k = (256 ^ k : Nat) from (Int.natCast_pow 256 k).symm, natLE_length, leNat_natLE]
  generalize 256 ^ k = M at *
  have hm : i % (M : Int) = if 0 ≤ i then i else i + M := by
    split
    · exact Int.emod_eq_of_lt (by omega) (by omega)
    · rw [← Int.add_emod_right]; exact Int.emod_eq_of_lt (by omega) (by omega)
  rw [Nat.mod_eq_of_lt (by omega)]
  dsimp only
  split at hm <;> omega

theorem intLE_nat (k n : Nat) (h : n < 256 ^ k) : intLE k n = natLE k n := by
  unfold intLE
  rw [show (256 : Int) ^ k = (256 ^ k : Nat) from (Int.natCast_pow 256 k).symm,
    Int.emod_eq_of_lt (by omega) (by omega), Int.toNat_natCast]

theorem leNat_idx (j : Nat) (h : j < 65536) :
    leNat [UInt8.ofNat (j % 256), UInt8.ofNat (j / 256 % 256)] = j :=
  (leNat_natLE 2 j).trans (Nat.mod_eq_of_lt h)

theorem tags :
    K.tString = 128 ∧ K.tInt = 129 ∧ K.tFloat = 130 ∧ K.tBool = 131 ∧ K.tNone = 132 ∧ K.tDate = 133 ∧
    K.tIntArr = 134 ∧ K.tFltArr = 135 ∧ K.tDictEnd = 136 ∧ K.tMetadata = 16 ∧ K.tCell = 17 ∧
    K.tCumulative = 18 ∧ K.tIncremental = 19 := by decide

theorem dictEnd_toNat : K.tDictEnd.toNat = 136 := by decide

theorem header_bytes : K.magic = [175, 54, 1, 0] ∧ K.version = [1] := by decide

theorem readExact_spec {b : Bytes} {n : Nat} (h : b.length = n) : ReadBack false (readExact n) (readExact n) b b :=
  have hr : Reads (readExact n) b b := fun rest => by simp [readExact, ← h]
  ⟨hr, hr, fun j hj => .inl ⟨.structError, by simp [readExact, List.length_take]; omega⟩⟩

theorem dateOk_bounds {d : Date} (h : dateOk d = true) :
    1 ≤ d.y ∧ d.y ≤ 9999 ∧ d.m < 256 ∧ d.d < 256 := by
  simp only [dateOk, yearOk, Date.valid, Bool.and_eq_true, decide_eq_true_eq] at h
  have := (DateOrder.dim_bounds d.y d.m).2
  omega

theorem readDate_writeDate (d : Date) (h : dateOk d = true) : Reads readDate (writeDate d) d := by
  intro rest
  obtain ⟨h1, h2, h3, h4⟩ := dateOk_bounds h
  have hy : leInt (intLE 2 d.y) = d.y := leInt_intLE 2 _ (by omega) (by omega)
  have hm : (UInt8.ofNat d.m).toNat = d.m := by simp; omega
  have hd : (UInt8.ofNat d.d).toNat = d.d := by simp; omega
  simp only [intLE, natLE] at hy
  simp only [writeDate, intLE, natLE, List.cons_append, List.nil_append, readDate, hy, hm, hd]
  simp [h]

theorem readDate_short (s : Bytes) (h : s.length < 4) : readDate s = .error .structError := by
  unfold readDate
  match s, h with
  | [], _ => rfl
  | [_], _ => rfl
  | [_, _], _ => rfl
  | [_, _, _], _ => rfl
  | _ :: _ :: _ :: _ :: _, h => simp at h; omega

theorem writeDate_length (d : Date) : (writeDate d).length = 4 := by
  simp [writeDate, intLE, natLE]

theorem readDate_nil : readDate [] = .error .structError := rfl

theorem readDate_strong (d : Date) : StrongP readDate (writeDate d) := fun j hj =>
  ⟨_, readDate_short _ (by rw [writeDate_length] at hj; simp only [List.length_take]; omega)⟩

theorem readDate_spec (d : Date) (h : dateOk d = true) : ReadBack false readDate readDate (writeDate d) d :=
  ⟨readDate_writeDate d h, readDate_writeDate d h, fun j hj => .inl (readDate_strong d j hj)⟩

/-- strings and `None` (length −1). The reader takes the body with a plain `stream.read(n)`: cut inside it the
string comes back shorter, with nothing left; the layout decoder insists on the whole body. -/
theorem readStr_spec (s : Option Bytes) (h : optStrOk s = true) : ReadBack true readStr readStrL (writeStr s) s := by
  cases s with
  | none =>
    have : leInt [0xFF, 0xFF] = -1 := by decide
    refine ⟨fun _ => by simp [writeStr, readStr, this], fun _ => by simp [writeStr, readStrL, this],
      fun j hj => .inl ⟨.structError, ?_⟩⟩
    match j, hj with
    | 0, _ => rfl
    | 1, _ => rfl
  | some b =>
    simp only [optStrOk, strOk, Bool.and_eq_true, decide_eq_true_eq] at h
    have hn : leInt (natLE 2 b.length) = b.length :=
      intLE_nat 2 b.length (by omega) ▸ leInt_intLE 2 b.length (by omega) (by omega)
    have h1 : ¬ ((b.length : Int) = -1) := by omega
    have h2 : ¬ ((b.length : Int) < 0) := by omega
    simp only [natLE] at hn
    refine ⟨fun _ => by simp [writeStr, natLE, readStr, hn, h1, h2, h.2],
      fun _ => by simp [writeStr, natLE, readStrL, hn, h1, h2, h.2], fun j hj => ?_⟩
    simp only [writeStr, natLE, List.cons_append, List.nil_append, List.length_cons] at hj ⊢
    match j, hj with
    | 0, _ => exact .inl ⟨_, rfl⟩
    | 1, _ => exact .inl ⟨_, rfl⟩
    | k + 2, hj =>
      have ht : (b.take k).take b.length = b.take k :=
        List.take_of_length_le (by simp only [List.length_take]; omega)
      have hd : (b.take k).drop b.length = [] :=
        List.drop_of_length_le (by simp only [List.length_take]; omega)
      simp only [List.take_succ_cons, readStr, hn, h1, h2, if_false, Int.toNat_natCast, ht, hd]
      cases utf8Valid (b.take k)
      · exact .inl ⟨_, rfl⟩
      · exact .inr ⟨trivial, _, rfl⟩

/-- `per_occurrence_limit`: `None` travels as NaN -/
theorem readLimit_spec (l : Option Bytes) (h : limitOk l = true) :
    ReadBack false readLimit readLimit (writeLimit l) l := by
  have hl : (writeLimit l).length = 8 := by
    cases l with
    | none => rfl
    | some b => simp only [limitOk, Bool.and_eq_true, beq_iff_eq] at h; exact h.1
  have hr : Reads readLimit (writeLimit l) l := fun rest => by
    cases l with
    | none =>
      have : isNaN8 nanBytes = true := by decide
      simp [readLimit, writeLimit, (readExact_spec (n := 8) (b := nanBytes) rfl).reads rest, this]
    | some b =>
      simp only [limitOk, Bool.and_eq_true, beq_iff_eq, Bool.not_eq_true'] at h
      simp [readLimit, writeLimit, (readExact_spec h.1).reads rest, h.2]
  refine ⟨hr, hr, fun j hj => .inl ?_⟩
  obtain ⟨e, he⟩ := (readExact_spec hl).strong j hj
  exact ⟨e, by simp only [readLimit, he]⟩

theorem readDims_succ (n : Nat) :
    readDims (n + 1) = bindP (readExact 4) fun h => bindP (readDims n) fun tl s => .ok (leNat h :: tl, s) := by
  funext s
  simp only [readDims, bindP]
  rcases readExact 4 s with _ | ⟨h, r⟩
  · rfl
  · dsimp only
    rcases readDims n r with _ | ⟨tl, r'⟩ <;> rfl

theorem readDims_spec (dims : List Nat) (h : dims.all (· < 4294967296) = true) :
    ReadBack false (readDims dims.length) (readDims dims.length) (writeDims dims) dims := by
  induction dims with
  | nil => exact .pure []
  | cons d ds ih =>
    simp only [List.all_cons, Bool.and_eq_true, decide_eq_true_eq] at h
    rw [List.length_cons, readDims_succ]
    exact (readExact_spec (natLE_length 4 d)).seq ((ih h.2).map _ (congrArg (· :: ds) ((leNat_natLE 4 d).trans (Nat.mod_eq_of_lt h.1))))

theorem writeDims_length (dims : List Nat) : (writeDims dims).length = 4 * dims.length := by
  induction dims with
  | nil => rfl
  | cons d ds ih => simp [writeDims, natLE_length] at ih ⊢; omega

theorem readArrBody_spec (dims : List Nat) (p : Bytes) (h : arrOk dims p = true) :
    ReadBack false readArrBody readArrBody (writeArrBody dims p) (dims, p) := by
  simp only [arrOk, Bool.and_eq_true, decide_eq_true_eq, beq_iff_eq] at h
  obtain ⟨⟨h1, h2⟩, h3⟩ := h
  have hn : (UInt8.ofNat dims.length).toNat = dims.length := by simp; omega
  -- the payload is taken with a plain read; `frombuffer(..).reshape` raises unless all `8·∏dims` bytes are there
  let pay (d : List Nat) : P (List Nat × Bytes) := fun r =>
    if (r.take (8 * dimsProd d)).length = 8 * dimsProd d then
      .ok ((d, r.take (8 * dimsProd d)), r.drop (8 * dimsProd d)) else .error .valueError
  have hr : Reads (pay dims) p (dims, p) := fun rest => by simp [pay, ← h3]
  have hpay : ReadBack false (pay dims) (pay dims) p (dims, p) :=
    ⟨hr, hr, fun j hj => .inl ⟨.valueError, by simp [pay, ← h3, List.length_take]; omega⟩⟩
  have he : ∀ s, readArrBody (UInt8.ofNat dims.length :: s) = bindP (readDims dims.length) pay s := fun s => by
    simp only [readArrBody, hn, bindP]
    rcases readDims dims.length s with _ | ⟨d, r⟩ <;> rfl
  exact .cons _ ((readDims_spec dims h2).seq hpay) he he (.inl ⟨_, rfl⟩)

theorem readVal_nil : readVal [] = .ok (.none, []) := rfl

/-- cut short, the body after the tag byte raises — except for a string — and a value without its tag byte reads
as `None` -/
theorem readVal_spec (v : RawVal) (h : valOk v = true) : ReadBack true readVal readValL (writeVal v) v := by
  have h0 : Fails (readVal []) ∨ true = true ∧ ∃ v, readVal [] = .ok (v, []) := .inr ⟨rfl, _, readVal_nil⟩
  cases v with
  | none => exact .cons K.tNone (.pure RawVal.none) (fun _ => rfl) (fun _ => rfl) h0
  | bool b =>
    exact .cons K.tBool (r := fun s => readVal (K.tBool :: s)) (rL := fun s => readValL (K.tBool :: s))
      (.cons _ (.pure (RawVal.bool b)) (fun _ => by cases b <;> rfl) (fun _ => by cases b <;> rfl) (.inl ⟨_, rfl⟩))
      (fun _ => rfl) (fun _ => rfl) h0
  | int i =>
    simp only [valOk, int64Ok, Bool.and_eq_true, decide_eq_true_eq] at h
    refine .cons K.tInt ((readExact_spec (b := intLE 8 i) (natLE_length 8 _)).map (fun h => RawVal.int (leInt h))
      (congrArg RawVal.int (leInt_intLE 8 i (by omega) (by omega)))).weaken (fun s => ?_) (fun s => ?_) h0 <;>
    · simp [readVal, readValL, tags, bindP]
      rcases readExact 8 s with _ | ⟨h, r⟩ <;> rfl
  | flt b =>
    simp only [valOk, beq_iff_eq] at h
    refine .cons K.tFloat ((readExact_spec h).map RawVal.flt rfl).weaken (fun s => ?_) (fun s => ?_) h0 <;>
    · simp [readVal, readValL, tags, bindP]
      rcases readExact 8 s with _ | ⟨h, r⟩ <;> rfl
  | str s =>
    refine .cons K.tString ((readStr_spec (some s) h).bind_pure
      (k := fun o r => match o with | none => .ok (RawVal.none, r) | some b => .ok (RawVal.str b, r))
      (kL := fun o r => match o with | none => .error .valueError | some b => .ok (RawVal.str b, r))
      (fun _ => rfl) (fun _ => rfl) fun _ a => by cases a <;> exact ⟨_, rfl⟩) (fun s => ?_) (fun s => ?_) h0
    · simp [readVal, tags, bindP]
      rcases readStr s with _ | ⟨_ | _, r⟩ <;> rfl
    · simp [readValL, tags, bindP]
      rcases readStrL s with _ | ⟨_ | _, r⟩ <;> rfl
  | date d =>
    refine .cons K.tDate ((readDate_spec d h).map RawVal.date rfl).weaken (fun s => ?_) (fun s => ?_) h0 <;>
    · simp [readVal, readValL, tags, bindP]
      rcases readDate s with _ | ⟨h, r⟩ <;> rfl
  | intArr dims p =>
    refine .cons K.tIntArr ((readArrBody_spec dims p h).map (fun a => RawVal.intArr a.1 a.2) rfl).weaken
      (fun s => ?_) (fun s => ?_) h0 <;>
    · simp [readVal, readValL, tags, bindP]
      rcases readArrBody s with _ | ⟨⟨_, _⟩, r⟩ <;> rfl
  | fltArr dims p =>
    refine .cons K.tFltArr ((readArrBody_spec dims p h).map (fun a => RawVal.fltArr a.1 a.2) rfl).weaken
      (fun s => ?_) (fun s => ?_) h0 <;>
    · simp [readVal, readValL, tags, bindP]
      rcases readArrBody s with _ | ⟨⟨_, _⟩, r⟩ <;> rfl

end Bermuda.Codec
