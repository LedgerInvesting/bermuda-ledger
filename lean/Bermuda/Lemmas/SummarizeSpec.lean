/-
Small facts about the executable helpers of `Spec/C09.lean`, and facts about the cells and key sets that `summarize`
returns; both are used by the Spec bridges of C09 and of C08. At the end the definition `Summed` and the executable
helpers of the concrete witnesses of `Properties/C09`. Core Lean only.
-/
import Bermuda.Spec.C09
import Bermuda.Lemmas.Summarize
namespace Bermuda
open Bermuda.Spec.C09 Generated.Summarize

theorem nodupB_of_nodup {α} [BEq α] [LawfulBEq α] {l : List α} (h : l.Nodup) : nodupB l = true := by
  induction l with
  | nil => rfl
  | cons a l ih =>
    have := List.nodup_cons.mp h
    simp [nodupB, this.1, ih this.2]

theorem allInRange_iff {cs : List Cell} {f : String} {i : Nat} :
    allInRange cs f i = true ↔ ∀ c ∈ cs, (c.getV f).inRange i = true := List.all_eq_true

/-! The clause bodies that `Spec/C08.lean` and `Spec/C09.lean` share (they differ in the grouping only), read off
their Prop form once. -/

/-- body of `cellSums` -/
theorem cellSum_clause {g : List Cell} {o : Cell} {f : String} {i : Nat}
    (h : (∀ c ∈ g, (c.getV f).inRange i = true) → (o.getV f).at i = sumAt g f i ∧ (o.getV f).inRange i = true) :
    (!allInRange g f i || ((o.getV f).inRange i && (o.getV f).at i == sumAt g f i)) = true := by
  cases hin : allInRange g f i with
  | false => rfl
  | true =>
    obtain ⟨h1, h2⟩ := h (allInRange_iff.mp hin)
    simp [h1, h2]

/-- body of `conserves` -/
theorem conserve_clause {s o : List Cell} {f : String} {i : Nat}
    (h : (∀ c ∈ s, (c.getV f).inRange i = true) → sumAt o f i = sumAt s f i ∧ ∀ c ∈ o, (c.getV f).inRange i = true) :
    (!allInRange s f i || (allInRange o f i && sumAt o f i == sumAt s f i)) = true := by
  cases hin : allInRange s f i with
  | false => rfl
  | true =>
    obtain ⟨h1, h2⟩ := h (allInRange_iff.mp hin)
    simp [h1, allInRange_iff.mpr h2]

/-- body of `keysOk` -/
theorem keys_clause {g : List Cell} {o : Cell} (hn : o.values.keys.Nodup)
    (hk : ∀ k, k ∈ o.values.keys ↔ ∃ c ∈ g, k ∈ c.values.keys) :
    (nodupB o.values.keys && (o.values.keys.all fun k => g.any fun c => c.values.contains k) &&
      g.all fun c => c.values.keys.all fun k => o.values.contains k) = true := by
  simp only [Bool.and_eq_true, List.all_eq_true, List.any_eq_true, Dict.contains_iff_mem]
  exact ⟨⟨nodupB_of_nodup hn, fun k hk' => (hk k).mp hk'⟩, fun c hc k hkc => (hk k).mpr ⟨c, hc, hkc⟩⟩

theorem summarize_out_cell {tr : Transc} {extra : List RuleEntry} {t out : List Cell} {prem : Bool}
    {o : Cell} (h : summarize tr extra t prem = .ok out) (ho : o ∈ out) :
    summarizeCellValues tr extra (groupOf (smIsIncremental t) t o)
      (if smIsIncremental t then true else prem) = .ok o.values ∧ groupOf (smIsIncremental t) t o ≠ [] ∧
    metadataGcd t = .ok o.md ∧
    o.kind = (if smIsIncremental t then CellKind.incremental else CellKind.cumulative) := by
  obtain ⟨md, cells, hmd, hcells, hof⟩ := summarize_ok h
  obtain ⟨g, hg, hgo⟩ := smMapE_mem hcells ((Triangle.ofCells_perm hof).mem_iff.mp ho)
  have hk := summaryCell_coordKey hg hgo
  obtain ⟨vals, hvals, hmk⟩ := summaryCell_ok hgo
  have ho' := (AllOps.mk?_ok hmk).1
  obtain ⟨⟨c, hc, hck⟩, hgf⟩ := mem_groupsOf_iff.mp hg
  have hg2 : g.2 = groupOf (smIsIncremental t) t o := by rw [hgf, groupOf, hk]
  have hcg : c ∈ g.2 := hgf ▸ List.mem_filter.mpr ⟨hc, beq_iff_eq.mpr hck⟩
  rw [hg2] at hvals hcg
  exact ⟨by rw [hvals, ho'], List.ne_nil_of_mem hcg, by rw [hmd, ho'], by rw [ho']⟩

theorem nonLossOk_of_strict {nl : List String} {t out : List Cell} (h : nonLossOkStrict nl t out = true) :
    nonLossOk nl t out = true := by
  simp only [nonLossOkStrict, nonLossOk, List.all_eq_true, Bool.or_eq_true] at h ⊢
  intro o ho f hf
  refine (h o ho f hf).imp_right fun h2 => ?_
  cases hv : o.values.get? f with
  | none => rw [hv] at h2; cases h2
  | some v =>
    rw [hv] at h2
    obtain ⟨c, hc, hcv⟩ := List.any_eq_true.mp h2
    exact List.any_eq_true.mpr ⟨c, hc, by simp [Cell.getV, beq_iff_eq.mp hcv]⟩

theorem attrShared_of_iff {α} [BEq α] [LawfulBEq α] {t : List Cell} {f : Metadata → Option α}
    {m : Option α} (h : ∀ x, m = some x ↔ ∀ c ∈ t, f c.md = some x) : attrShared t f m = true := by
  unfold attrShared
  cases m with
  | some x => simpa [List.all_eq_true] using (h x).mp rfl
  | none =>
    simp only [Bool.not_eq_true', List.any_eq_false, List.all_eq_true, beq_iff_eq]
    intro x _ hall
    have := (h x).mpr hall
    cases this

theorem detailsShared_of_iff {ds : List (Dict MVal)} {m : Dict MVal} (hn : m.keys.Nodup)
    (h : ∀ k v, Dict.get? m k = some v ↔ v ≠ MVal.none ∧ ∀ d ∈ ds, Dict.get? d k = some v) :
    detailsShared ds m = true := by
  have hes : ∀ kv : String × MVal, entryShared ds kv = true ↔
      kv.2 ≠ MVal.none ∧ ∀ d ∈ ds, Dict.get? d kv.1 = some kv.2 := by
    intro kv
    simp [entryShared, List.all_eq_true]
  simp only [detailsShared, Bool.and_eq_true, List.all_eq_true]
  refine ⟨⟨nodupB_of_nodup hn, ?_⟩, ?_⟩
  · intro kv hkv
    rw [hes]
    exact (h kv.1 kv.2).mp ((Assoc.get?_eq_some_iff hn).mpr hkv)
  · intro d _ kv _
    cases hs : entryShared ds kv with
    | false => simp
    | true =>
      have := (h kv.1 kv.2).mpr ((hes kv).mp hs)
      simp [this]

theorem closeTo_self {tol a : Rat} (h0 : 0 ≤ tol) : closeTo tol a a = true := by
  unfold closeTo
  have h1 : a - a = 0 := by grind
  have h2 : 0 ≤ absR a := by unfold absR; split <;> grind
  rw [h1]
  simp only [decide_eq_true_eq]
  have : absR 0 = 0 := by unfold absR; split <;> grind
  rw [this]
  split <;> exact Rat.mul_nonneg h0 h2


end Bermuda

namespace Bermuda.Properties.C09
open Bermuda Bermuda.Spec.C09 Generated.Summarize

/-- `f` is summed: with `summarize_premium = True`, on incremental triangles (the flag is not passed on),
or for every field outside NON_LOSS_METRICS -/
def Summed (prem incr : Bool) (f : String) : Prop :=
  prem = true ∨ incr = true ∨ f ∉ Generated.Summarize.nonLossMetrics

theorem summed_flag {prem incr : Bool} {f : String} (h : Summed prem incr f) :
    (if incr then true else prem) = true ∨ f ∉ Generated.Summarize.nonLossMetrics := by
  rcases h with h | h | h
  · subst h; cases incr <;> simp
  · subst h; simp
  · exact Or.inr h

/-! ### executable helpers of the concrete witnesses -/

/-- a cumulative cell at the one coordinate of the witnesses -/
def wCell (vals : Dict Val) (md : Metadata) : Cell :=
  { kind := .cumulative, ps := ⟨2020, 1, 1⟩, pe := ⟨2020, 12, 31⟩, ev := ⟨2020, 12, 31⟩, values := vals, md := md }

/-- a cumulative cell at a SECOND coordinate (a later evaluation date) -/
def wCell2 (vals : Dict Val) (md : Metadata) : Cell :=
  { kind := .cumulative, ps := ⟨2020, 1, 1⟩, pe := ⟨2020, 12, 31⟩, ev := ⟨2021, 12, 31⟩, values := vals, md := md }

/-- the model returns something (the sort inside `Triangle(...)` is not evaluated) -/
def succeeds (r : Except Err (List Cell)) : Bool :=
  match r with
  | .ok _ => true
  | .error _ => false

theorem succeeds_iff {r : Except Err (List Cell)} : succeeds r = true ↔ ∃ out, r = .ok out := by
  cases r <;> simp [succeeds]

/-- the model returns exactly `out` -/
def returns (r : Except Err (List Cell)) (out : List Cell) : Bool :=
  match r with
  | .ok o => decide (o = out)
  | .error _ => false

/-- the model raises exactly the class `e` -/
def refuses (r : Except Err (List Cell)) (e : Err) : Bool :=
  match r with
  | .ok _ => false
  | .error e' => decide (e' = e)

theorem refuses_iff {r : Except Err (List Cell)} {e : Err} : refuses r e = true ↔ r = .error e := by
  cases r <;> simp [refuses]

theorem returns_iff {r : Except Err (List Cell)} {out : List Cell} : returns r out = true ↔ r = .ok out := by
  cases r <;> simp [returns]

end Bermuda.Properties.C09
