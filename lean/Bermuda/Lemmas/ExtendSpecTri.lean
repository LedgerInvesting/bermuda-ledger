/-
C15: the executable clauses of `Spec/C15.lean` (`rightTriSpec`, shared clauses) hold of the model's outputs.
The right-triangle clauses are proved for any unit under two facts about the unit's date arithmetic on the cumulative
form (`LagOrder`: a later cell of a row has a greater lag; `LagInj`: different lags beyond a cell's lag give different
dates) and a third written out where it is used (a lag beyond a cell's lag gives a later date: `TriFacts.after`,
`LagCoord.lagAfter`; `Properties.C15.LagMonotone` names it); the month and the day unit are instances.
The clauses `onGrid`, `complete`, `emptyWhenComplete` are read off one statement: the coordinates of the result are exactly
those asked for, said of the observed triangle and not of its cumulative form (`TriAsked`, `TriFacts.asked`).
-/
import Bermuda.Lemmas.ExtendLink
import Bermuda.Lemmas.AllOpsExtend
namespace Bermuda.Extend

/-- what is known about a result of either right-hand operator: the common tail applied to valid empty cells `new` on rows
of the cumulative form `cum` -/
structure TailFacts (t cum new out : List Cell) : Prop where
  cumOf : CumOf t cum
  outEq : out.Perm (new.map (tailCell t new))
  rows : ∀ n ∈ new, ∃ x ∈ t, rowKey x = rowKey n
  edges : ∀ p ∈ Triangle.slices cum, ∃ edge, Triangle.rightEdge p.2 = .ok edge
  empties : ∀ n ∈ new, n.kind = .cumulative ∧ n.values = [] ∧ n.prev = none
  fin : finishRight t new = .ok out
  newOk : ∀ n ∈ new, n.datesOk = true

theorem EdgeFn.tail_facts {f : List Cell → Except Err (List Cell)} (hf : EdgeFn f) {t out : List Cell}
    (h : rightOp (overSlices f) t = .ok out) : ∃ cum new, TailFacts t cum new out ∧ overSlices f cum = .ok new := by
  obtain ⟨cum, new, hcum, hnew, hfin⟩ := rightOp_ok.mp h
  exact ⟨cum, new, ⟨hcum, finishRight_tail (hf.empties hnew) (hf.rows_obs hcum hnew) hfin, hf.rows_obs hcum hnew,
    hf.edges hnew, hf.empties hnew, hfin, fun n hn => (hf.cell hnew hn).1⟩, hnew⟩

namespace TailFacts
variable {t cum new out : List Cell} (hf : TailFacts t cum new out)
include hf

theorem fwd : ∀ c ∈ out, ∃ n ∈ new, rowKey c = rowKey n ∧ c.ev = n.ev := fun c hc => by
  obtain ⟨n, hn, rfl⟩ := List.mem_map.mp (hf.outEq.mem_iff.mp hc)
  exact ⟨n, hn, Prod.mk.inj (ckey_tailCell t new n)⟩

theorem bwd : ∀ n ∈ new, ∃ c ∈ out, rowKey c = rowKey n ∧ c.ev = n.ev := fun n hn =>
  ⟨_, hf.outEq.mem_iff.mpr (List.mem_map_of_mem hn), Prod.mk.inj (ckey_tailCell t new n)⟩

theorem outRows : ∀ c ∈ out, ∃ x ∈ t, rowKey x = rowKey c := fun c hc => by
  obtain ⟨n, hn, hk, _⟩ := hf.fwd c hc
  obtain ⟨x, hx, hxk⟩ := hf.rows n hn
  exact ⟨x, hx, hxk.trans hk.symm⟩

theorem chain (hinc : Triangle.isIncremental t = true) : ∀ c ∈ out, ChainCell t new c :=
  finishRight_chain hinc hf.empties hf.rows hf.fin

theorem cumPerm (hinc : Triangle.isIncremental t = false) : out.Perm new :=
  finishRight_cum hinc hf.fin

end TailFacts

/-- the Bool chain clause from the Prop chain facts (`new` related to `out` coordinate-wise) -/
theorem spec_chain {t new out : List Cell}
    (hchain : Triangle.isIncremental t = true → ∀ c ∈ out, ChainCell t new c)
    (fwd : ∀ c ∈ out, ∃ n ∈ new, rowKey c = rowKey n ∧ c.ev = n.ev)
    (bwd : ∀ n ∈ new, ∃ c ∈ out, rowKey c = rowKey n ∧ c.ev = n.ev) :
    Spec.C15.chainOk t out = true := by
  unfold Spec.C15.chainOk
  cases hinc : Triangle.isIncremental t with
  | false => simp
  | true =>
    simp only [if_true, List.all_eq_true]
    intro c hc
    obtain ⟨_, _, hch⟩ := hchain hinc c hc
    rcases hch with ⟨obs, e, hobs, he, hem, hep, hprev, _, hmin⟩ |
        ⟨a, ha, b, hb, hak, hbk, hprev, hcev, hlt, hbetween⟩
    · -- first added cell of its row
      have hearlier : (Spec.C15.rowOf out c).filter (fun o => o.ev < c.ev) = [] := by
        rw [List.filter_eq_nil_iff]
        intro o ho
        obtain ⟨hoo, hok⟩ := mem_rowOf.mp ho
        obtain ⟨n', hn', hk', he'⟩ := fwd o hoo
        have := DateOrder.le_iff_not_lt.mp (hmin n' hn' (hk'.symm.trans hok.symm))
        rw [← he'] at this
        simpa using this
      have hke : rowKey c = rowKey e := (rowKey_iff_period.mpr ⟨hep, hem⟩).symm
      rw [hearlier, show maxEval [] = none from rfl]
      simp only
      rw [maxEval_rowOf_edge hobs he hke, hprev]
      simp
    · -- a later cell: its predecessor is the latest earlier added cell
      obtain ⟨ca, hca, hcak, hcae⟩ := bwd a ha
      have hcar : ca ∈ (Spec.C15.rowOf out c).filter (fun o => o.ev < c.ev) := by
        rw [List.mem_filter]
        refine ⟨mem_rowOf.mpr ⟨hca, (hcak.trans hak).symm⟩, ?_⟩
        rw [hcae, hcev]; simpa using hlt
      rw [maxEval_eq_some hcar fun o ho => ?_, hprev, hcae]
      · simp
      · obtain ⟨hor, holt⟩ := List.mem_filter.mp ho
        obtain ⟨hoo, hok⟩ := mem_rowOf.mp hor
        obtain ⟨n', hn', hk', he'⟩ := fwd o hoo
        rw [hcae, he']
        refine DateOrder.not_lt.mp fun hlt' => hbetween n' hn' (hk'.symm.trans hok.symm) ⟨hlt', ?_⟩
        rw [← he', ← hcev]; simpa using holt

theorem spec_valuesEmpty {out : List Cell} (h : ∀ c ∈ out, c.values = []) :
    Spec.C15.valuesEmpty out = true := by
  simp only [Spec.C15.valuesEmpty, List.all_eq_true]
  intro c hc; rw [h c hc]; rfl

theorem spec_basis {t new out : List Cell}
    (hempty : ∀ n ∈ new, n.kind = .cumulative ∧ n.values = [] ∧ n.prev = none)
    (hperm : Triangle.isIncremental t = false → out.Perm new)
    (hchain : Triangle.isIncremental t = true → ∀ c ∈ out, ChainCell t new c) :
    Spec.C15.basisKept t out = true := by
  unfold Spec.C15.basisKept
  cases hinc : Triangle.isIncremental t with
  | false =>
    simp only [Bool.false_eq_true, if_false, List.all_eq_true]
    intro c hc
    obtain ⟨h1, _, h3⟩ := hempty c ((hperm hinc).mem_iff.mp hc)
    simp [h1, h3]
  | true =>
    simp only [if_true, List.all_eq_true]
    intro c hc
    obtain ⟨hk, _, hp⟩ := hchain hinc c hc
    rcases hp with ⟨_, _, _, _, _, _, hp, _⟩ | ⟨_, _, _, _, _, _, hp, _⟩ <;> simp [hk, hp]

theorem spec_values_of_facts {t new out : List Cell}
    (hempty : ∀ n ∈ new, n.kind = .cumulative ∧ n.values = [] ∧ n.prev = none)
    (hperm : Triangle.isIncremental t = false → out.Perm new)
    (hchain : Triangle.isIncremental t = true → ∀ c ∈ out, ChainCell t new c) :
    ∀ c ∈ out, c.values = [] := by
  intro c hc
  cases hinc : Triangle.isIncremental t with
  | false => exact (hempty c ((hperm hinc).mem_iff.mp hc)).2.1
  | true => exact (hchain hinc c hc).2.1

theorem spec_disjoint {t out : List Cell}
    (hafter : ∀ c ∈ out, ∀ o ∈ t, rowKey o = rowKey c → o.ev < c.ev) :
    Spec.C15.disjoint t out = true := by
  simp only [Spec.C15.disjoint, List.all_eq_true, Bool.not_eq_true', List.any_eq_false]
  intro c hc o ho hs
  obtain ⟨hrow, hev⟩ := sameCoord_iff_row.mp hs
  have := hafter c hc o ho hrow.symm
  rw [hev] at this; exact DateOrder.lt_irrefl _ this

theorem spec_afterLatest {t out : List Cell}
    (hrow : ∀ c ∈ out, ∃ x ∈ t, rowKey x = rowKey c)
    (hafter : ∀ c ∈ out, ∀ o ∈ t, rowKey o = rowKey c → o.ev < c.ev) :
    Spec.C15.afterLatest t out = true := by
  simp only [Spec.C15.afterLatest, List.all_eq_true]
  intro c hc
  obtain ⟨x, hx, hxk⟩ := hrow c hc
  exact maxEval_lt_iff.mpr ⟨List.ne_nil_of_mem (mem_rowOf.mpr ⟨hx, hxk.symm⟩),
    fun o ho => hafter c hc o (mem_rowOf.mp ho).1 (mem_rowOf.mp ho).2.symm⟩

theorem TailFacts.shared {t cum new out : List Cell} (hf : TailFacts t cum new out) :
    Spec.C15.valuesEmpty out = true ∧ Spec.C15.basisKept t out = true ∧ Spec.C15.chainOk t out = true ∧
    Spec.isCanonical out = true :=
  ⟨spec_valuesEmpty (spec_values_of_facts hf.empties hf.cumPerm hf.chain), spec_basis hf.empties hf.cumPerm hf.chain,
    spec_chain hf.chain hf.fwd hf.bwd, Properties.C01.isCanonical_of_canonical (AllOps.finishRight_canonical hf.newOk hf.fin)⟩

def CoordsAre (l : List Cell) (A : Cell → Date → Prop) : Prop :=
  (∀ c ∈ l, ∃ x, rowKey c = rowKey x ∧ A x c.ev) ∧ ∀ x d, A x d → ∃ c ∈ l, rowKey c = rowKey x ∧ c.ev = d

theorem CoordsAre.of_coords {l l' : List Cell} {A : Cell → Date → Prop} (h : CoordsAre l A)
    (fwd : ∀ c ∈ l', ∃ n ∈ l, rowKey c = rowKey n ∧ c.ev = n.ev)
    (bwd : ∀ n ∈ l, ∃ c ∈ l', rowKey c = rowKey n ∧ c.ev = n.ev) : CoordsAre l' A := by
  refine ⟨fun c hc => ?_, fun x d hA => ?_⟩
  · obtain ⟨n, hn, hk, hev⟩ := fwd c hc
    obtain ⟨x, hx, hA⟩ := h.1 n hn
    exact ⟨x, hk.trans hx, hev ▸ hA⟩
  · obtain ⟨n, hn, hk, hev⟩ := h.2 x d hA
    obtain ⟨c, hc, hck, hce⟩ := bwd n hn
    exact ⟨c, hc, hck.trans hk, hce.trans hev⟩

theorem edge_of_row {t cum : List Cell} (hg : SameGrid t cum)
    (hedges : ∀ p ∈ Triangle.slices cum, ∃ edge, Triangle.rightEdge p.2 = .ok edge) {rep : Cell} (hrep : rep ∈ t) :
    ∃ p ∈ Triangle.slices cum, ∃ edge, Triangle.rightEdge p.2 = .ok edge ∧ ∃ e ∈ edge, e ∈ p.2 ∧
      p.1 = rep.md ∧ rowKey e = rowKey rep := by
  obtain ⟨rep', hrep', hrk, _⟩ := hg.2 rep hrep
  obtain ⟨p, hp, hpm, hrp⟩ := Triangle.exists_slice hrep'
  obtain ⟨edge, hedge⟩ := hedges p hp
  obtain ⟨e, he, hem, hep⟩ := Triangle.rightEdge_cover hedge hrp
  refine ⟨p, hp, edge, hedge, e, he, (Triangle.rightEdge_latest hedge he).1, hpm.trans (md_of_rowKey hrk), ?_⟩
  exact (rowKey_iff_period.mpr ⟨hep, hem⟩).trans hrk

theorem edge_ev_eq {t cum : List Cell} (hg : SameGrid t cum) {e x : Cell} (he : e ∈ cum) (hx : x ∈ t)
    (hk : rowKey e = rowKey x) (hle : ∀ o ∈ cum, rowKey o = rowKey e → o.ev ≤ e.ev)
    (hlx : ∀ o ∈ t, rowKey o = rowKey x → o.ev ≤ x.ev) : e.ev = x.ev := by
  obtain ⟨x', hx', hxk', hxe'⟩ := hg.1 e he
  obtain ⟨e', he', hek', hee'⟩ := hg.2 x hx
  exact DateOrder.le_antisymm (hxe' ▸ hlx x' hx' (hxk'.trans hk)) (hee' ▸ hle e' he' (hek'.trans hk.symm))

theorem latest_rowKey {t : List Cell} {e : Cell}
    (h : ∀ o ∈ t, o.md = e.md → o.ps = e.ps → o.pe = e.pe → Date.cmp o.ev e.ev ≠ .gt) :
    ∀ o ∈ t, rowKey o = rowKey e → o.ev ≤ e.ev := fun o ho hk => by
  obtain ⟨k1, k2, k3⟩ := rowKey_eq_iff.mp hk
  exact h o ho k1 k2 k3

theorem exists_latest {t : List Cell} {rep : Cell} (hrep : rep ∈ t) :
    ∃ x ∈ t, rowKey rep = rowKey x ∧ ∀ o ∈ t, rowKey o = rowKey x → o.ev ≤ x.ev := by
  obtain ⟨m, _, ⟨x, hx, rfl⟩, hmax⟩ := maxEval_of_mem (mem_rowOf.mpr ⟨hrep, rfl⟩ : rep ∈ Spec.C15.rowOf t rep)
  obtain ⟨hxt, hxk⟩ := mem_rowOf.mp hx
  exact ⟨x, hxt, hxk, fun o ho hk => hmax o (mem_rowOf.mpr ⟨ho, hxk.trans hk.symm⟩)⟩

/-! ### `make_right_triangle` -/

structure TriFacts (t cum new out : List Cell) (lags : Option (List Rat)) (u : LagUnit) : Prop
    extends TailFacts t cum new out where
  mem_new : ∀ n, n ∈ new ↔ RightTriCell cum lags u n
  newEq : rightTriangleCells cum lags (some u) = .ok new

theorem rightTri_facts {t out : List Cell} {lags : Option (List Rat)} {u : LagUnit}
    (h : makeRightTriangleU t lags (some u) = .ok out) :
    ∃ cum new, TriFacts t cum new out lags u := by
  obtain ⟨cum, new, hT, hnew⟩ := (edgeFn_rightTriangleSlice lags u).tail_facts h
  exact ⟨cum, new, hT, rightTriangleCells_mem hnew, hnew⟩

/-- the lag list of the cumulative slice and the Spec's lag set of `t` have the same members -/
theorem lagList_iff_lagSet {t cum : List Cell} (hg : SameGrid t cum) {lags : Option (List Rat)} {u : LagUnit}
    {p : Metadata × List Cell} (hp : p ∈ Triangle.slices cum) {c : Cell} (hmd : c.md = p.1) (l : Rat) :
    l ∈ lagListOf lags u p.2 ↔ l ∈ Spec.C15.lagSetOf t lags u c := by
  cases lags with
  | some ls => simp [lagListOf, Spec.C15.lagSetOf]
  | none =>
    simp only [lagListOf, Spec.C15.lagSetOf, List.mem_eraseDups, List.mem_map]
    constructor
    · rintro ⟨c', hc', rfl⟩
      obtain ⟨hcc, hcm⟩ := (Triangle.mem_slice_iff hp c').mp hc'
      obtain ⟨x, hx, hxk, hxe⟩ := hg.1 c' hcc
      exact ⟨x, mem_sliceOf.mpr ⟨hx, by rw [md_of_rowKey hxk, hcm, hmd]⟩, devLag_of_row hxk hxe u⟩
    · rintro ⟨x, hx, rfl⟩
      obtain ⟨hxt, hxm⟩ := mem_sliceOf.mp hx
      obtain ⟨c', hc', hck, hce⟩ := hg.2 x hxt
      exact ⟨c', (Triangle.mem_slice_iff hp c').mpr ⟨hc', by rw [md_of_rowKey hck, hxm, hmd]⟩, devLag_of_row hck hce u⟩

theorem mem_lagSetOf {t : List Cell} {lags : Option (List Rat)} {u : LagUnit} {c : Cell} {l : Rat} :
    l ∈ Spec.C15.lagSetOf t lags u c ↔
      (∃ ls, lags = some ls ∧ l ∈ ls) ∨ (lags = none ∧ ∃ o ∈ t, o.md = c.md ∧ o.devLag u = l) := by
  cases lags with
  | some ls => simp [Spec.C15.lagSetOf]
  | none => simp [Spec.C15.lagSetOf, mem_sliceOf, and_assoc]

/-- the coordinates `make_right_triangle` asks for, said of the observed triangle -/
def TriAsked (t : List Cell) (lags : Option (List Rat)) (u : LagUnit) (x : Cell) (d : Date) : Prop :=
  x ∈ t ∧ (∀ o ∈ t, rowKey o = rowKey x → o.ev ≤ x.ev) ∧
  ∃ lag ∈ Spec.C15.lagSetOf t lags u x, lag > x.devLag u ∧ addDevLag x.pe lag u = .ok d

theorem rightTri_new_asked {t cum new : List Cell} {lags : Option (List Rat)} {u : LagUnit} (hg : SameGrid t cum)
    (hedges : ∀ p ∈ Triangle.slices cum, ∃ edge, Triangle.rightEdge p.2 = .ok edge)
    (hiff : ∀ n, n ∈ new ↔ RightTriCell cum lags u n) : CoordsAre new (TriAsked t lags u) := by
  constructor
  · intro n hn
    obtain ⟨e, he, hne, hlatest, p, hp, hpm, lag, hlag, hgt, hadd⟩ := ((hiff n).mp hn).row
    obtain ⟨x, hx, hxk, hxe⟩ := hg.1 e he
    have hne' : rowKey n = rowKey e := by rw [hne]; rfl
    refine ⟨x, hne'.trans hxk.symm, hx, fun o ho hok => ?_,
      lag, (lagList_iff_lagSet hg hp ((md_of_rowKey hxk).trans hpm.symm) lag).mp hlag,
      by rw [devLag_of_row hxk hxe u]; exact hgt, by rw [pe_of_rowKey hxk]; exact hadd⟩
    obtain ⟨o', ho', hok', hoe'⟩ := hg.2 o ho
    rw [← hoe', hxe]
    exact latest_rowKey hlatest o' ho' (hok'.trans (hok.trans hxk))
  · rintro x d ⟨hx, hlx, lag, hlag, hgt, hadd⟩
    obtain ⟨p, hp, edge, hedge, e, he, hep, hpm, hke⟩ := edge_of_row hg hedges hx
    have hec := mem_of_mem_slices hp hep
    -- the row's right-edge cell in the cumulative form sits on the coordinate of `x`, so it has the lag of `x`
    have hev : e.ev = x.ev := edge_ev_eq hg hec hx hke (fun o ho hk => latest_rowKey (Triangle.rightEdge_latest hedge he).2 o
      ((Triangle.mem_slice_iff hp o).mpr ⟨ho, (md_of_rowKey hk).trans ((Triangle.mem_slice_iff hp e).mp hep).2⟩) hk) hlx
    exact ⟨_, (hiff _).mpr ⟨p, hp, edge, hedge, e, he, lag, (lagList_iff_lagSet hg hp hpm.symm lag).mpr hlag,
      by rw [devLag_of_row hke hev u]; exact hgt, d, by rw [pe_of_rowKey hke]; exact hadd, rfl⟩, hke, rfl⟩

theorem TriFacts.asked {t cum new out : List Cell} {lags : Option (List Rat)} {u : LagUnit}
    (hf : TriFacts t cum new out lags u) : CoordsAre out (TriAsked t lags u) :=
  (rightTri_new_asked hf.cumOf.sameGrid hf.edges hf.mem_new).of_coords hf.fwd hf.bwd

/-- the exact hypothesis the disjointness clause needs, for any unit and any lags: on the cumulative
form `cum`, adding a lag of the slice's lag list that exceeds a cell's lag gives a date strictly after
the cell's evaluation date. (It FAILS for lags so close above an observed lag that the date arithmetic
rounds back onto the observed date: `add_months(2020-01-31, 0.01) = 2020-01-31`,
`2020-01-31 + timedelta(days=0.5) = 2020-01-31`; with such requested lags `make_right_triangle` re-creates
an occupied coordinate.) -/
def _root_.Bermuda.Properties.C15.LagMonotone (cum : List Cell) (lags : Option (List Rat)) (u : LagUnit) : Prop :=
  ∀ p ∈ Triangle.slices cum, ∀ e ∈ p.2, ∀ lag ∈ lagListOf lags u p.2, lag > e.devLag u →
    ∀ ev, addDevLag e.pe lag u = .ok ev → e.ev < ev

theorem lagAfter_of_grid {t cum : List Cell} (hg : SameGrid t cum) {lags : Option (List Rat)} {u : LagUnit}
    (hmono : Properties.C15.LagMonotone cum lags u)
    {x : Cell} {d : Date} (h : TriAsked t lags u x d) : x.ev < d := by
  obtain ⟨hx, _, lag, hlag, hgt, hadd⟩ := h
  obtain ⟨e, he, hek, hee⟩ := hg.2 x hx
  obtain ⟨p, hp, hpm, hep⟩ := Triangle.exists_slice he
  rw [← hee]
  exact hmono p hp e hep lag ((lagList_iff_lagSet hg hp ((md_of_rowKey hek).symm.trans hpm.symm) lag).mpr hlag)
    (by rw [devLag_of_row hek hee u]; exact hgt) d (by rw [pe_of_rowKey hek]; exact hadd)

/-- when a lag beyond a cell's lag always gives a later date (on the cumulative form), every cell of the result lies
strictly after every observation of its row -/
theorem TriFacts.after {t cum new out : List Cell} {lags : Option (List Rat)} {u : LagUnit}
    (hf : TriFacts t cum new out lags u)
    (hmono : Properties.C15.LagMonotone cum lags u)
    {c : Cell} (hc : c ∈ out) {o : Cell} (ho : o ∈ t) (hk : rowKey o = rowKey c) : o.ev < c.ev := by
  obtain ⟨x, hcx, hA⟩ := hf.asked.1 c hc
  exact DateOrder.lt_of_le_of_lt (hA.2.1 o ho (hk.trans hcx)) (lagAfter_of_grid hf.cumOf.sameGrid hmono hA)

theorem TriFacts.empty_of_edges {t cum new out : List Cell} {lags : Option (List Rat)} {u : LagUnit}
    (hf : TriFacts t cum new out lags u)
    (hcomplete : ∀ p ∈ Triangle.slices cum, ∀ edge, Triangle.rightEdge p.2 = .ok edge → ∀ e ∈ edge,
      ∀ lag ∈ lagListOf lags u p.2, ¬ lag > e.devLag u) : out = [] := by
  refine List.eq_nil_iff_forall_not_mem.mpr fun c hc => ?_
  obtain ⟨n, hn, _⟩ := hf.fwd c hc
  obtain ⟨p, hp, edge, hedge, e, he, lag, hlag, hgt, _⟩ := (hf.mem_new n).mp hn
  exact hcomplete p hp edge hedge e he lag hlag hgt

/-- within a row of the cumulative form, a cell that is not later has a lag that is not greater -/
def LagOrder (cum : List Cell) (u : LagUnit) : Prop :=
  ∀ a ∈ cum, ∀ b ∈ cum, rowKey a = rowKey b → Date.cmp a.ev b.ev ≠ .gt → a.devLag u ≤ b.devLag u

/-- two different lags of a slice's lag list beyond the lag of a cell give different evaluation dates -/
def LagInj (cum : List Cell) (lags : Option (List Rat)) (u : LagUnit) : Prop :=
  ∀ p ∈ Triangle.slices cum, ∀ e ∈ p.2, ∀ l1 ∈ lagListOf lags u p.2, ∀ l2 ∈ lagListOf lags u p.2,
    l1 > e.devLag u → l2 > e.devLag u → ∀ ev, addDevLag e.pe l1 u = .ok ev → addDevLag e.pe l2 u = .ok ev → l1 = l2

/-- the lag depends on the coordinate only -/
theorem LagOrder.of_grid {t cum : List Cell} {u : LagUnit} (h : LagOrder cum u) (hg : SameGrid t cum) : LagOrder t u := by
  intro a ha b hb hk hle
  obtain ⟨a', ha', hak, hae⟩ := hg.2 a ha
  obtain ⟨b', hb', hbk, hbe⟩ := hg.2 b hb
  rw [← devLag_of_row hak hae u, ← devLag_of_row hbk hbe u]
  exact h a' ha' b' hb' (hak.trans (hk.trans hbk.symm)) (by rw [hae, hbe]; exact hle)

/-- on the dates in `D` the order is the order of `x`, the development lag is the difference of the coordinates and a whole
lag `k` (in range `R`) adds `k` to the coordinate. Months: valid month ends with `monthToId`; days: valid dates with
`Date.ordinal`. -/
structure LagCoord (u : LagUnit) (D : Date → Prop) (R : Date → Int → Prop) (x : Date → Int) : Prop where
  lt_iff : ∀ {a b}, D a → D b → (a < b ↔ x a < x b)
  devLag : ∀ {pe ev}, D pe → D ev → calculateDevLag pe ev u = ((x ev - x pe : Int) : Rat)
  add : ∀ {pe ev} {k : Int}, D pe → R pe k → addDevLag pe ((k : Int) : Rat) u = .ok ev → D ev ∧ x ev = x pe + k

def MonthEnd (d : Date) : Prop := d.valid = true ∧ d.isMonthEnd = true

theorem lagCoord_month : LagCoord .month MonthEnd (fun _ _ => True) monthToId where
  lt_iff ha hb := by
    rw [(monthEndOf_monthToId ha.1 ha.2).symm, (monthEndOf_monthToId hb.1 hb.2).symm, monthEndOf_lt_monthEndOf,
      monthToId_monthEndOf, monthToId_monthEndOf]
  devLag hp he := devLagMonths_monthEnds hp.2 he.2
  add {pe ev k} hp _ h := by
    obtain rfl : addMonths pe ((k : Int) : Rat) = ev := Except.ok.inj h
    rw [addMonths_monthEnd_all pe k hp.2, monthToId_monthEndOf]
    exact ⟨⟨monthEndOf_valid _, monthEndOf_isMonthEnd _⟩, rfl⟩

theorem lagCoord_day :
    LagCoord .day (·.valid = true) (fun pe k => 1 ≤ pe.ordinal + k ∧ pe.ordinal + k ≤ 3652059) Date.ordinal where
  lt_iff ha hb := (ordinal_lt_iff ha hb).symm
  devLag _ _ := rfl
  add {pe ev k} _ hr h := by
    obtain rfl : pe.addDays (((k : Int) : Rat)).floor = ev := Except.ok.inj h
    rw [floor_intCast]
    exact addDays_ordinal pe k hr.1 hr.2

namespace LagCoord
variable {u : LagUnit} {D : Date → Prop} {R : Date → Int → Prop} {x : Date → Int} (lc : LagCoord u D R x)
  {cum : List Cell} {lags : Option (List Rat)}
include lc

theorem devLag_cell {c : Cell} (hp : D c.pe) (he : D c.ev) : c.devLag u = ((x c.ev - x c.pe : Int) : Rat) :=
  lc.devLag hp he

theorem after {e : Cell} {k : Int} {ev : Date} (hp : D e.pe) (he : D e.ev) (r : R e.pe k)
    (hgt : ((k : Int) : Rat) > e.devLag u) (hev : addDevLag e.pe ((k : Int) : Rat) u = .ok ev) : e.ev < ev := by
  obtain ⟨hDev, hx⟩ := lc.add hp r hev
  rw [lc.devLag_cell hp he, gt_iff_lt, Int.cast_lt] at hgt
  exact (lc.lt_iff he hDev).mpr (by omega)

theorem lagOrder (hD : ∀ c ∈ cum, D c.pe ∧ D c.ev) : LagOrder cum u := by
  intro a ha b hb hk hle
  have hab : ¬ x b.ev < x a.ev := (lc.lt_iff (hD b hb).2 (hD a ha).2).not.mp (DateOrder.le_iff_not_lt.mp hle)
  rw [lc.devLag_cell (hD a ha).1 (hD a ha).2, lc.devLag_cell (hD b hb).1 (hD b hb).2, pe_of_rowKey hk, Int.cast_le]
  omega

theorem lagListOf_int (hint : ∀ l, lags = some l → ∀ lag ∈ l, ∃ k : Int, lag = ((k : Int) : Rat))
    {slice : List Cell} (hD : ∀ c ∈ slice, D c.pe ∧ D c.ev) {lag : Rat} (hlag : lag ∈ lagListOf lags u slice) :
    ∃ k : Int, lag = ((k : Int) : Rat) := by
  cases lags with
  | some l => exact hint l rfl lag hlag
  | none =>
    simp only [lagListOf, List.mem_eraseDups] at hlag
    obtain ⟨c, hc, rfl⟩ := List.mem_map.mp hlag
    exact ⟨_, lc.devLag_cell (hD c hc).1 (hD c hc).2⟩

theorem lagInj (hD : ∀ c ∈ cum, D c.pe ∧ D c.ev)
    (hint : ∀ l, lags = some l → ∀ lag ∈ l, ∃ k : Int, lag = ((k : Int) : Rat))
    (hrange : ∀ p ∈ Triangle.slices cum, ∀ e ∈ p.2, ∀ lag ∈ lagListOf lags u p.2, R e.pe lag.floor) :
    LagInj cum lags u := by
  intro p hp e he l1 hl1 l2 hl2 _ _ ev h1 h2
  have hDp : ∀ c ∈ p.2, D c.pe ∧ D c.ev := fun c hc => hD c (mem_of_mem_slices hp hc)
  obtain ⟨k1, rfl⟩ := lc.lagListOf_int hint hDp hl1
  obtain ⟨k2, rfl⟩ := lc.lagListOf_int hint hDp hl2
  have r1 := hrange p hp e he _ hl1
  have r2 := hrange p hp e he _ hl2
  rw [floor_intCast] at r1 r2
  have o1 := (lc.add (hDp e he).1 r1 h1).2
  have o2 := (lc.add (hDp e he).1 r2 h2).2
  rw [show k1 = k2 by omega]

theorem lagAfter (hD : ∀ c ∈ cum, D c.pe ∧ D c.ev)
    (hint : ∀ l, lags = some l → ∀ lag ∈ l, ∃ k : Int, lag = ((k : Int) : Rat))
    (hrange : ∀ p ∈ Triangle.slices cum, ∀ e ∈ p.2, ∀ lag ∈ lagListOf lags u p.2, R e.pe lag.floor) :
    Properties.C15.LagMonotone cum lags u := by
  intro p hp e he lag hlag hgt ev hev
  have hDp : ∀ c ∈ p.2, D c.pe ∧ D c.ev := fun c hc => hD c (mem_of_mem_slices hp hc)
  obtain ⟨k, rfl⟩ := lc.lagListOf_int hint hDp hlag
  have r := hrange p hp e he _ hlag
  rw [floor_intCast] at r
  exact lc.after (hDp e he).1 (hDp e he).2 r hgt hev

end LagCoord

theorem monthEnd_of_aligned {cum : List Cell} (hal : ∀ c ∈ cum, MonthAligned c) :
    ∀ c ∈ cum, MonthEnd c.pe ∧ MonthEnd c.ev :=
  fun c hc => ⟨⟨(hal c hc).1, (hal c hc).2.1⟩, (hal c hc).2.2.1, (hal c hc).2.2.2.1⟩

theorem lagInj_month {cum : List Cell} {lags : Option (List Rat)} (hal : ∀ c ∈ cum, MonthAligned c)
    (hint : ∀ l, lags = some l → ∀ lag ∈ l, ∃ k : Int, lag = ((k : Int) : Rat)) :
    LagInj cum lags .month :=
  lagCoord_month.lagInj (monthEnd_of_aligned hal) hint fun _ _ _ _ _ _ => trivial

theorem lagSetOf_congr {t : List Cell} {lags : Option (List Rat)} {u : LagUnit} {a b : Cell} (h : a.md = b.md) :
    Spec.C15.lagSetOf t lags u a = Spec.C15.lagSetOf t lags u b := by
  unfold Spec.C15.lagSetOf; rw [sliceOf_congr h]

theorem gt_of_gtOpt_lastLag {t : List Cell} {u : LagUnit} {rep x : Cell} {l : Rat}
    (h : Spec.C15.gtOpt l (Spec.C15.lastLag t u rep) = true) (hx : x ∈ Spec.C15.rowOf t rep) : l > x.devLag u := by
  unfold Spec.C15.lastLag at h
  cases hm : Spec.C15.maxRat ((Spec.C15.rowOf t rep).map fun o => o.devLag u) with
  | none => rw [hm] at h; cases h
  | some m =>
    rw [hm] at h
    exact lt_of_le_of_lt ((maxRat_spec hm).2 _ (List.mem_map_of_mem (f := fun o => o.devLag u) hx))
      (by simpa [Spec.C15.gtOpt] using h)

theorem spec_rightTri_onGrid_u {t cum new out : List Cell} {lags : Option (List Rat)} {u : LagUnit}
    (hf : TriFacts t cum new out lags u) (hord : LagOrder cum u) :
    Spec.C15.rightTriOnGrid t lags u out = true := by
  have hordt := hord.of_grid hf.cumOf.sameGrid
  simp only [Spec.C15.rightTriOnGrid, List.all_eq_true, List.any_eq_true, Bool.and_eq_true]
  intro c hc
  obtain ⟨x, hk, hx, hlx, lag, hlag, hgt, hadd⟩ := hf.asked.1 c hc
  refine ⟨lag, by rwa [lagSetOf_congr (md_of_rowKey hk)], ?_, ?_⟩
  · rw [lastLag_eq hx hk fun o ho hok => hordt o ho x hx hok (hlx o ho hok)]
    simpa [Spec.C15.gtOpt] using hgt
  · rw [pe_of_rowKey hk]
    simp [Spec.C15.evAt, hadd]

theorem spec_rightTri_complete_u {t cum new out : List Cell} {lags : Option (List Rat)} {u : LagUnit}
    (hf : TriFacts t cum new out lags u) (hu : u ≠ .timedelta) :
    Spec.C15.rightTriComplete t lags u out = true := by
  simp only [Spec.C15.rightTriComplete, List.all_eq_true, Bool.or_eq_true, Bool.not_eq_true']
  intro rep hrep l hl
  by_cases hgt : Spec.C15.gtOpt l (Spec.C15.lastLag t u rep) = true
  swap
  · left; simpa using hgt
  right
  obtain ⟨x, hx, hk, hlx⟩ := exists_latest hrep
  obtain ⟨ev, hev⟩ := addDevLag_total hu x.pe l
  obtain ⟨c, hc, hck, hce⟩ := hf.asked.2 x ev ⟨hx, hlx, l, by rwa [← lagSetOf_congr (md_of_rowKey hk)],
    gt_of_gtOpt_lastLag hgt (mem_rowOf.mpr ⟨hx, hk⟩), hev⟩
  simp only [Spec.C15.evAt, pe_of_rowKey hk, hev, List.any_eq_true, Bool.and_eq_true, beq_iff_eq]
  exact ⟨c, hc, sameRow_iff.mpr (hck.trans hk.symm), hce⟩

theorem spec_rightTri_emptyWhenComplete_u {t cum new out : List Cell} {lags : Option (List Rat)}
    {u : LagUnit} (hf : TriFacts t cum new out lags u) (hord : LagOrder cum u) :
    (!(Spec.C15.rightTriNothingMissing t lags u) || out.isEmpty) = true := by
  cases out with
  | nil => simp
  | cons c rest =>
    -- the first cell of the result was asked for on the row of some `x`, at a lag of the grid beyond the row's last lag
    have hordt := hord.of_grid hf.cumOf.sameGrid
    obtain ⟨x, _, hx, hlx, lag, hlag, hgt, _⟩ := hf.asked.1 c List.mem_cons_self
    simp only [Bool.or_eq_true, Bool.not_eq_true', List.isEmpty_cons, Bool.false_eq_true, or_false]
    simp only [Spec.C15.rightTriNothingMissing]
    rw [List.all_eq_false]
    refine ⟨x, hx, ?_⟩
    simp only [Bool.not_eq_true, List.all_eq_false]
    refine ⟨lag, hlag, ?_⟩
    rw [lastLag_eq hx rfl fun o ho hok => hordt o ho x hx hok (hlx o ho hok)]
    simpa [Spec.C15.gtOpt] using hgt

theorem aligned_cum {t cum : List Cell} (hg : SameGrid t cum) (hal : ∀ c ∈ t, MonthAligned c) :
    ∀ e ∈ cum, MonthAligned e := by
  intro e he
  obtain ⟨x, hx, hxk, hxe⟩ := hg.1 e he
  exact monthAligned_of_row hxk hxe (hal x hx)

theorem spec_rightTri_onGrid {t cum new out : List Cell} {lags : Option (List Rat)}
    (hf : TriFacts t cum new out lags .month) (hal : ∀ c ∈ t, MonthAligned c) :
    Spec.C15.rightTriOnGrid t lags .month out = true :=
  spec_rightTri_onGrid_u hf (lagCoord_month.lagOrder (monthEnd_of_aligned (aligned_cum hf.cumOf.sameGrid hal)))

theorem spec_rightTri_complete {t cum new out : List Cell} {lags : Option (List Rat)}
    (hf : TriFacts t cum new out lags .month) :
    Spec.C15.rightTriComplete t lags .month out = true :=
  spec_rightTri_complete_u hf (by decide)

theorem spec_rightTri_emptyWhenComplete {t cum new out : List Cell} {lags : Option (List Rat)}
    (hf : TriFacts t cum new out lags .month) (hal : ∀ c ∈ t, MonthAligned c) :
    (!(Spec.C15.rightTriNothingMissing t lags .month) || out.isEmpty) = true :=
  spec_rightTri_emptyWhenComplete_u hf (lagCoord_month.lagOrder (monthEnd_of_aligned (aligned_cum hf.cumOf.sameGrid hal)))

end Bermuda.Extend
