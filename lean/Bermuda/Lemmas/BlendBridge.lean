/-
C16: a closed instance on which `blend` succeeds (`blEx_blend`), so that the hypothesis `blend … = .ok out` of the
theorems of `Properties/C16.lean` can be met. (`decide` needs `DecidableEq (Except ε α)`, which is Batteries' and
arrives through the Mathlib imports of `Lemmas/Blend.lean`.)
-/
import Bermuda.Lemmas.Blend
namespace Bermuda.Blend

def blExA : List Cell :=
  [ { kind := .cumulative, ps := ⟨2020, 1, 1⟩, pe := ⟨2020, 12, 31⟩, ev := ⟨2020, 12, 31⟩,
      values := [("paid_loss", .int 4)] },
    { kind := .cumulative, ps := ⟨2020, 1, 1⟩, pe := ⟨2020, 12, 31⟩, ev := ⟨2021, 12, 31⟩,
      values := [("paid_loss", .arr false [2] [8, 16])] } ]
def blExB : List Cell :=
  [ { kind := .cumulative, ps := ⟨2020, 1, 1⟩, pe := ⟨2020, 12, 31⟩, ev := ⟨2020, 12, 31⟩,
      values := [("paid_loss", .arr false [2] [8, 12])] },
    { kind := .cumulative, ps := ⟨2020, 1, 1⟩, pe := ⟨2020, 12, 31⟩, ev := ⟨2021, 12, 31⟩,
      values := [("paid_loss", .int 0)] } ]
def blExOut : List Cell :=
  [ { kind := .cumulative, ps := ⟨2020, 1, 1⟩, pe := ⟨2020, 12, 31⟩, ev := ⟨2020, 12, 31⟩,
      values := [("paid_loss", .arr false [2] [7, 10])] },
    { kind := .cumulative, ps := ⟨2020, 1, 1⟩, pe := ⟨2020, 12, 31⟩, ev := ⟨2021, 12, 31⟩,
      values := [("paid_loss", .arr false [2] [2, 4])] } ]

/-- `blend` SUCCEEDS: two triangles of two cells (a scalar against a 2-sample array in either order), list weights
1/4, 3/4, method linear -/
theorem blEx_blend :
    blend [blExA, blExB] (.list [1/4, 3/4]) "linear" (fun _ _ => []) = .ok blExOut := by
  -- `List.mergeSort` does not reduce in the kernel: the closing sort becomes the insertion sort
  simp only [blend, ofCells_eq_insertionSort]
  decide +kernel +revert

end Bermuda.Blend
