/-
The association-list updates and lookups that models spell in their own way, as equations with
the generic `Assoc.set` / `Assoc.get?` of `Lemmas/Assoc.lean`.
-/
import Bermuda.Lemmas.Assoc
import Bermuda.Model.Extend
import Bermuda.Model.Blend
import Bermuda.Model.Resample
import Bermuda.Model.Codec
namespace Bermuda

theorem Resample.assoc?_eq_assoc {κ α} [BEq κ] (l : List (κ × α)) (k : κ) :
    Resample.assoc? l k = Assoc.get? l k := rfl
theorem Blend.lookup_eq_assoc (d : List (Coord × Cell)) (k : Coord) : Blend.lookup d k = Assoc.get? d k := rfl
theorem Codec.dictSet_eq_assoc (d : Codec.RawDict) (k : Codec.Bytes) (v : Codec.RawVal) :
    Codec.dictSet d k v = Assoc.set d k v := rfl

theorem Extend.lagSet_eq_assoc (d : Extend.LagDict) (k : Rat) (v : Cell) :
    Extend.lagSet d k v = Assoc.set d k v := Assoc.set_keep_key d k v

theorem Blend.indexSet_eq_assoc (d : List (Coord × Cell)) (c : Cell) :
    Blend.indexSet d c = Assoc.set d c.coord c := Assoc.set_keep_key d c.coord c

end Bermuda
