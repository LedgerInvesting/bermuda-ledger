/-
C15: the executable clauses of `fillSpec` hold of the model's `fill_forward_gaps`.
Part 2: the placement clauses (`insideGaps`, `complete`, `values`, `emptyWhenComplete`) and the grid
hypothesis from the Bool `fillCompatible`.
-/
import Bermuda.Lemmas.ExtendSpecFill
namespace Bermuda.Extend

/-! ### first / last cell of an evaluation-date-sorted slice row -/

structure RowFacts (r : SliceKey × List Cell) (f l : Cell) : Prop where
  hf : r.2.head? = some f
  hl : r.2.getLast? = some l
  fmin : ∀ o ∈ r.2, ¬ (o.ev < f.ev)
  lmax : ∀ o ∈ r.2, ¬ (l.ev < o.ev)

theorem row_facts {t : List Cell} {r : SliceKey × List Cell} (hr : r ∈ slicePeriodRows t) :
    ∃ f l, RowFacts r f l := by
  obtain ⟨_, _, _, h2⟩ := mem_slicePeriodRows hr
  have hne := (slicePeriodRows_partition t).ne_nil hr
  have hsorted : r.2.Pairwise (fun a b => leOf evCmp a b) := by
    rw [h2]; exact sorted_mergeSort (cmp := evCmp) _
  obtain ⟨f, hf⟩ := Option.isSome_iff_exists.mp (List.isSome_head?.mpr hne)
  obtain ⟨l, hl⟩ := Option.isSome_iff_exists.mp (List.getLast?_isSome.mpr hne)
  refine ⟨f, l, hf, hl, fun o ho => ?_, fun o ho => ?_⟩
  · rcases head?_min hsorted hf o ho with rfl | hle
    · exact DateOrder.lt_irrefl _
    · exact DateOrder.le_iff_not_lt.mp (leOf_evCmp_iff.mp hle)
  · rcases getLast?_max hsorted hl o ho with hle | rfl
    · exact DateOrder.le_iff_not_lt.mp (leOf_evCmp_iff.mp hle)
    · exact DateOrder.lt_irrefl _

/-- the Spec's row of a cell on the slice row `r` has the members of `r` -/
theorem mem_rowOf_row {t : List Cell} {r : SliceKey × List Cell} (hr : r ∈ slicePeriodRows t) {c : Cell}
    (hc : sliceKey c = r.1) (o : Cell) : o ∈ Spec.C15.rowOf t c ↔ o ∈ r.2 := by
  rw [mem_rowOf, mem_slicePeriodRow_iff hr, ← hc, sliceKey_eq_iff]
  constructor
  · rintro ⟨h1, h2⟩; exact ⟨h1, h2.symm⟩
  · rintro ⟨h1, h2⟩; exact ⟨h1, h2.symm⟩

/-- cells of a slice row of the domain: month end at `period_end + lagInt` -/
theorem row_cell {t : List Cell} (hD : SpecDomain t) {r : SliceKey × List Cell}
    (hr : r ∈ slicePeriodRows t) {c : Cell} (hc : c ∈ r.2) :
    c ∈ t ∧ MonthAligned c ∧ sliceKey c = r.1 ∧ c.pe = r.1.2.2 ∧
      c.ev = monthEndOf (monthToId r.1.2.2 + lagInt c) := by
  obtain ⟨hct, hck⟩ := (mem_slicePeriodRow_iff hr c).mp hc
  have hal := hD.aligned c hct
  have hpe : c.pe = r.1.2.2 := by rw [← hck]; rfl
  exact ⟨hct, hal, hck, hpe, by rw [← hpe]; exact ev_monthEndOf hal⟩

theorem mem_row_of_rowKey {t : List Cell} {r : SliceKey × List Cell} (hr : r ∈ slicePeriodRows t) {a o : Cell}
    (ha : a ∈ r.2) (ho : o ∈ t) (hk : rowKey o = rowKey a) : o ∈ r.2 :=
  (mem_slicePeriodRow_iff hr o).mpr ⟨ho, (sliceKey_eq_iff.mpr hk).trans ((mem_slicePeriodRow_iff hr a).mp ha).2⟩

theorem firstLag_row {t : List Cell} (hD : SpecDomain t) {r : SliceKey × List Cell}
    (hr : r ∈ slicePeriodRows t) {f l : Cell} (hF : RowFacts r f l) {c : Cell} (hc : sliceKey c = r.1) :
    Spec.C15.firstLag t c = some ((lagInt f : Int) : Rat) :=
  have hfr : f ∈ r.2 := List.mem_of_head? hF.hf
  hD.firstLag_eq ((mem_slicePeriodRow_iff hr f).mp hfr).1 (fun o ho hk => hF.fmin o (mem_row_of_rowKey hr hfr ho hk))
    (sliceKey_eq_iff.mp (hc.trans ((mem_slicePeriodRow_iff hr f).mp hfr).2.symm))

theorem lastLag_row {t : List Cell} (hD : SpecDomain t) {r : SliceKey × List Cell}
    (hr : r ∈ slicePeriodRows t) {f l : Cell} (hF : RowFacts r f l) {c : Cell} (hc : sliceKey c = r.1) :
    Spec.C15.lastLag t .month c = some ((lagInt l : Int) : Rat) :=
  have hlr : l ∈ r.2 := List.mem_of_getLast? hF.hl
  hD.lastLag_eq ((mem_slicePeriodRow_iff hr l).mp hlr).1 (fun o ho hk => hF.lmax o (mem_row_of_rowKey hr hlr ho hk))
    (sliceKey_eq_iff.mp (hc.trans ((mem_slicePeriodRow_iff hr l).mp hlr).2.symm))

theorem innerGrid_row {t : List Cell} (hD : SpecDomain t) {r : SliceKey × List Cell}
    (hr : r ∈ slicePeriodRows t) {f l : Cell} (hF : RowFacts r f l) {c : Cell} (hc : sliceKey c = r.1)
    (res : Int) : Spec.C15.innerGrid t res c = pyRange (lagInt f + res) (lagInt l) res := by
  unfold Spec.C15.innerGrid
  rw [firstLag_row hD hr hF hc, lastLag_row hD hr hF hc]
  simp only [floor_intCast]

/-! ### the grid hypothesis from the executable `fillCompatible` -/

theorem gridRow_of_compatible {t : List Cell} (hD : SpecDomain t) {res : Int}
    (hc : Spec.C15.fillCompatible t res = true) :
    0 < res ∧ ∀ r ∈ slicePeriodRows t, GridRow res r.2 := by
  simp only [Spec.C15.fillCompatible, Bool.and_eq_true, decide_eq_true_eq, List.all_eq_true] at hc
  obtain ⟨hpos, hall⟩ := hc
  refine ⟨hpos, ?_⟩
  intro r hr
  obtain ⟨f, l, hF⟩ := row_facts hr
  refine ⟨lagInt f, ?_⟩
  intro o ho
  obtain ⟨hot, hal, hok, _⟩ := row_cell hD hr ho
  have := hall o hot
  rw [firstLag_row hD hr hF hok] at this
  simp only [Bool.and_eq_true, Spec.C15.isInt, beq_iff_eq] at this
  have hq := (Rat.coe_int_num_of_den_eq_one this.2).symm
  refine ⟨((o.devLag - ((lagInt f : Int) : Rat)) / (res : Rat)).num, ?_⟩
  have hr0 : ((res : Int) : Rat) ≠ 0 := by
    have : (0 : Rat) < ((res : Int) : Rat) := by exact_mod_cast hpos
    exact ne_of_gt this
  rw [div_eq_iff hr0] at hq
  push_cast
  linarith

/-! ### what `fill_forward_gaps` adds -/

theorem fill_cells {t out : List Cell} {res? : Option Int} {nf : Bool} {res : Int}
    (h : fillForwardGaps t res? nf = .ok out) (hres : resolvedRes t res? = some res) (hpos : 0 < res)
    (hgrid : ∀ r ∈ slicePeriodRows t, GridRow res r.2) :
    ∀ c ∈ out, c ∈ t ∨ ∃ r ∈ slicePeriodRows t, FillCellOf res nf r.2 c := by
  intro c hc
  obtain ⟨r, hr, hcr⟩ := List.mem_flatMap.mp
    ((Triangle.ofCells_perm ((fillForwardGaps_closed hres hpos hgrid).mp h).2).mem_iff.mp hc)
  exact (mem_filledRow hpos (hgrid r hr) hcr).imp (fun hrow => ((mem_slicePeriodRow_iff hr c).mp hrow).1) fun hfill => ⟨r, hr, hfill⟩

theorem fill_complete' {t out : List Cell} {res? : Option Int} {nf : Bool} {res : Int}
    (h : fillForwardGaps t res? nf = .ok out) (hres : resolvedRes t res? = some res) (hpos : 0 < res)
    (hgrid : ∀ r ∈ slicePeriodRows t, GridRow res r.2)
    {r : SliceKey × List Cell} (hr : r ∈ slicePeriodRows t) {f l : Cell}
    (hf : r.2.head? = some f) (hl : r.2.getLast? = some l) {x : Int}
    (hx : x ∈ pyRange (truncInt f.devLag) (truncInt (l.devLag + res)) res) :
    ∃ c ∈ out, ∃ o ∈ r.2, c.md = o.md ∧ c.ps = o.ps ∧ c.pe = o.pe ∧
      ((c = o ∧ o.devLag = ((x : Int) : Rat)) ∨ c.ev = addMonths c.pe ((x : Int) : Rat)) := by
  obtain ⟨c, hc, rest⟩ := filledRow_complete (nf := nf) hpos (hgrid r hr) hf hl hx
  exact ⟨c, (Triangle.ofCells_perm ((fillForwardGaps_closed hres hpos hgrid).mp h).2).mem_iff.mpr
    (List.mem_flatMap.mpr ⟨r, hr, hc⟩), rest⟩

/-- everything known about a cell `fill_forward_gaps` put on an unoccupied coordinate -/
structure FillAdded (t : List Cell) (res : Int) (nf : Bool) (a : Cell) (r : SliceKey × List Cell)
    (f l o : Cell) (lag : Int) (i : Nat) : Prop where
  row : r ∈ slicePeriodRows t
  facts : RowFacts r f l
  src : o ∈ r.2
  eq : a = fillCell nf o lag
  grid : lag = lagInt f + res * (i : Int)
  gtFirst : lagInt f < lag
  ltLast : lag < lagInt l
  below : lagInt o < lag
  nearest : ∀ o' ∈ r.2, lagInt o' ≤ lag → lagInt o' ≤ lagInt o
  key : sliceKey a = r.1
  ev : a.ev = monthEndOf (monthToId r.1.2.2 + lag)

theorem fill_added_facts {t out : List Cell} {res? : Option Int} {nf : Bool} {res : Int}
    (hD : SpecDomain t)
    (h : fillForwardGaps t res? nf = .ok out) (hres : resolvedRes t res? = some res) (hpos : 0 < res)
    (hgrid : ∀ r ∈ slicePeriodRows t, GridRow res r.2) {a : Cell} (ha : a ∈ Spec.C15.added t out) :
    ∃ r f l o lag i, FillAdded t res nf a r f l o lag i := by
  obtain ⟨hao, hfree⟩ := mem_added.mp ha
  rcases fill_cells h hres hpos hgrid a hao with hat | ⟨r, hr, hfc⟩
  · exact absurd rfl (hfree a hat)
  · obtain ⟨f, l, hf, hl, lag, hflt, hllt, ⟨i, hi⟩, _, o, ho, holt, hnear, rfl⟩ := hfc
    obtain ⟨f', l', hF⟩ := row_facts hr
    have : f' = f := by have := hF.hf; rw [hf] at this; cases this; rfl
    subst this
    have : l' = l := by have := hF.hl; rw [hl] at this; cases this; rfl
    subst this
    have hfr : f' ∈ r.2 := List.mem_of_head? hf
    have hlr : l' ∈ r.2 := List.mem_of_getLast? hl
    obtain ⟨_, half, _, _⟩ := row_cell hD hr hfr
    obtain ⟨_, hall, _, _, _⟩ := row_cell hD hr hlr
    obtain ⟨_, halo, hok, hope, _⟩ := row_cell hD hr ho
    rw [devLag_lagInt half] at hflt
    rw [devLag_lagInt hall] at hllt
    rw [devLag_lagInt halo] at holt
    rw [lagInt_trunc half] at hi
    have h1 : lagInt f' < lag := by exact_mod_cast hflt
    have h2 : lag < lagInt l' := by exact_mod_cast hllt
    have h3 : lagInt o < lag := by exact_mod_cast holt
    refine ⟨r, f', l', o, lag, i, hr, hF, ho, rfl, hi, h1, h2, h3, ?_, ?_, ?_⟩
    · intro o' ho' hle
      have hal' := (row_cell hD hr ho').2.1
      have := hnear o' ho' (by rw [devLag_lagInt hal']; exact_mod_cast hle)
      rw [devLag_lagInt hal', devLag_lagInt halo] at this
      exact_mod_cast this
    · rw [fillCell_sliceKey, hok]
    · rw [(fillCell_fields nf o lag).2.2.2, addMonths_form halo, hope]

theorem FillAdded.mem_grid {t : List Cell} {res : Int} {nf : Bool} {a f l o : Cell} {r : SliceKey × List Cell}
    {lag : Int} {i : Nat} (hA : FillAdded t res nf a r f l o lag i) (hpos : 0 < res) :
    lag ∈ pyRange (lagInt f + res) (lagInt l) res := by
  have h1 := hA.gtFirst
  have h2 := hA.grid
  have hi0 : (i : Int) ≠ 0 := fun h0 => by rw [h0] at h2; omega
  refine (mem_pyRange_iff hpos).mpr ⟨i - 1, ?_, hA.ltLast⟩
  have : ((i - 1 : Nat) : Int) = (i : Int) - 1 := by omega
  rw [this, h2]; ring

theorem spec_fill_insideGaps {t out : List Cell} {res? : Option Int} {nf : Bool} {res : Int}
    (hD : SpecDomain t)
    (h : fillForwardGaps t res? nf = .ok out) (hres : resolvedRes t res? = some res) (hpos : 0 < res)
    (hgrid : ∀ r ∈ slicePeriodRows t, GridRow res r.2) :
    Spec.C15.fillInsideGaps t res out = true := by
  simp only [Spec.C15.fillInsideGaps, List.all_eq_true, Bool.and_eq_true]
  intro a ha
  obtain ⟨r, f, l, o, lag, i, hA⟩ := fill_added_facts hD h hres hpos hgrid ha
  have hr := hA.row
  have hfr : f ∈ r.2 := List.mem_of_head? hA.facts.hf
  have hlr : l ∈ r.2 := List.mem_of_getLast? hA.facts.hl
  have hfe := (row_cell hD hr hfr).2.2.2.2
  have hle := (row_cell hD hr hlr).2.2.2.2
  refine ⟨⟨minEval_lt_iff.mpr ⟨f, (mem_rowOf_row hr hA.key f).mpr hfr, ?_⟩,
    lt_maxEval_iff.mpr ⟨l, (mem_rowOf_row hr hA.key l).mpr hlr, ?_⟩⟩, ?_⟩
  · rw [hfe, hA.ev, monthEndOf_lt_monthEndOf]; have := hA.gtFirst; omega
  · rw [hle, hA.ev, monthEndOf_lt_monthEndOf]; have := hA.ltLast; omega
  · rw [innerGrid_row hD hr hA.facts hA.key, List.any_eq_true]
    refine ⟨lag, hA.mem_grid hpos, ?_⟩
    · rw [hA.eq, (fillCell_fields nf o lag).2.2.1, (fillCell_fields nf o lag).2.2.2]
      simp

theorem spec_fill_complete {t out : List Cell} {res? : Option Int} {nf : Bool} {res : Int}
    (hD : SpecDomain t)
    (h : fillForwardGaps t res? nf = .ok out) (hres : resolvedRes t res? = some res) (hpos : 0 < res)
    (hgrid : ∀ r ∈ slicePeriodRows t, GridRow res r.2) :
    Spec.C15.fillComplete t res out = true := by
  simp only [Spec.C15.fillComplete, List.all_eq_true, Bool.or_eq_true, List.any_eq_true,
    Bool.and_eq_true, beq_iff_eq]
  intro rep hrep x hx
  obtain ⟨r, hr, hrk, hrr⟩ := slicePeriodRows_cover hrep
  obtain ⟨f, l, hF⟩ := row_facts hr
  have hfr : f ∈ r.2 := List.mem_of_head? hF.hf
  have hlr : l ∈ r.2 := List.mem_of_getLast? hF.hl
  obtain ⟨_, half, _, _, _⟩ := row_cell hD hr hfr
  obtain ⟨_, hall, _, _, _⟩ := row_cell hD hr hlr
  obtain ⟨_, _, _, hreppe, _⟩ := row_cell hD hr hrr
  rw [innerGrid_row hD hr hF hrk.symm, mem_pyRange_iff hpos] at hx
  obtain ⟨i, hxi, hxl⟩ := hx
  have hx' : x ∈ pyRange (truncInt f.devLag) (truncInt (l.devLag + res)) res := by
    have h1 : l.devLag + (res : Rat) = (((lagInt l + res : Int)) : Rat) := by
      rw [devLag_lagInt hall]; push_cast; ring
    rw [lagInt_trunc half, h1, truncInt_intCast, mem_pyRange_iff hpos]
    refine ⟨i + 1, ?_, by omega⟩
    rw [hxi]; push_cast; ring
  obtain ⟨c, hc, o, ho, c1, c2, c3, hcase⟩ := fill_complete' h hres hpos hgrid hr hF.hf hF.hl hx'
  obtain ⟨hot, halo, hok, hope, _⟩ := row_cell hD hr ho
  have hco : rowKey c = rowKey o := rowKey_eq_iff.mpr ⟨c1, c2, c3⟩
  have hor : rowKey o = rowKey rep := sliceKey_eq_iff.mp (hok.trans hrk)
  rcases hcase with ⟨rfl, hlag⟩ | hev
  · left
    refine ⟨c, (mem_rowOf_row hr hrk.symm c).mpr ho, ?_⟩
    rw [hreppe, ← hope]; exact (addMonths_lag_eq_ev halo hlag).symm
  · have hcev : c.ev = addMonths rep.pe ((x : Int) : Rat) := by rw [hev, c3, hope, hreppe]
    by_cases hocc : ∃ o' ∈ t, ckey c = ckey o'
    · obtain ⟨o', ho', hk⟩ := hocc
      obtain ⟨h1, h2⟩ := ckey_eq_iff.mp hk
      left
      refine ⟨o', mem_rowOf.mpr ⟨ho', ?_⟩, by rw [← h2]; exact hcev⟩
      rw [← h1, hco, hor]
    · right
      refine ⟨c, mem_added.mpr ⟨hc, fun o' ho' hk => hocc ⟨o', ho', hk⟩⟩, ?_, hcev⟩
      exact sameRow_iff.mpr (hco.trans hor)

theorem spec_fill_values {t out : List Cell} {res? : Option Int} {nf : Bool} {res : Int}
    (hD : SpecDomain t)
    (h : fillForwardGaps t res? nf = .ok out) (hres : resolvedRes t res? = some res) (hpos : 0 < res)
    (hgrid : ∀ r ∈ slicePeriodRows t, GridRow res r.2) :
    Spec.C15.fillValues t nf out = true := by
  simp only [Spec.C15.fillValues, List.all_eq_true]
  intro a ha
  obtain ⟨r, f, l, o, lag, i, hA⟩ := fill_added_facts hD h hres hpos hgrid ha
  have hr := hA.row
  obtain ⟨hot, halo, hok, hope, hoev⟩ := row_cell hD hr hA.src
  have hoa : o.ev < a.ev := by rw [hoev, hA.ev, monthEndOf_lt_monthEndOf]; have := hA.below; omega
  have hoo : o ∈ Spec.C15.rowOf t a := (mem_rowOf_row hr hA.key o).mpr hA.src
  obtain ⟨s, hs, hsr, hsa, hsmax⟩ := sourceOf_spec hoo hoa
  have hsr' := (mem_rowOf_row hr hA.key s).mp hsr
  obtain ⟨hst, _, hsk, _, hsev⟩ := row_cell hD hr hsr'
  have h1 : lagInt s < lag := by
    rw [hsev, hA.ev, monthEndOf_lt_monthEndOf] at hsa; omega
  have h2 := hA.nearest s hsr' (by omega)
  have h3 := (hD.ev_lt_iff hst hot (sliceKey_eq_iff.mp (hsk.trans hok.symm))).not.mp
    (DateOrder.le_iff_not_lt.mp (hsmax o hoo hoa))
  have hso : s = o := by
    refine hD.eq_of_coord hst hot (sliceKey_eq_iff.mp (hsk.trans hok.symm)) ?_
    rw [hsev, hoev, show lagInt s = lagInt o by omega]
  rw [hs, hso, hA.eq]
  cases nf <;> simp [fillCell]

theorem spec_fill_emptyWhenComplete {t out : List Cell} {res? : Option Int} {nf : Bool} {res : Int}
    (hD : SpecDomain t)
    (h : fillForwardGaps t res? nf = .ok out) (hres : resolvedRes t res? = some res) (hpos : 0 < res)
    (hgrid : ∀ r ∈ slicePeriodRows t, GridRow res r.2) (hkept : Spec.C15.kept t out = t) :
    (!(Spec.C15.fillNothingMissing t res) || out == t) = true := by
  cases hnm : Spec.C15.fillNothingMissing t res with
  | false => simp
  | true =>
    have hnil : Spec.C15.added t out = [] := by
      apply List.eq_nil_iff_forall_not_mem.mpr
      intro a ha
      obtain ⟨r, f, l, o, lag, i, hA⟩ := fill_added_facts hD h hres hpos hgrid ha
      have hr := hA.row
      have hfr : f ∈ r.2 := List.mem_of_head? hA.facts.hf
      obtain ⟨hft, half, hfk, hfpe, _⟩ := row_cell hD hr hfr
      obtain ⟨_, halo, _, hope, _⟩ := row_cell hD hr hA.src
      simp only [Spec.C15.fillNothingMissing, List.all_eq_true, List.any_eq_true, beq_iff_eq] at hnm
      have hlag : lag ∈ Spec.C15.innerGrid t res f := by
        rw [innerGrid_row hD hr hA.facts hfk]; exact hA.mem_grid hpos
      obtain ⟨o', ho', hoe'⟩ := hnm f hft lag hlag
      have ho'r := (mem_rowOf_row hr hfk o').mp ho'
      obtain ⟨ho't, _, ho'k, _, _⟩ := row_cell hD hr ho'r
      refine (mem_added.mp ha).2 o' ho't (ckey_eq_iff.mpr ⟨sliceKey_eq_iff.mp (hA.key.trans ho'k.symm), ?_⟩)
      rw [hoe', hA.ev, addMonths_form half, hfpe]
    rw [out_eq_of_added_nil hkept hnil]
    simp

/-- whatever the resolution: the structural clauses need no assumption on it, and the placement clauses are asked for
only on a compatible one, which is positive by `fillCompatible` itself -/
theorem fillSpec_holds {t out : List Cell} {res? : Option Int} {nf : Bool}
    (h : fillForwardGaps t res? nf = .ok out) (hD : SpecDomain t) :
    Spec.C15.allHold (Spec.C15.fillSpec t res? nf out) = true := by
  obtain ⟨hcan, hkeys, hsub⟩ := fill_out_structure hD h
  obtain ⟨hkept, hnd⟩ := spec_preserved hD.canonical.1 hD.canon hD.nodup hcan.1 hkeys hsub
  have hc := Properties.C01.isCanonical_of_canonical hcan
  have hpres : (Spec.C15.kept t out == t) = true := by rw [hkept]; simp
  unfold Spec.C15.fillSpec
  rw [resolveRes_eq]
  cases hr : resolvedRes t res? with
  | none =>
    have ht : t = [] := by
      rcases fillForwardGaps_ok.mp h with ⟨hrows, _⟩ | ⟨res, _, hres, _⟩
      · exact slicePeriodRows_nil hrows
      · rw [hr] at hres; cases hres
    have hte : t.isEmpty = true := by rw [ht]; rfl
    simp [Spec.C15.allHold, hpres, hnd, hc, hte]
  | some res =>
    cases hcomp : Spec.C15.fillCompatible t res with
    | false => simp [Spec.C15.allHold, hcomp, hpres, hnd, hc]
    | true =>
      obtain ⟨hp, hgrid⟩ := gridRow_of_compatible hD hcomp
      have h1 := spec_fill_insideGaps hD h hr hp hgrid
      have h2 := spec_fill_complete hD h hr hp hgrid
      have h3 := spec_fill_values hD h hr hp hgrid
      have h4 := spec_fill_emptyWhenComplete hD h hr hp hgrid hkept
      simp [Spec.C15.allHold, hcomp, hpres, hnd, hc, h1, h2, h3, h4]

end Bermuda.Extend
