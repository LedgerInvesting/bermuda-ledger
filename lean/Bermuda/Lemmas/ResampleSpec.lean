/-
Bridges between the C17 model (`Model/Resample.lean`) and the executable Spec predicates
(`Spec/C17.lean`): the predicates are TRUE on the model's own outputs.
-/
import Bermuda.Lemmas.Resample
import Bermuda.Spec.C17
namespace Bermuda.Resample
open Bermuda.Spec.C17

theorem rankOrderOk_reimpose_le {xs qs : List Rat} (hl : xs.length ≤ qs.length) :
    rankOrderOk xs (reimposeRank xs qs) = true := by
  simp only [rankOrderOk, Bool.and_eq_true, beq_iff_eq, List.all_eq_true, List.mem_range,
    Bool.or_eq_true, Bool.not_eq_true', decide_eq_false_iff_not, decide_eq_true_eq]
  refine ⟨reimposeRank_length xs qs, ?_⟩
  intro i hi j hj
  by_cases h : xs.getD i 0 < xs.getD j 0
  · exact Or.inr (reimposeRank_order_le hl hi hj h)
  · exact Or.inl h

theorem sameMultiset_reimpose {xs qs : List Rat} (hl : qs.length = xs.length) :
    sameMultiset qs (reimposeRank xs qs) = true := by
  simp only [sameMultiset, beq_iff_eq]
  exact (sortQ_congr (reimposeRank_perm' hl)).symm

theorem rankFixed_reimpose {xs qs : List Rat} (hl : qs.length = xs.length) :
    rankFixed xs (reimposeRank xs qs) = true :=
  beq_iff_eq.mpr (reimposeRank_congr xs (reimposeRank_perm' hl))

/-- **Spec bridge (thin).** On the model's output `t.map (thinCell idx)` the executable predicate
`Spec.C17.thinOk` is true, for every index vector of `k` distinct positions below `n` that the
predicate can read back (`recoverIdx`), on cells whose value dicts have distinct keys. -/
theorem thinOk_model {t : List Cell} {idx : List Nat} {k n : Nat}
    (hrec : recoverIdx t (t.map (thinCell idx)) = some idx) (hk : idx.length = k)
    (hnd : idx.Nodup) (hr : ∀ i ∈ idx, i < n) (hwf : ∀ c ∈ t, c.values.keys.Nodup) :
    thinOk t (t.map (thinCell idx)) k n = true := by
  unfold thinOk
  rw [hrec]
  simp only [List.length_map, beq_self_eq_true, Bool.true_and, Bool.and_eq_true, beq_iff_eq,
    decide_eq_true_eq, List.all_eq_true]
  refine ⟨⟨⟨hk, hnd⟩, fun i hi => by simpa using hr i hi⟩, ?_⟩
  rw [zip_map_self]
  intro p hp
  obtain ⟨c, hc, rfl⟩ := List.mem_map.mp hp
  refine ⟨⟨⟨rfl, rfl⟩, thinCell_keys idx c⟩, ?_⟩
  intro q hq
  obtain ⟨f, v⟩ := q
  have := Assoc.get?_map_val (fun p => thinVal idx p.2) c.values f
  rw [(Assoc.find?_of_mem_nodup (hwf c hc) hq : c.values.find? (·.1 == f) = _)] at this
  exact this

end Bermuda.Resample
