/-
Per-operation canonical-form lemmas for `Model/AllOps2.lean` (`Op3`): function-argument operations, `^`, `sum`, `t[i]`,
`loose_period_merge`, and the adjustments of `bermuda/utils/adjust.py` (`weight_geometric_decay`, `paid_bs_adjustment`,
`reported_bs_adjustment`). `|`, `&`, `-` are `Triangle.add` / `Triangle.filterP` by definition and `shift_origin` ends in
`Fn.replace`: their arms in `step3_canonical` cite `add_canonical`, `filterP_canonical`, `replaceFn_canonical`. `t[i]`
(`Fn.cellAt`) is modelled a second time, as `Index.int`, in `Model/Select.lean` (`pyIndex`); no theorem relates the two.
None of the proofs looks inside `Fn.Ex.eval`: a definition's value only reaches a cell through the
validating constructor `Cell.mk?`, or changes values / metadata only.
-/
import Bermuda.Model.AllOps2
import Bermuda.Lemmas.AllOps
import Bermuda.Lemmas.AllOpsBasis
namespace Bermuda.AllOps
open Bermuda Bermuda.Properties.C01 Bermuda.Fn

theorem filterE_mem {p : Cell → Except Err Bool} {l r : List Cell} (h : filterE p l = .ok r) :
    ∀ c ∈ r, c ∈ l := by
  induction l generalizing r with
  | nil => simp [filterE] at h; subst h; simp
  | cons a rest ih =>
    simp only [filterE] at h
    split at h
    · cases h
    · split at h
      · cases h
      · rename_i b _ r' hr'
        cases h
        intro c hc
        split at hc
        · rcases List.mem_cons.mp hc with rfl | hc
          · simp
          · exact List.mem_cons_of_mem _ (ih hr' c hc)
        · exact List.mem_cons_of_mem _ (ih hr' c hc)

theorem deriveFieldStep_dates {cell d : Cell} {df : String × Ex} (h : deriveFieldStep cell df = .ok d) :
    d.datesOk = true := by
  unfold deriveFieldStep at h
  obtain ⟨_, _, h⟩ := bind_ok h
  obtain ⟨_, _, h⟩ := bind_ok h
  exact mk?_ok_dates h

theorem deriveFieldsCell_dates {defs : List (String × Ex)} {c d : Cell} (hc : c.datesOk = true)
    (h : deriveFieldsCell defs c = .ok d) : d.datesOk = true :=
  foldlM_inv (fun x : Cell => x.datesOk = true) h hc (fun _ _ _ _ _ hf => deriveFieldStep_dates hf)

theorem deriveFields_canonical {t r : List Cell} {defs : List (String × Ex)} (ht : AllOk t)
    (h : Fn.deriveFields t defs = .ok r) : Canonical r := by
  unfold Fn.deriveFields at h
  obtain ⟨v, hv, h⟩ := bind_ok h
  exact ofCells_canonical h (mapM_forall hv fun c hc d => deriveFieldsCell_dates (ht c hc))

theorem deriveMetadataStep_dates {cell d : Cell} {df : String × Ex} (h : deriveMetadataStep cell df = .ok d) :
    d.datesOk = true := by
  unfold deriveMetadataStep at h
  obtain ⟨_, _, h⟩ := bind_ok h
  obtain ⟨_, _, h⟩ := bind_ok h
  exact mk?_ok_dates h

theorem deriveMetadataCell_dates {defs : List (String × Ex)} {c d : Cell} (hc : c.datesOk = true)
    (h : deriveMetadataCell defs c = .ok d) : d.datesOk = true :=
  foldlM_inv (fun x : Cell => x.datesOk = true) h hc (fun _ _ _ _ _ hf => deriveMetadataStep_dates hf)

theorem deriveMetadataFn_canonical {t r : List Cell} {defs : List (String × Ex)} (ht : AllOk t)
    (h : Fn.deriveMetadata t defs = .ok r) : Canonical r := by
  unfold Fn.deriveMetadata at h
  obtain ⟨v, hv, h⟩ := bind_ok h
  exact ofCells_canonical h (mapM_forall hv fun c hc d => deriveMetadataCell_dates (ht c hc))

/-- `cell.replace(...)` validates at the end, whatever the definitions did -/
theorem replaceCell_dates {defs : List RDef} {c d : Cell} (h : replaceCell defs c = .ok d) :
    d.datesOk = true := by
  unfold replaceCell at h
  obtain ⟨_, _, h⟩ := bind_ok h
  exact mk?_ok_dates h

theorem replaceFn_canonical {t r : List Cell} {defs : List RDef} (h : Fn.replace t defs = .ok r) :
    Canonical r := by
  unfold Fn.replace at h
  obtain ⟨v, hv, h⟩ := bind_ok h
  exact ofCells_canonical h (mapM_forall hv fun _ _ _ => replaceCell_dates)

theorem filterFn_canonical {t r : List Cell} {pred : Ex} (ht : AllOk t) (h : Fn.filter t pred = .ok r) :
    Canonical r := by
  unfold Fn.filter at h
  obtain ⟨v, hv, h⟩ := bind_ok h
  exact ofCells_canonical h (fun c hc => ht c (filterE_mem hv c hc))

theorem symdiff_canonical {a b r : List Cell} (ha : AllOk a) (hb : AllOk b)
    (h : Triangle.symdiff a b = .ok r) : Canonical r := by
  unfold Triangle.symdiff at h
  obtain ⟨x, hx, h⟩ := bind_ok h
  obtain ⟨y, hy, h⟩ := bind_ok h
  exact add_canonical (allOk_of (filterP_canonical ha hx)) (allOk_of (filterP_canonical hb hy)) h

theorem sumOf_canonical {t r : List Cell} {others : List (List Cell)} (ht : Canonical t)
    (ho : ∀ o ∈ others, AllOk o) (h : sumOf t others = .ok r) : Canonical r :=
  foldlM_inv Canonical h ht (fun _ o _ hacc hmem hf => add_canonical (allOk_of hacc) (ho o hmem) hf)

theorem cellAt_mem {t : List Cell} {i : Int} {c : Cell} (h : cellAt t i = .ok c) : c ∈ t := by
  unfold cellAt at h
  split at h
  · split at h
    · rename_i x hx; cases h; exact List.mem_of_getElem? hx
    · cases h
  · cases h

theorem overwriteValues_dates (c r : Cell) (s : Option String) :
    (overwriteValues c r s).datesOk = c.datesOk := rfl

theorem looseGroup_allOk {b : List Cell} {suffix : Option String} {g : (Date × Date × Metadata) × List Cell}
    {out : List Cell} (hg : AllOk g.2) (h : looseGroup b suffix g = .ok out) : AllOk out := by
  unfold looseGroup at h
  split at h
  · cases h; exact hg
  · cases h
    intro c hc
    obtain ⟨c', hc', rfl⟩ := List.mem_map.mp hc
    rw [overwriteValues_dates]; exact hg c' hc'
  · cases h

theorem looseCore_canonical {a b r : List Cell} {suffix : Option String} {common : List String}
    (ha : AllOk a) (h : Fn.looseCore a b suffix common = .ok r) : Canonical r := by
  unfold Fn.looseCore at h
  obtain ⟨keyed, hk, h⟩ := bind_ok h
  obtain ⟨out, ho, h⟩ := bind_ok h
  refine ofCells_canonical h (AllOk.flatten (mapM_forall ho fun g hg l hf => looseGroup_allOk (fun c hc => ?_) hf))
  -- `g` is a group of `keyed`; its cells are second components of `keyed`, i.e. cells of `a`
  obtain ⟨g0, hg0, rfl⟩ := List.mem_map.mp hg
  obtain ⟨kc, hkc, rfl⟩ := List.mem_map.mp hc
  have hmem := mem_of_mem_groupBy hg0 hkc
  obtain ⟨c0, hc0, hf0⟩ := mapM_ok_mem hk kc hmem
  obtain ⟨pm, _, rfl⟩ := map_ok hf0
  exact ha c0 hc0

/-! ## `bermuda/utils/adjust.py` -/

theorem weightGeometricDecay_canonical {t r : List Cell} {a : DecayArgs} {w : CellFn} {scaled : String → CellFn}
    (ht : AllOk t) (h : Fn.weightGeometricDecay t a w scaled = .ok r) : Canonical r := by
  unfold Fn.weightGeometricDecay at h
  obtain ⟨fields, _, h⟩ := bind_ok h
  split at h
  · exact deriveFields_canonical ht h
  · exact deriveFields_canonical ht h

/-- `triangle = to_cumulative(triangle) if triangle.is_incremental else triangle` -/
theorem cumOrSame_canonical {t t1 : List Cell} (ht : Canonical t)
    (h : Fn.cumOrSame t = .ok t1) : Canonical t1 := by
  unfold Fn.cumOrSame at h
  split at h
  · exact toCumulative_canonical ht h
  · cases h; exact ht

theorem paidBsAdjustment_canonical {t ult r : List Cell} {dr pl : CellFn}
    (h : Fn.paidBsAdjustment t ult dr pl = .ok r) : Canonical r := by
  unfold Fn.paidBsAdjustment at h
  obtain ⟨re, _, h⟩ := bind_ok h
  obtain ⟨t1, h1, h⟩ := bind_ok h
  obtain ⟨t2, h2, h⟩ := bind_ok h
  obtain ⟨t3, h3, h⟩ := bind_ok h
  obtain ⟨t4, h4, h⟩ := bind_ok h
  exact deriveFields_canonical (allOk_of (select_canonical h4)) h

theorem reportedBsAdjustment_canonical {t r : List Cell} {method : Option String} {first second : String → CellFn}
    {trend : Except Err Unit} (ht : Canonical t)
    (h : Fn.reportedBsAdjustment t method first second trend = .ok r) : Canonical r := by
  unfold Fn.reportedBsAdjustment at h
  obtain ⟨_, _, h⟩ := bind_ok h
  obtain ⟨t1, h1, h⟩ := bind_ok h
  obtain ⟨t2, h2, h⟩ := bind_ok h
  obtain ⟨_, _, h⟩ := bind_ok h
  exact deriveFields_canonical (allOk_of (deriveFields_canonical (allOk_of (cumOrSame_canonical ht h1)) h2)) h

theorem run3_eq_foldlM (t : List Cell) (ops : List Op3) : run3 t ops = ops.foldlM step3 t :=
  eq_foldlM_of_rec (fun _ => rfl) (fun t op _ => by rw [run3]; cases step3 t op <;> rfl) t ops

end Bermuda.AllOps
