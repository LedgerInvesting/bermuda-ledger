/-
The chain clause `Spec.C17.chainOkSlice` on the k-th slice of a MULTI-slice replicate of `bootstrapD`:
the summed replicate is (up to order) the concatenation of the slices' replicates, and `repCell` — which filters by
coordinates INCLUDING the tagged metadata — only sees the cells of the slice it is asked about.
From the chain clause follows the membership clause `Spec.C17.ataMembershipOk`, given `ColumnsInRatios`, which in turn
follows from `RegularLags`.
-/
import Bermuda.Lemmas.ResampleRows
namespace Bermuda.Resample
open Bermuda.Spec.C17

/-! ### a triangle with one slice: the summed replicate IS the slice's replicate -/

theorem metasOf_single {t : List Cell} {m : Metadata} (hne : t ≠ []) (hm : ∀ c ∈ t, c.md = m) :
    metasOf t = [m] := by
  obtain ⟨c0, hc0⟩ := List.exists_mem_of_ne_nil t hne
  refine List.perm_singleton.mp ((List.perm_ext_iff_of_nodup (metasOf_nodup t) (List.nodup_singleton m)).mpr fun x => ?_)
  rw [mem_metasOf, List.mem_singleton]
  exact ⟨fun ⟨c, hc, e⟩ => e ▸ hm c hc, fun e => ⟨c0, hc0, e ▸ hm c0 hc0⟩⟩

theorem slices_single {t : List Cell} {m : Metadata} (hne : t ≠ []) (hm : ∀ c ∈ t, c.md = m)
    (hs : t.Pairwise (fun a b => Cell.le a b)) : (Triangle.slices t).map (·.2) = [t] := by
  have hf : t.filter (·.md == m) = t := List.filter_eq_self.mpr (fun c hc => by simp [hm c hc])
  simp only [Triangle.slices, metasOf_single hne hm, List.map_cons, List.map_nil, hf,
    List.mergeSort_of_pairwise hs]

/-- on a one-slice triangle every replicate of `bootstrapD` is the slice's own replicate -/
theorem bootstrapD_single {t : List Cell} {m : Metadata} {n : Int} {field : Option (List String)}
    {D : Nat → Nat → Draws} {reps : List (List Cell)} (h : bootstrapD t n field D = .ok reps)
    (hne : t ≠ []) (hm : ∀ c ∈ t, c.md = m) (hs : t.Pairwise (fun a b => Cell.le a b)) :
    ∀ i (hi : i < reps.length), replicateD t (field.getD (fieldsOf t)) (D 0 i) i = .ok reps[i] := by
  intro i hi
  rw [bootstrapD_eq_with] at h
  obtain ⟨rs, hrs, hsum⟩ := (bootstrapWith_ok h).2 i hi
  rw [slices_single hne hm hs, List.zipIdx_cons, List.zipIdx_nil] at hrs
  obtain _ | ⟨hr, hnil⟩ := hrs
  cases hnil
  rw [sumTriangles_singleton] at hsum
  exact hr.trans hsum

/-- `chainOkSlice` reads the replicate only through `repCell` on cells of the slice -/
theorem chainOkSlice_congr {s rep rep' : List Cell} {i : Nat} {fields : List String} {I : IdxTable}
    (h : ∀ c ∈ s, repCell rep c i = repCell rep' c i) :
    chainOkSlice s rep i fields I = chainOkSlice s rep' i fields I := by
  rw [chainOkSlice_eq, chainOkSlice_eq]
  split
  · rfl
  · refine all_congr_mem fun c hc => ?_
    rw [Bool.eq_iff_iff, rowClause_iff, rowClause_iff]
    refine forall₂_congr fun prev hp => ?_
    rw [h c hc, h prev (List.mem_filter.mp (List.mem_of_getLast? hp)).1]

/-- the cells of the `k`-th slice carry the `k`-th metadata of `metasOf t` -/
theorem slices_getElem_md {t : List Cell} {k : Nat} (hk : k < ((Triangle.slices t).map (·.2)).length) :
    ∃ hk2 : k < (metasOf t).length,
      ∀ c ∈ ((Triangle.slices t).map (·.2))[k], c.md = (metasOf t)[k] ∧ c ∈ t := by
  have hk' : k < (Triangle.slices t).length := by simpa using hk
  refine ⟨Triangle.slices_length t ▸ hk', fun c hc => ?_⟩
  rw [List.getElem_map] at hc
  obtain ⟨hct, hmd⟩ := (Triangle.mem_slice_iff (List.getElem_mem hk') c).mp hc
  exact ⟨hmd.trans (by simp only [← Triangle.slices_keys, List.getElem_map]), hct⟩

/-- every cell of a slice's replicate carries the tagged metadata of a cell of that slice -/
theorem replicateD_md {s rep : List Cell} {fields : List String} {d : Draws} {i : Nat}
    (h : replicateD s fields d i = .ok rep) (hk : kindsConsistent s = true)
    (hs : s.Pairwise (fun a b => Cell.le a b)) : ∀ o ∈ rep, ∃ c ∈ s, o.md = tagMd c.md i := by
  obtain ⟨l, hp, hf⟩ := replicate_preFirst (replicateD_eq h) hk hs
  intro o ho
  obtain ⟨o', ho', rfl⟩ := List.mem_map.mp (hp.mem_iff.mp ho)
  obtain ⟨c, hc, hr⟩ := forall₂_mem_right hf o' ho'
  refine ⟨c, hc, ?_⟩
  have := (Cell.coord_eq_iff.mp hr.1.1).1
  simp [tagCell, tagMd, this]

/-- **the k-th slice of a multi-slice replicate.** `repCell` on the summed replicate `reps[i]` of `bootstrapD`, asked
about a cell of the `k`-th slice, finds what it finds in the `k`-th slice's own replicate -/
theorem bootstrapD_slice_repCell {t : List Cell} {n : Int} {field : Option (List String)}
    {D : Nat → Nat → Draws} {reps : List (List Cell)} (h : bootstrapD t n field D = .ok reps)
    (hkc : kindsConsistent t = true) (hinj : ∀ i, TagInjective t i)
    (k : Nat) (hk : k < ((Triangle.slices t).map (·.2)).length) (i : Nat) (hi : i < reps.length) :
    ∃ rep, replicateD ((Triangle.slices t).map (·.2))[k]
        (field.getD (fieldsOf ((Triangle.slices t).map (·.2))[k])) (D k i) i = .ok rep ∧
      ∀ c ∈ ((Triangle.slices t).map (·.2))[k], repCell reps[i] c i = repCell rep c i := by
  rw [bootstrapD_eq_with] at h
  obtain ⟨rs, hrs, hsum⟩ := (bootstrapWith_ok h).2 i hi
  have hlen : rs.length = ((Triangle.slices t).map (·.2)).length := by
    simpa using hrs.length_eq.symm
  -- each slice's replicate
  have hslice : ∀ k' (hk' : k' < ((Triangle.slices t).map (·.2)).length),
      replicateD ((Triangle.slices t).map (·.2))[k'] (field.getD (fieldsOf ((Triangle.slices t).map (·.2))[k']))
        (D k' i) i = .ok (rs[k']'(hlen ▸ hk')) := by
    intro k' hk'
    have := hrs.get (by simpa using hk') (hlen ▸ hk')
    rw [List.get_eq_getElem, List.get_eq_getElem, List.getElem_zipIdx, Nat.zero_add] at this
    exact this
  refine ⟨rs[k]'(hlen ▸ hk), hslice k hk, fun c hc => ?_⟩
  rw [repCell_perm (sumTriangles_perm hsum) c i, repCell_eq, repCell_eq,
    filter_flatten_single (atCoord c i) rs k (hlen ▸ hk)]
  -- a cell of another slice's replicate carries another (tagged) metadata
  intro k' hk' hne' o ho
  have hk'S : k' < ((Triangle.slices t).map (·.2)).length := hlen ▸ hk'
  obtain ⟨hkc', hs', _⟩ := slice_props hkc _ (List.getElem_mem hk'S)
  obtain ⟨c', hc', hmd⟩ := replicateD_md (hslice k' hk'S) hkc' hs' o ho
  obtain ⟨hm1, hmd1⟩ := slices_getElem_md hk
  obtain ⟨hm2, hmd2⟩ := slices_getElem_md hk'S
  rw [Bool.eq_false_iff]
  intro hat
  simp only [atCoord, Bool.and_eq_true, beq_iff_eq] at hat
  have := hinj i c' (hmd2 c' hc').2 c (hmd1 c hc).2 (hmd ▸ hat.2)
  rw [(hmd2 c' hc').1, (hmd1 c hc).1] at this
  exact hne' ((List.Nodup.getElem_inj_iff (metasOf_nodup t)).mp this)

/-! ### membership of the resampled factors in the empirical column -/

/-- every entry of the resampled table is a member of the model's empirical column `ataTable` for that lag and field -/
theorem resampledAtas_member {s : List Cell} {fields : List String} {I : IdxTable} {F : Factors}
    (hF : resampledAtas s fields I = .ok F) {lag : Rat} {f : String} {pidx : Nat} {r : Rat}
    (h : factorAt F lag f pidx = some r) :
    ∃ A tbl col, ataTable s fields = .ok A ∧ (lag, tbl) ∈ A ∧ (f, col) ∈ tbl ∧ r ∈ col := by
  obtain ⟨A, hA, hAF⟩ := resampledAtas_ok.mp hF
  unfold factorAt at h
  split at h
  · cases h
  · rename_i tbl' htbl'
    split at h
    · cases h
    · rename_i arr' harr'
      obtain ⟨lt, hlt, hl, hcols⟩ := forall₂_mem_right hAF _ (Assoc.mem_of_get? htbl')
      obtain ⟨fa, hfa, hf, hg⟩ := forall₂_mem_right hcols _ (Assoc.mem_of_get? harr')
      cases hl
      cases hf
      exact ⟨A, lt.2, fa.2, hA, hlt, hfa, gatherE_mem hg r (List.mem_of_getElem? h)⟩

/-! ### from the chain clause to the clause of `Spec.C17.ataMembershipOk` -/

/-- what `Spec.C17.ataMembershipOk` asks of a cell `c` of slice `s`, its row predecessor `prev`, and the two cells `o`,
`po` found for them in the replicate -/
def membershipLeaf (s : List Cell) (sel : List String) (c prev o po : Cell) : Bool :=
  c.values.all fun (f, v) =>
    if sel.contains f && po.values.contains f then
      if isFalsy (some v) then o.values.get? f == some .none
      else
        match num? (o.values.get? f), num? (po.values.get? f) with
        | some x, some y => (ratios s prev.devLag c.devLag f).any fun r => x == y * r
        | _, _ => false
    else o.values.get? f == some v

theorem ataMembershipOk_eq (t rep : List Cell) (i : Nat) (field : Option (List String)) :
    ataMembershipOk t rep i field = t.all fun c =>
      if !useAtas (sliceOf t c) then true
      else rowClause (sliceOf t c) rep i
        (membershipLeaf (sliceOf t c) (field.getD (fieldsOf (sliceOf t c)))) c := rfl

theorem chainCellOk_membership {s : List Cell} {F : Factors} {fields : List String} {pidx : Nat} {c prev o po : Cell}
    (hR : ∀ f r, factorAt F c.devLag f pidx = some r → r ∈ ratios s prev.devLag c.devLag f)
    (h : chainCellOk F fields pidx c po.values o = true) : membershipLeaf s fields c prev o po = true := by
  unfold chainCellOk at h
  unfold membershipLeaf
  rw [List.all_eq_true] at h ⊢
  rintro ⟨f, v⟩ hfv
  have := h (f, v) hfv
  dsimp only at this ⊢
  split
  · rename_i hc
    rw [if_pos hc] at this
    split
    · rename_i hfal
      rw [if_pos hfal] at this; exact this
    · rename_i hfal
      rw [if_neg hfal] at this
      split at this
      · rename_i x y r hx hy hr
        rw [hx, hy]
        simp only [List.any_eq_true]
        exact ⟨r, hR f r hr, this⟩
      · cases this
  · rename_i hc
    rw [if_neg hc] at this; exact this

/-- the model's empirical column into a lag is contained in the Spec's independent `ratios` from the row
predecessor's lag -/
def ColumnsInRatios (s : List Cell) (fields : List String) (I : IdxTable) : Prop :=
  ∀ F, resampledAtas s fields I = .ok F → ∀ c ∈ s, ∀ prev,
    (s.filter fun d => (d.ps, d.pe) == (c.ps, c.pe) && d.devLag < c.devLag).getLast? = some prev →
    ∀ f r, factorAt F c.devLag f ((periodsOf s).idxOf (c.ps, c.pe)) = some r → r ∈ ratios s prev.devLag c.devLag f

theorem membership_of_chain {s rep : List Cell} {i : Nat} {fields : List String} {I : IdxTable} {F : Factors}
    (hF : resampledAtas s fields I = .ok F) (hchain : chainOkSlice s rep i fields I = true)
    (hcol : ColumnsInRatios s fields I) : ∀ c ∈ s, rowClause s rep i (membershipLeaf s fields) c = true := by
  intro c hc
  simp only [chainOkSlice_eq, hF, List.all_eq_true] at hchain
  refine rowClause_iff.mpr fun prev hp => ?_
  obtain ⟨o, po, h1, h2, hK⟩ := rowClause_iff.mp (hchain c hc) prev hp
  exact ⟨o, po, h1, h2, chainCellOk_membership (fun f r hr => hcol F hF c hc prev hp f r hr) hK⟩

/-! ### `ColumnsInRatios` from explicit regularity hypotheses (`RegularLags`) -/

/-- `_safe_ata_division` of the model and of the Spec agree on values that are not arrays -/
theorem safeAtaDiv_eq_safeDiv {x y : Option Val} {r : Rat} (h : safeAtaDiv x y = .ok r) : r = safeDiv x y := by
  unfold safeAtaDiv at h
  split at h
  · cases h
  · rename_i a ha
    split at h
    · cases h
    · rename_i b hb
      cases h
      have key : ∀ (z : Option Val) (q : Rat), safeOperand z = .ok q →
          q = (if isFalsy z then 1 else (num? z).getD 1) := by
        intro z q hz
        match z, hz with
        | none, hz => cases hz; rfl
        | some .none, hz => cases hz; rfl
        | some (.int i), hz =>
          simp only [safeOperand, Except.ok.injEq] at hz
          subst hz; simp [isFalsy, num?]
        | some (.flt v), hz =>
          simp only [safeOperand, Except.ok.injEq] at hz
          subst hz; simp [isFalsy, num?]
        | some (.arr _ _ _), hz => cases hz
      rw [safeDiv, ← key x a ha, ← key y b hb]

/-- the factor of two cells of one period at lags `pl`, `l` is among the Spec's `ratios`, when (period, lag) is
unique in the slice -/
theorem mem_ratios {s : List Cell} {a b : Cell} {f : String}
    (huniq : ∀ x ∈ s, ∀ y ∈ s, (x.ps, x.pe) = (y.ps, y.pe) → x.devLag = y.devLag → x = y)
    (ha : a ∈ s) (hb : b ∈ s) (hp : (b.ps, b.pe) = (a.ps, a.pe)) :
    safeDiv (b.values.get? f) (a.values.get? f) ∈ ratios s a.devLag b.devLag f := by
  unfold ratios
  rw [List.mem_filterMap]
  refine ⟨(a.ps, a.pe), mem_periodsOf ha, ?_⟩
  -- (period, lag) is unique: the search for a cell's own period and lag finds that cell
  have key : ∀ x ∈ s, s.find? (fun c => (c.ps, c.pe) == (x.ps, x.pe) && c.devLag == x.devLag) = some x := by
    intro x hx
    cases hf : s.find? (fun c => (c.ps, c.pe) == (x.ps, x.pe) && c.devLag == x.devLag) with
    | none =>
      have := List.find?_eq_none.mp hf x hx
      simp at this
    | some y =>
      have hy := List.find?_some hf
      simp only [Bool.and_eq_true, beq_iff_eq] at hy
      rw [huniq y (List.mem_of_find?_eq_some hf) x hx hy.1 hy.2]
  have fb := key b hb
  rw [hp] at fb
  simp only [key a ha, fb]

theorem lagPairs_mem {s cl : List Cell} {lo hi : Rat} (hcl : clipLags s lo hi = .ok cl) {nx pv : Cell}
    (h : (nx, pv) ∈ lagPairs cl) : nx ∈ s ∧ pv ∈ s ∧ (nx.ps, nx.pe) = (pv.ps, pv.pe) := by
  unfold lagPairs at h
  obtain ⟨hz, hper⟩ := List.mem_filter.mp h
  have hm := List.of_mem_zip hz
  have hsub : ∀ c ∈ cl, c ∈ s := fun c hc =>
    (List.mem_filter.mp ((Triangle.ofCells_perm hcl).mem_iff.mp hc)).1
  exact ⟨hsub _ (List.mem_of_mem_tail hm.1), hsub _ hm.2, by simpa using hper⟩

/-- regularity of an age-to-age slice, as far as the empirical factors are concerned -/
structure RegularLags (s : List Cell) : Prop where
  /-- a period has at most one cell at a development lag -/
  uniq : ∀ x ∈ s, ∀ y ∈ s, (x.ps, x.pe) = (y.ps, y.pe) → x.devLag = y.devLag → x = y
  /-- no period skips a lag: the lag of a cell's row predecessor is the lag preceding the cell's lag in
  `triangle.dev_lags()` -/
  noSkip : ∀ c ∈ s, ∀ prev,
    (s.filter fun d => (d.ps, d.pe) == (c.ps, c.pe) && d.devLag < c.devLag).getLast? = some prev →
    ∀ pl, (c.devLag, pl) ∈ (sortedLags s).tail.zip (sortedLags s) → pl = prev.devLag
  /-- in the triangle clipped to two consecutive lags `pl < l`, consecutive cells of one period sit at `pl` and `l`
  (derivable from `SliceLayout` and sortedness of the lags; taken as a hypothesis here) -/
  clipEnds : ∀ l pl, (l, pl) ∈ (sortedLags s).tail.zip (sortedLags s) → ∀ cl, clipLags s pl l = .ok cl →
    ∀ nx pv, (nx, pv) ∈ lagPairs cl → nx.devLag = l ∧ pv.devLag = pl

theorem columnsInRatios_of_regular {s : List Cell} (R : RegularLags s) (fields : List String) (I : IdxTable) :
    ColumnsInRatios s fields I := by
  intro F hF c hc prev hp f r hr
  obtain ⟨A, tbl, col, hA, h1, h2, h3⟩ := resampledAtas_member hF hr
  -- the factor comes from one pair of consecutive same-period cells of the slice clipped to two consecutive lags
  obtain ⟨⟨l, pl⟩, hz, hl, cl, hcl, hcols⟩ := forall₂_mem_right (ataTable_ok hA) _ h1
  obtain ⟨g, _, hg, hcol⟩ := forall₂_mem_right hcols _ h2
  obtain ⟨⟨nx, pv⟩, hpair, hdiv⟩ := forall₂_mem_right (mapMExcept_forall₂ hcol) _ h3
  obtain rfl : c.devLag = l := hl
  obtain rfl : f = g := hg
  have hpl := R.noSkip c hc prev hp pl hz
  obtain ⟨hnl, hpvl⟩ := R.clipEnds _ _ hz cl hcl nx pv hpair
  obtain ⟨hnx, hpv, hper⟩ := lagPairs_mem hcl hpair
  rw [safeAtaDiv_eq_safeDiv hdiv, ← hpl, ← hnl, ← hpvl]
  exact mem_ratios R.uniq hpv hnx hper

/-! ### `uniq` from `SliceLayout`; what remains is `NoSkipLags` -/

/-- what remains of `RegularLags` beyond `SliceLayout` -/
structure NoSkipLags (s : List Cell) : Prop where
  noSkip : ∀ c ∈ s, ∀ prev,
    (s.filter fun d => (d.ps, d.pe) == (c.ps, c.pe) && d.devLag < c.devLag).getLast? = some prev →
    ∀ pl, (c.devLag, pl) ∈ (sortedLags s).tail.zip (sortedLags s) → pl = prev.devLag
  clipEnds : ∀ l pl, (l, pl) ∈ (sortedLags s).tail.zip (sortedLags s) → ∀ cl, clipLags s pl l = .ok cl →
    ∀ nx pv, (nx, pv) ∈ lagPairs cl → nx.devLag = l ∧ pv.devLag = pl

theorem regular_of_layout {s : List Cell} (H : SliceLayout s) (N : NoSkipLags s) : RegularLags s :=
  ⟨uniq_of_layout H, N.noSkip, N.clipEnds⟩

end Bermuda.Resample
