/-
`RowsByLag s` for a canonical single-metadata slice with valid evaluation dates that are distinct within a period.
-/
import Bermuda.Lemmas.ResampleChain
import Bermuda.Lemmas.DateUtils
namespace Bermuda.Resample

theorem minRat_spec (l : List Rat) (m : Rat) (h : minRat l = some m) : m ∈ l ∧ ∀ y ∈ l, m ≤ y := by
  cases l with
  | nil => cases h
  | cons x xs => exact Option.some.inj h ▸ foldl_min_rat xs x

/-- what `Cell.le a b` says for two cells of one slice -/
theorem le_same_md {a b : Cell} (h : Cell.le a b = true) (hmd : a.md = b.md) :
    Date.cmp a.ps b.ps ≠ .gt ∧ (a.ps = b.ps → Date.cmp a.pe b.pe ≠ .gt ∧
      (a.pe = b.pe → Date.cmp a.ev b.ev ≠ .gt)) := by
  obtain ⟨h1, h2⟩ := then_ne_gt_iff.mp (Cell.cmp_of_md_eq hmd ▸ Cell.le_iff.mp h)
  refine ⟨h1, fun hps => ?_⟩
  obtain ⟨h3, h4⟩ := then_ne_gt_iff.mp (h2 (hps ▸ Std.ReflCmp.compare_self))
  exact ⟨h3, fun hpe => (then_ne_gt_iff.mp (h4 (hpe ▸ Std.ReflCmp.compare_self))).1⟩

theorem period_between {a b c : Cell} (hab : Cell.le a b = true) (hbc : Cell.le b c = true)
    (hm1 : a.md = b.md) (hm2 : b.md = c.md) (hp : (a.ps, a.pe) = (c.ps, c.pe)) :
    (b.ps, b.pe) = (c.ps, c.pe) := by
  obtain ⟨a1, a2⟩ := le_same_md hab hm1
  obtain ⟨b1, b2⟩ := le_same_md hbc hm2
  obtain ⟨hps, hpe⟩ := Prod.mk.inj hp
  have e1 : b.ps = c.ps := DateOrder.le_antisymm b1 (hps ▸ a1)
  have e2 : b.pe = c.pe := DateOrder.le_antisymm (b2 e1).1 (hpe ▸ (a2 (hps.trans e1.symm)).1)
  rw [e1, e2]

theorem lag_lt_of_le {a b : Cell} (hab : Cell.le a b = true) (hm : a.md = b.md)
    (hp : (a.ps, a.pe) = (b.ps, b.pe)) (hne : a.ev ≠ b.ev) (va : a.ev.valid = true) (vb : b.ev.valid = true) :
    a.devLag < b.devLag := by
  obtain ⟨hps, hpe⟩ := Prod.mk.inj hp
  have h3 := ((le_same_md hab hm).2 hps).2 hpe
  have hlt : Date.cmp a.ev b.ev = .lt := by
    cases hc : Date.cmp a.ev b.ev with
    | lt => rfl
    | eq => exact absurd (Date.cmp_eq_eq.mp hc) hne
    | gt => exact absurd hc h3
  unfold Cell.devLag
  rw [← hpe]
  exact devLagMonths_lt_of_lt va vb hlt

/-- a slice as `Triangle.slices` delivers it, with calendar-valid evaluation dates that are distinct within a period -/
structure SliceLayout (s : List Cell) : Prop where
  sorted : s.Pairwise (fun a b => Cell.le a b)
  oneMd : ∀ c ∈ s, ∀ c' ∈ s, c.md = c'.md
  valid : ∀ c ∈ s, c.ev.valid = true
  evDistinct : s.Pairwise (fun a b => (a.ps, a.pe) = (b.ps, b.pe) → a.ev ≠ b.ev)

theorem getLast?_filter_eq {α} {p : α → Bool} {l : List α} {k : Nat} (hk : k < l.length) (hp : p l[k] = true)
    (hafter : ∀ i (hi : i < l.length), k < i → p l[i] = false) : (l.filter p).getLast? = some l[k] := by
  have hdrop : (l.drop (k + 1)).filter p = [] := by
    rw [List.filter_eq_nil_iff]
    intro x hx
    obtain ⟨i, hi, rfl⟩ := List.getElem_of_mem hx
    rw [List.getElem_drop, hafter _ _ (by omega)]
    exact Bool.false_ne_true
  conv => lhs; rw [← List.take_append_drop (k + 1) l]
  rw [List.filter_append, hdrop, List.append_nil, List.take_succ_eq_append_getElem hk, List.filter_append]
  simp [hp]

section
variable {s : List Cell} (H : SliceLayout s)
include H

/- The bounds of `s[i]` are hypotheses of their own in the next two statements: left to be derived from `i < j`,
`j < s.length`, each occurrence of `s[i]` in a statement costs a run of `omega`. -/

theorem rows_lag_lt {i j : Nat} (hi : i < s.length) (hj : j < s.length) (hij : i < j)
    (hp : (s[i].ps, s[i].pe) = (s[j].ps, s[j].pe)) : s[i].devLag < s[j].devLag :=
  lag_lt_of_le (List.pairwise_iff_getElem.mp H.sorted i j hi hj hij)
    (H.oneMd _ (List.getElem_mem hi) _ (List.getElem_mem hj)) hp
    (List.pairwise_iff_getElem.mp H.evDistinct i j hi hj hij hp)
    (H.valid _ (List.getElem_mem hi)) (H.valid _ (List.getElem_mem hj))

theorem rows_contiguous {i k j : Nat} (hi : i < s.length) (hk : k < s.length) (hj : j < s.length)
    (hik : i < k) (hkj : k < j) (hp : (s[i].ps, s[i].pe) = (s[j].ps, s[j].pe)) :
    (s[k].ps, s[k].pe) = (s[j].ps, s[j].pe) :=
  period_between (List.pairwise_iff_getElem.mp H.sorted i k hi hk hik)
    (List.pairwise_iff_getElem.mp H.sorted k j hk hj hkj)
    (H.oneMd _ (List.getElem_mem hi) _ (List.getElem_mem hk))
    (H.oneMd _ (List.getElem_mem hk) _ (List.getElem_mem hj)) hp

theorem rows_lag_lt_iff {i j : Nat} (hi : i < s.length) (hj : j < s.length)
    (hp : (s[i].ps, s[i].pe) = (s[j].ps, s[j].pe)) : s[i].devLag < s[j].devLag ↔ i < j := by
  refine ⟨fun hl => Nat.lt_of_le_of_ne (Nat.le_of_not_lt fun h => ?_) fun h => ?_, fun hl => rows_lag_lt H hi hj hl hp⟩
  · exact absurd hl (not_lt.mpr (rows_lag_lt H hj hi h hp.symm).le)
  · subst h; exact lt_irrefl _ hl

theorem uniq_of_layout : ∀ x ∈ s, ∀ y ∈ s, (x.ps, x.pe) = (y.ps, y.pe) → x.devLag = y.devLag → x = y := by
  intro x hx y hy hp hl
  obtain ⟨i, hi, rfl⟩ := List.getElem_of_mem hx
  obtain ⟨j, hj, rfl⟩ := List.getElem_of_mem hy
  have hij : i = j := Nat.le_antisymm
    (Nat.le_of_not_lt fun h => ((rows_lag_lt_iff H hj hi hp.symm).mpr h).ne' hl)
    (Nat.le_of_not_lt fun h => ((rows_lag_lt_iff H hi hj hp).mpr h).ne hl)
  subst hij
  rfl

theorem rowsByLag_of_layout : RowsByLag s := by
  intro j hj
  have hcmem : s[j] ∈ s.filter (fun c => (c.ps, c.pe) == (s[j].ps, s[j].pe)) :=
    List.mem_filter.mpr ⟨List.getElem_mem hj, beq_self_eq_true _⟩
  have hq : ∀ i (hi : i < s.length),
      ((s[i].ps, s[i].pe) == (s[j].ps, s[j].pe) && decide (s[i].devLag < s[j].devLag)) = true ↔
        ((s[i].ps, s[i].pe) = (s[j].ps, s[j].pe) ∧ i < j) := fun i hi => by
    rw [Bool.and_eq_true, beq_iff_eq, decide_eq_true_eq]
    exact and_congr_right fun hp => rows_lag_lt_iff H hi hj hp
  constructor
  · intro hinit
    rw [List.filter_eq_nil_iff]
    intro d hd hqd
    rw [Bool.and_eq_true, decide_eq_true_eq] at hqd
    have := (minRat_spec _ _ hinit).2 _ (List.mem_map.mpr ⟨d, List.mem_filter.mpr ⟨hd, hqd.1⟩, rfl⟩)
    exact absurd hqd.2 (not_lt.mpr this)
  · intro hni
    -- the earliest cell of the period sits at a smaller position
    obtain ⟨m, hm⟩ : ∃ m, initialLag s (s[j].ps, s[j].pe) = some m := by
      unfold initialLag
      cases hl : (s.filter fun c => (c.ps, c.pe) == (s[j].ps, s[j].pe)) with
      | nil => rw [hl] at hcmem; cases hcmem
      | cons a l => exact ⟨_, rfl⟩
    obtain ⟨m1, m2⟩ := minRat_spec _ _ hm
    obtain ⟨d, hd, hdm⟩ := List.mem_map.mp m1
    have hlt : d.devLag < s[j].devLag :=
      lt_of_le_of_ne (hdm ▸ m2 _ (List.mem_map.mpr ⟨s[j], hcmem, rfl⟩)) fun h => hni (by rw [hm, ← hdm, h])
    obtain ⟨hds, hdp⟩ := List.mem_filter.mp hd
    obtain ⟨i, hi, rfl⟩ := List.getElem_of_mem hds
    obtain ⟨hpi, hij⟩ := (hq i hi).mp (by rw [Bool.and_eq_true, decide_eq_true_eq]; exact ⟨hdp, hlt⟩)
    obtain ⟨j', rfl⟩ : ∃ j', j = j' + 1 := ⟨j - 1, by omega⟩
    have hj' : j' < s.length := Nat.lt_of_succ_lt hj
    have hpj' : (s[j'].ps, s[j'].pe) = (s[j' + 1].ps, s[j' + 1].pe) := by
      rcases Nat.lt_or_eq_of_le (Nat.le_of_lt_succ hij) with h | rfl
      · exact rows_contiguous H hi hj' hj h (Nat.lt_succ_self j') hpi
      · exact hpi
    refine ⟨j', rfl, ?_⟩
    rw [List.getElem?_eq_getElem hj']
    refine getLast?_filter_eq hj' ((hq j' hj').mpr ⟨hpj', Nat.lt_succ_self j'⟩) fun k hk hlt' => ?_
    rw [Bool.eq_false_iff]
    intro h
    exact absurd ((hq k hk).mp h).2 (Nat.not_lt.mpr hlt')

end

theorem coords_nodup_of_layout {s : List Cell} (H : SliceLayout s) : (s.map (·.coord)).Nodup := by
  rw [List.Nodup, List.pairwise_map]
  refine H.evDistinct.imp ?_
  intro a b h e
  obtain ⟨_, e2, e3, e4, _⟩ := Cell.coord_eq_iff.mp e
  exact h (by rw [e2, e3]) e4

end Bermuda.Resample
