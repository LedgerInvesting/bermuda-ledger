/-
C14, long table read back WITH `loss_detail_cols = L` (`from_long_data_frame(df, loss_detail_cols=L)`, `L` = the
loss-detail keys of the triangle): every row of the written long table reads back, through `_create_metadata`, as the
metadata of the cell it was written from — loss details as loss details, details as details, nothing folded. So this
is the reading mode of `Lemmas/FrameLong.lean` with `μ = id` (`WFlong.readLoss`): `fromLongRows (toLongRows t) L = t` up
to the numeric comparison of `Spec/C14.lean`, and the constructor's sort leaves the order alone
(`fromLong_toLong_lossDetails`).
-/
import Bermuda.Lemmas.FrameLong
namespace Bermuda.Frame
open Bermuda Bermuda.Spec.C14

section ltableLoss
variable {t : List Cell} {DK LK : List String} (h : LongTable t DK LK) {E : Row → Row} (hE : KeepsOthers E)
include h hE

theorem LongTable.rowMetadata_loss {L : List String} (hLn : L.Nodup) (hsub : ∀ k ∈ L, k ∈ LK)
    (hcov : ∀ c ∈ t, ∀ k ∈ Dict.keys c.md.lossDetails, k ∈ L)
    {c : Cell} (hc : c ∈ t) {r : Row}
    (hcol : ∀ k, k ∈ sixNames ∨ k ∈ ldetailCols t E L ∨ k ∈ L → Row.col r k = Row.col (flatDict c.md) k) :
    rowMetadata r (ldetailCols t E L) L = c.md :=
  (h.rowMetadata_split hE hLn hsub hc hcol).trans (((h.md c hc).flatOK h.names).splitDetails_self
    (fun k hk hl => h.names.dl k ((h.md c hc).dkeys k hk) (hsub k hl)) (hcov c hc))

end ltableLoss

/-- `Properties.C14.toLong_rowMetadata_lossDetails` is the case `WFlong` -/
theorem toLong_rowMetadata_loss {t : List Cell} {DK LK L : List String} (h : LongTable t DK LK)
    (hLn : L.Nodup) (hsub : ∀ k ∈ L, k ∈ LK)
    (hcov : ∀ c ∈ t, ∀ k ∈ Dict.keys c.md.lossDetails, k ∈ L) :
    ∃ tb, toLongRows t = .ok tb ∧
      (∀ r ∈ tb.rows, ∃ c ∈ t, rowMetadata r (longDetailCols tb.cols L) L = c.md) ∧
      (∀ c ∈ t, ∃ r ∈ tb.rows, rowMetadata r (longDetailCols tb.cols L) L = c.md) := by
  obtain ⟨E, hE, hok, _⟩ := toLongRows_ok h
  have hrow : ∀ c ∈ t, ∀ i kv, rowMetadata (E (longRow c (allMetadataNames t) i kv)) (ldetailCols t E L) L = c.md :=
    fun c hc i kv => h.rowMetadata_loss hE hLn hsub hcov hc fun k hk =>
      (h.rowOf hc hE i kv).md k
        (hk.imp_right fun hk => hk.elim (ldetailCols_sub h hE) fun hl => Or.inr (hsub k hl))
  refine ⟨_, hok, ?_, ?_⟩
  · intro r hr
    change r ∈ lrows t E at hr
    obtain ⟨c, hc, i, _, kv, _, rfl⟩ := mem_lrows.mp hr
    exact ⟨c, hc, hrow c hc i _⟩
  · intro c hc
    obtain ⟨kv, _, hr⟩ := row_mem_lrows h hc (E := E)
    exact ⟨_, hr, hrow c hc 0 _⟩

/-- the `loss_detail_cols` argument: distinct names, all loss-detail names (`LK`), covering every
loss-detail key of the triangle -/
structure LossCols (t : List Cell) (LK L : List String) : Prop where
  nodup : L.Nodup
  sub : ∀ k ∈ L, k ∈ LK
  cov : ∀ c ∈ t, ∀ k ∈ Dict.keys c.md.lossDetails, k ∈ L

theorem WFlong.readLoss {t : List Cell} {DK LK L : List String} (h : WFlong t DK LK) {E : Row → Row}
    (hE : KeepsOthers E) (hL : LossCols t LK L) : LongRead t DK LK E L id where
  sub := fun k hk => hk.elim (ldetailCols_sub h.table hE) fun hl => Or.inr (hL.sub k hl)
  notCoord := h.names.notCoord
  md := fun _ hc _ hcol => h.table.rowMetadata_loss hE hL.nodup hL.sub hL.cov hc hcol
  flat := fun _ _ _ _ _ => rfl
  inj := by
    -- distinct after the merge of the loss details, hence distinct
    have : (t.map fun c => (mergeCell c).coord) =
        (t.map fun c => (lcell id c).coord).map fun x : Coord => ⟨mergeLossDetails x.1, x.2, x.3, x.4, x.5⟩ := by
      rw [List.map_map]
      apply List.map_congr_left
      intro c hc
      simp [lcell, mergeCell, Cell.coord, (h.cum c hc).2]
    have hn := h.inj
    rw [this] at hn
    exact List.Nodup.of_map _ hn

/-- **fromLong_toLong_lossDetails** (cumulative triangles). Writing a well-formed triangle to the long
table and reading it back with `loss_detail_cols = L` (the triangle's loss-detail keys) gives the
triangle itself: same cells in the same order, metadata with loss details AS loss details. -/
theorem fromLong_toLong_lossDetails {t : List Cell} {DK LK L : List String} (h : WFlong t DK LK)
    (hL : LossCols t LK L) :
    okAnd (fun out => wideSpec t out && slicesSpec false t out)
      ((toLongRows t).bind fun tb => fromLongRows tb L) = true := by
  rw [fromLong_toLong_eq h fun hE => h.readLoss hE hL]
  exact wideSpec_map h.sorted (k := .cumulative) (fun _ _ => rfl) fun c hc => canonCell_lrecon h id hc

end Bermuda.Frame
