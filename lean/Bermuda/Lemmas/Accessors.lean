/-
Helper lemmas for C13 (accessors and taxonomy): set/sorted, counting, the neighbours of a list
(`adjacentPairs`: `is_disjoint`, `experience_gaps`, `is_regular` and the resolutions all test or walk them),
`periods` seen from the cells.
-/
import Bermuda.Model.Accessors
import Bermuda.Spec.C13
import Bermuda.Lemmas.Sort
import Bermuda.Lemmas.ListFacts
import Bermuda.Lemmas.DateOrder
namespace Bermuda
open Std

/-! ### `set(...)` and `sorted(set(...))` -/

theorem mem_dedup {α} [DecidableEq α] {a : α} {l : List α} : a ∈ dedup l ↔ a ∈ l := by
  induction l with
  | nil => simp [dedup]
  | cons b l ih =>
    unfold dedup
    split
    · next hb => rw [ih, List.mem_cons]; exact ⟨.inr, fun h => h.elim (· ▸ hb) id⟩
    · simp [ih]

theorem nodup_dedup {α} [DecidableEq α] (l : List α) : (dedup l).Nodup := by
  induction l with
  | nil => simp [dedup]
  | cons b l ih =>
    unfold dedup
    split
    · exact ih
    · rename_i hb
      exact List.nodup_cons.mpr ⟨fun h => hb (mem_dedup.mp h), ih⟩

/-- `sorted(set(l))` is the strictly ascending list of the distinct members of `l` -/
theorem sortedDedup_spec {α : Type} [DecidableEq α] {cmp : α → α → Ordering} [TransCmp cmp]
    (heq : ∀ a b, cmp a b = .eq → a = b) (l : List α) :
    (sortedDedup cmp l).Pairwise (fun a b => cmp a b = .lt) ∧
    ∀ a, a ∈ sortedDedup cmp l ↔ a ∈ l := by
  have hperm : (sortedDedup cmp l).Perm (dedup l) := List.mergeSort_perm _ _
  exact ⟨pairwise_lt_of_sorted_nodup (fun a _ b _ => heq a b) (sorted_mergeSort (cmp := cmp) (dedup l))
    (hperm.nodup_iff.mpr (nodup_dedup l)), fun a => by rw [hperm.mem_iff, mem_dedup]⟩

theorem sumBools_map_eq_countP {α} (p : α → Bool) (l : List α) :
    sumBools (l.map p) = l.countP p := by
  induction l with
  | nil => rfl
  | cons a l ih =>
    simp only [sumBools, List.map_cons, List.sum_cons, List.countP_cons] at *
    rw [ih]
    cases p a <;> simp <;> omega

instance : TransCmp periodCmp := by unfold periodCmp; infer_instance
instance : TransCmp intCmp := by unfold intCmp; infer_instance
instance : TransCmp strCmp := by unfold strCmp; infer_instance

theorem periodCmp_eq_eq {a b : Period} (h : periodCmp a b = .eq) : a = b := by
  simp only [periodCmp, compareLex_eq_eq, cmpOn_eq_eq, Date.cmp_eq_eq] at h
  exact Prod.ext h.1 h.2

theorem periodCmp_lt_iff {a b : Period} :
    periodCmp a b = .lt ↔ a.1 < b.1 ∨ (a.1 = b.1 ∧ a.2 < b.2) := by
  simp only [periodCmp, compareLex, cmpOn, Ordering.then_eq_lt, Date.cmp_eq_eq]
  exact Iff.rfl

theorem adjacentPairs_cons_cons {α} (a b : α) (r : List α) :
    adjacentPairs (a :: b :: r) = (a, b) :: adjacentPairs (b :: r) := rfl

theorem mem_adjacentPairs_iff {α} {l : List α} {x y : α} :
    (x, y) ∈ adjacentPairs l ↔ ∃ l1 l2, l = l1 ++ x :: y :: l2 := by
  induction l with
  | nil => simp [adjacentPairs]
  | cons a l ih =>
    cases l with
    | nil =>
      refine ⟨fun h => by simp [adjacentPairs] at h, fun ⟨l1, l2, e⟩ => ?_⟩
      have := congrArg List.length e
      simp at this; omega
    | cons b r =>
      rw [adjacentPairs_cons_cons, List.mem_cons, ih]
      constructor
      · rintro (e | ⟨l1, l2, e⟩)
        · cases e; exact ⟨[], r, rfl⟩
        · exact ⟨a :: l1, l2, by rw [e]; rfl⟩
      · rintro ⟨l1, l2, e⟩
        cases l1 with
        | nil => cases e; exact Or.inl rfl
        | cons c l1 => exact Or.inr ⟨l1, l2, (List.cons.inj e).2⟩

theorem mem_of_mem_adjacentPairs {α} {l : List α} {x y : α} (h : (x, y) ∈ adjacentPairs l) : x ∈ l ∧ y ∈ l := by
  obtain ⟨l1, l2, rfl⟩ := mem_adjacentPairs_iff.mp h
  simp

theorem rel_of_mem_adjacentPairs {α} {R : α → α → Prop} {l : List α} (h : l.Pairwise R) {x y : α}
    (hxy : (x, y) ∈ adjacentPairs l) : R x y := by
  obtain ⟨l1, l2, rfl⟩ := mem_adjacentPairs_iff.mp hxy
  exact (List.pairwise_cons.mp (List.pairwise_append.mp h).2.1).1 _ (by simp)

theorem adjacentPairs_fst_sublist {α} (l : List α) : ((adjacentPairs l).map (·.1)).Sublist l := by
  induction l with
  | nil => exact .slnil
  | cons a l ih =>
    cases l with
    | nil => exact List.nil_sublist _
    | cons b r => exact ih.cons_cons a

theorem pairwise_adjacentPairs_fst {α} {R : α → α → Prop} {l : List α} (h : l.Pairwise R) :
    (adjacentPairs l).Pairwise (fun p q => R p.1 q.1) :=
  List.pairwise_map.mp (h.sublist (adjacentPairs_fst_sublist l))

theorem mem_cases_of_adjacent {α} {R : α → α → Prop} {l : List α} (h : l.Pairwise R) {x y : α}
    (hxy : (x, y) ∈ adjacentPairs l) {w : α} (hw : w ∈ l) : R w x ∨ w = x ∨ w = y ∨ R y w := by
  obtain ⟨l1, l2, rfl⟩ := mem_adjacentPairs_iff.mp hxy
  obtain ⟨-, h2, h3⟩ := List.pairwise_append.mp h
  rcases List.mem_append.mp hw with hw | hw
  · exact Or.inl (h3 w hw x List.mem_cons_self)
  · rcases List.mem_cons.mp hw with e | hw
    · exact Or.inr (Or.inl e)
    · rcases List.mem_cons.mp hw with e | hw
      · exact Or.inr (Or.inr (Or.inl e))
      · exact Or.inr (Or.inr (Or.inr ((List.pairwise_cons.mp (List.pairwise_cons.mp h2).2).1 w hw)))

theorem adjacentPairs_forall_iff_pairwise {α} {R : α → α → Prop} {l : List α}
    (htr : ∀ a ∈ l, ∀ b ∈ l, ∀ c ∈ l, R a b → R b c → R a c) :
    (∀ pq ∈ adjacentPairs l, R pq.1 pq.2) ↔ l.Pairwise R := by
  refine ⟨fun h => ?_, fun h _ hpq => rel_of_mem_adjacentPairs h hpq⟩
  induction l with
  | nil => exact .nil
  | cons a l ih =>
    cases l with
    | nil => simp
    | cons b r =>
      have hp : (b :: r).Pairwise R :=
        ih (fun x hx y hy z hz => htr x (.tail _ hx) y (.tail _ hy) z (.tail _ hz))
          fun pq hpq => h pq (List.mem_cons_of_mem _ hpq)
      refine List.pairwise_cons.mpr ⟨fun x hx => ?_, hp⟩
      rcases List.mem_cons.mp hx with rfl | hx'
      · exact h (a, x) List.mem_cons_self
      · exact htr a (by simp) b (by simp) x (.tail _ hx) (h (a, b) List.mem_cons_self)
          ((List.pairwise_cons.mp hp).1 x hx')

theorem mem_adjacentPairs_iff_between {α} {lt : α → α → Prop} (hirr : ∀ a, ¬ lt a a)
    (htr : ∀ a b c, lt a b → lt b c → lt a c) {l : List α} (hs : l.Pairwise lt) {x y : α} :
    (x, y) ∈ adjacentPairs l ↔ x ∈ l ∧ y ∈ l ∧ lt x y ∧ ∀ w ∈ l, ¬ (lt x w ∧ lt w y) := by
  have hasym : ∀ {a b}, lt a b → ¬ lt b a := fun h h' => hirr _ (htr _ _ _ h h')
  constructor
  · intro h
    refine ⟨(mem_of_mem_adjacentPairs h).1, (mem_of_mem_adjacentPairs h).2, rel_of_mem_adjacentPairs hs h, fun w hw hb => ?_⟩
    rcases mem_cases_of_adjacent hs h hw with h' | rfl | rfl | h'
    · exact hasym h' hb.1
    · exact hirr _ hb.1
    · exact hirr _ hb.2
    · exact hasym h' hb.2
  · rintro ⟨hx, hy, hxy, hn⟩
    obtain ⟨l1, l2, rfl⟩ := List.append_of_mem hx
    obtain ⟨-, h2, h3⟩ := List.pairwise_append.mp hs
    obtain ⟨hx2, h2⟩ := List.pairwise_cons.mp h2
    -- `y` stands behind `x`; the member right behind `x` is not before `y`, so it is `y`
    have hy2 : y ∈ l2 := by
      rcases List.mem_append.mp hy with h | h
      · exact absurd hxy (hasym (h3 y h x (by simp)))
      · exact (List.mem_cons.mp h).resolve_left fun e => hirr _ (e ▸ hxy)
    cases l2 with
    | nil => cases hy2
    | cons b l2 =>
      rcases List.mem_cons.mp hy2 with rfl | hy3
      · exact mem_adjacentPairs_iff.mpr ⟨l1, l2, rfl⟩
      · exact absurd ⟨hx2 b (by simp), (List.pairwise_cons.mp h2).1 y hy3⟩ (hn b (by simp))

theorem adjacent_switch {α} (Q : α → Prop) (a : α) (r : List α) (ha : Q a) :
    (∀ x ∈ a :: r, Q x) ∨ ∃ x y, (x, y) ∈ adjacentPairs (a :: r) ∧ Q x ∧ ¬ Q y := by
  induction r generalizing a with
  | nil => exact Or.inl fun x hx => by rw [List.mem_singleton.mp hx]; exact ha
  | cons b r ih =>
    by_cases hb : Q b
    · rcases ih b hb with h | ⟨x, y, hxy, h⟩
      · exact Or.inl fun x hx => (List.mem_cons.mp hx).elim (fun e => e ▸ ha) (h x)
      · exact Or.inr ⟨x, y, List.mem_cons_of_mem _ hxy, h⟩
    · exact Or.inr ⟨a, b, List.mem_cons_self, ha, hb⟩

/-- on proper intervals "ends before the next starts" is transitive, so the adjacent test of `is_disjoint` is complete -/
theorem adjacent_apart_iff_pairwise (l : List Period) (hv : ∀ p ∈ l, p.1 ≤ p.2) :
    (adjacentPairs l).all (fun (pq : Period × Period) => !decide (pq.2.1 ≤ pq.1.2)) = true ↔
      l.Pairwise (fun a b => a.2 < b.1) := by
  simp only [List.all_eq_true, Bool.not_eq_true', decide_eq_false_iff_not, DateOrder.not_le]
  exact adjacentPairs_forall_iff_pairwise (R := fun a b : Period => a.2 < b.1) fun a _ b hb c _ hab hbc =>
    DateOrder.lt_of_le_of_lt (DateOrder.le_trans (DateOrder.le_of_lt hab) (hv b hb)) hbc

theorem mem_periods {t : List Cell} {p : Period} : p ∈ Triangle.periods t ↔ ∃ c ∈ t, c.period = p := by
  rw [Triangle.periods, (sortedDedup_spec (cmp := periodCmp) (fun _ _ => periodCmp_eq_eq) _).2, List.mem_map]

theorem mem_map_period {t : List Cell} {p : Period} : p ∈ t.map Cell.period ↔ p ∈ Triangle.periods t := by
  rw [mem_periods, List.mem_map]

theorem forall_mem_periods {t : List Cell} {P : Period → Prop} :
    (∀ p ∈ Triangle.periods t, P p) ↔ ∀ c ∈ t, P c.period :=
  ⟨fun h c hc => h _ (mem_periods.mpr ⟨c, hc, rfl⟩), fun h p hp => by
    obtain ⟨c, hc, rfl⟩ := mem_periods.mp hp; exact h c hc⟩

theorem exists_mem_periods {t : List Cell} {P : Period → Prop} :
    (∃ p ∈ Triangle.periods t, P p) ↔ ∃ c ∈ t, P c.period :=
  ⟨fun ⟨p, hp, h⟩ => by obtain ⟨c, hc, rfl⟩ := mem_periods.mp hp; exact ⟨c, hc, h⟩,
   fun ⟨c, hc, h⟩ => ⟨_, mem_periods.mpr ⟨c, hc, rfl⟩, h⟩⟩

theorem periods_ne_nil {t : List Cell} (h : t ≠ []) : Triangle.periods t ≠ [] := by
  obtain ⟨c, hc⟩ := List.exists_mem_of_ne_nil t h
  exact List.ne_nil_of_mem (mem_periods.mpr ⟨c, hc, rfl⟩)

theorem isDisjoint_iff_apart {t : List Cell} (hv : ∀ c ∈ t, c.ps ≤ c.pe) :
    Triangle.isDisjoint t = true ↔ (Triangle.periods t).Pairwise (fun a b => a.2 < b.1) := by
  rw [← adjacent_apart_iff_pairwise _ (forall_mem_periods.mpr hv)]
  cases t with
  | nil => simp [Triangle.isDisjoint, Triangle.periods, sortedDedup, dedup, adjacentPairs]
  | cons c r => exact Iff.rfl

theorem overlap_eq_false_iff {p q : Period} : Spec.C13.overlap p q = false ↔ p.2 < q.1 ∨ q.2 < p.1 := by
  simp only [Spec.C13.overlap, Bool.and_eq_false_iff, decide_eq_false_iff_not, DateOrder.not_le]
  exact Or.comm

theorem overlap_false_of_lt {p q : Period} (h : p.2 < q.1) : Spec.C13.overlap p q = false :=
  overlap_eq_false_iff.mpr (Or.inl h)

theorem overlap_comm (p q : Period) : Spec.C13.overlap p q = Spec.C13.overlap q p := by
  simp only [Spec.C13.overlap, Bool.and_comm]

theorem disjoint_iff (t : List Cell) : Spec.C13.disjoint t = true ↔
    ∀ a ∈ t, ∀ b ∈ t, a.period = b.period ∨ Spec.C13.overlap a.period b.period = false := by
  simp only [Spec.C13.disjoint, List.all_eq_true, Bool.or_eq_true, beq_iff_eq, Bool.not_eq_true']

theorem equalLengths_iff (t : List Cell) (u : LagUnit) : Spec.C13.equalLengths t u = true ↔
    ∀ a ∈ t, ∀ b ∈ t, Spec.C13.duration u a = Spec.C13.duration u b := by
  simp only [Spec.C13.equalLengths, List.all_eq_true, beq_iff_eq]

theorem mem_periodBoundaries {t : List Cell} {x : Int} : x ∈ Spec.C13.periodBoundaries t ↔
    (∃ c ∈ t, monthToId c.ps = x) ∨ ∃ c ∈ t, monthToId c.pe + 1 = x := by
  simp only [Spec.C13.periodBoundaries, List.mem_append, List.mem_map]

end Bermuda
