/-
C14, wide table of an INCREMENTAL triangle with scalar values: one row per cell, the reader makes one
IncrementalCell per row (`fromWide_toWide_incremental`). The writer side and the row lemmas are those of
`FrameWide.lean` (every block has one row).
-/
import Bermuda.Lemmas.FrameWide
namespace Bermuda.Frame
open Bermuda Bermuda.Spec.C14

/-- the domain of `fromWide_toWide_incremental`: as `WFwide`, every cell an `IncrementalCell` with scalar values -/
structure WFwideIncr (t : List Cell) (D L : List String) : Prop where
  ne : t ≠ []
  sorted : t.Pairwise (fun a b => Cell.cmp a b = .lt)
  inc : ∀ c ∈ t, c.kind = .incremental ∧ c.prev.isSome = true
  dates : ∀ c ∈ t, c.datesOk = true
  md : ∀ c ∈ t, MdOK c.md D L
  names : NamesOK D L (allFields t)
  cells : ∀ c ∈ t, CellOK c (allFields t) 1

theorem WFwideIncr.table {t : List Cell} {D L : List String} (h : WFwideIncr t D L) : WideTable t D L :=
  ⟨h.ne, h.md, h.names, fun c hc => (sampleCount_eq (h.cells c hc)).symm ▸ h.cells c hc⟩

def irow (t : List Cell) (E : Row → Row) (c : Cell) : Row :=
  E (wideRow c (allMetadataNames t) (0, fieldDictPure c (allFields t) 0))

/-- what the wide reader makes of an incremental cell's row: 0-d float arrays -/
def irecon (t : List Cell) (c : Cell) : Cell :=
  { kind := .incremental, ps := c.ps, pe := c.pe, ev := c.ev, prev := some (prevOf c),
    values := (allFields t).filterMap fun f =>
      ((Dict.get? c.values f).bind valData).map fun data => (f, Val.arr false [] data),
    md := c.md }

section iread
variable {t : List Cell} {D L : List String} (h : WFwideIncr t D L)
include h

theorem wblocks_incr (E : Row → Row) : (t.map (wblock t E)).flatten = t.map (irow t E) := by
  rw [← List.flatMap_def, List.map_eq_flatMap]
  refine List.flatMap_congr fun c hc => ?_
  rw [wblock, sampleCount_eq (h.cells c hc)]
  rfl

variable {c : Cell} (hc : c ∈ t) {E : Row → Row} (hE : KeepsOthers E)
include hc hE

theorem wideIncrCell_row : wideIncrCell (allFields t) D L (irow t E c) = .ok (irecon t c) := by
  have hr : RowOf (· ∈ D) c (irow t E c) := h.table.rowOf hc hE 0
  obtain ⟨d1, d2, d3⟩ := hr.dates
  have hmd : rowMetadata (irow t E c) D L = c.md := hr.rowMetadata_read (h.table.reads []) hc
  have d4 := Row.col_of_get? (hr.prev (h.inc c hc))
  have hvals : ((allFields t).filterMap fun f =>
      (mvalNum? (Row.col (irow t E c) f)).map fun q => (f, Val.arr false [] [q])) =
      (allFields t).filterMap fun f =>
        ((Dict.get? c.values f).bind valData).map fun data => (f, Val.arr false [] data) := by
    apply filterMap_congr'
    intro f hf
    unfold irow
    rw [(h.table.rowCtx hc 0).num_field 0 hE hf, get?_fieldDictPure c _ 0 hf]
    cases hg : Dict.get? c.values f with
    | none => rfl
    | some v =>
      obtain ⟨data, hd, hlen⟩ := (h.cells c hc).vals (f, v) (Dict.mem_of_get? hg)
      simp only [Option.bind_some, hd]
      match data, hlen with
      | [q], _ => rfl
  unfold wideIncrCell
  rw [d1, d2, d3, d4, hmd, hvals]
  simp only [mvalDate?, Except.bind]
  exact Cell.mk?_of_datesOk ((Cell.datesOk_congr (a := irecon t c) (b := c) (h.inc c hc).1.symm rfl rfl rfl
    (prev_eq_prevOf (h.inc c hc).2).symm).trans (h.dates c hc))

omit hE in
theorem canonCell_irecon : canonCell (irecon t c) = canonCell c :=
  canonCell_eq_of (congrArg typedKind (h.inc c hc).1.symm) ⟨rfl, rfl, rfl, (prev_eq_prevOf (h.inc c hc).2).symm⟩
    (numV_filterMap_perm (h.cells c hc) (allFields_nodup t) (fun _ hf => mem_allFields.mpr ⟨c, hc, hf⟩)
      (fun data => Val.arr false [] data) fun _ => rfl) (h.cells c hc).nodup

end iread

section itable
variable {t : List Cell} {D L : List String} (h : WFwideIncr t D L)
include h

theorem fromWide_toWide_incr_eq :
    ((toWideRows t).bind fun tb => fromWideRows tb (allFields t) D L) = Triangle.ofCells (t.map (irecon t)) := by
  obtain ⟨E, hE, hw, _⟩ := toWideRows_ok h.table
  rw [hw, wblocks_incr h]
  simp only [Except.bind]
  have hprev : (mkTable (t.map (irow t E))).cols.contains "prev_evaluation_date" = true := by
    obtain ⟨c, hc⟩ := List.exists_mem_of_ne_nil _ h.ne
    exact (h.table.rowOf hc hE 0).prev_col (List.mem_map_of_mem hc) (h.inc c hc)
  unfold fromWideRows
  rw [if_pos hprev]
  unfold fromWideIncr
  have hcells : (mkTable (t.map (irow t E))).rows.mapM (wideIncrCell (allFields t) D L) =
      .ok (t.map (irecon t)) := by
    show (t.map (irow t E)).mapM _ = _
    rw [List.mapM_map]
    exact mapM_ok_of_all fun c hc => wideIncrCell_row h hc hE
  rw [hcells]
  rfl

/-- **fromWide_toWide, incremental triangles with scalar values**: one row per cell, and the
reader makes one `IncrementalCell` per row — previous evaluation dates included. -/
theorem fromWide_toWide_incremental :
    okAnd (fun out => wideSpec t out && slicesSpec false t out)
      ((toWideRows t).bind fun tb => fromWideRows tb (allFields t) D L) = true := by
  rw [fromWide_toWide_incr_eq h]
  exact wideSpec_map h.sorted (k := .incremental) (fun _ _ => rfl) fun c hc => canonCell_irecon h hc

end itable

end Bermuda.Frame
