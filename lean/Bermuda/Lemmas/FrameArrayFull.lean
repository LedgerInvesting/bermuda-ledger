/-
C14, `array_data_frame_to_triangle` with ALL its arguments (`fromArrayFrameFull`): for a frame with
first-of-month periods (strictly ascending) and strictly ascending column lags — read from integer
labels, or `i · eval_resolution` (given, or the period resolution when a label is not an integer) — the
reader builds exactly `Spec.arrayExpected`: one `CumulativeCell` per entry, period of `res` months, evaluated
`lag` months after the period end (or, with `dev_lag_from_period_end=False` and integer labels, `lag`
months after the period start minus a day), in row-major order. `array_triangle_builder` is the left fold
of `merge` over these triangles (`arrayTriangleBuilder_of_reads`); what each step of the fold does is
C10's `merge` theorems, composed in `Properties/C14.lean`.
-/
import Bermuda.Lemmas.FrameStatics
namespace Bermuda.Frame
open Bermuda Bermuda.Spec.C14 Std

/-- the cell a frame entry stands for (the body of `Spec.arrayExpected`) -/
def expCell (field : String) (md : Metadata) (res : Int) (fromEnd : Bool) (ps : Date) (lv : Int × Val) : Option Cell :=
  match lv.2 with
  | .none => none
  | v => some { kind := .cumulative, ps := ps, pe := periodEndOf ps res,
                ev := if fromEnd then monthEndAfter (periodEndOf ps res) lv.1 else monthEndAfter ps (lv.1 - 1),
                values := [(field, v)], md := md }

theorem arrayExpected_eq (field : String) (md : Metadata) (res : Int) (fromEnd : Bool) (lags : List Int)
    (rows : List (Date × List Val)) :
    arrayExpected field md res fromEnd lags rows =
      rows.flatMap fun r => (lags.zip r.2).filterMap (expCell field md res fromEnd r.1) := rfl

/-- a frame the reader reads as `arrayExpected`: first-of-month periods from 1970 on, strictly ascending;
`res ≥ 1`; column lags strictly ascending; with lags counted from the period start, no lag before
1970; the constructor's date rules hold for every expected cell -/
structure RegFrame (field : String) (md : Metadata) (res : Int) (fromEnd : Bool) (lags : List Int)
    (rows : List (Date × List Val)) : Prop where
  res1 : 1 ≤ res
  first : ∀ r ∈ rows, r.1.valid = true ∧ r.1.d = 1 ∧ 0 ≤ monthToId r.1
  asc : rows.Pairwise (fun a b => Date.cmp a.1 b.1 = .lt)
  lagsAsc : lags.Pairwise (· < ·)
  fromStart : fromEnd = false → ∀ r ∈ rows, ∀ l ∈ lags, 0 ≤ monthToId r.1 + l
  dates : ∀ c ∈ arrayExpected field md res fromEnd lags rows, c.datesOk = true

theorem expCell_props {field : String} {md : Metadata} {res : Int} {fromEnd : Bool} {ps : Date} {lv : Int × Val}
    {c : Cell} (hc : expCell field md res fromEnd ps lv = some c) :
    c.kind = .cumulative ∧ c.prev = none ∧ c.md = md ∧ c.ps = ps ∧ c.pe = periodEndOf ps res ∧
    c.ev = (if fromEnd then monthEndAfter (periodEndOf ps res) lv.1 else monthEndAfter ps (lv.1 - 1)) ∧
    ∃ v, c.values = [(field, v)] := by
  unfold expCell at hc
  split at hc
  · cases hc
  · cases hc
    exact ⟨rfl, rfl, rfl, rfl, rfl, rfl, _, rfl⟩

theorem mem_arrayExpected {field : String} {md : Metadata} {res : Int} {fromEnd : Bool} {lags : List Int}
    {rows : List (Date × List Val)} {c : Cell} (hc : c ∈ arrayExpected field md res fromEnd lags rows) :
    ∃ r ∈ rows, ∃ lv ∈ lags.zip r.2, expCell field md res fromEnd r.1 lv = some c := by
  rw [arrayExpected_eq] at hc
  obtain ⟨r, hr, hc⟩ := List.mem_flatMap.mp hc
  obtain ⟨lv, hlv, hc⟩ := List.mem_filterMap.mp hc
  exact ⟨r, hr, lv, hlv, hc⟩

theorem arrayEv_lt {res : Int} {fromEnd : Bool} (ps : Date) {l1 l2 : Int} (hl : l1 < l2) :
    Date.cmp (if fromEnd then monthEndAfter (periodEndOf ps res) l1 else monthEndAfter ps (l1 - 1))
             (if fromEnd then monthEndAfter (periodEndOf ps res) l2 else monthEndAfter ps (l2 - 1)) = .lt := by
  unfold monthEndAfter
  rw [idToMonth_false, idToMonth_false, idToMonth_false, idToMonth_false]
  cases fromEnd <;> exact monthEndOf_lt_monthEndOf.mpr (by omega)

section full
variable {field : String} {md : Metadata} {res : Int} {fromEnd : Bool} {lags : List Int}
  {rows : List (Date × List Val)} (h : RegFrame field md res fromEnd lags rows)
include h

theorem arrayEv_eq {evalRes : Option Int} {fe : Bool} (hfe : (fe || evalRes.isSome) = fromEnd)
    {r : Date × List Val} (hr : r ∈ rows) {lag : Int} (hl : lag ∈ lags) :
    (if (fe || evalRes.isSome) = true then addMonths (periodEndOf r.1 res) lag else (addMonths r.1 lag).pred) =
      if fromEnd = true then monthEndAfter (periodEndOf r.1 res) lag else monthEndAfter r.1 (lag - 1) := by
  rw [hfe]
  unfold monthEndAfter
  cases hf : fromEnd with
  | true =>
    unfold periodEndOf
    rw [if_pos rfl, if_pos rfl, idToMonth_false, idToMonth_false,
      addMonths_monthEnd_all _ _ (monthEndOf_isMonthEnd _)]
  | false =>
    obtain ⟨_, hd, _⟩ := h.first r hr
    rw [if_neg Bool.false_ne_true, if_neg Bool.false_ne_true, idToMonth_false,
      periodEnd_of_first r.1 hd lag (h.fromStart hf r hr lag hl)]
    congr 1; omega

theorem arrayRowCells_eq {evalRes : Option Int} {fe : Bool} (hfe : (fe || evalRes.isSome) = fromEnd)
    {r : Date × List Val} (hr : r ∈ rows) :
    arrayRowCells field md fe evalRes res lags r =
      .ok ((lags.zip r.2).filterMap (expCell field md res fromEnd r.1)) := by
  unfold arrayRowCells
  rw [pred_addMonths_eq_periodEndOf (h.first r hr) h.res1,
    List.filterMap_congr (g := expCell field md res fromEnd r.1) fun lv hlv => by
      unfold arrayCell expCell
      rw [arrayEv_eq h hfe hr (List.of_mem_zip hlv).1]
      rfl]
  refine Cell.mapM_mk?_ok fun c hc => h.dates c ?_
  rw [arrayExpected_eq]
  exact List.mem_flatMap.mpr ⟨r, hr, hc⟩

theorem arrayExpected_sorted :
    (arrayExpected field md res fromEnd lags rows).Pairwise (fun a b => Cell.cmp a b = .lt) := by
  rw [arrayExpected_eq, List.pairwise_flatMap]
  constructor
  · intro r _
    have hz : (lags.zip r.2).Pairwise (fun a b => a.1 < b.1) :=
      List.pairwise_map.mp (List.Pairwise.sublist (zip_fst_sublist lags r.2) h.lagsAsc)
    refine List.Pairwise.filterMap _ ?_ hz
    intro a a' haa b hb b' hb'
    obtain ⟨_, _, b3, b4, b5, b6, _⟩ := expCell_props (Option.mem_def.mp hb)
    obtain ⟨_, _, c3, c4, c5, c6, _⟩ := expCell_props (Option.mem_def.mp hb')
    rw [Cell.cmp_of_row_eq (b3.trans c3.symm) (b4.trans c4.symm) (b5.trans c5.symm), b6, c6, arrayEv_lt r.1 haa]
    rfl
  · refine h.asc.imp ?_
    intro r r' hrr x hx y hy
    obtain ⟨lv, _, hx⟩ := List.mem_filterMap.mp hx
    obtain ⟨lv', _, hy⟩ := List.mem_filterMap.mp hy
    obtain ⟨_, _, b3, b4, _⟩ := expCell_props hx
    obtain ⟨_, _, c3, c4, _⟩ := expCell_props hy
    exact Cell.cmp_lt_of_ps_lt (b3.trans c3.symm) (by rw [b4, c4]; exact hrr)

theorem fromArrayFrameFull_of {cols : List String} {pr evalRes : Option Int} {fe : Bool}
    (hr : arrayResolution (rows.map (·.1)) pr = .ok res)
    (hfe : (fe || (effectiveEvalResolution cols res evalRes).isSome) = fromEnd)
    (hl : columnLags cols (effectiveEvalResolution cols res evalRes) = lags) :
    fromArrayFrameFull { cols := cols, rows := rows.map fun r => (PeriodEntry.date r.1, r.2) } field pr evalRes fe md =
      .ok (arrayExpected field md res fromEnd lags rows) := by
  have hparse : (rows.map fun r => (PeriodEntry.date r.1, r.2)).mapM
      (fun (r : PeriodEntry × List Val) => r.1.parse) = .ok (rows.map (·.1)) := by
    rw [List.mapM_map]
    exact mapM_ok_of_all fun _ _ => rfl
  have hent : (rows.map fun r => (PeriodEntry.date r.1, r.2)).map (fun (r : PeriodEntry × List Val) => r.2) =
      rows.map (·.2) := by
    rw [List.map_map]; rfl
  unfold fromArrayFrameFull
  simp only [hparse, Except.bind, hr, hl]
  rw [hent, ← List.zip_of_prod rfl rfl, mapM_ok_of_all (fun r hr => arrayRowCells_eq h hfe hr)]
  simp only [← List.flatMap_def, ← arrayExpected_eq]
  exact Triangle.ofCells_of_strictSorted (kindsConsistent_of_all (k := .cumulative) fun x hx => by
    obtain ⟨r, _, lv, _, hx⟩ := mem_arrayExpected hx
    exact (expCell_props hx).1) (arrayExpected_sorted h)

theorem arrayResolution_inferred
    (hp : ∃ r0 r1 rest, rows = r0 :: r1 :: rest ∧ monthToId r1.1 = monthToId r0.1 + res) :
    arrayResolution (rows.map (·.1)) none = .ok res := by
  obtain ⟨r0, r1, rest, hrows, hres⟩ := hp
  have h0 := (h.first r0 (by rw [hrows]; simp)).2.1
  have h1 := (h.first r1 (by rw [hrows]; simp)).2.1
  rw [hrows]
  simp only [List.map_cons, arrayResolution]
  rw [round_devLag_firsts r0.1 r1.1 h0 h1]
  congr 1; omega

end full

theorem arrayTriangleBuilder_two (f1 f2 : ArrayFrame) (n1 n2 : String) (pr er : Option Int) (fe : Bool) (md : Metadata) :
    arrayTriangleBuilder [f1, f2] [n1, n2] pr er fe md =
      (fromArrayFrameFull f1 n1 pr er fe md).bind fun t1 =>
      (fromArrayFrameFull f2 n2 pr er fe md).bind fun t2 => merge (some .full) none t1 t2 := by
  unfold arrayTriangleBuilder
  simp only [List.length_cons, List.length_nil, bne_self_eq_false, Bool.false_eq_true, if_false, List.zip_cons_cons,
    List.zip_nil_right, List.foldlM_cons, List.foldlM_nil]
  cases fromArrayFrameFull f1 n1 pr er fe md with
  | error e => rfl
  | ok t1 =>
    simp only [Except.bind]
    cases fromArrayFrameFull f2 n2 pr er fe md with
    | error e => rfl
    | ok t2 =>
      simp only [bind, Except.bind]
      cases merge (some JoinType.full) none t1 t2 <;> rfl

theorem arrayTriangleBuilder_one (f1 : ArrayFrame) (n1 : String) (pr er : Option Int) (fe : Bool) (md : Metadata) :
    arrayTriangleBuilder [f1] [n1] pr er fe md = fromArrayFrameFull f1 n1 pr er fe md := by
  unfold arrayTriangleBuilder
  simp only [List.length_cons, List.length_nil, bne_self_eq_false, Bool.false_eq_true, if_false, List.zip_cons_cons,
    List.zip_nil_right, List.foldlM_nil]
  cases fromArrayFrameFull f1 n1 pr er fe md <;> rfl

theorem arrayTriangleBuilder_mismatch (fs : List ArrayFrame) (ns : List String) (pr er : Option Int) (fe : Bool)
    (md : Metadata) (h : fs.length ≠ ns.length) : arrayTriangleBuilder fs ns pr er fe md = .error .valueError := by
  unfold arrayTriangleBuilder
  rw [if_pos (by simpa using h)]

theorem builderFold_of_reads {α : Type} {frame : α → ArrayFrame} {name : α → String} {tri : α → List Cell}
    {pr er : Option Int} {fe : Bool} {md : Metadata} : ∀ (rest : List α) (acc : List Cell),
    (∀ s ∈ rest, fromArrayFrameFull (frame s) (name s) pr er fe md = .ok (tri s)) →
    (rest.map fun s => (frame s, name s)).foldlM (fun acc p =>
      (fromArrayFrameFull p.1 p.2 pr er fe md).bind fun t => merge (some .full) none acc t) acc =
    (rest.map tri).foldlM (fun acc t => merge (some .full) none acc t) acc
  | [], _, _ => rfl
  | s :: rest, acc, h => by
    rw [List.map_cons, List.foldlM_cons, List.map_cons, List.foldlM_cons]
    simp only [h s List.mem_cons_self, Except.bind]
    cases hm : merge (some .full) none acc (tri s) with
    | error e => rfl
    | ok o => exact builderFold_of_reads rest o (fun s' hs' => h s' (List.mem_cons_of_mem _ hs'))

/-- the builder is the left fold of `merge` (full join, right operand's values win) over the triangles of
the single frames -/
theorem arrayTriangleBuilder_of_reads {α : Type} {frame : α → ArrayFrame} {name : α → String} {tri : α → List Cell}
    {pr er : Option Int} {fe : Bool} {md : Metadata} (s0 : α) (rest : List α)
    (h : ∀ s ∈ s0 :: rest, fromArrayFrameFull (frame s) (name s) pr er fe md = .ok (tri s)) :
    arrayTriangleBuilder ((s0 :: rest).map frame) ((s0 :: rest).map name) pr er fe md =
      (rest.map tri).foldlM (fun acc t => merge (some .full) none acc t) (tri s0) := by
  unfold arrayTriangleBuilder
  have hz : (rest.map frame).zip (rest.map name) = rest.map fun s => (frame s, name s) := by
    rw [List.zip_map']
  simp only [List.map_cons, List.length_cons, List.length_map, bne_self_eq_false, Bool.false_eq_true, if_false,
    List.zip_cons_cons, hz, h s0 List.mem_cons_self, Except.bind]
  exact builderFold_of_reads rest _ (fun s hs => h s (List.mem_cons_of_mem _ hs))

end Bermuda.Frame
