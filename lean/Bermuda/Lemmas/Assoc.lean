/-
Association lists `List (κ × α)` read by first match on the key, as Python dicts are modelled
throughout: `Dict`, the heap's entry lists, the lag dictionaries, the raw dicts of the codec, the
JSON objects. `Assoc.get?`, `Assoc.set`, `Assoc.union` are the generic forms of the lookups and
updates that each model declares for its own key type. Most of those unfold to the generic one
(`exact Assoc.…` closes a goal about them); `Dict` has its own section at the end of the file; the models whose
update is written differently have their equations in `Lemmas/AssocModels.lean`.
Core Lean only; imports `Model/Basic` and nothing else of the model, so that it can be used below any property file.
-/
import Bermuda.Model.Basic
namespace Bermuda.Assoc
universe u v w

variable {κ : Type u} {α : Type v} {β : Type w} [BEq κ]

def get? (l : List (κ × α)) (k : κ) : Option α := (l.find? (·.1 == k)).map (·.2)

/-- `d[k] = v`: replace in place if the key is present, else append -/
def set (l : List (κ × α)) (k : κ) (v : α) : List (κ × α) :=
  if l.any (·.1 == k) then l.map (fun p => if p.1 == k then (k, v) else p) else l ++ [(k, v)]

/-- `{**a, **b}` -/
def union (a b : List (κ × α)) : List (κ × α) := b.foldl (fun acc p => set acc p.1 p.2) a

theorem find?_map_keep_key (F : κ × α → κ × β) (hF : ∀ p, (F p).1 = p.1) (l : List (κ × α)) (k : κ) :
    (l.map F).find? (·.1 == k) = (l.find? (·.1 == k)).map F := by
  rw [List.find?_map]; congr 2; funext p; simp [hF]

variable [LawfulBEq κ]

theorem find?_eq_none_iff {l : List (κ × α)} {k : κ} :
    l.find? (·.1 == k) = none ↔ k ∉ l.map (·.1) := by
  rw [List.find?_eq_none, List.mem_map]
  exact ⟨fun h ⟨p, hp, e⟩ => h p hp (by simp [e]), fun h p hp e => h ⟨p, hp, eq_of_beq e⟩⟩

theorem find?_of_mem_nodup {l : List (κ × α)} (hn : (l.map (·.1)).Nodup) {p : κ × α} (hp : p ∈ l) :
    l.find? (·.1 == p.1) = some p := by
  induction l with
  | nil => cases hp
  | cons q l ih =>
    obtain ⟨hq, hn⟩ := List.nodup_cons.mp hn
    rcases List.mem_cons.mp hp with rfl | hp
    · simp
    · have : (q.1 == p.1) = false := beq_false_of_ne fun e => hq (List.mem_map.mpr ⟨p, hp, e.symm⟩)
      rw [List.find?_cons, this]; exact ih hn hp

theorem find?_filterMap_key (ks : List κ) (H : κ → Option α) (k : κ) :
    (ks.filterMap fun a => (H a).map (a, ·)).find? (·.1 == k) =
      if k ∈ ks then (H k).map (k, ·) else none := by
  induction ks with
  | nil => rfl
  | cons a ks ih =>
    rw [List.filterMap_cons]
    by_cases h : a = k
    · subst h; cases hH : H a <;> simp [ih, hH]
    · have h' : ¬ k = a := fun e => h e.symm
      cases hH : H a <;> simp [ih, h, h']

theorem find?_map_key (ks : List κ) (R : κ → α) (k : κ) :
    (ks.map fun a => (a, R a)).find? (·.1 == k) = if k ∈ ks then some (k, R k) else none := by
  simpa [List.filterMap_eq_map] using find?_filterMap_key ks (fun a => some (R a)) k

omit [LawfulBEq κ] in
theorem get?_cons (p : κ × α) (l : List (κ × α)) (k : κ) :
    get? (p :: l) k = if p.1 == k then some p.2 else get? l k := by
  unfold get?; rw [List.find?_cons]; split <;> simp_all

omit [LawfulBEq κ] in
theorem get?_append (l l' : List (κ × α)) (k : κ) : get? (l ++ l') k = (get? l k).or (get? l' k) := by
  unfold get?; rw [List.find?_append]; cases l.find? (·.1 == k) <;> rfl

theorem get?_eq_none_iff {l : List (κ × α)} {k : κ} : get? l k = none ↔ k ∉ l.map (·.1) := by
  rw [get?, Option.map_eq_none_iff, find?_eq_none_iff]

theorem get?_isSome (l : List (κ × α)) (k : κ) : (get? l k).isSome = (l.map (·.1)).contains k := by
  rw [Bool.eq_iff_iff, List.contains_iff_mem, Option.isSome_iff_ne_none, Ne, get?_eq_none_iff,
    Decidable.not_not]

omit [LawfulBEq κ] in
theorem any_key_eq_isSome (l : List (κ × α)) (k : κ) : l.any (·.1 == k) = (get? l k).isSome := by
  rw [get?, Option.isSome_map, Bool.eq_iff_iff, List.any_eq_true, List.find?_isSome]

theorem mem_of_get? {l : List (κ × α)} {k : κ} {v : α} (h : get? l k = some v) : (k, v) ∈ l := by
  obtain ⟨p, hp, rfl⟩ := Option.map_eq_some_iff.mp h
  have hk : p.1 = k := eq_of_beq (List.find?_some (p := fun q : κ × α => q.1 == k) hp)
  subst hk; exact List.mem_of_find?_eq_some hp

theorem mem_keys_of_get? {l : List (κ × α)} {k : κ} {v : α} (h : get? l k = some v) :
    k ∈ l.map (·.1) := List.mem_map_of_mem (f := (·.1)) (mem_of_get? h)

theorem get?_of_mem_keys {l : List (κ × α)} {k : κ} (h : k ∈ l.map (·.1)) : ∃ v, get? l k = some v :=
  Option.ne_none_iff_exists'.mp fun e => get?_eq_none_iff.mp e h

theorem get?_eq_some_iff {l : List (κ × α)} (hn : (l.map (·.1)).Nodup) {k : κ} {v : α} :
    get? l k = some v ↔ (k, v) ∈ l :=
  ⟨mem_of_get?, fun h => by rw [get?, find?_of_mem_nodup hn h]; rfl⟩

omit [LawfulBEq κ] in
theorem get?_map_val (g : κ × α → β) (l : List (κ × α)) (k : κ) :
    get? (l.map fun p => (p.1, g p)) k = (l.find? (·.1 == k)).map g := by
  rw [get?, find?_map_keep_key (fun p => (p.1, g p)) (fun _ => rfl), Option.map_map]; rfl

theorem get?_map_key (ks : List κ) (R : κ → α) (k : κ) :
    get? (ks.map fun a => (a, R a)) k = if k ∈ ks then some (R k) else none := by
  rw [get?, find?_map_key]; split <;> rfl

omit [LawfulBEq κ] in
theorem get?_map_snd (g : α → β) (l : List (κ × α)) (k : κ) :
    get? (l.map fun p => (p.1, g p.2)) k = (get? l k).map g := by
  rw [get?_map_val (fun p => g p.2), get?, Option.map_map]; rfl

theorem get?_filterMap_key (ks : List κ) (H : κ → Option α) (k : κ) :
    get? (ks.filterMap fun a => (H a).map (a, ·)) k = if k ∈ ks then H k else none := by
  rw [get?, find?_filterMap_key]
  split
  · rw [Option.map_map]; exact Option.map_id'
  · rfl

omit [BEq κ] [LawfulBEq κ] in
theorem keys_map_key (ks : List κ) (R : κ → α) : (ks.map fun a => (a, R a)).map (·.1) = ks := by
  rw [List.map_map]; exact List.map_id' _

theorem get?_replace (l : List (κ × α)) (k k' : κ) (v : α) :
    get? (l.map fun p => if p.1 == k then (k, v) else p) k' =
      if k == k' then (get? l k).map (fun _ => v) else get? l k' := by
  induction l with
  | nil => simp [get?]
  | cons p l ih =>
    rw [List.map_cons, get?_cons, ih, get?_cons, get?_cons]
    by_cases h1 : p.1 = k <;> by_cases h2 : k = k' <;> by_cases h3 : p.1 = k' <;> simp_all

theorem get?_set (l : List (κ × α)) (k k' : κ) (v : α) :
    get? (set l k v) k' = if k == k' then some v else get? l k' := by
  unfold set
  rw [any_key_eq_isSome]
  split
  · next hc =>
    obtain ⟨x, hx⟩ := Option.isSome_iff_exists.mp hc
    rw [get?_replace, hx]; rfl
  · next hc =>
    rw [get?_append, get?_cons]
    by_cases h : k = k'
    · subst h; simp [Option.not_isSome_iff_eq_none.mp hc]
    · simp [h, get?]

/-- the update as `Extend.lagSet` and `Blend.indexSet` write it: `(p.1, v)` for `(k, v)` -/
theorem set_keep_key (l : List (κ × α)) (k : κ) (v : α) :
    (if l.any (·.1 == k) then l.map (fun p => if p.1 == k then (p.1, v) else p) else l ++ [(k, v)]) = set l k v := by
  unfold set
  congr 1
  refine List.map_congr_left fun p _ => ?_
  split
  · next h => rw [eq_of_beq h]
  · rfl

theorem keys_set (l : List (κ × α)) (k : κ) (v : α) :
    (set l k v).map (·.1) = if (l.map (·.1)).contains k then l.map (·.1) else l.map (·.1) ++ [k] := by
  unfold set
  rw [any_key_eq_isSome, get?_isSome]
  split
  · rw [List.map_map]
    refine List.map_congr_left fun p _ => ?_
    by_cases h : p.1 = k <;> simp [h]
  · simp

theorem keys_set_of_mem {l : List (κ × α)} {k : κ} (h : k ∈ l.map (·.1)) (v : α) :
    (set l k v).map (·.1) = l.map (·.1) := by
  rw [keys_set, if_pos (List.contains_iff_mem.mpr h)]

theorem mem_keys_set {l : List (κ × α)} {k k' : κ} {v : α} :
    k' ∈ (set l k v).map (·.1) ↔ k' = k ∨ k' ∈ l.map (·.1) := by
  rw [keys_set]
  split
  · next hc => exact ⟨.inr, fun h => h.elim (· ▸ List.contains_iff_mem.mp hc) id⟩
  · rw [List.mem_append, List.mem_singleton, or_comm]

theorem set_of_not_mem {l : List (κ × α)} {k : κ} (h : k ∉ l.map (·.1)) (v : α) : set l k v = l ++ [(k, v)] := by
  rw [set, any_key_eq_isSome, get?_isSome, if_neg fun hc => h (List.contains_iff_mem.mp hc)]

theorem nodup_keys_set {l : List (κ × α)} (hn : (l.map (·.1)).Nodup) (k : κ) (v : α) :
    ((set l k v).map (·.1)).Nodup := by
  rw [keys_set]
  split
  · exact hn
  · next hc =>
    refine List.nodup_append.mpr ⟨hn, by simp, fun a ha b hb e => hc ?_⟩
    rw [List.contains_iff_mem, ← List.mem_singleton.mp hb, ← e]; exact ha

theorem mem_set {l : List (κ × α)} {k : κ} {v : α} {p : κ × α} :
    p ∈ set l k v ↔ p = (k, v) ∨ (p ∈ l ∧ p.1 ≠ k) := by
  unfold set
  split
  · next hc =>
    obtain ⟨q, hq, hqk⟩ := List.any_eq_true.mp hc
    rw [List.mem_map]
    constructor
    · rintro ⟨r, hr, rfl⟩
      by_cases h : r.1 = k <;> simp [h, hr]
    · rintro (rfl | ⟨hp, hk⟩)
      · exact ⟨q, hq, by simp [hqk]⟩
      · exact ⟨p, hp, by simp [hk]⟩
  · next hc =>
    have : ∀ q ∈ l, q.1 ≠ k := fun q hq e => hc (List.any_eq_true.mpr ⟨q, hq, by simp [e]⟩)
    rw [List.mem_append, List.mem_singleton]
    exact ⟨fun h => h.symm.imp_right fun h => ⟨h, this p h⟩, fun h => h.symm.imp_left And.left⟩

theorem forall_mem_set {P : κ × α → Prop} {l : List (κ × α)} {k : κ} {v : α} (hl : ∀ p ∈ l, P p)
    (hv : P (k, v)) : ∀ p ∈ set l k v, P p := fun p hp =>
  (mem_set.mp hp).elim (fun e => e ▸ hv) fun h => hl p h.1

theorem foldl_set_fresh {γ : Type w} (key : γ → κ) (val : γ → α) (xs : List γ) (acc : List (κ × α))
    (hn : (acc.map (·.1) ++ xs.map key).Nodup) :
    xs.foldl (fun d x => set d (key x) (val x)) acc = acc ++ xs.map fun x => (key x, val x) := by
  induction xs generalizing acc with
  | nil => simp
  | cons x xs ih =>
    have hx : ¬ acc.any (·.1 == key x) := fun h => by
      obtain ⟨q, hq, hqk⟩ := List.any_eq_true.mp h
      exact (List.nodup_append.mp hn).2.2 _ (List.mem_map_of_mem hq) _ List.mem_cons_self
        (eq_of_beq hqk)
    rw [List.foldl_cons, set, if_neg hx, ih _ (by simpa [List.append_assoc] using hn)]
    simp

omit [LawfulBEq κ] in
theorem union_cons (a : List (κ × α)) (p : κ × α) (b : List (κ × α)) :
    union a (p :: b) = union (set a p.1 p.2) b := rfl

theorem mem_keys_union (a b : List (κ × α)) (k : κ) :
    k ∈ (union a b).map (·.1) ↔ k ∈ a.map (·.1) ∨ k ∈ b.map (·.1) := by
  induction b generalizing a with
  | nil => simp [union]
  | cons p b ih =>
    rw [union_cons, ih, mem_keys_set, List.map_cons, List.mem_cons, ← or_assoc, or_comm (a := k = p.1)]

theorem nodup_keys_union {a : List (κ × α)} (hn : (a.map (·.1)).Nodup) (b : List (κ × α)) :
    ((union a b).map (·.1)).Nodup := by
  induction b generalizing a with
  | nil => exact hn
  | cons p b ih => exact ih (nodup_keys_set hn _ _)

/-- `{**a, **b}[k]`: the right operand wins -/
theorem get?_union (a : List (κ × α)) {b : List (κ × α)} (hb : (b.map (·.1)).Nodup) (k : κ) :
    get? (union a b) k = (get? b k).or (get? a k) := by
  induction b generalizing a with
  | nil => rfl
  | cons p b ih =>
    obtain ⟨hp, hb⟩ := List.nodup_cons.mp hb
    rw [union_cons, ih _ hb, get?_set, get?_cons]
    by_cases h : p.1 = k
    · subst h; simp [get?_eq_none_iff.mpr hp]
    · simp [h]

theorem get?_union_of_not_mem (a : List (κ × α)) {b : List (κ × α)} {k : κ} (h : k ∉ b.map (·.1)) :
    get? (union a b) k = get? a k := by
  induction b generalizing a with
  | nil => rfl
  | cons p b ih =>
    rw [List.map_cons, List.mem_cons, not_or] at h
    rw [union_cons, ih _ h.2, get?_set, if_neg (by simpa using Ne.symm h.1)]

omit [BEq κ] [LawfulBEq κ] in
theorem mem_keys_filter_key {l : List (κ × α)} {q : κ → Bool} {k : κ} :
    k ∈ (l.filter fun p => q p.1).map (·.1) ↔ q k = true ∧ k ∈ l.map (·.1) := by
  simp only [List.mem_map, List.mem_filter]
  exact ⟨fun ⟨p, ⟨hp, hq⟩, e⟩ => ⟨e ▸ hq, p, hp, e⟩, fun ⟨hq, p, hp, e⟩ => ⟨p, ⟨hp, e ▸ hq⟩, e⟩⟩

theorem get?_filter_key (l : List (κ × α)) (q : κ → Bool) (k : κ) :
    get? (l.filter fun p => q p.1) k = if q k then get? l k else none := by
  unfold get?
  rw [List.find?_filter]
  -- an entry with key `k` passes the filter iff `q k`
  by_cases hq : q k = true
  · rw [if_pos hq]
    congr 2
    funext p
    by_cases h : p.1 = k <;> simp [h, hq]
  · rw [if_neg hq, Option.map_eq_none_iff, List.find?_eq_none]
    intro p _
    by_cases h : p.1 = k <;> simp [h, hq]

theorem set_self {l : List (κ × α)} (hn : (l.map (·.1)).Nodup) {p : κ × α} (hp : p ∈ l) : set l p.1 p.2 = l := by
  rw [set, if_pos (List.any_eq_true.mpr ⟨p, hp, beq_self_eq_true p.1⟩)]
  refine (List.map_congr_left fun q hq => ?_).trans (List.map_id l)
  split
  · next hk =>
    -- an entry with the key of `p` is `p`: both are what the lookup of that key finds
    have := find?_of_mem_nodup hn hq
    rw [eq_of_beq hk, find?_of_mem_nodup hn hp] at this
    exact Option.some.inj this
  · rfl

theorem union_of_subset {a : List (κ × α)} (hn : (a.map (·.1)).Nodup) {b : List (κ × α)} (hb : ∀ p ∈ b, p ∈ a) :
    union a b = a := by
  induction b with
  | nil => rfl
  | cons p b ih =>
    rw [union_cons, set_self hn (hb p List.mem_cons_self)]
    exact ih fun q hq => hb q (List.mem_cons_of_mem _ hq)

end Bermuda.Assoc

namespace Bermuda

/-! `Dict.get?`, `Dict.set`, `Dict.union` are `Assoc.get?`, `Assoc.set`, `Assoc.union` by `rfl`, so `exact Assoc.…`
closes a goal about a `Dict`; what proofs rewrite with is restated in the `Dict` spelling, since `rw` and `simp` do
not see through the names. -/

namespace Dict
variable {α β : Type} {d : Dict α} {k : String} {v : α}

theorem get?_eq_assoc (d : Dict α) (k : String) : d.get? k = Assoc.get? d k := rfl
theorem set_eq_assoc (d : Dict α) (k : String) (v : α) : d.set k v = Assoc.set d k v := rfl
theorem union_eq_assoc (a b : Dict α) : a.union b = Assoc.union a b := rfl

theorem keys_nil : Dict.keys ([] : Dict α) = [] := rfl
theorem keys_cons (p : String × α) (d : Dict α) : Dict.keys (p :: d) = p.1 :: d.keys := rfl
theorem keys_append (a b : Dict α) : Dict.keys (a ++ b) = a.keys ++ b.keys := List.map_append

theorem mem_keys_append {a b : Dict α} : k ∈ Dict.keys (a ++ b) ↔ k ∈ a.keys ∨ k ∈ b.keys := by
  rw [keys_append, List.mem_append]

theorem keys_map_val (g : String × α → β) (d : Dict α) : Dict.keys (d.map fun p => (p.1, g p)) = d.keys := by
  rw [Dict.keys, List.map_map]; rfl

theorem keys_filter_sublist (p : String × α → Bool) (d : Dict α) : (Dict.keys (d.filter p)).Sublist d.keys :=
  List.filter_sublist.map _

theorem mem_keys : k ∈ d.keys ↔ ∃ v, (k, v) ∈ d := by
  rw [Dict.keys, List.mem_map]
  exact ⟨fun ⟨p, hp, e⟩ => ⟨p.2, e ▸ hp⟩, fun ⟨v, hv⟩ => ⟨(k, v), hv, rfl⟩⟩

theorem get?_cons (p : String × α) (d : Dict α) (k : String) :
    Dict.get? (p :: d) k = if p.1 == k then some p.2 else d.get? k := Assoc.get?_cons p d k

theorem get?_append_or (a b : Dict α) (k : String) : Dict.get? (a ++ b) k = (a.get? k).or (b.get? k) :=
  Assoc.get?_append a b k

theorem mem_of_get? (h : d.get? k = some v) : (k, v) ∈ d := Assoc.mem_of_get? h

theorem mem_keys_of_get? (h : d.get? k = some v) : k ∈ d.keys := Assoc.mem_keys_of_get? h

theorem get?_of_mem_keys (h : k ∈ d.keys) : ∃ v, d.get? k = some v := Assoc.get?_of_mem_keys h

theorem get?_eq_some_iff_mem (hn : d.keys.Nodup) : d.get? k = some v ↔ (k, v) ∈ d := Assoc.get?_eq_some_iff hn

theorem filterMap_get?_perm {F : List String} (hF : F.Nodup) (hd : d.keys.Nodup) (hsub : ∀ k ∈ d.keys, k ∈ F) :
    (F.filterMap fun f => (d.get? f).map fun v => (f, v)).Perm d := by
  have hn : (F.filterMap fun f => (d.get? f).map fun v => (f, v)).Nodup :=
    List.Pairwise.filterMap _ (fun f f' hne p hp p' hp' e => by
      obtain ⟨_, _, rfl⟩ := Option.map_eq_some_iff.mp hp
      obtain ⟨_, _, rfl⟩ := Option.map_eq_some_iff.mp hp'
      exact hne (congrArg Prod.fst e)) hF
  rw [List.perm_ext_iff_of_nodup hn ((List.pairwise_map.mp hd).imp fun hne e => hne (congrArg Prod.fst e))]
  intro p
  rw [List.mem_filterMap]
  constructor
  · rintro ⟨f, _, hp⟩
    obtain ⟨v, hv, rfl⟩ := Option.map_eq_some_iff.mp hp
    exact mem_of_get? hv
  · exact fun hp => ⟨p.1, hsub p.1 (List.mem_map_of_mem hp), by rw [(get?_eq_some_iff_mem hd).mpr hp]; rfl⟩

theorem contains_eq_isSome (d : Dict α) (k : String) : d.contains k = (d.get? k).isSome :=
  Assoc.any_key_eq_isSome d k

theorem contains_eq (d : Dict α) (k : String) : d.contains k = d.keys.contains k :=
  (contains_eq_isSome d k).trans (Assoc.get?_isSome d k)

theorem contains_iff_mem : d.contains k = true ↔ k ∈ d.keys := by
  rw [contains_eq, List.contains_iff_mem]

theorem get?_set (d : Dict α) (k k' : String) (v : α) :
    (d.set k v).get? k' = if k == k' then some v else d.get? k' := Assoc.get?_set d k k' v

end Dict

theorem Dict.get?_eq_none_iff {α} {d : Dict α} {k : String} : d.get? k = none ↔ k ∉ d.keys :=
  Assoc.get?_eq_none_iff

/-- keys of a dict are distinct (true of every Python dict) -/
def Dict.WF {α} (d : Dict α) : Prop := d.keys.Nodup

theorem Dict.WF_union {α} {a : Dict α} (h : a.WF) (b : Dict α) : (a.union b).WF :=
  Assoc.nodup_keys_union h b

/-- `{**a, **b}[k]`: the right operand wins -/
theorem Dict.get?_union {α} (a b : Dict α) (hb : b.WF) (k : String) :
    (a.union b).get? k = (b.get? k).or (a.get? k) := Assoc.get?_union a hb k

theorem Dict.mem_keys_union {α} (a b : Dict α) (k : String) :
    k ∈ (a.union b).keys ↔ k ∈ a.keys ∨ k ∈ b.keys := Assoc.mem_keys_union a b k

theorem Dict.mem_keys_filter {α} (d : Dict α) (p : String → Bool) {k : String} :
    k ∈ Dict.keys (d.filter (fun kv => p kv.1)) ↔ p k = true ∧ k ∈ d.keys := Assoc.mem_keys_filter_key

theorem Dict.get?_filter_j {α} (d : Dict α) (p : String → Bool) (k : String) :
    Dict.get? (d.filter (fun kv => p kv.1)) k = if p k then d.get? k else none := Assoc.get?_filter_key d p k

theorem Dict.WF_filter {α} {d : Dict α} (h : d.WF) (p : String × α → Bool) : Dict.WF (d.filter p) :=
  h.sublist (Dict.keys_filter_sublist p d)

theorem Dict.set_self {α} {d : Dict α} (h : d.WF) {p : String × α} (hp : p ∈ d) :
    d.set p.1 p.2 = d := Assoc.set_self h hp

theorem Dict.union_of_subset {α} {a : Dict α} (h : a.WF) {b : Dict α} (hb : ∀ p ∈ b, p ∈ a) :
    a.union b = a := Assoc.union_of_subset h hb

/-- `{**d, **d} == d` (also as ordered dicts) -/
theorem Dict.union_self {α} {d : Dict α} (h : d.WF) : d.union d = d :=
  Dict.union_of_subset h (fun _ hp => hp)

theorem Dict.get?_append {α} (a b : Dict α) (k : String) :
    Dict.get? (a ++ b) k = match Dict.get? a k with
      | some v => some v
      | none => Dict.get? b k := by
  show Assoc.get? (a ++ b) k = match Assoc.get? a k with
    | some v => some v
    | none => Assoc.get? b k
  rw [Assoc.get?_append]
  cases Assoc.get? a k <;> rfl

theorem Dict.get?_map_val {α β} (d : Dict α) (g : α → β) (k : String) :
    Dict.get? (d.map fun p => (p.1, g p.2)) k = (Dict.get? d k).map g := Assoc.get?_map_snd g d k

theorem Dict.get?_filter_eq_some_iff {α} (d : Dict α) (p : String × α → Bool) (k : String) (v : α)
    (hn : d.keys.Nodup) :
    Dict.get? (d.filter p) k = some v ↔ Dict.get? d k = some v ∧ p (k, v) = true := by
  rw [Dict.get?_eq_some_iff_mem (Dict.WF_filter hn p), Dict.get?_eq_some_iff_mem hn, List.mem_filter]

theorem Dict.get?_nil {α} (k : String) : Dict.get? ([] : Dict α) k = none := rfl

end Bermuda
