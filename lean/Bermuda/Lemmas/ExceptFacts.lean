/-
`Except` as the models use it: a `do` step forwards and backwards, guards, and `List.mapM` / `List.foldlM` — what a
successful traversal says about inputs and outputs, when it fails and with which error, invariants of a monadic fold;
`List.mapM` in `Option`. The traversals that three models write out by hand (`Blend.mapE`, `Resample.mapMExcept`,
`smMapE`, `smFoldE`) are `List.mapM` and `List.foldlM`.
No Mathlib.
-/
import Bermuda.Model.Blend
import Bermuda.Model.Resample
import Bermuda.Model.Summarize
namespace Bermuda

universe u v w
section step
variable {ε : Type u} {α β : Type v}

/-! Core has no equations for `>>=` and `<$>` on the constructors of `Except`; with these a step of a `do` block is
rewritten without opening `Except.bind`. -/

@[simp] theorem ok_bind (a : α) (f : α → Except ε β) : (Except.ok a >>= f) = f a := rfl

@[simp] theorem error_bind (e : ε) (f : α → Except ε β) : (Except.error e >>= f) = .error e := rfl

@[simp] theorem map_ok_eq (f : α → β) (a : α) : (f <$> (Except.ok a : Except ε α)) = .ok (f a) := rfl

@[simp] theorem map_error_eq (f : α → β) (e : ε) : (f <$> (Except.error e : Except ε α)) = .error e := rfl

@[simp] theorem throw_bind (e : ε) (f : α → Except ε β) : (throw e >>= f) = .error e := rfl

theorem pure_eq_ok (a : α) : (pure a : Except ε α) = .ok a := rfl

theorem throw_eq_error (e : ε) : (throw e : Except ε α) = .error e := rfl

theorem bind_eq_ok_iff {x : Except ε α} {f : α → Except ε β} {b : β} :
    (x >>= f) = .ok b ↔ ∃ a, x = .ok a ∧ f a = .ok b := by
  cases x with
  | error e => exact ⟨(fun h => nomatch h), fun ⟨_, h, _⟩ => nomatch h⟩
  | ok a => exact ⟨fun h => ⟨a, rfl, h⟩, fun ⟨_, h, hf⟩ => Except.ok.inj h ▸ hf⟩

theorem bind_eq_error_iff {x : Except ε α} {f : α → Except ε β} {e : ε} :
    (x >>= f) = .error e ↔ x = .error e ∨ ∃ a, x = .ok a ∧ f a = .error e := by
  cases x with
  | error e' =>
    exact ⟨fun h => .inl (congrArg _ (Except.error.inj h)), fun h => h.elim (fun h => congrArg _ (Except.error.inj h))
      fun ⟨_, h, _⟩ => nomatch h⟩
  | ok a => exact ⟨fun h => .inr ⟨a, rfl, h⟩, fun h => h.elim (fun h => nomatch h) fun ⟨_, h, hf⟩ => Except.ok.inj h ▸ hf⟩

theorem bind_ok {x : Except ε α} {f : α → Except ε β} {b : β} (h : (x >>= f) = .ok b) :
    ∃ a, x = .ok a ∧ f a = .ok b := bind_eq_ok_iff.mp h

theorem bind_closed {ε : Type} {α β : Type} {P : β → Prop} {x : Except ε α} {f : α → Except ε β} {b : β}
    (hf : ∀ a b, f a = .ok b → P b) (h : (x >>= f) = .ok b) : P b :=
  let ⟨a, _, h⟩ := bind_ok h
  hf a b h

theorem map_ok {x : Except ε α} {f : α → β} {b : β} (h : (f <$> x) = .ok b) :
    ∃ a, x = .ok a ∧ f a = b := by
  cases x with
  | error e => cases h
  | ok a => cases h; exact ⟨a, rfl, rfl⟩

end step

namespace AllOps

theorem pure_ok {ε α : Type} {a b : α} (h : (pure a : Except ε α) = .ok b) : a = b := by cases h; rfl

theorem throw_ok {α} {e : Err} {b : α} (h : (throw e : Except Err α) = .ok b) : False := by cases h

end AllOps

section guard
variable {ε : Type u} {α : Type v} {c : Prop} [Decidable c] {e : ε} {x : Except ε α} {a : α}

theorem of_guard (h : (if c then .error e else x) = .ok a) : x = .ok a := by
  split at h
  · cases h
  · exact h

theorem not_of_guard (h : (if c then .error e else x) = .ok a) : ¬ c := by
  split at h
  · cases h
  · assumption

theorem of_ite_ok {y : α} (h : (if c then .ok y else x) = .ok a) : y = a ∨ x = .ok a := by
  split at h
  · cases h; exact Or.inl rfl
  · exact Or.inr h

end guard

section mapM
variable {ε : Type u} {α : Type w} {β γ : Type v} {f : α → Except ε β}

theorem mapM_cons_ok_iff {a : α} {l : List α} {out : List β} :
    (a :: l).mapM f = .ok out ↔ ∃ b bs, f a = .ok b ∧ l.mapM f = .ok bs ∧ out = b :: bs := by
  rw [List.mapM_cons]
  cases f a with
  | error e => exact ⟨(fun h => nomatch h), fun ⟨_, _, h, _⟩ => nomatch h⟩
  | ok b =>
    cases l.mapM f with
    | error e => exact ⟨(fun h => nomatch h), fun ⟨_, _, _, h, _⟩ => nomatch h⟩
    | ok bs =>
      exact ⟨fun h => ⟨b, bs, rfl, rfl, (Except.ok.inj h).symm⟩,
        fun ⟨_, _, hb, hbs, e⟩ => by cases hb; cases hbs; rw [e]; rfl⟩

theorem mapM_ok_iff {l : List α} {r : List β} :
    l.mapM f = .ok r ↔ l.length = r.length ∧ ∀ a b, (a, b) ∈ l.zip r → f a = .ok b := by
  induction l generalizing r with
  | nil =>
    rw [List.mapM_nil]
    exact ⟨fun h => by cases h; simp, fun h => by rw [List.eq_nil_of_length_eq_zero h.1.symm]; rfl⟩
  | cons a l ih =>
    rw [mapM_cons_ok_iff]
    constructor
    · rintro ⟨b, bs, hb, hbs, rfl⟩
      obtain ⟨hlen, hzip⟩ := ih.mp hbs
      refine ⟨congrArg (· + 1) hlen, fun x y hxy => ?_⟩
      rcases List.mem_cons.mp hxy with e | hxy
      · cases e; exact hb
      · exact hzip x y hxy
    · rintro ⟨hlen, hzip⟩
      cases r with
      | nil => cases hlen
      | cons b bs =>
        exact ⟨b, bs, hzip a b List.mem_cons_self,
          ih.mpr ⟨Nat.succ.inj hlen, fun x y hxy => hzip x y (List.mem_cons_of_mem _ hxy)⟩, rfl⟩

variable {l : List α} {out : List β}

theorem mapM_ok_length (h : l.mapM f = .ok out) : out.length = l.length := (mapM_ok_iff.mp h).1.symm

theorem mapM_ok_getElem (h : l.mapM f = .ok out) (i : Nat) (hi : i < l.length) :
    f l[i] = .ok (out[i]'(mapM_ok_length h ▸ hi)) :=
  (mapM_ok_iff.mp h).2 _ _ (List.mem_iff_getElem.mpr ⟨i, by simp [hi, mapM_ok_length h], by simp⟩)

theorem mapM_ok_mem (h : l.mapM f = .ok out) : ∀ b ∈ out, ∃ a ∈ l, f a = .ok b := fun b hb => by
  obtain ⟨i, hi, rfl⟩ := List.getElem_of_mem hb
  exact ⟨l[i]'(mapM_ok_length h ▸ hi), List.getElem_mem _, mapM_ok_getElem h i _⟩

theorem mapM_ok_mem' (h : l.mapM f = .ok out) : ∀ a ∈ l, ∃ b ∈ out, f a = .ok b := fun a ha => by
  obtain ⟨i, hi, rfl⟩ := List.getElem_of_mem ha
  exact ⟨_, List.getElem_mem _, mapM_ok_getElem h i hi⟩

theorem mapM_forall {P : β → Prop} (h : l.mapM f = .ok out) (hf : ∀ a ∈ l, ∀ b, f a = .ok b → P b) :
    ∀ b ∈ out, P b := fun b hb =>
  let ⟨a, ha, hfa⟩ := mapM_ok_mem h b hb
  hf a ha b hfa

theorem mapM_ok_map_eq (h : l.mapM f = .ok out) {P : β → γ} {Q : α → γ}
    (hPQ : ∀ a ∈ l, ∀ b, f a = .ok b → P b = Q a) : out.map P = l.map Q := by
  refine List.ext_getElem (by simp [mapM_ok_length h]) fun i h₁ h₂ => ?_
  rw [List.getElem_map, List.getElem_map]
  exact hPQ _ (List.getElem_mem _) _ (mapM_ok_getElem h i (by simpa using h₂))

theorem mapM_ok_eq_map (h : l.mapM f = .ok out) {g : α → β}
    (hg : ∀ a ∈ l, ∀ b, f a = .ok b → b = g a) : out = l.map g := by
  simpa using mapM_ok_map_eq h (P := id) hg

theorem mapM_ok_of_all {g : α → β} (h : ∀ a ∈ l, f a = .ok (g a)) : l.mapM f = .ok (l.map g) := by
  induction l with
  | nil => rfl
  | cons a l ih =>
    rw [List.mapM_cons, h a List.mem_cons_self, ih fun x hx => h x (List.mem_cons_of_mem _ hx)]
    rfl

theorem mapM_pairwise {R : α → α → Prop} {S : β → β → Prop}
    (hRS : ∀ x y a b, R x y → f x = .ok a → f y = .ok b → S a b) :
    ∀ (l : List α) (out : List β), l.Pairwise R → l.mapM f = .ok out → out.Pairwise S
  | [], out, _, h => by cases h; exact .nil
  | a :: l, out, hp, h => by
    obtain ⟨b, bs, hb, hbs, rfl⟩ := mapM_cons_ok_iff.mp h
    obtain ⟨ha, hp⟩ := List.pairwise_cons.mp hp
    refine List.pairwise_cons.mpr ⟨fun y hy => ?_, mapM_pairwise hRS l bs hp hbs⟩
    obtain ⟨x, hx, hfx⟩ := mapM_ok_mem hbs y hy
    exact hRS a x b y (ha x hx) hb hfx

theorem mapM_flatten_mem {f : α → Except ε (List β)} {out : List (List β)} (h : l.mapM f = .ok out) (y : β) :
    y ∈ out.flatten ↔ ∃ x ∈ l, ∃ ys, f x = .ok ys ∧ y ∈ ys := by
  constructor
  · intro hy
    obtain ⟨ys, hys, hy⟩ := List.mem_flatten.mp hy
    obtain ⟨x, hx, hfx⟩ := mapM_ok_mem h ys hys
    exact ⟨x, hx, ys, hfx, hy⟩
  · rintro ⟨x, hx, ys, hfx, hy⟩
    obtain ⟨ys', hys', hfx'⟩ := mapM_ok_mem' h x hx
    rw [hfx] at hfx'; cases hfx'
    exact List.mem_flatten.mpr ⟨ys, hys', hy⟩

theorem mapM_flatten_mem_of {f : α → Except ε (List β)} {out : List (List β)} {P : α → β → Prop}
    (h : l.mapM f = .ok out) (hf : ∀ x ∈ l, ∀ ys, f x = .ok ys → ∀ y, y ∈ ys ↔ P x y) (y : β) :
    y ∈ out.flatten ↔ ∃ x ∈ l, P x y := by
  rw [mapM_flatten_mem h]
  constructor
  · rintro ⟨x, hx, ys, hys, hy⟩
    exact ⟨x, hx, (hf x hx ys hys y).mp hy⟩
  · rintro ⟨x, hx, hp⟩
    obtain ⟨ys, _, hys⟩ := mapM_ok_mem' h x hx
    exact ⟨x, hx, ys, hys, (hf x hx ys hys y).mpr hp⟩

theorem mapM_ok_iff_of {α β : Type} {f : α → Except Err β} {P : α → Prop} {g : α → β} {l : List α} {out : List β}
    (h : ∀ a ∈ l, ∀ b, f a = .ok b ↔ P a ∧ b = g a) : l.mapM f = .ok out ↔ (∀ a ∈ l, P a) ∧ out = l.map g :=
  ⟨fun h' => ⟨fun a ha => let ⟨b, _, hb⟩ := mapM_ok_mem' h' a ha; ((h a ha b).mp hb).1,
      mapM_ok_eq_map h' fun a ha b hb => ((h a ha b).mp hb).2⟩,
    fun ⟨hP, e⟩ => e ▸ mapM_ok_of_all fun a ha => (h a ha _).mpr ⟨hP a ha, rfl⟩⟩

theorem mapM_congr {g : α → Except ε β} (h : ∀ a ∈ l, f a = g a) : l.mapM f = l.mapM g := by
  induction l with
  | nil => rfl
  | cons a l ih =>
    rw [List.mapM_cons, List.mapM_cons, h a List.mem_cons_self,
      ih fun x hx => h x (List.mem_cons_of_mem _ hx)]

theorem mapM_take_ok : ∀ {l : List α} {ys : List β} (k : Nat), l.mapM f = .ok ys → (l.take k).mapM f = .ok (ys.take k)
  | [], ys, k, h => by rw [List.mapM_nil] at h; cases h; rw [List.take_nil, List.take_nil]; rfl
  | a :: l, ys, 0, _ => rfl
  | a :: l, ys, k + 1, h => by
    obtain ⟨x, xs, hx, hxs, rfl⟩ := mapM_cons_ok_iff.mp h
    rw [List.take_succ_cons, List.take_succ_cons]
    exact mapM_cons_ok_iff.mpr ⟨x, xs.take k, hx, mapM_take_ok k hxs, rfl⟩

theorem mapM_guarded {p : α → Prop} [DecidablePred p] {g : α → β} {e : ε}
    (hf : ∀ a ∈ l, f a = if p a then .ok (g a) else .error e) :
    l.mapM f = if ∀ a ∈ l, p a then .ok (l.map g) else .error e := by
  induction l with
  | nil => rfl
  | cons a l ih =>
    rw [List.mapM_cons, hf a List.mem_cons_self, ih fun x hx => hf x (List.mem_cons_of_mem _ hx)]
    by_cases ha : p a
    · by_cases hl : ∀ x ∈ l, p x
      · rw [if_pos ha, if_pos hl, if_pos (List.forall_mem_cons.mpr ⟨ha, hl⟩)]; rfl
      · rw [if_pos ha, if_neg hl, if_neg fun h => hl (List.forall_mem_cons.mp h).2]; rfl
    · rw [if_neg ha, if_neg fun h => ha (List.forall_mem_cons.mp h).1]; rfl

theorem mapM_error_iff {e : ε} :
    l.mapM f = .error e ↔
      ∃ pre a post, l = pre ++ a :: post ∧ (∀ x ∈ pre, ∃ b, f x = .ok b) ∧ f a = .error e := by
  induction l with
  | nil => exact ⟨(fun h => nomatch h), fun ⟨pre, _, _, h, _⟩ => by cases pre <;> cases h⟩
  | cons a l ih =>
    rw [List.mapM_cons]
    cases hfa : f a with
    | error e' =>
      constructor
      · intro h; cases h; exact ⟨[], a, l, rfl, (fun _ hx => nomatch hx), hfa⟩
      · rintro ⟨pre, x, post, hl, hpre, hx⟩
        cases pre with
        | nil => cases hl; rw [hfa] at hx; cases hx; rfl
        | cons p pre =>
          cases hl
          obtain ⟨b, hb⟩ := hpre _ List.mem_cons_self
          rw [hfa] at hb; cases hb
    | ok b =>
      have hstep : (do let y ← Except.ok b; let ys ← l.mapM f; pure (y :: ys)) = .error e ↔
          l.mapM f = .error e := by
        cases l.mapM f with
        | error e' => exact ⟨fun h => by cases h; rfl, fun h => by cases h; rfl⟩
        | ok ys => exact ⟨(fun h => nomatch h), fun h => nomatch h⟩
      rw [hstep, ih]
      constructor
      · rintro ⟨pre, x, post, rfl, hpre, hx⟩
        exact ⟨a :: pre, x, post, rfl, fun y hy => (List.mem_cons.mp hy).elim (· ▸ ⟨b, hfa⟩) (hpre y), hx⟩
      · rintro ⟨pre, x, post, hl, hpre, hx⟩
        cases pre with
        | nil => cases hl; rw [hfa] at hx; cases hx
        | cons p pre =>
          cases hl
          exact ⟨pre, x, post, rfl, fun y hy => hpre y (List.mem_cons_of_mem _ hy), hx⟩

theorem mapM_error_of_mem {a : α} {e : ε} (ha : a ∈ l) (h : f a = .error e) :
    ∃ e', l.mapM f = .error e' := by
  cases hm : l.mapM f with
  | error e' => exact ⟨e', rfl⟩
  | ok out => obtain ⟨b, -, hb⟩ := mapM_ok_mem' hm a ha; rw [h] at hb; cases hb

theorem mapM_ok_of_forall (h : ∀ a ∈ l, ∃ b, f a = .ok b) : ∃ out, l.mapM f = .ok out := by
  cases hm : l.mapM f with
  | ok out => exact ⟨out, rfl⟩
  | error e =>
    obtain ⟨pre, a, post, rfl, -, ha⟩ := mapM_error_iff.mp hm
    obtain ⟨b, hb⟩ := h a (List.mem_append_right _ List.mem_cons_self)
    rw [hb] at ha; cases ha

theorem mapM_error_of_forall {e : ε} (hall : ∀ a ∈ l, ∀ e', f a = .error e' → e' = e)
    (hex : ∃ a ∈ l, ∃ e', f a = .error e') : l.mapM f = .error e := by
  obtain ⟨a, ha, e₀, h₀⟩ := hex
  obtain ⟨e', he'⟩ := mapM_error_of_mem ha h₀
  obtain ⟨pre, x, post, rfl, -, hx⟩ := mapM_error_iff.mp he'
  rw [he', hall x (by simp) e' hx]

end mapM

theorem foldlM_inv {ε : Type u} {α : Type w} {β : Type v} {f : β → α → Except ε β} (P : β → Prop) {l : List α} {b r : β}
    (h : l.foldlM f b = .ok r) (hb : P b)
    (hstep : ∀ acc a acc', P acc → a ∈ l → f acc a = .ok acc' → P acc') : P r := by
  induction l generalizing b with
  | nil => cases h; exact hb
  | cons a l ih =>
    rw [List.foldlM_cons] at h
    obtain ⟨b', hb', h⟩ := bind_ok h
    exact ih h (hstep b a b' hb List.mem_cons_self hb')
      fun acc x acc' hp hx => hstep acc x acc' hp (List.mem_cons_of_mem _ hx)

theorem eq_foldlM_of_rec {ε : Type u} {σ : Type v} {ο : Type w} {step : σ → ο → Except ε σ} {run : σ → List ο → Except ε σ}
    (hnil : ∀ t, run t [] = .ok t) (hcons : ∀ t op ops, run t (op :: ops) = step t op >>= (run · ops))
    (t : σ) (ops : List ο) : run t ops = ops.foldlM step t := by
  induction ops generalizing t with
  | nil => exact hnil t
  | cons op ops ih => rw [hcons, List.foldlM_cons]; exact congrArg (step t op >>= ·) (funext ih)

section optionMapM
variable {α β γ : Type}

theorem mapM_some_cons {f : α → Option β} {a : α} {t : List α} {r : List β}
    (h : (a :: t).mapM f = some r) : ∃ b bs, f a = some b ∧ t.mapM f = some bs ∧ r = b :: bs := by
  rw [List.mapM_cons] at h
  cases ha : f a <;> cases ht : t.mapM f <;> simp [ha, ht] at h
  exact ⟨_, _, rfl, rfl, h.symm⟩

theorem mapM_some_mem {f : α → Option β} : ∀ {l : List α} {out : List β}, l.mapM f = some out →
    ∀ b ∈ out, ∃ a ∈ l, f a = some b
  | [], out, h, b, hb => by cases h; cases hb
  | a :: t, out, h, x, hx => by
    obtain ⟨b, bs, ha, ht, rfl⟩ := mapM_some_cons h
    rcases List.mem_cons.mp hx with rfl | hx
    · exact ⟨a, List.mem_cons_self, ha⟩
    · obtain ⟨a', ha', hf⟩ := mapM_some_mem ht x hx
      exact ⟨a', List.mem_cons_of_mem _ ha', hf⟩

theorem mapM_some_mem' {f : α → Option β} : ∀ {l : List α} {r : List β}, l.mapM f = some r →
    ∀ a ∈ l, ∃ b, f a = some b
  | a :: t, r, hm, x, hx => by
    obtain ⟨b, bs, ha, ht, rfl⟩ := mapM_some_cons hm
    rcases List.mem_cons.mp hx with rfl | hx
    · exact ⟨b, ha⟩
    · exact mapM_some_mem' ht x hx

theorem mapM_map_pure {m : Type → Type} [Monad m] [LawfulMonad m] (g : β → m γ) (h : α → β)
    (k : α → γ) : ∀ l : List α, (∀ a ∈ l, g (h a) = pure (k a)) → (l.map h).mapM g = pure (l.map k)
  | [], _ => by simp
  | a :: t, H => by
    rw [List.map_cons, List.mapM_cons, H a List.mem_cons_self,
      mapM_map_pure g h k t fun x hx => H x (List.mem_cons_of_mem _ hx)]
    simp

theorem mapM_map_pure_self {m : Type → Type} [Monad m] [LawfulMonad m] (g : β → m α) (h : α → β)
    (l : List α) (H : ∀ a ∈ l, g (h a) = pure a) : (l.map h).mapM g = pure l := by
  simpa using mapM_map_pure g h id l H

theorem mapM_some_imp {m : Type → Type} [Monad m] [LawfulMonad m] {β' : Type} {f : α → Option β}
    {g : α → m β'} {k : β → β'} (H : ∀ a b, f a = some b → g a = pure (k b)) :
    ∀ {l : List α} {r : List β}, l.mapM f = some r → l.mapM g = pure (r.map k)
  | [], r, hm => by cases hm; simp
  | a :: t, r, hm => by
    obtain ⟨b, bs, ha, ht, rfl⟩ := mapM_some_cons hm
    rw [List.mapM_cons, H a b ha, mapM_some_imp H ht]
    simp

theorem mapM_option_of_mapM {ε : Type} {f : α → Except ε β} {g : α → Option β}
    (hfg : ∀ a b, f a = .ok b → g a = some b) : ∀ {l : List α} {r : List β}, l.mapM f = .ok r → l.mapM g = some r
  | [], _, h => by cases h; rfl
  | a :: l, _, h => by
    obtain ⟨b, bs, hb, hbs, rfl⟩ := mapM_cons_ok_iff.mp h
    rw [List.mapM_cons, hfg a b hb, mapM_option_of_mapM hfg hbs]; rfl

end optionMapM

theorem eq_mapM_of_rec {ε : Type u} {α : Type w} {β : Type v} {f : α → Except ε β} {run : List α → Except ε (List β)}
    (hnil : run [] = .ok [])
    (hcons : ∀ a l, run (a :: l) = (f a >>= fun b => run l >>= fun bs => pure (b :: bs))) (l : List α) :
    run l = l.mapM f := by
  induction l with
  | nil => exact hnil
  | cons a l ih => rw [hcons, List.mapM_cons, ih]

theorem smMapE_eq_mapM {α : Type u} {β : Type v} (f : α → Except Err β) (l : List α) : smMapE f l = l.mapM f :=
  eq_mapM_of_rec (run := smMapE f) rfl (fun a l => by
    rw [smMapE]
    cases f a with
    | error e => rfl
    | ok b => cases smMapE f l <;> rfl) l

theorem Blend.mapE_eq_mapM {α : Type u} {β : Type v} (f : α → Except Err β) (l : List α) :
    Blend.mapE f l = l.mapM f :=
  eq_mapM_of_rec (run := Blend.mapE f) rfl (fun a l => by
    rw [Blend.mapE]
    cases f a with
    | error e => rfl
    | ok b => cases Blend.mapE f l <;> rfl) l

theorem Resample.mapMExcept_eq_mapM {α : Type u} {β : Type v} (f : α → Except Err β) (l : List α) :
    Resample.mapMExcept f l = l.mapM f :=
  eq_mapM_of_rec (run := Resample.mapMExcept f) rfl (fun a l => by
    rw [Resample.mapMExcept]
    cases f a with
    | error e => rfl
    | ok b => cases Resample.mapMExcept f l <;> rfl) l

theorem smFoldE_eq_foldlM {α : Type u} {β : Type v} (f : β → α → Except Err β) (b : β) (l : List α) :
    smFoldE f b l = l.foldlM f b :=
  eq_foldlM_of_rec (run := smFoldE f) (fun _ => rfl) (fun b a l => by rw [smFoldE]; cases f b a <;> rfl) b l

theorem smFoldE_cons_ok {α : Type u} {β : Type v} {f : β → α → Except Err β} {b r : β} {a : α} {l : List α}
    (h : smFoldE f b (a :: l) = .ok r) : ∃ b', f b a = .ok b' ∧ smFoldE f b' l = .ok r := by
  simp only [smFoldE] at h
  split at h
  · cases h
  · rename_i b' hb'; exact ⟨b', hb', h⟩

/-- `r = .ok x` as a Boolean (for `decide +kernel` on concrete data) -/
def Codec.okIs {α} [DecidableEq α] (r : Except Err α) (x : α) : Bool :=
  match r with
  | .ok y => decide (y = x)
  | .error _ => false

theorem Codec.of_okIs {α} [DecidableEq α] {r : Except Err α} {x : α} (h : okIs r x = true) : r = .ok x := by
  unfold okIs at h
  split at h
  · rename_i y; rw [of_decide_eq_true h]
  · cases h

end Bermuda
