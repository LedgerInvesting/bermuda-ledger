/-
C15: when the two right-hand operators return. On a cumulative (`Cell` / `CumulativeCell`) input they succeed as soon as no
constructor call raises. On an incremental input the common tail (`to_incremental` of the new cells, then
`_fix_prev_evaluation_date`) is one equation (`finishRight_inc_eq`: the new cells, linked, or `ValueError`), so it returns
when every new cell lies after the observations of its row and raises when one does not; `rightDiag_inc_setup`,
`rightTri_inc_setup` say what the operators hand to the tail on a complete `IncrementalCell` triangle.
-/
import Bermuda.Lemmas.ExtendNodup
import Bermuda.Properties.C04
namespace Bermuda.Extend

theorem rightDiagonalSlice_total {dates : List Date} {hist : Bool} {s : List Cell} (hk : kindsConsistent s = true)
    (hdates : ∀ e ∈ s, ∀ d ∈ dates, e.ps ≤ d → (emptyCell e d).datesOk = true) :
    ∃ ys, rightDiagonalSlice dates hist s = .ok ys := by
  obtain ⟨edge, hedge⟩ := Triangle.rightEdge_isOk hk
  unfold rightDiagonalSlice
  simp only [hedge, ok_bind]
  apply mapM_ok_of_forall
  intro q hq
  obtain ⟨h1, h2, h3⟩ := mem_diagPairs.mp hq
  have hd : q.2 ∈ dates := (diagDatesOf_sublist dates hist s).subset h2
  exact ⟨emptyCell q.1 q.2, Cell.mk?_of_datesOk (hdates q.1 (Triangle.rightEdge_latest hedge h1).1 q.2 hd h3)⟩

theorem rightTriangleSlice_total {lags : Option (List Rat)} {u : LagUnit} (hu : u ≠ .timedelta) {s : List Cell}
    (hk : kindsConsistent s = true)
    (hcells : ∀ e ∈ s, ∀ l ∈ lagListOf lags u s, l > e.devLag u → ∀ ev, addDevLag e.pe l u = .ok ev →
      (emptyCell e ev).datesOk = true) :
    ∃ ys, rightTriangleSlice lags u s = .ok ys := by
  obtain ⟨edge, hedge⟩ := Triangle.rightEdge_isOk hk
  unfold rightTriangleSlice
  have hnt : (u == LagUnit.timedelta) = false := by
    cases u
    · rfl
    · rfl
    · exact absurd rfl hu
  simp only [hedge, hnt, Bool.false_and, Bool.false_eq_true, if_false, ok_bind]
  apply mapM_ok_of_forall
  intro q hq
  obtain ⟨h1, h2, h3⟩ := mem_rightPairs.mp hq
  obtain ⟨ev, hev⟩ := addDevLag_total hu q.2.pe q.1
  exact ⟨emptyCell q.2 ev, rightCellOf_ok.mpr ⟨ev, hev, rfl, hcells q.2 (Triangle.rightEdge_latest hedge h2).1 q.1 h1 h3 ev hev⟩⟩

/-- what the incremental tail needs of the new cells -/
structure NewCellsOk (t new : List Cell) : Prop where
  empties : ∀ n ∈ new, n.kind = .cumulative ∧ n.values = [] ∧ n.prev = none
  datesOk : ∀ n ∈ new, n.datesOk = true
  psValid : ∀ n ∈ new, n.ps.valid = true
  canon : ∀ n ∈ new, n.md.Canon
  keys : (new.map ckey).Nodup
  rows : ∀ n ∈ new, ∃ x ∈ t, rowKey x = rowKey n

/-- the stages of `finishRight` on an incremental input up to `to_incremental` return, whatever the position of the new
cells relative to the observations: the new cells form a well-formed cumulative triangle (C04 `toCum_toInc`) -/
theorem finishRight_stages_inc {t new : List Cell} (hN : NewCellsOk t new) :
    ∃ right u, Triangle.ofCells new = .ok right ∧ Triangle.isIncremental right = false ∧
      Triangle.toIncremental right = .ok u ∧ ∀ d ∈ u, d.datesOk = true := by
  obtain ⟨right, hright⟩ := Triangle.ofCells_isOk.mpr (kindsConsistent_of_all fun n hn => (hN.empties n hn).1)
  have hperm := Triangle.ofCells_perm hright
  have hmem : ∀ c ∈ right, c ∈ new := fun c hc => hperm.mem_iff.mp hc
  have hwf : Properties.C04.WFcum right := by
    refine ⟨?_, ?_, fun c hc => hN.datesOk c (hmem c hc), fun c hc => hN.psValid c (hmem c hc), ?_, ?_⟩
    · have hkeys : (right.map ckey).Nodup := (hperm.map ckey).nodup_iff.mpr hN.keys
      exact pairwise_lt_of_sorted_nodup (cmp := Cell.cmp) (fun a ha b hb e => inj_of_nodup_map hkeys ha hb
        (ckey_of_cmp_eq (hN.canon a (hmem a ha)) (hN.canon b (hmem b hb)) e))
        (Triangle.ofCells_sorted hright) (List.Nodup.of_map ckey hkeys)
    · intro c hc; rw [(hN.empties c (hmem c hc)).1]; simp
    · intro a ha b hb _
      rw [(hN.empties a (hmem a ha)).2.1, (hN.empties b (hmem b hb)).2.1]; rfl
    · intro a ha b hb _
      rw [(hN.empties b (hmem b hb)).2.1]
      intro kv hkv; cases hkv
  obtain ⟨u, hu, _⟩ := Properties.C04.toCum_toInc hwf
  have hni : Triangle.isIncremental right = false :=
    not_isIncremental_of_all (fun c hc => by rw [(hN.empties c (hmem c hc)).1]; simp)
  exact ⟨right, u, hright, hni, hu, fun d hd => ((toIncremental_cells hni hu).1 d hd).2⟩

theorem finishRight_inc_eq {t new : List Cell} (hinc : Triangle.isIncremental t = true)
    (hk : kindsConsistent t = true) (hN : NewCellsOk t new) :
    finishRight t new =
      if ∀ n ∈ new, (linked t new n).datesOk = true then Triangle.ofCells (new.map (linked t new))
      else .error .valueError := by
  obtain ⟨right, u, hright, hni, hu, hudates⟩ := finishRight_stages_inc hN
  obtain ⟨obs, hobs⟩ := Triangle.rightEdge_isOk hk
  have hperm := Triangle.ofCells_perm hright
  have hv : ∀ c ∈ right, c.values = [] := fun c hc => (hN.empties c (hperm.mem_iff.mp hc)).2.1
  obtain ⟨hincF, hs⟩ := toIncremental_empty hni hv hu
  have htail := tail_perm hperm hobs hv (fun n hn => hN.rows n (hperm.mem_iff.mp hn)) hincF hs
  -- the cells `_fix_prev_evaluation_date` leaves alone passed the constructor in `to_incremental`: only the re-linked ones
  -- are in question
  have hcond : (∀ y ∈ fixedCells obs u, y.datesOk = true) ↔ ∀ n ∈ new, (linked t new n).datesOk = true := by
    constructor
    · intro h n hn
      rcases List.mem_append.mp (htail.mem_iff.mpr (List.mem_map_of_mem hn)) with h1 | h2
      · exact hudates _ (List.mem_filter.mp h1).1
      · exact h _ h2
    · intro h y hy
      obtain ⟨n, hn, rfl⟩ := List.mem_map.mp (htail.mem_iff.mp (List.mem_append_right _ hy))
      exact h n hn
  rw [finishRight_of_inc hinc hright hu, fixPrev_eq hobs, if_congr hcond rfl rfl]
  split
  · -- the order of the linked cells is strict, so `Triangle(...)` does not see the arrangement
    refine Triangle.ofCells_congr_perm htail fun a b ha hb e => ?_
    obtain ⟨n1, hn1, rfl⟩ := List.mem_map.mp (htail.mem_iff.mp ha)
    obtain ⟨n2, hn2, rfl⟩ := List.mem_map.mp (htail.mem_iff.mp hb)
    rw [inj_of_nodup_map hN.keys hn1 hn2 (ckey_of_cmp_eq (a := linked t new n1) (b := linked t new n2)
      (hN.canon n1 hn1) (hN.canon n2 hn2) e)]
  · rfl

theorem finishRight_total_inc {t new : List Cell} (hinc : Triangle.isIncremental t = true)
    (hk : kindsConsistent t = true) (hN : NewCellsOk t new)
    (hafter : ∀ n ∈ new, ∀ e ∈ t, rowKey e = rowKey n → e.ev < n.ev) :
    ∃ out, finishRight t new = .ok out := by
  rw [finishRight_inc_eq hinc hk hN, if_pos fun n hn =>
    (linked_datesOk (hN.empties n hn).1 (hN.empties n hn).2.2 (hN.datesOk n hn)).mpr
      (prevOf_lt (hN.rows n hn) (hafter n hn))]
  exact Triangle.ofCells_isOk.mpr (kindsConsistent_of_all (k := .incremental) fun c hc => by
    obtain ⟨n, _, rfl⟩ := List.mem_map.mp hc; rfl)

/-- the tail raises `ValueError` when a new cell lies at or before an observation of its row -/
theorem finishRight_error_inc {t new : List Cell} (hinc : Triangle.isIncremental t = true)
    (hk : kindsConsistent t = true) (hN : NewCellsOk t new)
    {n x : Cell} (hn : n ∈ new) (hx : x ∈ t) (hrow : rowKey x = rowKey n) (hnot : ¬ x.ev < n.ev) :
    finishRight t new = .error .valueError := by
  rw [finishRight_inc_eq hinc hk hN, if_neg]
  intro hall
  -- the earliest new cell `n0` of the row is linked to the row's latest observation, which is not before `x`
  have hnr : n ∈ Spec.C15.rowOf new n := mem_rowOf.mpr ⟨hn, rfl⟩
  obtain ⟨m, _, ⟨n0, hn0, rfl⟩, hmin⟩ := minEval_of_mem hnr
  obtain ⟨hn0n, hk0⟩ := mem_rowOf.mp hn0
  obtain ⟨p, hp, hlt⟩ := (linked_datesOk (hN.empties n0 hn0n).1 (hN.empties n0 hn0n).2.2 (hN.datesOk n0 hn0n)).mp
    (hall n0 hn0n)
  unfold prevOf at hp
  rw [List.filter_eq_nil_iff.mpr fun o ho => by
    simpa using DateOrder.not_lt.mpr (hmin o (rowOf_congr hk0 ▸ ho))] at hp
  obtain ⟨⟨o, _, rfl⟩, hmax⟩ := maxEval_spec (show maxEval (Spec.C15.rowOf t n0) = some p from hp)
  exact hnot (DateOrder.lt_of_le_of_lt (hmax x (mem_rowOf.mpr ⟨hx, hk0.symm.trans hrow.symm⟩))
    (DateOrder.lt_of_lt_of_le hlt (hmin n hnr)))

theorem EdgeFn.inc_setup {f : List Cell → Except Err (List Cell)} (hf : EdgeFn f) {t cum : List Cell}
    (hC : Properties.C04.Complete t) (hinc : Triangle.isIncremental t = true) (hcanon : ∀ c ∈ t, c.md.Canon)
    (hcum : Triangle.toCumulative t = .ok cum) (hs : ∀ p ∈ Triangle.slices cum, ∃ ys, f p.2 = .ok ys)
    (hb : ∀ p ∈ Triangle.slices cum, ∀ ys, f p.2 = .ok ys → (ys.map ckey).Nodup) :
    ∃ new, overSlices f cum = .ok new ∧ NewCellsOk t new := by
  obtain ⟨new, hnew⟩ := overSlices_total hs
  have hsrc := hf.rows_obs (.inr ⟨hinc, hcum⟩) hnew
  refine ⟨new, hnew, hf.empties hnew, fun n hn => (hf.cell hnew hn).1, fun n hn => ?_, fun n hn => ?_,
    hf.keys_nodup hnew hb, hsrc⟩ <;> obtain ⟨x, hx, hxk⟩ := hsrc n hn
  · rw [← ps_of_rowKey hxk]; exact hC.1.psValid x hx
  · rw [← md_of_rowKey hxk]; exact hcanon x hx

theorem cum_kinds {t cum : List Cell} (hinc : Triangle.isIncremental t = true) (hcum : Triangle.toCumulative t = .ok cum) :
    kindsConsistent cum = true :=
  kindsConsistent_of_all fun c hc => ((toCumulative_grid hinc hcum).1 c hc).1

/-- `make_right_diagonal` on a complete incremental triangle up to the common tail: the cumulative form, the new cells
and what the tail needs to know about them -/
theorem rightDiag_inc_setup {t : List Cell} {dates : List Date} {hist : Bool} (hC : Properties.C04.Complete t)
    (hinc : Triangle.isIncremental t = true) (hcanon : ∀ c ∈ t, c.md.Canon) (hd : dates.Nodup)
    (hdates : ∀ e ∈ t, ∀ d ∈ dates, e.ps ≤ d → (emptyCell e d).datesOk = true) :
    ∃ cum new, Triangle.toCumulative t = .ok cum ∧ rightDiagonalCells cum dates hist = .ok new ∧
      CoordsAre new (DiagAsked t dates hist) ∧ NewCellsOk t new := by
  obtain ⟨cum, hcum, _⟩ := Properties.C04.toInc_toCum hC
  have hg := CumOf.sameGrid (.inr ⟨hinc, hcum⟩)
  obtain ⟨new, hnew, hN⟩ := (edgeFn_rightDiagonalSlice dates hist).inc_setup hC hinc hcanon hcum
    (fun p hp => rightDiagonalSlice_total (slice_kindsConsistent (cum_kinds hinc hcum) hp) fun e he d hdd hle => by
      obtain ⟨x, hx, hxk, _⟩ := hg.1 e (mem_of_mem_slices hp he)
      rw [emptyCell_congr hxk d]
      exact hdates x hx d hdd (by rw [ps_of_rowKey hxk]; exact hle))
    fun _ _ _ hys => rightDiagonalSlice_keys_nodup hd hys
  exact ⟨cum, new, hcum, hnew,
    rightDiag_new_asked hg ((edgeFn_rightDiagonalSlice dates hist).edges hnew) (rightDiagonalCells_mem hnew), hN⟩

/-- `cum` is given, not produced as in `rightDiag_inc_setup`, because the hypothesis `LagInj cum` speaks of it -/
theorem rightTri_inc_setup {t cum : List Cell} {lags : Option (List Rat)} {u : LagUnit}
    (hu : u ≠ .timedelta) (hC : Properties.C04.Complete t)
    (hinc : Triangle.isIncremental t = true) (hcanon : ∀ c ∈ t, c.md.Canon)
    (hcum : Triangle.toCumulative t = .ok cum) (hinj : LagInj cum lags u) (hnd : ∀ l, lags = some l → l.Nodup)
    (hcells : ∀ e ∈ t, ∀ l ∈ Spec.C15.lagSetOf t lags u e, l > e.devLag u → ∀ ev, addDevLag e.pe l u = .ok ev →
      (emptyCell e ev).datesOk = true) :
    ∃ new, rightTriangleCells cum lags (some u) = .ok new ∧ CoordsAre new (TriAsked t lags u) ∧
      NewCellsOk t new := by
  have hg := CumOf.sameGrid (.inr ⟨hinc, hcum⟩)
  obtain ⟨new, hnew, hN⟩ := (edgeFn_rightTriangleSlice lags u).inc_setup hC hinc hcanon hcum
    (fun p hp => rightTriangleSlice_total hu (slice_kindsConsistent (cum_kinds hinc hcum) hp)
      fun e he l hl hgt ev hev => by
        obtain ⟨x, hx, hxk, hxe⟩ := hg.1 e (mem_of_mem_slices hp he)
        rw [emptyCell_congr hxk]
        exact hcells x hx l
          ((lagList_iff_lagSet hg hp ((md_of_rowKey hxk).trans ((Triangle.mem_slice_iff hp e).mp he).2) l).mp hl)
          (by rw [devLag_of_row hxk hxe u]; exact hgt) ev (by rw [pe_of_rowKey hxk]; exact hev))
    fun _ hp _ hys => rightTriangleSlice_keys_nodup hinj hnd hp hys
  exact ⟨new, hnew,
    rightTri_new_asked hg ((edgeFn_rightTriangleSlice lags u).edges hnew) (rightTriangleCells_mem hnew), hN⟩

/-- `make_right_triangle` on a complete incremental triangle with canonical metadata returns, for any unit whose date
arithmetic on the cumulative form is monotone (`hmono`) and injective (`LagInj`) beyond a cell's lag, as soon as no
`CumulativeCell(...)` call raises -/
theorem makeRightTriangle_total_inc_u {t cum : List Cell} {lags : Option (List Rat)} {u : LagUnit}
    (hu : u ≠ .timedelta) (hC : Properties.C04.Complete t)
    (hinc : Triangle.isIncremental t = true) (hcanon : ∀ c ∈ t, c.md.Canon)
    (hcum : Triangle.toCumulative t = .ok cum)
    (hmono : Properties.C15.LagMonotone cum lags u)
    (hinj : LagInj cum lags u) (hnd : ∀ l, lags = some l → l.Nodup)
    (hcells : ∀ e ∈ t, ∀ l ∈ Spec.C15.lagSetOf t lags u e, l > e.devLag u → ∀ ev, addDevLag e.pe l u = .ok ev →
      (emptyCell e ev).datesOk = true) :
    ∃ out, makeRightTriangleU t lags (some u) = .ok out := by
  obtain ⟨new, hnew, hasked, hN⟩ := rightTri_inc_setup hu hC hinc hcanon hcum hinj hnd hcells
  obtain ⟨out, hout⟩ := finishRight_total_inc hinc (kindsConsistent_of_all hC.1.isInc) hN
    (fun n hn e' he' hk => by
      -- the new cell lies after the latest observation of its row
      obtain ⟨x, hnx, hA⟩ := hasked.1 n hn
      exact DateOrder.lt_of_le_of_lt (hA.2.1 e' he' (hk.trans hnx))
        (lagAfter_of_grid (CumOf.sameGrid (.inr ⟨hinc, hcum⟩)) hmono hA))
  exact ⟨out, (rightOp_of (.inr ⟨hinc, hcum⟩) hnew).trans hout⟩

end Bermuda.Extend
