/-
Lemmas for `Model/Basis.lean` (C04): exact arithmetic on values and value dicts, well-formed rows, and the
equations of one step of the two row loops.
-/
import Bermuda.Model.Basis
import Bermuda.Lemmas.Ops
import Bermuda.Lemmas.ExceptFacts
namespace Bermuda

/-- Python kind, dtype, shape and size of a value -/
inductive VTy where
  | int | flt | arr (isInt : Bool) (shape : List Nat) (n : Nat)
deriving DecidableEq, Repr

def Val.ty? : Val → Option VTy
  | .none => Option.none
  | .int _ => some .int
  | .flt _ => some .flt
  | .arr i s d => some (.arr i s d.length)

theorem zipWith_add_sub (d d' : List Rat) (h : d.length = d'.length) :
    List.zipWith (· + ·) d (List.zipWith (· - ·) d' d) = d' := by
  refine List.ext_getElem (by simp [h]) fun i _ _ => ?_
  simp only [List.getElem_zipWith]; grind

theorem zipWith_sub_add (d x : List Rat) (h : d.length = x.length) :
    List.zipWith (· - ·) (List.zipWith (· + ·) d x) d = x := by
  refine List.ext_getElem (by simp [h]) fun i _ _ => ?_
  simp only [List.getElem_zipWith]; grind

theorem Val.ty?_inv {a : Val} {τ : VTy} (h : a.ty? = some τ) :
    match τ with
    | .int => ∃ i, a = .int i
    | .flt => ∃ q, a = .flt q
    | .arr i s n => ∃ d, a = .arr i s d ∧ d.length = n := by
  cases a <;> simp only [Val.ty?, Option.some.injEq, reduceCtorEq] at h <;> subst h
  · exact ⟨_, rfl⟩
  · exact ⟨_, rfl⟩
  · exact ⟨_, rfl, rfl⟩

/-- `(b - a)` exists, has the common type, and `a + (b - a) = b` exactly (kind, dtype, shape, data) -/
theorem Val.sub_add {a b : Val} {τ : VTy} (ha : a.ty? = some τ) (hb : b.ty? = some τ) :
    ∃ x, Val.pySub b a = .ok x ∧ x.ty? = some τ ∧ Val.pyAdd a x = .ok b := by
  have ia := Val.ty?_inv ha
  have ib := Val.ty?_inv hb
  cases τ with
  | int =>
    obtain ⟨i, rfl⟩ := ia; obtain ⟨j, rfl⟩ := ib
    exact ⟨.int (j - i), rfl, rfl, congrArg (fun z => Except.ok (Val.int z)) (show i + (j - i) = j by omega)⟩
  | flt =>
    obtain ⟨p, rfl⟩ := ia; obtain ⟨q, rfl⟩ := ib
    exact ⟨.flt (q - p), rfl, rfl, congrArg (fun z => Except.ok (Val.flt z)) (show p + (q - p) = q by grind)⟩
  | arr i s n =>
    obtain ⟨d, rfl, hd⟩ := ia; obtain ⟨d', rfl, hd'⟩ := ib
    refine ⟨.arr i s (List.zipWith (· - ·) d' d), by simp [Val.pySub, Val.arith], ?_, ?_⟩
    · simp [Val.ty?]; omega
    · simp [Val.pyAdd, Val.arith]; exact zipWith_add_sub d d' (hd.trans hd'.symm)

/-- `a + x` exists, has the common type, and `(a + x) - a = x` exactly -/
theorem Val.add_sub {a x : Val} {τ : VTy} (ha : a.ty? = some τ) (hx : x.ty? = some τ) :
    ∃ b, Val.pyAdd a x = .ok b ∧ b.ty? = some τ ∧ Val.pySub b a = .ok x := by
  have ia := Val.ty?_inv ha
  have ix := Val.ty?_inv hx
  cases τ with
  | int =>
    obtain ⟨i, rfl⟩ := ia; obtain ⟨j, rfl⟩ := ix
    exact ⟨.int (i + j), rfl, rfl, congrArg (fun z => Except.ok (Val.int z)) (show i + j - i = j by omega)⟩
  | flt =>
    obtain ⟨p, rfl⟩ := ia; obtain ⟨q, rfl⟩ := ix
    exact ⟨.flt (p + q), rfl, rfl, congrArg (fun z => Except.ok (Val.flt z)) (show p + q - p = q by grind)⟩
  | arr i s n =>
    obtain ⟨d, rfl, hd⟩ := ia; obtain ⟨d', rfl, hd'⟩ := ix
    refine ⟨.arr i s (List.zipWith (· + ·) d d'), by simp [Val.pyAdd, Val.arith], ?_, ?_⟩
    · simp [Val.ty?]; omega
    · simp [Val.pySub, Val.arith]; exact zipWith_sub_add d d' (hd.trans hd'.symm)

/-- one entry of `_values_diff` (`op a b = b - a`) or `_values_add` (`op a b = a + b`) against the base dict `p` -/
def entryE (op : Val → Val → Except Err Val) (p : Dict Val) (kv : String × Val) : Except Err (String × Val) :=
  if kv.1 == staticField then .ok kv
  else (op (p.getD' kv.1) kv.2).map fun v => (kv.1, v)

theorem valuesDiff_eq (prev next : Dict Val) : valuesDiff prev next =
    if sameKeys prev next then next.mapM (entryE (fun a b => Val.pySub b a) prev) else .error .triangleError := rfl

theorem valuesAdd_eq (cur next : Dict Val) : valuesAdd cur next =
    if sameKeys cur next then next.mapM (entryE Val.pyAdd cur) else .error .triangleError := rfl

theorem entryE_inv {op : Val → Val → Except Err Val} {p : Dict Val} {e e' : String × Val}
    (h : entryE op p e = .ok e') :
    e'.1 = e.1 ∧ (e'.1 = staticField → e' = e) ∧ (e'.1 ≠ staticField → op (p.getD' e'.1) e.2 = .ok e'.2) := by
  unfold entryE at h
  split at h
  · rename_i hs
    cases h
    exact ⟨rfl, fun _ => rfl, fun hne => absurd (by simpa using hs) hne⟩
  · rename_i hs
    cases hop : op (p.getD' e.1) e.2 with
    | error err => rw [hop] at h; cases h
    | ok w =>
      rw [hop] at h
      cases h
      exact ⟨rfl, fun h => absurd h (by simpa using hs), fun _ => hop⟩

/-- every non-static entry of `b` has a partner of the same type under the same key in `a` -/
def DictCompat (a b : Dict Val) : Prop :=
  ∀ kv ∈ b, kv.1 ≠ staticField → ∃ τ, (a.getD' kv.1).ty? = some τ ∧ kv.2.ty? = some τ

theorem DictCompat.tail {p : Dict Val} {kv : String × Val} {l : Dict Val}
    (h : DictCompat p (kv :: l)) : DictCompat p l := fun e he => h e (List.mem_cons_of_mem _ he)

theorem Dict.getD'_cons (kv : String × Val) (l : Dict Val) (k : String) :
    Dict.getD' (kv :: l) k = if kv.1 == k then kv.2 else Dict.getD' l k := by
  unfold Dict.getD' Dict.get?
  simp only [List.find?_cons]
  split <;> simp_all

def TyEq (a b : Dict Val) : Prop := ∀ k, k ≠ staticField → (a.getD' k).ty? = (b.getD' k).ty?

theorem entries_inv {F G : Val → Val → Except Err Val}
    (hFG : ∀ {a b : Val} {τ : VTy}, a.ty? = some τ → b.ty? = some τ →
      ∃ x, F a b = .ok x ∧ x.ty? = some τ ∧ G a x = .ok b) (p : Dict Val) :
    ∀ (l : Dict Val), DictCompat p l →
      ∃ l', l.mapM (entryE F p) = .ok l' ∧ l'.map (·.1) = l.map (·.1) ∧ l'.mapM (entryE G p) = .ok l ∧ TyEq l' l
  | [], _ => ⟨[], rfl, rfl, rfl, fun _ _ => rfl⟩
  | kv :: l, h => by
    obtain ⟨l', h1, h2, h3, h4⟩ := entries_inv hFG p l h.tail
    by_cases hs : kv.1 = staticField
    · refine ⟨kv :: l', mapM_cons_ok_iff.mpr ⟨_, _, by simp [entryE, hs], h1, rfl⟩, by simp [h2],
        mapM_cons_ok_iff.mpr ⟨_, _, by simp [entryE, hs], h3, rfl⟩, ?_⟩
      intro k hk
      rw [Dict.getD'_cons, Dict.getD'_cons]
      split
      · rfl
      · exact h4 k hk
    · obtain ⟨τ, ha, hb⟩ := h kv (by simp) hs
      obtain ⟨x, hx1, hx2, hx3⟩ := hFG ha hb
      refine ⟨(kv.1, x) :: l', mapM_cons_ok_iff.mpr ⟨_, _, by simp [entryE, hs, hx1, Except.map], h1, rfl⟩, by simp [h2],
        mapM_cons_ok_iff.mpr ⟨_, _, by simp [entryE, hs, hx3, Except.map], h3, rfl⟩, ?_⟩
      intro k hk
      rw [Dict.getD'_cons, Dict.getD'_cons]
      split
      · simp [hx2, hb]
      · exact h4 k hk

theorem contains_eq_of_keys {a b : Dict Val} (h : a.map (·.1) = b.map (·.1)) (k : String) :
    Dict.contains a k = Dict.contains b k := by
  have : ∀ d : Dict Val, Dict.contains d k = (d.map (·.1)).any (· == k) := by
    intro d; simp [Dict.contains, List.any_map]; rfl
  rw [this a, this b, h]

theorem sameKeys_congr {a a' b b' : Dict Val} (ha : a.map (·.1) = a'.map (·.1))
    (hb : b.map (·.1) = b'.map (·.1)) : sameKeys a b = sameKeys a' b' := by
  unfold sameKeys Dict.keys
  rw [ha, hb]
  congr 1
  · congr 1; funext k; exact contains_eq_of_keys hb k
  · congr 1; funext k; exact contains_eq_of_keys ha k

theorem sameKeys_self (a : Dict Val) : sameKeys a a = true := by
  unfold sameKeys Dict.keys Dict.contains
  simp only [Bool.and_self, List.all_eq_true, List.any_eq_true]
  intro k hk
  obtain ⟨kv, hkv, rfl⟩ := List.mem_map.mp hk
  exact ⟨kv, hkv, by simp⟩

/-- `_values_diff` then `_values_add` on the same base: `prev + (next − prev) = next` -/
theorem valuesDiff_add {p n : Dict Val} (hk : sameKeys p n = true) (hc : DictCompat p n) :
    ∃ x, valuesDiff p n = .ok x ∧ valuesAdd p x = .ok n := by
  obtain ⟨x, h1, h2, h3, -⟩ := entries_inv Val.sub_add p n hc
  refine ⟨x, by rw [valuesDiff_eq, hk]; simpa using h1, ?_⟩
  rw [valuesAdd_eq, sameKeys_congr (a' := p) rfl h2, hk]; simpa using h3

/-- `_values_add` then `_values_diff` on the same base: `(cur + x) − cur = x` -/
theorem valuesAdd_diff {p x : Dict Val} (hk : sameKeys p x = true) (hc : DictCompat p x) :
    ∃ v, valuesAdd p x = .ok v ∧ valuesDiff p v = .ok x ∧ v.map (·.1) = x.map (·.1) ∧ TyEq v x := by
  obtain ⟨v, h1, h2, h3, h4⟩ := entries_inv Val.add_sub p x hc
  refine ⟨v, by rw [valuesAdd_eq, hk]; simpa using h1, ?_, h2, h4⟩
  rw [valuesDiff_eq, sameKeys_congr (a' := p) rfl h2, hk]; simpa using h3

theorem valuesAdd_keys {a b v : Dict Val} (h : valuesAdd a b = .ok v) : v.map (·.1) = b.map (·.1) := by
  rw [valuesAdd_eq] at h
  split at h
  · exact mapM_ok_map_eq h fun _ _ _ hy => (entryE_inv hy).1
  · cases h

/-- inversion of `_values_diff`: same key list as `next`, static entries copied, every other entry is
`next[k] - prev[k]` -/
theorem valuesDiff_inv {p n x : Dict Val} (h : valuesDiff p n = .ok x) :
    sameKeys p n = true ∧ x.map (·.1) = n.map (·.1) ∧
    ∀ kv ∈ x, (kv.1 = staticField → kv ∈ n) ∧
      (kv.1 ≠ staticField → ∃ v, (kv.1, v) ∈ n ∧ Val.pySub v (p.getD' kv.1) = .ok kv.2) := by
  rw [valuesDiff_eq] at h
  split at h
  · rename_i hs
    refine ⟨hs, mapM_ok_map_eq h fun e _ e' he => (entryE_inv he).1, fun kv hkv => ?_⟩
    obtain ⟨e, hen, he⟩ := mapM_ok_mem h kv hkv
    obtain ⟨h1, h2, h3⟩ := entryE_inv he
    exact ⟨fun hs => h2 hs ▸ hen, fun hns => ⟨e.2, h1 ▸ hen, h3 hns⟩⟩
  · cases h

theorem valuesDiff_of_mismatch {p n : Dict Val} (h : sameKeys p n = false) :
    valuesDiff p n = .error .triangleError := by simp [valuesDiff, h]

theorem valuesAdd_of_mismatch {p n : Dict Val} (h : sameKeys p n = false) :
    valuesAdd p n = .error .triangleError := by simp [valuesAdd, h]

/-- the cells the row loops build in row `k` -/
abbrev cumAt (k : RowKey) (ev : Date) (v : Dict Val) : Cell :=
  { kind := .cumulative, ps := k.1.1, pe := k.1.2, ev := ev, md := k.2, values := v }

abbrev incAt (k : RowKey) (prev ev : Date) (v : Dict Val) : Cell :=
  { kind := .incremental, ps := k.1.1, pe := k.1.2, prev := some prev, ev := ev, md := k.2, values := v }

/-- the `CumulativeCell` rebuilt by `to_cumulative` at the place of `c` in row `k` -/
def cumOf (k : RowKey) (c : Cell) : Cell := cumAt k c.ev c.values

/-- a well-formed row of a cumulative (`Cell`/`CumulativeCell`) triangle -/
structure CumRow (k : RowKey) (row : List Cell) : Prop where
  key : ∀ c ∈ row, rowKey c = k
  dates : ∀ c ∈ row, c.datesOk = true
  notInc : ∀ c ∈ row, c.kind ≠ .incremental
  evs : row.Pairwise (fun a b => a.ev < b.ev)
  keys : row.Pairwise (fun a b => sameKeys a.values b.values = true)
  compat : row.Pairwise (fun a b => DictCompat a.values b.values)

/-- the chain of previous evaluation dates: every cell links to the evaluation date before it -/
def ChainFrom : Date → List Cell → Prop
  | _, [] => True
  | d, c :: rest => c.prev = some d ∧ ChainFrom c.ev rest

/-- a row of an incremental triangle whose cells are mutually consistent -/
structure IncRow (k : RowKey) (row : List Cell) : Prop where
  key : ∀ c ∈ row, rowKey c = k
  dates : ∀ c ∈ row, c.datesOk = true
  isInc : ∀ c ∈ row, c.kind = .incremental
  keys : row.Pairwise (fun a b => sameKeys a.values b.values = true)
  compat : row.Pairwise (fun a b => DictCompat a.values b.values)

theorem prev_none_of_notInc {c : Cell} (h : c.datesOk = true) (hk : c.kind ≠ .incremental) :
    c.prev = none :=
  Option.not_isSome_iff_eq_none.mp fun hs => hk ((Cell.datesOk_iff.mp h).2.2.2.1.mpr hs)

theorem prev_lt_ev {c : Cell} {p : Date} (hd : c.datesOk = true) (hp : c.prev = some p) : p < c.ev :=
  (Cell.datesOk_iff.mp hd).2.2.2.2 p hp

theorem datesOk_cumAt {k : RowKey} {c : Cell} (hk : rowKey c = k) (hd : c.datesOk = true) (v : Dict Val) :
    (cumAt k c.ev v).datesOk = true := by
  subst hk
  rw [Cell.datesOk_iff] at hd ⊢
  exact ⟨hd.1, hd.2.1, hd.2.2.1, by simp, fun _ h => nomatch h⟩

theorem datesOk_incAt {k : RowKey} {c : Cell} {p : Date} (hk : rowKey c = k) (hd : c.datesOk = true)
    (hlt : p < c.ev) (v : Dict Val) : (incAt k p c.ev v).datesOk = true := by
  subst hk
  rw [Cell.datesOk_iff] at hd ⊢
  exact ⟨hd.1, hd.2.1, hd.2.2.1, by simp, fun _ h => Option.some.inj h ▸ hlt⟩

theorem incAt_eq_self {k : RowKey} {x : Cell} {p : Date} (hk : rowKey x = k) (hkind : x.kind = .incremental)
    (hp : x.prev = some p) : incAt k p x.ev x.values = x := by
  obtain ⟨_, _, _, _, _, _, _⟩ := x
  subst hk
  simp only at hkind hp
  subst hkind hp
  rfl

theorem cumOf_eq {k : RowKey} {c : Cell} (hk : rowKey c = k) (hp : c.prev = none) :
    cumOf k c = { c with kind := .cumulative } := by
  obtain ⟨_, _, _, _, _, _, _⟩ := c
  subst hk
  simp only at hp
  subst hp
  rfl

section
variable {k : RowKey} {rest : List Cell}

theorem incPairs_cons_ok {p n : Cell} {ds : List Cell} (h : incPairs k p (n :: rest) = .ok ds) :
    ∃ v ds', valuesDiff p.values n.values = .ok v ∧ incPairs k n rest = .ok ds' ∧
      ds = incAt k p.ev n.ev v :: ds' ∧ (incAt k p.ev n.ev v).datesOk = true := by
  obtain ⟨v, hv, h⟩ := bind_ok h
  obtain ⟨c, hc, h⟩ := bind_ok h
  obtain ⟨ds', hds, h⟩ := bind_ok h
  cases h
  exact ⟨v, ds', hv, hds, by rw [(AllOps.mk?_ok hc).1], (AllOps.mk?_ok hc).2⟩

theorem incPairs_cons {p n : Cell} {v : Dict Val} (hv : valuesDiff p.values n.values = .ok v)
    (hd : (incAt k p.ev n.ev v).datesOk = true) :
    incPairs k p (n :: rest) = (incPairs k n rest).map (incAt k p.ev n.ev v :: ·) := by
  unfold incAt at hd
  simp only [incPairs, hv, ok_bind, Cell.mk?_of_datesOk hd]
  cases incPairs k n rest <;> rfl

theorem incPairs_cons_error {p n : Cell} {e : Err} (hv : valuesDiff p.values n.values = .error e) :
    incPairs k p (n :: rest) = .error e := by
  simp only [incPairs, hv, error_bind]

theorem incRow_cons_ok {c0 : Cell} {ds : List Cell} (h : incRow k (c0 :: rest) = .ok ds) :
    ∃ ds', incPairs k c0 rest = .ok ds' ∧ ds = incAt k k.1.1.pred c0.ev c0.values :: ds' ∧
      (incAt k k.1.1.pred c0.ev c0.values).datesOk = true := by
  obtain ⟨c, hc, h⟩ := bind_ok h
  obtain ⟨ds', hds, h⟩ := bind_ok h
  cases h
  exact ⟨ds', hds, by rw [(AllOps.mk?_ok hc).1], (AllOps.mk?_ok hc).2⟩

theorem incRow_cons {c0 : Cell} (hd : (incAt k k.1.1.pred c0.ev c0.values).datesOk = true) :
    incRow k (c0 :: rest) = (incPairs k c0 rest).map (incAt k k.1.1.pred c0.ev c0.values :: ·) := by
  unfold incAt at hd
  simp only [incRow, ok_bind, Cell.mk?_of_datesOk hd]
  cases incPairs k c0 rest <;> rfl

theorem cumPairs_cons_ok {ev : Date} {cur : Dict Val} {c : Cell} {cs : List Cell}
    (h : cumPairs k ev cur (c :: rest) = .ok cs) :
    ∃ v cs', c.prev = some ev ∧ valuesAdd cur c.values = .ok v ∧ cumPairs k c.ev v rest = .ok cs' ∧
      cs = cumAt k c.ev v :: cs' ∧ (cumAt k c.ev v).datesOk = true := by
  unfold cumPairs at h
  split at h
  · cases h
  · rename_i hp
    obtain ⟨v, hv, h⟩ := bind_ok h
    obtain ⟨c', hc, h⟩ := bind_ok h
    obtain ⟨cs', hcs, h⟩ := bind_ok h
    cases h
    exact ⟨v, cs', by simpa using hp, hv, hcs, by rw [(AllOps.mk?_ok hc).1], (AllOps.mk?_ok hc).2⟩

theorem cumPairs_cons {ev : Date} {cur v : Dict Val} {c : Cell} (hp : c.prev = some ev)
    (hv : valuesAdd cur c.values = .ok v) (hd : (cumAt k c.ev v).datesOk = true) :
    cumPairs k ev cur (c :: rest) = (cumPairs k c.ev v rest).map (cumAt k c.ev v :: ·) := by
  unfold cumAt at hd
  simp only [cumPairs, hp, bne_self_eq_false, Bool.false_eq_true, if_false, hv, ok_bind, Cell.mk?_of_datesOk hd]
  cases cumPairs k c.ev v rest <;> rfl

theorem cumPairs_cons_broken {ev : Date} {cur : Dict Val} {c : Cell} (hp : c.prev ≠ some ev) :
    cumPairs k ev cur (c :: rest) = .error .triangleError := by
  simp [cumPairs, hp]

theorem cumPairs_cons_error {ev : Date} {cur : Dict Val} {c : Cell} {e : Err} (hp : c.prev = some ev)
    (hv : valuesAdd cur c.values = .error e) : cumPairs k ev cur (c :: rest) = .error e := by
  simp [cumPairs, hp, hv]

theorem cumRow_cons_ok {c0 : Cell} {cs : List Cell} (h : cumRow k (c0 :: rest) = .ok cs) :
    ∃ cs', cumPairs k c0.ev c0.values rest = .ok cs' ∧ cs = cumAt k c0.ev c0.values :: cs' ∧
      (cumAt k c0.ev c0.values).datesOk = true := by
  simp only [cumRow] at h
  split at h
  · cases h
  · obtain ⟨c, hc, h⟩ := bind_ok h
    obtain ⟨cs', hcs, h⟩ := bind_ok h
    cases h
    exact ⟨cs', hcs, by rw [(AllOps.mk?_ok hc).1], (AllOps.mk?_ok hc).2⟩

theorem cumRow_cons {c0 : Cell} (hp : c0.prev.map Date.succ = some c0.ps)
    (hd : (cumAt k c0.ev c0.values).datesOk = true) :
    cumRow k (c0 :: rest) = (cumPairs k c0.ev c0.values rest).map (cumAt k c0.ev c0.values :: ·) := by
  unfold cumAt at hd
  simp only [cumRow, hp, bne_self_eq_false, Bool.false_eq_true, if_false, ok_bind, Cell.mk?_of_datesOk hd]
  cases cumPairs k c0.ev c0.values rest <;> rfl

theorem cumRow_cons_broken {c0 : Cell} (hp : c0.prev.map Date.succ ≠ some c0.ps) :
    cumRow k (c0 :: rest) = .error .triangleError := by
  simp [cumRow, hp]

end

end Bermuda
