/-
Order-theoretic facts about the comparison functions of `Model/Order.lean`:
every one is an oriented, transitive comparison (so `<` is a strict weak order), and on
canonical metadata `cmp = .eq` is equality (so `<` is a strict TOTAL order). Also `compareLex` read for `.lt` and
`≠ .gt`.
Core Lean only.
-/
import Bermuda.Model.Order
namespace Bermuda
open Std

section lex
variable {α : Type _} {c₁ c₂ : α → α → Ordering} {a b : α}

theorem compareLex_of_eq (h : c₁ a b = .eq) : compareLex c₁ c₂ a b = c₂ a b := by
  simp [compareLex, h]

theorem compareLex_eq_lt_iff : compareLex c₁ c₂ a b = .lt ↔ c₁ a b = .lt ∨ (c₁ a b = .eq ∧ c₂ a b = .lt) := by
  unfold compareLex
  cases c₁ a b <;> simp [Ordering.then]

theorem compareLex_of_lt (h : c₁ a b = .lt) : compareLex c₁ c₂ a b = .lt := compareLex_eq_lt_iff.mpr (.inl h)

theorem then_ne_gt_iff {o₁ o₂ : Ordering} : o₁.then o₂ ≠ .gt ↔ o₁ ≠ .gt ∧ (o₁ = .eq → o₂ ≠ .gt) := by
  cases o₁ <;> simp [Ordering.then]

theorem compareLex_ne_gt_iff : compareLex c₁ c₂ a b ≠ .gt ↔ c₁ a b ≠ .gt ∧ (c₁ a b = .eq → c₂ a b ≠ .gt) :=
  then_ne_gt_iff

theorem compareLex_ne_gt_left (h : compareLex c₁ c₂ a b ≠ .gt) : c₁ a b ≠ .gt := (compareLex_ne_gt_iff.mp h).1

end lex

instance {α β : Type} {f : α → β} {cmp : β → β → Ordering} [ReflCmp cmp] : ReflCmp (cmpOn f cmp) where
  compare_self := ReflCmp.compare_self (cmp := cmp)

instance {α β : Type} {f : α → β} {cmp : β → β → Ordering} [OrientedCmp cmp] : OrientedCmp (cmpOn f cmp) where
  eq_swap := OrientedCmp.eq_swap (cmp := cmp)

instance {α β : Type} {f : α → β} {cmp : β → β → Ordering} [TransCmp cmp] : TransCmp (cmpOn f cmp) where
  isLE_trans := TransCmp.isLE_trans (cmp := cmp)

theorem cmpOn_eq_eq {α β : Type} {f : α → β} {cmp : β → β → Ordering} {a b : α} :
    cmpOn f cmp a b = .eq ↔ cmp (f a) (f b) = .eq := Iff.rfl

instance : TransCmp ratCmp :=
  TransOrd.compareOfLessAndEq_of_antisymm_of_trans_of_total_of_not_le
    Rat.le_antisymm Rat.le_trans (fun _ _ => Rat.le_total) Rat.not_le

theorem ratCmp_eq_eq {a b : Rat} : ratCmp a b = .eq ↔ a = b :=
  compareOfLessAndEq_eq_eq (fun _ => Rat.le_refl) Rat.not_le

theorem ratCmp_eq_lt {a b : Rat} : ratCmp a b = .lt ↔ a < b := compareOfLessAndEq_eq_lt

instance : LawfulEqCmp ratCmp where
  compare_self := ratCmp_eq_eq.mpr rfl
  eq_of_compare := ratCmp_eq_eq.mp

instance : TransCmp Date.cmp := by unfold Date.cmp; infer_instance

theorem Date.cmp_eq_eq {a b : Date} : Date.cmp a b = .eq ↔ a = b := by
  constructor
  · intro h
    simp only [Date.cmp, compareLex_eq_eq, cmpOn_eq_eq, compare_eq_iff_eq] at h
    cases a; cases b; simp_all
  · rintro rfl
    exact ReflCmp.compare_self

instance : LawfulEqCmp Date.cmp where
  compare_self := Date.cmp_eq_eq.mpr rfl
  eq_of_compare := Date.cmp_eq_eq.mp

instance : TransCmp MVal.cmp := by unfold MVal.cmp; infer_instance

theorem MVal.key_injective {a b : MVal} (h : a.key = b.key) : a = b := by
  cases a <;> cases b <;> simp_all [MVal.key]

theorem MVal.cmp_eq_eq {a b : MVal} : MVal.cmp a b = .eq ↔ a = b := by
  constructor
  · intro h
    simp only [MVal.cmp, compareLex_eq_eq, cmpOn_eq_eq, compare_eq_iff_eq, ratCmp_eq_eq,
      Date.cmp_eq_eq] at h
    apply MVal.key_injective
    obtain ⟨h1, h2, h3, h4⟩ := h
    exact Prod.ext h1 (Prod.ext h2 (Prod.ext h3 h4))
  · rintro rfl
    exact ReflCmp.compare_self

instance : LawfulEqCmp MVal.cmp where
  compare_self := MVal.cmp_eq_eq.mpr rfl
  eq_of_compare := MVal.cmp_eq_eq.mp

instance : TransCmp itemCmp := by unfold itemCmp; infer_instance

theorem itemCmp_eq_eq {a b : String × MVal} : itemCmp a b = .eq ↔ a = b := by
  constructor
  · intro h
    simp only [itemCmp, compareLex_eq_eq, cmpOn_eq_eq, compare_eq_iff_eq, MVal.cmp_eq_eq] at h
    exact Prod.ext h.1 h.2
  · rintro rfl
    exact ReflCmp.compare_self

instance : LawfulEqCmp itemCmp where
  compare_self := itemCmp_eq_eq.mpr rfl
  eq_of_compare := itemCmp_eq_eq.mp

instance : TransCmp itemsCmp := by unfold itemsCmp; infer_instance

/-- canonical form of a details dict: strictly ascending keys (the harness sends dicts in this
form; Python's `Metadata.__eq__`/`__lt__`/`__hash__` do not see insertion order) -/
def DictCanon (d : Dict MVal) : Prop := d.Pairwise (fun a b => compare a.1 b.1 = .lt)

instance (d : Dict MVal) : Decidable (DictCanon d) := by unfold DictCanon; infer_instance

theorem DictCanon.nodup_keys {d : Dict MVal} (h : DictCanon d) : d.keys.Nodup :=
  List.pairwise_map.mpr (h.imp fun hab e => by
    rw [e, ReflCmp.compare_self (cmp := (compare : String → String → Ordering))] at hab; cases hab)

theorem sortItems_perm (d : Dict MVal) : (sortItems d).Perm d := List.mergeSort_perm d _

theorem sortItems_of_canon {d : Dict MVal} (h : DictCanon d) : sortItems d = d := by
  unfold sortItems
  apply List.mergeSort_of_pairwise
  refine h.imp ?_
  intro a b hab
  simp [itemCmp, compareLex, cmpOn, hab]

theorem itemsCmp_eq_eq {a b : Dict MVal} (ha : DictCanon a) (hb : DictCanon b) :
    itemsCmp a b = .eq ↔ a = b := by
  simp only [itemsCmp, cmpOn_eq_eq, sortItems_of_canon ha, sortItems_of_canon hb]
  exact ⟨LawfulEqCmp.eq_of_compare, fun h => h ▸ ReflCmp.compare_self⟩

instance : TransCmp limCmp := by unfold limCmp; infer_instance
instance : TransCmp optStrCmp := by unfold optStrCmp; infer_instance
instance : TransCmp optDateCmp := by unfold optDateCmp; infer_instance

theorem limCmp_eq_eq {a b : Option Rat} : limCmp a b = .eq ↔ a = b := by
  constructor
  · intro h
    simp only [limCmp, compareLex_eq_eq, cmpOn_eq_eq, compare_eq_iff_eq, ratCmp_eq_eq, limKey] at h
    cases a <;> cases b <;> simp_all
  · rintro rfl
    exact ReflCmp.compare_self

theorem optStrCmp_eq_eq {a b : Option String} : optStrCmp a b = .eq ↔ a = b := by
  simp [optStrCmp]

theorem optDateCmp_eq_eq {a b : Option Date} : optDateCmp a b = .eq ↔ a = b := by
  constructor
  · intro h
    simp only [optDateCmp, compareLex_eq_eq, cmpOn_eq_eq, compare_eq_iff_eq, Date.cmp_eq_eq,
      optDateKey] at h
    cases a <;> cases b <;> simp_all
  · rintro rfl
    exact ReflCmp.compare_self

instance : TransCmp Metadata.cmp := by unfold Metadata.cmp; infer_instance

/-- canonical metadata: both detail dicts have strictly ascending keys -/
def Metadata.Canon (m : Metadata) : Prop := DictCanon m.details ∧ DictCanon m.lossDetails

instance (m : Metadata) : Decidable m.Canon := by unfold Metadata.Canon; infer_instance

theorem Metadata.cmp_eq_eq {a b : Metadata} (ha : a.Canon) (hb : b.Canon) :
    Metadata.cmp a b = .eq ↔ a = b := by
  constructor
  · intro h
    simp only [Metadata.cmp, compareLex_eq_eq, cmpOn_eq_eq, optStrCmp_eq_eq, limCmp_eq_eq,
      itemsCmp_eq_eq ha.1 hb.1, itemsCmp_eq_eq ha.2 hb.2] at h
    cases a; cases b; simp_all
  · rintro rfl
    exact ReflCmp.compare_self

theorem Metadata.cmp_eq_then (a b : Metadata) : Metadata.cmp a b =
    (optStrCmp a.riskBasis b.riskBasis).then ((optStrCmp a.country b.country).then
      ((optStrCmp a.currency b.currency).then ((optStrCmp a.reinsuranceBasis b.reinsuranceBasis).then
        ((optStrCmp a.lossDefinition b.lossDefinition).then ((limCmp a.limit b.limit).then
          ((itemsCmp a.details b.details).then (itemsCmp a.lossDetails b.lossDetails))))))) := rfl

instance : TransCmp Cell.cmp := by unfold Cell.cmp; infer_instance

theorem Cell.cmp_eq_eq {a b : Cell} (ha : a.md.Canon) (hb : b.md.Canon) :
    Cell.cmp a b = .eq ↔ a.coord = b.coord := by
  simp only [Cell.cmp, compareLex_eq_eq, cmpOn_eq_eq, Metadata.cmp_eq_eq ha hb, Date.cmp_eq_eq,
    optDateCmp_eq_eq, Cell.coord, Coord.mk.injEq]

def Coord.cmp : Coord → Coord → Ordering :=
  compareLex (cmpOn (·.md) Metadata.cmp) <|
  compareLex (cmpOn (·.ps) Date.cmp) <|
  compareLex (cmpOn (·.pe) Date.cmp) <|
  compareLex (cmpOn (·.ev) Date.cmp) (cmpOn (·.prev) optDateCmp)

theorem Cell.cmp_eq_coord (a b : Cell) : Cell.cmp a b = Coord.cmp a.coord b.coord := rfl

instance : TransCmp Coord.cmp := by unfold Coord.cmp; infer_instance

theorem Cell.coord_eq_iff {a b : Cell} :
    a.coord = b.coord ↔ a.md = b.md ∧ a.ps = b.ps ∧ a.pe = b.pe ∧ a.ev = b.ev ∧ a.prev = b.prev := by
  simp only [Cell.coord, Coord.mk.injEq]

theorem Cell.cmp_congr_coord {a b a' b' : Cell} (ha : a'.coord = a.coord) (hb : b'.coord = b.coord) :
    Cell.cmp a' b' = Cell.cmp a b := by
  rw [Cell.cmp_eq_coord, ha, hb, ← Cell.cmp_eq_coord]

theorem Cell.cmp_of_coord_eq {a b : Cell} (h : a.coord = b.coord) : Cell.cmp a b = .eq := by
  rw [Cell.cmp_eq_coord, h]; exact ReflCmp.compare_self

/-! `Cell.__lt__` component by component, so that no proof about cells has to look inside `compareLex` and `cmpOn`. -/

theorem Cell.cmp_eq_then (a b : Cell) : Cell.cmp a b =
    (Metadata.cmp a.md b.md).then ((Date.cmp a.ps b.ps).then ((Date.cmp a.pe b.pe).then
      ((Date.cmp a.ev b.ev).then (optDateCmp a.prev b.prev)))) := rfl

theorem Cell.cmp_of_md_lt {a b : Cell} (h : Metadata.cmp a.md b.md = .lt) : Cell.cmp a b = .lt :=
  compareLex_of_lt (c₁ := cmpOn (fun c : Cell => c.md) Metadata.cmp) h

theorem Cell.cmp_of_md_eq {a b : Cell} (h : a.md = b.md) : Cell.cmp a b =
    (Date.cmp a.ps b.ps).then ((Date.cmp a.pe b.pe).then ((Date.cmp a.ev b.ev).then (optDateCmp a.prev b.prev))) := by
  rw [Cell.cmp_eq_then, h, ReflCmp.compare_self (cmp := Metadata.cmp)]; rfl

theorem Cell.cmp_lt_of_ps_lt {a b : Cell} (hmd : a.md = b.md) (hps : Date.cmp a.ps b.ps = .lt) : Cell.cmp a b = .lt := by
  rw [Cell.cmp_of_md_eq hmd, hps]
  rfl

theorem Cell.cmp_of_row_eq {a b : Cell} (hmd : a.md = b.md) (hps : a.ps = b.ps) (hpe : a.pe = b.pe) :
    Cell.cmp a b = (Date.cmp a.ev b.ev).then (optDateCmp a.prev b.prev) := by
  rw [Cell.cmp_of_md_eq hmd, hps, hpe, ReflCmp.compare_self (cmp := Date.cmp), ReflCmp.compare_self (cmp := Date.cmp)]
  rfl

theorem Cell.le_iff {a b : Cell} : Cell.le a b = true ↔ Cell.cmp a b ≠ .gt := bne_iff_ne

theorem Cell.le_of_cmp_lt {a b : Cell} (h : Cell.cmp a b = .lt) : Cell.le a b = true :=
  Cell.le_iff.mpr fun e => Ordering.noConfusion (h.symm.trans e)

theorem Cell.le_of_cmp_eq {a b : Cell} (h : Cell.cmp a b = .eq) : Cell.le a b = true :=
  Cell.le_iff.mpr fun e => Ordering.noConfusion (h.symm.trans e)

theorem Cell.le_congr_coord {a b a' b' : Cell} (ha : a'.coord = a.coord) (hb : b'.coord = b.coord) :
    Cell.le a' b' = Cell.le a b := by
  unfold Cell.le; rw [Cell.cmp_congr_coord ha hb]

theorem Cell.le_of_coord_eq {a b : Cell} (h : a.coord = b.coord) : Cell.le a b = true :=
  Cell.le_of_cmp_eq (Cell.cmp_of_coord_eq h)

end Bermuda
