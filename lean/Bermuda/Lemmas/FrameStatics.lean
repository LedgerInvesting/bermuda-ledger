/-
C14, the rest of `io/array.py`: the statics reader builds one cumulative cell per row
(`fromStatics_frame_of`), with the period resolution given or inferred as `days // 30` of the first gap
— which is the month distance except for a February start (`statics_inference_table`).
-/
import Bermuda.Lemmas.FrameArray
import Bermuda.Model.FrameStatics
namespace Bermuda.Frame
open Bermuda Bermuda.Spec.C14 Std

def staticsRowOf (p : Date × Dict Val) : StaticsRow := { period := .date p.1, entries := p.2 }

/-- the cell a statics row stands for -/
def staticsExpected (md : Metadata) (res : Int) (ev : Date) (p : Date × Dict Val) : Cell :=
  { kind := .cumulative, ps := p.1, pe := periodEndOf p.1 res, ev := ev, values := p.2, md := md }

/-- a statics frame: first-of-month periods from 1970 on, strictly ascending; `res ≥ 1`; the
constructor's date rules hold for every row (evaluation date not before a period start, not
`date.max`) -/
structure StaticsFrame (rows : List (Date × Dict Val)) (res : Int) (ev : Date) (md : Metadata) : Prop where
  res1 : 1 ≤ res
  first : ∀ p ∈ rows, p.1.valid = true ∧ p.1.d = 1 ∧ 0 ≤ monthToId p.1
  asc : rows.Pairwise (fun a b => Date.cmp a.1 b.1 = .lt)
  dates : ∀ p ∈ rows, (staticsExpected md res ev p).datesOk = true

/-- the period end the readers of `io/array.py` compute, `add_months(period_start, res) - 1 day`, for a first of month
from 1970 on (before 1970 `add_months` lands a month late unless the result is a month end: `periodEnd_of_first`) -/
theorem pred_addMonths_eq_periodEndOf {d : Date} {res : Int} (hd : d.valid = true ∧ d.d = 1 ∧ 0 ≤ monthToId d) (hr : 1 ≤ res) :
    (addMonths d (res : Rat)).pred = periodEndOf d res := by
  rw [periodEnd_of_first d hd.2.1 res (by omega)]
  unfold periodEndOf
  rw [idToMonth_false]

theorem nonDecreasing_of_sorted {l : List Cell} (hs : l.Pairwise (fun a b => Cell.cmp a b = .lt)) :
    nonDecreasing l = true := by
  unfold nonDecreasing
  rw [List.all_eq_true]
  intro p hp
  obtain ⟨i, hi, rfl⟩ := List.getElem_of_mem hp
  simp only [List.length_zip, List.length_tail] at hi
  rw [List.getElem_zip]
  simp only [List.getElem_tail]
  rw [List.pairwise_iff_getElem.mp hs i (i + 1) (by omega) (by omega) (by omega)]
  rfl

section statics
variable {rows : List (Date × Dict Val)} {res : Int} {ev : Date} {md : Metadata} (h : StaticsFrame rows res ev md)
include h

theorem staticsCell_ok {p : Date × Dict Val} (hp : p ∈ rows) :
    staticsCell md res ev p = .ok (staticsExpected md res ev p) := by
  unfold staticsCell
  rw [pred_addMonths_eq_periodEndOf (h.first p hp) h.res1]
  exact Cell.mk?_of_datesOk (h.dates p hp)

theorem staticsExpected_sorted : (rows.map (staticsExpected md res ev)).Pairwise (fun a b => Cell.cmp a b = .lt) := by
  rw [List.pairwise_map]
  exact h.asc.imp fun {a b} hab =>
    Cell.cmp_lt_of_ps_lt (a := staticsExpected md res ev a) (b := staticsExpected md res ev b) rfl hab

/-- **statics reader** (`evaluation_date` given; `pr` the `period_resolution` argument, resolving to `res`):
one `CumulativeCell` per row, in row order -/
theorem fromStatics_frame_of {pr : Option Int} (hr : staticsResolution (rows.map (·.1)) pr = .ok res) :
    fromStatics (rows.map staticsRowOf) (some ev) pr md = .ok (rows.map (staticsExpected md res ev)) := by
  have hparse : (rows.map staticsRowOf).mapM (fun (r : StaticsRow) => r.period.parse) = .ok (rows.map (·.1)) := by
    rw [List.mapM_map]
    exact mapM_ok_of_all fun _ _ => rfl
  have hent : (rows.map staticsRowOf).map (·.entries) = rows.map (·.2) := by
    rw [List.map_map]; rfl
  unfold fromStatics
  rw [hparse]
  simp only [Except.bind, hr, staticsEvaluation]
  rw [hent, ← List.zip_of_prod rfl rfl, mapM_ok_of_all (fun p hp => staticsCell_ok h hp)]
  exact Triangle.ofCells_of_strictSorted (kindsConsistent_of_all (k := .cumulative) fun x hx => by
    obtain ⟨p, _, rfl⟩ := List.mem_map.mp hx; rfl) (staticsExpected_sorted h)

end statics

/-- the period resolution the statics reader infers (`days // 30` of the first gap) -/
theorem staticsResolution_inferred {rows : List (Date × Dict Val)} {res : Int}
    (hp : ∃ p0 p1 rest, rows = p0 :: p1 :: rest ∧ (p1.1.ordinal - p0.1.ordinal) / 30 = res) :
    staticsResolution (rows.map (·.1)) none = .ok res := by
  obtain ⟨p0, p1, rest, rfl, hq⟩ := hp
  simp only [List.map_cons, staticsResolution, hq]

/-- the first of month `m0 + 1` of year `y` (not `Bermuda.firstOf` of Lemmas/DateUtils.lean, which takes a month index) -/
def firstOf (y : Int) (m0 : Nat) : Date := ⟨y + (m0 / 12 : Nat), m0 % 12 + 1, 1⟩

/-- the inferred resolution of two consecutive periods `res` months apart, the first starting in month
`m0 + 1` of year `y` -/
def inferredFor (y : Int) (m0 : Nat) (res : Nat) : Except Err Int :=
  staticsResolution [firstOf y m0, firstOf y (m0 + res)] none

/-- over a leap and a non-leap year, every start month and the resolutions 1/3/6/12: `days // 30` is
the month distance EXCEPT for monthly periods starting in February (0: the reader then refuses the
frame, `period_end` before `period_start`) and quarterly periods starting 1 February of a non-leap
year (89 days: 2 — periods of two months, silently). -/
theorem statics_inference_table :
    ([2021, 2024].all fun (y : Int) => (List.range 12).all fun m0 => [1, 3, 6, 12].all fun res =>
      decide (inferredFor y m0 res = .ok
        (if res = 1 ∧ m0 = 1 then 0 else if res = 3 ∧ m0 = 1 ∧ y = 2021 then 2 else (res : Int)))) = true := by
  decide +kernel

/-- monthly periods from February with the resolution inferred are refused -/
theorem statics_february_refused :
    staticsResolution [⟨2021, 2, 1⟩, ⟨2021, 3, 1⟩] none = .ok 0 ∧
    staticsCell {} 0 ⟨2021, 3, 31⟩ (⟨2021, 2, 1⟩, [("earned_premium", .int 100)]) = .error .valueError := by
  decide +kernel

def edgePair (r : EdgeRow) : Date × Dict Val := (r.period, r.entries)

end Bermuda.Frame
