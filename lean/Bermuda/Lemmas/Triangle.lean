/-
The two constructors of `Model/Triangle.lean`, each with its outcome: the date rules of a cell without their `match`
and what `Cell.mk?` returns or raises; "one class" as a proposition and what `Triangle.ofCells` returns or raises.
What the constructor's SORT does stands in `Lemmas/Canonical.lean`.
-/
import Bermuda.Model.Triangle
import Bermuda.Lemmas.ExceptFacts
namespace Bermuda

theorem Cell.datesOk_iff {c : Cell} : c.datesOk = true ↔
    ¬ c.pe < c.ps ∧ ¬ c.ev < c.ps ∧ c.ev ≠ Date.max ∧
      (c.kind = .incremental ↔ c.prev.isSome = true) ∧ ∀ p, c.prev = some p → p < c.ev := by
  unfold Cell.datesOk
  cases c.kind <;> cases c.prev <;> simp [and_assoc]

theorem Cell.datesOk_congr {a b : Cell} (hk : a.kind = b.kind) (hps : a.ps = b.ps) (hpe : a.pe = b.pe)
    (hev : a.ev = b.ev) (hprev : a.prev = b.prev) : a.datesOk = b.datesOk := by
  rw [Bool.eq_iff_iff, Cell.datesOk_iff, Cell.datesOk_iff, hk, hps, hpe, hev, hprev]

theorem Cell.mk?_eq_ok {c d : Cell} : c.mk? = .ok d ↔ c.datesOk = true ∧ d = c := by
  unfold Cell.mk?
  split
  · exact ⟨fun h => ⟨‹_›, (Except.ok.inj h).symm⟩, fun h => h.2 ▸ rfl⟩
  · exact ⟨(fun h => nomatch h), fun h => absurd h.1 ‹_›⟩

theorem Cell.mk?_eq_error {c : Cell} {e : Err} : c.mk? = .error e ↔ ¬ c.datesOk = true ∧ e = .valueError := by
  unfold Cell.mk?
  split
  · exact ⟨(fun h => nomatch h), fun h => absurd ‹_› h.1⟩
  · exact ⟨fun h => ⟨‹_›, (Except.error.inj h).symm⟩, fun h => h.2 ▸ rfl⟩

theorem Cell.mk?_of_datesOk {c : Cell} (h : c.datesOk = true) : c.mk? = .ok c := if_pos h

theorem Cell.mk?_of_not_datesOk {c : Cell} (h : ¬ c.datesOk = true) : c.mk? = .error .valueError := if_neg h

theorem Cell.mapM_mk? (l : List Cell) :
    l.mapM Cell.mk? = if ∀ c ∈ l, c.datesOk = true then .ok l else .error .valueError :=
  (mapM_guarded (g := id) fun _ _ => rfl).trans (by rw [List.map_id])

theorem Cell.mapM_mk?_ok {l : List Cell} (h : ∀ c ∈ l, c.datesOk = true) : l.mapM Cell.mk? = .ok l := by
  rw [Cell.mapM_mk?, if_pos h]

namespace AllOps

theorem mk?_ok {c d : Cell} (h : c.mk? = .ok d) : d = c ∧ c.datesOk = true :=
  (Cell.mk?_eq_ok.mp h).symm

theorem mk?_ok_dates {c d : Cell} (h : c.mk? = .ok d) : d.datesOk = true := by
  obtain ⟨rfl, h⟩ := mk?_ok h; exact h

end AllOps

/-- one class: `Triangle.__init__` compares every cell's type with the first cell's -/
theorem kindsConsistent_iff {l : List Cell} : kindsConsistent l = true ↔ ∃ k, ∀ c ∈ l, c.kind = k := by
  unfold kindsConsistent
  simp only [Bool.or_eq_true, List.all_eq_true, beq_iff_eq]
  constructor
  · rintro ((h | h) | h) <;> exact ⟨_, h⟩
  · rintro ⟨k, h⟩
    cases k
    · exact .inl (.inl h)
    · exact .inl (.inr h)
    · exact .inr h

theorem kindsConsistent_of_all {l : List Cell} {k : CellKind} (h : ∀ c ∈ l, c.kind = k) :
    kindsConsistent l = true := kindsConsistent_iff.mpr ⟨k, h⟩

theorem kindsConsistent_of_kinds_mem {s l : List Cell} (hs : ∀ c ∈ s, ∃ o ∈ l, c.kind = o.kind)
    (hk : kindsConsistent l = true) : kindsConsistent s = true := by
  obtain ⟨k, hk⟩ := kindsConsistent_iff.mp hk
  exact kindsConsistent_of_all (k := k) fun c hc => let ⟨o, ho, e⟩ := hs c hc; e.trans (hk o ho)

theorem kindsConsistent_of_subset {s l : List Cell} (hs : ∀ c ∈ s, c ∈ l) (hk : kindsConsistent l = true) :
    kindsConsistent s = true :=
  kindsConsistent_of_kinds_mem (fun c hc => ⟨c, hs c hc, rfl⟩) hk

theorem kindsConsistent_perm {l₁ l₂ : List Cell} (hp : l₁.Perm l₂) : kindsConsistent l₁ = kindsConsistent l₂ := by
  rw [Bool.eq_iff_iff, kindsConsistent_iff, kindsConsistent_iff]
  simp only [hp.mem_iff]

theorem kindsConsistent_congr_kinds {l l' : List Cell} (h : l'.map (·.kind) = l.map (·.kind)) :
    kindsConsistent l' = kindsConsistent l := by
  have hk (l : List Cell) : kindsConsistent l = true ↔ ∃ k, ∀ x ∈ l.map (·.kind), x = k := by
    rw [kindsConsistent_iff]; simp only [List.forall_mem_map]
  rw [Bool.eq_iff_iff, hk, hk, h]

theorem kindsConsistent_map {f : Cell → Cell} {l : List Cell} (hf : ∀ c ∈ l, (f c).kind = c.kind) :
    kindsConsistent (l.map f) = kindsConsistent l :=
  kindsConsistent_congr_kinds (by rw [List.map_map]; exact List.map_congr_left hf)

theorem Triangle.ofCells_eq_ok {l t : List Cell} :
    Triangle.ofCells l = .ok t ↔ kindsConsistent l = true ∧ t = l.mergeSort Cell.le := by
  unfold Triangle.ofCells
  split
  · exact ⟨fun h => ⟨‹_›, (Except.ok.inj h).symm⟩, fun h => h.2 ▸ rfl⟩
  · exact ⟨(fun h => nomatch h), fun h => absurd h.1 ‹_›⟩

theorem Triangle.ofCells_eq_error {l : List Cell} {e : Err} :
    Triangle.ofCells l = .error e ↔ ¬ kindsConsistent l = true ∧ e = .triangleError := by
  unfold Triangle.ofCells
  split
  · exact ⟨(fun h => nomatch h), fun h => absurd ‹_› h.1⟩
  · exact ⟨fun h => ⟨‹_›, (Except.error.inj h).symm⟩, fun h => h.2 ▸ rfl⟩

theorem Triangle.ofCells_nil {out : List Cell} : Triangle.ofCells [] = .ok out ↔ out = [] := by
  rw [Triangle.ofCells_eq_ok, List.mergeSort_nil]
  exact ⟨fun h => h.2, fun h => ⟨rfl, h⟩⟩

theorem Triangle.ofCells_isOk {l : List Cell} : (∃ t, Triangle.ofCells l = .ok t) ↔ kindsConsistent l = true :=
  ⟨fun ⟨_, h⟩ => (ofCells_eq_ok.mp h).1, fun h => ⟨_, ofCells_eq_ok.mpr ⟨h, rfl⟩⟩⟩

end Bermuda
