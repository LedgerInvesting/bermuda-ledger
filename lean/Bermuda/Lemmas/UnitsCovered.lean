/-
C18: `Spec.C18.policyCovered` (the hypothesis of `policyYear_conserves`) characterised WITHOUT the
share table: a row of the normalised table sums to 1 iff some policy year REACHES the accident period
(`reaches`: a month between the first written month and the last written month + policy length starts
inside the accident period). Pure month arithmetic on the inputs and the list of policy years.
Last section: with continuous issuance `policyCovered` holds on month-aligned accident periods from 1971 on,
because the policy years of `policy_years_covered` (the `while py_start < last_end` loop with
`add_months(s, 12)`) tile the months from the first period start to the last period end.
-/
import Bermuda.Lemmas.UnitsPolicy
import Bermuda.Lemmas.DateUtils
import Bermuda.Lemmas.Sort
namespace Bermuda.Units
open Bermuda Bermuda.Spec.C18

theorem mem_intRange {lo hi k : Int} : k ∈ intRange lo hi ↔ lo ≤ k ∧ k < hi := by
  unfold intRange
  simp only [List.mem_map, List.mem_range]
  constructor
  · rintro ⟨i, hi', rfl⟩; omega
  · intro h; exact ⟨(k - lo).toNat, by omega, by omega⟩

/-- `d[j] += x` on a table seen as a function of the key -/
def bump (v : Int → Rat) (j : Int) (x : Rat) : Int → Rat := fun k => if k = j then v k + x else v k

theorem addAt_repr (keys : List Int) (v : Int → Rat) (j : Int) (x : Rat) :
    addAt (keys.map fun k => (k, v k)) j x = keys.map fun k => (k, bump v j x k) := by
  unfold addAt bump
  rw [List.map_map]
  apply List.map_congr_left
  intro k _
  simp only [Function.comp]
  by_cases h : k = j <;> simp [h]

theorem foldl_repr {σ τ α} (R : τ → σ) (f : σ → α → σ) (g : τ → α → τ)
    (h : ∀ v a, f (R v) a = R (g v a)) : ∀ (l : List α) (v : τ), l.foldl f (R v) = R (l.foldl g v) := by
  intro l
  induction l with
  | nil => intro v; rfl
  | cons a l ih => intro v; rw [List.foldl_cons, List.foldl_cons, h, ih]

/-- the body of the loop over the written months -/
def stepV (len : Nat) (mv : Rat) (v : Int → Rat) (wm : Int) : Int → Rat :=
  bump ((intRange 1 len).foldl (fun a off => bump a (wm + off) mv) (bump v wm (mv / 2))) (wm + len) (mv / 2)

/-- the month-share table of one policy year as a function of the month id -/
def shareV (ws we : Int) (len : Nat) : Int → Rat :=
  (intRange ws (we + 1)).foldl (stepV len (1 / ((we - ws + 1 : Int) : Rat) / (len : Rat))) (fun _ => 0)

theorem policyShare_repr (rs re : Date) (len : Nat) (cont : Bool) :
    policyShareByMonth rs re len cont =
      (intRange (monthToId rs) ((if cont then monthToId re else monthToId rs) + len + 1)).map fun k =>
        (k, shareV (monthToId rs) (if cont then monthToId re else monthToId rs) len k) := by
  unfold policyShareByMonth shareV
  simp only
  generalize (1 / (((if cont then monthToId re else monthToId rs) - monthToId rs + 1 : Int) : Rat) / (len : Rat)) = mv
  generalize intRange (monthToId rs) ((if cont = true then monthToId re else monthToId rs) + ↑len + 1) = keys
  have h0 : (keys.map fun i => (i, (0 : Rat))) = keys.map fun k => (k, (fun _ : Int => (0 : Rat)) k) := rfl
  rw [h0]
  apply foldl_repr (fun v : Int → Rat => keys.map fun k => (k, v k))
  intro v wm
  rw [addAt_repr]
  rw [foldl_repr (fun v : Int → Rat => keys.map fun k => (k, v k))
    (fun a off => addAt a (wm + off) mv) (fun a off => bump a (wm + off) mv)
    (fun v a => addAt_repr keys v _ _)]
  rw [addAt_repr]
  rfl

/-! ### closed form of the table: the share of a month is the sum of the `+=` steps that hit it -/

theorem foldl_bump {α} (key : α → Int) (amt : α → Rat) (l : List α) (v : Int → Rat) (k : Int) :
    l.foldl (fun v a => bump v (key a) (amt a)) v k = v k + ((l.filter fun a => key a = k).map amt).sum := by
  induction l generalizing v with
  | nil => simp
  | cons a l ih =>
    rw [List.foldl_cons, ih, List.filter_cons]
    by_cases h : key a = k
    · simp [bump, h, add_assoc]
    · simp [bump, h, Ne.symm h]

/-- the `+=` steps of one written month `wm` -/
def monthBumps (len : Nat) (mv : Rat) (wm : Int) : List (Int × Rat) :=
  (wm, mv / 2) :: (intRange 1 len).map (fun off => (wm + off, mv)) ++ [(wm + len, mv / 2)]

theorem shareV_eq (ws we : Int) (len : Nat) (k : Int) :
    shareV ws we len k =
      ((((intRange ws (we + 1)).flatMap (monthBumps len (1 / ((we - ws + 1 : Int) : Rat) / (len : Rat)))).filter
        fun p => p.1 = k).map (·.2)).sum := by
  unfold shareV
  generalize (1 / ((we - ws + 1 : Int) : Rat) / (len : Rat)) = mv
  have hstep : ∀ (v : Int → Rat) (wm : Int),
      stepV len mv v wm = (monthBumps len mv wm).foldl (fun v p => bump v p.1 p.2) v := by
    intro v wm
    simp only [stepV, monthBumps, List.foldl_cons, List.foldl_append, List.foldl_map, List.foldl_nil]
  have hfold : ∀ (l : List Int) (v : Int → Rat), l.foldl (stepV len mv) v =
      (l.flatMap (monthBumps len mv)).foldl (fun v p => bump v p.1 p.2) v := by
    intro l
    induction l with
    | nil => intro v; rfl
    | cons a l ih => intro v; rw [List.foldl_cons, List.flatMap_cons, List.foldl_append, ← hstep, ih]
  rw [hfold, foldl_bump]
  simp

theorem monthBumps_mem {len : Nat} {mv : Rat} (hmv : 0 ≤ mv) {wm : Int} {p : Int × Rat}
    (hp : p ∈ monthBumps len mv wm) : wm ≤ p.1 ∧ p.1 ≤ wm + len ∧ 0 ≤ p.2 := by
  simp only [monthBumps, List.mem_cons, List.mem_append, List.mem_map, List.not_mem_nil, or_false] at hp
  rcases hp with (rfl | ⟨off, hoff, rfl⟩) | rfl
  · exact ⟨le_refl _, by omega, div_nonneg hmv (by norm_num)⟩
  · have := mem_intRange.mp hoff
    exact ⟨by omega, by omega, hmv⟩
  · exact ⟨by omega, le_refl _, div_nonneg hmv (by norm_num)⟩

theorem monthBumps_hit {len : Nat} {mv : Rat} (hmv : 0 < mv) {wm k : Int} (h1 : wm ≤ k) (h2 : k ≤ wm + len) :
    ∃ p ∈ monthBumps len mv wm, p.1 = k ∧ 0 < p.2 := by
  by_cases hk0 : k = wm
  · exact ⟨(wm, mv / 2), List.mem_append_left _ List.mem_cons_self, hk0.symm, half_pos hmv⟩
  · by_cases hk1 : k = wm + len
    · exact ⟨(wm + len, mv / 2), List.mem_append_right _ (List.mem_singleton.mpr rfl), hk1.symm, half_pos hmv⟩
    · exact ⟨(wm + (k - wm), mv), List.mem_append_left _ (List.mem_cons_of_mem _ (List.mem_map.mpr
        ⟨k - wm, mem_intRange.mpr ⟨by omega, by omega⟩, rfl⟩)), by show wm + (k - wm) = k; omega, hmv⟩

theorem mv_nonneg {ws we : Int} (h : ws ≤ we) (len : Nat) :
    (0 : Rat) ≤ 1 / ((we - ws + 1 : Int) : Rat) / (len : Rat) := by
  apply div_nonneg
  · apply div_nonneg (by norm_num)
    exact_mod_cast (by omega : (0 : Int) ≤ we - ws + 1)
  · exact_mod_cast Nat.zero_le len

theorem mv_pos {ws we : Int} (h : ws ≤ we) {len : Nat} (hlen : 1 ≤ len) :
    (0 : Rat) < 1 / ((we - ws + 1 : Int) : Rat) / (len : Rat) := by
  apply div_pos
  · apply div_pos (by norm_num)
    exact_mod_cast (by omega : (0 : Int) < we - ws + 1)
  · exact_mod_cast hlen

theorem shareV_step {ws we : Int} {len : Nat} {k : Int} {p : Int × Rat}
    (hp : p ∈ ((intRange ws (we + 1)).flatMap
      (monthBumps len (1 / ((we - ws + 1 : Int) : Rat) / (len : Rat)))).filter fun p => p.1 = k) :
    (ws ≤ we ∧ ws ≤ k ∧ k ≤ we + len) ∧ 0 ≤ p.2 := by
  obtain ⟨hp1, hpk⟩ := List.mem_filter.mp hp
  obtain ⟨wm, hwm, hp'⟩ := List.mem_flatMap.mp hp1
  have hw := mem_intRange.mp hwm
  obtain ⟨b1, b2, b3⟩ := monthBumps_mem (mv_nonneg (by omega) len) hp'
  have : p.1 = k := by simpa using hpk
  exact ⟨by omega, b3⟩

theorem shareV_nonneg (ws we : Int) (len : Nat) (k : Int) : 0 ≤ shareV ws we len k := by
  rw [shareV_eq]
  exact sum_nonneg_of _ _ fun p hp => (shareV_step hp).2

theorem shareV_pos_iff {ws we : Int} {len : Nat} (hlen : 1 ≤ len) {k : Int} :
    0 < shareV ws we len k ↔ ws ≤ we ∧ ws ≤ k ∧ k ≤ we + len := by
  rw [shareV_eq, sum_pos_iff _ _ fun p hp => (shareV_step hp).2]
  constructor
  · rintro ⟨p, hp, _⟩
    exact (shareV_step hp).1
  · rintro ⟨h, h1, h2⟩
    -- the written month that hits `k`: `k` itself if it is one, else the last
    obtain ⟨p, hp, hk, hpos⟩ := monthBumps_hit (mv_pos h hlen) (wm := if k ≤ we then k else we) (k := k)
      (len := len) (by split <;> omega) (by split <;> omega)
    exact ⟨p, List.mem_filter.mpr ⟨List.mem_flatMap.mpr ⟨_, mem_intRange.mpr (by split <;> omega), hp⟩,
      by simpa using hk⟩, hpos⟩

/-! ### from the share table to "some policy year reaches the accident period" -/

/-- the entry of accident period `q` in a monthly table (0 if no month of the table starts in `q`) -/
theorem mtq_getD (ms : List (Int × Rat)) (ps : List (Date × Date)) {q : Date × Date} (hq : q ∈ ps) :
    (((monthlyToQuarterly ms ps).find? (·.1 == q)).map (·.2)).getD 0 =
      ((ms.filter fun m => decide (q.1 ≤ idToMonth m.1) && decide (idToMonth m.1 ≤ q.2)).map (·.2)).sum := by
  have hform : monthlyToQuarterly ms ps = ps.filterMap fun q =>
      (if (ms.filter fun m => decide (q.1 ≤ idToMonth m.1) && decide (idToMonth m.1 ≤ q.2)).isEmpty then none
       else some ((ms.filter fun m => decide (q.1 ≤ idToMonth m.1) && decide (idToMonth m.1 ≤ q.2)).map (·.2)).sum).map
        fun b => (q, b) := by
    unfold monthlyToQuarterly
    apply List.filterMap_congr
    intro q _
    simp only
    split <;> simp
  rw [hform, Assoc.find?_filterMap_key, if_pos hq]
  split
  · rename_i he
    rw [List.isEmpty_iff] at he
    simp [he]
  · simp

theorem aqShares_all_iff (ps pys : List (Date × Date)) (len : Nat) (cont : Bool) :
    (aqShares ps pys len cont).all (fun row => (row.2.map (·.2)).sum == 1) = true ↔
      ∀ aq ∈ ps, (pys.map (entryG ps len cont aq)).sum ≠ 0 := by
  rw [aqShares_rows]
  simp only [List.all_eq_true, List.mem_map, beq_iff_eq]
  have hrow : ∀ aq, (((rawRow ps pys len cont aq).map fun x =>
      (x.1, x.2 / ((rawRow ps pys len cont aq).map (·.2)).sum)).map (·.2)).sum =
      (pys.map (entryG ps len cont aq)).sum / (pys.map (entryG ps len cont aq)).sum := by
    intro aq
    rw [sum_normalised, rawRow_sum]
  constructor
  · intro h aq haq h0
    have := h _ ⟨aq, haq, rfl⟩
    simp only at this
    rw [hrow, h0] at this
    simp at this
  · rintro h row ⟨aq, haq, rfl⟩
    simp only
    rw [hrow]
    exact div_self (h aq haq)

/-- **policy year `py` reaches accident period `q`**: it has a written month at all, and some month
between its first written month and its last written month + policy length starts inside `q`
(`continuous_issuance=False`: all policies are written in the first month of the policy year) -/
def reaches (len : Nat) (cont : Bool) (q py : Date × Date) : Prop :=
  monthToId py.1 ≤ (if cont then monthToId py.2 else monthToId py.1) ∧
  ∃ k : Int, monthToId py.1 ≤ k ∧ k ≤ (if cont then monthToId py.2 else monthToId py.1) + len ∧
    q.1 ≤ idToMonth k ∧ idToMonth k ≤ q.2

theorem entryG_eq {ps : List (Date × Date)} {aq : Date × Date} (haq : aq ∈ ps) (len : Nat) (cont : Bool)
    (py : Date × Date) :
    entryG ps len cont aq py =
      (((intRange (monthToId py.1) ((if cont then monthToId py.2 else monthToId py.1) + len + 1)).filter
        fun k => decide (aq.1 ≤ idToMonth k) && decide (idToMonth k ≤ aq.2)).map
        (shareV (monthToId py.1) (if cont then monthToId py.2 else monthToId py.1) len)).sum := by
  unfold entryG
  rw [mtq_getD _ _ haq, policyShare_repr, List.filter_map, List.map_map]
  rfl

theorem entryG_nonneg {ps : List (Date × Date)} {aq : Date × Date} (haq : aq ∈ ps) (len : Nat) (cont : Bool)
    (py : Date × Date) : 0 ≤ entryG ps len cont aq py := by
  rw [entryG_eq haq]
  exact sum_nonneg_of _ _ fun k _ => shareV_nonneg _ _ _ k

theorem entryG_pos_iff {ps : List (Date × Date)} {aq : Date × Date} (haq : aq ∈ ps) {len : Nat}
    (hlen : 1 ≤ len) (cont : Bool) (py : Date × Date) :
    0 < entryG ps len cont aq py ↔ reaches len cont aq py := by
  rw [entryG_eq haq, sum_pos_iff _ _ fun k _ => shareV_nonneg _ _ _ k]
  unfold reaches
  constructor
  · rintro ⟨k, hk, hkpos⟩
    obtain ⟨_, hkq⟩ := List.mem_filter.mp hk
    simp only [Bool.and_eq_true, decide_eq_true_eq] at hkq
    obtain ⟨hw, h1, h2⟩ := (shareV_pos_iff hlen).mp hkpos
    exact ⟨hw, k, h1, h2, hkq.1, hkq.2⟩
  · rintro ⟨hw, k, h1, h2, h3, h4⟩
    exact ⟨k, List.mem_filter.mpr ⟨mem_intRange.mpr ⟨h1, by omega⟩, by simp [h3, h4]⟩,
      (shareV_pos_iff hlen).mpr ⟨hw, h1, h2⟩⟩

/-- **`policyCovered` without the share table**: in every slice every accident period is reached by
some policy year of `policy_years_covered` -/
theorem policyCovered_iff_reached {t : List Cell} {len : Nat} (hlen : 1 ≤ len) (origin : Date) (cont : Bool) :
    policyCovered t len origin cont = true ↔
      ∀ sl ∈ Triangle.slices t, ∀ pys, policyYearsCovered sl.2 origin = .ok pys →
        ∀ q ∈ periods sl.2, ∃ py ∈ pys, reaches len cont q py := by
  unfold policyCovered
  rw [List.all_eq_true]
  constructor
  · intro h sl hsl pys hpys q hq
    have := h sl hsl
    rw [hpys] at this
    simp only at this
    have h0 := (aqShares_all_iff _ _ _ _).mp this q hq
    obtain ⟨py, hpy, hpos⟩ := (sum_ne_zero_iff _ _ fun py _ => entryG_nonneg hq len cont py).mp h0
    exact ⟨py, hpy, (entryG_pos_iff hq hlen cont py).mp hpos⟩
  · intro h sl hsl
    cases hp : policyYearsCovered sl.2 origin with
    | error e => rfl
    | ok pys =>
      simp only
      rw [aqShares_all_iff]
      intro q hq
      obtain ⟨py, hpy, hr⟩ := h sl hsl pys hp q hq
      exact (sum_ne_zero_iff _ _ fun py _ => entryG_nonneg hq len cont py).mpr
        ⟨py, hpy, (entryG_pos_iff hq hlen cont py).mpr hr⟩

/-! ### continuous issuance covers every month-aligned accident period -/

theorem month_le_of_valid {d : Date} (h : d.valid = true) : d.m ≤ 12 := ((valid_iff d).mp h).2.1

/-- `add_months(s, 12)` lands in the same month of the next year (whatever the day) -/
theorem addMonths12 {s : Date} (hv : s.valid = true) (h0 : 0 ≤ monthToId s) :
    (addMonths s 12).valid = true ∧ monthToId (addMonths s 12) = monthToId s + 12 := by
  have h := addMonths_int_month s 12 hv (by omega)
  rwa [show (((12 : Int)) : Rat) = 12 by norm_num] at h

theorem pred_month {d : Date} (hv : d.valid = true) : monthToId d - 1 ≤ monthToId d.pred := by
  have h := DateOrder.monthToId_mono (monthOf_range (monthToId d - 1)).2
    (DateOrder.le_pred_of_lt (monthEndOf_valid _) ((monthEndOf_lt_iff hv).mpr (by omega)))
  rwa [monthToId_monthEndOf] at h

theorem monthToId_le_of_year_lt {a b : Date} (ha : a.valid = true) (hb : b.valid = true)
    (h : a.y < b.y) : monthToId a ≤ monthToId b := by
  have h1 := yearOf_monthToId ha
  have h2 := yearOf_monthToId hb
  unfold yearOf at h1 h2
  omega

/-- the fuel `policy_years_covered` gives its loop (one step per year, three spare) is enough -/
theorem monthToId_sub_lt {a b : Date} (ha : a.valid = true) (hb : b.valid = true) :
    monthToId b - monthToId a < 12 * (((b.y - a.y + 3).toNat : Nat) : Int) := by
  have h1 := yearOf_monthToId ha
  have h2 := yearOf_monthToId hb
  unfold yearOf at h1 h2
  omega

theorem mkDate_ok {y : Int} {m d : Nat} {s : Date} (h : mkDate y m d = .ok s) :
    s = ⟨y, m, d⟩ ∧ s.valid = true := by
  unfold mkDate at h
  simp only at h
  split at h
  · rename_i hv
    simp only [Except.ok.injEq] at h
    subst h
    exact ⟨rfl, hv⟩
  · cases h

/-- the stages of `policy_years_covered` -/
theorem policyYearsCovered_ok {sl : List Cell} {origin : Date} {pys : List (Date × Date)}
    (h : policyYearsCovered sl origin = .ok pys) :
    ∃ first last s0, (periods sl).head? = some first ∧ (periods sl).getLast? = some last ∧
      s0.valid = true ∧ ((s0.y = first.1.y ∧ ¬ first.1 < s0) ∨ s0.y = first.1.y - 1) ∧
      pys = (s0 :: pyStarts last.2 (last.2.y - s0.y + 3).toNat s0).map fun s => (s, (addMonths s 12).pred) := by
  unfold policyYearsCovered at h
  dsimp only at h
  split at h
  · rename_i first last hf hl
    obtain ⟨s1, h1, h⟩ := bind_ok h
    obtain ⟨e1, v1⟩ := mkDate_ok h1
    split at h
    · obtain ⟨s2, h2, h⟩ := bind_ok h
      cases h
      obtain ⟨e2, v2⟩ := mkDate_ok h2
      exact ⟨first, last, s2, hf, hl, v2, .inr (by rw [e2]), rfl⟩
    · rename_i hlt
      cases h
      exact ⟨first, last, s1, hf, hl, v1, .inl ⟨by rw [e1], hlt⟩, rfl⟩
  · cases h

/-- the policy-year starts tile the months up to the last period end -/
theorem pyStarts_cover {lastEnd : Date} (hlv : lastEnd.valid = true) :
    ∀ (fuel : Nat) (s : Date), s.valid = true → 0 ≤ monthToId s →
      monthToId lastEnd - monthToId s < 12 * (fuel : Int) →
      ∀ k, monthToId s ≤ k → k ≤ monthToId lastEnd →
        ∃ s' ∈ s :: pyStarts lastEnd fuel s, s'.valid = true ∧ 0 ≤ monthToId s' ∧
          monthToId s' ≤ k ∧ k ≤ monthToId s' + 11 := by
  intro fuel
  induction fuel with
  | zero =>
    intro s hv h0 hf k h1 h2
    omega
  | succ fuel ih =>
    intro s hv h0 hf k h1 h2
    by_cases hk : k ≤ monthToId s + 11
    · exact ⟨s, by simp, hv, h0, h1, hk⟩
    · have hlt : s < lastEnd := DateOrder.lt_of_monthToId_lt (month_le_of_valid hlv) (by omega)
      obtain ⟨hv', hm'⟩ := addMonths12 hv h0
      obtain ⟨s', hs', r⟩ := ih (addMonths s 12) hv' (by omega) (by push_cast at hf ⊢; omega) k (by omega) h2
      refine ⟨s', ?_, r⟩
      simp only [pyStarts, hlt, if_true]
      exact List.mem_cons_of_mem _ hs'

instance : Std.TransCmp periodCmp := by unfold periodCmp; infer_instance

theorem periods_sorted (sl : List Cell) :
    (periods sl).Pairwise (fun a b => leOf periodCmp a b = true) := by
  unfold periods
  exact sorted_mergeSort (cmp := periodCmp) _

theorem start_le_of_leOf {a b : Date × Date} (h : leOf periodCmp a b = true) : a.1 ≤ b.1 := by
  show cmpOn (·.1) Date.cmp a b ≠ .gt
  exact compareLex_ne_gt_left (c₂ := cmpOn (·.2) Date.cmp) (by simpa [leOf, periodCmp] using h)

theorem reaches_of_months {len : Nat} {q py : Date × Date} (hq : q.1.valid = true) (hd : q.1.d = 1)
    (hle : q.1 ≤ q.2) (h1 : monthToId py.1 ≤ monthToId q.1) (h2 : monthToId q.1 ≤ monthToId py.2) :
    reaches len true q py := by
  have e : idToMonth (monthToId q.1) = q.1 := by
    rw [idToMonth_true, firstOf_monthToId hq hd]
  refine ⟨by simp only [if_true]; omega, monthToId q.1, h1, by simp only [if_true]; omega, ?_, ?_⟩
  · rw [e]; exact DateOrder.le_refl _
  · rw [e]; exact hle

/-- the domain: periods start on the first of a (real) month from 1971 on and end on a real date not
before their start (1971 because the first policy year may start in the previous calendar year and
`add_months` mis-rounds before 1970) -/
def MonthAligned (t : List Cell) : Prop :=
  ∀ c ∈ t, c.ps.valid = true ∧ c.ps.d = 1 ∧ c.pe.valid = true ∧ c.ps ≤ c.pe ∧ 1971 ≤ c.ps.y

theorem reached_of_continuous {sl : List Cell} {origin : Date} {pys : List (Date × Date)} {len : Nat}
    (hdom : MonthAligned sl) (h : policyYearsCovered sl origin = .ok pys) {q : Date × Date}
    (hq : q ∈ periods sl) : ∃ py ∈ pys, reaches len true q py := by
  obtain ⟨first, last, s0, hf, hl, v0, hy, hp⟩ := policyYearsCovered_ok h
  obtain ⟨c, hc, rfl⟩ := mem_periods_iff.mp hq
  obtain ⟨cf, hcf, rfl⟩ := mem_periods_iff.mp (List.mem_of_mem_head? hf)
  obtain ⟨cl, hcl, rfl⟩ := mem_periods_iff.mp (List.mem_of_mem_getLast? hl)
  obtain ⟨cv, cd, cev, cle, _⟩ := hdom c hc
  obtain ⟨fv, _, _, _, fy⟩ := hdom cf hcf
  obtain ⟨lv, _, lev, lle, _⟩ := hdom cl hcl
  dsimp only at hy hp
  -- `have` without expected type: unifying `?a.1 ≤ ?b.1` with `cf.ps ≤ c.ps` first is dear
  have a1 := (head?_min (periods_sorted sl) hf _ hq).elim (fun e => DateOrder.le_of_eq (congrArg Prod.fst e.symm))
    start_le_of_leOf
  have a2 := (getLast?_max (periods_sorted sl) hl _ hq).elim start_le_of_leOf
    fun e => DateOrder.le_of_eq (congrArg Prod.fst e)
  have m1 : monthToId cf.ps ≤ monthToId c.ps := DateOrder.monthToId_mono (month_le_of_valid fv) a1
  have m2 : monthToId c.ps ≤ monthToId cl.pe :=
    (DateOrder.monthToId_mono (month_le_of_valid cv) a2).trans
      (DateOrder.monthToId_mono (month_le_of_valid lv) lle)
  have m0 : monthToId s0 ≤ monthToId cf.ps := by
    rcases hy with ⟨_, hnl⟩ | hy1
    · exact DateOrder.monthToId_mono (month_le_of_valid v0) (DateOrder.not_lt.mp hnl)
    · exact monthToId_le_of_year_lt v0 fv (by omega)
  have h0 : 0 ≤ monthToId s0 := (monthToId_nonneg_iff v0).mpr (by omega)
  obtain ⟨s', hs', v', h0', k1, k2⟩ := pyStarts_cover lev _ s0 v0 h0 (monthToId_sub_lt v0 lev)
    (monthToId c.ps) (by omega) m2
  refine ⟨(s', (addMonths s' 12).pred), ?_, ?_⟩
  · rw [hp]; exact List.mem_map.mpr ⟨s', hs', rfl⟩
  · obtain ⟨va, ma⟩ := addMonths12 v' h0'
    have pm := pred_month va
    exact reaches_of_months cv cd cle k1 (by dsimp only; omega)

/-- **continuous issuance ⇒ `policyCovered`**, on month-aligned accident periods, for every origin and
every policy length ≥ 1 -/
theorem policyCovered_of_continuous {t : List Cell} {len : Nat} (hlen : 1 ≤ len) (origin : Date)
    (hdom : MonthAligned t) : policyCovered t len origin true = true := by
  rw [policyCovered_iff_reached hlen]
  intro sl hsl pys hpys q hq
  exact reached_of_continuous (fun c hc => hdom c (mem_slices_md hsl hc).2) hpys hq

end Bermuda.Units
