/-
C01 closure for `Model/AllOps.lean` (`Op2`): `Triangle.from_dict(j)` returns a canonical triangle for EVERY JSON document `j`
it accepts (hence also for `t.to_dict()`): every cell the decoder produces comes out of
`_parse_observation`, whose constructor call checks the date rules; `_parse_cell_set` only replaces
metadata; the final `Triangle(cells)` sorts and checks the class.
-/
import Bermuda.Lemmas.AllOps
namespace Bermuda.AllOps
open Bermuda Bermuda.Properties.C01 Bermuda.JsonIO

/-! ## the invariant of decoded values: every cell inside satisfies the date rules -/

mutual
def PGood : PVal → Prop
  | .cell c => c.datesOk = true
  | .list l => PGoodL l
  | .dict kvs => PGoodD kvs
  | _ => True
def PGoodL : List PVal → Prop
  | [] => True
  | x :: xs => PGood x ∧ PGoodL xs
def PGoodD : List (String × PVal) → Prop
  | [] => True
  | (_, v) :: r => PGood v ∧ PGoodD r
end

theorem PGoodL_iff (l : List PVal) : PGoodL l ↔ ∀ x ∈ l, PGood x := by
  induction l with
  | nil => simp [PGoodL]
  | cons x xs ih => simp [PGoodL, ih]

theorem PGoodD_iff (d : List (String × PVal)) : PGoodD d ↔ ∀ kv ∈ d, PGood kv.2 := by
  induction d with
  | nil => simp [PGoodD]
  | cons x xs ih => obtain ⟨k, v⟩ := x; simp [PGoodD, ih]

theorem mkDict_good {ps : List (String × PVal)} (h : PGoodD ps) : ∀ kv ∈ mkDict ps, PGood kv.2 := by
  rw [PGoodD_iff] at h
  exact foldl_inv (fun d : Dict PVal => ∀ kv ∈ d, PGood kv.2) (fun _ h => by cases h)
    fun _ p hd hp => Assoc.forall_mem_set hd (h p hp)

/-- `sum("", [])`, `[... for ob in {}]`: an empty string or dict where a list is expected gives the empty list -/
theorem emptyList_good {c : Bool} {e : Err} {r : PVal}
    (h : (if c then Except.ok (PVal.list []) else .error e) = .ok r) : PGood r := by
  split at h <;> cases h
  simp [PGood, PGoodL]

theorem appendList_good {acc : List PVal} {x : PVal} {r : List PVal} (ha : PGoodL acc) (hx : PGood x)
    (h : appendList acc x = .ok r) : PGoodL r := by
  unfold appendList at h
  split at h
  · cases h
    rw [PGood] at hx
    rw [PGoodL_iff] at *
    exact fun y hy => (List.mem_append.mp hy).elim (ha y) (hx y)
  · cases h

theorem pySumLists_good {v r : PVal} (hv : PGood v) (h : pySumLists v = .ok r) : PGood r := by
  unfold pySumLists at h
  split at h
  · obtain ⟨out, ho, rfl⟩ := map_ok h
    rw [PGood, PGoodL_iff] at hv
    rw [PGood]
    exact foldlM_inv PGoodL ho (by simp [PGoodL]) fun _ a _ hacc ha hf => appendList_good hacc (hv a ha) hf
  · exact emptyList_good h
  · exact emptyList_good h
  · cases h

theorem replaceMeta_good {md : JMeta} {x r : PVal} (hx : PGood x) (h : replaceMeta md x = .ok r) :
    PGood r := by
  unfold replaceMeta at h
  split at h
  · cases h; rw [PGood] at hx ⊢; exact hx
  · cases h
  · cases h

theorem pCells_good {d : Dict PVal} {md : JMeta} {r : PVal} (hd : ∀ kv ∈ d, PGood kv.2)
    (h : pCells d md = .ok r) : PGood r := by
  unfold pCells at h
  split at h
  · rename_i obs hobs
    have hg := hd _ (Assoc.mem_of_get? hobs)
    rw [PGood, PGoodL_iff] at hg
    obtain ⟨out, ho, rfl⟩ := map_ok h
    rw [PGood, PGoodL_iff]
    exact mapM_forall ho fun x hx _ => replaceMeta_good (hg x hx)
  · exact emptyList_good h
  · exact emptyList_good h
  · cases h

theorem parseCellSet_good {d : Dict PVal} {r : PVal} (hd : ∀ kv ∈ d, PGood kv.2)
    (h : parseCellSet d = .ok r) : PGood r := by
  unfold parseCellSet at h
  iterate 8 obtain ⟨_, _, h⟩ := bind_ok h
  exact pCells_good hd h

theorem parseObservation_good {d : Dict PVal} {r : PVal} (h : parseObservation d = .ok r) : PGood r := by
  unfold parseObservation at h
  iterate 6 obtain ⟨_, _, h⟩ := bind_ok h
  simp only [] at h
  split at h
  · cases h; rw [PGood]; assumption
  · cases h

theorem objectHook_good (d : Dict PVal) (q : PVal) (hd : PGoodD d) (h : objectHook d = .ok q) : PGood q := by
  rw [PGoodD_iff] at hd
  unfold objectHook at h
  split at h
  · refine pySumLists_good ?_ h
    cases hg : d.get? "slices" with
    | none => simp [PGood]
    | some v => exact hd _ (Assoc.mem_of_get? hg)
  · split at h
    · exact parseCellSet_good hd h
    · split at h
      · exact parseObservation_good h
      · cases h; rw [PGood, PGoodD_iff]; exact hd

mutual
theorem decode_good : ∀ (j : JVal) (p : PVal), decode j = .ok p → PGood p
  | .null, p, h | .bool _, p, h | .int _, p, h | .flt _, p, h | .str _, p, h => by
    simp only [decode] at h; cases h; simp [PGood]
  | .arr l, p, h => by
    simp only [decode] at h
    obtain ⟨ps, hps, rfl⟩ := map_ok h
    simp only [PGood]
    exact decodeList_good l ps hps
  | .obj kvs, p, h => by
    simp only [decode] at h
    obtain ⟨ps, hps, h⟩ := bind_ok h
    refine objectHook_good _ _ ?_ h
    rw [PGoodD_iff]
    exact mkDict_good (decodeKvs_good kvs ps hps)
theorem decodeList_good : ∀ (l : List JVal) (ps : List PVal), decodeList l = .ok ps → PGoodL ps
  | [], ps, h => by simp only [decodeList] at h; cases h; simp [PGoodL]
  | x :: xs, ps, h => by
    simp only [decodeList] at h
    obtain ⟨x', hx', h⟩ := bind_ok h
    obtain ⟨xs', hxs', rfl⟩ := map_ok h
    exact ⟨decode_good x x' hx', decodeList_good xs xs' hxs'⟩
theorem decodeKvs_good : ∀ (l : List (String × JVal)) (ps : List (String × PVal)),
    decodeKvs l = .ok ps → PGoodD ps
  | [], ps, h => by simp only [decodeKvs] at h; cases h; simp [PGoodD]
  | (k, v) :: rest, ps, h => by
    simp only [decodeKvs] at h
    obtain ⟨v', hv', h⟩ := bind_ok h
    obtain ⟨r', hr', rfl⟩ := map_ok h
    exact ⟨decode_good v v' hv', decodeKvs_good rest r' hr'⟩
end

theorem ofJCells_canonical {cells r : List JCell} (hc : ∀ c ∈ cells, c.datesOk = true)
    (h : ofJCells cells = .ok r) : Canonical (r.map JCell.toCell) := by
  unfold ofJCells at h
  split at h
  · rename_i hk
    cases h
    have hperm := List.mergeSort_perm cells JCell.le
    refine ⟨?_, ?_, ?_⟩
    · -- `JCell.le` compares the images under `toCell`; `le` is given explicitly because unification finds it only slowly
      exact List.pairwise_map.mpr (List.pairwise_mergeSort (le := JCell.le)
        (fun a b c => Cell.le_trans a.toCell b.toCell c.toCell)
        (fun a b => leOf_total (cmp := Cell.cmp) a.toCell b.toCell) cells)
    · rw [kindsConsistent_perm (hperm.map JCell.toCell)]; exact hk
    · intro c hcm
      obtain ⟨jc, hjc, rfl⟩ := List.mem_map.mp hcm
      exact hc jc (hperm.mem_iff.mp hjc)
  · cases h

theorem triangleOf_canonical {p : PVal} {r : List JCell} (hp : PGood p) (h : triangleOf p = .ok r) :
    Canonical (r.map JCell.toCell) := by
  unfold triangleOf at h
  split at h
  · rename_i l
    split at h
    · rename_i cells hcells
      refine ofJCells_canonical (fun c hc => ?_) h
      obtain ⟨x, hx, hf⟩ := mapM_some_mem hcells c hc
      rw [PGood, PGoodL_iff] at hp
      have := hp x hx
      cases x <;> simp only [PVal.cell?] at hf <;> try cases hf
      simpa [PGood] using this
    · cases h
  · split at h
    · cases h; exact canonical_nil
    · cases h
  · split at h
    · cases h; exact canonical_nil
    · cases h
  · cases h

theorem fromDict_canonical {j : JVal} {r : List JCell} (h : fromDict j = .ok r) :
    Canonical (r.map JCell.toCell) := by
  unfold fromDict at h
  obtain ⟨p, hp, h⟩ := bind_ok h
  exact triangleOf_canonical (decode_good j p hp) h

theorem jsonRoundTrip_canonical {t r : List Cell} (h : jsonRoundTrip t = .ok r) : Canonical r := by
  unfold jsonRoundTrip at h
  obtain ⟨js, _, h⟩ := bind_ok h
  obtain ⟨jr, hjr, h⟩ := bind_ok h
  cases h
  exact fromDict_canonical hjr

end Bermuda.AllOps
