/-
On the domain `detailKindsComparable` Python's partial `Metadata.__lt__` (`Metadata.cmp?`) is total and equals the
model's total comparison `Metadata.cmp`.
-/
import Bermuda.Model.AllOpsOrder
import Bermuda.Lemmas.Order
namespace Bermuda
open Std

theorem MVal.cmp?_eq {a b : MVal} (h : a.rank = b.rank) : MVal.cmp? a b = .ok (MVal.cmp a b) := by
  unfold MVal.cmp?
  split
  · rename_i he
    have : a = b := by simpa using he
    subst this
    rw [ReflCmp.compare_self (cmp := MVal.cmp)]
  · simp [h]

theorem itemCmp?_eq {a b : String × MVal} (h : a.1 = b.1 → a.2.rank = b.2.rank) :
    itemCmp? a b = .ok (itemCmp a b) := by
  unfold itemCmp? itemCmp
  simp only [compareLex, cmpOn]
  cases hc : compare a.1 b.1 with
  | eq =>
    have hk : a.1 = b.1 := compare_eq_iff_eq.mp hc
    simp only [Ordering.then]
    exact MVal.cmp?_eq (h hk)
  | lt => simp [Ordering.then]
  | gt => simp [Ordering.then]

theorem itemsLex?_eq {xs ys : List (String × MVal)}
    (h : ∀ a ∈ xs, ∀ b ∈ ys, a.1 = b.1 → a.2.rank = b.2.rank) :
    itemsLex? xs ys = .ok (List.compareLex itemCmp xs ys) := by
  induction xs generalizing ys with
  | nil => cases ys <;> simp [itemsLex?, List.compareLex]
  | cons a as ih =>
    cases ys with
    | nil => simp [itemsLex?, List.compareLex]
    | cons b bs =>
      simp only [itemsLex?, List.compareLex]
      rw [itemCmp?_eq (h a (by simp) b (by simp))]
      cases hc : itemCmp a b with
      | eq => simpa using ih (fun x hx y hy => h x (by simp [hx]) y (by simp [hy]))
      | lt => simp
      | gt => simp

theorem dictComparable_spec {d e : Dict MVal} (h : dictComparable d e = true) :
    ∀ a ∈ d, ∀ b ∈ e, a.1 = b.1 → a.2.rank = b.2.rank := by
  intro a ha b hb hk
  unfold dictComparable at h
  have := (List.all_eq_true.mp ((List.all_eq_true.mp h) a ha)) b hb
  simpa [hk] using this

theorem itemsCmp?_eq {d e : Dict MVal} (h : dictComparable d e = true) :
    itemsCmp? d e = .ok (itemsCmp d e) := by
  unfold itemsCmp? itemsCmp sortItems
  simp only [cmpOn]
  exact itemsLex?_eq (fun a ha b hb => dictComparable_spec h a ((List.mergeSort_perm _ _).mem_iff.mp ha) b
    ((List.mergeSort_perm _ _).mem_iff.mp hb))

instance : TransCmp Metadata.headCmp := by unfold Metadata.headCmp; infer_instance

theorem itemsLex?_refl (xs : List (String × MVal)) : itemsLex? xs xs = .ok .eq := by
  induction xs with
  | nil => rfl
  | cons x xs ih =>
    simp only [itemsLex?, itemCmp?, MVal.cmp?]
    rw [show compare x.1 x.1 = .eq from ReflCmp.compare_self]
    simp [ih]

/-- comparing a metadata with itself never raises -/
theorem Metadata.cmp?_self (a : Metadata) : Metadata.cmp? a a = .ok .eq := by
  unfold Metadata.cmp?
  rw [show Metadata.headCmp a a = .eq from ReflCmp.compare_self]
  simp only [itemsCmp?, itemsLex?_refl]

/-- `Metadata.cmp` in the shape of `Metadata.cmp?` -/
theorem Metadata.cmp_split (a b : Metadata) :
    Metadata.cmp a b = (Metadata.headCmp a b).then ((itemsCmp a.details b.details).then (itemsCmp a.lossDetails b.lossDetails)) := by
  simp only [Metadata.cmp, Metadata.headCmp, compareLex, cmpOn, Ordering.then_assoc]

/-- on comparable metadata Python's `<` never raises and is the model's total comparison -/
theorem Metadata.cmp?_eq {a b : Metadata} (h : a.detailKindsComparable b = true) :
    Metadata.cmp? a b = .ok (Metadata.cmp a b) := by
  unfold Metadata.detailKindsComparable at h
  simp only [Bool.and_eq_true] at h
  rw [Metadata.cmp_split]
  unfold Metadata.cmp?
  rw [itemsCmp?_eq h.1, itemsCmp?_eq h.2]
  cases Metadata.headCmp a b <;> simp only [Ordering.then]
  cases itemsCmp a.details b.details <;> simp

theorem dictComparable_symm (d e : Dict MVal) : dictComparable d e = dictComparable e d := by
  have key : ∀ d e : Dict MVal, dictComparable d e = true → dictComparable e d = true := by
    intro d e
    unfold dictComparable
    simp only [List.all_eq_true, Bool.or_eq_true, bne_iff_ne, ne_eq, beq_iff_eq]
    exact fun h b hb a ha => (h a ha b hb).imp (fun h1 e => h1 e.symm) Eq.symm
  exact Bool.eq_iff_iff.mpr ⟨key d e, key e d⟩

theorem Metadata.detailKindsComparable_symm (a b : Metadata) :
    a.detailKindsComparable b = b.detailKindsComparable a := by
  unfold Metadata.detailKindsComparable
  rw [dictComparable_symm a.details, dictComparable_symm a.lossDetails]

end Bermuda
