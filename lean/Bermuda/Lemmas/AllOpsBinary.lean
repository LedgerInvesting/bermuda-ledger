/-
C01 closure for the binary reader (`Model/AllOps3.lean`: `Fn.fromBinary`, `Fn.binaryRoundTrip`): every cell `_read_triangle`
returns went through the constructor's checks (`cellInit`), for EVERY byte string the reader accepts; the bridge to the
shared cell type keeps class and dates.
-/
import Bermuda.Model.AllOps3
import Bermuda.Lemmas.AllOps
import Bermuda.Lemmas.CodecDict
namespace Bermuda.AllOps
open Bermuda Bermuda.Properties.C01 Bermuda.Fn

namespace Bin
open Bermuda.Codec

def RawDates (c : RawCell) : Prop :=
  Cell.datesOk { kind := c.kind, ps := c.ps, pe := c.pe, ev := c.ev, prev := c.prev } = true

/-- `hk`: `readCellBody` reads a `prev` exactly for the incremental class (its callers give it by `rfl`) -/
theorem finishCell_dates {c d : RawCell} {s s' : Bytes} (hk : c.prev.isSome = (c.kind == .incremental))
    (h : finishCell c s = .ok (d, s')) : RawDates d := by
  unfold finishCell at h
  split at h
  · cases h
  · rename_i c' hc'
    cases h
    obtain ⟨rfl, _, h1, h2, h3, h4⟩ := cellInit_eq_ok.mp hc'
    rw [RawDates, Cell.datesOk_iff]
    exact ⟨h1, h2, by simpa using h3, by simp [hk], fun p hp => DateOrder.not_le.mp (h4 p hp)⟩

theorem readCellBody_dates {pool : List (Option Bytes)} {kind : CellKind} {md : RawMetadata} {s s' : Bytes}
    {c : RawCell} (h : readCellBody pool kind md s = .ok (c, s')) : RawDates c := by
  unfold readCellBody at h
  iterate 4 obtain ⟨_, _, _, h⟩ := bindP_eq_ok.mp h
  cases kind
  · exact finishCell_dates rfl h
  · exact finishCell_dates rfl h
  · obtain ⟨_, _, _, h⟩ := bindP_eq_ok.mp h
    exact finishCell_dates rfl h

theorem readRecords_dates {pool : List (Option Bytes)} {f : Nat} {cur : Option RawMetadata} {s : Bytes}
    {cells : List RawCell} (h : readRecords pool f cur s = .ok cells) : ∀ c ∈ cells, RawDates c := by
  induction f generalizing cur s cells with
  | zero => simp [readRecords] at h
  | succ f ih =>
    cases s with
    | nil => simp [readRecords] at h; subst h; simp
    | cons m rest =>
      simp only [readRecords] at h
      split at h
      · split at h
        · cases h
        · exact ih h
      · split at h
        · split at h
          · cases h
          · -- every cell of the output was returned by `readCellBody`; the fuel only bounds the recursion
            rename_i c rest' hc
            split at h
            · cases h
            · rename_i tl htl
              cases h
              intro x hx
              rcases List.mem_cons.mp hx with rfl | hx
              · exact readCellBody_dates hc
              · exact ih htl x hx
        · cases h; simp

theorem decode_dates {s : Bytes} {cells : List RawCell} (h : decode s = .ok cells) : ∀ c ∈ cells, RawDates c := by
  unfold decode at h
  split at h
  · cases h
  · split at h
    · cases h
    · split at h
      · cases h
      · exact readRecords_dates h

theorem cellOfRaw_dates {c : RawCell} {d : Cell} (hc : RawDates c) (h : cellOfRaw c = .ok d) : d.datesOk = true := by
  unfold cellOfRaw at h
  obtain ⟨vals, _, h⟩ := bind_ok h
  obtain ⟨md, _, h⟩ := bind_ok h
  cases h
  exact hc

end Bin

/-- `Triangle.from_binary`: canonical for EVERY byte string the reader accepts -/
theorem fromBinary_canonical {s : Codec.Bytes} {r : List Cell} (h : Fn.fromBinary s = .ok r) : Canonical r := by
  unfold Fn.fromBinary at h
  obtain ⟨raw, hraw, h⟩ := bind_ok h
  obtain ⟨cells, hc, h⟩ := bind_ok h
  exact ofCells_canonical h (mapM_forall hc fun rc hrc _ => Bin.cellOfRaw_dates (Bin.decode_dates hraw rc hrc))

theorem binaryRoundTrip_canonical {t r : List Cell} {ext : Codec.Ext} {wflag : Bool} {rflag : Option Bool}
    (h : Fn.binaryRoundTrip t ext wflag rflag = .ok r) : Canonical r := by
  unfold Fn.binaryRoundTrip at h
  obtain ⟨_, _, h⟩ := bind_ok h
  obtain ⟨_, _, h⟩ := bind_ok h
  split at h
  · exact fromBinary_canonical h
  · cases h

end Bermuda.AllOps
