/-
C07, writing direction: the document `toDict t` of a well-formed triangle, read by the independent
plain reader with STRICT ISO dates (`Spec.C07.plainReadStrict`), is the triangle itself —
`toDict_shape_strict`; the same for the lenient reader (`toDict_shape`) follows because the strict
reader is a restriction of it. For the grouping, a sorted triangle's `groupBy` by metadata gives its
contiguous runs (`GroupL.groupBy_contiguous`), metadata being the first sort key and canonical.
-/
import Bermuda.Lemmas.GroupByFacts
import Bermuda.Lemmas.JsonIOStrict
namespace Bermuda.JsonIO
open Bermuda Bermuda.Spec.C07 Std Bermuda.GroupL

theorem floor_of_den_one (q : Rat) (h : q.den = 1) : ((q.floor : Int) : Rat) = q := by
  have : q.floor = q.num := by simp [Rat.floor, h]
  rw [this]
  apply Rat.ext <;> simp [h]

theorem filterMap_map_some {α β : Type} {F : α → β} {f : β → Option α} :
    ∀ l : List α, (∀ a ∈ l, f (F a) = some a) → (l.map F).filterMap f = l
  | [], _ => rfl
  | a :: t, h => by
    rw [List.map_cons, List.filterMap_cons, h a List.mem_cons_self,
      filterMap_map_some t fun x hx => h x (List.mem_cons_of_mem _ hx)]

theorem readVal_valToJ (v : Val) (h : wfVal v = true) : readVal (valToJ v) = some v := by
  cases v with
  | arr isInt shape data =>
    simp only [wfVal, Bool.and_eq_true, beq_iff_eq, Bool.or_eq_true, Bool.not_eq_true'] at h
    obtain ⟨rfl, hi⟩ := h
    have hv : valToJ (.arr isInt [data.length] data) =
        .arr (data.map fun q => if isInt then JVal.int q.floor else JVal.flt q) := by
      simp only [valToJ]
    rw [hv]
    simp only [readVal, readArray]
    cases isInt with
    | true =>
      simp only [Bool.true_eq_false, false_or, List.all_eq_true] at hi
      obtain ⟨hne, hall⟩ := hi
      -- int64 entries are integers, so `tolist()` then `np.array` gives them back
      have hint : (data.map fun q => JVal.int q.floor).filterMap jInt? = data :=
        filterMap_map_some data fun q hq => by
          have := hall q hq
          simp only [int64, Bool.and_eq_true, beq_iff_eq] at this
          exact congrArg some (floor_of_den_one q this.1.1)
      simp only [if_true, hint, List.length_map, List.isEmpty_map]
      simp [hne]
    | false =>
      have e1 : (data.map fun q => JVal.flt q).filterMap jInt? = [] := by
        rw [List.filterMap_map]; exact List.filterMap_eq_nil_iff.mpr fun _ _ => rfl
      have e2 : (data.map fun q => JVal.flt q).filterMap jNum? = data := filterMap_map_some data fun _ _ => rfl
      simp only [Bool.false_eq_true, if_false, e1, e2, List.length_map, List.isEmpty_map]
      cases data with
      | nil => rfl
      | cons a t => simp
  | _ => rfl

/-! ### objects written from a table of optional entries

Both `_cell_to_dict` and `_slice_to_dict` write a fixed sequence of keys, leaving some out
(`prev_evaluation_date`; `None` / `{}` metadata). -/

theorem jLookup_append (a b : List (String × JVal)) (k : String) :
    jLookup (a ++ b) k = (jLookup a k).or (jLookup b k) :=
  Assoc.get?_append a b k

def optEntry (k : String) : Option JVal → List (String × JVal)
  | none => []
  | some v => [(k, v)]

def written : List (String × Option JVal) → List (String × JVal)
  | [] => []
  | (k, o) :: rest => optEntry k o ++ written rest

theorem written_keys : ∀ L : List (String × Option JVal), ((written L).map (·.1)).Sublist (L.map (·.1))
  | [] => .slnil
  | (_, none) :: rest => (written_keys rest).cons _
  | (_, some _) :: rest => (written_keys rest).cons_cons _

/-- the key checks of `readCellS` / `readSliceS` on a written object -/
theorem written_keys_ok {L : List (String × Option JVal)} {allowed : List String}
    (hk : L.map (·.1) = allowed) (hn : allowed.Nodup) :
    (nodupKeys ((written L).map (·.1)) && ((written L).map (·.1)).all allowed.contains) = true := by
  have hs := hk ▸ written_keys L
  rw [Bool.and_eq_true, nodupKeys_iff, List.all_eq_true]
  exact ⟨hs.nodup hn, fun k hk => List.contains_iff_mem.mpr (hs.subset hk)⟩

theorem jLookup_written : ∀ {L : List (String × Option JVal)}, (L.map (·.1)).Nodup → ∀ k o, (k, o) ∈ L →
    jLookup (written L) k = o
  | (k', o') :: rest, hn, k, o, hm => by
    rw [List.map_cons, List.nodup_cons] at hn
    have hrest : ∀ k, k ∉ rest.map (·.1) → jLookup (written rest) k = none := fun k hk =>
      Assoc.get?_eq_none_iff.mpr fun h => hk ((written_keys rest).subset h)
    rw [written, jLookup_append]
    rcases List.mem_cons.mp hm with he | hm
    · cases he
      rw [hrest _ hn.1]
      cases o' <;> simp [optEntry, jLookup]
    · have hk : k ∈ rest.map (·.1) := List.mem_map.mpr ⟨(k, o), hm, rfl⟩
      have hne : (k' == k) = false := beq_false_of_ne fun he => hn.1 (he ▸ hk)
      rw [jLookup_written hn.2 k o hm]
      cases o' <;> simp [optEntry, jLookup, hne]

/-- by row index: `rfl` finds the row, no key is compared -/
theorem jLookup_written_row {L : List (String × Option JVal)} (hn : (L.map (·.1)).Nodup) (i : Nat) {k o}
    (h : L[i]? = some (k, o)) : jLookup (written L) k = o :=
  jLookup_written hn k o (List.mem_of_getElem? h)

def cellOpts (c : JCell) : List (String × Option JVal) :=
  [("period_start", some (.str (dateIso c.ps))), ("period_end", some (.str (dateIso c.pe))),
   ("evaluation_date", some (.str (dateIso c.ev))),
   ("prev_evaluation_date", c.prev.map fun p => .str (dateIso p)),
   ("values", some (.obj (c.values.map fun kv => (kv.1, valToJ kv.2))))]

theorem cellOpts_keys (c : JCell) : (cellOpts c).map (·.1) = cellKeys := rfl

/-- the constructor's rule — a previous evaluation date exactly on incremental cells — makes the key
`prev_evaluation_date` appear exactly when the reader will build an incremental cell; the three
class / `prev` combinations the rule refuses are contradictory -/
theorem cellToDict_eq (c : JCell) (h : c.datesOk = true) :
    cellToDict c = .obj (written (cellOpts c)) ∧
      mkObservation c.prev.isSome c.ps c.pe c.ev c.prev c.values = { typed c with md := {} } ∧
      ({ typed c with md := {} } : JCell).datesOk = true := by
  obtain ⟨kind, ps, pe, ev, prev, values, md⟩ := c
  cases kind <;> cases prev <;> first | exact ⟨rfl, rfl, h⟩ | simp [JCell.datesOk, Cell.datesOk] at h

theorem readDateS_of_lookup {kvs k d} (hl : jLookup kvs k = some (.str (dateIso d))) (hd : wfDate d = true) :
    readDateS kvs k = some d := by
  rw [readDateS, hl]; exact strictIso_dateIso d hd

theorem readCellS_cellToDict (c : JCell) (h : wfCell c = true) :
    readCellS (cellToDict c) = some { typed c with md := {} } := by
  simp only [wfCell, Bool.and_eq_true] at h
  obtain ⟨⟨⟨⟨⟨⟨⟨⟨hps, hpe⟩, hev⟩, hprev⟩, hok⟩, htf⟩, hnd⟩, hvals⟩, _⟩ := h
  obtain ⟨hd, hc, hok'⟩ := cellToDict_eq c hok
  have look := @jLookup_written_row (cellOpts c) (by rw [cellOpts_keys]; decide)
  have lp := look 3 rfl
  have hcont : ((written (cellOpts c)).map (·.1)).contains "prev_evaluation_date" = c.prev.isSome := by
    rw [← Assoc.get?_isSome]
    show (jLookup _ _).isSome = _
    rw [lp]; cases c.prev <;> rfl
  have h4 : readPrevS (written (cellOpts c)) = some c.prev := by
    rw [readPrevS, hcont]
    cases hp : c.prev with
    | none => rfl
    | some p => rw [hp] at hprev lp; rw [readDateS_of_lookup lp hprev]; rfl
  have h5 : readValues (written (cellOpts c)) = some c.values := by
    rw [readValues, look 4 rfl]
    simp only [keys_map_snd, hnd, htf, Bool.and_self, if_true]
    exact mapM_map_pure_self _ _ c.values fun kv hkv => by
      simp only [readVal_valToJ kv.2 (List.all_eq_true.mp hvals kv hkv)]; rfl
  simp only [hd, readCellS, written_keys_ok (cellOpts_keys c) (by decide), if_true,
    readDateS_of_lookup (look 0 rfl) hps, readDateS_of_lookup (look 1 rfl) hpe,
    readDateS_of_lookup (look 2 rfl) hev, h4, h5, Option.bind_some, hcont, hc, hok']

def detailsJ (d : Dict Scalar) : Option JVal :=
  if d.isEmpty then none else some (.obj (d.map fun kv => (kv.1, kv.2.toJ)))

/-- the nine entries `_slice_to_dict` may write, in its order; `none`: left out -/
def sliceOpts (m : JMeta) (x : JVal) : List (String × Option JVal) :=
  [("currency", m.currency.map .str), ("country", m.country.map .str), ("risk_basis", m.riskBasis.map .str),
   ("reinsurance_basis", m.reinsuranceBasis.map .str), ("loss_definition", m.lossDefinition.map .str),
   ("per_occurrence_limit", if m.limit = .null then none else some m.limit.toJ),
   ("details", detailsJ m.details), ("loss_details", detailsJ m.lossDetails), ("cells", some x)]

theorem sliceToDict_eq (c : JCell) (rest : List JCell) :
    sliceToDict (c :: rest) = .obj (written (sliceOpts c.md (.arr ((c :: rest).map cellToDict)))) := by
  have o : ∀ k (o : Option String), optStrEntry k o = optEntry k (o.map .str) := fun k o => by cases o <;> rfl
  have d : ∀ k d, detailsEntry k d = optEntry k (detailsJ d) := fun k d => by
    unfold detailsEntry detailsJ; cases d.isEmpty <;> rfl
  have l : (if c.md.limit = .null then [] else [("per_occurrence_limit", c.md.limit.toJ)]) =
      optEntry "per_occurrence_limit" (if c.md.limit = .null then none else some c.md.limit.toJ) := by
    split <;> rfl
  simp only [sliceToDict, metaEntries, o, d, l, sliceOpts, written, List.append_assoc, List.append_nil]
  rfl

theorem sliceOpts_keys (m : JMeta) (x : JVal) : (sliceOpts m x).map (·.1) = sliceKeys := rfl

theorem readStrAttr_of_lookup {kvs k dflt} (o : Option String) (hl : jLookup kvs k = o.map .str) (hd : o = none → dflt = none) :
    readStrAttr kvs k dflt = some o := by
  rw [readStrAttr, hl]
  cases o with
  | none => rw [hd rfl]; rfl
  | some s => rfl

theorem readLimit_of_lookup {kvs} {s : Scalar}
    (h : (match s with | .null | .int _ | .flt _ => true | _ => false) = true)
    (hl : jLookup kvs "per_occurrence_limit" = if s = .null then none else some s.toJ) : readLimit kvs = some s := by
  rw [readLimit, hl]
  cases s <;> first | rfl | cases h

theorem readScalar_toJ (s : Scalar) : readScalar s.toJ = some s := by cases s <;> rfl

theorem readDetails_of_lookup {kvs k d} (hl : jLookup kvs k = detailsJ d) (h : wfDetails d = true) : readDetails kvs k = some d := by
  simp only [wfDetails, Bool.and_eq_true] at h
  rw [readDetails, hl, detailsJ]
  by_cases he : d.isEmpty = true
  · rw [if_pos he, List.isEmpty_iff.mp he]
  · rw [if_neg he]
    simp only [keys_map_snd, h.1.1, h.1.2, Bool.and_self, if_true]
    exact mapM_map_pure_self _ _ d fun kv _ => by simp only [readScalar_toJ]; rfl

theorem readSliceS_sliceToDict (g : List JCell) (m : JMeta) (hne : g ≠ [])
    (hwf : ∀ c ∈ g, wfCell c = true) (hmd : ∀ c ∈ g, c.md = m) :
    readSliceS (sliceToDict g) = some (asTyped g) := by
  cases g with
  | nil => exact absurd rfl hne
  | cons c0 rest =>
    have hwm := hwf c0 List.mem_cons_self
    simp only [wfCell, wfMeta, Bool.and_eq_true, hmd c0 List.mem_cons_self] at hwm
    obtain ⟨_, ⟨⟨hrb, hlim⟩, hd1⟩, hd2⟩ := hwm
    rw [sliceToDict_eq, hmd c0 List.mem_cons_self]
    have look := @jLookup_written_row (sliceOpts m (.arr ((c0 :: rest).map cellToDict)))
      (by rw [sliceOpts_keys]; decide)
    have hc : readCellsS (written (sliceOpts m (.arr ((c0 :: rest).map cellToDict)))) =
        some ((c0 :: rest).map fun c => { typed c with md := {} }) := by
      rw [readCellsS, look 8 rfl]
      exact mapM_map_pure _ _ _ _ fun c hc => readCellS_cellToDict c (hwf c hc)
    simp only [readSliceS, written_keys_ok (sliceOpts_keys m _) (by decide), if_true,
      readStrAttr_of_lookup (dflt := some "Accident") m.riskBasis (look 2 rfl)
        (fun h => by rw [h] at hrb; cases hrb),
      readStrAttr_of_lookup m.country (look 1 rfl) fun _ => rfl,
      readStrAttr_of_lookup m.currency (look 0 rfl) fun _ => rfl,
      readStrAttr_of_lookup m.reinsuranceBasis (look 3 rfl) fun _ => rfl,
      readStrAttr_of_lookup m.lossDefinition (look 4 rfl) fun _ => rfl,
      readLimit_of_lookup hlim (look 5 rfl),
      readDetails_of_lookup (look 6 rfl) hd1,
      readDetails_of_lookup (look 7 rfl) hd2, hc,
      Option.bind_some, Option.map_some, Option.some.injEq]
    rw [asTyped_eq_map, List.map_map]
    refine List.map_congr_left fun c hc' => ?_
    obtain ⟨kind, ps, pe, ev, prev, values, md⟩ := c
    cases (hmd _ hc' : md = m)
    rfl

theorem toMetadata_canon (m : JMeta) (h : wfMeta m = true) : m.toMetadata.Canon := by
  simp only [wfMeta, wfDetails, Bool.and_eq_true] at h
  obtain ⟨⟨_, ⟨⟨_, n1⟩, _⟩⟩, ⟨⟨_, n2⟩, _⟩⟩ := h
  constructor
  · apply dictCanon_sortItems
    rw [List.map_map]
    exact (nodupKeys_iff _).mp n1
  · apply dictCanon_sortItems
    rw [List.map_map]
    exact (nodupKeys_iff _).mp n2

theorem le_md {a b : JCell} (h : JCell.le a b = true) :
    Metadata.cmp a.md.toMetadata b.md.toMetadata ≠ .gt :=
  Cell.le_md (a := a.toCell) (b := b.toCell) h

theorem sorted_contig (t : List JCell) (hs : t.Pairwise (fun a b => JCell.le a b = true))
    (hwf : ∀ c ∈ t, wfMeta c.md = true) :
    ∀ l1 a b l2, t = l1 ++ a :: b :: l2 → b.md.toMetadata ≠ a.md.toMetadata →
      ∀ x ∈ l2, x.md.toMetadata ≠ a.md.toMetadata := by
  rintro l1 a b l2 rfl hb x hx hxa
  obtain ⟨ha, hp⟩ := List.pairwise_cons.mp (List.pairwise_append.mp hs).2.1
  -- `a ≤ b ≤ x` in the first sort key, in which `a` and `x` agree
  have := eq_of_between (cmp := Metadata.cmp) (bne_iff_ne.mpr (le_md (ha b List.mem_cons_self)))
    (bne_iff_ne.mpr (le_md ((List.pairwise_cons.mp hp).1 x hx))) (hxa ▸ ReflCmp.compare_self)
  exact hb ((Metadata.cmp_eq_eq (toMetadata_canon _ (hwf a (by simp))) (toMetadata_canon _ (hwf b (by simp)))).mp
    this).symm

theorem wfMeta_of_wfCell {c : JCell} (h : wfCell c = true) : wfMeta c.md = true := by
  simp only [wfCell, Bool.and_eq_true] at h
  exact h.2

theorem flatten_groups_of_WFjson (t : List JCell) (h : WFjson t = true) :
    ((groupBy (fun c : JCell => c.md.toMetadata) t).map (·.2)).flatten = t := by
  simp only [WFjson, Bool.and_eq_true, List.all_eq_true] at h
  exact groupBy_contiguous _ t
    (sorted_contig t (pairwise_of_sortedJ t h.1.2) fun c hc => wfMeta_of_wfCell (h.1.1.1 c hc))

/-- a group is a sublist of the triangle, hence sorted: the `mergeSort` of `slicesOf` changes nothing -/
theorem slicesOf_of_sorted (t : List JCell) (hs : sortedJ t = true) :
    slicesOf t = (groupBy (fun c : JCell => c.md.toMetadata) t).map (·.2) :=
  List.map_congr_left fun _ hg => List.mergeSort_of_pairwise
    ((pairwise_of_sortedJ t hs).sublist (groupBy_group_eq hg ▸ List.filter_sublist))

theorem sameCells_refl (a : List JCell) : sameCells a a = true := by simp [sameCells]

/-- the property `C07.toDict_shape_strict` -/
theorem toDict_shape_strict (t : List JCell) (h : WFjson t = true) :
    plainReadStrict (toDict t) = some (asTyped t) := by
  have flat := flatten_groups_of_WFjson t h
  simp only [WFjson, mdCoherent, Bool.and_eq_true, List.all_eq_true] at h
  obtain ⟨⟨⟨hwf, _⟩, hs⟩, hco⟩ := h
  have hsl := slicesOf_of_sorted t hs
  have hgroup : ∀ g ∈ (groupBy (fun c : JCell => c.md.toMetadata) t).map (·.2),
      readSliceS (sliceToDict g) = pure (asTyped g) := by
    intro g hg
    obtain ⟨p, hp', rfl⟩ := List.mem_map.mp hg
    have hmem : ∀ c ∈ p.2, c ∈ t := fun c hc =>
      (List.mem_filter.mp (groupBy_group_eq hp' ▸ hc)).1
    have hne := groupBy_group_ne_nil hp'
    obtain ⟨c0, hc0⟩ := List.exists_mem_of_ne_nil _ hne
    refine readSliceS_sliceToDict p.2 c0.md hne (fun c hc => hwf c (hmem c hc)) fun c hc => ?_
    -- one group has one `Metadata`, so by coherence one JSON-level metadata
    have := hco c (hmem c hc) c0 (hmem c0 hc0)
    simp only [Bool.or_eq_true, bne_iff_ne, ne_eq, beq_iff_eq] at this
    exact this.resolve_left fun h1 => h1 (by rw [key_of_mem_groupBy hp' hc, key_of_mem_groupBy hp' hc0])
  rw [toDict, plainReadStrict_slices, hsl, mapM_map_pure readSliceS sliceToDict asTyped _ hgroup]
  simp only [Option.pure_def, Option.map_some, Option.some.injEq]
  conv => rhs; rw [← flat]
  simp only [asTyped_eq_map, List.map_flatten, List.map_map]
  rfl

/-- the property `C07.toDict_shape`: the strict reader is a restriction of the lenient one -/
theorem toDict_shape (t : List JCell) (h : WFjson t = true) :
    plainRead (toDict t) = some (asTyped t) :=
  plainRead_of_strict (toDict_shape_strict t h)

end Bermuda.JsonIO
