/-
Helper lemmas for the two extra accessors of C13 (`is_slicewise_disjoint`, `slice_period_rows`):
`ascBy` as `Pairwise`, `Triangle.slicePeriodRows` as a `Partition` by (metadata, period) with ascending keys and rows.
Core Lean only.
-/
import Bermuda.Model.AccessorsExt
import Bermuda.Spec.C13Ext
import Bermuda.Lemmas.Accessors
import Bermuda.Lemmas.Partition
namespace Bermuda.C13L
open Bermuda Std Bermuda.Spec.C13

theorem slicewiseDisjoint_iff (t : List Cell) : slicewiseDisjoint t = true ↔
    ∀ a ∈ t, ∀ b ∈ t, a.md = b.md → a.period = b.period ∨ overlap a.period b.period = false := by
  simp only [slicewiseDisjoint, List.all_eq_true, Bool.or_eq_true, bne_iff_ne, beq_iff_eq, Bool.not_eq_true',
    or_assoc]
  exact forall₂_congr fun a _ => forall₂_congr fun b _ => Decidable.imp_iff_not_or.symm

instance : TransCmp rowKeyCmp := by unfold rowKeyCmp; infer_instance

theorem ascBy_iff {α} (le : α → α → Bool) (l : List α) :
    ascBy le l = true ↔ l.Pairwise (fun a b => le a b = true) := by
  induction l with
  | nil => simp [ascBy]
  | cons a l ih => simp [ascBy, ih, List.pairwise_cons]

theorem rows_partition (t : List Cell) : Partition Cell.rowKey t (Triangle.slicePeriodRows t) :=
  ((groupBy_partition Cell.rowKey t).reorder (List.mergeSort_perm _ _)).mapGroups
    (f := fun r => r.mergeSort (leOf evCmp)) fun _ _ => List.mergeSort_perm _ _

theorem rows_keys_asc (t : List Cell) :
    ((Triangle.slicePeriodRows t).map (·.1)).Pairwise (fun a b => (rowKeyCmp a b != .gt) = true) := by
  unfold Triangle.slicePeriodRows
  rw [List.map_map]
  rw [List.pairwise_map]
  exact sorted_mergeSort (cmp := cmpOn (fun p : SliceRowKey × List Cell => p.1) rowKeyCmp) _

theorem row_sorted {t : List Cell} {p : SliceRowKey × List Cell} (hp : p ∈ Triangle.slicePeriodRows t) :
    p.2.Pairwise (fun a b => leOf evCmp a b) := by
  obtain ⟨q, -, rfl⟩ := List.mem_map.mp hp
  exact sorted_mergeSort (cmp := evCmp) _

end Bermuda.C13L
