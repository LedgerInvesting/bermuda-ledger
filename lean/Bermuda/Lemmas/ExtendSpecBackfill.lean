/-
C15: the executable clauses of `backfillSpec` hold of the model's `backfill`.
-/
import Bermuda.Lemmas.ExtendSpecFill
import Bermuda.Lemmas.ExtendBackfill
namespace Bermuda.Extend

/-! ### the head of a period row -/

structure PRowFacts (t : List Cell) (row : Period × List Cell) (first : Cell) : Prop where
  head : row.2.head? = some first
  mem : first ∈ t
  period : cellPeriod first = row.1
  earliest : ∀ o ∈ t, rowKey o = rowKey first → ¬ (o.ev < first.ev)
  lowest : ∀ o ∈ t, cellPeriod o = row.1 → Metadata.cmp first.md o.md ≠ .gt

theorem prow_facts {t : List Cell} {row : Period × List Cell} (hrow : row ∈ periodRows t) :
    ∃ first, PRowFacts t row first := by
  obtain ⟨hmem, hsorted⟩ := periodRows_spec hrow
  have hne := (periodRows_partition t).ne_nil hrow
  obtain ⟨first, hf⟩ := Option.isSome_iff_exists.mp (List.isSome_head?.mpr hne)
  have hfr : first ∈ row.2 := List.mem_of_head? hf
  obtain ⟨hft, hfp⟩ := (hmem first).mp hfr
  refine ⟨first, hf, hft, hfp, ?_, ?_⟩
  · intro o ho hk
    have hor : o ∈ row.2 := (hmem o).mpr ⟨ho, (rowKey_iff_period.mp hk).1.trans hfp⟩
    rcases head?_min hsorted hf o hor with rfl | hle
    · exact DateOrder.lt_irrefl _
    · have := (mdEvCmp_not_gt hle).2
      apply this
      rw [(rowKey_eq_iff.mp hk).1]
      exact Std.ReflCmp.compare_self
  · intro o ho hp
    have hor : o ∈ row.2 := (hmem o).mpr ⟨ho, hp⟩
    rcases head?_min hsorted hf o hor with rfl | hle
    · rw [Std.ReflCmp.compare_self (cmp := Metadata.cmp)]; simp
    · exact (mdEvCmp_not_gt hle).1

/-! ### the domain hypothesis of the loop -/

/-- the loop of `backfill` on a row starting at `first` (the earliest observation of its slice row) runs
down to its bound: every cell it would create passes the `Cell` constructor (the Python loop `break`s at the
first `ValueError`) and lies in a month from 1970 on. The proofs use only the constructor part: `add_months` from a
month-end `period_end` by whole months is exact in every year (`addMonths_form`) -/
def BackfillOk (t : List Cell) (res lo : Int) : Prop :=
  ∀ first ∈ t, (∀ o ∈ t, rowKey o = rowKey first → ¬ (o.ev < first.ev)) →
    ∀ i : Nat, i < backfillSteps first.devLag res lo →
      0 ≤ monthToId first.ev - ((i : Int) + 1) * res ∧
      ({ first with
          ev := addMonths first.pe (first.devLag - (((i : Int) + 1 : Int) : Rat) * (res : Rat)) } : Cell).datesOk
        = true

theorem backfillCell_datesOk (first : Cell) (repl : Dict Val) (res : Int) (i : Nat) :
    (backfillCell first repl res i).datesOk =
      ({ first with
          ev := addMonths first.pe (first.devLag - (((i : Int) + 1 : Int) : Rat) * (res : Rat)) } : Cell).datesOk
      := rfl

theorem backfillCell_rowKey (first : Cell) (repl : Dict Val) (res : Int) (i : Nat) :
    rowKey (backfillCell first repl res i) = rowKey first := rfl

/-- the evaluation date of the `i`-th backfilled cell -/
theorem backfillCell_ev {first : Cell} (hal : MonthAligned first) (repl : Dict Val) (res : Int) (i : Nat) :
    (backfillCell first repl res i).ev =
      monthEndOf (monthToId first.pe + (lagInt first - ((i : Int) + 1) * res)) := by
  have hcast : first.devLag - (((i : Int) + 1 : Int) : Rat) * (res : Rat)
      = (((lagInt first - ((i : Int) + 1) * res : Int)) : Rat) := by
    rw [devLag_lagInt hal]; push_cast; ring
  show addMonths first.pe (first.devLag - (((i : Int) + 1 : Int) : Rat) * (res : Rat)) = _
  rw [hcast, addMonths_form hal]

theorem backfillCell_before {first : Cell} (hal : MonthAligned first) (repl : Dict Val) {res : Int} {i : Nat}
    (hres : 0 < res) : (backfillCell first repl res i).ev < first.ev := by
  rw [backfillCell_ev hal repl res i, ev_monthEndOf hal, monthEndOf_lt_monthEndOf]
  have : 0 < ((i : Int) + 1) * res := Int.mul_pos (by omega) hres
  omega

theorem backfill_block {t : List Cell} (hD : SpecDomain t) {row : Period × List Cell}
    (hrow : row ∈ periodRows t) {statics : List String} {res? : Option Int} {minLag minAllowed : Int}
    {ys : List Cell} (h : backfillRow statics res? minLag minAllowed row.2 = .ok ys) :
    (ys.map ckey).Nodup ∧ ∀ a ∈ ys, cellPeriod a = row.1 ∧
      ∃ first, PRowFacts t row first ∧ ∃ repl, replacementValues first statics = .ok repl ∧
        ∃ res, res? = some res ∧ 0 < res ∧ ∃ i, i < backfillSteps first.devLag res (max minLag minAllowed) ∧
          a = backfillCell first repl res i ∧ a.ev < first.ev := by
  rcases backfillRow_shape h with ⟨rfl, _⟩ | ⟨first, repl, res, hf, hrepl, rfl, hpos, rfl⟩
  · simp
  · obtain ⟨first', hP⟩ := prow_facts hrow
    have : first' = first := by have := hP.head; rw [hf] at this; cases this; rfl
    subst this
    have hal := hD.aligned first' hP.mem
    constructor
    · apply List.Nodup.sublist ((takeValid_sublist _).map ckey)
      rw [List.map_map]
      apply List.Nodup.map_on ?_ List.nodup_range
      intro i hi j hj hij
      have h1 := (ckey_eq_iff.mp hij).2
      rw [backfillCell_ev hal repl res i, backfillCell_ev hal repl res j] at h1
      have h2 := monthEndOf_inj.mp h1
      have h3 : ((i : Int) + 1) * res = ((j : Int) + 1) * res := by omega
      have h4 := Int.eq_of_mul_eq_mul_right (by omega) h3
      omega
    · intro a ha
      have ha' := takeValid_sublist _ |>.subset ha
      obtain ⟨i, hi, rfl⟩ := List.mem_map.mp ha'
      have hi' := List.mem_range.mp hi
      exact ⟨hP.period, first', hP, repl, hrepl, res, rfl, hpos, i, hi', rfl, backfillCell_before hal repl hpos⟩

/-- everything the bridges need to know about a successful `backfill` on the domain -/
structure BackfillFacts (t out : List Cell) (statics : List String) (res? : Option Int) (minLag : Int) :
    Prop where
  canonical : Properties.C01.Canonical out
  keys : (out.map ckey).Nodup
  sub : ∀ c ∈ t, c ∈ out
  added : ∀ a ∈ out, a ∈ t ∨ ∃ pres row first repl res i, periodResolution t = some pres ∧
    row ∈ periodRows t ∧ PRowFacts t row first ∧ replacementValues first statics = .ok repl ∧
    resolvedRes t res? = some res ∧ 0 < res ∧ i < backfillSteps first.devLag res (max minLag (-pres + 1)) ∧
    a = backfillCell first repl res i ∧ a.ev < first.ev

theorem backfill_facts {t out : List Cell} {statics : List String} {res? : Option Int} {minLag : Int}
    (hD : SpecDomain t) (h : backfill t statics res? minLag = .ok out) :
    BackfillFacts t out statics res? minLag := by
  obtain ⟨pres, parts, hpres, hparts, hperm⟩ := backfill_perm h
  have haddfacts : ∀ a ∈ parts.flatten, ∃ row first repl res i,
      row ∈ periodRows t ∧ PRowFacts t row first ∧ replacementValues first statics = .ok repl ∧
      resolvedRes t res? = some res ∧ 0 < res ∧ i < backfillSteps first.devLag res (max minLag (-pres + 1)) ∧
      a = backfillCell first repl res i ∧ a.ev < first.ev := by
    intro a ha
    obtain ⟨row, hrow, ys, hys, hay⟩ := (mapM_flatten_mem hparts a).mp ha
    obtain ⟨_, first, hP, repl, hrepl, res, hres, hpos, i, hi, rfl, hlt⟩ := (backfill_block hD hrow hys).2 a hay
    exact ⟨row, first, repl, res, i, hrow, hP, hrepl, hres, hpos, hi, rfl, hlt⟩
  refine ⟨AllOps.backfill_canonical hD.canonical.2.2 h, ?_, ?_, ?_⟩
  · rw [(hperm.map ckey).nodup_iff, List.map_append, List.nodup_append]
    refine ⟨hD.nodup, ?_, ?_⟩
    · apply mapM_blocks_keys_nodup
        (fun r : Period × List Cell => backfillRow statics (resolvedRes t res?) minLag (-pres + 1) r.2)
        (·.1) cellPeriod
        (fun a b hab => (rowKey_iff_period.mp (ckey_eq_iff.mp hab).1).1)
        _ _ (periodRows_partition t).nodup hparts
      intro row hrow ys hys
      exact ⟨(backfill_block hD hrow hys).1, fun c hc => ((backfill_block hD hrow hys).2 c hc).1⟩
    · intro x hx y hy hxy
      obtain ⟨o, ho, rfl⟩ := List.mem_map.mp hx
      obtain ⟨a, ha, rfl⟩ := List.mem_map.mp hy
      obtain ⟨row, first, repl, res, i, _, hP, _, _, _, _, rfl, hlt⟩ := haddfacts a ha
      obtain ⟨h1, h2⟩ := ckey_eq_iff.mp hxy
      apply hP.earliest o ho (by rw [h1]; rfl)
      rw [h2]; exact hlt
  · exact fun c hc => hperm.mem_iff.mpr (List.mem_append_left _ hc)
  · intro a ha
    rcases List.mem_append.mp (hperm.mem_iff.mp ha) with ha | ha
    · exact Or.inl ha
    · right
      obtain ⟨row, first, repl, res, i, hrow, hP, hrepl, hres, hpos, hi, rfl, hlt⟩ := haddfacts a ha
      exact ⟨pres, row, first, repl, res, i, hpres, hrow, hP, hrepl, hres, hpos, hi, rfl, hlt⟩

/-- completeness: every step of every period row is in the output -/
theorem backfill_cell_mem {t out : List Cell} {statics : List String} {res? : Option Int}
    {minLag pres res : Int} (h : backfill t statics res? minLag = .ok out)
    (hpres : periodResolution t = some pres) (hres : resolvedRes t res? = some res) (hpos : 0 < res)
    {row : Period × List Cell} (hrow : row ∈ periodRows t) {first : Cell} (hf : row.2.head? = some first) :
    ∃ repl, replacementValues first statics = .ok repl ∧
      ∀ i, i < backfillSteps first.devLag res (max minLag (-pres + 1)) →
        (∀ j, j ≤ i → (backfillCell first repl res j).datesOk = true) →
        backfillCell first repl res i ∈ out := by
  obtain ⟨pres', parts, hpres', hparts, hperm⟩ := backfill_perm h
  rw [hpres] at hpres'; cases hpres'
  obtain ⟨ys, hys, hrowok⟩ := mapM_ok_mem' hparts row hrow
  change backfillRow statics (resolvedRes t res?) minLag (-pres + 1) row.2 = .ok ys at hrowok
  rw [hres] at hrowok
  obtain ⟨repl, hrepl, rfl⟩ : ∃ repl, replacementValues first statics = .ok repl ∧
      ys = takeValid ((List.range (backfillSteps first.devLag res (max minLag (-pres + 1)))).map
        (backfillCell first repl res)) := by
    rcases backfillRow_shape hrowok with ⟨_, hn | ⟨res', hres', hle⟩⟩ | ⟨first', repl, res', hf', hrepl, hres', _, rfl⟩
    · rw [hf] at hn; cases hn
    · cases hres'; omega
    · rw [hf] at hf'; cases hf'; cases hres'; exact ⟨repl, hrepl, rfl⟩
  refine ⟨repl, hrepl, ?_⟩
  intro i hi hok
  apply hperm.mem_iff.mpr
  apply List.mem_append_right
  apply List.mem_flatten.mpr
  refine ⟨_, hys, ?_⟩
  have hlen : i < ((List.range (backfillSteps first.devLag res (max minLag (-pres + 1)))).map
      (backfillCell first repl res)).length := by simpa using hi
  have := takeValid_mem _ i hlen (by
    intro j hj
    simp only [List.getElem_map, List.getElem_range]
    exact hok j hj)
  simpa using this

theorem mem_gridBelow {f : Rat} {res lo : Int} (hres : 0 < res) {l : Rat} :
    l ∈ Spec.C15.gridBelow f res lo ↔
      ∃ i : Nat, i < backfillSteps f res lo ∧ l = f - (((i : Int) + 1 : Int) : Rat) * (res : Rat) := by
  unfold Spec.C15.gridBelow backfillSteps
  rw [if_pos (by simpa using hres)]
  simp only [List.mem_map, List.mem_range]
  constructor
  · rintro ⟨i, hi, rfl⟩; exact ⟨i, hi, rfl⟩
  · rintro ⟨i, hi, rfl⟩; exact ⟨i, hi, rfl⟩

theorem backfill_added_cell {t out : List Cell} {statics : List String} {res? : Option Int} {minLag : Int}
    (hF : BackfillFacts t out statics res? minLag) {res pres : Int}
    (hres : resolvedRes t res? = some res) (hpr : periodResolution t = some pres)
    {a : Cell} (ha : a ∈ Spec.C15.added t out) :
    ∃ row first repl i, row ∈ periodRows t ∧ PRowFacts t row first ∧
      replacementValues first statics = .ok repl ∧ 0 < res ∧
      i < backfillSteps first.devLag res (max minLag (-pres + 1)) ∧
      a = backfillCell first repl res i ∧ a.ev < first.ev := by
  obtain ⟨hao, hfree⟩ := mem_added.mp ha
  rcases hF.added a hao with hat | ⟨pres', row, first, repl, res', i, hpr', hrow, hP, hrepl, hres', hpos, hi, rfl, hlt⟩
  · exact absurd rfl (hfree a hat)
  · rw [hres] at hres'; cases hres'
    rw [hpr] at hpr'; cases hpr'
    exact ⟨row, first, repl, i, hrow, hP, hrepl, hpos, hi, rfl, hlt⟩

theorem spec_backfill_beforeFirst {t out : List Cell} {statics : List String} {res? : Option Int}
    {minLag : Int} (hD : SpecDomain t) (hF : BackfillFacts t out statics res? minLag) {res pres : Int}
    (hres : resolvedRes t res? = some res) (hpr : periodResolution t = some pres) :
    Spec.C15.backfillBeforeFirst t res (max minLag (-pres + 1)) out = true := by
  simp only [Spec.C15.backfillBeforeFirst, List.all_eq_true, Bool.and_eq_true]
  intro a ha
  obtain ⟨row, first, repl, i, hrow, hP, hrepl, hpos, hi, rfl, hlt⟩ := backfill_added_cell hF hres hpr ha
  have hk := backfillCell_rowKey first repl res i
  have hal := hD.aligned first hP.mem
  constructor
  · exact lt_minEval_iff.mpr ⟨List.ne_nil_of_mem (mem_rowOf.mpr ⟨hP.mem, hk⟩), fun o ho =>
      DateOrder.lt_of_lt_of_le hlt (DateOrder.not_lt.mp
        (hP.earliest o (mem_rowOf.mp ho).1 ((mem_rowOf.mp ho).2.symm.trans hk)))⟩
  · rw [hD.firstLag_eq hP.mem hP.earliest hk]
    simp only [List.any_eq_true, beq_iff_eq]
    rw [devLag_lagInt hal] at hi
    refine ⟨_, (mem_gridBelow hpos).mpr ⟨i, hi, rfl⟩, ?_⟩
    show addMonths first.pe _ = addMonths first.pe (first.devLag - _)
    rw [devLag_lagInt hal]

theorem spec_backfill_values {t out : List Cell} {statics : List String} {res? : Option Int}
    {minLag : Int} (hD : SpecDomain t) (hF : BackfillFacts t out statics res? minLag) {res pres : Int}
    (hres : resolvedRes t res? = some res) (hpr : periodResolution t = some pres) :
    Spec.C15.backfillValues t statics out = true := by
  simp only [Spec.C15.backfillValues, List.all_eq_true]
  intro a ha
  obtain ⟨row, first, repl, i, hrow, hP, hrepl, hpos, hi, rfl, hlt⟩ := backfill_added_cell hF hres hpr ha
  have hk := backfillCell_rowKey first repl res i
  have hfo : first ∈ Spec.C15.rowOf t (backfillCell first repl res i) := mem_rowOf.mpr ⟨hP.mem, hk⟩
  obtain ⟨s, hs, hsr, hsmin⟩ := firstOf_spec hfo
  obtain ⟨hst, hsk⟩ := mem_rowOf.mp hsr
  have hsf : rowKey s = rowKey first := hsk.symm.trans hk
  have hsfirst : s = first :=
    hD.eq_of_coord hst hP.mem hsf (DateOrder.eq_of_not_lt (hP.earliest s hst hsf) (hsmin first hfo))
  rw [hs, hsfirst]
  obtain ⟨hkeys, hvals⟩ := replacementValues_spec hrepl
  have h1 : (backfillCell first repl res i).kind = first.kind := rfl
  have h2 : (backfillCell first repl res i).prev = first.prev := rfl
  have h3 : (backfillCell first repl res i).values = repl := rfl
  simp only [h1, h2, h3, hkeys, beq_self_eq_true, Bool.true_and, List.all_eq_true]
  intro kv hkv
  rcases hvals kv hkv with ⟨hin, hget⟩ | ⟨hnin, hzero⟩
  · have : statics.contains kv.1 = true := by simpa using hin
    rw [if_pos this, hget]; simp
  · have : ¬ (statics.contains kv.1 = true) := by simpa using hnin
    rw [if_neg this, hzero]; simp

/-- for a resolution of either sign: one that is not positive asks for nothing -/
theorem backfillMinLag_holds {t out : List Cell} {statics : List String} {res? : Option Int}
    {minLag : Int} (hD : SpecDomain t) (h : backfill t statics res? minLag = .ok out) {res pres : Int}
    (hres : resolvedRes t res? = some res) (hpr : periodResolution t = some pres)
    (hok : BackfillOk t res (max minLag (-pres + 1))) :
    Spec.C15.backfillMinLag t res (max minLag (-pres + 1)) out = true := by
  simp only [Spec.C15.backfillMinLag, List.all_eq_true, Bool.or_eq_true, Bool.not_eq_true']
  intro rep hrep
  cases hfs : Spec.C15.firstSliceOfPeriod t rep with
  | false => exact Or.inl rfl
  | true =>
    right
    obtain ⟨row, hrow, hrp, hrr⟩ := periodRows_cover hrep
    obtain ⟨first, hP⟩ := prow_facts hrow
    have hper : first.ps = rep.ps ∧ first.pe = rep.pe := Prod.mk.inj (hP.period.trans hrp)
    -- `first` is in the slice of `rep`
    have hmd : first.md = rep.md := by
      simp only [Spec.C15.firstSliceOfPeriod, List.all_eq_true, List.mem_filter, Bool.and_eq_true,
        beq_iff_eq, bne_iff_ne, ne_eq, and_imp] at hfs
      have h1 := hfs first hP.mem hper.1 hper.2
      have h2 := hP.lowest rep hrep hrp.symm
      have heq : Metadata.cmp first.md rep.md = .eq :=
        leOf_antisymm (cmp := Metadata.cmp) (by simpa [leOf] using h2) (by simpa [leOf] using h1)
      exact (Metadata.cmp_eq_eq (hD.canon first hP.mem) (hD.canon rep hrep)).mp heq
    have hk : rowKey rep = rowKey first := rowKey_eq_iff.mpr ⟨hmd.symm, hper.1.symm, hper.2.symm⟩
    have hal := hD.aligned first hP.mem
    rw [hD.firstLag_eq hP.mem hP.earliest hk]
    simp only [List.all_eq_true, List.any_eq_true, Bool.and_eq_true, beq_iff_eq]
    intro l hl
    have hpos : 0 < res := by
      unfold Spec.C15.gridBelow at hl
      split at hl
      · assumption
      · cases hl
    obtain ⟨i, hi, rfl⟩ := (mem_gridBelow hpos).mp hl
    rw [← devLag_lagInt hal] at hi
    have hB := hok first hP.mem hP.earliest
    obtain ⟨repl, hrepl, hall⟩ := backfill_cell_mem h hpr hres hpos hrow hP.head
    have hmem := hall i hi (fun j hj => by
      rw [backfillCell_datesOk]; exact (hB j (by omega)).2)
    have hlt := backfillCell_before (i := i) hal repl hpos
    refine ⟨backfillCell first repl res i, mem_added.mpr ⟨hmem, ?_⟩, ?_, ?_⟩
    · intro o ho hko
      obtain ⟨h1, h2⟩ := ckey_eq_iff.mp hko
      apply hP.earliest o ho (by rw [← h1]; rfl)
      rw [← h2]; exact hlt
    · exact sameRow_iff.mpr hk.symm
    · show addMonths first.pe (first.devLag - _) = addMonths rep.pe _
      rw [devLag_lagInt hal, hper.2]

/-- (`hpos` is not needed: `backfillMinLag_holds`) -/
theorem spec_backfill_minLag {t out : List Cell} {statics : List String} {res? : Option Int}
    {minLag : Int} (hD : SpecDomain t) (h : backfill t statics res? minLag = .ok out) {res pres : Int}
    (hres : resolvedRes t res? = some res) (hpr : periodResolution t = some pres) (hpos : 0 < res)
    (hok : BackfillOk t res (max minLag (-pres + 1))) :
    Spec.C15.backfillMinLag t res (max minLag (-pres + 1)) out = true :=
  backfillMinLag_holds hD h hres hpr hok

/-- whatever the sign of the resolution: one that is not positive adds nothing (the loop is not entered, or the call
does not return) and asks for nothing (`gridBelow` is empty) -/
theorem backfillSpec_holds {t out : List Cell} {statics : List String} {res? : Option Int}
    {minLag : Int} (h : backfill t statics res? minLag = .ok out) (hD : SpecDomain t)
    (hok : ∀ res pres, resolvedRes t res? = some res → periodResolution t = some pres →
      BackfillOk t res (max minLag (-pres + 1))) :
    Spec.C15.allHold (Spec.C15.backfillSpec t statics res? minLag out) = true := by
  have hF := backfill_facts hD h
  obtain ⟨hkept, hnd⟩ := spec_preserved hD.canonical.1 hD.canon hD.nodup hF.canonical.1 hF.keys hF.sub
  have hc := Properties.C01.isCanonical_of_canonical hF.canonical
  have hpres : (Spec.C15.kept t out == t) = true := by rw [hkept]; simp
  unfold Spec.C15.backfillSpec
  rw [resolveRes_eq]
  cases hr : resolvedRes t res? with
  | none => simp [Spec.C15.allHold, hpres, hnd, hc]
  | some res =>
    cases hp : periodResolution t with
    | none => simp [Spec.C15.allHold, Spec.C15.lowerBound, hp, hpres, hnd, hc]
    | some pres =>
      have h1 := spec_backfill_beforeFirst hD hF hr hp
      have h2 := backfillMinLag_holds hD h hr hp (hok res pres hr hp)
      have h3 := spec_backfill_values hD hF hr hp
      simp [Spec.C15.allHold, Spec.C15.lowerBound, hp, hpres, hnd, hc, h1, h2, h3]

end Bermuda.Extend
