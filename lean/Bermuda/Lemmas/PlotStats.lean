/-
Helper lemmas for the independent characterisations of the summary statistics (C20): `Rat.floor` between two
integers, `sum` as a recursion, the sum of squared deviations; a triangle outside `ValidT`; the flat keys.
-/
import Bermuda.Lemmas.PlotSpec
import Mathlib.Tactic.Ring
import Mathlib.Tactic.FieldSimp -- for `field_simp` in Properties/C20.lean
namespace Bermuda.Plot
open Bermuda

theorem floor_eq {h : Rat} {k : Int} (h1 : (k : Rat) ≤ h) (h2 : h < (k : Rat) + 1) : h.floor = k :=
  Int.le_antisymm (Int.lt_add_one_iff.mp (Rat.floor_lt_iff.mpr (by push_cast; exact h2))) (Rat.le_floor_iff.mpr h1)

theorem interp_between (s : List Rat) (h : Rat) (k : Nat) (h1 : (k : Rat) ≤ h) (h2 : h < (k : Rat) + 1) :
    interp s h = (1 - (h - k)) * nth s k + (h - k) * nth s (k + 1) := by
  have hf : h.floor = (k : Int) := floor_eq (by exact_mod_cast h1) (by exact_mod_cast h2)
  unfold interp
  simp only [hf, Int.toNat_natCast]
  push_cast
  ring

theorem interp_natCast (s : List Rat) (k : Nat) : interp s k = nth s k := by
  rw [interp_between s k k le_rfl (lt_add_one _)]; ring

theorem interp_add_half (s : List Rat) (k : Nat) :
    interp s ((k : Rat) + 1 / 2) = (nth s k + nth s (k + 1)) / 2 := by
  rw [interp_between s _ k (by linarith) (by linarith)]; ring

theorem sum_cons (x : Rat) (xs : List Rat) : sum (x :: xs) = x + sum xs := by
  have h := List.foldl_assoc (op := fun a b : Rat => a + b) (l := xs) (a₁ := x) (a₂ := 0)
  rw [add_zero] at h
  unfold sum
  rw [List.foldl_cons, zero_add]
  exact h

theorem sum_nil : sum [] = 0 := rfl

theorem sum_map_sq_sub (m : Rat) (xs : List Rat) :
    sum (xs.map fun x => (x - m) * (x - m)) =
      sum (xs.map fun x => x * x) - 2 * m * sum xs + (xs.length : Rat) * m * m := by
  induction xs with
  | nil => simp [sum_nil]
  | cons x xs ih =>
    simp only [List.map_cons, sum_cons, ih, List.length_cons]
    push_cast
    ring

/-! ### a triangle outside `ValidT` (staged evaluation: the kernel does not unfold `mergeSort` on two elements) -/

/-- two cells of ONE slice and period with the SAME evaluation date and different values -/
def dupA : Cell := { ps := ⟨2020, 1, 1⟩, pe := ⟨2020, 12, 31⟩, ev := ⟨2020, 12, 31⟩, values := [("paid_loss", .int 2)] }
def dupB : Cell := { ps := ⟨2020, 1, 1⟩, pe := ⟨2020, 12, 31⟩, ev := ⟨2020, 12, 31⟩, values := [("paid_loss", .int 4)] }

theorem rows_two : slicePeriodRows [dupA, dupB] = [(rowKey dupA, [dupA, dupB])] := by
  unfold slicePeriodRows
  have hg : groupBy rowKey [dupA, dupB] = [(rowKey dupA, [dupA, dupB])] := by decide +kernel
  simp only [hg, List.mergeSort_singleton, List.map_cons, List.map_nil]
  rw [List.mergeSort_of_pairwise (by decide +kernel)]

theorem fieldSummaries_two : fieldSummaries Generated.PlotMetrics.metrics [dupA, dupB] =
    (rowTriples [dupA, dupB]).map fun (c, p, n) => (c, cellSummaries Generated.PlotMetrics.metrics c p n) := by
  unfold fieldSummaries
  rw [rows_two, List.flatMap_singleton]

def flatInjectiveL (M K : List (List Char)) : Bool :=
  M.all fun m => K.all fun k => M.all fun m' => K.all fun k' =>
    flatKeyL m k != flatKeyL m' k' || (m == m' && k == k')

/-- `m ++ '_' :: k` determines `m` and `k` as long as no key of `K` ends in `'_' :: k'` for a key `k'` of `K`,
whatever the metric names are: were `m` a proper prefix of `m'`, say `m' = m ++ '_' :: r`, then `k = r ++ '_' :: k'` -/
theorem flatKeyL_inj {K : List (List Char)} (hK : ∀ k ∈ K, ∀ k' ∈ K, ('_' :: k').isSuffixOf k = false)
    {m k m' k' : List Char} (hk : k ∈ K) (hk' : k' ∈ K) (h : flatKeyL m k = flatKeyL m' k') :
    m = m' ∧ k = k' := by
  have noSuffix : ∀ {a b : List Char} (r : List Char), a ∈ K → b ∈ K → a ≠ r ++ '_' :: b := by
    intro a b r ha hb e
    have hs : ('_' :: b) <:+ a := ⟨r, e.symm⟩
    rw [← List.isSuffixOf_iff_suffix, hK a ha b hb] at hs
    cases hs
  rcases List.append_eq_append_iff.mp h with ⟨r, rfl, hr⟩ | ⟨r, rfl, hr⟩
  · cases r with
    | nil => exact ⟨(List.append_nil m).symm, (List.cons.inj hr).2⟩
    | cons c r => exact absurd (List.cons.inj hr).2 (noSuffix r hk hk')
  · cases r with
    | nil => exact ⟨List.append_nil m', (List.cons.inj hr).2.symm⟩
    | cons c r => exact absurd (List.cons.inj hr).2 (noSuffix r hk' hk)

/-- no statistic name ends in `_<statistic name>` (`q2_5`, `q97_5` end in `_5`) -/
theorem requiredStats_no_suffix : ∀ k ∈ Spec.C20.requiredStats.map String.toList,
    ∀ k' ∈ Spec.C20.requiredStats.map String.toList, ('_' :: k').isSuffixOf k = false := by decide +kernel

/-- no two (metric, statistic) pairs of the table share a flat key — although `paid_loss` is a prefix of
`paid_loss_ratio` -/
theorem flat_keys_injective :
    flatInjectiveL ((Spec.C20.table.map (·.1)).map String.toList)
      (Spec.C20.requiredStats.map String.toList) = true := by
  simp only [flatInjectiveL, List.all_eq_true, Bool.or_eq_true, bne_iff_ne, Bool.and_eq_true, beq_iff_eq]
  intro m _ k hk m' _ k' hk'
  exact or_iff_not_imp_left.mpr fun h => flatKeyL_inj requiredStats_no_suffix hk hk' (not_not.mp h)

def FlatInj (K : List String) : Prop :=
  ∀ {m k m' k' : String}, k ∈ K → k' ∈ K → flatKey m k = flatKey m' k' → m = m' ∧ k = k'

theorem flatInj_requiredStats : FlatInj Spec.C20.requiredStats := by
  intro m k m' k' hk hk' h
  have := flatKeyL_inj requiredStats_no_suffix (List.mem_map_of_mem hk) (List.mem_map_of_mem hk')
    (String.ofList_inj.mp h)
  exact ⟨String.toList_inj.mp this.1, String.toList_inj.mp this.2⟩

theorem lookup_map_flatKey {K : List String} (h : FlatInj K) (m : String) {k : String} (hk : k ∈ K)
    (st : List (String × SVal)) (hst : ∀ kv ∈ st, kv.1 ∈ K) :
    (st.map fun kv => (flatKey m kv.1, kv.2)).lookup (flatKey m k) = st.lookup k := by
  induction st with
  | nil => rfl
  | cons kv st ih =>
    obtain ⟨k0, v0⟩ := kv
    have hb : (flatKey m k == flatKey m k0) = (k == k0) :=
      Bool.eq_iff_iff.mpr (by
        simp only [beq_iff_eq]
        exact ⟨fun e => (h hk (hst _ List.mem_cons_self) e).2, fun e => by rw [e]⟩)
    simp only [List.map_cons, List.lookup_cons, hb, ih fun x hx => hst x (List.mem_cons_of_mem _ hx)]

/-- **re-nesting recovers the nested record**: looking the flat key `<metric>_<stat>` up in the flattened record gives
exactly the nested record's entry `record[metric][stat]` (absent there ⇔ absent here) -/
theorem flat_unflat_lookup {K : List String} (h : FlatInj K) (ne : List (String × Summary))
    (hK : ∀ e ∈ ne, ∀ kv ∈ e.2.stats, kv.1 ∈ K) (hnd : (ne.map (·.1)).Nodup) (m : String) {k : String}
    (hk : k ∈ K) :
    (flattenSummaries ne).lookup (flatKey m k) = (ne.lookup m).bind fun s => s.stats.lookup k := by
  induction ne with
  | nil => rfl
  | cons e ne ih =>
    obtain ⟨n, s⟩ := e
    obtain ⟨hnot, hnd⟩ := List.nodup_cons.mp hnd
    have hs : ∀ kv ∈ s.stats, kv.1 ∈ K := hK (n, s) List.mem_cons_self
    rw [show flattenSummaries ((n, s) :: ne) = (s.stats.map fun kv => (flatKey n kv.1, kv.2)) ++ flattenSummaries ne
      from List.flatMap_cons, List.lookup_append, ih (fun x hx => hK x (List.mem_cons_of_mem _ hx)) hnd,
      List.lookup_cons]
    by_cases hmn : m = n
    · -- the block of `m` itself; no later summary is named `m`
      subst hmn
      have hrest : ne.lookup m = none := List.lookup_eq_none_iff.mpr fun p hp =>
        bne_iff_ne.mpr fun e => hnot (List.mem_map.mpr ⟨p, hp, e.symm⟩)
      rw [lookup_map_flatKey h m hk _ hs, hrest, beq_self_eq_true]
      exact Option.or_none
    · -- the block of another metric holds no key of `m`
      have hno : (s.stats.map fun kv => (flatKey n kv.1, kv.2)).lookup (flatKey m k) = none :=
        List.lookup_eq_none_iff.mpr fun q hq => by
          obtain ⟨kv, hkv, rfl⟩ := List.mem_map.mp hq
          exact bne_iff_ne.mpr fun heq => hmn (h hk (hs kv hkv) heq).1
      rw [beq_false_of_ne hmn, hno]
      rfl

theorem fieldSummary_keys (mv : MV) : ∀ kv ∈ (fieldSummary mv).stats, kv.1 ∈ Spec.C20.requiredStats := by
  have hm : ∀ (q : Rat), ∀ kv ∈ [("mean", SVal.exact q)], kv.1 ∈ Spec.C20.requiredStats :=
    fun q kv hkv => by rw [List.mem_singleton.mp hkv]; exact (by decide : "mean" ∈ Spec.C20.requiredStats)
  unfold fieldSummary
  split
  · exact hm _
  · exact hm _
  · exact fun kv hkv => stats_keys _ ▸ List.mem_map_of_mem hkv

end Bermuda.Plot
