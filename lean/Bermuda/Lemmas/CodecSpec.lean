/-
Codec lemmas: the predicates of `Spec/C05.lean` and `Spec/C19.lean` (which the driver evaluates on the
implementation's output) hold of what the model's decoder returns; the witness triangle of the non-vacuity examples.
-/
import Bermuda.Lemmas.CodecDict
import Bermuda.Spec.C05
import Bermuda.Spec.C19
namespace Bermuda.Codec

theorem dictEqv_self (d : RawDict) (h : dictOk d = true) : Spec.C05.dictEqv d d = true := by
  simp only [Spec.C05.dictEqv, beq_self_eq_true, Bool.true_and, List.all_eq_true, beq_iff_eq]
  exact fun _ he => (Assoc.get?_eq_some_iff (dictOk_nodup h)).mpr he

theorem cellEqv_self (c : RawCell) (h : cellOk c = true) : Spec.C05.cellEqv c c = true := by
  obtain ⟨h1, h2, h3⟩ := cellOk_parts h
  simp [Spec.C05.cellEqv, Spec.C05.metaEqv, dictEqv_self _ h1, dictEqv_self _ h2, dictEqv_self _ h3]

theorem roundTrip_self (t : RawTriangle) (h : ∀ c ∈ t, cellOk c = true) : Spec.C05.roundTrip t t = true := by
  unfold Spec.C05.roundTrip
  induction t with
  | nil => rfl
  | cons c cs ih =>
    simp only [Spec.C05.cellsEqv, Bool.and_eq_true]
    exact ⟨cellEqv_self c (h c (by simp)), ih (fun c' h' => h c' (by simp [h']))⟩

theorem prefixSafe_take (t : RawTriangle) (h : ∀ c ∈ t, cellOk c = true) (k : Nat) :
    Spec.C19.prefixSafe t (t.take k) = true := by
  have hlen : (t.take k).length ≤ t.length := by simp [List.length_take]; omega
  have htake : t.take (t.take k).length = t.take k := by
    rw [List.length_take, List.take_eq_take_iff]; omega
  simp only [Spec.C19.prefixSafe, hlen, decide_true, Bool.true_and, htake]
  exact roundTrip_self (t.take k) (fun c hc => h c (List.mem_of_mem_take hc))

theorem prefixSafe_of_prefixResult {cells r : RawTriangle} (h : ∀ c ∈ cells, cellOk c = true)
    (hp : PrefixResult cells (.ok r)) : Spec.C19.prefixSafe cells r = true := by
  rcases hp with ⟨e, he⟩ | ⟨k, hk⟩
  · cases he
  · cases hk
    exact prefixSafe_take cells h k

/-! ### a concrete witness used by the non-vacuity examples of C05 / C19: a 2-slice incremental
triangle with all eight value kinds, a non-ASCII string, a `None` string, a 2-d array, a limit -/

def exMeta1 : RawMetadata :=
  { riskBasis := some [65], country := some [195, 156, 98], currency := none, reinsuranceBasis := some [],
    lossDefinition := none, limit := some [0, 0, 0, 0, 0, 0, 240, 63],
    details := [([107], .str [195, 159]), ([100], .date ⟨2020, 2, 29⟩), ([98], .bool true)],
    lossDetails := [([110], .none), ([120], .int (-5)), ([102], .flt [0, 0, 0, 0, 0, 0, 4, 64])] }

def exMeta2 : RawMetadata := { exMeta1 with limit := none, details := [] }

def exTriangle : RawTriangle :=
  [ { kind := .incremental, ps := ⟨2020, 1, 1⟩, pe := ⟨2020, 12, 31⟩, ev := ⟨2020, 12, 31⟩,
      prev := some ⟨2020, 11, 30⟩, md := exMeta1,
      values := [([112], .int 9223372036854775807),
                 ([113], .intArr [2, 1] [1, 0, 0, 0, 0, 0, 0, 0, 2, 0, 0, 0, 0, 0, 0, 0]),
                 ([114], .fltArr [] [0, 0, 0, 0, 0, 0, 248, 127])] },
    { kind := .incremental, ps := ⟨2021, 1, 1⟩, pe := ⟨2021, 12, 31⟩, ev := ⟨2021, 12, 31⟩,
      prev := some ⟨2021, 11, 30⟩, md := exMeta2, values := [([112], .none)] } ]

theorem exTriangle_wf : wf exTriangle = true := wf_of_cells_keys _ (by decide) (by decide)

end Bermuda.Codec
