/-
Lemmas for the disaggregation theorems of C18, in the order of the stages of `disaggCell` (Model/Units.lean):
the weighted table (`Weighted`), one sub-period cell (`subCell_*`), the group of a cell (`disaggCell_*`).
`SubCells` is what `disagg_conserves` says of a group; `SubCellsN` (Lemmas/UnitsTiling.lean) is the stronger
form the round trip needs, with `SubCellsN.subCells` between them.
-/
import Bermuda.Lemmas.Units
import Bermuda.Lemmas.Summarize
namespace Bermuda.Units
open Bermuda Bermuda.Spec.C18

theorem getV_of_get?_none {c : Cell} {f : String} (h : Dict.get? c.values f = none) : c.getV f = .none := by
  rw [Cell.getV_eq, h]; rfl

theorem getV_of_mem_kn {c : Cell} (hk : KN c.values) {kv : String × Val} (h : kv ∈ c.values) :
    c.getV kv.1 = kv.2 :=
  Cell.getV_of_get? ((Dict.get?_eq_assoc ..).trans ((Assoc.get?_eq_some_iff hk).mpr h))

theorem getV_none {c : Cell} {f : String} (h : f ∉ c.values.map (·.1)) : c.getV f = .none :=
  getV_of_get?_none ((Dict.get?_eq_assoc ..).trans (Assoc.get?_eq_none_iff.mpr h))

theorem cellField_eq {c : Cell} (hk : KN c.values) (f : String) (i : Nat) :
    cellField c f i = comp (c.getV f) i := by
  unfold cellField Cell.getV
  rw [dsum_eq_lcomp hk, lcomp, look_eq, Dict.get?_eq_assoc]
  cases Assoc.get? c.values f <;> simp

/-- `p` is the part `_weight_cell_values` makes of the scalar or 1-d array `v` for the weight `w` -/
structure WeightedPart (v : Val) (w : Rat) (p : Val) : Prop where
  ne_none : v ≠ .none
  data : vdata p = (vdata v).map (· * w)
  float : p.isIntKind = false
  arr : p.isArr = v.isArr
  range : ∀ i, p.inRange i = v.inRange i
  at_eq : ∀ i, p.at i = v.at i * w

theorem weightValue_spec {v : Val} {ws : List Rat} {parts : List Val} (h : weightValue v ws = .ok parts) :
    Forall2 (WeightedPart v) ws parts := by
  refine (mapM_ok_forall2 h).imp fun w p _ hr => ?_
  split at hr <;> cases hr <;> refine ⟨?_, ?_, ?_, ?_, ?_, ?_⟩ <;>
    simp [Val.isIntKind, Val.isArr, Val.inRange, Val.at, List.getD_eq_getElem?_getD, List.getElem?_map]
  all_goals (intro i; rename_i d; cases d[i]? <;> simp)

theorem weightValue_part {v : Val} {cw : List Rat} {parts : List Val} (h : weightValue v cw = .ok parts)
    {k : Nat} {p : Val} (hp : parts[k]? = some p) : WeightedPart v ((cw[k]?).getD 0) p := by
  obtain ⟨w, hw, hr⟩ := (weightValue_spec h).getElem? hp
  rw [hw]; exact hr

theorem weightValue_comp {v : Val} {cw : List Rat} {parts : List Val} (h : weightValue v cw = .ok parts)
    {k : Nat} {p : Val} (hp : parts[k]? = some p) (i : Nat) :
    comp p i = comp v i * (cw[k]?).getD 0 := by
  unfold comp
  rw [(weightValue_part h hp).data, List.getElem?_map]
  cases (vdata v)[i]? <;> simp

theorem vdata_eq_of_at {r v : Val} (hk : r.isIntKind = false) (hv : v ≠ .none) (ha : r.isArr = v.isArr)
    (hr : ∀ i, r.inRange i = v.inRange i) (hat : ∀ i, v.inRange i = true → r.at i = v.at i) :
    r ≠ .none ∧ vdata r = vdata v := by
  cases r with
  | none => cases hk
  | int _ => cases hk
  | flt q =>
    -- `v` is a scalar too; both are read at sample 0
    cases v with
    | none => exact absurd rfl hv
    | arr _ _ _ => cases ha
    | _ => exact ⟨nofun, congrArg (fun x : Rat => [x]) (hat 0 rfl)⟩
  | arr _ _ d =>
    cases v with
    | arr _ _ d' =>
      simp only [Val.inRange, decide_eq_decide] at hr
      have hl : d.length = d'.length := Nat.le_antisymm
        (Nat.le_of_not_lt fun h => Nat.lt_irrefl _ ((hr _).mp h)) (Nat.le_of_not_lt fun h => Nat.lt_irrefl _ ((hr _).mpr h))
      refine ⟨nofun, (List.ext_getElem hl fun i h1 h2 => ?_ : d = d')⟩
      simpa only [Val.at, List.getD_eq_getElem?_getD, List.getElem?_eq_getElem h1, List.getElem?_eq_getElem h2,
        Option.getD_some] using hat i (decide_eq_true h2)
    | _ => cases ha

/-- `weighted` is what `weightedTable c cw` returns: every field with its value split by the weights -/
abbrev Weighted (c : Cell) (cw : List Rat) (weighted : List (String × List Val)) : Prop :=
  Forall2 (fun (kv : String × Val) (e : String × List Val) =>
    e.1 = kv.1 ∧ weightValue kv.2 cw = .ok e.2) c.values weighted

theorem weightedTable_spec {c : Cell} {cw : List Rat} {weighted : List (String × List Val)}
    (h : weightedTable c cw = .ok weighted) : Weighted c cw weighted := by
  refine (mapM_ok_forall2 h).imp fun kv e _ he => ?_
  obtain ⟨parts, hv, he⟩ := bind_ok he
  cases he
  exact ⟨rfl, hv⟩

theorem subValues_ok {c : Cell} {fields : List String} {cw : List Rat}
    {weighted : List (String × List Val)} {k : Nat} {vals : Dict Val} (hk : KN c.values)
    (hW : Weighted c cw weighted) (h : subValues c fields weighted k = .ok vals) :
    Forall2 (fun (kv kv' : String × Val) => kv'.1 = kv.1 ∧
      ∃ parts, weightValue kv.2 cw = .ok parts ∧ parts[k]? = some kv'.2)
      (c.values.filter fun kv => fields.contains kv.1) vals := by
  refine (mapM_ok_forall2 h).imp fun kv kv' hkv hr => ?_
  obtain ⟨e, hfind, hwv⟩ := hW.find_key hk (List.mem_filter.mp hkv).1
  rw [hfind] at hr
  simp only [Option.bind_some] at hr
  cases hp : e.2[k]? with
  | none => simp [hp] at hr
  | some p =>
    simp only [hp, Except.ok.injEq] at hr
    subst hr
    exact ⟨rfl, e.2, hwv, hp⟩

theorem subCell_ok {c : Cell} {fields : List String} {weighted : List (String × List Val)}
    {subs : List (Date × Date)} {k : Nat} {o : Cell} (h : subCell c fields weighted subs k = .ok o) :
    ∃ vals, subValues c fields weighted k = .ok vals ∧
      o = { kind := .cell, ps := subs[k]!.1, pe := subs[k]!.2, ev := c.ev, values := vals, md := c.md } := by
  obtain ⟨vals, hv, h⟩ := bind_ok h
  exact ⟨vals, hv, (AllOps.mk?_ok h).1⟩

theorem subCell_fields {c : Cell} {fields : List String} {cw : List Rat}
    {weighted : List (String × List Val)} {subs : List (Date × Date)} {k : Nat} {o : Cell}
    (hk : KN c.values) (hW : Weighted c cw weighted) (h : subCell c fields weighted subs k = .ok o) :
    o.md = c.md ∧ o.ev = c.ev ∧ o.kind = .cell ∧ (o.ps, o.pe) = subs[k]! ∧
    o.values.map (·.1) = (c.values.filter fun kv => fields.contains kv.1).map (·.1) ∧
    ∀ kv ∈ c.values, fields.contains kv.1 = true →
      ∃ parts, weightValue kv.2 cw = .ok parts ∧ parts[k]? = some (o.getV kv.1) := by
  obtain ⟨vals, hv, rfl⟩ := subCell_ok h
  have hV := subValues_ok hk hW hv
  refine ⟨rfl, rfl, rfl, rfl, hV.keys, fun kv hkv hf => ?_⟩
  obtain ⟨b, hfind, parts, hw, hp⟩ :=
    hV.find_key ((List.filter_sublist.map _).nodup hk) (List.mem_filter.mpr ⟨hkv, hf⟩)
  refine ⟨parts, hw, ?_⟩
  rw [Cell.getV_of_get? (v := b.2) (by simp [Dict.get?, hfind])]
  exact hp

theorem subCell_getV {c : Cell} {fields : List String} {cw : List Rat}
    {weighted : List (String × List Val)} {subs : List (Date × Date)} {k : Nat} {o : Cell}
    {Φ : Val → Val → Prop} (hnone : Φ .none .none)
    (hΦ : ∀ v parts, weightValue v cw = .ok parts → ∀ p, parts[k]? = some p → Φ v p)
    (hk : KN c.values) (hW : Weighted c cw weighted) (h : subCell c fields weighted subs k = .ok o)
    {f : String} (hf : fields.contains f = true) : Φ (c.getV f) (o.getV f) := by
  obtain ⟨_, _, _, _, hkeys, hfld⟩ := subCell_fields hk hW h
  by_cases hmem : f ∈ c.values.map (·.1)
  · obtain ⟨kv, hkv, rfl⟩ := List.mem_map.mp hmem
    obtain ⟨parts, hw, hp⟩ := hfld kv hkv hf
    rw [getV_of_mem_kn hk hkv]
    exact hΦ _ _ hw _ hp
  · have : f ∉ o.values.map (·.1) := fun hm => hmem ((List.filter_sublist.map _).subset (hkeys ▸ hm))
    rw [getV_none hmem, getV_none this]
    exact hnone

theorem disaggCell_ok {c : Cell} {res n : Nat} {ws : List Rat} {fields : List String}
    {cells : List Cell} (h : disaggCell c res n ws fields = .ok cells) :
    (ws.take (obsSubs c res n).length ≠ [] → (ws.take (obsSubs c res n).length).sum ≠ 0) ∧
    ∃ weighted, Weighted c (renorm (ws.take (obsSubs c res n).length)) weighted ∧
      Forall2 (fun k o => subCell c fields weighted (obsSubs c res n) k = .ok o)
        (List.range (obsSubs c res n).length) cells := by
  unfold disaggCell at h
  have hguard := not_of_guard h
  obtain ⟨weighted, hw, h⟩ := bind_ok (of_guard h)
  exact ⟨fun hne hz => hguard (by simp [hz, hne]), weighted, weightedTable_spec hw, mapM_ok_forall2 h⟩

theorem sum_mul_renorm_take {ws : List Rat} {m : Nat} (hws : ws ≠ []) (hm : m ≠ 0)
    (hg : ws.take m ≠ [] → (ws.take m).sum ≠ 0) (x : Rat) :
    ((List.range m).map fun k => x * ((renorm (ws.take m))[k]?).getD 0).sum = x := by
  have e : ((List.range m).map fun k => x * ((renorm (ws.take m))[k]?).getD 0)
      = ((List.range m).map fun k => ((renorm (ws.take m))[k]?).getD 0).map (x * ·) := by
    rw [List.map_map]; rfl
  have hne : ws.take m ≠ [] := by
    rw [ne_eq, List.take_eq_nil_iff]; exact fun h => h.elim hm hws
  rw [e, sum_map_mul_left, sum_getD_range _ _ (by simp [renorm]), renorm_sum (hg hne), mul_one]

theorem disaggCell_sum {c : Cell} {res n : Nat} {ws : List Rat} {fields : List String}
    {cells : List Cell} (ρ : Val → Rat) (h0 : ρ .none = 0)
    (hρ : ∀ {v cw parts}, weightValue v cw = .ok parts → ∀ {k : Nat} {p}, parts[k]? = some p →
      ρ p = ρ v * (cw[k]?).getD 0)
    (hk : KN c.values) (hws : ws ≠ []) (h : disaggCell c res n ws fields = .ok cells)
    (hne : cells ≠ []) {f : String} (hf : fields.contains f = true) :
    (cells.map fun o => ρ (o.getV f)).sum = ρ (c.getV f) := by
  obtain ⟨hg, weighted, hW, hF⟩ := disaggCell_ok h
  rw [hF.sum_eq (fun o => ρ (o.getV f)) _ fun k o _ hko =>
    subCell_getV (Φ := fun v p => ρ p = ρ v * ((renorm (ws.take (obsSubs c res n).length))[k]?).getD 0)
      (by simp [h0]) (fun _ _ hw _ hp => hρ hw hp) hk hW hko hf]
  refine sum_mul_renorm_take hws (fun he => hne (List.length_eq_zero_iff.mp ?_)) hg _
  rw [← hF.length_eq, List.length_range, he]

/-- `part` are the sub-period cells of `c`: their periods are exactly the sub-periods of `c`
(`res` months each, from `c.ps`: `subperiods`) that are over at the evaluation date, in order; same
slice and evaluation date; and (when there is any) every selected field adds up to the original,
component by component -/
def SubCells (res : Nat) (F : String → Bool) (c : Cell) (part : List Cell) : Prop :=
  (∃ n, part.map (fun o => (o.ps, o.pe)) = obsSubs c res n) ∧
  (∀ o ∈ part, o.md = c.md ∧ o.ev = c.ev ∧ o.kind = .cell ∧ o.pe ≤ o.ev) ∧
  (part ≠ [] → ∀ f, F f = true → ∀ i, total part f i = cellField c f i)

end Bermuda.Units
