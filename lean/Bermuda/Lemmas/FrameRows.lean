/-
C14, "the files have one row per cell and scenario (wide) or per cell, field and scenario (long)":
the written tables listed row by row over the index sets `Spec.cellScenarios` / `Spec.cellScenarioFields`
(stated on the cells alone), hence their lengths `Spec.wideRows` / `Spec.longRows`; every row carries its
cell's group key (injective on the cells) and its scenario number.
-/
import Bermuda.Lemmas.FrameLong
namespace Bermuda.Frame
open Bermuda Bermuda.Spec.C14

theorem foldl_max_const {n : Nat} (hn : 1 ≤ n) : ∀ (l : List Nat) (a : Nat), (∀ x ∈ l, x = n) → (a = 1 ∨ a = n) →
    (l ≠ [] ∨ a = n) → l.foldl max a = n
  | [], a, _, _, hne => by
    rcases hne with h | h
    · exact absurd rfl h
    · exact h
  | x :: l, a, hall, ha, _ => by
    rw [List.foldl_cons]
    have hx : x = n := hall x List.mem_cons_self
    have : max a x = n := by
      subst hx
      rcases ha with rfl | rfl
      · exact Nat.max_eq_right hn
      · exact Nat.max_self _
    rw [this]
    exact foldl_max_const hn l n (fun y hy => hall y (List.mem_cons_of_mem _ hy)) (Or.inr rfl) (Or.inr rfl)

theorem numCount_of_valData {v : Val} {data : List Rat} (h : valData v = some data) : numCount v = data.length := by
  rcases valData_inv h with ⟨_, rfl, rfl⟩ | ⟨_, rfl, rfl⟩ | ⟨_, _, rfl, _⟩ <;> rfl

/-- on a cell the tabular forms can hold, the scenario count of the property is the common sample count -/
theorem scenarioCount_eq {c : Cell} {F : List String} (h : CellOK c F (sampleCount c)) :
    scenarioCount c = sampleCount c := by
  unfold scenarioCount
  apply foldl_max_const h.pos
  · intro x hx
    obtain ⟨kv, hkv, rfl⟩ := List.mem_map.mp hx
    obtain ⟨data, hd, hl⟩ := h.vals kv hkv
    rw [numCount_of_valData hd, hl]
  · left; rfl
  · cases hv : c.values with
    | nil => right; simp [sampleCount, hv]
    | cons a l => left; simp

theorem valuedFields_eq {c : Cell} {F : List String} {n : Nat} (h : CellOK c F n) :
    valuedFields c = Dict.keys c.values := by
  unfold valuedFields Dict.keys
  congr 1
  apply List.filter_eq_self.mpr
  intro kv hkv
  obtain ⟨data, hd, _⟩ := h.vals kv hkv
  rcases valData_inv hd with ⟨_, hv, _⟩ | ⟨_, hv, _⟩ | ⟨_, _, hv, _⟩ <;> (rw [hv]; rfl)

/-- the row written for (cell, scenario) -/
def wideRowOf (t : List Cell) (E : Row → Row) (p : Cell × Nat) : Row :=
  E (wideRow p.1 (allMetadataNames t) (p.2, fieldDictPure p.1 (allFields t) p.2))

theorem wblocks_listing {t : List Cell} {D L : List String} (h : WideTable t D L) (E : Row → Row) :
    (t.map (wblock t E)).flatten = (cellScenarios t).map (wideRowOf t E) := by
  unfold cellScenarios
  rw [List.map_flatMap, ← List.flatMap_def]
  apply List.flatMap_congr
  intro c hc
  rw [scenarioCount_eq (h.cells c hc)]
  simp [wblock, wideRowOf, List.map_map, Function.comp_def]

theorem cellScenarios_length (t : List Cell) : (cellScenarios t).length = wideRows t := by
  unfold cellScenarios wideRows
  rw [List.length_flatMap]
  simp

/-- `Properties.C14.rows_count_wide_scenarios`, where the statement is explained, is the case `WFwide` -/
theorem wide_rows_listing {t : List Cell} {D L : List String} (h : WideTable t D L) :
    ∃ (tb : Table) (E : Row → Row), toWideRows t = .ok tb ∧
      tb.rows = (cellScenarios t).map (wideRowOf t E) ∧ tb.rows.length = wideRows t ∧
      (∀ p ∈ cellScenarios t, p.1 ∈ t ∧ ∀ cols : List String,
        (∀ k ∈ ["period_start", "period_end", "evaluation_date"], cols.contains k = true) →
        wideKey cols D L (wideRowOf t E p) = cellKey p.1 D L) ∧
      ((E = id ∧ ∀ p ∈ cellScenarios t, Row.col (wideRowOf t E p) "scenario" = MVal.num ((p.2 + 1 : Nat) : Rat)) ∨
        ∀ c ∈ t, scenarioCount c = 1) := by
  obtain ⟨E, hE, hok, hmode⟩ := toWideRows_ok h
  have hmem : ∀ p ∈ cellScenarios t, p.1 ∈ t := by
    intro p hp
    unfold cellScenarios at hp
    obtain ⟨c, hc, hp⟩ := List.mem_flatMap.mp hp
    obtain ⟨i, _, rfl⟩ := List.mem_map.mp hp
    exact hc
  refine ⟨_, E, hok, ?_, ?_, ?_, ?_⟩
  · exact wblocks_listing h E
  · rw [mkTable_rows, wblocks_listing h E, List.length_map, cellScenarios_length]
  · intro p hp
    refine ⟨hmem p hp, ?_⟩
    intro cols hcols
    exact wideKey_row h (hmem p hp) (h.rowOf (hmem p hp) hE p.2) cols hcols
  · rcases hmode with ⟨hid, _⟩ | hone
    · left
      refine ⟨hid, ?_⟩
      intro p hp
      subst hid
      exact (h.rowCtx (hmem p hp) p.2).scenario p.2
    · right
      intro c hc
      rw [scenarioCount_eq (h.cells c hc)]
      exact hone c hc

/-- the row written for (cell, scenario, field) -/
def longRowOf (t : List Cell) (E : Row → Row) (p : Cell × Nat × String) : Row :=
  E (longRow p.1 (allMetadataNames t) p.2.1 (p.2.2, qAt ((Dict.get? p.1.values p.2.2).getD .none) p.2.1))

theorem cellScenarioFields_length (t : List Cell) : (cellScenarioFields t).length = longRows t := by
  unfold cellScenarioFields longRows
  rw [List.length_flatMap]
  refine congrArg List.sum (List.map_congr_left fun c _ => ?_)
  rw [List.length_flatMap]
  simp

theorem lrows_listing {t : List Cell} {DK LK : List String} (h : LongTable t DK LK) (E : Row → Row) :
    lrows t E = (cellScenarioFields t).map (longRowOf t E) := by
  unfold lrows cellScenarioFields
  rw [List.map_flatMap, ← List.flatMap_def]
  apply List.flatMap_congr
  intro c hc
  have hok := (h.cells c hc).1
  rw [scenarioCount_eq hok.toOK, valuedFields_eq hok.toOK]
  unfold lblock
  rw [List.map_flatMap]
  apply List.flatMap_congr
  intro i _
  unfold Dict.keys
  rw [List.map_map, List.map_map]
  apply List.map_congr_left
  intro kv hkv
  simp only [Function.comp, longRowOf]
  have := get?_of_mem_nodup hok.nodup hkv
  rw [this]
  rfl

theorem long_rows_listing {t : List Cell} {DK LK : List String} (h : LongTable t DK LK) :
    ∃ (tb : Table) (E : Row → Row), toLongRows t = .ok tb ∧
      tb.rows = (cellScenarioFields t).map (longRowOf t E) ∧ tb.rows.length = longRows t := by
  obtain ⟨E, _, hok, _⟩ := toLongRows_ok h
  refine ⟨_, E, hok, ?_, ?_⟩
  · exact lrows_listing h E
  · rw [mkTable_rows, lrows_listing h E, List.length_map, cellScenarioFields_length]

end Bermuda.Frame
