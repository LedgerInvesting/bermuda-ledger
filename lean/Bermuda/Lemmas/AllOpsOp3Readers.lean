/-
Canonical form of everything the tabular readers of `Model/Frame.lean` return: every cell they build
goes through the validating constructor `Cell.mk?` (as the Python readers build them through
`CumulativeCell(...)` / `IncrementalCell(...)`), later additions only touch `values`, and the readers
end in `Triangle(...)`. Stated for EVERY table / frame / matrix the reader accepts, not only for
what the writers produce. After the readers: the remaining `Op3` operations of `Model/AllOps2.lean`
(`triangle_to_slice`, `make_pred_triangle_with_init`, `disaggregate_development`, `disaggregate`).
-/
import Bermuda.Model.AllOps2
import Bermuda.Lemmas.AllOps
import Bermuda.Lemmas.AllOpsOp3
import Bermuda.Lemmas.AllOpsExtend
import Bermuda.Lemmas.AllOpsUnits
namespace Bermuda.AllOps
open Bermuda Bermuda.Properties.C01 Bermuda.Frame Bermuda.Fn

theorem wideIncrCell_dates {f d l : List String} {r : Row} {c : Cell} (h : wideIncrCell f d l r = .ok c) :
    c.datesOk = true := by
  unfold wideIncrCell at h
  iterate 4 obtain ⟨_, _, h⟩ := bind_ok h
  exact mk?_ok_dates h

theorem fromWideRows_canonical {tb : Table} {f d l : List String} {r : List Cell}
    (h : fromWideRows tb f d l = .ok r) : Canonical r := by
  unfold fromWideRows at h
  split at h
  · unfold fromWideIncr at h
    obtain ⟨cells, hc, h⟩ := bind_ok h
    exact ofCells_canonical h (mapM_forall hc fun _ _ _ => wideIncrCell_dates)
  · unfold fromWideCum at h
    obtain ⟨cells, hc, h⟩ := bind_ok h
    refine ofCells_canonical h (mapM_forall hc fun g _ c hf => ?_)
    unfold wideGroupToCell at hf
    obtain ⟨_, _, hf⟩ := bind_ok hf
    exact mk?_ok_dates hf

theorem addFieldTo_dates {c x y : Cell} {f : String} {v : Val} (h : addFieldTo c f v x = .ok y) :
    y.datesOk = x.datesOk := by
  unfold addFieldTo at h
  split at h
  · split at h
    · cases h
    · cases h; rfl
  · cases h; rfl

theorem addField_allOk {cells out : List Cell} {c : Cell} {f : String} {v : Val} (hc : AllOk cells)
    (h : addField cells c f v = .ok out) : AllOk out := by
  unfold addField at h
  split at h
  · exact mapM_forall h fun x hx y hf => (addFieldTo_dates hf).trans (hc x hx)
  · obtain ⟨c', hc', rfl⟩ := map_ok h
    exact hc.append (.cons (mk?_ok_dates hc') .nil)

theorem longAdd_allOk {acc out : List Cell} {c : Cell} {fld : MVal} {v : Option Val} (hc : AllOk acc)
    (h : longAdd acc c fld v = .ok out) : AllOk out := by
  unfold longAdd at h
  split at h
  · exact addField_allOk hc h
  · cases h

theorem longStep_allOk {cols d l : List String} {acc out : List Cell} {g : List MVal × List Row}
    (hc : AllOk acc) (h : longStep cols d l acc g = .ok out) : AllOk out := by
  unfold longStep at h
  obtain ⟨rows, _, h⟩ := bind_ok h
  split at h
  · cases h
  · obtain ⟨_, _, h⟩ := bind_ok h
    obtain ⟨_, _, h⟩ := bind_ok h
    obtain ⟨_, _, h⟩ := bind_ok h
    exact longAdd_allOk hc h

theorem longIncrStep_allOk {d l : List String} {acc out : List Cell} {r : Row}
    (hc : AllOk acc) (h : longIncrStep d l acc r = .ok out) : AllOk out := by
  unfold longIncrStep at h
  iterate 4 obtain ⟨_, _, h⟩ := bind_ok h
  exact longAdd_allOk hc h

theorem fromLongRows_canonical {tb : Table} {l : List String} {r : List Cell}
    (h : fromLongRows tb l = .ok r) : Canonical r := by
  unfold fromLongRows at h
  split at h
  · unfold fromLongIncr at h
    obtain ⟨cells, hc, h⟩ := bind_ok h
    exact ofCells_canonical h
      (foldlM_inv AllOk hc AllOk.nil (fun _ _ _ hacc _ hf => longIncrStep_allOk hacc hf))
  · unfold fromLongCum at h
    obtain ⟨cells, hc, h⟩ := bind_ok h
    exact ofCells_canonical h
      (foldlM_inv AllOk hc AllOk.nil (fun _ _ _ hacc _ hf => longStep_allOk hacc hf))

theorem fromArrayFrame_canonical {rows : List ArrayRow} {field : String} {md : Metadata} {res : Option Int}
    {r : List Cell} (h : fromArrayFrame rows field md res = .ok r) : Canonical r := by
  unfold fromArrayFrame at h
  obtain ⟨_, _, h⟩ := bind_ok h
  obtain ⟨cells, hc, h⟩ := bind_ok h
  exact ofCells_canonical h (AllOk.flatten (mapM_forall hc fun _ _ _ hf =>
    mapM_forall hf fun _ _ _ => mk?_ok_dates))

theorem mk?_map_dates {c d : Cell} (h : c.mk?.map some = .ok (some d)) : d.datesOk = true := by
  obtain ⟨c', hc', h⟩ := map_ok h
  cases h; exact mk?_ok_dates hc'

/-- the shape of the cell loops of the matrix readers -/
theorem mapM3_some_forall {β : Type} {P : β → Prop} {f : Nat → Nat → Nat → Except Err (Option β)}
    {l1 l2 l3 : List Nat} {cells : List (List (List (Option β)))}
    (h : (l1.mapM fun i => l2.mapM fun j => l3.mapM fun k => f i j k) = .ok cells)
    (hf : ∀ i j k b, f i j k = .ok (some b) → P b) : ∀ b ∈ cells.flatten.flatten.filterMap id, P b := by
  intro b hb
  obtain ⟨ob, hob, rfl : ob = some b⟩ := List.mem_filterMap.mp hb
  obtain ⟨r2, hr2, hob⟩ := List.mem_flatten.mp hob
  obtain ⟨r1, hr1, hr2⟩ := List.mem_flatten.mp hr2
  obtain ⟨i, _, hi⟩ := mapM_ok_mem h r1 hr1
  obtain ⟨j, _, hj⟩ := mapM_ok_mem hi r2 hr2
  obtain ⟨k, _, hk⟩ := mapM_ok_mem hj (some b) hob
  exact hf i j k b hk

theorem matrixCell_dates {m : Matrix} {i j k : Nat} {c : Cell} (h : matrixCell m i j k = .ok (some c)) :
    c.datesOk = true := by
  unfold matrixCell at h
  rcases of_ite_ok h with h | h
  · cases h
  · split at h <;> exact mk?_map_dates h

theorem fromMatrix_canonical {m : Matrix} {r : List Cell} (h : fromMatrix m = .ok r) : Canonical r := by
  obtain ⟨cells, hc, h⟩ := bind_ok h
  exact ofCells_canonical h (mapM3_some_forall hc fun _ _ _ _ => matrixCell_dates)

theorem toSlice_canonical {t r : List Cell} (ht : AllOk t) (h : Fn.toSlice t = .ok r) : Canonical r := by
  unfold Fn.toSlice at h
  obtain ⟨r', hr', h⟩ := bind_ok h
  cases of_guard h
  exact ofCells_canonical hr' ht

theorem predGiven_ok {t p r : List Cell} {a : PredInitArgs} (h : predGiven t p a = .ok r) : p = r := by
  unfold predGiven at h
  replace h := of_guard (of_guard (of_guard h))
  split at h
  · cases of_guard h; rfl
  · cases h

theorem makePredTriangleWithInit_canonical {t r : List Cell} {a : PredInitArgs}
    (hp : ∀ p, a.pred = some p → Canonical p) (h : Fn.makePredTriangleWithInit t a = .ok r) : Canonical r := by
  unfold Fn.makePredTriangleWithInit at h
  split at h
  · rename_i p hpred
    exact predGiven_ok h ▸ hp p hpred
  · obtain ⟨lags, _, h⟩ := bind_ok h
    obtain ⟨r1, h1, h⟩ := bind_ok h
    exact filterP_canonical (allOk_of (makeRightTriangle_canonical h1)) h

theorem newDevCell_dates {init c : Cell} {lag : Rat} {keys : List String} {vals : String → CellFn}
    (h : newDevCell init lag keys vals = .ok c) : c.datesOk = true := by
  unfold newDevCell at h
  obtain ⟨_, _, h⟩ := bind_ok h
  exact mk?_ok_dates h

theorem devRowMulti_allOk {a : DisaggDevArgs} {fields : List String} {er : Option Int} {vals : String → CellFn}
    {row out : List Cell} {init last : Cell} (h : devRowMulti a fields er vals row init last = .ok out) :
    AllOk out := by
  unfold devRowMulti at h
  obtain ⟨_, _, h⟩ := bind_ok (of_guard h)
  exact mapM_forall h fun _ _ _ => newDevCell_dates

theorem devRowSingle_allOk {a : DisaggDevArgs} {fields : List String} {er : Option Int} {vals : String → CellFn}
    {acc out : List Cell} {init : Cell} (h : devRowSingle a fields er vals acc init = .ok out) : AllOk out := by
  unfold devRowSingle at h
  split at h
  · cases h; exact AllOk.nil
  · obtain ⟨_, _, h⟩ := bind_ok h
    exact mapM_forall h fun _ _ _ => newDevCell_dates

theorem devRow_allOk {a : DisaggDevArgs} {fields : List String} {er : Option Int} {vals : String → CellFn}
    {acc row out : List Cell} (hrow : AllOk row) (h : devRow a fields er vals acc row = .ok out) : AllOk out := by
  unfold devRow at h
  split at h
  · rename_i init rest last hlast
    split at h
    · exact devRowMulti_allOk h
    · split at h
      · cases h
        exact .cons (hrow _ (by simp)) .nil
      · exact devRowSingle_allOk h
  · cases h; exact AllOk.nil

theorem disaggDevSlice_allOk {a : DisaggDevArgs} {fields : List String} {vals : String → CellFn}
    {slice out : List Cell} (hs : AllOk slice) (h : disaggDevSlice a fields vals slice = .ok out) : AllOk out := by
  unfold disaggDevSlice at h
  obtain ⟨er, _, h⟩ := bind_ok h
  refine foldlM_inv AllOk h AllOk.nil (fun acc kr acc' hacc hmem hf => ?_)
  obtain ⟨added, hadd, hf⟩ := bind_ok hf
  cases hf
  exact hacc.append (devRow_allOk (fun c hc => hs c ((Extend.mem_slicePeriodRow_iff hmem c).mp hc).1) hadd)

theorem disaggregateDevelopment_canonical {t r : List Cell} {a : DisaggDevArgs} {vals : String → CellFn}
    (ht : Canonical t) (h : Fn.disaggregateDevelopment t a vals = .ok r) : Canonical r := by
  unfold Fn.disaggregateDevelopment at h
  obtain ⟨chk, _, h⟩ := bind_ok h
  split at h
  · cases h; exact ht
  · obtain ⟨cum, hcum, h⟩ := bind_ok h
    obtain ⟨blocks, hb, h⟩ := bind_ok h
    obtain ⟨r1, hr1, h⟩ := bind_ok h
    have hcumc := cumOrSame_canonical ht hcum
    have hr1c : Canonical r1 :=
      ofCells_canonical hr1 (AllOk.flatten (mapM_forall hb fun sl hsl _ =>
        disaggDevSlice_allOk (slices_allOk (allOk_of hcumc) hsl)))
    split at h
    · exact toIncremental_canonical hr1c h
    · cases h; exact hr1c

theorem disaggregate_canonical {t r : List Cell} {resExp : Nat} {weights : Option (List Units.Num)}
    {a : DisaggDevArgs} {vals : String → CellFn} (ht : Canonical t)
    (h : Fn.disaggregate t resExp weights a vals = .ok r) : Canonical r := by
  unfold Fn.disaggregate at h
  obtain ⟨_, _, h⟩ := bind_ok h
  obtain ⟨de, hde, h⟩ := bind_ok h
  exact disaggregateDevelopment_canonical (disaggregateExperience_canonical ht hde) h

end Bermuda.AllOps
