/-
Helper lemmas for C08, in any regime of units and origin: the walks of `Model/Aggregate.lean` over iterated
`resolution_delta`, one inversion per function of the model, and the period stage in terms of the source cells (`Piles`,
`aggregatePeriod_piles`), from which the later modules start. Core Lean only.
-/
import Bermuda.Model.Aggregate
import Bermuda.Lemmas.Canonical
import Bermuda.Lemmas.Summarize
import Bermuda.Lemmas.Sort
import Bermuda.Lemmas.DateOrder
namespace Bermuda
open Std

/-! ### iterating the resolution step -/

/-- `origin + k·res` by repeated `resolution_delta` -/
def iterD (q : Int) (u : ResUnit) : Nat → Date → Date
  | 0, d => d
  | k + 1, d => iterD q u k (resolutionDelta d q u)

theorem iterD_succ' (q : Int) (u : ResUnit) (k : Nat) (d : Date) :
    iterD q u (k + 1) d = resolutionDelta (iterD q u k d) q u := by
  induction k generalizing d with
  | zero => rfl
  | succ k ih => rw [iterD, ih]; rfl

theorem iterD_add (q : Int) (u : ResUnit) (j k : Nat) (d : Date) :
    iterD q u k (iterD q u j d) = iterD q u (j + k) d := by
  induction j generalizing d with
  | zero => simp [iterD]
  | succ j ih => rw [iterD, ih, Nat.add_right_comm]; rfl

/-- `+ 1` on the first side: the down walk goes on while `bound ≤ cur`, one turn more than the distance in days -/
theorem aggFuel_spec (a b : Date) :
    a.ordinal - b.ordinal + 1 < (aggFuel a b : Int) ∧ b.ordinal - a.ordinal < (aggFuel a b : Int) ∧
      1 ≤ aggFuel a b := by
  unfold aggFuel
  omega

theorem walkUp_spec {q : Int} {u : ResUnit} {bound : Date} {n : Nat} {cur a : Date}
    (h : walkUp q u bound n cur = some a) :
    ∃ k, a = iterD q u k cur ∧ ¬ (resolutionDelta a q u < bound) ∧
      ∀ j < k, iterD q u (j + 1) cur < bound := by
  induction n generalizing cur with
  | zero => simp [walkUp] at h
  | succ n ih =>
    simp only [walkUp] at h
    split at h
    · rename_i hlt
      obtain ⟨k, hk, hstop, hall⟩ := ih h
      refine ⟨k + 1, by rw [hk]; rfl, hstop, ?_⟩
      intro j hj
      cases j with
      | zero => exact hlt
      | succ j => exact hall j (by omega)
    · rename_i hnlt
      cases h
      exact ⟨0, rfl, hnlt, fun j hj => by omega⟩

theorem walkDown_spec {q : Int} {u : ResUnit} {bound : Date} {n : Nat} {cur a : Date}
    (h : walkDown q u bound n cur = some a) : ¬ (bound ≤ a) := by
  induction n generalizing cur with
  | zero => simp [walkDown] at h
  | succ n ih =>
    simp only [walkDown] at h
    split at h
    · exact ih h
    · rename_i hn; cases h; exact hn

theorem gridFrom_spec {q : Int} {u : ResUnit} {last : Date} {n : Nat} {cur : Date} {g : List Date}
    (h : gridFrom q u last n cur = some g) :
    (∀ j (hj : j < g.length), g[j] = iterD q u j cur ∧ g[j] ≤ last) ∧
    ¬ (iterD q u g.length cur ≤ last) := by
  induction n generalizing cur g with
  | zero => simp [gridFrom] at h
  | succ n ih =>
    simp only [gridFrom] at h
    split at h
    · rename_i hle
      cases hg : gridFrom q u last n (resolutionDelta cur q u) with
      | none => rw [hg] at h; cases h
      | some g' =>
        rw [hg] at h
        simp only [Option.map_some, Option.some.injEq] at h
        subst h
        obtain ⟨h1, h2⟩ := ih hg
        refine ⟨?_, ?_⟩
        · intro j hj
          cases j with
          | zero => exact ⟨rfl, hle⟩
          | succ j =>
            have := h1 j (by simpa using hj)
            simpa [iterD] using this
        · simpa [iterD] using h2
    · rename_i hnle
      cases h
      exact ⟨fun j hj => by simp at hj, by simpa [iterD] using hnle⟩

/-! ### the anchor and the evaluation grid -/

theorem anchorBefore_ok {q : Int} {u : ResUnit} {origin bound a : Date}
    (h : anchorBefore q u origin bound = some a) :
    ∃ up, walkUp q u bound (aggFuel origin bound) origin = some up ∧
      walkDown q u bound (aggFuel up bound) up = some a := by
  unfold anchorBefore at h
  split at h
  · cases h
  · rename_i up hup; exact ⟨up, hup, h⟩

theorem anchorBefore_lt {q : Int} {u : ResUnit} {origin bound a : Date}
    (h : anchorBefore q u origin bound = some a) : a < bound := by
  obtain ⟨_, _, hd⟩ := anchorBefore_ok h
  exact DateOrder.not_le.mp (walkDown_spec hd)

theorem validEvals_ok {q : Int} {u : ResUnit} {origin first last : Date} {grid : List Date}
    (h : validEvals q u origin first last = some grid) :
    ∃ a, anchorBefore q u origin first = some a ∧
      gridFrom q u last (aggFuel a last) (resolutionDelta a q u) = some grid := by
  unfold validEvals at h
  split at h
  · cases h
  · rename_i a ha; exact ⟨a, ha, h⟩

/-! ### the window walk -/

/-- window number `k` counted from the anchor `init`: it starts the day after grid point `k` and ends on grid
point `k + 1` -/
def windowAt (q : Int) (u : ResUnit) (init : Date) (k : Nat) : Date × Date :=
  ((iterD q u k init).succ, iterD q u (k + 1) init)

/-- what `assignWindows` did to one cell -/
def Relabelled (q : Int) (u : ResUnit) (init : Date) (c rc : Cell) : Prop :=
  ∃ k, (rc.ps, rc.pe) = windowAt q u init k ∧ rc.kind = .cell ∧ rc.prev = none ∧ rc.ev = c.ev ∧
    rc.values = c.values ∧ rc.md = c.md ∧ ¬ (rc.pe < c.ps) ∧ ¬ (rc.pe < c.pe)

/-- window `k` is the FIRST window (counted from the anchor) whose end is not before `d` -/
def FirstWindow (q : Int) (u : ResUnit) (init : Date) (k : Nat) (d : Date) : Prop :=
  (∀ j < k, (windowAt q u init j).2 < d) ∧ ¬ ((windowAt q u init k).2 < d)

theorem FirstWindow.unique {q : Int} {u : ResUnit} {init : Date} {k k' : Nat} {d : Date}
    (h : FirstWindow q u init k d) (h' : FirstWindow q u init k' d) : k = k' := by
  rcases Nat.lt_trichotomy k k' with hlt | heq | hgt
  · exact absurd (h'.1 k hlt) h.2
  · exact heq
  · exact absurd (h.1 k' hgt) h'.2

theorem FirstWindow.grid_lt {q : Int} {u : ResUnit} {init d : Date} {k : Nat} (h : FirstWindow q u init k d)
    (hlt : init < d) : ∀ i ≤ k, iterD q u i init < d
  | 0, _ => hlt
  | i + 1, hi => h.1 i (by omega)

theorem FirstWindow.start_le {q : Int} {u : ResUnit} {init d : Date} {k : Nat} (h : FirstWindow q u init k d)
    (hv : d.valid = true) (hlt : init < d) : ¬ d < (windowAt q u init k).1 :=
  DateOrder.not_lt.mpr (DateOrder.succ_le_of_lt hv (h.grid_lt hlt k (Nat.le_refl k)))

/-- the cell `assignWindows` builds for `c` once its walk has stopped at the grid point `g` -/
def relabelAt (q : Int) (u : ResUnit) (g : Date) (c : Cell) : Cell :=
  { kind := .cell, ps := g.succ, pe := resolutionDelta g q u, ev := c.ev, values := c.values, md := c.md }

theorem assignWindows_cons_ok {q : Int} {u : ResUnit} {init : Date} {c : Cell} {rest rel : List Cell}
    (h : assignWindows q u init (c :: rest) = .ok rel) :
    ∃ g ncs, walkUp q u c.ps (aggFuel init c.ps) init = some g ∧ ¬ resolutionDelta g q u < c.pe ∧
      assignWindows q u g rest = .ok ncs ∧ rel = relabelAt q u g c :: ncs := by
  simp only [assignWindows] at h
  split at h
  · cases h
  · rename_i g hw
    split at h
    · cases h
    · rename_i hno
      split at h
      · cases h
      · rename_i nc hnc
        split at h
        · cases h
        · rename_i ncs hncs
          cases h
          exact ⟨g, ncs, hw, hno, hncs, by rw [(AllOps.mk?_ok hnc).1]; rfl⟩

theorem assignWindows_cons_error {q : Int} {u : ResUnit} {init : Date} {c : Cell} {rest : List Cell} {e : Err}
    (h : assignWindows q u init (c :: rest) = .error e) :
    (walkUp q u c.ps (aggFuel init c.ps) init = none ∧ e = .other) ∨
    ∃ g, walkUp q u c.ps (aggFuel init c.ps) init = some g ∧
      ((resolutionDelta g q u < c.pe ∧ e = .triangleError) ∨
       (¬ resolutionDelta g q u < c.pe ∧
        (((relabelAt q u g c).datesOk = false ∧ e = .valueError) ∨ assignWindows q u g rest = .error e))) := by
  simp only [assignWindows] at h
  split at h
  · rename_i hw; cases h; exact Or.inl ⟨hw, rfl⟩
  · rename_i g hw
    refine Or.inr ⟨g, hw, ?_⟩
    split at h
    · rename_i hlt; cases h; exact Or.inl ⟨hlt, rfl⟩
    · rename_i hno
      refine Or.inr ⟨hno, ?_⟩
      split at h
      · rename_i e' he'
        cases h
        obtain ⟨hd, rfl⟩ := Cell.mk?_eq_error.mp he'
        exact Or.inl ⟨by simpa [relabelAt] using hd, rfl⟩
      · split at h
        · rename_i e' he'; cases h; exact Or.inr he'
        · cases h

/-- needs no order on the cells; for cells sorted by period start `assignWindows_eq_map` and
`assignWindows_triangleError_first` also say WHICH window each cell gets -/
theorem assignWindows_spec {q : Int} {u : ResUnit} {init : Date} {cells rel : List Cell}
    (h : assignWindows q u init cells = .ok rel) :
    rel.length = cells.length ∧ ∀ p ∈ cells.zip rel, Relabelled q u init p.1 p.2 := by
  induction cells generalizing init rel with
  | nil => simp only [assignWindows] at h; cases h; simp
  | cons c rest ih =>
    obtain ⟨g, ncs, hw, hno, hncs, rfl⟩ := assignWindows_cons_ok h
    obtain ⟨k0, hk0, hstop, _⟩ := walkUp_spec hw
    obtain ⟨hlen, hall⟩ := ih hncs
    refine ⟨by simp [hlen], fun p hp => ?_⟩
    rw [List.zip_cons_cons, List.mem_cons] at hp
    rcases hp with rfl | hp
    · exact ⟨k0, by simp [relabelAt, windowAt, hk0, iterD_succ'], rfl, rfl, rfl, rfl, rfl, hstop, hno⟩
    · obtain ⟨k, hk, hrest⟩ := hall p hp
      exact ⟨k0 + k, by rw [hk, hk0]; simp [windowAt, iterD_add, Nat.add_assoc], hrest⟩

theorem assignWindows_triangleError {q : Int} {u : ResUnit} {init : Date} {cells : List Cell}
    (h : assignWindows q u init cells = .error .triangleError) :
    ∃ c ∈ cells, ∃ k, ¬ ((windowAt q u init k).2 < c.ps) ∧ (windowAt q u init k).2 < c.pe := by
  induction cells generalizing init with
  | nil => simp [assignWindows] at h
  | cons c rest ih =>
    rcases assignWindows_cons_error h with ⟨_, he⟩ | ⟨g, hw, hcase⟩
    · cases he
    · obtain ⟨k0, hk0, hstop, _⟩ := walkUp_spec hw
      rcases hcase with ⟨hlt, _⟩ | ⟨_, ⟨_, he⟩ | he⟩
      · exact ⟨c, by simp, k0, by simpa [windowAt, iterD_succ', ← hk0] using hstop,
          by simpa [windowAt, iterD_succ', ← hk0] using hlt⟩
      · cases he
      · obtain ⟨c', hc', k, h1, h2⟩ := ih he
        exact ⟨c', by simp [hc'], k0 + k, by simpa [windowAt, hk0, iterD_add, Nat.add_assoc] using h1,
          by simpa [windowAt, hk0, iterD_add, Nat.add_assoc] using h2⟩

theorem walkUp_firstWindow {q : Int} {u : ResUnit} {init0 bound g : Date} {k0 n : Nat}
    (hinv : ∀ j < k0, (windowAt q u init0 j).2 < bound)
    (hw : walkUp q u bound n (iterD q u k0 init0) = some g) :
    ∃ k, g = iterD q u k init0 ∧ FirstWindow q u init0 k bound := by
  obtain ⟨k1, hk1, hstop, hbelow⟩ := walkUp_spec hw
  have hg : g = iterD q u (k0 + k1) init0 := by rw [hk1, iterD_add]
  refine ⟨k0 + k1, hg, fun j hj => ?_, ?_⟩
  · by_cases hj0 : j < k0
    · exact hinv j hj0
    · have := hbelow (j - k0) (by omega)
      rwa [iterD_add, show k0 + (j - k0 + 1) = j + 1 by omega] at this
  · show ¬ (iterD q u (k0 + k1 + 1) init0 < bound)
    rw [iterD_succ', ← hg]; exact hstop

/-- With the cells sorted by period start, the carried `current_init` always reaches the FIRST window whose end is
not before the cell's start, so a cell gets the same window `K c` wherever it stands in the list. -/
theorem assignWindows_eq_map {q : Int} {u : ResUnit} {init0 : Date} {k0 : Nat} {cells rel : List Cell}
    (hs : cells.Pairwise (fun a b => ¬ b.ps < a.ps))
    (hinv : ∀ c ∈ cells, ∀ j < k0, (windowAt q u init0 j).2 < c.ps)
    (h : assignWindows q u (iterD q u k0 init0) cells = .ok rel) :
    ∃ K : Cell → Nat, rel = cells.map (fun c => relabelAt q u (iterD q u (K c) init0) c) ∧
      ∀ c ∈ cells, FirstWindow q u init0 (K c) c.ps ∧ ¬ (windowAt q u init0 (K c)).2 < c.pe := by
  induction cells generalizing k0 rel with
  | nil => simp only [assignWindows] at h; cases h; exact ⟨fun _ => 0, rfl, by simp⟩
  | cons c rest ih =>
    obtain ⟨g, ncs, hw, hno, hncs, rfl⟩ := assignWindows_cons_ok h
    obtain ⟨k, rfl, hfirst⟩ := walkUp_firstWindow (hinv c (by simp)) hw
    obtain ⟨hc, hs'⟩ := List.pairwise_cons.mp hs
    obtain ⟨K, rfl, hK⟩ :=
      ih hs' (fun c' hc' j hj => DateOrder.lt_of_lt_of_not_lt (hfirst.1 j hj) (hc c' hc')) hncs
    rw [← iterD_succ'] at hno
    -- a later copy of `c` has the same first window
    refine ⟨fun x => if x = c then k else K x, ?_, fun x hx => ?_⟩
    · simp only [List.map_cons, if_pos]
      refine congrArg _ (List.map_congr_left fun x hx => ?_)
      by_cases hxc : x = c
      · rw [if_pos hxc, hxc, hfirst.unique (hxc ▸ (hK x hx).1)]
      · rw [if_neg hxc]
    · by_cases hxc : x = c
      · simp only [if_pos hxc]; rw [hxc]; exact ⟨hfirst, hno⟩
      · simp only [if_neg hxc]; exact hK x ((List.mem_cons.mp hx).resolve_left hxc)

theorem assignWindows_error_step {q : Int} {u : ResUnit} {init0 : Date} {k0 : Nat} {cells : List Cell} {e : Err}
    (hs : cells.Pairwise (fun a b => ¬ b.ps < a.ps))
    (hinv : ∀ c ∈ cells, ∀ j < k0, (windowAt q u init0 j).2 < c.ps)
    (h : assignWindows q u (iterD q u k0 init0) cells = .error e) :
    ∃ c ∈ cells, ∃ k1, (∀ j < k1, (windowAt q u init0 j).2 < c.ps) ∧
      ((walkUp q u c.ps (aggFuel (iterD q u k1 init0) c.ps) (iterD q u k1 init0) = none ∧ e = .other) ∨
       ∃ k, FirstWindow q u init0 k c.ps ∧
         (((windowAt q u init0 k).2 < c.pe ∧ e = .triangleError) ∨
          ((relabelAt q u (iterD q u k init0) c).datesOk = false ∧ e = .valueError))) := by
  induction cells generalizing k0 with
  | nil => simp [assignWindows] at h
  | cons c rest ih =>
    rcases assignWindows_cons_error h with hfuel | ⟨g, hw, hcase⟩
    · exact ⟨c, by simp, k0, hinv c (by simp), Or.inl hfuel⟩
    · obtain ⟨k, rfl, hfirst⟩ := walkUp_firstWindow (hinv c (by simp)) hw
      rw [← iterD_succ'] at hcase
      rcases hcase with hcross | ⟨_, hbad | he⟩
      · exact ⟨c, by simp, k0, hinv c (by simp), Or.inr ⟨k, hfirst, Or.inl hcross⟩⟩
      · exact ⟨c, by simp, k0, hinv c (by simp), Or.inr ⟨k, hfirst, Or.inr hbad⟩⟩
      · obtain ⟨hc, hs'⟩ := List.pairwise_cons.mp hs
        obtain ⟨c', hc', hstep⟩ := ih hs'
          (fun c' hc' j hj => DateOrder.lt_of_lt_of_not_lt (hfirst.1 j hj) (hc c' hc')) he
        exact ⟨c', by simp [hc'], hstep⟩

theorem assignWindows_triangleError_first {q : Int} {u : ResUnit} {init0 : Date} {k0 : Nat}
    {cells : List Cell} (hs : cells.Pairwise (fun a b => ¬ b.ps < a.ps))
    (hinv : ∀ c ∈ cells, ∀ j < k0, (windowAt q u init0 j).2 < c.ps)
    (h : assignWindows q u (iterD q u k0 init0) cells = .error .triangleError) :
    ∃ c ∈ cells, ∃ k, FirstWindow q u init0 k c.ps ∧ (windowAt q u init0 k).2 < c.pe := by
  obtain ⟨c, hc, _, _, ⟨_, he⟩ | ⟨k, hfirst, ⟨hcross, _⟩ | ⟨_, he⟩⟩⟩ := assignWindows_error_step hs hinv h
  · cases he
  · exact ⟨c, hc, k, hfirst, hcross⟩
  · cases he

instance : TransCmp coordCmp := by unfold coordCmp; infer_instance

theorem sorted_by_ps (t : List Cell) :
    (t.mergeSort fun a b => coordCmp a b != .gt).Pairwise (fun a b => ¬ b.ps < a.ps) :=
  (sorted_mergeSort (cmp := coordCmp) t).imp fun hab hlt =>
    compareLex_ne_gt_left (c₁ := cmpOn (fun c : Cell => c.ps) Date.cmp) (bne_iff_ne.mp hab) (OrientedCmp.gt_iff_lt.mpr hlt)

theorem sorted_head_min {t tl : List Cell} {c0 : Cell}
    (h : (t.mergeSort fun a b => coordCmp a b != .gt) = c0 :: tl) : c0 ∈ t ∧ ∀ c ∈ t, ¬ c.ps < c0.ps := by
  have hperm : (t.mergeSort fun a b => coordCmp a b != .gt).Perm t := List.mergeSort_perm _ _
  have hs := sorted_by_ps t
  rw [h] at hperm hs
  refine ⟨hperm.mem_iff.mp (by simp), fun c hc => ?_⟩
  rcases List.mem_cons.mp (hperm.mem_iff.mpr hc) with rfl | hc'
  · exact DateOrder.lt_irrefl _
  · exact (List.pairwise_cons.mp hs).1 c hc'

/-! ### the stages of `_aggregate_period` -/

theorem aggCell_ok {tr : Transc} {prem : Bool} {g : (Date × Date × Date) × List Cell} {o : Cell}
    (h : aggCell tr prem g = .ok o) :
    ∃ c0 rest vals, g.2 = c0 :: rest ∧ summarizeCellValues tr [] g.2 prem = .ok vals ∧
      Cell.mk? { kind := .cumulative, ps := c0.ps, pe := c0.pe, ev := c0.ev, values := vals, md := c0.md } =
        .ok o := by
  unfold aggCell at h
  split at h
  · cases h
  · rename_i c0 rest hg
    split at h
    · cases h
    · rename_i vals hv
      exact ⟨c0, rest, vals, hg, hv, h⟩

/-- the key `(period_start, period_end, evaluation_date)` of the piles -/
def key3 (c : Cell) : Date × Date × Date := (c.ps, c.pe, c.ev)

theorem key3_eq_iff {a b : Cell} : key3 a = key3 b ↔ a.ps = b.ps ∧ a.pe = b.pe ∧ a.ev = b.ev := by
  simp [key3]

/-- the pile a source cell goes to when the first window of its period start is number `k` -/
def pileKey (q : Int) (u : ResUnit) (init : Date) (k : Nat) (c : Cell) : Date × Date × Date :=
  ((windowAt q u init k).1, (windowAt q u init k).2, c.ev)

theorem key3_relabelAt (q : Int) (u : ResUnit) (init : Date) (k : Nat) (c : Cell) :
    key3 (relabelAt q u (iterD q u k init) c) = pileKey q u init k c := by
  simp [key3, pileKey, relabelAt, windowAt, iterD_succ']

theorem aggregatePeriod_ok {tr : Transc} {t out : List Cell} {q : Int} {s : String}
    {origin : Date} {prem : Bool}
    (h : aggregatePeriod tr t (some (q, s)) origin prem = .ok out) :
    ∃ q' u c0 tl init rel newCells, standardizeResolution q s = .ok (q', u) ∧
      (t.mergeSort fun a b => coordCmp a b != .gt) = c0 :: tl ∧
      anchorBefore q' u origin c0.ps = some init ∧
      assignWindows q' u init (c0 :: tl) = .ok rel ∧
      smMapE (aggCell tr prem) (groupsOf key3 rel) = .ok newCells ∧ Triangle.ofCells newCells = .ok out := by
  unfold aggregatePeriod at h
  simp only at h
  split at h
  · cases h
  · rename_i q' u hst
    split at h
    · cases h
    · rename_i c0 tl hsorted
      split at h
      · cases h
      · rename_i init hinit
        split at h
        · cases h
        · rename_i rel hrel
          split at h
          · cases h
          · rename_i newCells hnew
            rw [groupBy_eq_groupsOf] at hnew
            exact ⟨q', u, c0, tl, init, rel, newCells, hst, hsorted, hinit, hsorted ▸ hrel, hnew, h⟩

theorem aggCell_key {tr : Transc} {prem : Bool} {rel : List Cell} {g : (Date × Date × Date) × List Cell}
    {o : Cell} (hg : g ∈ groupsOf key3 rel) (h : aggCell tr prem g = .ok o) :
    key3 o = g.1 ∧ g.2 = rel.filter (fun c => key3 c == key3 o) := by
  obtain ⟨c0, rest, vals, hg2, _, hmk⟩ := aggCell_ok h
  cases (AllOps.mk?_ok hmk).1
  obtain ⟨_, hgf⟩ := mem_groupsOf_iff.mp hg
  have hc0 : c0 ∈ rel.filter (key3 · == g.1) := hgf ▸ hg2 ▸ List.mem_cons_self
  have hk : key3 c0 = g.1 := eq_of_beq (List.mem_filter.mp hc0).2
  exact ⟨hk, hk ▸ hgf⟩

/-- anatomy of an output cell of `_aggregate_period`: a CumulativeCell without previous evaluation date, with the
window, evaluation date and metadata of some re-labelled cell, whose values are `summarize_cell_values` of ALL
re-labelled cells with that window and evaluation date -/
theorem aggregatePeriod_out_cell {tr : Transc} {prem : Bool} {rel newCells : List Cell}
    (hnew : smMapE (aggCell tr prem) (groupsOf key3 rel) = .ok newCells) {o : Cell} (ho : o ∈ newCells) :
    ∃ rc ∈ rel, key3 rc = key3 o ∧ rc.md = o.md ∧ o.kind = .cumulative ∧ o.prev = none ∧
      summarizeCellValues tr [] (rel.filter fun c => key3 c == key3 o) prem = .ok o.values := by
  obtain ⟨g, hg, hgo⟩ := smMapE_mem hnew ho
  obtain ⟨hkey, hg2⟩ := aggCell_key hg hgo
  obtain ⟨c0, rest, vals, hgc, hvals, hmk⟩ := aggCell_ok hgo
  have hc0 : c0 ∈ rel.filter (fun c => key3 c == key3 o) := by rw [← hg2, hgc]; simp
  cases (AllOps.mk?_ok hmk).1
  exact ⟨c0, (List.mem_filter.mp hc0).1, by simpa using (List.mem_filter.mp hc0).2, rfl, rfl, rfl, hg2 ▸ hvals⟩

/-- one output cell per window and evaluation date that received a cell, in order of first appearance -/
theorem aggregatePeriod_out_keys {tr : Transc} {prem : Bool} {rel newCells : List Cell}
    (hnew : smMapE (aggCell tr prem) (groupsOf key3 rel) = .ok newCells) :
    newCells.map key3 = smDedup (rel.map key3) := by
  rw [smMapE_map key3 (·.1) hnew (fun g hg o ho => (aggCell_key hg ho).1)]
  simp [groupsOf, List.map_map, Function.comp_def]

/-- what a successful `_aggregate_period` to `q` units `u` did, in terms of the SOURCE cells `t`: the grid is anchored
at `init`, every source cell `c` goes to window number `K c`, and there is one CumulativeCell per pile — the sorted
source cells with one `pileKey` — whose values are `summarize_cell_values` of the pile (which reads only the values of
a cell, and the walk keeps them) -/
structure Piles (tr : Transc) (prem : Bool) (q : Int) (u : ResUnit) (origin : Date) (t out : List Cell) (init : Date)
    (K : Cell → Nat) : Prop where
  anchor : ∃ c0 ∈ t, (∀ c ∈ t, ¬ c.ps < c0.ps) ∧ anchorBefore q u origin c0.ps = some init
  first : ∀ c ∈ t, FirstWindow q u init (K c) c.ps ∧ ¬ (windowAt q u init (K c)).2 < c.pe
  walk : assignWindows q u init (t.mergeSort fun a b => coordCmp a b != .gt) =
    .ok ((t.mergeSort fun a b => coordCmp a b != .gt).map fun c => relabelAt q u (iterD q u (K c) init) c)
  keys : (out.map key3).Perm (smDedup ((t.mergeSort fun a b => coordCmp a b != .gt).map fun c =>
    pileKey q u init (K c) c))
  cell : ∀ o ∈ out, o.kind = .cumulative ∧ o.prev = none ∧
    (∃ c ∈ t, pileKey q u init (K c) c = key3 o ∧ c.md = o.md) ∧
    summarizeCellValues tr [] ((t.mergeSort fun a b => coordCmp a b != .gt).filter fun c =>
      pileKey q u init (K c) c == key3 o) prem = .ok o.values

theorem aggregatePeriod_piles {tr : Transc} {t out : List Cell} {q : Int} {s : String} {origin : Date}
    {prem : Bool} (h : aggregatePeriod tr t (some (q, s)) origin prem = .ok out) :
    ∃ q' u init K, standardizeResolution q s = .ok (q', u) ∧ Piles tr prem q' u origin t out init K := by
  obtain ⟨q', u, c0, tl, init, rel, newCells, hst, hsorted, hinit, hrel, hnew, hof⟩ := aggregatePeriod_ok h
  have hperm := Triangle.ofCells_perm hof
  have hsp : (t.mergeSort fun a b => coordCmp a b != .gt).Perm t := List.mergeSort_perm _ _
  rw [← hsorted] at hrel
  obtain ⟨K, rfl, hK⟩ := assignWindows_eq_map (k0 := 0) (init0 := init) (sorted_by_ps t) (by simp) hrel
  refine ⟨q', u, init, K, hst, ⟨c0, (sorted_head_min hsorted).1, (sorted_head_min hsorted).2, hinit⟩,
    fun c hc => hK c (hsp.mem_iff.mpr hc), hrel, ?_, fun o ho => ?_⟩
  · have := aggregatePeriod_out_keys hnew ▸ hperm.map key3
    simpa only [List.map_map, Function.comp_def, key3_relabelAt] using this
  · obtain ⟨rc, hrc, hk, hmd, hkind, hprev, hsum⟩ := aggregatePeriod_out_cell hnew (hperm.mem_iff.mp ho)
    obtain ⟨c, hc, rfl⟩ := List.mem_map.mp hrc
    rw [key3_relabelAt] at hk
    refine ⟨hkind, hprev, ⟨c, hsp.mem_iff.mp hc, hk, hmd⟩, ?_⟩
    rw [← hsum, List.filter_map]
    simp only [Function.comp_def, key3_relabelAt]
    exact summarizeCellValues_congr (by rw [List.map_map]; rfl)

theorem aggregatePeriod_out_md {tr : Transc} {t out : List Cell} {q : Int} {s : String} {origin : Date}
    {prem : Bool} (h : aggregatePeriod tr t (some (q, s)) origin prem = .ok out) {o : Cell} (ho : o ∈ out) :
    ∃ c ∈ t, o.md = c.md := by
  obtain ⟨_, _, _, _, _, P⟩ := aggregatePeriod_piles h
  obtain ⟨_, _, ⟨c, hc, _, hmd⟩, _⟩ := P.cell o ho
  exact ⟨c, hc, hmd.symm⟩

theorem aggregatePeriod_keys_nodup {tr : Transc} {t out : List Cell} {q : Int} {s : String} {origin : Date}
    {prem : Bool} (h : aggregatePeriod tr t (some (q, s)) origin prem = .ok out) : (out.map key3).Nodup := by
  obtain ⟨_, _, _, _, _, P⟩ := aggregatePeriod_piles h
  exact P.keys.nodup_iff.mpr (nodup_smDedup _)

theorem aggregatePeriod_walk_error {tr : Transc} {t tl : List Cell} {q q' : Int} {s : String} {u : ResUnit}
    {origin init : Date} {prem : Bool} {c0 : Cell} {e : Err}
    (hst : standardizeResolution q s = .ok (q', u))
    (hsorted : (t.mergeSort fun a b => coordCmp a b != .gt) = c0 :: tl)
    (hanchor : anchorBefore q' u origin c0.ps = some init)
    (herr : assignWindows q' u init (t.mergeSort fun a b => coordCmp a b != .gt) = .error e) :
    aggregatePeriod tr t (some (q, s)) origin prem = .error e := by
  unfold aggregatePeriod
  simp only [hst]
  split
  · rename_i hnil; rw [hsorted] at hnil; cases hnil
  · rename_i c0' tl' heq
    rw [hsorted] at heq
    cases heq
    simp only [hanchor, herr]

theorem aggregateEval_ok {t out : List Cell} {q : Int} {s : String} {origin : Date}
    (h : aggregateEval t (some (q, s)) origin = .ok out) :
    ∃ q' u first last grid, standardizeResolution q s = .ok (q', u) ∧
      minDate (t.map (·.ev)) = some first ∧ maxDateAgg (t.map (·.ev)) = some last ∧
      validEvals q' u origin first last = some grid ∧
      Triangle.ofCells (t.filter fun c => grid.contains c.ev) = .ok out := by
  unfold aggregateEval at h
  simp only at h
  split at h
  · cases h
  · rename_i q' u hst
    split at h
    · rename_i first last hmin hmax
      split at h
      · cases h
      · rename_i grid hgrid
        exact ⟨q', u, first, last, grid, hst, hmin, hmax, hgrid, h⟩
    · cases h

/-- `min(dates)`: a member, and no member is earlier -/
theorem minDate_spec {l : List Date} {m : Date} (h : minDate l = some m) : m ∈ l ∧ ∀ d ∈ l, ¬ (d < m) := by
  cases l with
  | nil => simp [minDate] at h
  | cons a l =>
    simp only [minDate, Option.some.injEq] at h
    subst h
    exact foldl_best StrictWeak.dateLt l a

/-- `max(dates)`: a member, and no member is later -/
theorem maxDateAgg_spec {l : List Date} {m : Date} (h : maxDateAgg l = some m) : m ∈ l ∧ ∀ d ∈ l, ¬ (m < d) := by
  cases l with
  | nil => simp [maxDateAgg] at h
  | cons a l =>
    simp only [maxDateAgg, Option.some.injEq] at h
    subst h
    exact foldl_best StrictWeak.dateLt.swap l a

theorem aggregateSlice_ok {tr : Transc} {a : AggArgs} {sl r : List Cell}
    (h : aggregateSlice tr a sl = .ok r) :
    ∃ e, aggregateEval sl a.evalRes a.evalOrigin = .ok e ∧
      aggregatePeriod tr e a.periodRes a.periodOrigin a.prem = .ok r := by
  unfold aggregateSlice at h
  split at h
  · cases h
  · rename_i e he; exact ⟨e, he, h⟩

theorem aggregateCum_ok {tr : Transc} {t out : List Cell} {a : AggArgs}
    (h : aggregateCum tr t a = .ok out) :
    ∃ aggs, smMapE (fun p : Metadata × List Cell => aggregateSlice tr a p.2) (Triangle.slices t) = .ok aggs ∧
      sumTriangles aggs = .ok out := by
  unfold aggregateCum at h
  split at h
  · cases h
  · rename_i aggs haggs; exact ⟨aggs, haggs, h⟩

theorem aggregate_ok {tr : Transc} {t r : List Cell} {a : AggArgs} (h : aggregate tr t a = .ok r) :
    (smIsIncremental t = true ∧ ∃ cum agg, Triangle.toCumulative t = .ok cum ∧
      aggregateCum tr cum a = .ok agg ∧ Triangle.toIncremental agg = .ok r) ∨
    (smIsIncremental t = false ∧ aggregateCum tr t a = .ok r) := by
  unfold aggregate at h
  split at h
  · rename_i hinc
    split at h
    · cases h
    · rename_i cum hcum
      split at h
      · cases h
      · rename_i agg hagg; exact .inl ⟨hinc, cum, agg, hcum, hagg, h⟩
  · rename_i hinc; exact .inr ⟨by simpa using hinc, h⟩

/-- on a cumulative triangle nothing is converted -/
theorem aggregate_cumulative (tr : Transc) (t : List Cell) (a : AggArgs)
    (h : smIsIncremental t = false) : aggregate tr t a = aggregateCum tr t a := by
  unfold aggregate
  simp [h]

/-! ### from one slice to the whole triangle: `sum(agg_slices)` loses nothing -/

theorem sumTriangles_perm {aggs : List (List Cell)} {out : List Cell}
    (h : sumTriangles aggs = .ok out) : out.Perm aggs.flatten := by
  cases aggs with
  | nil => simp only [sumTriangles] at h; cases h; simp
  | cons t rest =>
    simp only [sumTriangles] at h
    simpa using smFoldE_ofCells_perm h

/-- `Properties.C08.aggregate_union_of_slices` -/
theorem aggregateCum_perm {tr : Transc} {t out : List Cell} {a : AggArgs}
    (h : aggregateCum tr t a = .ok out) :
    ∃ aggs, smMapE (fun p : Metadata × List Cell => aggregateSlice tr a p.2) (Triangle.slices t) = .ok aggs ∧
      out.Perm aggs.flatten := by
  obtain ⟨aggs, haggs, hs⟩ := aggregateCum_ok h
  exact ⟨aggs, haggs, sumTriangles_perm hs⟩

theorem aggregateEval_subset {sl e : List Cell} {res : Option (Int × String)} {origin : Date}
    (h : aggregateEval sl res origin = .ok e) : ∀ c ∈ e, c ∈ sl := by
  cases res with
  | none => cases h; exact fun _ hc => hc
  | some p =>
    obtain ⟨_, _, _, _, _, _, _, _, _, hof⟩ := aggregateEval_ok h
    exact fun c hc => (List.mem_filter.mp ((Triangle.ofCells_perm hof).mem_iff.mp hc)).1

end Bermuda
