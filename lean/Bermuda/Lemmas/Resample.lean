/-
Helper lemmas for C17 (resampling): the rank re-imposition, canonical triangles rebuilt from cells
with unchanged coordinates, the development loop, the moment-matching loop, and `bootstrap` as a function of its
per-replicate step (`bootstrapWith`, of which `bootstrap` and `bootstrapD` are instances).
-/
import Bermuda.Model.Resample
import Bermuda.Lemmas.AssocModels
import Bermuda.Lemmas.Canonical
import Bermuda.Lemmas.Forall2
import Mathlib.Tactic.Linarith
import Mathlib.Data.List.Nodup
import Mathlib.Data.List.Perm.Subperm
namespace Bermuda.Resample

/-! ### `mapMExcept` (it is `List.mapM`: `mapMExcept_eq_mapM`, `Lemmas/ExceptFacts.lean`) -/

theorem mapMExcept_ok_iff {α β} {f : α → Except Err β} {l : List α} {r : List β} :
    mapMExcept f l = .ok r ↔ List.Forall₂ (fun a b => f a = .ok b) l r :=
  mapMExcept_eq_mapM f l ▸ mapM_ok_forall₂

theorem mapMExcept_forall₂ {α β} {f : α → Except Err β} {l : List α} {r : List β}
    (h : mapMExcept f l = .ok r) : List.Forall₂ (fun a b => f a = .ok b) l r := mapMExcept_ok_iff.mp h

theorem mapMExcept_length {α β} {f : α → Except Err β} {l : List α} {r : List β}
    (h : mapMExcept f l = .ok r) : r.length = l.length :=
  (mapMExcept_forall₂ h).length_eq.symm

theorem mapMExcept_getElem {α β} {f : α → Except Err β} {l : List α} {r : List β}
    (h : mapMExcept f l = .ok r) (i : Nat) (hi : i < l.length) :
    f l[i] = .ok (r[i]'(by rw [mapMExcept_length h]; exact hi)) :=
  mapM_ok_getElem (mapMExcept_eq_mapM f l ▸ h) i hi

theorem mapMExcept_congr_ok {α β} {f g : α → Except Err β} {l : List α} {r : List β}
    (h : mapMExcept f l = .ok r) (hfg : ∀ a ∈ l, ∀ b, f a = .ok b → g a = .ok b) : mapMExcept g l = .ok r :=
  mapMExcept_ok_iff.mpr (forall₂_imp_mem (mapMExcept_forall₂ h) hfg)

theorem mapMExcept_range_getD {β} {f : Nat → Except Err β} {n : Nat} {b : List β} (d : β)
    (h : mapMExcept f (List.range n) = .ok b) {i : Nat} (hi : i < n) : f i = .ok (b.getD i d) := by
  have hlen : b.length = n := by simpa using mapMExcept_length h
  have hr := mapMExcept_getElem h i (by simpa using hi)
  rw [List.getElem_range] at hr
  rw [hr, List.getD_eq_getElem?_getD, List.getElem?_eq_getElem (hlen ▸ hi)]
  rfl

/-- `{**a, **b}[k]` is `b[k]` when `b` has the key -/
theorem dget_union_of_get {α : Type} (a : Dict α) {b : Dict α} (hn : b.keys.Nodup) {k : String} {v : α}
    (h : b.get? k = some v) : (Dict.union a b).get? k = some v :=
  (Assoc.get?_union a hn k).trans (by rw [show Assoc.get? b k = some v from h]; rfl)

theorem sortQ_length (qs : List Rat) : (sortQ qs).length = qs.length := by
  simp [sortQ]

theorem sortQ_sorted (qs : List Rat) : (sortQ qs).Pairwise (fun a b => a ≤ b) := pairwise_sortRat qs

theorem sortQ_perm (qs : List Rat) : (sortQ qs).Perm qs := List.mergeSort_perm _ _

theorem sortQ_mono (qs : List Rat) {a b : Nat} (hab : a ≤ b) (hb : b < (sortQ qs).length) :
    (sortQ qs).getD a 0 ≤ (sortQ qs).getD b 0 :=
  getD_mono_of_pairwise (fun _ => Rat.le_refl) (sortQ_sorted qs) hab hb 0

/-- for closed instances: the kernel evaluates the insertion sort, not `List.mergeSort` -/
theorem sortQ_eq_insertionSort (qs : List Rat) : sortQ qs = insertionSort (fun a b => decide (a ≤ b)) qs :=
  mergeSort_eq_insertionSort (fun a b c => by simpa using Rat.le_trans) (fun a b => by simpa using Rat.le_total) qs

theorem sortQ_congr {a b : List Rat} (h : a.Perm b) : sortQ a = sortQ b := sortRat_eq_of_perm h

theorem keyLt_irrefl (xs : List Rat) (i : Nat) : keyLt xs i i = false := by
  simp [keyLt]

theorem keyLt_trans {xs : List Rat} {k i j : Nat} (h1 : keyLt xs k i = true) (h2 : keyLt xs i j = true) :
    keyLt xs k j = true := by
  simp only [keyLt, Bool.or_eq_true, decide_eq_true_eq, Bool.and_eq_true, beq_iff_eq] at *
  rcases h1 with h1 | ⟨h1, h1'⟩ <;> rcases h2 with h2 | ⟨h2, h2'⟩
  · exact Or.inl (h1.trans h2)
  · left; rw [← h2]; exact h1
  · left; rw [h1]; exact h2
  · right; exact ⟨h1.trans h2, by omega⟩

theorem keyLt_total {xs : List Rat} {i j : Nat} (h : i ≠ j) : keyLt xs i j = true ∨ keyLt xs j i = true := by
  simp only [keyLt, Bool.or_eq_true, decide_eq_true_eq, Bool.and_eq_true, beq_iff_eq]
  rcases lt_trichotomy (xs.getD i 0) (xs.getD j 0) with hlt | heq | hgt
  · exact Or.inl (Or.inl hlt)
  · rcases Nat.lt_or_gt_of_ne h with h' | h'
    · exact Or.inl (Or.inr ⟨heq, h'⟩)
    · exact Or.inr (Or.inr ⟨heq.symm, h'⟩)
  · exact Or.inr (Or.inl hgt)

theorem rank_lt_length {xs : List Rat} {i : Nat} (hi : i < xs.length) : rank xs i < xs.length := by
  unfold rank
  have hle := List.countP_le_length (p := (keyLt xs · i)) (l := List.range xs.length)
  have hne : List.countP (keyLt xs · i) (List.range xs.length) ≠ (List.range xs.length).length := by
    intro heq
    have := (List.countP_eq_length.mp heq) i (by simpa using hi)
    simp [keyLt_irrefl] at this
  simp only [List.length_range] at hle hne
  omega

theorem countP_lt_countP {α} {p q : α → Bool} {l : List α} (hpq : ∀ x ∈ l, p x = true → q x = true)
    (hex : ∃ x ∈ l, p x = false ∧ q x = true) : l.countP p < l.countP q := by
  induction l with
  | nil => simp at hex
  | cons a l ih =>
    obtain ⟨x, hx, hpx, hqx⟩ := hex
    have hmono : l.countP p ≤ l.countP q := List.countP_mono_left (fun y hy => hpq y (by simp [hy]))
    rcases List.mem_cons.mp hx with rfl | hx
    · simp [hpx, hqx]; omega
    · have := ih (fun y hy => hpq y (by simp [hy])) ⟨x, hx, hpx, hqx⟩
      rw [List.countP_cons, List.countP_cons]
      by_cases hpa : p a = true
      · simp [hpa, hpq a (by simp) hpa]; omega
      · simp [hpa]; split <;> omega

theorem rank_lt_of_keyLt {xs : List Rat} {i j : Nat} (hi : i < xs.length) (h : keyLt xs i j = true) :
    rank xs i < rank xs j := by
  unfold rank
  exact countP_lt_countP (fun k _ hk => keyLt_trans hk h) ⟨i, List.mem_range.mpr hi, keyLt_irrefl xs i, h⟩

theorem rank_injOn {xs : List Rat} {i j : Nat} (hi : i < xs.length) (hj : j < xs.length)
    (h : rank xs i = rank xs j) : i = j := by
  by_contra hne
  rcases keyLt_total (xs := xs) hne with hlt | hlt
  · have := rank_lt_of_keyLt hi hlt; omega
  · have := rank_lt_of_keyLt hj hlt; omega

theorem ranks_perm (xs : List Rat) : ((List.range xs.length).map (rank xs)).Perm (List.range xs.length) := by
  have hnd : ((List.range xs.length).map (rank xs)).Nodup :=
    List.Nodup.map_on (fun x hx y hy h => rank_injOn (by simpa using hx) (by simpa using hy) h)
      List.nodup_range
  have hsub : (List.range xs.length).map (rank xs) ⊆ List.range xs.length := by
    intro r hr
    obtain ⟨i, hi, rfl⟩ := List.mem_map.mp hr
    simpa using rank_lt_length (by simpa using hi)
  exact (List.subperm_of_subset hnd hsub).perm_of_length_le (by simp)

theorem reimposeRank_length (xs qs : List Rat) : (reimposeRank xs qs).length = xs.length := by
  simp [reimposeRank]

theorem reimposeRank_getD {xs qs : List Rat} {i : Nat} (hi : i < xs.length) :
    (reimposeRank xs qs).getD i 0 = (sortQ qs).getD (rank xs i) 0 := by
  simp [reimposeRank, List.getD_eq_getElem?_getD, hi]

theorem reimposeRank_order_le {xs qs : List Rat} (hl : xs.length ≤ qs.length) {i j : Nat}
    (hi : i < xs.length) (hj : j < xs.length) (h : xs.getD i 0 < xs.getD j 0) :
    (reimposeRank xs qs).getD i 0 ≤ (reimposeRank xs qs).getD j 0 := by
  rw [reimposeRank_getD hi, reimposeRank_getD hj]
  exact sortQ_mono qs (rank_lt_of_keyLt hi (by simp only [keyLt, h, decide_true, Bool.true_or])).le
    (by rw [sortQ_length]; exact Nat.lt_of_lt_of_le (rank_lt_length hj) hl)

theorem reimposeRank_perm' {xs qs : List Rat} (hl : qs.length = xs.length) :
    (reimposeRank xs qs).Perm qs := by
  have h1 : reimposeRank xs qs = ((List.range xs.length).map (rank xs)).map ((sortQ qs).getD · 0) := by
    simp [reimposeRank, List.map_map, Function.comp_def]
  rw [h1]
  refine ((ranks_perm xs).map _).trans ?_
  rw [← hl, ← sortQ_length qs, map_getD_range]
  exact sortQ_perm qs

theorem reimposeRank_congr (xs : List Rat) {a b : List Rat} (h : a.Perm b) : reimposeRank xs a = reimposeRank xs b := by
  unfold reimposeRank; rw [sortQ_congr h]

/-! ### canonical triangles rebuilt from cells with unchanged coordinates; thin -/

theorem thin_eq_self {t : List Cell} {n : Nat} (idx : List Nat) (h : numSamples t = .ok n) :
    thin t n idx = .ok .same := by
  simp [thin, h]

theorem thin_error {t : List Cell} {n k : Nat} (idx : List Nat) (h : numSamples t = .ok n) (hk : n < k) :
    thin t k idx = .error .valueError := by
  simp [thin, h, hk]

/-- a list with the coordinates and classes of a canonical triangle is itself one -/
theorem ofCells_same_coords {t l : List Cell}
    (h : List.Forall₂ (fun c o => o.coord = c.coord ∧ o.kind = c.kind) t l)
    (hk : kindsConsistent t = true) (hs : t.Pairwise (fun a b => Cell.le a b)) :
    Triangle.ofCells l = .ok l ∧ kindsConsistent l = true ∧ l.Pairwise (fun a b => Cell.le a b) :=
  have hk' := (kindsConsistent_congr_kinds (forall₂_map_eq (h.imp fun _ _ h => h.2))).trans hk
  have hs' := pairwise_le_of_coords (forall₂_map_eq (h.imp fun _ _ h => h.1)) hs
  ⟨Triangle.ofCells_of_sorted hk' hs', hk', hs'⟩

theorem thin_fresh {t out : List Cell} {k : Nat} {idx : List Nat}
    (h : thin t k idx = .ok (.fresh out)) (hk : kindsConsistent t = true)
    (hs : t.Pairwise (fun a b => Cell.le a b)) : out = t.map (thinCell idx) := by
  unfold thin at h
  split at h
  · cases h
  · split at h
    · cases h
    · split at h
      · cases h
      · rw [(ofCells_same_coords (l := t.map (thinCell idx))
          (List.forall₂_map_right_iff.mpr (List.forall₂_same.mpr fun _ _ => ⟨rfl, rfl⟩)) hk hs).1] at h
        cases h; rfl

theorem thinCell_keys (idx : List Nat) (c : Cell) : (thinCell idx c).values.keys = c.values.keys :=
  Dict.keys_map_val (fun p => thinVal idx p.2) c.values

/-! ### `_develop_triangle_by_atas` -/

def DevRel (t : List Cell) (c o : Cell) : Prop :=
  o.coord = c.coord ∧ o.kind = c.kind ∧
  (initialLag t (c.ps, c.pe) = some c.devLag → o = c) ∧ ∃ its, o.values = Dict.union c.values its

/-- what the loop makes of `c` when the developed values of the cell before it are `vals` -/
inductive DevStep (t : List Cell) (F : Factors) (vals : Dict Val) (c : Cell) : Cell → Prop
  | first : initialLag t (c.ps, c.pe) = some c.devLag → DevStep t F vals c c
  | bare : initialLag t (c.ps, c.pe) ≠ some c.devLag → vals = [] →
      DevStep t F vals c { c with values := Dict.union c.values [] }
  | items {tbl : List (String × List Rat)} {its : Dict Val} : initialLag t (c.ps, c.pe) ≠ some c.devLag →
      vals.isEmpty = false → assoc? F c.devLag = some tbl →
      developItems c tbl ((periodsOf t).idxOf (c.ps, c.pe)) vals = .ok its →
      DevStep t F vals c { c with values := Dict.union c.values its }

/-- the one walk through the loop: every other fact about it is a fact about `DevStep` carried along the scan -/
theorem developLoop_scan {t : List Cell} {F : Factors} : ∀ {cs : List Cell} {vals : Dict Val} {out : List Cell},
    developLoop t F vals cs = .ok out → Scan (DevStep t F) (·.values) vals cs out := by
  intro cs
  induction cs with
  | nil => intro vals out h; simp [developLoop] at h; subst h; exact .nil
  | cons c cs ih =>
    intro vals out h
    simp only [developLoop] at h
    split at h
    · rename_i hinit
      split at h
      · cases h
      · rename_i r hr
        cases h
        exact .cons (.first (by simpa using hinit)) (ih hr)
    · rename_i hinit
      have hinit' : initialLag t (c.ps, c.pe) ≠ some c.devLag := by simpa using hinit
      split at h
      · cases h
      · rename_i its hits
        split at h
        · cases h
        · rename_i r hr
          cases h
          refine .cons ?_ (ih hr)
          split at hits
          · rename_i he
            cases hits
            exact .bare hinit' (List.isEmpty_iff.mp he)
          · rename_i he
            split at hits
            · cases hits
            · rename_i tbl hF
              exact .items hinit' (by simpa using he) hF hits

theorem DevStep.rel {t : List Cell} {F : Factors} {vals : Dict Val} {c o : Cell} (h : DevStep t F vals c o) :
    DevRel t c o := by
  cases h with
  | first h0 => exact ⟨rfl, rfl, fun _ => rfl, [], rfl⟩
  | bare hn _ => exact ⟨rfl, rfl, fun h' => absurd h' hn, [], rfl⟩
  | items hn _ _ _ => exact ⟨rfl, rfl, fun h' => absurd h' hn, _, rfl⟩

theorem developLoop_rel {t : List Cell} {F : Factors} {cs : List Cell} {vals : Dict Val} {out : List Cell}
    (h : developLoop t F vals cs = .ok out) : List.Forall₂ (DevRel t) cs out :=
  (developLoop_scan h).forall₂.imp fun _ _ ⟨_, hs⟩ => hs.rel

/-- on a canonical triangle the closing `Triangle(cells)` changes nothing -/
theorem developByAtas_loop {t out : List Cell} {F : Factors} (h : developByAtas t F = .ok out)
    (hk : kindsConsistent t = true) (hs : t.Pairwise (fun a b => Cell.le a b)) :
    developLoop t F [] t = .ok out := by
  unfold developByAtas at h
  split at h
  · cases h
  · rename_i cells hcells
    rw [(ofCells_same_coords (List.Forall₂.imp (fun _ _ h => ⟨h.1, h.2.1⟩) (developLoop_rel hcells)) hk hs).1] at h
    exact h ▸ hcells

theorem developByAtas_rel {t out : List Cell} {F : Factors} (h : developByAtas t F = .ok out)
    (hk : kindsConsistent t = true) (hs : t.Pairwise (fun a b => Cell.le a b)) :
    List.Forall₂ (DevRel t) t out :=
  developLoop_rel (developByAtas_loop h hk hs)

/-- one item of the dict comprehension over the previous developed values -/
def ItemOf (c : Cell) (tbl : List (String × List Rat)) (pidx : Nat) (p q : String × Val) : Prop :=
  q.1 = p.1 ∧ ∃ arr, assoc? tbl p.1 = some arr ∧
    ((truthy (c.values.get? p.1) = .ok true ∧ ∃ x, arr[pidx]? = some x ∧ mulVal p.2 x = .ok q.2) ∨
     (truthy (c.values.get? p.1) = .ok false ∧ q.2 = .none))

theorem developItems_ok {c : Cell} {tbl : List (String × List Rat)} {pidx : Nat} :
    ∀ {vals its : Dict Val}, developItems c tbl pidx vals = .ok its →
      List.Forall₂ (ItemOf c tbl pidx) (vals.filter fun p => (assoc? tbl p.1).isSome) its := by
  intro vals
  induction vals with
  | nil => intro its h; cases h; exact .nil
  | cons p vals ih =>
    intro its h
    obtain ⟨f, v⟩ := p
    simp only [developItems] at h
    split at h
    · rename_i hn
      rw [List.filter_cons_of_neg (by simp [hn])]
      exact ih h
    · rename_i arr harr
      rw [List.filter_cons_of_pos (by simp [harr])]
      split at h
      · cases h
      · rename_i tr htr
        cases tr with
        | true =>
          simp only [if_true] at h
          cases hx : arr[pidx]? with
          | none => rw [hx] at h; simp at h
          | some x =>
            rw [hx] at h
            simp only [] at h
            split at h
            · cases h
            · rename_i nv hnv
              split at h
              · cases h
              · rename_i r hr
                cases h
                exact .cons ⟨rfl, arr, harr, Or.inl ⟨htr, x, hx, hnv⟩⟩ (ih hr)
        | false =>
          simp only [Bool.false_eq_true, if_false] at h
          split at h
          · cases h
          · rename_i r hr
            cases h
            exact .cons ⟨rfl, arr, harr, Or.inr ⟨htr, rfl⟩⟩ (ih hr)

theorem developItems_keys_eq {c : Cell} {tbl : List (String × List Rat)} {pidx : Nat} {vals its : Dict Val}
    (h : developItems c tbl pidx vals = .ok its) :
    its.keys = vals.keys.filter fun f => (assoc? tbl f).isSome :=
  (forall₂_map_eq ((developItems_ok h).imp fun _ _ h => h.1)).trans
    (List.filter_map (f := Prod.fst) (p := fun f => (assoc? tbl f).isSome) (l := vals)).symm

theorem developItems_keys {c : Cell} {tbl : List (String × List Rat)} {pidx : Nat} {vals its : Dict Val}
    (h : developItems c tbl pidx vals = .ok its) : ∀ f ∈ its.keys, f ∈ vals.keys ∧ (assoc? tbl f).isSome = true :=
  fun f hf => List.mem_filter.mp (developItems_keys_eq h ▸ hf)

theorem developItems_sublist {c : Cell} {tbl : List (String × List Rat)} {pidx : Nat} {vals its : Dict Val}
    (h : developItems c tbl pidx vals = .ok its) : its.keys.Sublist vals.keys :=
  developItems_keys_eq h ▸ List.filter_sublist

theorem DevStep.keys {t : List Cell} {F : Factors} {vals : Dict Val} {c o : Cell} (h : DevStep t F vals c o)
    {P : String → Prop} (hv : ∀ f ∈ vals.keys, P f) (hc : ∀ f ∈ c.values.keys, P f) : ∀ f ∈ o.values.keys, P f := by
  cases h with
  | first => exact hc
  | bare =>
    intro f hf
    rcases (Assoc.mem_keys_union c.values [] f).mp hf with h1 | h1
    · exact hc f h1
    · cases h1
  | items _ _ _ hits =>
    intro f hf
    rcases (Assoc.mem_keys_union c.values _ f).mp hf with h1 | h1
    · exact hc f h1
    · exact hv f (developItems_keys hits f h1).1

/-- every field name occurring in the developed cells occurs in the running values or in a source
cell — nothing is invented -/
theorem developLoop_keys {t : List Cell} {F : Factors} (P : String → Prop) {cs : List Cell} {vals : Dict Val}
    {out : List Cell} (h : developLoop t F vals cs = .ok out) (hv : ∀ f ∈ vals.keys, P f)
    (hc : ∀ c ∈ cs, ∀ f ∈ c.values.keys, P f) : ∀ o ∈ out, ∀ f ∈ o.values.keys, P f := by
  have H := (developLoop_scan h).imp_inv (I := fun v => ∀ f ∈ v.keys, P f) (P := fun c => ∀ f ∈ c.values.keys, P f)
    (R' := fun _ _ o => ∀ f ∈ o.values.keys, P f) (fun _ _ _ hv hc hs => hs.keys hv hc)
    (fun _ _ _ hv hc hs => hs.keys hv hc) hv hc
  intro o ho
  obtain ⟨_, _, _, hr⟩ := forall₂_mem_right H.forall₂ o ho
  exact hr

/-! ### `moment_match` -/

theorem generateSamples_of_not_vector {v : Val} (h : ∀ isInt n d, v ≠ .arr isInt [n] d) (drawn : List Rat) :
    generateSamples v drawn = v := by
  unfold generateSamples
  split
  · exact absurd rfl (h _ _ _)
  · rfl

/-- one field of one cell: `cell.derive_fields(**{field: _generate_samples(cell[field], …)})` -/
def momStep (f : String) (drawn : List Rat) (c : Cell) : Cell :=
  { c with values := c.values.set f (generateSamples ((c.values.get? f).getD .none) drawn) }

/-- what `moment_match` makes of one cell, `dr f` being the vector drawn for it and field `f` -/
def momCell (dr : String → List Rat) : List String → Cell → Cell
  | [], c => c
  | f :: fs, c => momCell dr fs (momStep f (dr f) c)

theorem momStep_keys {f : String} {drawn : List Rat} {c : Cell} (h : f ∈ c.values.keys) :
    (momStep f drawn c).values.keys = c.values.keys :=
  Assoc.keys_set_of_mem h _

theorem momCell_same (dr : String → List Rat) : ∀ (fs : List String) (c : Cell),
    (momCell dr fs c).coord = c.coord ∧ (momCell dr fs c).kind = c.kind
  | [], _ => ⟨rfl, rfl⟩
  | _ :: fs, _ => momCell_same dr fs _

theorem momCell_keys {dr : String → List Rat} : ∀ {fs : List String} {c : Cell}, (∀ f ∈ fs, f ∈ c.values.keys) →
    (momCell dr fs c).values.keys = c.values.keys
  | [], _, _ => rfl
  | f :: fs, c, h => by
    have hk := momStep_keys (drawn := dr f) (h f (by simp))
    rw [momCell, momCell_keys fun g hg => hk ▸ h g (by simp [hg]), hk]

theorem momCell_get_of_not_mem {dr : String → List Rat} {g : String} : ∀ {fs : List String} (c : Cell), g ∉ fs →
    (momCell dr fs c).values.get? g = c.values.get? g
  | [], _, _ => rfl
  | f :: fs, c, h => by
    rw [List.mem_cons, not_or] at h
    rw [momCell, momCell_get_of_not_mem _ h.2, momStep, Dict.get?_set, if_neg (by simpa using Ne.symm h.1)]

theorem momCell_get_of_mem {dr : String → List Rat} {g : String} {v : Val} {fs : List String} (hnd : fs.Nodup)
    (hg : g ∈ fs) : ∀ {c : Cell}, c.values.get? g = some v →
      (momCell dr fs c).values.get? g = some (generateSamples v (dr g)) := by
  induction fs with
  | nil => cases hg
  | cons f fs ih =>
    intro c hv
    rw [List.nodup_cons] at hnd
    rw [momCell]
    by_cases hfg : f = g
    · subst hfg
      rw [momCell_get_of_not_mem _ hnd.1, momStep, Dict.get?_set, beq_self_eq_true, if_pos rfl, hv]; rfl
    · refine ih hnd.2 ((List.mem_cons.mp hg).resolve_left (Ne.symm hfg)) ?_
      rw [momStep, Dict.get?_set, if_neg (by simpa using hfg)]
      exact hv

theorem momentField_eq {f : String} {draws : Nat → List Rat} :
    ∀ {cs : List Cell} {i : Nat} {out : List Cell}, momentField f draws i cs = .ok out →
      (∀ c ∈ cs, f ∈ c.values.keys) ∧ out = cs.mapIdx fun k c => momStep f (draws (i + k)) c := by
  intro cs
  induction cs with
  | nil => intro i out h; simp [momentField] at h; subst h; simp
  | cons c cs ih =>
    intro i out h
    simp only [momentField] at h
    split at h
    · cases h
    · rename_i v hv
      split at h
      · cases h
      · rename_i r hr
        cases h
        obtain ⟨hk, rfl⟩ := ih hr
        refine ⟨List.forall_mem_cons.mpr ⟨Assoc.mem_keys_of_get? hv, hk⟩, ?_⟩
        rw [List.mapIdx_cons]
        simp only [momStep, hv, Option.getD_some, Nat.add_zero, Nat.add_assoc, Nat.add_comm 1]

theorem momentMatch_loop {t out : List Cell} {fields : List String} {distOk : Bool}
    {draws : Nat → String → List Rat} (h : momentMatch t fields distOk draws = .ok out) :
    momentLoop draws fields t = .ok out := by
  unfold momentMatch at h
  split at h
  · cases h
  · split at h
    · cases h
    · exact h

/-- on a canonical triangle the constructor between two rounds changes nothing, so
the cell at position `k` goes through the rounds on its own, with the vectors drawn for position `k` -/
theorem momentLoop_eq {draws : Nat → String → List Rat} :
    ∀ {fs : List String} {t out : List Cell}, momentLoop draws fs t = .ok out →
      kindsConsistent t = true → t.Pairwise (fun a b => Cell.le a b) →
      (∀ c ∈ t, ∀ f ∈ fs, f ∈ c.values.keys) ∧ out = t.mapIdx fun k c => momCell (draws k) fs c := by
  intro fs
  induction fs with
  | nil => intro t out h _ _; cases h; exact ⟨fun _ _ _ h => (nomatch h), List.ext_getElem (by simp) (by simp [momCell])⟩
  | cons f fs ih =>
    intro t out h hk hs
    simp only [momentLoop] at h
    split at h
    · cases h
    · rename_i cells hcells
      obtain ⟨hkeys, rfl⟩ := momentField_eq hcells
      obtain ⟨hof, hk', hs'⟩ := ofCells_same_coords
        (forall₂_mapIdx (g := fun k c => momStep f (draws (0 + k) f) c) fun _ _ _ => ⟨rfl, rfl⟩) hk hs
      rw [hof] at h
      obtain ⟨hrest, rfl⟩ := ih h hk' hs'
      refine ⟨fun c hc g hg => ?_, ?_⟩
      · rcases List.mem_cons.mp hg with rfl | hg
        · exact hkeys c hc
        · obtain ⟨k, hk, rfl⟩ := List.getElem_of_mem hc
          have := hrest _ (List.getElem_mem (l := t.mapIdx _) (by simpa using hk)) g hg
          rwa [List.getElem_mapIdx, momStep_keys (hkeys _ (List.getElem_mem hk))] at this
      · rw [List.mapIdx_mapIdx]
        simp only [Nat.zero_add]
        rfl

theorem momentLoop_rel {draws : Nat → String → List Rat} {fs : List String} {t out : List Cell}
    (h : momentLoop draws fs t = .ok out) (hk : kindsConsistent t = true)
    (hs : t.Pairwise (fun a b => Cell.le a b)) :
    List.Forall₂ (fun c o => o.coord = c.coord ∧ o.kind = c.kind) t out := by
  obtain ⟨_, rfl⟩ := momentLoop_eq h hk hs
  exact forall₂_mapIdx fun _ c _ => momCell_same _ _ c

/-! ### the maximum-entropy route of a replicate: coordinates, class and field names stay -/

theorem meEnsemble_length {xs : List Val} {qs : List Rat} {vs : List Val}
    (h : meEnsemble xs qs = .ok vs) : vs.length = xs.length := by
  unfold meEnsemble at h
  split at h
  · cases h; rfl
  · cases h; rfl
  · split at h
    · cases h
    · rename_i nums hnums
      split at h
      · cases h; rfl
      · cases h
        simp [reimposeRank_length, mapMExcept_length hnums]

def SameCell (c o : Cell) : Prop := o.coord = c.coord ∧ o.kind = c.kind ∧ o.values.keys = c.values.keys

theorem setField_rel {f : String} : ∀ {s s' : List Cell} {vs : List Val},
    List.Forall₂ SameCell s s' → vs.length = s'.length → (∀ c ∈ s, ∃ v, c.values.get? f = some v) →
    List.Forall₂ SameCell s (setField s' f vs) := by
  intro s s' vs h
  induction h generalizing vs with
  | nil => intro _ _; simp [setField]
  | cons hh _ ih =>
    rename_i c o s1 s1' _
    intro hl hget
    cases vs with
    | nil => simp at hl
    | cons v vs =>
      simp only [setField, List.zip_cons_cons, List.map_cons]
      refine .cons ?_ (ih (by simpa using hl) (fun c' hc' => hget c' (by simp [hc'])))
      obtain ⟨x, hx⟩ := hget c (by simp)
      exact ⟨hh.1, hh.2.1, (Assoc.keys_set_of_mem (hh.2.2.symm ▸ Dict.mem_keys_of_get? hx : f ∈ o.values.keys) v).trans hh.2.2⟩

theorem meCells_rel {s : List Cell} {qs : String → List Rat} :
    ∀ {fs : List String} {cells : List Cell}, meCells s fs qs = .ok cells →
      List.Forall₂ SameCell s cells := by
  intro fs
  induction fs with
  | nil => intro cells h; simp [meCells] at h; subst h; exact List.forall₂_same.mpr fun _ _ => ⟨rfl, rfl, rfl⟩
  | cons f fs ih =>
    intro cells h
    simp only [meCells] at h
    split at h
    · cases h
    · rename_i xs hxs
      split at h
      · cases h
      · rename_i vs hvs
        split at h
        · cases h
        · rename_i s' hs'
          cases h
          have hrel := ih hs'
          have hl : vs.length = s'.length := by
            rw [meEnsemble_length hvs, mapMExcept_length hxs]
            exact hrel.length_eq
          refine setField_rel hrel hl ?_
          intro c hc
          obtain ⟨b, _, hb⟩ := forall₂_mem_left (mapMExcept_forall₂ hxs) c hc
          cases hg : c.values.get? f with
          | none => simp [hg] at hb
          | some v => exact ⟨v, rfl⟩

theorem mem_periodsOf {s : List Cell} {c : Cell} (hc : c ∈ s) : (c.ps, c.pe) ∈ periodsOf s := by
  unfold periodsOf
  rw [(List.mergeSort_perm _ _).mem_iff]
  exact (mem_distinctKeys (f := id)).mpr ⟨_, List.mem_map.mpr ⟨c, hc, rfl⟩, rfl⟩

/-! ### bootstrap: tag, one replicate -/

def tagCell (i : Nat) (c : Cell) : Cell :=
  { c with md := c.md.edit (.detail "bootstrap" (.num (i : Rat))) }

theorem tagBootstrap_perm {t out : List Cell} {i : Nat} (h : tagBootstrap t i = .ok out) :
    out.Perm (t.map (tagCell i)) :=
  Triangle.deriveMetadata_perm h

/-- what one replicate may do to a cell of slice `s` BEFORE the bootstrap tag -/
def PreRel (s : List Cell) (c o : Cell) : Prop :=
  o.coord = c.coord ∧ o.kind = c.kind ∧ (∀ f ∈ c.values.keys, f ∈ o.values.keys) ∧
  (∀ f ∈ o.values.keys, ∃ c' ∈ s, f ∈ c'.values.keys)

/-- `PreRel` plus: in an age-to-age slice the earliest development cell of a period is the very same cell -/
def PreRelFirst (s : List Cell) (c o : Cell) : Prop :=
  PreRel s c o ∧ (useAtas s = true → initialLag s (c.ps, c.pe) = some c.devLag → o = c)

theorem replicate_preFirst {s rep : List Cell} {fields : List String} {p : RepParam} {i : Nat}
    (h : replicate s fields p i = .ok rep)
    (hk : kindsConsistent s = true) (hs : s.Pairwise (fun a b => Cell.le a b)) :
    ∃ l, rep.Perm (l.map (tagCell i)) ∧ List.Forall₂ (PreRelFirst s) s l := by
  unfold replicate at h
  split at h
  · split at h
    · cases h
    · rename_i d hd
      have hloop := developByAtas_loop hd hk hs
      have hkeys := developLoop_keys (fun f => ∃ c' ∈ s, f ∈ c'.values.keys) hloop (fun _ h => nomatch h)
        (fun c hc f hf => ⟨c, hc, hf⟩)
      refine ⟨d, tagBootstrap_perm h, List.Forall₂.imp ?_ (forall₂_and_mem (developLoop_rel hloop) hkeys)⟩
      rintro c o ⟨⟨h1, h2, h3, its, hits⟩, h4⟩
      exact ⟨⟨h1, h2, fun f hf => hits ▸ (Assoc.mem_keys_union c.values its f).mpr (Or.inl hf), h4⟩, fun _ => h3⟩
  · rename_i hu
    split at h
    · cases h
    · rename_i cells hcells
      have hrel := meCells_rel hcells
      split at h
      · cases h
      · rename_i t' ht'
        rw [(ofCells_same_coords (List.Forall₂.imp (fun _ _ h => ⟨h.1, h.2.1⟩) hrel) hk hs).1] at ht'
        cases ht'
        refine ⟨cells, tagBootstrap_perm h, forall₂_imp_mem hrel fun c hc o hh => ?_⟩
        exact ⟨⟨hh.1, hh.2.1, fun f hf => hh.2.2 ▸ hf, fun f hf => ⟨c, hc, hh.2.2 ▸ hf⟩⟩, fun hu' => absurd hu' hu⟩

/-! ### bootstrap: sums and slices -/

theorem sumFrom_perm : ∀ {bs : List (List Cell)} {acc r : List Cell}, sumFrom acc bs = .ok r →
    r.Perm (acc ++ bs.flatten) := by
  intro bs
  induction bs with
  | nil => intro acc r h; simp [sumFrom] at h; subst h; simp
  | cons b bs ih =>
    intro acc r h
    simp only [sumFrom] at h
    split at h
    · cases h
    · rename_i a ha
      have h1 := ih h
      have h2 : a.Perm (acc ++ b) := Triangle.ofCells_perm ha
      rw [List.flatten_cons, ← List.append_assoc]
      exact h1.trans (h2.append_right _)

theorem sumTriangles_perm {l : List (List Cell)} {r : List Cell} (h : sumTriangles l = .ok r) :
    r.Perm l.flatten := by
  cases l with
  | nil => simp [sumTriangles] at h; subst h; simp
  | cons a rest => simpa [sumTriangles] using sumFrom_perm h

theorem sumTriangles_singleton (a : List Cell) : sumTriangles [a] = .ok a := rfl

theorem sumTriangles_pair (a b : List Cell) : sumTriangles [a, b] = Triangle.add a b := by
  simp only [sumTriangles, sumFrom]
  cases Triangle.add a b <;> rfl

theorem flatten_tagged_pairing {i : Nat} {Rs : List Cell → Cell → Cell → Prop} :
    ∀ {ss rs : List (List Cell)},
    List.Forall₂ (fun s r => ∃ l, r.Perm (l.map (tagCell i)) ∧ List.Forall₂ (Rs s) s l) ss rs →
    ∃ l, rs.flatten.Perm (l.map (tagCell i)) ∧ List.Forall₂ (fun c o => ∃ s ∈ ss, c ∈ s ∧ Rs s c o) ss.flatten l
  | _, _, .nil => ⟨[], by simp, .nil⟩
  | _, _, .cons (a := s) ⟨l1, hp1, hf1⟩ t => by
    obtain ⟨l2, hp2, hf2⟩ := flatten_tagged_pairing t
    refine ⟨l1 ++ l2, ?_, ?_⟩
    · rw [List.flatten_cons, List.map_append]
      exact hp1.append hp2
    · rw [List.flatten_cons]
      exact List.rel_append (forall₂_imp_mem hf1 fun c hc o h => ⟨s, List.mem_cons_self, hc, h⟩)
        (hf2.imp fun c o ⟨s', hs', h⟩ => ⟨s', List.mem_cons_of_mem _ hs', h⟩)

theorem slice_props {t : List Cell} (hk : kindsConsistent t = true) :
    ∀ s ∈ (Triangle.slices t).map (·.2),
      kindsConsistent s = true ∧ s.Pairwise (fun a b => Cell.le a b) ∧ ∀ c ∈ s, c ∈ t := by
  intro s hs
  obtain ⟨p, hp, rfl⟩ := List.mem_map.mp hs
  exact ⟨slice_kindsConsistent hk hp, Triangle.slice_sorted hp, fun _ => mem_of_mem_slices hp⟩

/-! ### `bootstrap`, with the replicate function a parameter -/

/-- the common shape of `bootstrap` and of the variant that takes numpy's index draws: `rep s k i` computes
replicate `i` of slice `s`, the `k`-th of the triangle -/
def bootstrapWith (rep : List Cell → Nat → Nat → Except Err (List Cell)) (t : List Cell) (n : Int) :
    Except Err (List (List Cell)) :=
  if n ≤ 0 then .error .valueError else
  let slices := (Triangle.slices t).map (·.2)
  match mapMExcept (fun (s, k) => mapMExcept (fun i => rep s k i) (List.range n.toNat)) slices.zipIdx with
  | .error e => .error e
  | .ok boots =>
    if boots.isEmpty then .ok []
    else mapMExcept (fun i => sumTriangles (boots.map (·.getD i []))) (List.range n.toNat)

theorem bootstrap_eq_with (t : List Cell) (n : Int) (field : Option (List String)) (P : Nat → Nat → RepParam) :
    bootstrap t n field P =
      bootstrapWith (fun s k i => replicate s (field.getD (fieldsOf s)) (P k i) i) t n := rfl

theorem bootstrapWith_ok {rep : List Cell → Nat → Nat → Except Err (List Cell)} {t : List Cell} {n : Int}
    {reps : List (List Cell)} (h : bootstrapWith rep t n = .ok reps) :
    (Triangle.slices t ≠ [] → reps.length = n.toNat) ∧
    ∀ i (hi : i < reps.length), ∃ rs : List (List Cell),
      List.Forall₂ (fun (sk : List Cell × Nat) r => rep sk.1 sk.2 i = .ok r)
        ((Triangle.slices t).map (·.2)).zipIdx rs ∧
      sumTriangles rs = .ok reps[i] := by
  unfold bootstrapWith at h
  split at h
  · cases h
  · dsimp only at h
    split at h
    · cases h
    · rename_i boots hboots
      have hb := mapMExcept_forall₂ hboots
      split at h
      · rename_i hemp
        obtain rfl := Except.ok.inj h
        refine ⟨fun hne => absurd ?_ hne, fun i hi => absurd hi (Nat.not_lt_zero i)⟩
        rw [List.isEmpty_iff.mp hemp] at hb
        cases hz : ((Triangle.slices t).map (·.2)).zipIdx with
        | nil => simpa using congrArg List.length hz
        | cons _ _ => rw [hz] at hb; cases hb
      · have hlen : reps.length = n.toNat := by simpa using mapMExcept_length h
        refine ⟨fun _ => hlen, fun i hi => ⟨boots.map (·.getD i []), ?_, ?_⟩⟩
        · refine List.forall₂_map_right_iff.mpr (List.Forall₂.imp ?_ hb)
          rintro ⟨s, k⟩ b hsk
          exact mapMExcept_range_getD [] hsk (hlen ▸ hi)
        · have := mapMExcept_getElem h i (by simpa [hlen] using hi)
          rwa [List.getElem_range] at this

theorem bootstrapWith_congr {rep rep' : List Cell → Nat → Nat → Except Err (List Cell)} {t : List Cell} {n : Int}
    {reps : List (List Cell)} (h : bootstrapWith rep t n = .ok reps)
    (hrep : ∀ s k, (s, k) ∈ ((Triangle.slices t).map (·.2)).zipIdx → ∀ i r, rep s k i = .ok r → rep' s k i = .ok r) :
    bootstrapWith rep' t n = .ok reps := by
  unfold bootstrapWith at h ⊢
  split at h
  · cases h
  · rename_i hn
    rw [if_neg hn]
    dsimp only at h ⊢
    split at h
    · cases h
    · rename_i boots hboots
      rw [mapMExcept_congr_ok hboots]
      · exact h
      · rintro ⟨s, k⟩ hm b hb
        exact mapMExcept_congr_ok hb fun i _ r => hrep s k hm i r

theorem bootstrapWith_structure {rep : List Cell → Nat → Nat → Except Err (List Cell)} {t : List Cell} {n : Int}
    {reps : List (List Cell)} {Rs : List Cell → Cell → Cell → Prop}
    (h : bootstrapWith rep t n = .ok reps)
    (hrep : ∀ s ∈ (Triangle.slices t).map (·.2), ∀ k i r, rep s k i = .ok r →
      ∃ l, r.Perm (l.map (tagCell i)) ∧ List.Forall₂ (Rs s) s l) :
    ∀ i (hi : i < reps.length), ∃ t' l, t'.Perm t ∧ reps[i].Perm (l.map (tagCell i)) ∧
      List.Forall₂ (fun c o => ∃ s ∈ (Triangle.slices t).map (·.2), c ∈ s ∧ Rs s c o) t' l := by
  intro i hi
  obtain ⟨rs, hrs, hsum⟩ := (bootstrapWith_ok h).2 i hi
  have hrs' : List.Forall₂ (fun s r => ∃ l, r.Perm (l.map (tagCell i)) ∧ List.Forall₂ (Rs s) s l)
      ((Triangle.slices t).map (·.2)) rs := by
    rw [← List.zipIdx_map_fst 0 ((Triangle.slices t).map (·.2))]
    refine List.forall₂_map_left_iff.mpr (forall₂_imp_mem hrs fun sk hsk r hr => hrep sk.1 ?_ sk.2 i r hr)
    rw [← List.zipIdx_map_fst 0 ((Triangle.slices t).map (·.2))]
    exact List.mem_map_of_mem hsk
  obtain ⟨l, hp, hf⟩ := flatten_tagged_pairing hrs'
  exact ⟨_, l, (slices_partition t).flatMap_perm, (sumTriangles_perm hsum).trans hp, hf⟩

theorem PreRel.of_slice {t s : List Cell} {c o : Cell} (hk : kindsConsistent t = true)
    (hs : s ∈ (Triangle.slices t).map (·.2)) (h : PreRel s c o) : PreRel t c o :=
  ⟨h.1, h.2.1, h.2.2.1, fun f hf => (h.2.2.2 f hf).imp fun c' hc' => ⟨(slice_props hk s hs).2.2 c' hc'.1, hc'.2⟩⟩

theorem bootstrap_cells {t : List Cell} {n : Int} {field : Option (List String)} {P : Nat → Nat → RepParam}
    {reps : List (List Cell)} (h : bootstrap t n field P = .ok reps) (hk : kindsConsistent t = true) :
    ∀ i (hi : i < reps.length), ∃ t' l, t'.Perm t ∧ reps[i].Perm (l.map (tagCell i)) ∧
      List.Forall₂ (fun c o => ∃ s ∈ (Triangle.slices t).map (·.2), c ∈ s ∧ PreRelFirst s c o) t' l :=
  bootstrapWith_structure (bootstrap_eq_with t n field P ▸ h)
    fun s hs _ _ _ hr => replicate_preFirst hr (slice_props hk s hs).1 (slice_props hk s hs).2.1

end Bermuda.Resample
