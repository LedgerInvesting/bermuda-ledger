/-
C01 closure for `Model/AllOps.lean` (`Op2`): the unit-changing utilities `convert_currency`, `disaggregate_experience`,
`accident_quarter_to_policy_year`. New cells are built by the validating constructor.
-/
import Bermuda.Lemmas.AllOps
import Bermuda.Lemmas.AllOpsBasis
namespace Bermuda.AllOps
open Bermuda Bermuda.Properties.C01

theorem convertCell_dates {c d : Cell} {rate : Units.Num} {target : String}
    (h : Units.convertCell c rate target = .ok d) : d.datesOk = true := by
  unfold Units.convertCell at h
  obtain ⟨vs, _, h⟩ := bind_ok h
  exact mk?_ok_dates h

theorem convertSlice_allOk {target : String} {rates : List (String × Units.Num)} {sl : Metadata × List Cell}
    {out : List Cell} (hs : AllOk sl.2) (h : Units.convertSlice target rates sl = .ok out) : AllOk out := by
  unfold Units.convertSlice at h
  split at h
  · cases h
  · split at h
    · cases h; exact hs
    · split at h
      · cases h
      · exact mapM_forall h fun _ _ _ => convertCell_dates

theorem convertCurrency_canonical {t out : List Cell} {target : String} {rates : List (String × Units.Num)}
    (ht : AllOk t) (h : Units.convertCurrency t target rates = .ok out) : Canonical out := by
  unfold Units.convertCurrency at h
  obtain ⟨parts, hp, h⟩ := bind_ok h
  exact ofCells_canonical h (AllOk.flatten (mapM_forall hp fun sl hsl _ =>
    convertSlice_allOk (slices_allOk ht hsl)))

theorem subCell_dates {c d : Cell} {fields : List String} {weighted : List (String × List Val)}
    {subs : List (Date × Date)} {k : Nat} (h : Units.subCell c fields weighted subs k = .ok d) :
    d.datesOk = true := by
  unfold Units.subCell at h
  obtain ⟨vals, _, h⟩ := bind_ok h
  exact mk?_ok_dates h

theorem disaggCell_allOk {c : Cell} {res n : Nat} {weights : List Rat} {fields : List String}
    {out : List Cell} (h : Units.disaggCell c res n weights fields = .ok out) : AllOk out := by
  obtain ⟨weighted, _, h⟩ := bind_ok (of_guard h)
  exact mapM_forall h fun _ _ _ => subCell_dates

theorem disaggSlice_allOk {sl : List Cell} {res : Nat} {weights : List Rat} {fields : List String}
    {out : List Cell} (h : Units.disaggSlice sl res weights fields = .ok out) : AllOk out := by
  unfold Units.disaggSlice at h
  obtain ⟨sres, _, h⟩ := bind_ok h
  simp only [] at h
  obtain ⟨parts, hp, h⟩ := bind_ok h
  cases h
  exact AllOk.flatten (mapM_forall hp fun _ _ _ => disaggCell_allOk)

theorem disaggCore_canonical {t out : List Cell} {res : Nat} {ws : List Rat} {fields : List String}
    (h : Units.disaggCore t res ws fields = .ok out) : Canonical out := by
  unfold Units.disaggCore at h
  obtain ⟨parts, hp, h⟩ := bind_ok h
  exact ofCells_canonical h (AllOk.flatten (mapM_forall hp fun _ _ _ => disaggSlice_allOk))

theorem disaggregateExperience_ok {t out : List Cell} {res : Nat} {weights : Option (List Units.Num)}
    {fields : Option (List String)} (h : Units.disaggregateExperience t res weights fields = .ok out) :
    out = t ∨ (Units.isIncremental t = false ∧ ∃ ws, ws ≠ [] ∧
      Units.disaggCore t res ws (fields.getD Generated.Units.defaultInterpolationFields) = .ok out) := by
  unfold Units.disaggregateExperience at h
  replace h := of_guard h
  split at h
  · cases h
  · -- the guards are peeled by unification: `split` would walk through the whole body each time
    refine (of_ite_ok (of_guard h)).imp Eq.symm fun h => ?_
    iterate 5 replace h := of_guard h
    have hsum := not_of_guard h
    replace h := of_guard h
    exact ⟨by simpa using not_of_guard h, _, fun he => hsum (by rw [he]; rfl), of_guard h⟩

theorem disaggregateExperience_canonical {t out : List Cell} {res : Nat} {weights : Option (List Units.Num)}
    {fields : Option (List String)} (ht : Canonical t)
    (h : Units.disaggregateExperience t res weights fields = .ok out) : Canonical out := by
  rcases disaggregateExperience_ok h with rfl | ⟨_, _, _, h⟩
  · exact ht
  · exact disaggCore_canonical h

theorem aqToPolicyYear_canonical {t out : List Cell} {policyLen : Nat} {origin : Date} {continuous : Bool}
    (h : Units.aqToPolicyYear t policyLen origin continuous = .ok out) : Canonical out := by
  unfold Units.aqToPolicyYear at h
  refine foldlM_inv (P := Canonical) h canonical_nil (fun acc sl acc' hacc _ hf => ?_)
  obtain ⟨r, hr, hf⟩ := bind_ok hf
  exact add_canonical (allOk_of hacc) (allOk_of (bind_closed (fun _ _ => deriveMetadata_canonical) hr)) hf

end Bermuda.AllOps
