/-
`List.Forall₂` as the models' pointwise pairing of an input list with an output list: what it says about
members, maps and positions, and `List.mapM` in `Except` read as a pairing. The one shared module that imports Mathlib
(`Mathlib.Data.List.Forall2`). `Lemmas/Units.lean` has its own `Units.Forall2`, which the statements of C18 are
written in.
-/
import Mathlib.Data.List.Forall2
import Bermuda.Lemmas.ExceptFacts
import Bermuda.Lemmas.Assoc
import Bermuda.Lemmas.ListFacts
namespace Bermuda
universe u v w

section
variable {α : Type u} {β : Type v} {γ : Type w} {R S : α → β → Prop} {l : List α} {l' : List β}

theorem forall₂_map_eq {f : α → γ} {g : β → γ} (h : List.Forall₂ (fun a b => g b = f a) l l') : l'.map g = l.map f := by
  induction h with
  | nil => rfl
  | cons h _ ih => rw [List.map_cons, List.map_cons, h, ih]

theorem forall₂_mem_left (h : List.Forall₂ R l l') : ∀ a ∈ l, ∃ b ∈ l', R a b := by
  intro a ha
  obtain ⟨j, hj, rfl⟩ := List.getElem_of_mem ha
  exact ⟨l'[j]'(h.length_eq ▸ hj), List.getElem_mem _, (List.forall₂_iff_get.mp h).2 j hj _⟩

theorem forall₂_mem_right (h : List.Forall₂ R l l') : ∀ b ∈ l', ∃ a ∈ l, R a b :=
  forall₂_mem_left h.flip

theorem forall₂_and_mem {Q : β → Prop} (h : List.Forall₂ R l l') (hq : ∀ o ∈ l', Q o) :
    List.Forall₂ (fun a b => R a b ∧ Q b) l l' :=
  (((List.forall₂_and_left _ _).mpr ⟨hq, h.flip⟩).flip).imp fun _ _ h => ⟨h.2, h.1⟩

theorem forall₂_imp_mem (h : List.Forall₂ R l l') (hi : ∀ a ∈ l, ∀ b, R a b → S a b) : List.Forall₂ S l l' :=
  ((List.forall₂_and_left _ _).mpr ⟨fun _ ha => ha, h⟩).imp fun a b hab => hi a hab.1 b hab.2

theorem forall₂_iff_getElem :
    List.Forall₂ R l l' ↔
      l'.length = l.length ∧ ∀ i (h : i < l.length) (h' : i < l'.length), R l[i] l'[i] :=
  List.forall₂_iff_get.trans ⟨fun ⟨hl, h⟩ => ⟨hl.symm, fun i hi hi' => h i hi hi'⟩,
    fun ⟨hl, h⟩ => ⟨hl.symm, fun i hi hi' => h i hi hi'⟩⟩

theorem forall₂_mapIdx {g : Nat → α → β} :
    ∀ {l : List α}, (∀ k a, a ∈ l → R a (g k a)) → List.Forall₂ R l (l.mapIdx g)
  | [], _ => by simp
  | a :: l, h => by
    rw [List.mapIdx_cons]
    exact .cons (h 0 a (by simp)) (forall₂_mapIdx fun k b hb => h (k + 1) b (by simp [hb]))

end

theorem get?_forall₂ {α β : Type} {R : String × α → String × β → Prop} (hR : ∀ p q, R p q → q.1 = p.1)
    {l : Dict α} {l' : Dict β} (h : List.Forall₂ R l l') {k : String} {v : α} (hv : l.get? k = some v) :
    ∃ w, l'.get? k = some w ∧ R (k, v) (k, w) := by
  induction h with
  | nil => cases hv
  | @cons p q _ _ h _ ih =>
    obtain ⟨a, x⟩ := p
    obtain ⟨b, y⟩ := q
    obtain rfl : b = a := hR _ _ h
    rw [Dict.get?_cons] at hv ⊢
    by_cases hk : (b == k) = true
    · rw [if_pos hk] at hv ⊢
      obtain rfl := beq_iff_eq.mp hk
      cases hv
      exact ⟨y, rfl, h⟩
    · rw [if_neg hk] at hv ⊢
      exact ih hv

theorem mapM_ok_forall₂ {ε : Type u} {α : Type w} {β : Type v} {f : α → Except ε β} {l : List α} {r : List β} :
    l.mapM f = .ok r ↔ List.Forall₂ (fun a b => f a = .ok b) l r := by
  rw [mapM_ok_iff, List.forall₂_iff_zip]

theorem Scan.forall₂ {σ α β} {R : σ → α → β → Prop} {nx : β → σ} {s : σ} {as : List α} {bs : List β}
    (H : Scan R nx s as bs) : List.Forall₂ (fun a b => ∃ s, R s a b) as bs := by
  induction H with
  | nil => exact .nil
  | cons hr _ ih => exact .cons ⟨_, hr⟩ ih

/-- the `default` of the error branch only makes the choice of the result total: it is never taken on `l` -/
theorem forall₂_ok_eq_map {α β} [Inhabited β] {F : α → Except Err β} : ∀ {l : List α} {l' : List β},
    List.Forall₂ (fun a b => F a = .ok b) l l' →
      l' = l.map (fun a => match F a with | .ok b => b | .error _ => default) ∧
      ∀ a ∈ l, F a = .ok (match F a with | .ok b => b | .error _ => default)
  | _, _, .nil => ⟨rfl, fun _ h => nomatch h⟩
  | _, _, .cons hh t => ⟨by rw [List.map_cons, ← (forall₂_ok_eq_map t).1, hh], fun a ha => by
      rcases List.mem_cons.mp ha with rfl | ha
      · rw [hh]
      · exact (forall₂_ok_eq_map t).2 a ha⟩

end Bermuda
