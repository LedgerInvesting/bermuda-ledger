/-
C08: the closed-form Bool predicates of `Spec/C08.lean` (`cover`, `cellSums`, `keysOk`, `conserves`) on the
model's output, for a grid in closed form (`GridForm`) with a positive quantity. Part I: facts about one slice
(`SliceFacts`); Part II: the whole triangle.
-/
import Bermuda.Lemmas.AggregateAnchor
import Bermuda.Lemmas.Forall2
import Bermuda.Properties.C09
namespace Bermuda
open Generated.Summarize Bermuda.Properties.C09

/-- source cell `c` lies INSIDE the period of output cell `o` and has its evaluation date -/
def insideB (o c : Cell) : Bool := !(c.ps < o.ps) && !(o.pe < c.pe) && c.ev == o.ev

theorem insideB_iff {o c : Cell} : insideB o c = true ↔ ¬ c.ps < o.ps ∧ ¬ o.pe < c.pe ∧ c.ev = o.ev := by
  simp [insideB, and_assoc]

theorem inWindow_eq (o c : Cell) : Spec.C08.inWindow o c = ((c.md == o.md) && insideB o c) := by
  rw [Bool.eq_iff_iff]
  simp only [Spec.C08.inWindow, insideB, Bool.and_eq_true, beq_iff_eq, decide_eq_true_eq,
    Bool.not_eq_true', decide_eq_false_iff_not, DateOrder.le_iff_not_lt]
  constructor
  · rintro ⟨⟨⟨h1, h2⟩, h3⟩, h4⟩; exact ⟨h1.symm, ⟨h3, h4⟩, h2.symm⟩
  · rintro ⟨h1, ⟨h3, h4⟩, h2⟩; exact ⟨⟨⟨h1.symm, h2.symm⟩, h3⟩, h4⟩

/-- what a successful `_aggregate_period` did to one slice `S`, in terms of "inside the window" only -/
structure SliceFacts (S r : List Cell) (prem : Bool) : Prop where
  nodup : (r.map key3).Nodup
  outc : ∀ o ∈ r, o.kind = .cumulative ∧ o.prev = none ∧ ∃ c ∈ S, insideB o c = true ∧ o.md = c.md
  covered : ∀ c ∈ S, ∃ o ∈ r, insideB o c = true ∧ ∀ o' ∈ r, insideB o' c = true → key3 o' = key3 o
  sums : ∀ o ∈ r, ∀ (f : String) (i : Nat), ruleOf [] (lowerKey f) = some ⟨.sum, [f]⟩ →
    (prem = true ∨ f ∉ nonLossMetrics) →
    (∀ c ∈ S, insideB o c = true → (c.getV f).inRange i = true) →
    (o.getV f).inRange i = true ∧
      (o.getV f).at i = ((S.filter (insideB o)).map fun c => (c.getV f).at i).sum
  keys : ∀ o ∈ r, o.values.keys.Nodup ∧
    ∀ k, k ∈ o.values.keys ↔ ∃ c ∈ S, insideB o c = true ∧ k ∈ c.values.keys

/-- in the pile of `o` ⇔ inside `o`: a cell lies inside the first window of its period start, and the windows that
receive cells are disjoint -/
theorem GridForm.pileKey_eq_iff {q : Int} {u : ResUnit} {origin : Date} {G : Int → Date} {D : Int → Prop}
    (gr : GridForm q u origin G D) (hq : 1 ≤ q) {j : Int} (hj : D j) {S : List Cell} {K : Cell → Nat}
    (hcells : ∀ c ∈ S, (c.ps.valid = true ∧ ¬ (c.pe < c.ps)) ∧ RoomAbove G D c.ps ∧ G j < c.ps)
    (hK : ∀ c ∈ S, FirstWindow q u (G j) (K c) c.ps ∧ ¬ (windowAt q u (G j) (K c)).2 < c.pe)
    {c c0 o : Cell} (hc : c ∈ S) (hc0 : c0 ∈ S) (ho : pileKey q u (G j) (K c0) c0 = key3 o) :
    (pileKey q u (G j) (K c) c == key3 o) = insideB o c := by
  obtain ⟨⟨hv, hle⟩, hup, hlt⟩ := hcells c hc
  obtain ⟨hfirst, hnpe⟩ := hK c hc
  obtain ⟨hw0, hD0, hD01, _⟩ := gr.firstWindow (hcells c0 hc0).2.1 hj (hcells c0 hc0).2.2 (hK c0 hc0).1
  obtain ⟨hw, hDk, hDk1, _, hnext⟩ := gr.firstWindow hup hj hlt hfirst
  have hcps := hfirst.start_le hv hlt
  rw [pileKey, hw0] at ho
  obtain ⟨hops, hope, hoev⟩ : (G (j + K c0)).succ = o.ps ∧ G (j + K c0 + 1) = o.pe ∧ c0.ev = o.ev := by
    simpa [key3] using ho
  rw [hw] at hcps hnpe
  rw [Bool.eq_iff_iff, beq_iff_eq, insideB_iff, pileKey, hw, ← hops, ← hope]
  constructor
  · intro e
    obtain ⟨e1, e2, e3⟩ : (G (j + K c)).succ = o.ps ∧ G (j + K c + 1) = o.pe ∧ c.ev = o.ev := by
      simpa [key3] using e
    exact ⟨hops ▸ e1 ▸ hcps, hope ▸ e2 ▸ hnpe, e3⟩
  · rintro ⟨h1, h2, h3⟩
    have hkk : K c = K c0 := by
      rcases Nat.lt_trichotomy (K c) (K c0) with hlt' | heq | hgt
      · exact absurd (DateOrder.lt_of_lt_of_not_lt (gr.lt_succ_of_lt hq hDk1 hD0 (by omega)) h1) hnext
      · exact heq
      · have h4 := DateOrder.lt_of_lt_of_not_lt (gr.lt_succ_of_lt hq hD01 hDk (by omega)) hcps
        exact absurd (DateOrder.lt_of_lt_of_not_lt h4 hle) h2
    rw [hkk, h3, ← hoev]
    exact ho

theorem GridForm.slice_values {q' : Int} {u : ResUnit} {origin : Date} {G : Int → Date} {D : Int → Prop}
    (gr : GridForm q' u origin G D) (hq : 1 ≤ q') {tr : Transc} {S r : List Cell} {q : Int}
    {s : String} {prem : Bool} (h : aggregatePeriod tr S (some (q, s)) origin prem = .ok r)
    (hst : standardizeResolution q s = .ok (q', u))
    (hcells : ∀ c ∈ S, (c.ps.valid = true ∧ ¬ (c.pe < c.ps)) ∧ RoomAbove G D c.ps ∧ RoomBelow G D c.ps) :
    (r.map key3).Nodup ∧
    (∀ c ∈ S, ∃ o ∈ r, insideB o c = true ∧ ∀ o' ∈ r, insideB o' c = true → key3 o' = key3 o) ∧
    ∀ o ∈ r, o.kind = .cumulative ∧ o.prev = none ∧ (∃ c ∈ S, insideB o c = true ∧ o.md = c.md) ∧
      summarizeCellValues tr [] ((S.mergeSort fun a b => coordCmp a b != .gt).filter (insideB o)) prem
        = .ok o.values := by
  obtain ⟨_, _, init, K, hst', P⟩ := aggregatePeriod_piles h
  cases hst.symm.trans hst'
  obtain ⟨c0, hc0, hmin, hanchor⟩ := P.anchor
  obtain ⟨j, rfl, hj, _, hlt, _⟩ := gr.anchorBefore_eq (hcells c0 hc0).2.1 (hcells c0 hc0).2.2 hanchor
  have hsp : (S.mergeSort fun a b => coordCmp a b != .gt).Perm S := List.mergeSort_perm _ _
  have hiff : ∀ o ∈ r, ∀ c ∈ S, (pileKey q' u (G j) (K c) c == key3 o) = insideB o c := fun o ho c hc => by
    obtain ⟨_, _, ⟨c00, hc00, hkey0, _⟩, _⟩ := P.cell o ho
    exact gr.pileKey_eq_iff hq hj (fun c hc => ⟨(hcells c hc).1, (hcells c hc).2.1,
      DateOrder.lt_of_lt_of_not_lt hlt (hmin c hc)⟩) P.first hc hc00 hkey0
  refine ⟨P.keys.nodup_iff.mpr (nodup_smDedup _), fun c hc => ?_, fun o ho => ?_⟩
  · obtain ⟨o, ho, hko⟩ := List.mem_map.mp (P.keys.mem_iff.mpr (mem_smDedup.mpr
      (List.mem_map.mpr ⟨c, hsp.mem_iff.mpr hc, rfl⟩)))
    refine ⟨o, ho, by rw [← hiff o ho c hc, hko, beq_self_eq_true], fun o' ho' hin' => ?_⟩
    rw [← hiff o' ho' c hc, beq_iff_eq] at hin'
    rw [← hin', hko]
  · obtain ⟨hkind, hprev, ⟨c, hc, hkey, hmd⟩, hsum⟩ := P.cell o ho
    refine ⟨hkind, hprev, ⟨c, hc, by rw [← hiff o ho c hc, hkey, beq_self_eq_true], hmd.symm⟩, ?_⟩
    rw [← hsum, List.filter_congr fun c hc => hiff o ho c (hsp.mem_iff.mp hc)]

theorem GridForm.sliceFacts {q' : Int} {u : ResUnit} {origin : Date} {G : Int → Date} {D : Int → Prop}
    (gr : GridForm q' u origin G D) (hq : 1 ≤ q') {tr : Transc} {S r : List Cell} {q : Int}
    {s : String} {prem : Bool} (h : aggregatePeriod tr S (some (q, s)) origin prem = .ok r)
    (hst : standardizeResolution q s = .ok (q', u))
    (hcells : ∀ c ∈ S, (c.ps.valid = true ∧ ¬ (c.pe < c.ps)) ∧ RoomAbove G D c.ps ∧ RoomBelow G D c.ps) :
    SliceFacts S r prem := by
  obtain ⟨hnodup, hcov, hout⟩ := gr.slice_values hq h hst hcells
  have hsp : (S.mergeSort fun a b => coordCmp a b != .gt).Perm S := List.mergeSort_perm _ _
  have hmemf : ∀ {o c}, c ∈ (S.mergeSort fun a b => coordCmp a b != .gt).filter (insideB o) ↔
      c ∈ S ∧ insideB o c = true := by
    intro o c; rw [List.mem_filter, hsp.mem_iff]
  refine ⟨hnodup, fun o ho => ⟨(hout o ho).1, (hout o ho).2.1, (hout o ho).2.2.1⟩, hcov, ?_, ?_⟩
  · intro o ho f i hr hc hin
    obtain ⟨hat, hir⟩ := summarizeCellValues_sum_at (i := i) (hout o ho).2.2.2 hc hr
      fun c hc' => hin c (hmemf.mp hc').1 (hmemf.mp hc').2
    exact ⟨hir, hat.trans (sum_perm ((hsp.filter (insideB o)).map fun c => (c.getV f).at i))⟩
  · intro o ho
    have hkp := summarizeCellValues_keys_perm (hout o ho).2.2.2
    refine ⟨hkp.nodup_iff.mpr (nodup_smDedup _), fun k => ?_⟩
    rw [hkp.mem_iff, mem_valueKeys]
    exact ⟨fun ⟨c, hc, hk⟩ => ⟨c, (hmemf.mp hc).1, (hmemf.mp hc).2, hk⟩,
      fun ⟨c, hc, hin, hk⟩ => ⟨c, hmemf.mpr ⟨hc, hin⟩, hk⟩⟩

theorem sliceFacts_month {tr : Transc} {S r : List Cell} {q q' : Int} {s : String} {origin : Date}
    {prem : Bool} (h : aggregatePeriod tr S (some (q, s)) origin prem = .ok r)
    (hst : standardizeResolution q s = .ok (q', .month)) (hq : 1 ≤ q') (hv : origin.valid = true)
    (he : origin.isMonthEnd = true) (hcells : ∀ c ∈ S, c.ps.valid = true ∧ ¬ (c.pe < c.ps)) :
    SliceFacts S r prem :=
  (gridForm_month q' hv he).sliceFacts hq h hst fun c hc => ⟨hcells c hc, roomAbove_true, roomBelow_true⟩

/-- conservation of a summed field among the cells of one evaluation date; the samples need to be in range only
in the cells of that date -/
theorem aggPeriod_conserves_ev {tr : Transc} {t out : List Cell} {q : Int} {s : String} {origin : Date}
    {prem : Bool} {f : String} {i : Nat}
    (h : aggregatePeriod tr t (some (q, s)) origin prem = .ok out)
    (hr : ruleOf [] (lowerKey f) = some ⟨.sum, [f]⟩) (hc : prem = true ∨ f ∉ nonLossMetrics) (e : Date)
    (hin : ∀ c ∈ t, c.ev = e → (c.getV f).inRange i = true) :
    ((out.filter fun o => o.ev == e).map fun o => (o.getV f).at i).sum =
      ((t.filter fun c => c.ev == e).map fun c => (c.getV f).at i).sum := by
  obtain ⟨q', u, init, K, _, P⟩ := aggregatePeriod_piles h
  have hsp : (t.mergeSort fun a b => coordCmp a b != .gt).Perm t := List.mergeSort_perm _ _
  rw [← sum_perm ((hsp.filter fun c => c.ev == e).map fun c => (c.getV f).at i)]
  -- an output cell carries the total of its pile, whose cells have its evaluation date
  exact sum_by_groups (fun c => pileKey q' u init (K c) c) key3 (fun c => (c.getV f).at i)
    (fun o => (o.getV f).at i) (fun k => k.2.2 == e) P.keys fun o ho hoe =>
      (summarizeCellValues_sum_at (i := i) (P.cell o ho).2.2.2 hc hr fun c hc' =>
        hin c (hsp.mem_iff.mp (List.mem_filter.mp hc').1)
          ((congrArg (·.2.2) (beq_iff_eq.mp (List.mem_filter.mp hc').2)).trans (beq_iff_eq.mp hoe))).1

/-! ## Part II: the whole triangle -/

/-- a list whose keys are distinct has exactly one element satisfying a predicate that pins the key -/
theorem filter_length_one {α κ} (k : α → κ) {l : List α} (hn : (l.map k).Nodup)
    (P : α → Bool) {o : α} (ho : o ∈ l) (hP : P o = true) (hu : ∀ o' ∈ l, P o' = true → k o' = k o) :
    (l.filter P).length = 1 := by
  induction l with
  | nil => simp at ho
  | cons a l ih =>
    rw [List.map_cons, List.nodup_cons] at hn
    rcases List.mem_cons.mp ho with rfl | ho'
    · have hrest : l.filter P = [] := by
        rw [List.filter_eq_nil_iff]
        intro x hx hPx
        have := hu x (by simp [hx]) hPx
        exact hn.1 (by rw [← this]; exact List.mem_map.mpr ⟨x, hx, rfl⟩)
      rw [List.filter_cons, hP]; simp [hrest]
    · have ha : P a = false := by
        by_contra hc
        have hPa : P a = true := by simpa using hc
        have := hu a (by simp) hPa
        exact hn.1 (by rw [this]; exact List.mem_map.mpr ⟨o, ho', rfl⟩)
      rw [List.filter_cons, ha]
      simpa using ih hn.2 ho' (fun o' ho'' => hu o' (by simp [ho'']))

/-- the period stage of `aggregate` on a (possibly evaluation-filtered) cumulative triangle `src`: one
`_aggregate_period` per slice `P`, results concatenated into `out`; `src1`, `src2`: the slices are exactly the classes of
`src` by metadata -/
structure Stage (tr : Transc) (P : List (Metadata × List Cell)) (aggs : List (List Cell)) (src out : List Cell)
    (q : Int) (s : String) (origin : Date) (prem : Bool) : Prop where
  keys : (P.map (·.1)).Nodup
  md : ∀ p ∈ P, ∀ c ∈ p.2, c.md = p.1
  runs : List.Forall₂ (fun p r => aggregatePeriod tr p.2 (some (q, s)) origin prem = .ok r) P aggs
  perm : out.Perm aggs.flatten
  src1 : ∀ p ∈ P, (src.filter (·.md == p.1)).Perm p.2
  src2 : ∀ c ∈ src, ∃ p ∈ P, p.1 = c.md

def key4 (o : Cell) : Metadata × Date × Date × Date := (o.md, o.ps, o.pe, o.ev)

section whole
variable {tr : Transc} {P : List (Metadata × List Cell)} {aggs : List (List Cell)} {src out : List Cell}
  {q : Int} {s : String} {origin : Date} {prem : Bool}

theorem Stage.aggs_eq (st : Stage tr P aggs src out q s origin prem) :
    ∃ R : Metadata × List Cell → List Cell, aggs = P.map R ∧
      ∀ p ∈ P, aggregatePeriod tr p.2 (some (q, s)) origin prem = .ok (R p) :=
  ⟨_, forall₂_ok_eq_map st.runs⟩

theorem Stage.md_eq (st : Stage tr P aggs src out q s origin prem) {p : Metadata × List Cell} (hp : p ∈ P)
    {r : List Cell} (hr : aggregatePeriod tr p.2 (some (q, s)) origin prem = .ok r) {o : Cell} (ho : o ∈ r) :
    o.md = p.1 := by
  obtain ⟨c, hc, hmd⟩ := aggregatePeriod_out_md hr ho
  rw [hmd]; exact st.md p hp c hc

theorem Stage.mem_slice (st : Stage tr P aggs src out q s origin prem) {o : Cell} (ho : o ∈ out) :
    ∃ p ∈ P, ∃ r, aggregatePeriod tr p.2 (some (q, s)) origin prem = .ok r ∧ o ∈ r ∧ o.md = p.1 := by
  obtain ⟨R, rfl, hR⟩ := st.aggs_eq
  obtain ⟨r, hr, hor⟩ := List.mem_flatten.mp (st.perm.mem_iff.mp ho)
  obtain ⟨p, hp, rfl⟩ := List.mem_map.mp hr
  exact ⟨p, hp, R p, hR p hp, hor, st.md_eq hp (hR p hp) hor⟩

theorem Stage.mem_of_md (st : Stage tr P aggs src out q s origin prem)
    {p : Metadata × List Cell} {r : List Cell} (hp : p ∈ P)
    (hr : aggregatePeriod tr p.2 (some (q, s)) origin prem = .ok r) {o : Cell} (ho : o ∈ out)
    (hmd : o.md = p.1) : o ∈ r := by
  obtain ⟨p', hp', r', hrun', hor', hmd'⟩ := st.mem_slice ho
  have : p' = p := List.inj_on_of_nodup_map st.keys hp' hp (by rw [← hmd', hmd])
  subst this
  rw [hr] at hrun'; cases hrun'; exact hor'

/-- the closed-form sources of an output cell are the cells of its slice inside its window -/
theorem Stage.sources_perm (st : Stage tr P aggs src out q s origin prem) {p : Metadata × List Cell}
    (hp : p ∈ P) {o : Cell} (hmd : o.md = p.1) :
    (Spec.C08.sources src o).Perm (p.2.filter (insideB o)) := by
  have : Spec.C08.sources src o = (src.filter (·.md == p.1)).filter (insideB o) := by
    unfold Spec.C08.sources
    rw [List.filter_filter]
    apply List.filter_congr
    intro c _
    rw [inWindow_eq, hmd, Bool.and_comm]
  rw [this]
  exact (st.src1 p hp).filter _

theorem Stage.mem_sources (st : Stage tr P aggs src out q s origin prem) {p : Metadata × List Cell}
    (hp : p ∈ P) {o c : Cell} (hmd : o.md = p.1) :
    c ∈ Spec.C08.sources src o ↔ c ∈ p.2 ∧ insideB o c = true := by
  rw [(st.sources_perm hp hmd).mem_iff, List.mem_filter]

theorem Stage.key4_nodup (st : Stage tr P aggs src out q s origin prem) : (out.map key4).Nodup := by
  obtain ⟨R, rfl, hR⟩ := st.aggs_eq
  rw [(st.perm.map key4).nodup_iff, List.map_flatten, List.map_map, List.nodup_flatten]
  refine ⟨fun l hl => ?_, ?_⟩
  · obtain ⟨p, hp, rfl⟩ := List.mem_map.mp hl
    have hn := aggregatePeriod_keys_nodup (hR p hp)
    rw [show (R p).map key3 = ((R p).map key4).map fun k => (k.2.1, k.2.2.1, k.2.2.2) by
      rw [List.map_map]; rfl] at hn
    exact hn.of_map
  · -- the results of two slices carry different metadata
    rw [List.pairwise_map]
    have hP : P.Pairwise (fun a b => a.1 ≠ b.1) := by
      have := st.keys
      rwa [List.Nodup, List.pairwise_map] at this
    refine hP.imp_of_mem fun {a b} ha hb hne k hkx hky => ?_
    obtain ⟨o, ho, rfl⟩ := List.mem_map.mp hkx
    obtain ⟨o', ho', hk'⟩ := List.mem_map.mp hky
    exact hne (by rw [← st.md_eq ha (hR a ha) ho, ← st.md_eq hb (hR b hb) ho']; exact (congrArg (·.1) hk').symm)

theorem Stage.cover (st : Stage tr P aggs src out q s origin prem)
    (hfacts : ∀ p ∈ P, ∀ r, aggregatePeriod tr p.2 (some (q, s)) origin prem = .ok r →
      SliceFacts p.2 r prem) :
    Spec.C08.cover src out = true := by
  have hn := st.key4_nodup
  obtain ⟨R, rfl, hR⟩ := st.aggs_eq
  unfold Spec.C08.cover
  rw [Bool.and_eq_true]
  refine ⟨nodupB_of_nodup hn, ?_⟩
  rw [List.all_eq_true]
  intro c hc
  rw [beq_iff_eq]
  obtain ⟨p, hp, hpm⟩ := st.src2 c hc
  have hcp : c ∈ p.2 := (st.src1 p hp).mem_iff.mp (List.mem_filter.mpr ⟨hc, by simp [hpm]⟩)
  have hrun := hR p hp
  have hf := hfacts _ hp _ hrun
  obtain ⟨o, hor, hin, huniq⟩ := hf.covered c hcp
  have ho : o ∈ out := st.perm.mem_iff.mpr (List.mem_flatten.mpr ⟨R p, List.mem_map.mpr ⟨p, hp, rfl⟩, hor⟩)
  have homd : o.md = p.1 := st.md_eq hp hrun hor
  refine filter_length_one key4 hn (fun o => Spec.C08.inWindow o c) ho ?_ ?_
  · show Spec.C08.inWindow o c = true
    rw [inWindow_eq, hin, homd, hpm]; simp
  · intro o' ho' hw
    have hw' : Spec.C08.inWindow o' c = true := hw
    rw [inWindow_eq, Bool.and_eq_true, beq_iff_eq] at hw'
    have hor' := st.mem_of_md hp hrun ho' (by rw [← hw'.1, hpm])
    have hk3 := key3_eq_iff.mp (huniq o' hor' hw'.2)
    simp only [key4, Prod.mk.injEq]
    exact ⟨by rw [← hw'.1, homd, hpm], hk3.1, hk3.2.1, hk3.2.2⟩

theorem Stage.cellSums (st : Stage tr P aggs src out q s origin prem)
    (hfacts : ∀ p ∈ P, ∀ r, aggregatePeriod tr p.2 (some (q, s)) origin prem = .ok r →
      SliceFacts p.2 r prem)
    {fields : List String}
    (hf : ∀ f ∈ fields, ruleOf [] (lowerKey f) = some ⟨.sum, [f]⟩ ∧ (prem = true ∨ f ∉ nonLossMetrics)) :
    Spec.C08.cellSums fields src out = true := by
  unfold Spec.C08.cellSums
  simp only [List.all_eq_true, Bool.and_eq_true]
  intro o ho
  obtain ⟨p, hp, r, hrun, hor, hmd⟩ := st.mem_slice ho
  have hfa := hfacts _ hp _ hrun
  refine ⟨?_, fun f hf' i _ => cellSum_clause fun hin => ?_⟩
  · obtain ⟨_, _, c, hc, hin, _⟩ := hfa.outc o hor
    have : c ∈ Spec.C08.sources src o := (st.mem_sources hp hmd).mpr ⟨hc, hin⟩
    cases hg : Spec.C08.sources src o with
    | nil => rw [hg] at this; simp at this
    | cons _ _ => rfl
  · obtain ⟨h1, h2⟩ := hfa.sums o hor f i (hf f hf').1 (hf f hf').2 fun c hc hi =>
      hin c ((st.mem_sources hp hmd).mpr ⟨hc, hi⟩)
    exact ⟨h2.trans (sum_perm ((st.sources_perm hp hmd).map fun c => (c.getV f).at i)).symm, h1⟩

theorem Stage.keysOk (st : Stage tr P aggs src out q s origin prem)
    (hfacts : ∀ p ∈ P, ∀ r, aggregatePeriod tr p.2 (some (q, s)) origin prem = .ok r →
      SliceFacts p.2 r prem) :
    Spec.C08.keysOk src out = true := by
  unfold Spec.C08.keysOk
  simp only [List.all_eq_true]
  intro o ho
  obtain ⟨p, hp, r, hrun, hor, hmd⟩ := st.mem_slice ho
  obtain ⟨hnd, hk⟩ := (hfacts _ hp _ hrun).keys o hor
  refine keys_clause hnd fun k => (hk k).trans ⟨?_, ?_⟩
  · rintro ⟨c, hc, hin, hkc⟩
    exact ⟨c, (st.mem_sources hp hmd).mpr ⟨hc, hin⟩, hkc⟩
  · rintro ⟨c, hc, hkc⟩
    exact ⟨c, ((st.mem_sources hp hmd).mp hc).1, ((st.mem_sources hp hmd).mp hc).2, hkc⟩

/-- per metadata and evaluation date the total of a summed field is the same in `out` and in `src`
(`aggPeriod_conserves_ev` slice by slice; the output cells of a slice carry its metadata) -/
theorem Stage.sum_eq (st : Stage tr P aggs src out q s origin prem) {f : String} {i : Nat}
    (hr : ruleOf [] (lowerKey f) = some ⟨.sum, [f]⟩) (hc : prem = true ∨ f ∉ nonLossMetrics)
    (m : Metadata) (e : Date)
    (hin : ∀ c ∈ src, c.md = m → c.ev = e → (c.getV f).inRange i = true) :
    ((out.filter fun o => o.md == m && o.ev == e).map fun o => (o.getV f).at i).sum =
      ((src.filter fun c => c.md == m && c.ev == e).map fun c => (c.getV f).at i).sum := by
  obtain ⟨R, rfl, hR⟩ := st.aggs_eq
  -- the filter as an indicator, so that both sides are plain sums: the one over `out` splits over the slices, each slice
  -- conserves its total, and the slices partition `src` by metadata
  let G : Cell → Rat := fun x => if (x.md == m && x.ev == e) then (x.getV f).at i else 0
  rw [sum_filter_eq_indicator, sum_filter_eq_indicator]
  show (out.map G).sum = (src.map G).sum
  rw [sum_perm (st.perm.map G), sum_flatten, List.map_map]
  have hpair : ∀ p ∈ P, ((R p).map G).sum = ((src.filter fun c => c.md == p.1).map G).sum := by
    intro p hp
    have hrun := hR p hp
    rw [sum_perm ((st.src1 p hp).map G)]
    have hrmd : ∀ x ∈ R p, x.md = p.1 := fun x hx => st.md_eq hp hrun hx
    by_cases hpm : p.1 = m
    · have hG : ∀ l : List Cell, (∀ c ∈ l, c.md = p.1) →
          (l.map G).sum = ((l.filter fun c => c.ev == e).map fun c => (c.getV f).at i).sum := fun l hl => by
        rw [sum_filter_eq_indicator]
        exact congrArg List.sum (List.map_congr_left fun c hc' => by simp [G, hl c hc', hpm])
      rw [hG _ hrmd, hG _ (st.md p hp)]
      refine aggPeriod_conserves_ev hrun hr hc e fun c hc' hce => ?_
      exact hin c (List.mem_filter.mp ((st.src1 p hp).mem_iff.mpr hc')).1 (by rw [st.md p hp c hc', hpm]) hce
    · have hz : ∀ l : List Cell, (∀ c ∈ l, c.md = p.1) → (l.map G).sum = 0 := fun l hl =>
        sum_map_zero _ _ fun c hc' => by
          have : ¬ (c.md = m) := by rw [hl c hc']; exact hpm
          simp [G, this]
      rw [hz _ (st.md p hp), hz _ hrmd]
  rw [show (P.map ((fun r : List Cell => (r.map G).sum) ∘ R)) =
      P.map fun p => ((src.filter fun c => c.md == p.1).map G).sum from List.map_congr_left hpair]
  have := sum_groups (fun c : Cell => c.md) G (P.map (·.1)) src st.keys (fun c hc' => by
    obtain ⟨p, hp, hpm⟩ := st.src2 c hc'
    exact List.mem_map.mpr ⟨p, hp, hpm⟩)
  rw [List.map_map] at this
  exact this

theorem Stage.conserves (st : Stage tr P aggs src out q s origin prem)
    (hfacts : ∀ p ∈ P, ∀ r, aggregatePeriod tr p.2 (some (q, s)) origin prem = .ok r →
      SliceFacts p.2 r prem)
    {fields : List String}
    (hf : ∀ f ∈ fields, ruleOf [] (lowerKey f) = some ⟨.sum, [f]⟩ ∧ (prem = true ∨ f ∉ nonLossMetrics)) :
    Spec.C08.conserves fields src out = true := by
  unfold Spec.C08.conserves
  simp only [List.all_eq_true]
  rintro ⟨m, e⟩ _ f hf' i _
  refine conserve_clause fun hin => ?_
  have hsrcR : ∀ c ∈ src, c.md = m → c.ev = e → (c.getV f).inRange i = true := fun c hc h1 h2 =>
    hin c (List.mem_filter.mpr ⟨hc, by simp [h1, h2]⟩)
  refine ⟨st.sum_eq (hf f hf').1 (hf f hf').2 m e hsrcR, fun x hx => ?_⟩
  obtain ⟨hxo, hxk⟩ := List.mem_filter.mp hx
  have hxk' : x.md = m ∧ x.ev = e := by simpa using hxk
  obtain ⟨p, hp, r, hrun, hor, hmd⟩ := st.mem_slice hxo
  refine ((hfacts _ hp _ hrun).sums x hor f i (hf f hf').1 (hf f hf').2 ?_).1
  intro c hc hi
  have hcs : c ∈ src := (List.mem_filter.mp ((st.src1 p hp).mem_iff.mpr hc)).1
  exact hsrcR c hcs (by rw [st.md p hp c hc, ← hmd, hxk'.1]) (by rw [(insideB_iff.mp hi).2.2, hxk'.2])

end whole

/-! ### the stage of `aggregate` on a cumulative triangle -/

/-- the fields the driver passes to `cellSums` / `conserves` are summed (the table is read in `Properties/C09`) -/
theorem agg_fields_summed (prem : Bool) :
    ∀ f ∈ (if prem then Spec.C09.additiveFields else Spec.C09.lossFields),
      ruleOf [] (lowerKey f) = some ⟨.sum, [f]⟩ ∧ (prem = true ∨ f ∉ nonLossMetrics) := by
  intro f hf
  have hsum : f ∈ Spec.C09.additiveFields → ruleOf [] (lowerKey f) = some ⟨.sum, [f]⟩ := fun ha => by
    rw [(additive_rules_bound f ha).1]; exact (additive_rules_bound f ha).2
  cases prem with
  | true => exact ⟨hsum hf, Or.inl rfl⟩
  | false => exact ⟨hsum (lossFields_summed f hf).1, Or.inr (lossFields_summed f hf).2⟩

/-- `aggregate` on a cumulative triangle whose per-slice evaluation stage is "keep the cells satisfying `G`"
(`G = fun _ => true` without an evaluation resolution) is a `Stage` over the filtered triangle -/
theorem stage_of_aggregateCum {tr : Transc} {t out : List Cell} {a : AggArgs} {q : Int} {s : String}
    (h : aggregateCum tr t a = .ok out) (hp : a.periodRes = some (q, s)) (G : Cell → Bool)
    (heval : ∀ p ∈ Triangle.slices t, ∀ e, aggregateEval p.2 a.evalRes a.evalOrigin = .ok e →
      e = p.2.filter G) :
    ∃ aggs, Stage tr ((Triangle.slices t).map fun p => (p.1, p.2.filter G)) aggs (t.filter G) out q s
      a.periodOrigin a.prem := by
  obtain ⟨aggs, haggs, hperm⟩ := aggregateCum_perm h
  have P := slices_partition t
  refine ⟨aggs, ?_, ?_, ?_, hperm, ?_, ?_⟩
  · rw [List.map_map]; exact P.nodup
  · intro p hp' c hc
    obtain ⟨p0, hp0, rfl⟩ := List.mem_map.mp hp'
    exact P.key_eq hp0 (List.mem_filter.mp hc).1
  · rw [List.forall₂_map_left_iff]
    refine forall₂_imp_mem (mapM_ok_forall₂.mp (smMapE_eq_mapM _ _ ▸ haggs)) fun p hp' r hrun => ?_
    obtain ⟨e, he, hper⟩ := aggregateSlice_ok hrun
    rw [heval p hp' e he, hp] at hper
    exact hper
  · intro p hp'
    obtain ⟨p0, hp0, rfl⟩ := List.mem_map.mp hp'
    simp only
    rw [List.filter_comm]
    exact ((P.group p0 hp0).filter G).symm
  · intro c hc
    obtain ⟨p, hp, hk, -⟩ := P.exists_group (List.mem_filter.mp hc).1
    exact ⟨(p.1, p.2.filter G), List.mem_map.mpr ⟨p, hp, rfl⟩, hk⟩

theorem stage_of_aggregateCum_noeval {tr : Transc} {t out : List Cell} {a : AggArgs} {q : Int} {s : String}
    (h : aggregateCum tr t a = .ok out) (hp : a.periodRes = some (q, s)) (hev : a.evalRes = none) :
    ∃ aggs, Stage tr (Triangle.slices t) aggs t out q s a.periodOrigin a.prem := by
  obtain ⟨aggs, st⟩ := stage_of_aggregateCum h hp (fun _ => true) (by
    intro p _ e he'
    rw [hev] at he'
    simp only [aggregateEval] at he'
    cases he'
    simp)
  exact ⟨aggs, by simpa using st⟩

/-- slice facts for every slice of a stage from slice facts for every sub-list of the source -/
theorem Stage.facts_of {tr : Transc} {P : List (Metadata × List Cell)} {aggs : List (List Cell)}
    {src out : List Cell} {q : Int} {s : String} {origin : Date} {prem : Bool}
    (st : Stage tr P aggs src out q s origin prem)
    (hslice : ∀ S r, (∀ c ∈ S, c ∈ src) → aggregatePeriod tr S (some (q, s)) origin prem = .ok r →
      SliceFacts S r prem) :
    ∀ p ∈ P, ∀ r, aggregatePeriod tr p.2 (some (q, s)) origin prem = .ok r → SliceFacts p.2 r prem :=
  fun p hp r hr => hslice p.2 r
    (fun _ hc => (List.mem_filter.mp ((st.src1 p hp).mem_iff.mpr hc)).1) hr

theorem Stage.holds {tr : Transc} {P : List (Metadata × List Cell)} {aggs : List (List Cell)}
    {src out : List Cell} {q q' : Int} {s : String} {origin : Date} {prem : Bool} {u : ResUnit}
    (st : Stage tr P aggs src out q s origin prem)
    (hfacts : ∀ p ∈ P, ∀ r, aggregatePeriod tr p.2 (some (q, s)) origin prem = .ok r →
      SliceFacts p.2 r prem)
    (hw : Spec.C08.windowsOk q' u origin out = true) :
    Spec.C08.holds q' u origin (if prem then Spec.C09.additiveFields else Spec.C09.lossFields) src out
      = true := by
  unfold Spec.C08.holds
  rw [hw, st.cover hfacts, st.cellSums hfacts (agg_fields_summed prem),
    st.keysOk hfacts, st.conserves hfacts (agg_fields_summed prem)]
  rfl

/-- a period resolution in any units, no evaluation resolution: `spec_holds_on_model_month` and `_day` of
`Properties/C08` are its instances -/
theorem holds_of_gridForm {tr : Transc} {t out : List Cell} {a : AggArgs} {q0 qp : Int} {s : String} {up : ResUnit}
    {Gp : Int → Date} {Dp : Int → Prop} (grp : GridForm qp up a.periodOrigin Gp Dp) (hqp : 1 ≤ qp)
    (hinc : smIsIncremental t = false) (h : aggregate tr t a = .ok out) (hev : a.evalRes = none)
    (hp : a.periodRes = some (q0, s)) (hst : standardizeResolution q0 s = .ok (qp, up))
    (hcells : ∀ c ∈ t, (c.ps.valid = true ∧ ¬ (c.pe < c.ps)) ∧ RoomAbove Gp Dp c.ps ∧ RoomBelow Gp Dp c.ps) :
    Spec.C08.holds qp up a.periodOrigin (if a.prem then Spec.C09.additiveFields else Spec.C09.lossFields) t out
      = true := by
  rw [aggregate_cumulative tr t a hinc] at h
  obtain ⟨aggs, st⟩ := stage_of_aggregateCum_noeval h hp hev
  exact st.holds (st.facts_of fun S r hsub hr => grp.sliceFacts hqp hr hst fun c hc => hcells c (hsub c hc))
    (grp.windowsOk_cum h hp hst fun c hc => (hcells c hc).2)

/-- period AND evaluation resolution, in any units; the source side is the cumulative triangle filtered by the
closed-form evaluation grid. The theorems `spec_holds_on_model_*` of `Properties/C08` with an evaluation resolution are
its four instances over `gridForm_month` / `gridForm_day`. -/
theorem holds_of_gridForms {tr : Transc} {t out : List Cell} {a : AggArgs} {q0 qp q0e qe : Int} {s se : String}
    {up ue : ResUnit} {Gp Ge : Int → Date} {Dp De : Int → Prop}
    (grp : GridForm qp up a.periodOrigin Gp Dp) (gre : GridForm qe ue a.evalOrigin Ge De)
    (hqp : 1 ≤ qp) (hqe : 1 ≤ qe) (hinc : smIsIncremental t = false) (h : aggregate tr t a = .ok out)
    (hev : a.evalRes = some (q0e, se)) (hste : standardizeResolution q0e se = .ok (qe, ue))
    (hk : kindsConsistent t = true)
    (hevs : ∀ c ∈ t, c.ev.valid = true ∧ RoomAbove Ge De c.ev ∧ RoomBelow Ge De c.ev ∧ RoomAbove Ge De c.ev.succ)
    (hp : a.periodRes = some (q0, s)) (hst : standardizeResolution q0 s = .ok (qp, up))
    (hcells : ∀ c ∈ t, (c.ps.valid = true ∧ ¬ (c.pe < c.ps)) ∧ RoomAbove Gp Dp c.ps ∧ RoomBelow Gp Dp c.ps) :
    Spec.C08.holds qp up a.periodOrigin (if a.prem then Spec.C09.additiveFields else Spec.C09.lossFields)
      (t.filter fun c => Spec.C08.onGrid qe ue a.evalOrigin c.ev) out = true := by
  rw [aggregate_cumulative tr t a hinc] at h
  obtain ⟨aggs, st⟩ := stage_of_aggregateCum h hp _ fun p hp' e he' => by
    rw [hev] at he'
    exact gre.aggregateEval_eq hqe (Triangle.slice_sorted hp') (slice_kindsConsistent hk hp') he' hste
      fun c hc => hevs c (mem_of_mem_slices hp' hc)
  exact st.holds (st.facts_of fun S r hsub hr => grp.sliceFacts hqp hr hst fun c hc =>
      hcells c (List.mem_filter.mp (hsub c hc)).1)
    (grp.windowsOk_cum h hp hst fun c hc => (hcells c hc).2)

/-! ### closed instance of the whole pipeline (non-vacuity of `spec_holds_on_model_month`) -/

def aggExArgs : AggArgs := { periodRes := some (6, "month") }

theorem aggExQ_slices : Triangle.slices aggExQ = [({}, aggExQ)] := by
  simp only [Triangle.slices, mergeSort_cellLe]
  decide +kernel

/-- `aggregate` SUCCEEDS on the three quarters (whole pipeline: slices, evaluation stage, period stage, sum) -/
theorem aggExQ_aggregate : aggregate Transc.id aggExQ aggExArgs = .ok aggExOut := by
  have hs : aggregateSlice Transc.id aggExArgs aggExQ = .ok aggExOut := by
    simp only [aggregateSlice, aggExArgs, aggregateEval]
    exact aggExQ_aggregates
  simp only [aggregate, aggregateCum, aggExQ_slices, smMapE, hs, sumTriangles, smFoldE]
  decide +kernel

end Bermuda
