/-
C01 closure for `Model/AllOps.lean` (`Op2`): `to_incremental`, `to_cumulative`, `aggregate`, `summarize`.
Every new cell of these operations is built through the validating constructor (`Cell.mk?`), every
other cell is an input cell; the results go through `Triangle.ofCells`.
-/
import Bermuda.Lemmas.AllOps
import Bermuda.Lemmas.Aggregate
import Bermuda.Lemmas.BasisRows
namespace Bermuda.AllOps
open Bermuda Bermuda.Properties.C01

theorem incRow_allOk {k : RowKey} {cells out : List Cell} (h : incRow k cells = .ok out) : AllOk out :=
  fun c hc => ((incRow_shape h).2 c hc).2.2

theorem cumRow_allOk {k : RowKey} {cells out : List Cell} (h : cumRow k cells = .ok out) : AllOk out :=
  fun c hc => ((cumRow_shape h).2 c hc).2.2.1

theorem overRows_allOk {f : RowKey → List Cell → Except Err (List Cell)} {t out : List Cell}
    (hf : ∀ k cells r, f k cells = .ok r → AllOk r) (h : overRows f t = .ok out) : AllOk out := fun c hc =>
  let ⟨p, _, d, hd, hcd⟩ := overRows_mem h c hc
  hf p.1 p.2 d hd c hcd

theorem toIncremental_canonical {t r : List Cell} (ht : Canonical t) (h : Triangle.toIncremental t = .ok r) :
    Canonical r := by
  unfold Triangle.toIncremental at h
  split at h
  · cases h; exact ht
  · obtain ⟨cells, hc, h⟩ := bind_ok h
    exact ofCells_canonical h (overRows_allOk (fun _ _ _ => incRow_allOk) hc)

theorem toCumulative_canonical {t r : List Cell} (ht : Canonical t) (h : Triangle.toCumulative t = .ok r) :
    Canonical r := by
  unfold Triangle.toCumulative at h
  split at h
  · cases h; exact ht
  · obtain ⟨cells, hc, h⟩ := bind_ok h
    exact ofCells_canonical h (overRows_allOk (fun _ _ _ => cumRow_allOk) hc)

theorem aggregateEval_canonical {t r : List Cell} {res : Option (Int × String)} {origin : Date}
    (ht : Canonical t) (h : aggregateEval t res origin = .ok r) : Canonical r := by
  cases res with
  | none => cases h; exact ht
  | some p =>
    -- the last conjunct: the result is `Triangle.ofCells` of a filter of `t`
    obtain ⟨_, _, _, _, _, _, _, _, _, hof⟩ := aggregateEval_ok h
    exact ofCells_canonical hof fun c hc => allOk_of ht c (List.mem_filter.mp hc).1

theorem aggCell_dates {tr : Transc} {prem : Bool} {g : (Date × Date × Date) × List Cell} {c : Cell}
    (h : aggCell tr prem g = .ok c) : c.datesOk = true := by
  obtain ⟨_, _, _, _, _, hmk⟩ := aggCell_ok h
  exact mk?_ok_dates hmk

theorem aggregatePeriod_canonical {tr : Transc} {t r : List Cell} {res : Option (Int × String)} {origin : Date}
    {prem : Bool} (ht : Canonical t) (h : aggregatePeriod tr t res origin prem = .ok r) : Canonical r := by
  cases res with
  | none => cases h; exact ht
  | some p =>
    -- the last two conjuncts: the window cells are built by `aggCell`, the result is `Triangle.ofCells` of them
    obtain ⟨_, _, _, _, _, _, _, _, _, _, _, hnew, hof⟩ := aggregatePeriod_ok h
    rw [smMapE_eq_mapM] at hnew
    exact ofCells_canonical hof (mapM_forall hnew fun _ _ _ => aggCell_dates)

theorem sumTriangles_canonical {ts : List (List Cell)} {r : List Cell} (hts : ∀ t ∈ ts, Canonical t)
    (h : sumTriangles ts = .ok r) : Canonical r := by
  unfold sumTriangles at h
  split at h
  · cases h; exact canonical_nil
  · rename_i t rest
    rw [smFoldE_eq_foldlM] at h
    refine foldlM_inv Canonical h (hts t (by simp)) (fun acc s acc' hacc hs hf => ?_)
    exact ofCells_canonical hf ((allOk_of hacc).append (allOk_of (hts s (by simp [hs]))))

theorem aggregateSlice_canonical {tr : Transc} {a : AggArgs} {s r : List Cell} (hs : Canonical s)
    (h : aggregateSlice tr a s = .ok r) : Canonical r := by
  obtain ⟨e, he, hp⟩ := aggregateSlice_ok h
  exact aggregatePeriod_canonical (aggregateEval_canonical hs he) hp

theorem aggregateCum_canonical {tr : Transc} {a : AggArgs} {t r : List Cell} (ht : Canonical t)
    (h : aggregateCum tr t a = .ok r) : Canonical r := by
  obtain ⟨aggs, haggs, hsum⟩ := aggregateCum_ok h
  rw [smMapE_eq_mapM] at haggs
  exact sumTriangles_canonical
    (mapM_forall haggs fun p hp _ => aggregateSlice_canonical (slices_all_canonical ht p hp)) hsum

theorem aggregate_canonical {tr : Transc} {a : AggArgs} {t r : List Cell} (ht : Canonical t)
    (h : aggregate tr t a = .ok r) : Canonical r := by
  rcases aggregate_ok h with ⟨_, cum, agg, hcum, hagg, hinc⟩ | ⟨_, hc⟩
  · exact toIncremental_canonical (aggregateCum_canonical (toCumulative_canonical ht hcum) hagg) hinc
  · exact aggregateCum_canonical ht hc

theorem summaryCell_dates {tr : Transc} {extra : List RuleEntry} {incr prem : Bool} {md : Metadata}
    {g : CoordKey × List Cell} {c : Cell} (h : summaryCell tr extra incr prem md g = .ok c) :
    c.datesOk = true := by
  obtain ⟨_, _, hmk⟩ := summaryCell_ok h
  exact mk?_ok_dates hmk

theorem summarize_canonical {tr : Transc} {extra : List RuleEntry} {t r : List Cell} {prem : Bool}
    (h : summarize tr extra t prem = .ok r) : Canonical r := by
  obtain ⟨_, cells, _, hcells, hof⟩ := summarize_ok h
  rw [smMapE_eq_mapM] at hcells
  exact ofCells_canonical hof (mapM_forall hcells fun _ _ _ => summaryCell_dates)

end Bermuda.AllOps
