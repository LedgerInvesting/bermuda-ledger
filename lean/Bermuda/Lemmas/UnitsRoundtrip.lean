/-
C18 `aggregate_disagg` at full strength: values (not only `at` readings), exact key sets,
exactly-once across slices, the sorted order and the Bool bridge to `Spec.C18.aggBackSpec`.
-/
import Bermuda.Lemmas.UnitsAggregate
import Bermuda.Lemmas.Eq
import Bermuda.Lemmas.AllOpsUnits
import Bermuda.Properties.C01
namespace Bermuda.Units
open Bermuda Bermuda.Spec.C18 Generated.Summarize

def selKeys (F : List String) (c : Cell) : List String :=
  (c.values.filter fun kv => F.contains kv.1).map (·.1)

/-- `o` is the cell `c` as it comes back from the round trip: same coordinates and metadata, a
CumulativeCell, exactly the selected field names, every selected field holding the same numbers -/
def BackOf (F : List String) (c o : Cell) : Prop :=
  o.ps = c.ps ∧ o.pe = c.pe ∧ o.ev = c.ev ∧ o.md = c.md ∧ o.kind = .cumulative ∧ o.prev = none ∧
  o.values.keys.Perm (selKeys F c) ∧
  ∀ kv ∈ c.values, F.contains kv.1 = true →
    ∃ v, o.values.get? kv.1 = some v ∧ v ≠ .none ∧ kv.2 ≠ .none ∧ vdata v = vdata kv.2

theorem BackOf.coord {F : List String} {c o : Cell} (h : BackOf F c o) (hp : c.prev = none) :
    o.coord = c.coord := by
  obtain ⟨e1, e2, e3, e4, _, e6, _⟩ := h
  exact Cell.coord_eq_iff.mpr ⟨e4, e1, e2, e3, by rw [e6, hp]⟩

/-- slice level, values: a selected field of an aggregated cell is the sample-wise sum over the group of ONE input cell
(`slice_sumOf`, `slice_sources`), which holds the numbers of that cell (`SubCellsN.sum_back`) -/
theorem aggregate_disagg_slice_values {tr : Transc} {sl mid back : List Cell} {res : Nat}
    {F : List String} {L q : Int} {s : String} {origin : Date} {prem : Bool} {G : Cell → List Cell}
    (T : SliceTrip tr sl mid back res F L q s origin prem G)
    (hrule : ∀ c ∈ sl, ∀ kv ∈ c.values, F.contains kv.1 = true →
      ruleOf [] (lowerKey kv.1) = some ⟨.sum, [kv.1]⟩ ∧ (prem = true ∨ kv.1 ∉ nonLossMetrics)) :
    ∀ o ∈ back, ∃ c ∈ sl, obsSubs c res (L / (res : Int)).toNat ≠ [] ∧ BackOf F c o := by
  intro o ho
  obtain ⟨hfacts, hsrc, _⟩ := slice_sources T
  obtain ⟨e5, e6, _⟩ := hfacts.outc o ho
  obtain ⟨c, hcm, hpne, e1, e2, e3, e4, hperm⟩ := hsrc o ho
  have hsub := T.groups c hcm
  have hk : KN c.values := (T.wf.cell c hcm).2.2.2.2
  have hkeysOf : ∀ y ∈ G c, y.values.keys = selKeys F c := fun y hy => (hsub.cells y hy).2.2.2
  refine ⟨c, hcm, hsub.ne_nil_iff.mp hpne, e1, e2, e3, e4, e5, e6, ?_, fun kv hkv hf => ?_⟩
  · obtain ⟨hnd, hkeys⟩ := hfacts.keys o ho
    have hsel : (selKeys F c).Nodup := (List.filter_sublist.map _).nodup hk
    rw [List.perm_ext_iff_of_nodup hnd hsel]
    intro k
    rw [hkeys]
    constructor
    · rintro ⟨x, hx, hix, hkx⟩
      rwa [hkeysOf x (hperm.mem_iff.mp (List.mem_filter.mpr ⟨hx, hix⟩))] at hkx
    · intro hk'
      obtain ⟨y, hy⟩ := List.exists_mem_of_ne_nil _ hpne
      obtain ⟨hym, hyi⟩ := List.mem_filter.mp (hperm.mem_iff.mpr hy)
      exact ⟨y, hym, hyi, by rwa [hkeysOf y hy]⟩
  · obtain ⟨hr, hc⟩ := hrule c hcm kv hkv hf
    obtain ⟨a, b, c'⟩ := hsub.sum_back hpne hk hkv hf ((slice_sumOf T ho hr hc).perm (hperm.map _))
    cases hg : o.values.get? kv.1 with
    | none => exact absurd (getV_of_get?_none hg) a
    | some v => exact ⟨v, rfl, Cell.getV_of_get? hg ▸ a, b, Cell.getV_of_get? hg ▸ c'⟩

/-- **the aggregated cells**, one by one (A), without repetition (B), in triangle order (C) -/
theorem aggregate_disagg_cells {tr : Transc} {t out back : List Cell} {res : Nat} {ws : List Rat}
    {F : List String} {L q : Int} {s : String} {origin : Date} {a : AggArgs}
    (R : RoundTrip tr t out back res ws F L q s origin a)
    (hrule : ∀ c ∈ t, ∀ kv ∈ c.values, F.contains kv.1 = true →
      ruleOf [] (lowerKey kv.1) = some ⟨.sum, [kv.1]⟩ ∧ (a.prem = true ∨ kv.1 ∉ nonLossMetrics)) :
    (∀ o ∈ back, ∃ c ∈ t, obsSubs c res (L / (res : Int)).toNat ≠ [] ∧
      BackOf F c o) ∧
    (back.map Cell.coord).Nodup ∧ back.Pairwise (fun x y => Cell.le x y) := by
  obtain ⟨G, hA, _, hn⟩ := roundTrip_slices R
  refine ⟨fun o hob => ?_, ?_, (AllOps.aggregate_canonical (AllOps.disaggCore_canonical R.core) R.agg).1⟩
  · obtain ⟨sl, hslm, mid, agg, _, hor, T⟩ := hA o hob
    obtain ⟨c, hc, rest⟩ := aggregate_disagg_slice_values T
      (fun c hc => hrule c (mem_slices_md hslm hc).2) o hor
    exact ⟨c, (mem_slices_md hslm hc).2, rest⟩
  · refine List.Nodup.of_map (fun x : Coord => (x.md, x.ps, x.pe, x.ev)) ?_
    rw [List.map_map]
    exact hn

theorem aggBack_of_cells {t back : List Cell} {res : Nat} {F : List String} {L : Int}
    (hwf : disaggWF res t = true) (hL : ∀ sl ∈ Triangle.slices t, periodResolution sl.2 = .ok L)
    (hsorted : t.Pairwise (fun x y => Cell.le x y)) (hcanon : ∀ c ∈ t, c.md.Canon)
    (hprev : ∀ c ∈ t, c.prev = none)
    (hA : ∀ o ∈ back, ∃ c ∈ t, obsSubs c res (L / (res : Int)).toNat ≠ [] ∧
      BackOf F c o)
    (hB : (back.map Cell.coord).Nodup) (hC : back.Pairwise (fun x y => Cell.le x y))
    (hD : ∀ c ∈ t, obsSubs c res (L / (res : Int)).toNat ≠ [] →
      ∃ o ∈ back, o.md = c.md ∧ o.ps = c.ps ∧ o.pe = c.pe ∧ o.ev = c.ev) :
    back.map Cell.coord = (t.filter (observable res)).map Cell.coord ∧
    aggBackSpec res F 0 t back = true := by
  have hfilt : t.filter (observable res) =
      t.filter fun c => decide (obsSubs c res (L / (res : Int)).toNat ≠ []) := by
    apply List.filter_congr
    intro c hc
    obtain ⟨sl, hsl, _, hcs⟩ := Triangle.exists_slice hc
    obtain ⟨L', hL', w⟩ := disaggWF_slice hwf hsl
    have : L' = L := by rw [hL sl hsl] at hL'; cases hL'; rfl
    subst this
    rw [Bool.eq_iff_iff, decide_eq_true_iff]
    exact observable_iff w hcs
  have htn := disaggWF_coord_nodup hwf
  have hE : ((t.filter (observable res)).map Cell.coord).Nodup :=
    (List.filter_sublist.map _).nodup htn
  have hcoordA : ∀ o ∈ back, ∃ c ∈ t.filter (observable res), o.coord = c.coord := by
    intro o ho
    obtain ⟨c, hc, hobs, hb⟩ := hA o ho
    exact ⟨c, by rw [hfilt]; exact List.mem_filter.mpr ⟨hc, decide_eq_true hobs⟩, hb.coord (hprev c hc)⟩
  have hperm : (back.map Cell.coord).Perm ((t.filter (observable res)).map Cell.coord) := by
    rw [List.perm_ext_iff_of_nodup hB hE]
    intro x
    constructor
    · intro hx
      obtain ⟨o, ho, rfl⟩ := List.mem_map.mp hx
      obtain ⟨c, hc, he⟩ := hcoordA o ho
      exact List.mem_map.mpr ⟨c, hc, he.symm⟩
    · intro hx
      obtain ⟨c, hc, rfl⟩ := List.mem_map.mp hx
      rw [hfilt] at hc
      obtain ⟨hct, hobs⟩ := List.mem_filter.mp hc
      obtain ⟨o, ho, e4, e1, e2, e3⟩ := hD c hct (of_decide_eq_true hobs)
      obtain ⟨_, _, _, _, _, _, _, _, e6, _⟩ := hA o ho
      exact List.mem_map.mpr ⟨o, ho, Cell.coord_eq_iff.mpr ⟨e4, e1, e2, e3, by rw [e6, hprev c hct]⟩⟩
  have heq : back.map Cell.coord = (t.filter (observable res)).map Cell.coord :=
    coords_eq_of_sorted hC (hsorted.sublist List.filter_sublist)
      (fun o ho => by obtain ⟨c', hc', _, _, _, _, e4, _⟩ := hA o ho; rw [e4]; exact hcanon c' hc')
      (fun c hc => hcanon c (List.mem_filter.mp hc).1) hperm
  refine ⟨heq, ?_⟩
  unfold aggBackSpec
  simp only [Bool.and_eq_true, beq_iff_eq, List.all_eq_true]
  refine ⟨by simpa using congrArg List.length heq, ?_⟩
  rintro ⟨c, o⟩ hp
  have hco : o.coord = c.coord := (zip_of_map_eq Cell.coord Cell.coord _ _ heq.symm (c, o) hp).symm
  have hcE := (List.of_mem_zip hp).1
  have hct : c ∈ t := (List.mem_filter.mp hcE).1
  have hob : o ∈ back := (List.of_mem_zip hp).2
  obtain ⟨c', hc', _, hb⟩ := hA o hob
  obtain rfl : c' = c := List.inj_on_of_nodup_map htn hc' hct ((hb.coord (hprev c' hc')).symm.trans hco)
  obtain ⟨e1, e2, e3, e4, _, _, hkeys, hvals⟩ := hb
  refine ⟨⟨⟨⟨⟨e4, e1⟩, e2⟩, e3⟩, ?_⟩, ?_⟩
  · unfold Spec.C18.sameKeys
    rw [beq_iff_eq]
    exact Bermuda.sortStrings_eq_iff_perm.mpr hkeys
  · intro kv hkv
    obtain ⟨hkv1, hkf⟩ := List.mem_filter.mp hkv
    obtain ⟨v, hget, hvn, hkn, hvd⟩ := hvals kv hkv1 hkf
    simp only [hget]
    simp [valClose, hvn, hkn, hvd, closeList_refl]

/-- cells of a non-incremental triangle have no previous evaluation date -/
theorem prev_none_of_triangle {t : List Cell} (hk : kindsConsistent t = true)
    (hd : ∀ c ∈ t, c.datesOk = true) (hi : isIncremental t = false) : ∀ c ∈ t, c.prev = none := by
  obtain ⟨k, hall⟩ := kindsConsistent_iff.mp hk
  intro c hc
  have hkind : c.kind ≠ .incremental := by
    cases t with
    | nil => cases hc
    | cons c0 rest =>
      have h0 : c0.kind ≠ .incremental := by simpa [isIncremental] using hi
      rwa [hall c hc, ← hall c0 List.mem_cons_self]
  exact Option.not_isSome_iff_eq_none.mp fun hs => hkind ((Cell.datesOk_iff.mp (hd c hc)).2.2.2.1.mpr hs)

end Bermuda.Units
