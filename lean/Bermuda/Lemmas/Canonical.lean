/-
What the sort of the constructor `Triangle.ofCells` does (its outcome is in `Lemmas/Triangle.lean`): nothing on a sorted
list, hence on sub-lists of a triangle; it undoes any rearrangement of a strictly sorted list; and it cannot tell work
done group by group and concatenated from work done cell by cell. Then the slices of a sorted triangle,
`derive_metadata` and `sum(triangles)` as permutations, lists of coordinates, and what `right_edge` returns.
Core Lean only.
-/
import Bermuda.Lemmas.Ops
import Bermuda.Lemmas.Sort
import Bermuda.Lemmas.Partition
namespace Bermuda
open Std

/-- strictly ascending: sorted, and no two cells at one coordinate -/
abbrev StrictSorted (l : List Cell) : Prop := l.Pairwise (fun a b => Cell.cmp a b = .lt)

theorem StrictSorted.le {l : List Cell} (h : StrictSorted l) : l.Pairwise (fun a b => Cell.le a b) :=
  h.imp Cell.le_of_cmp_lt

theorem StrictSorted.nodup {l : List Cell} (h : StrictSorted l) : l.Nodup :=
  h.imp fun hab e => by rw [e, ReflCmp.compare_self (cmp := Cell.cmp)] at hab; cases hab

theorem sort_eq_of_strict {l : List Cell} (h : StrictSorted l) : l.mergeSort Cell.le = l :=
  List.mergeSort_of_pairwise h.le

theorem sort_eq_of_perm_strict {l s : List Cell} (hp : l.Perm s) (hs : StrictSorted s) :
    l.mergeSort Cell.le = s :=
  (mergeSort_perm_invariant (cmp := Cell.cmp) hp fun _ _ ha hb e =>
    eq_of_cmp_eq_of_pairwise_lt hs (hp.mem_iff.mp ha) (hp.mem_iff.mp hb) e).trans (sort_eq_of_strict hs)

namespace Triangle

theorem ofCells_perm {l t : List Cell} (h : Triangle.ofCells l = .ok t) : t.Perm l :=
  (ofCells_eq_ok.mp h).2 ▸ List.mergeSort_perm l _

theorem ofCells_sorted {l t : List Cell} (h : Triangle.ofCells l = .ok t) :
    t.Pairwise (fun a b => Cell.le a b) :=
  (ofCells_eq_ok.mp h).2 ▸ sorted_mergeSort (cmp := Cell.cmp) l

theorem ofCells_of_sorted {l : List Cell} (hk : kindsConsistent l = true)
    (hs : l.Pairwise (fun a b => Cell.le a b)) : Triangle.ofCells l = .ok l :=
  ofCells_eq_ok.mpr ⟨hk, (List.mergeSort_of_pairwise hs).symm⟩

theorem ofCells_of_strictSorted {l : List Cell} (hk : kindsConsistent l = true) (hs : StrictSorted l) :
    Triangle.ofCells l = .ok l := ofCells_of_sorted hk hs.le

theorem ofCells_sublist {t s : List Cell} (hs : s.Sublist t) (hsorted : t.Pairwise (fun a b => Cell.le a b))
    (hk : kindsConsistent t = true) : Triangle.ofCells s = .ok s :=
  ofCells_of_sorted (kindsConsistent_of_subset hs.subset hk) (hsorted.sublist hs)

theorem ofCells_congr_perm {l₁ l₂ : List Cell} (hp : l₁.Perm l₂)
    (hdup : ∀ a b, a ∈ l₁ → b ∈ l₁ → Cell.cmp a b = .eq → a = b) :
    Triangle.ofCells l₁ = Triangle.ofCells l₂ := by
  unfold Triangle.ofCells
  rw [kindsConsistent_perm hp, show l₁.mergeSort Cell.le = l₂.mergeSort Cell.le from
    mergeSort_perm_invariant (cmp := Cell.cmp) hp hdup]

theorem ofCells_of_perm_strict {l s : List Cell} (hp : l.Perm s) (hs : StrictSorted s)
    (hk : kindsConsistent l = true) : Triangle.ofCells l = .ok s :=
  ofCells_eq_ok.mpr ⟨hk, (sort_eq_of_perm_strict hp hs).symm⟩

theorem ofCells_flatMap_groups {κ : Type} [BEq κ] [LawfulBEq κ] {key : Cell → κ} {t : List Cell}
    {G : List (κ × List Cell)} (P : Partition key t G) {f : Cell → Cell} {g : κ × List Cell → List Cell}
    (hg : ∀ p ∈ G, (g p).Perm (p.2.map f))
    (hdup : ∀ a b, a ∈ t.map f → b ∈ t.map f → Cell.cmp a b = .eq → a = b) :
    Triangle.ofCells (G.flatMap g) = Triangle.ofCells (t.map f) :=
  have hp : (G.flatMap g).Perm (t.map f) := (perm_flatMap_left hg).trans (P.flatMap_map_perm f)
  ofCells_congr_perm hp fun a b ha hb => hdup a b (hp.mem_iff.mp ha) (hp.mem_iff.mp hb)

theorem deriveMetadata_perm {t r : List Cell} {e : MetaEdit} (h : Triangle.deriveMetadata t e = .ok r) :
    r.Perm (t.map fun c => { c with md := c.md.edit e }) := by
  obtain ⟨cells, hm, h⟩ := bind_ok h
  rw [← mapM_ok_eq_map hm fun c _ b hb => (Cell.mk?_eq_ok.mp hb).2]
  exact ofCells_perm h

end Triangle

theorem Triangle.ofCells_filter {b : List Cell} (p : Cell → Bool) (hk : kindsConsistent b = true) :
    ∃ t, Triangle.ofCells (b.filter p) = .ok t ∧ t.Perm (b.filter p) ∧
      t.Pairwise (fun x y => Cell.le x y) ∧
      (b.Pairwise (fun x y => Cell.le x y) → t = b.filter p) :=
  have hk' := kindsConsistent_of_subset (List.filter_sublist (p := p)).subset hk
  ⟨_, Triangle.ofCells_eq_ok.mpr ⟨hk', rfl⟩, List.mergeSort_perm _ _, sorted_mergeSort (cmp := Cell.cmp) _,
    fun hs => List.mergeSort_of_pairwise (hs.sublist List.filter_sublist)⟩

theorem slice_kindsConsistent {t : List Cell} (h : kindsConsistent t = true) {p : Metadata × List Cell}
    (hp : p ∈ Triangle.slices t) : kindsConsistent p.2 = true :=
  kindsConsistent_of_subset (fun _ hc => mem_of_mem_slices hp hc) h

theorem slice_of_sorted {t : List Cell} (hs : t.Pairwise (fun a b => Cell.le a b)) {p : Metadata × List Cell}
    (hp : p ∈ Triangle.slices t) : p.2 = t.filter (·.md == p.1) := by
  obtain ⟨m, -, rfl⟩ := List.mem_map.mp hp
  exact mergeSort_sublist_sorted (cmp := Cell.cmp) List.filter_sublist hs

theorem slices_of_sorted {t : List Cell} (hs : t.Pairwise (fun a b => Cell.le a b)) :
    Triangle.slices t = (metasOf t).map fun m => (m, t.filter (·.md == m)) :=
  List.map_congr_left fun _ _ => congrArg _ (mergeSort_sublist_sorted (cmp := Cell.cmp) List.filter_sublist hs)

/-- `Cell.le` looks at coordinates only -/
theorem pairwise_le_of_coords {t out : List Cell} (h : out.map Cell.coord = t.map Cell.coord)
    (hs : t.Pairwise (fun a b => Cell.le a b)) : out.Pairwise (fun a b => Cell.le a b) :=
  List.pairwise_map.mp
    (h ▸ List.pairwise_map.mpr hs : (out.map Cell.coord).Pairwise fun k k' => (Coord.cmp k k' != .gt) = true)

theorem metasOf_strictSorted {t : List Cell} (hs : t.Pairwise (fun a b => Cell.le a b)) (hc : ∀ c ∈ t, c.md.Canon) :
    (metasOf t).Pairwise (fun a b => Metadata.cmp a b = .lt) := by
  have canon : ∀ m ∈ metasOf t, m.Canon := fun m hm => let ⟨c, hct, e⟩ := mem_metasOf.mp hm; e ▸ hc c hct
  refine pairwise_lt_of_sorted_nodup (fun a ha b hb => (Metadata.cmp_eq_eq (canon a ha) (canon b hb)).mp) ?_
    (metasOf_nodup t)
  exact (List.pairwise_map.mpr (hs.imp fun h => bne_iff_ne.mpr (Cell.le_md h))).sublist
    (metasOf_sublist t)

/-- a sorted triangle with canonical metadata and distinct coordinates is the concatenation of its slices, in order -/
theorem Triangle.slices_flatMap_eq {t : List Cell} (hs : t.Pairwise (fun a b => Cell.le a b)) (hc : ∀ c ∈ t, c.md.Canon)
    (hn : (t.map Cell.coord).Nodup) : (Triangle.slices t).flatMap (·.2) = t := by
  have hperm := Triangle.slices_flatMap_perm t
  refine sorted_perm_unique (cmp := Cell.cmp) (fun a b ha hb hab => ?_) ?_ hs hperm
  · have ha' := hperm.mem_iff.mp ha
    exact inj_of_nodup_map hn ha' hb ((Cell.cmp_eq_eq (hc a ha') (hc b hb)).mp hab)
  · refine List.pairwise_flatMap.mpr ⟨fun p hp => Triangle.slice_sorted hp, ?_⟩
    have hkeys : (Triangle.slices t).Pairwise (fun p q => Metadata.cmp p.1 q.1 = .lt) :=
      List.pairwise_map.mp (Triangle.slices_keys t ▸ metasOf_strictSorted hs hc)
    refine hkeys.imp_of_mem fun {p q} hp hq hlt x hx y hy => ?_
    rw [← ((Triangle.mem_slice_iff hp x).mp hx).2, ← ((Triangle.mem_slice_iff hq y).mp hy).2] at hlt
    exact Cell.le_of_cmp_lt (Cell.cmp_of_md_lt hlt)

/-- `sum(boot)` of `Resample` is the fold that `aggregate` writes for `sum(agg_slices)`, since `Triangle.add a b` is
`Triangle.ofCells (a ++ b)` -/
theorem Resample.sumFrom_eq_smFoldE (acc : List Cell) (bs : List (List Cell)) :
    Resample.sumFrom acc bs = smFoldE (fun acc s => Triangle.ofCells (acc ++ s)) acc bs := by
  induction bs generalizing acc with
  | nil => rfl
  | cons b bs ih =>
    rw [Resample.sumFrom, smFoldE, Triangle.add]
    cases Triangle.ofCells (acc ++ b)
    · rfl
    · exact ih _

theorem smFoldE_ofCells_perm : ∀ {l : List (List Cell)} {acc out : List Cell},
    smFoldE (fun acc s => Triangle.ofCells (acc ++ s)) acc l = .ok out → out.Perm (acc ++ l.flatten) := by
  intro l
  induction l with
  | nil => intro acc out h; simp only [smFoldE] at h; cases h; simp
  | cons s l ih =>
    intro acc out h
    obtain ⟨b, hb, h⟩ := smFoldE_cons_ok h
    refine (ih h).trans ?_
    rw [List.flatten_cons, ← List.append_assoc]
    exact List.Perm.append_right _ (Triangle.ofCells_perm hb)

namespace Triangle

theorem mem_rightEdge {t edge : List Cell} (h : Triangle.rightEdge t = .ok edge) {e : Cell} :
    e ∈ edge ↔ ∃ p ∈ Triangle.slices t, ∃ q ∈ groupBy (fun c : Cell => (c.ps, c.pe)) p.2,
      lastBy? (fun a b => Date.cmp a.ev b.ev != .gt) q.2 = some e := by
  unfold Triangle.rightEdge at h
  rw [(ofCells_perm h).mem_iff, List.mem_flatMap]
  exact exists_congr fun p => and_congr_right fun _ => List.mem_filterMap

theorem rightEdge_isOk {t : List Cell} (h : kindsConsistent t = true) : ∃ edge, Triangle.rightEdge t = .ok edge :=
  ofCells_isOk.mpr (kindsConsistent_of_subset (fun _ hc => mem_rightEdge_rows hc) h)

theorem rightEdge_latest {t edge : List Cell} (h : Triangle.rightEdge t = .ok edge) {e : Cell} (he : e ∈ edge) :
    e ∈ t ∧ ∀ o ∈ t, o.md = e.md → o.ps = e.ps → o.pe = e.pe → o.ev ≤ e.ev := by
  obtain ⟨p, hp, q, hq, hlast⟩ := (mem_rightEdge h).mp he
  obtain ⟨heq, hmax⟩ := lastBy?_max (cmp := evCmp) hlast
  obtain ⟨het, hem⟩ := (mem_slice_iff hp e).mp (mem_of_mem_groupBy hq heq)
  refine ⟨het, fun o ho hmd hps hpe => leOf_evCmp_iff.mp (hmax o ?_)⟩
  rw [groupBy_group_eq hq, List.mem_filter, ← key_of_mem_groupBy hq heq, hps, hpe]
  exact ⟨(mem_slice_iff hp o).mpr ⟨ho, hmd.trans hem⟩, beq_self_eq_true _⟩

theorem rightEdge_cover {t edge : List Cell} (h : Triangle.rightEdge t = .ok edge) {x : Cell} (hx : x ∈ t) :
    ∃ e ∈ edge, e.md = x.md ∧ (e.ps, e.pe) = (x.ps, x.pe) := by
  obtain ⟨p, hp, hpm, hxp⟩ := exists_slice hx
  obtain ⟨q, hq, hqk, hxq⟩ := groupBy_cover (key := fun c : Cell => (c.ps, c.pe)) hxp
  obtain ⟨e, he⟩ := lastBy?_isSome (fun a b : Cell => Date.cmp a.ev b.ev != .gt) (List.ne_nil_of_mem hxq)
  have heq : e ∈ q.2 := mem_of_lastBy? he
  exact ⟨e, (mem_rightEdge h).mpr ⟨p, hp, q, hq, he⟩,
    ((mem_slice_iff hp e).mp (mem_of_mem_groupBy hq heq)).2.trans hpm, (key_of_mem_groupBy hq heq).trans hqk⟩

end Triangle

theorem coords_eq_of_sorted {s t : List Cell} (hs : s.Pairwise (fun a b => Cell.le a b))
    (ht : t.Pairwise (fun a b => Cell.le a b)) (hcs : ∀ c ∈ s, c.md.Canon) (hct : ∀ c ∈ t, c.md.Canon)
    (hp : (s.map Cell.coord).Perm (t.map Cell.coord)) : s.map Cell.coord = t.map Cell.coord := by
  refine sorted_perm_unique (cmp := Coord.cmp) (fun x y hx hy e => ?_)
    (List.pairwise_map.mpr (hs.imp fun h => h)) (List.pairwise_map.mpr (ht.imp fun h => h)) hp
  obtain ⟨a, ha, rfl⟩ := List.mem_map.mp hx
  obtain ⟨b, hb, rfl⟩ := List.mem_map.mp hy
  exact (Cell.cmp_eq_eq (hcs a ha) (hct b hb)).mp e

end Bermuda
