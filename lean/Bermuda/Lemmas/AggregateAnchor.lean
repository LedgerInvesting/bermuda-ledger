/-
C08: the window walk and the evaluation grid against a closed form of the grid of the REQUESTED origin.
`GridForm` says what a closed form `G : Int → Date` of `origin + k·res` on a domain `D` of indices is; the anchor, the
walks, the straddle test, `windowsOk` and the evaluation stage are proved once for a `GridForm`. Two instances: month
units from a month end (month index arithmetic, all of ℤ) and day units (ordinals, the indices inside
`date.min … date.max`); the dates that bound a walk need "room" (`RoomAbove`, `RoomBelow`), which is trivial in month
units.
Also here: the closed instance used by the non-vacuity examples of `Properties/C08`.
-/
import Bermuda.Lemmas.Aggregate
import Bermuda.Lemmas.DateUtils
import Bermuda.Lemmas.ListFacts
import Bermuda.Spec.C08
namespace Bermuda

theorem relabelAt_datesOk {q : Int} {u : ResUnit} {g : Date} {c : Cell} (hc : c.datesOk = true)
    (hvps : c.ps.valid = true) (hnv : (resolutionDelta g q u).valid = true)
    (hlt : g < resolutionDelta g q u) (hb : g < c.ps) : (relabelAt q u g c).datesOk = true := by
  rw [Cell.datesOk_iff] at hc ⊢
  obtain ⟨_, hevps, hmax, _⟩ := hc
  exact ⟨DateOrder.not_lt.mpr (DateOrder.succ_le_of_lt hnv hlt), fun hlt2 =>
    hevps (DateOrder.lt_of_lt_of_not_lt hlt2 (DateOrder.not_lt.mpr (DateOrder.succ_le_of_lt hvps hb))), hmax,
    ⟨(fun h => nomatch h), (fun h => nomatch h)⟩, fun _ h => nomatch h⟩

theorem windowsOk_iff {q : Int} {u : ResUnit} {origin : Date} {out : List Cell} :
    Spec.C08.windowsOk q u origin out = true ↔
      ∀ o ∈ out, Spec.C08.isWindow q u origin o.ps o.pe = true ∧ o.kind = .cumulative ∧ o.prev = none := by
  simp [Spec.C08.windowsOk, and_assoc]

theorem expectStraddle_iff {q : Int} {u : ResUnit} {origin : Date} {src : List Cell} :
    Spec.C08.expectStraddle q u origin src = true ↔ ∃ c ∈ src, Spec.C08.windowEnd q u origin c.ps < c.pe := by
  simp [Spec.C08.expectStraddle]

/-! ### the closed-form straddle test against the window walk, for any regime in which the Spec's `windowEnd`
of a period start is the end of its first window (`hwe`) -/

section straddle
variable {t : List Cell} {q : Int} {u : ResUnit} {origin init : Date}

theorem expectStraddle_of_walk_error
    (hwe : ∀ c ∈ t, ∀ k, FirstWindow q u init k c.ps →
      Spec.C08.windowEnd q u origin c.ps = (windowAt q u init k).2)
    (herr : assignWindows q u init (t.mergeSort fun a b => coordCmp a b != .gt) = .error .triangleError) :
    Spec.C08.expectStraddle q u origin t = true := by
  have hperm : (t.mergeSort fun a b => coordCmp a b != .gt).Perm t := List.mergeSort_perm _ _
  obtain ⟨c, hc, k, hfirst, hcross⟩ := assignWindows_triangleError_first (k0 := 0) (init0 := init)
    (sorted_by_ps t) (by simp) herr
  have hct : c ∈ t := hperm.mem_iff.mp hc
  exact expectStraddle_iff.mpr ⟨c, hct, by rw [hwe c hct k hfirst]; exact hcross⟩

theorem expectStraddle_of_walk_ok {rel : List Cell}
    (hwe : ∀ c ∈ t, ∀ k, FirstWindow q u init k c.ps →
      Spec.C08.windowEnd q u origin c.ps = (windowAt q u init k).2)
    (hrel : assignWindows q u init (t.mergeSort fun a b => coordCmp a b != .gt) = .ok rel) :
    Spec.C08.expectStraddle q u origin t = false := by
  have hperm : (t.mergeSort fun a b => coordCmp a b != .gt).Perm t := List.mergeSort_perm _ _
  obtain ⟨K, _, hK⟩ := assignWindows_eq_map (k0 := 0) (init0 := init) (sorted_by_ps t) (by simp) hrel
  rw [Bool.eq_false_iff, Ne, expectStraddle_iff]
  rintro ⟨c, hc, hstr⟩
  obtain ⟨hfirst, hnpe⟩ := hK c (hperm.mem_iff.mpr hc)
  rw [hwe c hc _ hfirst] at hstr
  exact hnpe hstr

end straddle

def RoomAbove (G : Int → Date) (D : Int → Prop) (b : Date) : Prop := ∀ k, D k → G k < b → D (k + 1)

def RoomBelow (G : Int → Date) (D : Int → Prop) (b : Date) : Prop := ∀ k, D k → b ≤ G k → D (k - 1)

/-- `G` is a closed form of the calendar grid `origin + k·res` (`res` = `q` units `u`) on the indices in `D`: all
of ℤ for month units from a month end, the indices whose date lies inside `date.min … date.max` for day units. The
last three fields tie the closed-form predicates of `Spec/C08.lean` to `G`; `onGrid` speaks of a valid date between
two grid points of the domain, which in day units is what keeps it inside the calendar. -/
structure GridForm (q : Int) (u : ResUnit) (origin : Date) (G : Int → Date) (D : Int → Prop) : Prop where
  zero : G 0 = origin
  dom0 : D 0
  /-- the up walk takes its first step from the origin before any bound is known -/
  dom1 : D 1
  valid : ∀ k, D k → (G k).valid = true
  step : ∀ k, D k → resolutionDelta (G k) q u = G (k + 1)
  back : ∀ k, D k → resolutionDelta (G k) q u true = G (k - 1)
  lt : 1 ≤ q → ∀ m n, D m → D n → m < n → G m < G n
  isWindow : ∀ n, D n → D (n + 1) → Spec.C08.isWindow q u origin (G n).succ (G (n + 1)) = true
  windowEnd : 1 ≤ q → ∀ n d, D n → D (n + 1) → d.valid = true → G n < d → ¬ G (n + 1) < d →
    Spec.C08.windowEnd q u origin d = G (n + 1)
  onGrid : ∀ m n d, D m → D n → d.valid = true → G m < d → ¬ G n < d →
    (Spec.C08.onGrid q u origin d = true ↔ ∃ k, D k ∧ d = G k)

namespace GridForm
variable {q : Int} {u : ResUnit} {origin : Date} {G : Int → Date} {D : Int → Prop}
  (gr : GridForm q u origin G D) {tr : Transc} {t out : List Cell} {q0 : Int} {s : String} {prem : Bool}
include gr

theorem iterD_eq {j : Int} : ∀ k : Nat, (∀ i : Nat, i < k → D (j + i)) → iterD q u k (G j) = G (j + k)
  | 0, _ => by simp [iterD]
  | k + 1, h => by
    rw [iterD_succ', iterD_eq k fun i hi => h i (by omega), gr.step _ (h k (by omega))]
    congr 1; push_cast; ring

theorem ordinal_lt (hq : 1 ≤ q) {m n : Int} (hm : D m) (hn : D n) (h : m < n) :
    (G m).ordinal < (G n).ordinal :=
  ordinal_lt_of_lt (gr.valid m hm) (gr.valid n hn) (gr.lt hq m n hm hn h)

theorem iterD_of_lt {b : Date} (hup : RoomAbove G D b) {j : Int} (hj : D j) (hj1 : D (j + 1)) :
    ∀ k : Nat, (∀ i < k, iterD q u (i + 1) (G j) < b) →
      iterD q u k (G j) = G (j + k) ∧ D (j + k) ∧ D (j + k + 1)
  | 0, _ => by simpa [iterD] using ⟨hj, hj1⟩
  | k + 1, h => by
    obtain ⟨hk, hDk, hDk1⟩ := iterD_of_lt hup hj hj1 k fun i hi => h i (by omega)
    have e : j + ((k + 1 : Nat) : Int) = j + k + 1 := by push_cast; ring
    have hpt : iterD q u (k + 1) (G j) = G (j + k + 1) := by rw [iterD_succ', hk, gr.step _ hDk]
    rw [e]
    exact ⟨hpt, hDk1, hup _ hDk1 (hpt ▸ h k (Nat.lt_succ_self k))⟩

theorem walkUp_eq {b a : Date} (hup : RoomAbove G D b) {n : Nat} {k : Int} (hk : D k) (hk1 : D (k + 1))
    (h : walkUp q u b n (G k) = some a) :
    ∃ j, a = G j ∧ D j ∧ D (j + 1) ∧ ¬ G (j + 1) < b ∧ (j = k ∨ G j < b) := by
  obtain ⟨m, rfl, hstop, hbelow⟩ := walkUp_spec h
  obtain ⟨hm, hDm, hDm1⟩ := gr.iterD_of_lt hup hk hk1 m hbelow
  refine ⟨k + m, hm, hDm, hDm1, by rw [← gr.step _ hDm, ← hm]; exact hstop, ?_⟩
  cases m with
  | zero => exact Or.inl (by simp)
  | succ m => exact Or.inr (hm ▸ hbelow m (Nat.lt_succ_self m))

theorem walkDown_eq {b a : Date} (hdown : RoomBelow G D b) {n : Nat} {k : Int} (hk : D k)
    (h : walkDown q u b n (G k) = some a) :
    ∃ j, a = G j ∧ D j ∧ (j = k ∨ (D (j + 1) ∧ b ≤ G (j + 1))) := by
  induction n generalizing k with
  | zero => simp [walkDown] at h
  | succ n ih =>
    simp only [walkDown] at h
    split at h
    · rename_i hle
      rw [gr.back k hk] at h
      obtain ⟨j, hj, hDj, hnext⟩ := ih (hdown k hk hle) h
      refine ⟨j, hj, hDj, Or.inr ?_⟩
      rcases hnext with rfl | hnext
      · rw [Int.sub_add_cancel]; exact ⟨hk, hle⟩
      · exact hnext
    · cases h; exact ⟨k, rfl, hk, Or.inl rfl⟩

/-- **the anchor is a point of the origin's grid**, it lies strictly before the bound and the next grid point
does not (so the first window `[anchor + 1 day, anchor + res]` contains the bound) -/
theorem anchorBefore_eq {b a : Date} (hup : RoomAbove G D b) (hdown : RoomBelow G D b)
    (h : anchorBefore q u origin b = some a) : ∃ j, a = G j ∧ D j ∧ D (j + 1) ∧ a < b ∧ ¬ G (j + 1) < b := by
  have hlt := anchorBefore_lt h
  obtain ⟨a1, hw, h⟩ := anchorBefore_ok h
  rw [← gr.zero] at hw
  obtain ⟨k, rfl, hk, hk1, hstop, _⟩ := gr.walkUp_eq hup gr.dom0 (by simpa using gr.dom1) hw
  obtain ⟨j, rfl, hj, hnext⟩ := gr.walkDown_eq hdown hk h
  refine ⟨j, rfl, hj, ?_, hlt, ?_⟩
  · rcases hnext with rfl | hnext
    · exact hk1
    · exact hnext.1
  · rcases hnext with rfl | hnext
    · exact hstop
    · exact DateOrder.le_iff_not_lt.mp hnext.2

/-! #### the walks end: a step moves the ordinal by at least one day, and the fuel is the distance in days -/

theorem walkUp_ne_none (hq : 1 ≤ q) {b : Date} (hvb : b.valid = true) (hup : RoomAbove G D b) :
    ∀ (n : Nat) (k : Int), D k → D (k + 1) → b.ordinal - (G k).ordinal < (n : Int) → 1 ≤ n →
      walkUp q u b n (G k) ≠ none := by
  intro n
  induction n with
  | zero => intro k _ _ _ h1; omega
  | succ n ih =>
    intro k hk hk1 hn _
    simp only [walkUp]
    rw [gr.step k hk]
    split
    · rename_i hlt
      have h1 := gr.ordinal_lt hq hk hk1 (by omega)
      have h2 := ordinal_lt_of_lt (gr.valid _ hk1) hvb hlt
      exact ih _ hk1 (hup _ hk1 hlt) (by push_cast at hn; omega) (by omega)
    · simp

theorem walkDown_ne_none (hq : 1 ≤ q) {b : Date} (hvb : b.valid = true) (hdown : RoomBelow G D b) :
    ∀ (n : Nat) (k : Int), D k → (G k).ordinal - b.ordinal + 1 < (n : Int) → 1 ≤ n →
      walkDown q u b n (G k) ≠ none := by
  intro n
  induction n with
  | zero => intro k _ _ h1; omega
  | succ n ih =>
    intro k hk hn _
    simp only [walkDown]
    split
    · rename_i hle
      rw [gr.back k hk]
      have hk' := hdown k hk hle
      have h1 := gr.ordinal_lt hq hk' hk (by omega)
      have h2 := (ordinal_le_iff hvb (gr.valid k hk)).mpr hle
      exact ih _ hk' (by push_cast at hn; omega) (by omega)
    · simp

theorem anchorBefore_ne_none (hq : 1 ≤ q) {b : Date} (hvb : b.valid = true) (hup : RoomAbove G D b)
    (hdown : RoomBelow G D b) : anchorBefore q u origin b ≠ none := by
  unfold anchorBefore
  split
  · rename_i hnone
    rw [← gr.zero] at hnone
    exact absurd hnone (gr.walkUp_ne_none hq hvb hup _ 0 gr.dom0 (by simpa using gr.dom1)
      (aggFuel_spec (G 0) b).2.1 (aggFuel_spec (G 0) b).2.2)
  · rename_i a1 hw
    rw [← gr.zero] at hw
    obtain ⟨k, rfl, hk, _⟩ := gr.walkUp_eq hup gr.dom0 (by simpa using gr.dom1) hw
    exact gr.walkDown_ne_none hq hvb hdown _ k hk (aggFuel_spec _ b).1 (aggFuel_spec _ b).2.2

theorem lt_succ_of_lt (hq : 1 ≤ q) {m n : Int} (hm : D m) (hn : D n) (h : m < n + 1) : G m < (G n).succ := by
  rcases Int.lt_or_eq_of_le (Int.lt_add_one_iff.mp h) with h | rfl
  · exact DateOrder.lt_trans (gr.lt hq m n hm hn h) (DateOrder.lt_succ _)
  · exact DateOrder.lt_succ _

theorem firstWindow {b : Date} (hup : RoomAbove G D b) {j : Int} (hj : D j) (hlt : G j < b) {k : Nat}
    (hfirst : FirstWindow q u (G j) k b) :
    windowAt q u (G j) k = ((G (j + k)).succ, G (j + k + 1)) ∧ D (j + k) ∧ D (j + k + 1) ∧
      G (j + k) < b ∧ ¬ G (j + k + 1) < b := by
  have hbefore := hfirst.grid_lt hlt
  obtain ⟨hk, hDk, hDk1⟩ := gr.iterD_of_lt hup hj (hup j hj hlt) k fun i hi => hbefore (i + 1) (by omega)
  have hw : windowAt q u (G j) k = ((G (j + k)).succ, G (j + k + 1)) := by
    rw [windowAt, iterD_succ', hk, gr.step _ hDk]
  exact ⟨hw, hDk, hDk1, hk ▸ hbefore k (Nat.le_refl k), by have := hfirst.2; rwa [hw] at this⟩

/-- from a grid point lying before every period start, with a positive quantity and source cells that satisfy
the constructor's date rules, have valid period starts and room above, the window walk can only fail with
`TriangleError`: the fuel never runs out and the constructor accepts every re-labelled cell -/
theorem assignWindows_error (hq : 1 ≤ q) {cells : List Cell} {j : Int} (hj : D j)
    (hs : cells.Pairwise (fun a b => ¬ b.ps < a.ps))
    (hcells : ∀ c ∈ cells, c.datesOk = true ∧ c.ps.valid = true ∧ RoomAbove G D c.ps ∧ G j < c.ps) {e : Err}
    (h : assignWindows q u (G j) cells = .error e) : e = .triangleError := by
  obtain ⟨c, hc, k1, hinv, hcase⟩ := assignWindows_error_step (k0 := 0) (init0 := G j) hs (by simp) h
  obtain ⟨hdates, hvps, hup, hinit⟩ := hcells c hc
  have hj1 := hup j hj hinit
  rcases hcase with ⟨hnone, _⟩ | ⟨k, hfirst, ⟨_, he⟩ | ⟨hbad, _⟩⟩
  · -- the carried grid point lies in the domain, and the fuel covers the distance to the period start
    obtain ⟨hk1, hD, hD1⟩ := gr.iterD_of_lt hup hj hj1 k1 hinv
    rw [hk1] at hnone
    exact absurd hnone (gr.walkUp_ne_none hq hvps hup _ _ hD hD1 (aggFuel_spec _ c.ps).2.1
      (aggFuel_spec _ c.ps).2.2)
  · exact he
  · obtain ⟨hk, hD, hD1⟩ := gr.iterD_of_lt hup hj hj1 k fun i hi => hfirst.grid_lt hinit (i + 1) (by omega)
    rw [hk, relabelAt_datesOk hdates hvps (gr.step _ hD ▸ gr.valid _ hD1)
      (gr.step _ hD ▸ gr.lt hq _ _ hD hD1 (by omega)) (hk ▸ hfirst.grid_lt hinit k (Nat.le_refl k))] at hbad
    cases hbad

theorem windowEnd_first (hq : 1 ≤ q) {j : Int} (hj : D j)
    (hcells : ∀ c ∈ t, c.ps.valid = true ∧ RoomAbove G D c.ps ∧ G j < c.ps) :
    ∀ c ∈ t, ∀ k, FirstWindow q u (G j) k c.ps →
      Spec.C08.windowEnd q u origin c.ps = (windowAt q u (G j) k).2 := by
  intro c hc k hfirst
  obtain ⟨hv, hup, hlt⟩ := hcells c hc
  obtain ⟨hw, hDk, hDk1, hl, hr⟩ := gr.firstWindow hup hj hlt hfirst
  rw [hw]
  exact gr.windowEnd hq _ _ hDk hDk1 hv hl hr

/-- **the window walk raises `TriangleError` exactly when the closed-form straddle test is true**: source cells
satisfying the constructor's date rules with valid period starts, a positive quantity -/
theorem straddle_iff (hq : 1 ≤ q) {c0 : Cell} {init : Date}
    (hcells : ∀ c ∈ t, c.datesOk = true ∧ c.ps.valid = true ∧ RoomAbove G D c.ps)
    (hup : RoomAbove G D c0.ps) (hdown : RoomBelow G D c0.ps) (hmin : ∀ c ∈ t, ¬ c.ps < c0.ps)
    (hanchor : anchorBefore q u origin c0.ps = some init) :
    assignWindows q u init (t.mergeSort fun a b => coordCmp a b != .gt) = .error .triangleError ↔
      Spec.C08.expectStraddle q u origin t = true := by
  obtain ⟨j, rfl, hj, _, hlt, _⟩ := gr.anchorBefore_eq hup hdown hanchor
  have hperm : (t.mergeSort fun a b => coordCmp a b != .gt).Perm t := List.mergeSort_perm _ _
  have hbefore : ∀ c ∈ t, G j < c.ps := fun c hc => DateOrder.lt_of_lt_of_not_lt hlt (hmin c hc)
  have hwe := gr.windowEnd_first hq hj fun c hc => ⟨(hcells c hc).2.1, (hcells c hc).2.2, hbefore c hc⟩
  refine ⟨expectStraddle_of_walk_error hwe, fun htrue => ?_⟩
  cases hres : assignWindows q u (G j) (t.mergeSort fun a b => coordCmp a b != .gt) with
  | ok rel => rw [expectStraddle_of_walk_ok hwe hres] at htrue; cases htrue
  | error e =>
    -- the walk cannot fail for another reason
    rw [gr.assignWindows_error hq hj (sorted_by_ps t) (fun c hc =>
      have hc' := hperm.mem_iff.mp hc
      ⟨(hcells c hc').1, (hcells c hc').2.1, (hcells c hc').2.2, hbefore c hc'⟩) hres]

theorem straddle_raises (hq : 1 ≤ q) (hst : standardizeResolution q0 s = .ok (q, u))
    (hcells : ∀ c ∈ t, c.datesOk = true ∧ c.ps.valid = true ∧ RoomAbove G D c.ps ∧ RoomBelow G D c.ps)
    (hstr : Spec.C08.expectStraddle q u origin t = true) :
    aggregatePeriod tr t (some (q0, s)) origin prem = .error .triangleError := by
  cases hsorted : (t.mergeSort fun a b => coordCmp a b != .gt) with
  | nil =>
    -- an empty slice has no straddler
    obtain ⟨c, hc, _⟩ := expectStraddle_iff.mp hstr
    exact absurd (hsorted ▸ (List.mergeSort_perm t _).mem_iff.mpr hc) List.not_mem_nil
  | cons c0 tl =>
    obtain ⟨hc0, hmin⟩ := sorted_head_min hsorted
    obtain ⟨_, hv0, hup0, hdown0⟩ := hcells c0 hc0
    cases hinit : anchorBefore q u origin c0.ps with
    | none => exact absurd hinit (gr.anchorBefore_ne_none hq hv0 hup0 hdown0)
    | some init =>
      exact aggregatePeriod_walk_error hst hsorted hinit
        ((gr.straddle_iff hq (fun c hc => ⟨(hcells c hc).1, (hcells c hc).2.1, (hcells c hc).2.2.1⟩)
          hup0 hdown0 hmin hinit).mpr hstr)

theorem expectStraddle_false (hq : 1 ≤ q) (h : aggregatePeriod tr t (some (q0, s)) origin prem = .ok out)
    (hst : standardizeResolution q0 s = .ok (q, u))
    (hcells : ∀ c ∈ t, c.ps.valid = true ∧ RoomAbove G D c.ps ∧ RoomBelow G D c.ps) :
    Spec.C08.expectStraddle q u origin t = false := by
  obtain ⟨_, _, init, _, hst', P⟩ := aggregatePeriod_piles h
  cases hst.symm.trans hst'
  obtain ⟨c0, hc0, hmin, hanchor⟩ := P.anchor
  obtain ⟨j, rfl, hj, _, hlt, _⟩ := gr.anchorBefore_eq (hcells c0 hc0).2.1 (hcells c0 hc0).2.2 hanchor
  exact expectStraddle_of_walk_ok (gr.windowEnd_first hq hj fun c hc =>
    ⟨(hcells c hc).1, (hcells c hc).2.1, DateOrder.lt_of_lt_of_not_lt hlt (hmin c hc)⟩) P.walk

/-- `Properties.C08.window_origin_month` / `_day` for any grid form; the third conjunct ties every output cell to a
re-labelled cell -/
theorem window_origin (h : aggregatePeriod tr t (some (q0, s)) origin prem = .ok out)
    (hst : standardizeResolution q0 s = .ok (q, u))
    (hcells : ∀ c ∈ t, RoomAbove G D c.ps ∧ RoomBelow G D c.ps) :
    ∃ (j : Int) (rel : List Cell), rel.length = t.length ∧
      (∃ c0 ∈ t, (∀ c ∈ t, ¬ c.ps < c0.ps) ∧ G j < c0.ps ∧ ¬ G (j + 1) < c0.ps) ∧
      (∀ o ∈ out, ∃ p ∈ (t.mergeSort fun a b => coordCmp a b != .gt).zip rel, key3 p.2 = key3 o ∧
        o.kind = .cumulative ∧ o.prev = none) ∧
      ∀ p ∈ (t.mergeSort fun a b => coordCmp a b != .gt).zip rel, ∃ k : Nat, D (j + k) ∧ D (j + k + 1) ∧
        p.2.ps = (G (j + k)).succ ∧ p.2.pe = G (j + k + 1) ∧
        p.2.ev = p.1.ev ∧ p.2.values = p.1.values ∧ p.2.md = p.1.md ∧ ¬ (p.2.pe < p.1.pe) := by
  obtain ⟨_, _, init, K, hst', P⟩ := aggregatePeriod_piles h
  cases hst.symm.trans hst'
  obtain ⟨c0, hc0, hmin, hanchor⟩ := P.anchor
  obtain ⟨j, rfl, hj, _, hlt, hnext⟩ := gr.anchorBefore_eq (hcells c0 hc0).1 (hcells c0 hc0).2 hanchor
  have hsp : (t.mergeSort fun a b => coordCmp a b != .gt).Perm t := List.mergeSort_perm _ _
  refine ⟨j, (t.mergeSort fun a b => coordCmp a b != .gt).map fun c => relabelAt q u (iterD q u (K c) (G j)) c,
    by rw [List.length_map, hsp.length_eq], ⟨c0, hc0, hmin, hlt, hnext⟩, fun o ho => ?_, fun p hp => ?_⟩
  · obtain ⟨hk, hp, ⟨c, hc, hkey, _⟩, _⟩ := P.cell o ho
    exact ⟨(c, _), by rw [zip_map_self]; exact List.mem_map.mpr ⟨c, hsp.mem_iff.mpr hc, rfl⟩,
      (key3_relabelAt ..).trans hkey, hk, hp⟩
  · rw [zip_map_self, List.mem_map] at hp
    obtain ⟨c, hc, rfl⟩ := hp
    have hct : c ∈ t := hsp.mem_iff.mp hc
    obtain ⟨hfirst, hnpe⟩ := P.first c hct
    obtain ⟨hw, hDk, hDk1, _⟩ := gr.firstWindow (hcells c hct).1 hj
      (DateOrder.lt_of_lt_of_not_lt hlt (hmin c hct)) hfirst
    have hkey := key3_relabelAt q u (G j) (K c) c
    rw [pileKey, hw] at hkey
    rw [hw] at hnpe
    have hpe : (relabelAt q u (iterD q u (K c) (G j)) c).pe = G (j + K c + 1) := congrArg (·.2.1) hkey
    exact ⟨K c, hDk, hDk1, congrArg (·.1) hkey, hpe, rfl, rfl, rfl, by rw [hpe]; exact hnpe⟩

/-- every output period of `_aggregate_period` is one of the closed-form windows of `Spec.C08` counted from the
REQUESTED origin -/
theorem windowsOk (h : aggregatePeriod tr t (some (q0, s)) origin prem = .ok out)
    (hst : standardizeResolution q0 s = .ok (q, u))
    (hcells : ∀ c ∈ t, RoomAbove G D c.ps ∧ RoomBelow G D c.ps) :
    Spec.C08.windowsOk q u origin out = true := by
  obtain ⟨j, rel, hlen, _, hout, hall⟩ := gr.window_origin h hst hcells
  rw [windowsOk_iff]
  intro o ho
  obtain ⟨p, hp, hkey, hkind, hprev⟩ := hout o ho
  rw [key3_eq_iff] at hkey
  obtain ⟨k, hDk, hDk1, e1, e2, _⟩ := hall p hp
  exact ⟨by rw [← hkey.1, ← hkey.2.1, e1, e2, gr.isWindow _ hDk hDk1], hkind, hprev⟩

theorem window_disjoint (hq : 1 ≤ q) {k k' : Nat} (hkk : k < k') (hD : ∀ i : Nat, i ≤ k' → D i) :
    (windowAt q u origin k).2 < (windowAt q u origin k').1 := by
  have hD' : ∀ i : Nat, i ≤ k' → D (0 + i) := fun i hi => by simpa using hD i hi
  simp only [windowAt, ← gr.zero]
  rw [gr.iterD_eq (k + 1) fun i hi => hD' i (by omega), gr.iterD_eq k' fun i hi => hD' i (by omega)]
  exact gr.lt_succ_of_lt hq (hD' (k + 1) hkk) (hD' k' (Nat.le_refl _)) (by omega)

theorem mem_grid_iff (hq : 1 ≤ q) {j : Int} {grid : List Date} {first last : Date}
    (hD : ∀ i : Nat, i ≤ grid.length + 1 → D (j + i))
    (hgrid : ∀ i (hi : i < grid.length), grid[i] = G (j + ((i + 1 : Nat) : Int)) ∧ grid[i] ≤ last)
    (hend : ¬ G (j + ((grid.length + 1 : Nat) : Int)) ≤ last) (hlt : G j < first)
    (hnext : ¬ G (j + 1) < first) (d : Date) :
    d ∈ grid ↔ (∃ k, D k ∧ d = G k) ∧ first ≤ d ∧ d ≤ last := by
  have hmono : ∀ m n, D m → D n → m ≤ n → ¬ G n < G m := fun m n hm hn hmn hlt' =>
    (Int.lt_or_eq_of_le hmn).elim (fun l => DateOrder.lt_asymm (gr.lt hq m n hm hn l) hlt')
      (fun e => DateOrder.lt_irrefl _ (e ▸ hlt'))
  have hD0 : D j := by simpa using hD 0 (by omega)
  have hD1 : D (j + 1) := by simpa using hD 1 (by omega)
  constructor
  · intro hd
    obtain ⟨i, hi, rfl⟩ := List.getElem_of_mem hd
    obtain ⟨hform, hle⟩ := hgrid i hi
    refine ⟨⟨_, hD (i + 1) (by omega), hform⟩, ?_, hle⟩
    rw [DateOrder.le_iff_not_lt, hform]
    intro hlt'
    exact hmono (j + 1) _ hD1 (hD (i + 1) (by omega)) (by omega) (DateOrder.lt_of_lt_of_not_lt hlt' hnext)
  · rintro ⟨⟨k, hk, rfl⟩, hfirst, hlast⟩
    rw [DateOrder.le_iff_not_lt] at hfirst hlast
    have hkj : j < k := Int.not_le.mp fun hc =>
      hmono k j hk hD0 hc (DateOrder.lt_of_lt_of_not_lt hlt hfirst)
    have hkl : k < j + ((grid.length + 1 : Nat) : Int) := Int.not_le.mp fun hc =>
      hmono _ k (hD _ (Nat.le_refl _)) hk hc (DateOrder.lt_of_not_lt_of_lt hlast (DateOrder.not_le.mp hend))
    obtain ⟨i, hi⟩ : ∃ i : Nat, k = j + ((i + 1 : Nat) : Int) := ⟨(k - j - 1).toNat, by omega⟩
    have hil : i < grid.length := by omega
    rw [hi, ← (hgrid i hil).1]
    exact List.getElem_mem hil

/-- **the evaluation grid in closed form**: a date is kept iff it is a point of the origin's grid between the
first and the last evaluation date -/
theorem mem_validEvals (hq : 1 ≤ q) {first last : Date} {grid : List Date} (hupf : RoomAbove G D first)
    (hdownf : RoomBelow G D first) (hupl : RoomAbove G D last.succ)
    (h : validEvals q u origin first last = some grid) :
    ∃ m n, D m ∧ D n ∧ G m < first ∧ ¬ G n ≤ last ∧
      ∀ d, d ∈ grid ↔ (∃ k, D k ∧ d = G k) ∧ first ≤ d ∧ d ≤ last := by
  obtain ⟨anchor, hanchor, h⟩ := validEvals_ok h
  obtain ⟨hg1, hg2⟩ := gridFrom_spec h
  obtain ⟨j, rfl, hj, hj1, hlt, hnext⟩ := gr.anchorBefore_eq hupf hdownf hanchor
  -- the grid points (all `≤ last`) lie before `last.succ`, so they stay inside the domain
  have hpts : ∀ i < grid.length, iterD q u (i + 1) (G j) < last.succ := fun i hi =>
    (show grid[i] = iterD q u (i + 1) (G j) from (hg1 i hi).1) ▸
      DateOrder.lt_of_le_of_lt (hg1 i hi).2 (DateOrder.lt_succ last)
  have hG : ∀ i : Nat, i ≤ grid.length + 1 → iterD q u i (G j) = G (j + i) ∧ D (j + i) := by
    intro i hi
    cases i with
    | zero => exact ⟨by simp [iterD], by simpa using hj⟩
    | succ i =>
      obtain ⟨hk, hDk, hDk1⟩ := gr.iterD_of_lt hupl hj hj1 i fun m hm => hpts m (by omega)
      have e : j + ((i + 1 : Nat) : Int) = j + i + 1 := by push_cast; ring
      rw [e, iterD_succ', hk, gr.step _ hDk]
      exact ⟨rfl, hDk1⟩
  have hend : ¬ G (j + ((grid.length + 1 : Nat) : Int)) ≤ last := by
    rw [← (hG (grid.length + 1) (Nat.le_refl _)).1]; exact hg2
  exact ⟨j, _, hj, (hG (grid.length + 1) (Nat.le_refl _)).2, hlt, hend, gr.mem_grid_iff hq (j := j)
    (fun i hi => (hG i hi).2)
    (fun i hi => ⟨(hg1 i hi).1.trans (hG (i + 1) (by omega)).1, (hg1 i hi).2⟩) hend hlt hnext⟩

/-- the first and the last evaluation date bound the walks, so the room is asked of evaluation dates -/
theorem aggregateEval_eq (hq : 1 ≤ q) (hs : t.Pairwise (fun a b => Cell.le a b)) (hk : kindsConsistent t = true)
    (h : aggregateEval t (some (q0, s)) origin = .ok out) (hst : standardizeResolution q0 s = .ok (q, u))
    (hev : ∀ c ∈ t, c.ev.valid = true ∧ RoomAbove G D c.ev ∧ RoomBelow G D c.ev ∧ RoomAbove G D c.ev.succ) :
    out = t.filter fun c => Spec.C08.onGrid q u origin c.ev := by
  obtain ⟨q2, u2, first, last, grid, hst', hmin, hmax, hgrid, hof⟩ := aggregateEval_ok h
  rw [Triangle.ofCells_sublist List.filter_sublist hs hk] at hof
  rw [hst] at hst'
  cases hst'
  cases hof
  obtain ⟨cf, hcf, rfl⟩ := List.mem_map.mp (minDate_spec hmin).1
  obtain ⟨cl, hcl, rfl⟩ := List.mem_map.mp (maxDateAgg_spec hmax).1
  obtain ⟨m, n, hm, hn, hlt, hend, hmem⟩ := gr.mem_validEvals hq (hev cf hcf).2.1 (hev cf hcf).2.2.1
    (hev cl hcl).2.2.2 hgrid
  refine List.filter_congr fun c hc => ?_
  have hce : c.ev ∈ t.map (·.ev) := List.mem_map.mpr ⟨c, hc, rfl⟩
  have h1 := (minDate_spec hmin).2 _ hce
  have h2 := (maxDateAgg_spec hmax).2 _ hce
  rw [Bool.eq_iff_iff, List.contains_iff_mem, hmem,
    gr.onGrid m n c.ev hm hn (hev c hc).1 (DateOrder.lt_of_lt_of_not_lt hlt h1)
      fun hc' => hend (DateOrder.le_of_lt (DateOrder.lt_of_lt_of_le hc' (DateOrder.not_lt.mp h2)))]
  exact ⟨fun h => h.1, fun h => ⟨h, DateOrder.le_iff_not_lt.mpr h1, DateOrder.le_iff_not_lt.mpr h2⟩⟩

end GridForm

theorem GridForm.windowsOk_cum {q : Int} {u : ResUnit} {G : Int → Date} {D : Int → Prop} {tr : Transc}
    {t out : List Cell} {a : AggArgs} {q0 : Int} {s : String} (gr : GridForm q u a.periodOrigin G D)
    (h : aggregateCum tr t a = .ok out) (hp : a.periodRes = some (q0, s))
    (hst : standardizeResolution q0 s = .ok (q, u))
    (hcells : ∀ c ∈ t, RoomAbove G D c.ps ∧ RoomBelow G D c.ps) :
    Spec.C08.windowsOk q u a.periodOrigin out = true := by
  obtain ⟨aggs, haggs, hperm⟩ := aggregateCum_perm h
  rw [windowsOk_iff]
  intro o ho
  obtain ⟨r, hr, hor⟩ := List.mem_flatten.mp (hperm.mem_iff.mp ho)
  obtain ⟨p, hp', hrun⟩ := smMapE_mem haggs hr
  obtain ⟨e, hev, hper⟩ := aggregateSlice_ok hrun
  rw [hp] at hper
  exact windowsOk_iff.mp (gr.windowsOk hper hst fun c hc =>
    hcells c (mem_of_mem_slices hp' (aggregateEval_subset hev c hc))) o hor

/-- a grid point lies a multiple of the step from the origin (the divisibility test of `Spec.C08.onGrid`) -/
theorem add_mul_sub_emod (o k q : Int) : (o + k * q - o) % q = 0 := by
  rw [show o + k * q - o = k * q by omega]; exact Int.mul_emod_left k q

theorem add_mul_lt (o : Int) {m n q : Int} (hq : 1 ≤ q) (h : m < n) : o + m * q < o + n * q :=
  Int.add_lt_add_left (Int.mul_lt_mul_of_pos_right h (by omega)) o

/-! ### month units from a valid month end -/

/-- the closed-form `isWindow` holds for the window `[monthEnd (M₀ + n·q) + 1 day, monthEnd (M₀ + (n+1)·q)]` -/
theorem isWindow_month (q : Int) (origin : Date) (n : Int) :
    Spec.C08.isWindow q .month origin (monthEndOf (monthToId origin + n * q)).succ
      (monthEndOf (monthToId origin + (n + 1) * q)) = true := by
  simp only [Spec.C08.isWindow, Spec.C08.onGrid, cal, Int.add_sub_cancel, Bool.true_and, Bool.and_eq_true,
    beq_iff_eq]
  exact ⟨⟨add_mul_sub_emod _ n q, add_mul_sub_emod _ (n + 1) q⟩, by ring⟩

/-- the closed-form window end of `Spec.C08` for a date inside window `n` of the origin's grid -/
theorem windowEnd_month {q : Int} {origin d : Date} {n : Int} (hq : 1 ≤ q) (hd : d.valid = true)
    (h1 : monthEndOf (monthToId origin + n * q) < d) (h2 : ¬ (monthEndOf (monthToId origin + (n + 1) * q) < d)) :
    Spec.C08.windowEnd q .month origin d = monthEndOf (monthToId origin + (n + 1) * q) := by
  rw [monthEndOf_lt_iff hd] at h1
  rw [monthEndOf_lt_iff hd, Int.not_lt] at h2
  unfold Spec.C08.windowEnd
  simp only
  rw [idToMonth_false, ediv_window hq h1 h2]

/-- the closed-form grid test of `Spec.C08` is "last day of month `M₀ + k·q` for an integer `k`" -/
theorem onGrid_month_iff {q : Int} {origin d : Date} (hd : d.valid = true) :
    Spec.C08.onGrid q .month origin d = true ↔ ∃ k : Int, d = monthEndOf (monthToId origin + k * q) := by
  unfold Spec.C08.onGrid
  simp only [Bool.and_eq_true, beq_iff_eq]
  constructor
  · rintro ⟨hme, hmod⟩
    refine ⟨(monthToId d - monthToId origin) / q, ?_⟩
    have := Int.emod_add_mul_ediv (monthToId d - monthToId origin) q
    rw [hmod] at this
    have e : monthToId origin + (monthToId d - monthToId origin) / q * q = monthToId d := by
      rw [Int.mul_comm]; omega
    rw [e, monthEndOf_monthToId hd hme]
  · rintro ⟨k, rfl⟩
    refine ⟨monthEndOf_isMonthEnd _, ?_⟩
    rw [monthToId_monthEndOf]
    exact add_mul_sub_emod _ k q

theorem gridForm_month (q : Int) {origin : Date} (hv : origin.valid = true) (he : origin.isMonthEnd = true) :
    GridForm q .month origin (fun k => monthEndOf (monthToId origin + k * q)) (fun _ => True) where
  zero := by simp [monthEndOf_monthToId hv he]
  dom0 := trivial
  dom1 := trivial
  valid _ _ := monthEndOf_valid _
  step k _ := by
    rw [resolutionDelta_month, addMonths_monthEndOf, monthEndOf_inj]
    simp only [Bool.false_eq_true, if_false]; ring
  back k _ := by
    rw [resolutionDelta_month, addMonths_monthEndOf, monthEndOf_inj]
    simp only [if_true]; ring
  lt hq m n _ _ h := monthEndOf_lt_monthEndOf.mpr (add_mul_lt _ hq h)
  isWindow n _ _ := isWindow_month q origin n
  windowEnd hq _ _ _ _ := windowEnd_month hq
  onGrid _ _ _ _ _ hd _ _ :=
    (onGrid_month_iff hd).trans ⟨fun ⟨k, hk⟩ => ⟨k, trivial, hk⟩, fun ⟨k, _, hk⟩ => ⟨k, hk⟩⟩

theorem roomAbove_true {G : Int → Date} {b : Date} : RoomAbove G (fun _ => True) b := fun _ _ _ => trivial

theorem roomBelow_true {G : Int → Date} {b : Date} : RoomBelow G (fun _ => True) b := fun _ _ _ => trivial

/-! ### day units, inside `date.min … date.max` -/

abbrev dayGrid (origin : Date) (q k : Int) : Date := Date.ofOrdinal (origin.ordinal + k * q)

/-- `3652059` is `date.max.toordinal()` (`ofOrdinal_spec`) -/
abbrev dayDom (origin : Date) (q k : Int) : Prop :=
  1 ≤ origin.ordinal + k * q ∧ origin.ordinal + k * q ≤ 3652059

theorem dayGrid_spec {origin : Date} {q k : Int} (hk : dayDom origin q k) :
    (dayGrid origin q k).valid = true ∧ (dayGrid origin q k).ordinal = origin.ordinal + k * q :=
  ofOrdinal_spec _ hk.1 hk.2

theorem isWindow_day {q : Int} {origin : Date} {n : Int} (hn : dayDom origin q n) (hn1 : dayDom origin q (n + 1)) :
    Spec.C08.isWindow q .day origin (dayGrid origin q n).succ (dayGrid origin q (n + 1)) = true := by
  obtain ⟨hv, ho⟩ := dayGrid_spec hn
  unfold Spec.C08.isWindow Spec.C08.onGrid
  simp only [Bool.and_eq_true, beq_iff_eq]
  rw [DateOrder.pred_succ hv, ordinal_succ hv, ho, (dayGrid_spec hn1).2]
  refine ⟨⟨?_, ?_⟩, ?_⟩
  · exact add_mul_sub_emod _ n q
  · exact add_mul_sub_emod _ (n + 1) q
  · ring

theorem windowEnd_day {q : Int} {origin d : Date} {n : Int} (hq : 1 ≤ q) (hn : dayDom origin q n)
    (hn1 : dayDom origin q (n + 1)) (hd : d.valid = true) (h1 : dayGrid origin q n < d)
    (h2 : ¬ dayGrid origin q (n + 1) < d) :
    Spec.C08.windowEnd q .day origin d = dayGrid origin q (n + 1) := by
  have o1 := ordinal_lt_of_lt (dayGrid_spec hn).1 hd h1
  have o2 := (ordinal_le_iff hd (dayGrid_spec hn1).1).mpr (DateOrder.not_lt.mp h2)
  rw [(dayGrid_spec hn).2] at o1
  rw [(dayGrid_spec hn1).2] at o2
  unfold Spec.C08.windowEnd
  simp only
  rw [ediv_window hq o1 o2]

theorem onGrid_day_iff {q : Int} {origin d : Date} :
    Spec.C08.onGrid q .day origin d = true ↔ ∃ k : Int, d.ordinal = origin.ordinal + k * q := by
  unfold Spec.C08.onGrid
  simp only [beq_iff_eq]
  constructor
  · intro hmod
    refine ⟨(d.ordinal - origin.ordinal) / q, ?_⟩
    have := Int.emod_add_mul_ediv (d.ordinal - origin.ordinal) q
    rw [hmod] at this
    rw [Int.mul_comm]; omega
  · rintro ⟨k, hk⟩
    rw [hk]; exact add_mul_sub_emod _ k q

theorem gridForm_day {q : Int} {origin : Date} (hq : 1 ≤ q) (hv : origin.valid = true) (h1 : 1 ≤ origin.ordinal)
    (h2 : origin.ordinal + q ≤ 3652059) : GridForm q .day origin (dayGrid origin q) (dayDom origin q) where
  zero := by
    have h := ofOrdinal_spec origin.ordinal h1 (by omega)
    simpa [dayGrid] using (ordinal_inj h.1 hv).mp h.2
  dom0 := by unfold dayDom; omega
  dom1 := by unfold dayDom; omega
  valid k hk := (dayGrid_spec hk).1
  step k hk := by
    show Date.ofOrdinal (_ + q) = _
    rw [(dayGrid_spec hk).2]; congr 1; ring
  back k hk := by
    show Date.ofOrdinal (_ + -q) = _
    rw [(dayGrid_spec hk).2]; congr 1; ring
  lt hq m n hm hn h :=
    (ordinal_lt_iff (dayGrid_spec hm).1 (dayGrid_spec hn).1).mp
      (by rw [(dayGrid_spec hm).2, (dayGrid_spec hn).2]; exact add_mul_lt _ hq h)
  isWindow _ := isWindow_day
  windowEnd hq _ _ := windowEnd_day hq
  onGrid m n d hm hn hd h1 h2 := by
    have o1 := ordinal_lt_of_lt (dayGrid_spec hm).1 hd h1
    have o2 := (ordinal_le_iff hd (dayGrid_spec hn).1).mpr (DateOrder.not_lt.mp h2)
    rw [(dayGrid_spec hm).2] at o1
    rw [(dayGrid_spec hn).2] at o2
    rw [onGrid_day_iff]
    constructor
    · -- a valid date between two points of the domain IS the grid point of its ordinal
      rintro ⟨k, hk⟩
      have hD : dayDom origin q k := ⟨by have := hm.1; omega, by have := hn.2; omega⟩
      exact ⟨k, hD, (ordinal_inj hd (dayGrid_spec hD).1).mp (by rw [(dayGrid_spec hD).2, hk])⟩
    · rintro ⟨k, hk, rfl⟩
      exact ⟨k, (dayGrid_spec hk).2⟩

theorem roomAbove_day {q : Int} {origin b : Date} (hq : 1 ≤ q) (hvb : b.valid = true)
    (hb : b.ordinal + q ≤ 3652059) : RoomAbove (dayGrid origin q) (dayDom origin q) b := by
  intro k hk hlt
  have := ordinal_lt_of_lt (dayGrid_spec hk).1 hvb hlt
  rw [(dayGrid_spec hk).2] at this
  have e : origin.ordinal + (k + 1) * q = origin.ordinal + k * q + q := by ring
  unfold dayDom at hk ⊢
  omega

theorem roomBelow_day {q : Int} {origin b : Date} (hq : 1 ≤ q) (hvb : b.valid = true) (hb : q < b.ordinal) :
    RoomBelow (dayGrid origin q) (dayDom origin q) b := by
  intro k hk hle
  have := (ordinal_le_iff hvb (dayGrid_spec hk).1).mpr hle
  rw [(dayGrid_spec hk).2] at this
  have e : origin.ordinal + (k - 1) * q = origin.ordinal + k * q - q := by ring
  unfold dayDom at hk ⊢
  omega

theorem room_day {q : Int} {origin b : Date} (hq : 1 ≤ q)
    (h : b.valid = true ∧ q < b.ordinal ∧ b.ordinal + q ≤ 3652059) :
    RoomAbove (dayGrid origin q) (dayDom origin q) b ∧ RoomBelow (dayGrid origin q) (dayDom origin q) b :=
  ⟨roomAbove_day hq h.1 h.2.2, roomBelow_day hq h.1 h.2.1⟩

/-- the room an evaluation date needs: for the anchor walk to it, and above the day after it for the grid walk -/
theorem room_day_ev {q : Int} {origin d : Date} (hq : 1 ≤ q)
    (h : d.valid = true ∧ q < d.ordinal ∧ d.ordinal + 1 + q ≤ 3652059) :
    d.valid = true ∧ RoomAbove (dayGrid origin q) (dayDom origin q) d ∧
      RoomBelow (dayGrid origin q) (dayDom origin q) d ∧ RoomAbove (dayGrid origin q) (dayDom origin q) d.succ :=
  ⟨h.1, roomAbove_day hq h.1 (by omega), roomBelow_day hq h.1 h.2.1,
    roomAbove_day hq (succ_valid h.1) (by rw [ordinal_succ h.1]; omega)⟩

/-! ### a closed instance: three quarters into half-years (used by the non-vacuity examples of `Properties/C08`) -/

def aggExQ : List Cell :=
  [ { kind := .cumulative, ps := ⟨2020, 1, 1⟩, pe := ⟨2020, 3, 31⟩, ev := ⟨2020, 12, 31⟩,
      values := [("paid_loss", .int 10)] },
    { kind := .cumulative, ps := ⟨2020, 4, 1⟩, pe := ⟨2020, 6, 30⟩, ev := ⟨2020, 12, 31⟩,
      values := [("paid_loss", .int 5)] },
    { kind := .cumulative, ps := ⟨2020, 7, 1⟩, pe := ⟨2020, 9, 30⟩, ev := ⟨2020, 12, 31⟩,
      values := [("paid_loss", .int 2)] } ]

def aggExOut : List Cell :=
  [ { kind := .cumulative, ps := ⟨2020, 1, 1⟩, pe := ⟨2020, 6, 30⟩, ev := ⟨2020, 12, 31⟩,
      values := [("paid_loss", .int 15)] },
    { kind := .cumulative, ps := ⟨2020, 7, 1⟩, pe := ⟨2020, 12, 31⟩, ev := ⟨2020, 12, 31⟩,
      values := [("paid_loss", .int 2)] } ]

theorem aggExQ_anchor : anchorBefore 6 .month ⟨1999, 12, 31⟩ ⟨2020, 1, 1⟩ = some ⟨2019, 12, 31⟩ := by
  decide +kernel

/-- the stable sorts are rewritten into the form the kernel can run, which evaluates the rest -/
theorem aggExQ_aggregates :
    aggregatePeriod Transc.id aggExQ (some (6, "month")) ⟨1999, 12, 31⟩ true = .ok aggExOut := by
  simp only [aggregatePeriod, mergeSort_leOf, ofCells_eq_insertionSort]
  decide +kernel

theorem aggExQ_evalAgg : aggregateEval aggExQ (some (1, "year")) ⟨1999, 12, 31⟩ = .ok aggExQ := by
  simp only [aggregateEval, ofCells_eq_insertionSort]
  decide +kernel

end Bermuda
