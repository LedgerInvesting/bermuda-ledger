/-
Facts about the stable sort (`List.mergeSort`) under a transitive, oriented comparison: sortedness, permutation, and
that a sorted permutation is unique when ties are identical elements; with ties, core's `sublist_mergeSort` /
`mergeSort_cons` say where equal elements go. This is why Python's Timsort is not modelled. The comparison comes as
`leOf cmp` (cells, metadata, items) or as `decide (a ≤ b)` (`Int`, `Rat`).
-/
import Bermuda.Lemmas.Order
import Bermuda.Model.Triangle
namespace Bermuda
open Std
universe u

variable {α : Type} {cmp : α → α → Ordering}

/-- `not (b < a)` as a Bool: the `le` handed to the sort -/
def leOf (cmp : α → α → Ordering) (a b : α) : Bool := cmp a b != .gt

theorem leOf_iff_isLE {a b : α} : leOf cmp a b = true ↔ (cmp a b).isLE = true := by
  unfold leOf; cases cmp a b <;> simp

theorem leOf_refl [ReflCmp cmp] (a : α) : leOf cmp a a = true :=
  leOf_iff_isLE.mpr (Ordering.isLE_of_eq_eq ReflCmp.compare_self)

theorem leOf_trans [TransCmp cmp] (a b c : α) : leOf cmp a b → leOf cmp b c → leOf cmp a c := by
  simp only [leOf_iff_isLE]; exact TransCmp.isLE_trans

theorem leOf_total [OrientedCmp cmp] (a b : α) : (leOf cmp a b || leOf cmp b a) = true := by
  unfold leOf
  rw [OrientedCmp.eq_swap (cmp := cmp) (a := b) (b := a)]
  cases cmp a b <;> simp

theorem leOf_antisymm [OrientedCmp cmp] {a b : α} (h1 : leOf cmp a b) (h2 : leOf cmp b a) :
    cmp a b = .eq := by
  unfold leOf at h1 h2
  rw [OrientedCmp.eq_swap (cmp := cmp) (a := b) (b := a)] at h2
  revert h1 h2
  cases cmp a b <;> simp

theorem sorted_mergeSort [TransCmp cmp] (l : List α) :
    (l.mergeSort (leOf cmp)).Pairwise (fun a b => leOf cmp a b) :=
  List.pairwise_mergeSort leOf_trans leOf_total l

/-- two sorted permutations of each other are equal when `cmp = .eq` means equality on the
elements -/
theorem sorted_perm_unique [TransCmp cmp] {l₁ l₂ : List α}
    (heq : ∀ a b, a ∈ l₁ → b ∈ l₂ → cmp a b = .eq → a = b)
    (h₁ : l₁.Pairwise (fun a b => leOf cmp a b)) (h₂ : l₂.Pairwise (fun a b => leOf cmp a b))
    (hp : l₁.Perm l₂) : l₁ = l₂ :=
  List.Perm.eq_of_pairwise (le := fun a b => leOf cmp a b = true)
    (fun a b ha hb hab hba => heq a b ha hb (leOf_antisymm hab hba)) h₁ h₂ hp

/-- the stable sort of a list depends only on the multiset when ties are identical elements -/
theorem mergeSort_perm_invariant [TransCmp cmp] {l₁ l₂ : List α} (hp : l₁.Perm l₂)
    (heq : ∀ a b, a ∈ l₁ → b ∈ l₁ → cmp a b = .eq → a = b) :
    l₁.mergeSort (leOf cmp) = l₂.mergeSort (leOf cmp) := by
  apply sorted_perm_unique (cmp := cmp)
  · intro a b ha hb
    have ha' : a ∈ l₁ := (List.mergeSort_perm l₁ _).mem_iff.mp ha
    have hb' : b ∈ l₁ := hp.mem_iff.mpr ((List.mergeSort_perm l₂ _).mem_iff.mp hb)
    exact heq a b ha' hb'
  · exact sorted_mergeSort l₁
  · exact sorted_mergeSort l₂
  · exact (List.mergeSort_perm l₁ _).trans (hp.trans (List.mergeSort_perm l₂ _).symm)

/-- a sub-list (order kept) of a sorted list is sorted, so sorting it again changes nothing -/
theorem mergeSort_sublist_sorted {l s : List α} (hs : s.Sublist l)
    (hl : l.Pairwise (fun a b => leOf cmp a b)) : s.mergeSort (leOf cmp) = s :=
  List.mergeSort_of_pairwise (hl.sublist hs)

theorem eq_of_between [TransCmp cmp] {a b c : α} (hab : leOf cmp a b) (hbc : leOf cmp b c)
    (hac : cmp a c = .eq) : cmp a b = .eq :=
  leOf_antisymm hab (leOf_trans b c a hbc (by unfold leOf; rw [OrientedCmp.eq_swap (cmp := cmp), hac]; rfl))

def insertSorted {α} (le : α → α → Bool) (a : α) : List α → List α
  | [] => [a]
  | b :: s => if le a b then a :: b :: s else b :: insertSorted le a s

/-- the stable sort by structural recursion. `List.mergeSort` is defined by well-founded recursion and does not
reduce in the kernel; concrete witnesses are evaluated through this one (`mergeSort_eq_insertionSort`). -/
def insertionSort {α} (le : α → α → Bool) (l : List α) : List α := l.foldr (insertSorted le) []

theorem insertSorted_append {α} {le : α → α → Bool} {a : α} {l₁ l₂ : List α}
    (h₁ : ∀ b ∈ l₁, (!le a b) = true) (h₂ : ∀ b ∈ l₂, le a b = true) :
    insertSorted le a (l₁ ++ l₂) = l₁ ++ a :: l₂ := by
  induction l₁ with
  | nil => cases l₂ with
    | nil => rfl
    | cons b s => simp [insertSorted, h₂ b]
  | cons b s ih =>
    have hb := h₁ b (by simp)
    simp only [Bool.not_eq_true'] at hb
    simp [insertSorted, hb, ih fun x hx => h₁ x (by simp [hx])]

theorem mergeSort_eq_insertionSort {α} {le : α → α → Bool} (trans : ∀ a b c, le a b → le b c → le a c)
    (total : ∀ a b, le a b || le b a) (l : List α) : l.mergeSort le = insertionSort le l := by
  induction l with
  | nil => simp [insertionSort]
  | cons a l ih =>
    obtain ⟨l₁, l₂, h, hl, h₁⟩ := List.mergeSort_cons trans total a l
    have hs := List.pairwise_mergeSort trans total (a :: l)
    rw [h] at hs
    rw [h, insertionSort, List.foldr_cons, ← insertionSort, ← ih, hl]
    exact (insertSorted_append h₁ fun _ => List.rel_of_pairwise_cons (List.pairwise_append.mp hs).2.1).symm

theorem mergeSort_leOf [TransCmp cmp] (l : List α) :
    l.mergeSort (fun a b => cmp a b != .gt) = insertionSort (fun a b => cmp a b != .gt) l :=
  mergeSort_eq_insertionSort (leOf_trans (cmp := cmp)) leOf_total l

theorem mergeSort_cellLe (l : List Cell) : l.mergeSort Cell.le = insertionSort Cell.le l :=
  mergeSort_leOf (cmp := Cell.cmp) l

theorem ofCells_eq_insertionSort : Triangle.ofCells = fun l =>
    if kindsConsistent l then .ok (insertionSort Cell.le l) else .error .triangleError :=
  funext fun l => by rw [Triangle.ofCells, mergeSort_cellLe]

section strict

theorem pairwise_lt_of_sorted_nodup {l : List α} (heq : ∀ a ∈ l, ∀ b ∈ l, cmp a b = .eq → a = b)
    (hs : l.Pairwise (fun a b => leOf cmp a b)) (hn : l.Nodup) :
    l.Pairwise (fun a b => cmp a b = .lt) := by
  refine (hs.and hn).imp_of_mem fun {a b} ha hb ⟨hle, hne⟩ => ?_
  have : cmp a b ≠ .eq := fun h => hne (heq a ha b hb h)
  revert hle this
  unfold leOf
  cases cmp a b <;> simp

theorem eq_of_cmp_eq_of_pairwise_lt [OrientedCmp cmp] {l : List α}
    (hp : l.Pairwise (fun a b => cmp a b = .lt)) {a b : α} (ha : a ∈ l) (hb : b ∈ l)
    (e : cmp a b = .eq) : a = b := by
  obtain ⟨i, hi, rfl⟩ := List.getElem_of_mem ha
  obtain ⟨j, hj, rfl⟩ := List.getElem_of_mem hb
  rcases Nat.lt_trichotomy i j with h | rfl | h
  · rw [List.pairwise_iff_getElem.mp hp i j hi hj h] at e; cases e
  · rfl
  · rw [OrientedCmp.eq_swap (cmp := cmp), List.pairwise_iff_getElem.mp hp j i hj hi h] at e
    cases e

end strict

theorem mergeSort_filter_stable_of_mem {α : Type u} {le : α → α → Bool}
    (htrans : ∀ a b c, le a b → le b c → le a c) (htotal : ∀ a b, le a b || le b a)
    (q : α → Bool) (l : List α) (hq : ∀ a ∈ l, ∀ b ∈ l, q a → q b → le a b) :
    (l.mergeSort le).filter q = l.filter q := by
  have hpw : (l.filter q).Pairwise (fun a b => le a b) :=
    List.pairwise_of_forall_mem_list fun a ha b hb =>
      hq a (List.mem_filter.mp ha).1 b (List.mem_filter.mp hb).1 (List.mem_filter.mp ha).2 (List.mem_filter.mp hb).2
  -- `l.filter q` is a sorted sublist of `l`, hence of the sorted list, hence of its `q`-part
  have hsub := (List.sublist_mergeSort htrans htotal hpw List.filter_sublist).filter q
  rw [List.filter_filter, List.filter_congr (q := q) (fun _ _ => Bool.and_self _)] at hsub
  exact (hsub.eq_of_length ((List.mergeSort_perm l le).filter q).length_eq.symm).symm

theorem mergeSort_filter_stable {α : Type u} {le : α → α → Bool}
    (htrans : ∀ a b c, le a b → le b c → le a c) (htotal : ∀ a b, le a b || le b a)
    (q : α → Bool) (l : List α) (hq : ∀ a b, q a → q b → le a b) :
    (l.mergeSort le).filter q = l.filter q :=
  mergeSort_filter_stable_of_mem htrans htotal q l fun a _ b _ => hq a b

section sortLe
variable {α : Type u} {le : α → α → Prop} [DecidableRel le]

theorem pairwise_mergeSort_decide (htrans : ∀ a b c, le a b → le b c → le a c)
    (htotal : ∀ a b, le a b ∨ le b a) (l : List α) :
    (l.mergeSort fun a b => decide (le a b)).Pairwise le :=
  (List.pairwise_mergeSort (le := fun a b => decide (le a b))
    (fun a b c h₁ h₂ => decide_eq_true (htrans a b c (of_decide_eq_true h₁) (of_decide_eq_true h₂)))
    (fun a b => by simpa using htotal a b) l).imp of_decide_eq_true

theorem mergeSort_decide_eq_of_perm (htrans : ∀ a b c, le a b → le b c → le a c)
    (htotal : ∀ a b, le a b ∨ le b a) (hanti : ∀ a b, le a b → le b a → a = b)
    {l₁ l₂ : List α} (hp : l₁.Perm l₂) :
    l₁.mergeSort (fun a b => decide (le a b)) = l₂.mergeSort (fun a b => decide (le a b)) :=
  List.Perm.eq_of_pairwise (fun a b _ _ => hanti a b) (pairwise_mergeSort_decide htrans htotal l₁)
    (pairwise_mergeSort_decide htrans htotal l₂)
    ((List.mergeSort_perm l₁ _).trans (hp.trans (List.mergeSort_perm l₂ _).symm))

end sortLe

theorem pairwise_sortInt (l : List Int) : (l.mergeSort fun a b => a ≤ b).Pairwise (· ≤ ·) :=
  pairwise_mergeSort_decide (le := (· ≤ ·)) (fun _ _ _ => Int.le_trans) Int.le_total l

theorem pairwise_lt_sortInt {l : List Int} (hn : l.Nodup) :
    (l.mergeSort fun a b => a ≤ b).Pairwise (· < ·) :=
  ((pairwise_sortInt l).and ((List.mergeSort_perm l _).nodup_iff.mpr hn)).imp
    fun ⟨hle, hne⟩ => Int.lt_iff_le_and_ne.mpr ⟨hle, hne⟩

theorem pairwise_sortRat (l : List Rat) : (l.mergeSort fun a b => a ≤ b).Pairwise (· ≤ ·) :=
  pairwise_mergeSort_decide (le := (· ≤ ·)) (fun _ _ _ => Rat.le_trans) (fun _ _ => Rat.le_total) l

theorem sortRat_eq_of_perm {l₁ l₂ : List Rat} (hp : l₁.Perm l₂) :
    l₁.mergeSort (fun a b => a ≤ b) = l₂.mergeSort (fun a b => a ≤ b) :=
  mergeSort_decide_eq_of_perm (le := (· ≤ ·)) (fun _ _ _ => Rat.le_trans) (fun _ _ => Rat.le_total)
    (fun _ _ => Rat.le_antisymm) hp

theorem sortItems_congr_perm {d₁ d₂ : Dict MVal} (hp : d₁.Perm d₂) : sortItems d₁ = sortItems d₂ :=
  mergeSort_perm_invariant (cmp := itemCmp) hp fun _ _ _ _ => itemCmp_eq_eq.mp

theorem sortItems_of_perm_canon {l d : Dict MVal} (hp : l.Perm d) (hd : DictCanon d) : sortItems l = d :=
  (sortItems_congr_perm hp).trans (sortItems_of_canon hd)

theorem dictCanon_sortItems (d : Dict MVal) (h : (d.map (·.1)).Nodup) : DictCanon (sortItems d) := by
  have hn : ((sortItems d).map (·.1)).Nodup := ((sortItems_perm d).map _).nodup_iff.mpr h
  refine ((sorted_mergeSort (cmp := itemCmp) d).and (List.pairwise_map.mp hn)).imp fun {a b} ⟨hle, hab⟩ => ?_
  -- sorted by `(key, value)` with distinct keys is strictly sorted by key
  have := compareLex_ne_gt_left (c₁ := cmpOn (fun p : String × MVal => p.1) compare) (bne_iff_ne.mp hle)
  cases hc : compare a.1 b.1 with
  | lt => rfl
  | eq => exact absurd (compare_eq_iff_eq.mp hc) hab
  | gt => exact absurd hc this

theorem Cell.le_trans (a b c : Cell) : Cell.le a b = true → Cell.le b c = true → Cell.le a c = true :=
  leOf_trans (cmp := Cell.cmp) a b c

theorem Cell.le_md {a b : Cell} (h : Cell.le a b = true) : Metadata.cmp a.md b.md ≠ .gt :=
  compareLex_ne_gt_left (c₁ := cmpOn (fun c : Cell => c.md) Metadata.cmp) (Cell.le_iff.mp h)

theorem Cell.le_cases {a b : Cell} (h : Cell.le a b = true) :
    Metadata.cmp a.md b.md = .eq ∨ Metadata.cmp a.md b.md = .lt := by
  have := Cell.le_md h
  revert this
  cases Metadata.cmp a.md b.md <;> simp

theorem Cell.md_eq_of_between {a b c : Cell} (hab : Cell.le a b = true) (hbc : Cell.le b c = true)
    (hac : Metadata.cmp a.md c.md = .eq) : Metadata.cmp a.md b.md = .eq :=
  eq_of_between (bne_iff_ne.mpr (Cell.le_md hab)) (bne_iff_ne.mpr (Cell.le_md hbc)) hac

theorem Cell.le_of_md_lt {a b : Cell} (h : Metadata.cmp a.md b.md = .lt) : Cell.le a b = true :=
  Cell.le_of_cmp_lt (Cell.cmp_of_md_lt h)

theorem sortStrings_eq_iff_perm {a b : List String} : sortStrings a = sortStrings b ↔ a.Perm b := by
  constructor
  · intro h
    have ha := List.mergeSort_perm a (fun a b => compare a b != .gt)
    have hb := List.mergeSort_perm b (fun a b => compare a b != .gt)
    unfold sortStrings at h
    exact ha.symm.trans (h ▸ hb)
  · intro h
    exact mergeSort_perm_invariant (cmp := (compare : String → String → Ordering)) h
      (fun a b _ _ hab => LawfulEqCmp.eq_of_compare hab)

theorem sortStrings_perm (a : List String) : (sortStrings a).Perm a :=
  List.mergeSort_perm a _

/-- `sorted(row, key=evaluation_date)`; the models' `evLe` is its `leOf` -/
def evCmp : Cell → Cell → Ordering := cmpOn (·.ev) Date.cmp

instance : TransCmp evCmp := by unfold evCmp; infer_instance

theorem leOf_evCmp_iff {a b : Cell} : leOf evCmp a b = true ↔ a.ev ≤ b.ev := by
  show _ ↔ Date.cmp a.ev b.ev ≠ .gt
  simp [leOf, evCmp, cmpOn]

end Bermuda
