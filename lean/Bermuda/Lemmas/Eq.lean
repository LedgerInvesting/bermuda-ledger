/-
Helper lemmas for C02: `values_eq`, `Metadata.__eq__`, `Cell.__eq__`, `Triangle.__eq__` are
equivalence relations with a declarative characterisation; the counting argument behind
"one edit makes it unequal".  Core Lean only.
-/
import Bermuda.Model.Eq
import Bermuda.Lemmas.Sort
import Bermuda.Lemmas.Assoc
import Bermuda.Lemmas.Triangle
namespace Bermuda
open Std

theorem Val.eqv_iff {x y : Val} : x.eqv y = true ↔ x.shape = y.shape ∧ x.data = y.data := by
  simp [Val.eqv]

theorem Val.eqv_refl (x : Val) : x.eqv x = true := by simp [Val.eqv]

theorem Val.eqv_symm {x y : Val} (h : x.eqv y = true) : y.eqv x = true := by
  rw [Val.eqv_iff] at *; exact ⟨h.1.symm, h.2.symm⟩

theorem Val.eqv_trans {x y z : Val} (h₁ : x.eqv y = true) (h₂ : y.eqv z = true) : x.eqv z = true := by
  rw [Val.eqv_iff] at *; exact ⟨h₁.1.trans h₂.1, h₁.2.trans h₂.2⟩

theorem keysEq_iff {a b : Dict Val} : keysEq a b = true ↔ a.keys.Perm b.keys := by
  simp [keysEq, sortStrings_eq_iff_perm]

theorem valueEqAt_iff {a b : Dict Val} {k : String} :
    valueEqAt a b k = true ↔ ∃ x y, a.get? k = some x ∧ b.get? k = some y ∧ x.eqv y = true := by
  unfold valueEqAt
  split
  · rename_i x y hx hy; simp [hx, hy]
  · rename_i h
    constructor
    · intro h'; cases h'
    · rintro ⟨x, y, hx, hy, _⟩; exact absurd hy (by intro hy; exact h x y hx hy)

/-- **characterisation of `values_eq`**: same field names (as multisets; Python dicts have distinct
keys) and under every name numerically equal values of equal shape -/
theorem valuesEq_iff {a b : Dict Val} :
    valuesEq a b = true ↔
      a.keys.Perm b.keys ∧ ∀ k ∈ a.keys, ∃ x y, a.get? k = some x ∧ b.get? k = some y ∧ x.eqv y = true := by
  simp only [valuesEq, Bool.and_eq_true, keysEq_iff, List.all_eq_true, valueEqAt_iff]

theorem valuesEq_refl (a : Dict Val) : valuesEq a a = true := by
  rw [valuesEq_iff]
  refine ⟨List.Perm.refl _, fun k hk => ?_⟩
  obtain ⟨v, hv⟩ := Dict.get?_of_mem_keys hk
  exact ⟨v, v, hv, hv, Val.eqv_refl v⟩

theorem valuesEq_symm {a b : Dict Val} (h : valuesEq a b = true) : valuesEq b a = true := by
  rw [valuesEq_iff] at *
  refine ⟨h.1.symm, fun k hk => ?_⟩
  obtain ⟨x, y, hx, hy, hxy⟩ := h.2 k (h.1.mem_iff.mpr hk)
  exact ⟨y, x, hy, hx, Val.eqv_symm hxy⟩

theorem valuesEq_trans {a b c : Dict Val} (h₁ : valuesEq a b = true) (h₂ : valuesEq b c = true) :
    valuesEq a c = true := by
  rw [valuesEq_iff] at *
  refine ⟨h₁.1.trans h₂.1, fun k hk => ?_⟩
  obtain ⟨x, y, hx, hy, hxy⟩ := h₁.2 k hk
  obtain ⟨y', z, hy', hz, hyz⟩ := h₂.2 k (h₁.1.mem_iff.mp hk)
  have : y = y' := by rw [hy] at hy'; exact Option.some.inj hy'
  subst this
  exact ⟨x, z, hx, hz, Val.eqv_trans hxy hyz⟩

theorem Metadata.eqv_iff_hashKey {a b : Metadata} : a.eqv b = true ↔ a.hashKey = b.hashKey := by
  cases a; cases b
  simp [Metadata.eqv, Metadata.hashKey, and_assoc]

theorem Metadata.eqv_refl (a : Metadata) : a.eqv a = true := Metadata.eqv_iff_hashKey.mpr rfl
theorem Metadata.eqv_symm {a b : Metadata} (h : a.eqv b = true) : b.eqv a = true :=
  Metadata.eqv_iff_hashKey.mpr (Metadata.eqv_iff_hashKey.mp h).symm
theorem Metadata.eqv_trans {a b c : Metadata} (h₁ : a.eqv b = true) (h₂ : b.eqv c = true) : a.eqv c = true :=
  Metadata.eqv_iff_hashKey.mpr ((Metadata.eqv_iff_hashKey.mp h₁).trans (Metadata.eqv_iff_hashKey.mp h₂))

theorem Metadata.hashKey_of_canon {m : Metadata} (h : m.Canon) : m.hashKey = m := by
  cases m
  simp only [Metadata.hashKey]
  rw [sortItems_of_canon h.1, sortItems_of_canon h.2]

/-- on canonical metadata (key-sorted detail dicts) Python's `==` is structural equality -/
theorem Metadata.eqv_iff_eq {a b : Metadata} (ha : a.Canon) (hb : b.Canon) : a.eqv b = true ↔ a = b := by
  rw [Metadata.eqv_iff_hashKey, Metadata.hashKey_of_canon ha, Metadata.hashKey_of_canon hb]

/-- class and `prev_evaluation_date` fit together: exactly the incremental cells have one
(implied by the constructor's rules, `Cell.datesOk`) -/
def Cell.KindOk (c : Cell) : Prop := c.kind = .incremental ↔ c.prev.isSome = true

theorem Cell.kindOk_of_datesOk {c : Cell} (h : c.datesOk = true) : c.KindOk := (Cell.datesOk_iff.mp h).2.2.2.1

theorem classCompat_comm (a b : CellKind) : classCompat a b = classCompat b a := by
  cases a <;> cases b <;> rfl

theorem classCompat_self (a : CellKind) : classCompat a a = true := by cases a <;> rfl

theorem Cell.baseEq_iff {a b : Cell} :
    a.baseEq b = true ↔ classCompat a.kind b.kind = true ∧ a.ps = b.ps ∧ a.pe = b.pe ∧ a.ev = b.ev ∧
      a.md.eqv b.md = true ∧ valuesEq a.values b.values = true := by
  simp [Cell.baseEq, and_assoc]

theorem Cell.baseEq_comm (a b : Cell) : a.baseEq b = b.baseEq a := by
  have symm : ∀ {a b : Cell}, a.baseEq b = true → b.baseEq a = true := fun {a b} h => by
    rw [Cell.baseEq_iff] at *
    obtain ⟨h1, h2, h3, h4, h5, h6⟩ := h
    exact ⟨classCompat_comm _ _ ▸ h1, h2.symm, h3.symm, h4.symm, Metadata.eqv_symm h5, valuesEq_symm h6⟩
  rw [Bool.eq_iff_iff]; exact ⟨symm, symm⟩

/-- the dispatch of `==` in normal form: `Cell.__eq__`'s conjunction, plus the comparison of
`prev_evaluation_date` whenever an `IncrementalCell.__eq__` is the method that runs -/
theorem cellEq_eq (a b : Cell) :
    cellEq a b = (a.baseEq b &&
      (if a.kind = .incremental ∨ b.kind = .incremental then a.prev == b.prev else true)) := by
  unfold cellEq
  cases ha : a.kind <;> cases hb : b.kind <;>
    simp only [Cell.incEq, reduceCtorEq, or_self, or_true, true_or, if_true, if_false, Bool.and_true]
  -- `Cell == IncrementalCell` runs the right operand's method
  · rw [Cell.baseEq_comm b a, BEq.comm (a := b.prev)]
  -- `CumulativeCell == IncrementalCell` fails the class test
  · simp [Cell.baseEq, ha, hb, classCompat, CellKind.isInstanceOf]

theorem cellEq_iff_code {a b : Cell} :
    cellEq a b = true ↔
      classCompat a.kind b.kind = true ∧ a.ps = b.ps ∧ a.pe = b.pe ∧ a.ev = b.ev ∧
      ((a.kind = .incremental ∨ b.kind = .incremental) → a.prev = b.prev) ∧
      a.md.eqv b.md = true ∧ valuesEq a.values b.values = true := by
  have hp : (if a.kind = .incremental ∨ b.kind = .incremental then a.prev == b.prev else true) = true ↔
      (a.kind = .incremental ∨ b.kind = .incremental → a.prev = b.prev) := by
    by_cases h : a.kind = .incremental ∨ b.kind = .incremental <;> simp [h]
  rw [cellEq_eq, Bool.and_eq_true, Cell.baseEq_iff, hp]
  exact ⟨fun ⟨⟨h1, h2, h3, h4, h6, h7⟩, h5⟩ => ⟨h1, h2, h3, h4, h5, h6, h7⟩,
    fun ⟨h1, h2, h3, h4, h5, h6, h7⟩ => ⟨⟨h1, h2, h3, h4, h6, h7⟩, h5⟩⟩

theorem cellEq_refl (a : Cell) : cellEq a a = true := by
  rw [cellEq_iff_code]
  exact ⟨classCompat_self _, rfl, rfl, rfl, fun _ => rfl, Metadata.eqv_refl _, valuesEq_refl _⟩

theorem cellEq_symm {a b : Cell} (h : cellEq a b = true) : cellEq b a = true := by
  rw [cellEq_iff_code] at *
  obtain ⟨h1, h2, h3, h4, h5, h6, h7⟩ := h
  exact ⟨classCompat_comm _ _ ▸ h1, h2.symm, h3.symm, h4.symm, fun h => (h5 h.symm).symm,
    Metadata.eqv_symm h6, valuesEq_symm h7⟩

theorem cellEq_comm (a b : Cell) : cellEq a b = cellEq b a := by
  rw [Bool.eq_iff_iff]; exact ⟨cellEq_symm, cellEq_symm⟩

/-- equal well-formed cells are of the same basis: an `IncrementalCell` only equals an `IncrementalCell` -/
theorem cellEq_sameBasis {a b : Cell} (ha : a.KindOk) (hb : b.KindOk) (h : cellEq a b = true) :
    (a.kind = .incremental ↔ b.kind = .incremental) := by
  rw [cellEq_iff_code] at h
  have hp := h.2.2.2.2.1
  unfold Cell.KindOk at ha hb
  constructor
  · intro hk; rw [hb, ← hp (Or.inl hk), ← ha]; exact hk
  · intro hk; rw [ha, hp (Or.inr hk), ← hb]; exact hk

theorem classCompat_of_sameBasis {a b : CellKind} (h : a = .incremental ↔ b = .incremental) :
    classCompat a b = true := by
  cases a <;> cases b <;> simp_all [classCompat, CellKind.isInstanceOf]

/-- on well-formed cells both have a `prev_evaluation_date` or neither, so `==` compares it always -/
theorem cellEq_iff_of_kindOk {a b : Cell} (ha : a.KindOk) (hb : b.KindOk) :
    cellEq a b = true ↔
      (a.kind = .incremental ↔ b.kind = .incremental) ∧ a.ps = b.ps ∧ a.pe = b.pe ∧ a.ev = b.ev ∧
      a.prev = b.prev ∧ a.md.eqv b.md = true ∧ valuesEq a.values b.values = true := by
  constructor
  · intro h
    have hs := cellEq_sameBasis ha hb h
    obtain ⟨_, h2, h3, h4, h5, h6, h7⟩ := cellEq_iff_code.mp h
    refine ⟨hs, h2, h3, h4, ?_, h6, h7⟩
    by_cases hi : a.kind = .incremental
    · exact h5 (Or.inl hi)
    · rw [Option.not_isSome_iff_eq_none.mp fun e => hi (ha.mpr e),
        Option.not_isSome_iff_eq_none.mp fun e => hi (hs.mpr (hb.mpr e))]
  · rintro ⟨hs, h2, h3, h4, h5, h6, h7⟩
    exact cellEq_iff_code.mpr ⟨classCompat_of_sameBasis hs, h2, h3, h4, fun _ => h5, h6, h7⟩

theorem cellEq_trans {a b c : Cell} (ha : a.KindOk) (hb : b.KindOk) (hc : c.KindOk)
    (h₁ : cellEq a b = true) (h₂ : cellEq b c = true) : cellEq a c = true := by
  obtain ⟨a1, a2, a3, a4, a5, a6, a7⟩ := (cellEq_iff_of_kindOk ha hb).mp h₁
  obtain ⟨b1, b2, b3, b4, b5, b6, b7⟩ := (cellEq_iff_of_kindOk hb hc).mp h₂
  exact (cellEq_iff_of_kindOk ha hc).mpr ⟨a1.trans b1, a2.trans b2, a3.trans b3, a4.trans b4, a5.trans b5,
    Metadata.eqv_trans a6 b6, valuesEq_trans a7 b7⟩

@[simp] theorem triEq_nil_nil : triEq [] [] = true := rfl
@[simp] theorem triEq_nil_cons (y : Cell) (ys : List Cell) : triEq [] (y :: ys) = false := rfl
@[simp] theorem triEq_cons_nil (x : Cell) (xs : List Cell) : triEq (x :: xs) [] = false := rfl

@[simp] theorem triEq_cons_cons (x y : Cell) (xs ys : List Cell) :
    triEq (x :: xs) (y :: ys) = (cellEq x y && triEq xs ys) := by
  rw [Bool.eq_iff_iff]
  simp only [triEq, List.length_cons, List.zipWith_cons_cons, List.all_cons, id, Bool.and_eq_true,
    beq_iff_eq, Nat.add_right_cancel_iff]
  exact and_left_comm

theorem triEq_iff_getElem {a b : List Cell} :
    triEq a b = true ↔ a.length = b.length ∧
      ∀ i (h₁ : i < a.length) (h₂ : i < b.length), cellEq a[i] b[i] = true := by
  rw [triEq, Bool.and_eq_true, beq_iff_eq, List.all_eq_true]
  refine and_congr_right fun _ => ⟨fun h i h₁ h₂ => ?_, fun h x hx => ?_⟩
  · exact h _ (List.mem_iff_getElem.mpr
      ⟨i, by rw [List.length_zipWith]; exact Nat.lt_min.mpr ⟨h₁, h₂⟩, List.getElem_zipWith ..⟩)
  · obtain ⟨i, hi, rfl⟩ := List.getElem_of_mem hx
    rw [List.getElem_zipWith]; exact h i _ _

theorem triEq_of_length_ne {a b : List Cell} (h : a.length ≠ b.length) : triEq a b = false :=
  Bool.eq_false_iff.mpr fun hab => h (triEq_iff_getElem.mp hab).1

theorem triEq_refl (a : List Cell) : triEq a a = true :=
  triEq_iff_getElem.mpr ⟨rfl, fun _ _ _ => cellEq_refl _⟩

theorem triEq_symm {a b : List Cell} (h : triEq a b = true) : triEq b a = true := by
  rw [triEq_iff_getElem] at *
  exact ⟨h.1.symm, fun i h₁ h₂ => cellEq_symm (h.2 i h₂ h₁)⟩

theorem triEq_trans {a b c : List Cell} (ha : ∀ x ∈ a, x.KindOk) (hb : ∀ x ∈ b, x.KindOk)
    (hc : ∀ x ∈ c, x.KindOk) (h₁ : triEq a b = true) (h₂ : triEq b c = true) : triEq a c = true := by
  rw [triEq_iff_getElem] at *
  refine ⟨h₁.1.trans h₂.1, fun i hi hk => ?_⟩
  have hj : i < b.length := h₁.1 ▸ hi
  exact cellEq_trans (ha _ (List.getElem_mem hi)) (hb _ (List.getElem_mem hj)) (hc _ (List.getElem_mem hk))
    (h₁.2 i hi hj) (h₂.2 i hj hk)

/-- equal triangles contain equally many cells of every `==`-invariant kind -/
theorem triEq_countP {p : Cell → Bool} {a b : List Cell}
    (hp : ∀ x ∈ a, ∀ y ∈ b, cellEq x y = true → p x = p y) (h : triEq a b = true) :
    a.countP p = b.countP p := by
  induction a generalizing b with
  | nil => cases b <;> simp_all
  | cons x xs ih =>
    cases b with
    | nil => simp at h
    | cons y ys =>
      simp only [triEq_cons_cons, Bool.and_eq_true] at h
      have hxy : p x = p y := hp x (by simp) y (by simp) h.1
      have := ih (b := ys) (fun x hx y hy => hp x (by simp [hx]) y (by simp [hy])) h.2
      simp only [List.countP_cons, hxy, this]

/-- **replacing one cell by a cell that is not `==` to it — wherever the replacement ends up after
re-sorting — gives an unequal triangle** (multiset argument: `==` is an equivalence, and the two
triangles contain different numbers of cells equal to the new cell) -/
theorem triEq_perm_set_false {t t' : List Cell} {i : Nat} {c' : Cell} (hi : i < t.length)
    (hwf : ∀ c ∈ t, c.KindOk) (hc' : c'.KindOk) (hne : cellEq t[i] c' = false)
    (hp : t'.Perm (t.set i c')) : triEq t t' = false := by
  refine Bool.eq_false_iff.mpr fun h => ?_
  have hwf' : ∀ y ∈ t', y.KindOk := by
    intro y hy
    rcases List.mem_or_eq_of_mem_set (hp.mem_iff.mp hy) with hy | hy
    · exact hwf y hy
    · exact hy ▸ hc'
  have hcount := triEq_countP (p := fun x => cellEq c' x) (a := t) (b := t') (by
    intro x hx y hy hxy
    rw [Bool.eq_iff_iff]
    exact ⟨fun h => cellEq_trans hc' (hwf x hx) (hwf' y hy) h hxy,
           fun h => cellEq_trans hc' (hwf' y hy) (hwf x hx) h (cellEq_symm hxy)⟩) h
  rw [hp.countP_eq, List.countP_set hi] at hcount
  simp only [cellEq_comm c' t[i], hne, cellEq_refl, Bool.false_eq_true, if_false, if_true, Nat.sub_zero] at hcount
  omega

end Bermuda
