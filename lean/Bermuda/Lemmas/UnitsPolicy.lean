/-
Lemmas for `policyYear_conserves` (C18): the rows of the normalised share table (`aqShares_rows`), numeric view of
the `defaultdict(float)` accumulator of `_accident_quarter_to_policy_year_slice` and the sums it computes
(`Spec.C18.total`), with what the proofs need of `periods`, `evaluationDates` and `derive_metadata`.
-/
import Bermuda.Lemmas.Units
import Bermuda.Lemmas.DateOrder
namespace Bermuda.Units
open Bermuda Bermuda.Spec.C18

theorem dedup_spec {α} [BEq α] [LawfulBEq α] (l : List α) :
    (dedup l).Nodup ∧ ∀ x, x ∈ dedup l ↔ x ∈ l :=
  ⟨distinctKeys_nodup id l, fun _ => (mem_distinctKeys (f := id)).trans (by simp)⟩

theorem mem_periods_iff {sl : List Cell} {q : Date × Date} :
    q ∈ periods sl ↔ ∃ c ∈ sl, (c.ps, c.pe) = q := by
  unfold periods
  rw [(List.mergeSort_perm _ _).mem_iff, (dedup_spec _).2]
  simp

theorem evaluationDates_nodup (sl : List Cell) : (evaluationDates sl).Nodup := by
  unfold evaluationDates
  exact (List.mergeSort_perm _ _).nodup_iff.mpr (dedup_spec _).1

theorem mem_evaluationDates {sl : List Cell} {d : Date} : d ∈ evaluationDates sl ↔ ∃ c ∈ sl, c.ev = d := by
  unfold evaluationDates
  rw [(List.mergeSort_perm _ _).mem_iff, (dedup_spec _).2]
  simp

theorem clip_eval_perm {t r : List Cell} {ev : Date}
    (h : Triangle.clip t { minEval := some ev, maxEval := some ev } = .ok r) :
    r.Perm (t.filter (·.ev == ev)) := by
  unfold Triangle.clip at h
  have hp := Triangle.ofCells_perm h
  refine hp.trans (List.Perm.of_eq ?_)
  apply List.filter_congr
  intro c _
  simp only [ClipArgs.keep, Bool.and_true]
  by_cases hc : c.ev = ev
  · subst hc; simp [DateOrder.le_refl]
  · have : (c.ev == ev) = false := by simpa using hc
    rw [this]
    by_contra hne
    simp only [Bool.not_eq_false, Bool.and_eq_true, decide_eq_true_eq] at hne
    exact hc (DateOrder.le_antisymm hne.2 hne.1)

theorem deriveMetadata_riskBasis {t r : List Cell} {s : Option String}
    (h : Triangle.deriveMetadata t (.riskBasis s) = .ok r) : ∀ o ∈ r, o.md.riskBasis = s := by
  intro o ho
  obtain ⟨c, _, rfl⟩ := List.mem_map.mp ((Triangle.deriveMetadata_perm h).mem_iff.mp ho)
  rfl

/-- the un-normalised row of accident period `aq`: its entry, if it has one, in the table of each policy year -/
def rawRow (ps pys : List (Date × Date)) (len : Nat) (cont : Bool) (aq : Date × Date) :
    List ((Date × Date) × Rat) :=
  pys.filterMap fun py =>
    (((monthlyToQuarterly (policyShareByMonth py.1 py.2 len cont) ps).find? (·.1 == aq)).map (·.2)).map (py, ·)

theorem aqShares_rows (ps pys : List (Date × Date)) (len : Nat) (cont : Bool) :
    aqShares ps pys len cont = ps.map fun aq => (aq, (rawRow ps pys len cont aq).map fun x =>
      (x.1, x.2 / ((rawRow ps pys len cont aq).map (·.2)).sum)) := by
  unfold aqShares rawRow
  simp only [List.filterMap_map, Function.comp, Option.map_map]
  rfl

/-- every row of the normalised share table sums to 1 (or to 0 when the raw total is 0) -/
theorem aqShares_row_sum {ps pys : List (Date × Date)} {len : Nat} {cont : Bool} :
    ∀ e ∈ aqShares ps pys len cont, (e.2.map (·.2)).sum = 1 ∨ (e.2.map (·.2)).sum = 0 := by
  intro e he
  rw [aqShares_rows] at he
  obtain ⟨aq, _, rfl⟩ := List.mem_map.mp he
  dsimp only
  rw [sum_normalised]
  by_cases h : ((rawRow ps pys len cont aq).map (·.2)).sum = 0
  · right; simp [h]
  · left; exact div_self h

/-- value of accident period `aq` in the table of policy year `py` -/
def entryG (ps : List (Date × Date)) (len : Nat) (cont : Bool) (aq py : Date × Date) : Rat :=
  (((monthlyToQuarterly (policyShareByMonth py.1 py.2 len cont) ps).find? (·.1 == aq)).map (·.2)).getD 0

theorem rawRow_sum (ps pys : List (Date × Date)) (len : Nat) (cont : Bool) (aq : Date × Date) :
    ((rawRow ps pys len cont aq).map (·.2)).sum = (pys.map (entryG ps len cont aq)).sum :=
  sum_filterMap_getD pys _

theorem shareOf_sum {sl : List Cell} {pys : List (Date × Date)} {len : Nat} {cont : Bool} {c : Cell}
    (hc : c ∈ sl)
    (hcov : ∀ row ∈ aqShares (periods sl) pys len cont, (row.2.map (·.2)).sum = 1) :
    (pys.map fun py => (shareOf (aqShares (periods sl) pys len cont) py c).getD 0).sum = 1 := by
  have hp : (c.ps, c.pe) ∈ periods sl := mem_periods_iff.mpr ⟨c, hc, rfl⟩
  rw [aqShares_rows] at hcov ⊢
  have hrow := hcov _ (List.mem_map.mpr ⟨(c.ps, c.pe), hp, rfl⟩)
  rw [sum_normalised] at hrow
  obtain ⟨T, hT⟩ : ∃ T, T = ((rawRow (periods sl) pys len cont (c.ps, c.pe)).map (·.2)).sum := ⟨_, rfl⟩
  have key : ∀ py ∈ pys, (shareOf ((periods sl).map fun aq => (aq, (rawRow (periods sl) pys len cont aq).map
      fun x => (x.1, x.2 / ((rawRow (periods sl) pys len cont aq).map (·.2)).sum))) py c).getD 0 =
      entryG (periods sl) len cont (c.ps, c.pe) py / T := by
    intro py hpy
    unfold shareOf entryG
    simp only [Assoc.find?_map_key, hp, if_true, Option.map_some, Option.getD_some]
    rw [← hT, Assoc.find?_map_keep_key (fun x => (x.1, x.2 / T)) (fun _ => rfl)]
    unfold rawRow
    rw [Assoc.find?_filterMap_key, if_pos hpy]
    cases (monthlyToQuarterly (policyShareByMonth py.1 py.2 len cont) (periods sl)).find?
      (·.1 == (c.ps, c.pe)) <;> simp
  have hsum := sum_map_div (pys.map (entryG (periods sl) len cont (c.ps, c.pe))) T
  rw [List.map_map, ← rawRow_sum, ← hT] at hsum
  rw [List.map_congr_left key]
  exact hsum.trans (hT ▸ hrow)

theorem policyCovered_slice {t : List Cell} {len : Nat} {origin : Date} {cont : Bool}
    (hcov : policyCovered t len origin cont = true) {sl : Metadata × List Cell}
    (hsl : sl ∈ Triangle.slices t) {pys : List (Date × Date)}
    (hpys : policyYearsCovered sl.2 origin = .ok pys) :
    ∀ row ∈ aqShares (periods sl.2) pys len cont, (row.2.map (·.2)).sum = 1 := by
  intro row hrow
  unfold policyCovered at hcov
  have := List.all_eq_true.mp hcov sl hsl
  simp only [hpys] at this
  simpa using List.all_eq_true.mp this row hrow

/-- signature of a float-valued accumulator entry: `none` scalar, `some n` array of n numbers -/
def sg : Val → Option Nat
  | .arr _ _ d => some d.length
  | _ => none

/-- signature of an input value as it enters the accumulation (`mulF` turns 0-d arrays into scalars) -/
def sgIn : Val → Option Nat
  | .arr _ [] [_] => none
  | .arr _ _ d => some d.length
  | _ => none

theorem comp_mulF {v x : Val} {w : Rat} (h : Val.mulF v w = .ok x) (i : Nat) :
    comp x i = comp v i * w ∧ sg x = sgIn v := by
  unfold Val.mulF at h
  split at h <;> cases h
  · cases i <;> simp [sg, sgIn]
  · cases i <;> simp [sg, sgIn]
  · cases i <;> simp [sg, sgIn]
  · rename_i isInt sh d hne
    refine ⟨?_, ?_⟩
    · simp only [comp_arr, List.getElem?_map]
      cases d[i]? <;> simp
    · cases sh with
      | nil =>
        cases d with
        | nil => simp [sg, sgIn]
        | cons x rest =>
          cases rest with
          | nil => exact (hne x rfl rfl).elim
          | cons y rest' => simp [sg, sgIn]
      | cons n sh' => simp [sg, sgIn]

/-- componentwise only between equal signatures (or onto the initial `0.0`): numpy broadcasts a scalar over an array
and raises on two lengths; `SigInv` keeps the accumulator in this case -/
theorem comp_addF {a b s : Val} (h : Val.addF a b = .ok s) (hs : a = .flt 0 ∨ sg a = sg b) (i : Nat) :
    comp s i = comp a i + comp b i ∧ sg s = sg b := by
  unfold Val.addF at h
  split at h
  · cases h; cases i <;> simp [sg]
  · rcases hs with hs | hs
    · cases hs; cases h
      refine ⟨?_, by simp [sg]⟩
      simp only [comp_flt, ite_self, comp_arr, List.getElem?_map]
      rename_i d
      cases d[i]? <;> simp
    · simp [sg] at hs
  · rcases hs with hs | hs
    · cases hs
    · simp [sg] at hs
  · rename_i i1 sh d i2 sh' d'
    rcases hs with hs | hs
    · cases hs
    · split at h
      · cases h
        simp only [sg, Option.some.injEq] at hs
        refine ⟨?_, by simp [sg, hs]⟩
        simpa using getElem?_zipWith_add d d' hs i
      · cases h
  · cases h

/-- every entry of the accumulator has the signature `fsig` assigns to its key -/
def SigInv (fsig : String → Option Nat) (acc : Dict Val) : Prop :=
  ∀ g cur, look acc g = some cur → sg cur = fsig g

/-- the stages of `accumulate`: `acc[f] = acc.get(f, 0.0) + v * share` -/
theorem accumulate_ok {acc acc' : Dict Val} {f : String} {v : Val} {share : Rat}
    (h : accumulate acc f v share = .ok acc') :
    ∃ x s, Val.mulF v share = .ok x ∧ Val.addF ((look acc f).getD (.flt 0)) x = .ok s ∧
      acc' = Assoc.set acc f s := by
  obtain ⟨x, hx, h⟩ := bind_ok h
  unfold Assoc.set
  rw [Assoc.any_key_eq_isSome, ← look_eq]
  split at h
  · rename_i k cur hfind
    obtain ⟨s, hs, h⟩ := bind_ok h
    cases h
    have hl : look acc f = some cur := by simp [look, hfind]
    refine ⟨x, s, hx, by rw [hl]; exact hs, ?_⟩
    rw [hl, Option.isSome_some, if_pos rfl]
    refine List.map_congr_left fun p _ => ?_
    split
    · next hp => rw [eq_of_beq hp]
    · rfl
  · rename_i hfind
    obtain ⟨s, hs, h⟩ := bind_ok h
    cases h
    have hl : look acc f = none := by simp [look, hfind]
    exact ⟨x, s, hx, by rw [hl]; exact hs, by rw [hl]; rfl⟩

theorem accumulate_spec {fsig : String → Option Nat} {acc acc' : Dict Val} {f : String} {v : Val}
    {share : Rat} (hinv : SigInv fsig acc) (hk : KN acc) (hv : sgIn v = fsig f)
    (h : accumulate acc f v share = .ok acc') :
    SigInv fsig acc' ∧ KN acc' ∧
    ∀ g i, lcomp acc' g i = lcomp acc g i + (if g == f then comp v i * share else 0) := by
  obtain ⟨x, s, hx, hs, rfl⟩ := accumulate_ok h
  have hxs : sg x = fsig f := by rw [(comp_mulF hx 0).2, hv]
  have hcur : (look acc f).getD (.flt 0) = .flt 0 ∨ sg ((look acc f).getD (.flt 0)) = sg x := by
    cases hl : look acc f with
    | none => exact .inl rfl
    | some cur => exact .inr (by rw [hxs]; exact hinv f cur hl)
  refine ⟨fun g c hg => ?_, Assoc.nodup_keys_set hk f s, fun g i => ?_⟩
  · rw [look_eq, Assoc.get?_set] at hg
    split at hg
    · next hfg => cases hg; rw [← eq_of_beq hfg, (comp_addF hs hcur 0).2, hxs]
    · exact hinv g c hg
  · unfold lcomp
    rw [look_eq, Assoc.get?_set, ← look_eq]
    by_cases hgf : g = f
    · subst hgf
      rw [if_pos (beq_self_eq_true g), if_pos (beq_self_eq_true g), Option.map_some, Option.getD_some,
        (comp_addF hs hcur i).1, (comp_mulF hx i).1]
      cases look acc g <;> simp
    · rw [if_neg (by simpa using fun e : f = g => hgf e.symm), if_neg (by simpa using hgf), add_zero]

theorem foldlM_add {α β ι} {f : β → α → Except Err β} (P : β → Prop) (μ : β → ι → Rat)
    (δ : α → ι → Rat) {l : List α}
    (hstep : ∀ b a b', a ∈ l → P b → f b a = .ok b' → P b' ∧ ∀ j, μ b' j = μ b j + δ a j)
    {b r : β} (hb : P b) (h : l.foldlM f b = .ok r) :
    P r ∧ ∀ j, μ r j = μ b j + (l.map (δ · j)).sum := by
  induction l generalizing b with
  | nil => cases h; exact ⟨hb, by simp⟩
  | cons a rest ih =>
    rw [List.foldlM_cons] at h
    obtain ⟨b', hf, h⟩ := bind_ok h
    obtain ⟨hb', hμ⟩ := hstep b a b' (by simp) hb hf
    obtain ⟨hr, hsum⟩ := ih (fun b a b' ha => hstep b a b' (by simp [ha])) hb' h
    exact ⟨hr, fun j => by rw [hsum, hμ, List.map_cons, List.sum_cons, add_assoc]⟩

theorem foldValues_spec {fsig : String → Option Nat} {share : Rat} {vals acc acc' : Dict Val}
    (hi : SigInv fsig acc) (hk : KN acc) (hv : ∀ kv ∈ vals, sgIn kv.2 = fsig kv.1)
    (h : vals.foldlM (fun a kv => accumulate a kv.1 kv.2 share) acc = .ok acc') :
    (SigInv fsig acc' ∧ KN acc') ∧
      ∀ gi : String × Nat, lcomp acc' gi.1 gi.2 = lcomp acc gi.1 gi.2 +
        (vals.map fun kv => if gi.1 == kv.1 then comp kv.2 gi.2 * share else 0).sum :=
  foldlM_add (fun a => SigInv fsig a ∧ KN a) (fun a (gi : String × Nat) => lcomp a gi.1 gi.2) _
    (fun _ kv _ hkv ⟨hi, hk⟩ ha =>
      have ⟨a, b, c⟩ := accumulate_spec hi hk (hv kv hkv) ha
      ⟨⟨a, b⟩, fun gi : String × Nat => c gi.1 gi.2⟩) ⟨hi, hk⟩ h

theorem foldCells_spec {fsig : String → Option Nat}
    {shares : List ((Date × Date) × List ((Date × Date) × Rat))} {py : Date × Date}
    {cells : List Cell} {acc acc' : Dict Val} (hi : SigInv fsig acc) (hk : KN acc)
    (hv : ∀ c ∈ cells, ∀ kv ∈ c.values, sgIn kv.2 = fsig kv.1)
    (h : cells.foldlM (stepCell shares py) acc = .ok acc') :
    (SigInv fsig acc' ∧ KN acc') ∧
      ∀ gi : String × Nat, lcomp acc' gi.1 gi.2 = lcomp acc gi.1 gi.2 +
        (cells.map fun c => cellField c gi.1 gi.2 * (shareOf shares py c).getD 0).sum := by
  refine foldlM_add (fun a => SigInv fsig a ∧ KN a) (fun a (gi : String × Nat) => lcomp a gi.1 gi.2) _ ?_ ⟨hi, hk⟩ h
  intro b c b' hc ⟨hi, hk⟩ ha
  unfold stepCell at ha
  cases hs : shareOf shares py c with
  | none => rw [hs] at ha; cases ha; exact ⟨⟨hi, hk⟩, by simp⟩
  | some share =>
    rw [hs] at ha
    obtain ⟨hP, hsum⟩ := foldValues_spec hi hk (hv c hc) ha
    refine ⟨hP, fun gi => ?_⟩
    rw [hsum, cellField, sum_filter_eq_indicator, Option.getD_some, ← sum_map_mul_right, List.map_map]
    congr 2
    refine List.map_congr_left fun kv _ => ?_
    by_cases e : gi.1 = kv.1
    · simp [e]
    · simp [e, Ne.symm e]

theorem policyCell_ok {sl : List Cell} {shares : List ((Date × Date) × List ((Date × Date) × Rat))}
    {py : Date × Date} {ev : Date} {oc : Option Cell} (h : policyCell sl shares py ev = .ok oc) :
    ∃ (aq : List Cell) (vals : Dict Val), aq.Perm (sl.filter (·.ev == ev)) ∧
      aq.foldlM (stepCell shares py) [] = .ok vals ∧
      (∀ o ∈ oc, o.ev = ev ∧ o.kind = .cumulative ∧ ∃ c ∈ sl, o.md = c.md) ∧
      ∀ g i, total oc.toList g i = ((vals.filter (·.1 == g)).map fun kv => comp kv.2 i).sum := by
  obtain ⟨all, h1, h⟩ := bind_ok h
  obtain ⟨aq, h2, h⟩ := bind_ok h
  obtain ⟨vals, h3, h⟩ := bind_ok h
  have hperm : aq.Perm (sl.filter (·.ev == ev)) :=
    (clip_eval_perm h2).trans ((Triangle.ofCells_perm h1).filter _)
  refine ⟨aq, vals, hperm, h3, ?_⟩
  split at h
  · rename_i hemp
    cases h
    have : vals = [] := by simpa using hemp
    subst this
    exact ⟨by simp, fun g i => by simp [total]⟩
  · rename_i hne
    split at h
    · rename_i last hlast
      obtain ⟨c, hm, h⟩ := bind_ok h
      cases h
      obtain ⟨rfl, _⟩ := AllOps.mk?_ok hm
      refine ⟨fun o ho => ?_, fun g i => by simp [total, cellField]⟩
      simp at ho; subst ho
      exact ⟨rfl, rfl, last, (List.mem_filter.mp (hperm.mem_iff.mp (List.mem_of_getLast? hlast))).1, rfl⟩
    · rename_i hlast
      have : aq = [] := by simpa using hlast
      subst this
      cases h3
      simp at hne

theorem policyCell_spec {fsig : String → Option Nat} {sl : List Cell}
    {shares : List ((Date × Date) × List ((Date × Date) × Rat))} {py : Date × Date} {ev : Date}
    {oc : Option Cell} (hu : ∀ c ∈ sl, ∀ kv ∈ c.values, sgIn kv.2 = fsig kv.1)
    (h : policyCell sl shares py ev = .ok oc) (g : String) (i : Nat) :
    total oc.toList g i =
      ((sl.filter (·.ev == ev)).map fun c => cellField c g i * (shareOf shares py c).getD 0).sum := by
  obtain ⟨aq, vals, hperm, h3, _, htot⟩ := policyCell_ok h
  obtain ⟨⟨_, hk⟩, hc⟩ := foldCells_spec (fsig := fsig) (acc := [])
    (by intro g cur hg; simp [look] at hg) (by simp [KN])
    (fun c hc => hu c (List.mem_filter.mp (hperm.mem_iff.mp hc)).1) h3
  rw [htot, dsum_eq_lcomp hk, hc (g, i), sum_map_perm hperm]; simp [lcomp, look]

theorem aqToPolicyYearCells_ok {sl tri : List Cell} {len : Nat} {origin : Date} {cont : Bool}
    (h : aqToPolicyYearCells sl len origin cont = .ok tri) :
    ∃ pys cells, policyYearsCovered sl origin = .ok pys ∧
      Forall2 (fun py row => Forall2 (fun ev oc =>
        policyCell sl (aqShares (periods sl) pys len cont) py ev = .ok oc) (evaluationDates sl) row) pys cells ∧
      tri.Perm (cells.flatten.filterMap id) := by
  obtain ⟨re, _, h⟩ := bind_ok h
  obtain ⟨pys, h2, h⟩ := bind_ok (of_guard h)
  obtain ⟨cells, h3, h⟩ := bind_ok (of_guard h)
  exact ⟨pys, cells, h2, (mapM_ok_forall2 h3).imp fun _ _ _ hr => mapM_ok_forall2 hr, Triangle.ofCells_perm h⟩

theorem policyYearCells_kind {sl tri : List Cell} {len : Nat} {origin : Date} {cont : Bool}
    (h : aqToPolicyYearCells sl len origin cont = .ok tri) :
    ∀ o ∈ tri, o.kind = .cumulative ∧ ∃ c ∈ sl, o.md = c.md := by
  obtain ⟨pys, cells, _, hF, hperm⟩ := aqToPolicyYearCells_ok h
  intro o ho
  obtain ⟨oc, hoc, hid⟩ := List.mem_filterMap.mp (hperm.mem_iff.mp ho)
  simp only [id] at hid; subst hid
  obtain ⟨row, hrow, hocr⟩ := List.mem_flatten.mp hoc
  obtain ⟨py, _, hpr⟩ := hF.mem_right hrow
  obtain ⟨ev, _, hpc⟩ := hpr.mem_right hocr
  obtain ⟨_, _, _, _, hs, _⟩ := policyCell_ok hpc
  exact (hs o rfl).2

/-- conservation for ANY share table whose shares of a cell over the policy years `pys` sum to 1 (`hone`) -/
theorem policyCells_total {fsig : String → Option Nat} {sl : List Cell}
    {shares : List ((Date × Date) × List ((Date × Date) × Rat))} {pys : List (Date × Date)}
    {cells : List (List (Option Cell))} (hu : ∀ c ∈ sl, ∀ kv ∈ c.values, sgIn kv.2 = fsig kv.1)
    (hone : ∀ c ∈ sl, (pys.map fun py => (shareOf shares py c).getD 0).sum = 1)
    (hF : Forall2 (fun py row => Forall2 (fun ev oc => policyCell sl shares py ev = .ok oc)
      (evaluationDates sl) row) pys cells) (d : Date) (g : String) (i : Nat) :
    total ((cells.flatten.filterMap id).filter (·.ev == d)) g i = total (sl.filter (·.ev == d)) g i := by
  simp only [List.filterMap_eq_flatMap_toList, List.flatten_eq_flatMap, List.flatMap_assoc, List.filter_flatMap,
    total_flatMap, id]
  rw [hF.sum_eq _ (fun py =>
    ((sl.filter (·.ev == d)).map fun c => cellField c g i * (shareOf shares py c).getD 0).sum), sum_swap]
  · unfold total
    refine congrArg List.sum (List.map_congr_left fun c hc => ?_)
    have : (pys.map fun a => cellField c g i * (shareOf shares a c).getD 0)
        = (pys.map fun a => (shareOf shares a c).getD 0).map (cellField c g i * ·) := by
      rw [List.map_map]; rfl
    rw [this, sum_map_mul_left, hone c (List.mem_filter.mp hc).1, mul_one]
  · intro py row _ hr
    rw [hr.sum_eq _ (fun ev => if ev == d then
      ((sl.filter (·.ev == ev)).map fun c => cellField c g i * (shareOf shares py c).getD 0).sum else 0)]
    · rw [sum_indicator_nodup _ (evaluationDates_nodup sl)]
      split
      · rfl
      · rename_i hd
        have : sl.filter (·.ev == d) = [] := by
          rw [List.filter_eq_nil_iff]
          intro c hc hcd
          exact hd (mem_evaluationDates.mpr ⟨c, hc, by simpa using hcd⟩)
        rw [this]; rfl
    · intro ev oc _ hpc
      obtain ⟨_, _, _, _, hev, _⟩ := policyCell_ok hpc
      by_cases hd : ev = d
      · subst hd
        have : oc.toList.filter (·.ev == ev) = oc.toList := by
          rw [List.filter_eq_self]
          intro o ho; simp at ho; simp [(hev o ho).1]
        simp only [this, beq_self_eq_true, if_true]
        exact policyCell_spec hu hpc g i
      · have h' : (ev == d) = false := by simpa using hd
        have : oc.toList.filter (·.ev == d) = [] := by
          rw [List.filter_eq_nil_iff]
          intro o ho hod; simp at ho
          exact hd (by rw [← (hev o ho).1]; simpa using hod)
        simp [this, h', total_nil]

theorem policyYearCells_spec {fsig : String → Option Nat} {sl tri : List Cell} {len : Nat}
    {origin : Date} {cont : Bool}
    (hu : ∀ c ∈ sl, ∀ kv ∈ c.values, sgIn kv.2 = fsig kv.1)
    (hcov : ∀ pys, policyYearsCovered sl origin = .ok pys →
      ∀ row ∈ aqShares (periods sl) pys len cont, (row.2.map (·.2)).sum = 1)
    (h : aqToPolicyYearCells sl len origin cont = .ok tri) (d : Date) (g : String) (i : Nat) :
    total (tri.filter (·.ev == d)) g i = total (sl.filter (·.ev == d)) g i := by
  obtain ⟨pys, cells, h2, hF, hperm⟩ := aqToPolicyYearCells_ok h
  rw [total_perm (hperm.filter _)]
  exact policyCells_total hu (fun c hc => shareOf_sum hc (hcov pys h2)) hF d g i

theorem policyYearSlice_kind {sl r : List Cell} {len : Nat} {origin : Date} {cont : Bool}
    (h : aqToPolicyYearSlice sl len origin cont = .ok r) : ∀ o ∈ r, o.kind = .cumulative := by
  obtain ⟨tri, hc, h⟩ := bind_ok h
  have hk := policyYearCells_kind hc
  intro o ho
  obtain ⟨c, hct, rfl⟩ := List.mem_map.mp ((Triangle.deriveMetadata_perm h).mem_iff.mp ho)
  exact (hk c hct).1

theorem policyYearSlice_spec {fsig : String → Option Nat} {sl r : List Cell} {m : Metadata}
    {len : Nat} {origin : Date} {cont : Bool} (hmd : ∀ c ∈ sl, c.md = m)
    (hu : ∀ c ∈ sl, ∀ kv ∈ c.values, sgIn kv.2 = fsig kv.1)
    (hcov : ∀ pys, policyYearsCovered sl origin = .ok pys →
      ∀ row ∈ aqShares (periods sl) pys len cont, (row.2.map (·.2)).sum = 1)
    (h : aqToPolicyYearSlice sl len origin cont = .ok r) (m' : Metadata) (d : Date) (g : String) (i : Nat) :
    total (r.filter fun o => o.md == m' && o.ev == d) g i =
      total (sl.filter fun c => toPolicy c.md == m' && c.ev == d) g i := by
  obtain ⟨tri, hc, h⟩ := bind_ok h
  have hmds := policyYearCells_kind hc
  have hperm := Triangle.deriveMetadata_perm h
  rw [total_perm (hperm.filter _), List.filter_map,
    total_map_values _ (fun c : Cell => { c with md := c.md.edit (.riskBasis (some "Policy")) }) (fun _ => rfl)]
  have htri : ∀ c ∈ tri, c.md = m := fun c hc' => by
    obtain ⟨c0, hc0, e⟩ := (hmds c hc').2; rw [e, hmd c0 hc0]
  have e1 : tri.filter ((fun o : Cell => o.md == m' && o.ev == d) ∘ fun c => { c with md := c.md.edit (.riskBasis (some "Policy")) })
      = tri.filter fun c => (toPolicy m == m') && c.ev == d := by
    apply List.filter_congr
    intro c hc'
    simp only [Function.comp, Metadata.edit, htri c hc', toPolicy]
  have e2 : sl.filter (fun c => toPolicy c.md == m' && c.ev == d)
      = sl.filter fun c => (toPolicy m == m') && c.ev == d := by
    apply List.filter_congr
    intro c hc'
    rw [hmd c hc']
  rw [e1, e2]
  cases hb : toPolicy m == m'
  · simp [total_nil]
  · simpa using policyYearCells_spec hu hcov hc d g i

theorem foldlM_triangleAdd {F : List Cell → Except Err (List Cell)} :
    ∀ (slices : List (Metadata × List Cell)) (init out : List Cell),
      slices.foldlM (fun results sl => do
        let r ← F sl.2
        Triangle.add results r) init = .ok out →
      ∃ rs, Forall2 (fun sl r => F sl.2 = .ok r) slices rs ∧ out.Perm (init ++ rs.flatten) := by
  intro slices
  induction slices with
  | nil =>
    intro init out h
    rw [List.foldlM_nil, pure_eq_ok] at h; cases h
    exact ⟨[], .nil, by simp⟩
  | cons sl rest ih =>
    intro init out h
    rw [List.foldlM_cons] at h
    obtain ⟨res, h1, h⟩ := bind_ok h
    obtain ⟨r, hr, ha⟩ := bind_ok h1
    obtain ⟨rs, hF, hp⟩ := ih res out h
    refine ⟨r :: rs, .cons hr hF, hp.trans ?_⟩
    simp only [List.flatten_cons, ← List.append_assoc]
    exact (Triangle.ofCells_perm ha : res.Perm (init ++ r)).append_right _

theorem aqToPolicyYear_ok {t out : List Cell} {len : Nat} {origin : Date} {cont : Bool}
    (h : aqToPolicyYear t len origin cont = .ok out) :
    ∃ rs, Forall2 (fun sl r => aqToPolicyYearSlice sl.2 len origin cont = .ok r) (Triangle.slices t) rs ∧
      out.Perm rs.flatten := by
  unfold aqToPolicyYear at h
  obtain ⟨rs, hF, hp⟩ := foldlM_triangleAdd (F := fun sl => aqToPolicyYearSlice sl len origin cont) _ _ _ h
  exact ⟨rs, hF, by simpa using hp⟩

end Bermuda.Units
