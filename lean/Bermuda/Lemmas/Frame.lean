/-
C14, what needs the model of the tabular forms alone: the row count of a written table from the per-cell writers (for
`rows_count_wide/_long`), and the column list of a `groupby`, read from the GENERATED key list, with what equal keys say
about two rows (for `groupKey_determines_metadata`).
-/
import Bermuda.Model.Frame
import Bermuda.Spec.C14
import Bermuda.Lemmas.ListFacts
import Bermuda.Lemmas.Assoc
import Bermuda.Lemmas.ExceptFacts
namespace Bermuda.Frame
open Bermuda Bermuda.Spec.C14

def okAnd {α : Type} (p : α → Bool) : Except Err α → Bool
  | .ok a => p a
  | .error _ => false

@[simp] theorem mkTable_rows (rows : List Row) : (mkTable rows).rows = rows := rfl

@[simp] theorem mkTable_cols (rows : List Row) : (mkTable rows).cols = colsOf rows := rfl

theorem mapM_transfer {α β ε : Type} (f : α → Except ε β) (g : α → Option Nat) (len : β → Nat)
    (hfg : ∀ a b, f a = .ok b → g a = some (len b)) :
    ∀ (l : List α) (r : List β), l.mapM f = .ok r → l.mapM g = some (r.map len)
  | [], r, h => by rw [List.mapM_nil] at h; cases h; rfl
  | a :: l, r, h => by
    obtain ⟨b, bs, hb, hbs, rfl⟩ := mapM_cons_ok_iff.mp h
    rw [List.mapM_cons, hfg a b hb, mapM_transfer f g len hfg l bs hbs]
    rfl

theorem dropConstantScenario_length {rows rows' : List Row}
    (h : dropConstantScenario rows = .ok rows') : rows'.length = rows.length := by
  unfold dropConstantScenario at h
  split at h
  · cases h
  · split at h <;> (cases h; simp)

/-- `h` is the body of `toWideRows` and of `toLongRows`, which differ only in the per-cell writer `f` -/
theorem writeRows_length {f : Cell → Except Err (List Row)} {g : Cell → Option Nat}
    (hfg : ∀ c rs, f c = .ok rs → g c = some rs.length) {t : List Cell} {tb : Table}
    (h : ((t.mapM f).bind fun blocks => (dropConstantScenario blocks.flatten).map mkTable) = .ok tb) :
    (t.mapM g).map List.sum = some tb.rows.length := by
  obtain ⟨rss, hm, h⟩ := bind_ok h
  obtain ⟨rows, hd, rfl⟩ := map_ok h
  rw [mapM_transfer f g List.length hfg t rss hm]
  simp [dropConstantScenario_length hd]

theorem cleanFieldDicts_length {c : Cell} {fs : List String} {fds : List (Dict Rat)}
    (h : cleanFieldDicts c fs = .ok fds) : commonFieldLength c fs = .ok fds.length := by
  obtain ⟨n, hn, h⟩ := bind_ok h
  rw [hn, mapM_ok_length h, List.length_range]

theorem cellWideRows_length {c : Cell} {md fs : List String} {rs : List Row}
    (h : cellWideRows c md fs = .ok rs) : commonFieldLength c fs = .ok rs.length := by
  obtain ⟨fds, hf, rfl⟩ := map_ok h
  simp [cleanFieldDicts_length hf]

theorem length_flatten_eq_sum {α : Type} (ls : List (List α)) :
    ls.flatten.length = (ls.map List.length).sum :=
  List.length_flatten

theorem zip_flatMap_length {α β γ : Type} (g : α × List β → List γ)
    (hg : ∀ p, (g p).length = p.2.length) :
    ∀ (fds : List (List β)) (is : List α), is.length = fds.length →
      ((List.zip is fds).flatMap g).length = (fds.map List.length).sum := by
  intro fds
  induction fds with
  | nil => intro is _; simp
  | cons fd rest ih =>
    intro is his
    cases is with
    | nil => simp at his
    | cons i is' =>
      simp only [List.length_cons, Nat.add_right_cancel_iff] at his
      simp [hg, ih is' his]

theorem cellLongRows_length {c : Cell} {md : List String} {rs : List Row}
    (h : cellLongRows c md = .ok rs) :
    ∃ fds, cleanFieldDicts c c.values.keys = .ok fds ∧ rs.length = (fds.map List.length).sum := by
  obtain ⟨fds, hf, rfl⟩ := map_ok h
  exact ⟨fds, hf, zip_flatMap_length _ (by intro p; simp) fds (List.range fds.length) (by simp)⟩

theorem mem_expandKey {D L : List String} {k x : String} :
    x ∈ expandKey D L k ↔ (k = "$detail_cols" ∧ x ∈ D) ∨ (k = "$loss_detail_cols" ∧ x ∈ L) ∨
      (k ≠ "$detail_cols" ∧ k ≠ "$loss_detail_cols" ∧ x = k) := by
  unfold expandKey
  by_cases h1 : k = "$detail_cols"
  · simp [h1]
  · by_cases h2 : k = "$loss_detail_cols" <;> simp [h1, h2]

theorem mem_groupCols_iff {fn : String} {e : String × List String}
    (h : Generated.FrameKeys.groupByKeys.find? (·.1 == fn) = some e) {D L : List String} {x : String} :
    x ∈ groupCols fn D L ↔ ∃ k ∈ e.2, x ∈ expandKey D L k := by
  unfold groupCols
  rw [h]
  exact List.mem_flatMap

theorem mem_groupCols {fn : String} (h : keysCover fn = true) (d l : List String)
    {k : String} (hk : k ∈ requiredKeys) {x : String} (hx : x ∈ expandKey d l k) :
    x ∈ groupCols fn d l := by
  unfold keysCover at h
  split at h
  · next ks heq =>
    simp only [List.all_eq_true, List.contains_iff_mem] at h
    exact (mem_groupCols_iff heq).mpr ⟨k, h k hk, hx⟩
  · cases h

theorem firstIsIncremental_false {t : List Cell} (h : ∀ c ∈ t, c.kind ≠ .incremental) :
    firstIsIncremental t = false := by
  cases t with
  | nil => rfl
  | cons c rest => simpa [firstIsIncremental] using h c List.mem_cons_self

theorem firstIsIncremental_false_of_cum {t : List Cell} (h : ∀ c ∈ t, c.kind ≠ .incremental ∧ c.prev = none) :
    firstIsIncremental t = false :=
  firstIsIncremental_false fun c hc => (h c hc).1

theorem col_eq_of_key {fn : String} (cols d l : List String) (r₁ r₂ : Row)
    (h₁ : ∀ k, k ∉ cols → Row.col r₁ k = .none) (h₂ : ∀ k, k ∉ cols → Row.col r₂ k = .none)
    (hkey : (groupCols fn d l).map (keyEntry cols d l r₁) = (groupCols fn d l).map (keyEntry cols d l r₂))
    {x : String} (hx : x ∈ groupCols fn d l) : Row.col r₁ x = Row.col r₂ x := by
  by_cases hc : x ∈ cols
  · have := List.map_inj_left.mp hkey x hx
    simpa [keyEntry, hc] using this
  · rw [h₁ x hc, h₂ x hc]

end Bermuda.Frame
