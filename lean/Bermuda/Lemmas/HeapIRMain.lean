/-
Lemmas for the HeapIR discipline (property C03), part 3: `exec_sound` (induction over the program),
`runFn_good` (a disciplined function is a good call) and `sem_good` (induction over the call depth).
-/
import Bermuda.Lemmas.HeapIRSound
namespace Bermuda.HeapIR
open Bermuda.Heap

section
variable {n0 : Nat} {W : Loc → Prop} {rc : Cls}

theorem exec_sound {sums : List Summary} {cs : CallSem} (hcs : GoodCalls sums cs) (s : Stmt) (tr : Bool) (a : AEnv)
    (st : St) (τ : Typing) (hok : (absExec sums rc tr s a).ok = true) (ht : Typed n0 W τ st.heap)
    (hn : n0 ≤ st.heap.size) (he : SatEnv τ a st.env) :
    Post n0 W rc tr τ st.heap (absExec sums rc tr s a) (exec cs s st) := by
  induction s generalizing tr a st τ with
  | skip => exact .norm (.refl ht hn) he
  | alloc x t al => exact execAlloc_sound ht hn he x t al hok
  | bind x y => exact .norm (.refl ht hn) (he.set x (he y))
  | const x =>
    refine .norm (.refl ht hn) (he.set x fun l => ?_)
    split <;> simp
  | arith x => exact execArith_sound ht hn he x
  | havoc x => exact .norm (.refl ht hn) (he.set x trivial)
  | load x y k => exact execLoad_sound ht hn he x y k
  | store x k v =>
    exact post_write (st := { st with orc := (popD (popN st.orc).2).2 }) ht hn he
      fun _ hw => writeRef_sound ht hn (he x) (.store hok (he v) _) hw
  | merge x y =>
    exact post_write (st := { st with orc := (popD st.orc).2 }) ht hn he
      fun _ hw => writeRef_sound ht hn (he x) (.merge ht hok (he y)) hw
  | shrink x =>
    exact post_write (st := { st with orc := (popD (popN st.orc).2).2 }) ht hn he
      fun _ hw => writeRef_sound ht hn (he x) (.shrink hok _) hw
  | aug x v => exact execAug_sound ht hn he x v hok
  | call x f args => exact execCall_sound hcs ht hn he x f args hok
  | unknown args => exact execUnknown_sound ht hn he args hok
  | seq s t ihs iht =>
    simp only [absExec, exec] at hok ⊢
    cases hr1 : (absExec sums rc tr s a).norm with
    | none =>
      simp only [hr1] at hok ⊢
      exact (ihs tr a st τ hok ht hn he).seq_none hr1
    | some a1 =>
      simp only [hr1, Bool.and_eq_true] at hok ⊢
      exact (ihs tr a st τ hok.1 ht hn he).seq_some hr1 fun st' τ' => iht tr a1 st' τ' hok.2
  | ite s t ihs iht =>
    simp only [absExec, exec, Bool.and_eq_true] at hok ⊢
    split
    · exact (ihs tr a { st with orc := (popN st.orc).2 } τ hok.1 ht hn he).weaken (ARes.sub_ojoin_left _ _ _)
    · exact (iht tr a { st with orc := (popN st.orc).2 } τ hok.2 ht hn he).weaken (ARes.sub_ojoin_right _ _ _)
  | loop inv s ih =>
    simp only [absExec, exec, Bool.and_eq_true] at hok ⊢
    obtain ⟨⟨hok1, hok2⟩, hok3⟩ := hok
    exact iter_sound (fun st' => exec cs s st') (absExec sums rc tr s inv) inv _
      (fun st' τ' ht' hn' he' => ih tr inv st' τ' hok1 ht' hn' he') hok3 _
      { st with orc := (popN st.orc).2 } τ ht hn (he.of_le hok2)
  | block s ih => exact (ih tr a st τ hok ht hn he).block
  | brk => exact .of_ext (.refl ht hn) ⟨a, rfl, he⟩
  | «try» s t ihs iht =>
    simp only [absExec, exec] at hok ⊢
    cases hr1 : (absExec sums rc true s a).exc with
    | none =>
      simp only [hr1] at hok ⊢
      exact (ihs true a st τ hok ht hn he).try_none hr1
    | some e =>
      simp only [hr1, Bool.and_eq_true] at hok ⊢
      exact (ihs true a st τ hok.1 ht hn he).try_some hr1 fun st' τ' => iht tr e st' τ' hok.2
  | ret x => exact .of_ext (.refl ht hn) ((he x).of_le hok)
  | raise => exact .of_ext (.refl ht hn) fun h => ⟨a, by simp [absExec, h], he⟩

end

open Classical in
/-- the typing a call starts with: nothing allocated yet, the objects of the unprotected arguments are `ext` -/
noncomputable def Typing.entry (V : Loc → Prop) : Typing := fun l => if V l then some .ext else none

theorem Typing.entry_some {V : Loc → Prop} {l : Loc} {t : Lvl} (h : Typing.entry V l = some t) : t = .ext ∧ V l := by
  unfold Typing.entry at h
  split at h
  · exact ⟨(Option.some.inj h).symm, by assumption⟩
  · cases h

theorem Typing.entry_of {V : Loc → Prop} {l : Loc} (h : V l) : Typing.entry V l = some .ext := by
  unfold Typing.entry
  rw [if_pos h]

theorem Typed.entry (n0 : Nat) {V : Loc → Prop} (h : Heap) (hV : ∀ l, V l → l < h.size) :
    Typed n0 V (Typing.entry V) h :=
  { bound := fun l t hl => by
      obtain ⟨rfl, hv⟩ := Typing.entry_some hl
      exact ⟨hV l hv, fun hc => absurd rfl hc⟩
    extW := fun l hl => (Typing.entry_some hl).2
    isArr := fun l hl => by have := (Typing.entry_some hl).1; cases this
    entries := fun l t es hl _ e _ => by
      obtain ⟨rfl, _⟩ := Typing.entry_some hl
      exact .of_elem_none rfl _ }

/-- a good call seen from outside any call: no typing but the entry typing of the call itself -/
theorem GoodCall.frame {s : Summary} {c : List Ref → Heap → Oracle → Heap × Except Unit Ref × Oracle}
    (hc : GoodCall s c) (args : List Ref) (h : Heap) (o : Oracle) (hwf : ∀ l, callW s.2 args l → l < h.size) :
    PreservesW h.size (callW s.2 args) h (c args h o).1 := by
  obtain ⟨_, _, _, p, _⟩ :=
    hc args h o 0 _ _ (Typed.entry 0 h hwf) (Nat.zero_le _) fun _ hl => ⟨.ext, Typing.entry_of hl, rfl⟩
  exact p

theorem entryEnvAux_sat (τ : Typing) (wp : List Nat) (params : List Var) :
    ∀ (i : Nat) (args : List Ref) (a : AEnv) (env : List Ref), SatEnv τ a env →
      (∀ j l, args[j]? = some (.loc l) → (i + j) ∈ wp → τ l = some .ext) →
      SatEnv τ (entryEnvAux wp i params a) (bindParams params args env) := by
  induction params with
  | nil => intro i args a env h _; simpa [entryEnvAux, bindParams] using h
  | cons p ps ih =>
    intro i args a env h hw
    cases args with
    | nil =>
      simp only [entryEnvAux, bindParams]
      refine ih (i + 1) [] _ _ (h.set p (SatCls.nonloc _ (by simp))) ?_
      intro j l hj
      simp at hj
    | cons r rs =>
      simp only [entryEnvAux, bindParams]
      refine ih (i + 1) rs _ _ (h.set p ?_) ?_
      · split
        · rename_i hmem
          intro l hl
          subst hl
          have := hw 0 l (by simp) (by simpa using hmem)
          exact ⟨.ext, this, Lvl.sub_refl _⟩
        · trivial
      · intro j l hj hmem
        exact hw (j + 1) l (by simpa using hj) (by rw [← Nat.add_assoc, Nat.add_right_comm]; exact hmem)

theorem entryEnv_sat (τ : Typing) (f : Fn) (args : List Ref)
    (hw : ∀ l, callW f.wparams args l → τ l = some .ext) :
    SatEnv τ (entryEnv f.params f.wparams) (bindParams f.params args []) := by
  refine entryEnvAux_sat τ f.wparams f.params 0 args [] [] ?_ ?_
  · intro x
    simp only [AEnv.get, List.getD_nil]
    exact SatCls.nonloc _ (by simp)
  · intro j l hj hmem
    exact hw l ⟨j, by simpa using hmem, hj⟩

/-- a caller's typing `τ` (locations `< n`) and a callee's typing `τc` (locations `≥ n`) side by side -/
def Typing.glue (τ τc : Typing) (n : Nat) : Typing := fun l => if l < n then τ l else τc l

theorem Typing.glue_some {τ τc : Typing} {n : Nat} {l : Loc} {t : Lvl} (h : Typing.glue τ τc n l = some t) :
    (l < n ∧ τ l = some t) ∨ (n ≤ l ∧ τc l = some t) := by
  unfold Typing.glue at h
  split at h
  · exact .inl ⟨‹_›, h⟩
  · exact .inr ⟨Nat.not_lt.mp ‹_›, h⟩

section
variable {n : Nat} {W V : Loc → Prop} {τ τc : Typing} {h h' : Heap}

theorem Typing.glue_lt {m : Nat} {l : Loc} (hl : l < m) : Typing.glue τ τc m l = τ l := if_pos hl

theorem Typing.glue_ge {m : Nat} {l : Loc} (hl : m ≤ l) : Typing.glue τ τc m l = τc l := if_neg (Nat.not_lt.mpr hl)

theorem Typing.le_glue (ht : Typed n W τ h) : τ.le (Typing.glue τ τc h.size) :=
  fun l t hl => (Typing.glue_lt (ht.bound l t hl).1).trans hl

/-- a location the callee types below `h.size` has level `ext`, and only `lv ext` is above that -/
theorem SatCls.glue (tc : Typed h.size V τc h') {c : Cls} {r : Ref} (hc : c ≠ .lv .ext) (hs : SatCls τc c r) :
    SatCls (Typing.glue τ τc h.size) c r := by
  cases c with
  | scalar => exact hs
  | any => trivial
  | lv t =>
    intro l hl
    obtain ⟨t', h1, h2⟩ := hs l hl
    have hge : h.size ≤ l := (tc.bound l t' h1).2 fun hx => by
      subst hx
      rcases Lvl.sub_iff.mp h2 with rfl | ⟨h3, _⟩
      · exact hc rfl
      · cases h3
    exact ⟨t', (Typing.glue_ge hge).trans h1, h2⟩

/-- `V`: the objects handed to unprotected parameters, which the callee may have written: the caller types them at a
level that puts no constraint on their entries (`hext`); everything else below `h.size` is as the caller left it (`pc`) -/
theorem Typed.glue (ht : Typed n W τ h) (hn : n ≤ h.size) (tc : Typed h.size V τc h')
    (pc : PreservesW h.size V h h') (hext : ∀ l, V l → ∃ t, τ l = some t ∧ t.elem = none) :
    Typed n W (Typing.glue τ τc h.size) h' := by
  refine ⟨fun l t hl => ?_, fun l hl => ?_, fun l hl => ?_, fun l t es hl hg e he => ?_⟩
  · rcases Typing.glue_some hl with ⟨hlt, h1⟩ | ⟨hge, h1⟩
    · exact ⟨Nat.lt_of_lt_of_le hlt pc.1, (ht.bound l t h1).2⟩
    · exact ⟨(tc.bound l t h1).1, fun _ => Nat.le_trans hn hge⟩
  · rcases Typing.glue_some hl with ⟨_, h1⟩ | ⟨hge, h1⟩
    · exact ht.extW l h1
    · obtain ⟨t, h2, _⟩ := hext l (tc.extW l h1)
      exact absurd (ht.bound l t h2).1 (Nat.not_lt.mpr hge)
  · rcases Typing.glue_some hl with ⟨hlt, h1⟩ | ⟨_, h1⟩
    · obtain ⟨d, hd⟩ := ht.isArr l h1
      exact pc.2.2 l d hlt hd
    · exact tc.isArr l h1
  · rcases Typing.glue_some hl with ⟨hlt, h1⟩ | ⟨_, h1⟩
    · by_cases hw : V l
      · obtain ⟨t0, h3, h2⟩ := hext l hw
        cases h1.symm.trans h3
        exact .of_elem_none h2 _
      · rw [pc.2.1 l hlt hw] at hg
        exact (ht.entries l t es h1 hg e he).mono (Typing.le_glue ht)
    · exact (tc.entries l t es h1 hg e he).imp fun t' heq =>
        SatCls.glue tc fun hc => Lvl.elem_ne_ext heq (Cls.lv.inj hc)

end

theorem runFn_good {sums : List Summary} {cs : CallSem} (hcs : GoodCalls sums cs) (f : Fn)
    (hf : writesOnlyFresh sums f = true) : GoodCall (f.retCls, f.wparams) (runFn cs f) := by
  intro args h o n W τ ht hn hext
  simp only [writesOnlyFresh, Bool.and_eq_true, Bool.not_eq_true'] at hf
  obtain ⟨hf, hret⟩ := hf
  have hV : ∀ l, callW f.wparams args l → l < h.size := fun l hl => by
    obtain ⟨t, h1, _⟩ := hext l hl
    exact (ht.bound l t h1).1
  -- the body runs from the entry typing, with the heap at the call as its frame
  obtain ⟨τc, _, tc, pc, cc⟩ := exec_sound (n0 := h.size) (W := callW f.wparams args) (rc := f.retCls) hcs f.body false
    (entryEnv f.params f.wparams) ⟨bindParams f.params args [], h, o⟩ (Typing.entry (callW f.wparams args)) hf
    (Typed.entry _ h hV) (Nat.le_refl _)
    (entryEnv_sat _ f args (fun l hl => Typing.entry_of hl))
  simp only [runFn]
  generalize exec cs f.body ⟨bindParams f.params args [], h, o⟩ = out at tc pc cc ⊢
  refine ⟨Typing.glue τ τc h.size, Typing.le_glue ht, ?_⟩
  have hglue := ht.glue hn tc pc hext
  cases out with
  | exc st => exact ⟨hglue, pc, fun v hv => by cases hv⟩
  | ret r st =>
    exact ⟨hglue, pc, fun v hv => by cases hv; exact SatCls.glue tc (fun hc => by rw [hc] at hret; cases hret) cc⟩
  | _ => exact ⟨hglue, pc, fun v hv => by cases hv; exact SatCls.nonloc _ (by simp)⟩

theorem summaries_getD (P : List Fn) (f : Nat) (fn : Fn) (hf : P[f]? = some fn) :
    (summaries P).getD f (.any, []) = (fn.retCls, fn.wparams) := by
  simp only [summaries, List.getD_eq_getElem?_getD, List.getElem?_map, hf, Option.map_some, Option.getD_some]

theorem summaries_getD_none (P : List Fn) (f : Nat) (hf : P[f]? = none) :
    (summaries P).getD f (.any, []) = (.any, []) := by
  simp only [summaries, List.getD_eq_getElem?_getD, List.getElem?_map, hf, Option.map_none, Option.getD_none]

/-- every function of a disciplined program is a good call, at every call depth -/
theorem sem_good (P : List Fn) (hP : disciplined P = true) (d : Nat) : GoodCalls (summaries P) (sem P d) := by
  induction d with
  | zero => exact fun _ => .error _
  | succ d ih =>
    intro f
    simp only [sem]
    cases hf : P[f]? with
    | none => exact .error _
    | some fn =>
      rw [summaries_getD P f fn hf]
      exact runFn_good ih fn (List.all_eq_true.mp hP fn (List.mem_of_getElem? hf))

end Bermuda.HeapIR
