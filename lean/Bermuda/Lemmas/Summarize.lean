/-
Helper lemmas for C09 / C08: association lists, the first-error sequencing combinators, `summarize_cell_values` (on
top of `Lemmas/SummarizeValues.lean`), grouping (`groupsOf`, the closed form of `toolz.groupby` that
`Lemmas/Aggregate.lean` uses for the piles of `_aggregate_period` too), the stages of `summarize`, metadata gcd.
Core Lean only.
-/
import Bermuda.Model.Summarize
import Bermuda.Lemmas.Ops
import Bermuda.Lemmas.Assoc
import Bermuda.Lemmas.ExceptFacts
import Bermuda.Lemmas.Canonical
import Bermuda.Lemmas.SummarizeValues
namespace Bermuda
open Generated.Summarize

/-! ### association lists

`Dict.get?` is `Assoc.get?` (`Lemmas/Assoc.lean`) and `Dict.keys d` is `d.map (·.1)`, both by `rfl`. -/

theorem Dict.get?_nil_s {α} (k : String) : Dict.get? ([] : Dict α) k = none := rfl

/-! ### sequencing

`smMapE` is `List.mapM` and `smFoldE` is `List.foldlM` (`Lemmas/ExceptFacts.lean`). -/

theorem smMapE_cons_ok {α β} {f : α → Except Err β} {a : α} {l : List α} {out : List β}
    (h : smMapE f (a :: l) = .ok out) :
    ∃ b bs, f a = .ok b ∧ smMapE f l = .ok bs ∧ out = b :: bs := by
  simpa only [smMapE_eq_mapM] using mapM_cons_ok_iff.mp (smMapE_eq_mapM f _ ▸ h)

theorem smMapE_length {α β} {f : α → Except Err β} {l : List α} {out : List β}
    (h : smMapE f l = .ok out) : out.length = l.length :=
  mapM_ok_length (smMapE_eq_mapM f l ▸ h)

theorem smMapE_getElem {α β} {f : α → Except Err β} {l : List α} {out : List β}
    (h : smMapE f l = .ok out) (i : Nat) (hi : i < l.length) :
    f l[i] = .ok (out[i]'(by rw [smMapE_length h]; exact hi)) :=
  mapM_ok_getElem (smMapE_eq_mapM f l ▸ h) i hi

theorem smMapE_mem {α β} {f : α → Except Err β} {l : List α} {out : List β}
    (h : smMapE f l = .ok out) {b : β} (hb : b ∈ out) : ∃ a ∈ l, f a = .ok b :=
  mapM_ok_mem (smMapE_eq_mapM f l ▸ h) b hb

theorem smMapE_mem' {α β} {f : α → Except Err β} {l : List α} {out : List β}
    (h : smMapE f l = .ok out) {a : α} (ha : a ∈ l) : ∃ b ∈ out, f a = .ok b :=
  mapM_ok_mem' (smMapE_eq_mapM f l ▸ h) a ha

theorem smMapE_error_of_mem {α β} {f : α → Except Err β} {l : List α} {a : α} {e : Err}
    (ha : a ∈ l) (hf : f a = .error e) : ∃ e', smMapE f l = .error e' :=
  smMapE_eq_mapM f l ▸ mapM_error_of_mem ha hf

theorem smMapE_map {α} {β γ : Type} {F : α → Except Err β} {gs : List α} {cells : List β} (P : β → γ)
    (Q : α → γ) (h : smMapE F gs = .ok cells) (hpq : ∀ g ∈ gs, ∀ o, F g = .ok o → P o = Q g) :
    cells.map P = gs.map Q :=
  mapM_ok_map_eq (smMapE_eq_mapM F gs ▸ h) hpq

theorem smMapE_get? {g : String → Except Err (String × Val)} {keys : List String} {d : Dict Val}
    (h : smMapE g keys = .ok d) (hk : ∀ k r, g k = .ok r → r.1 = k) (f : String) :
    (f ∈ keys → ∃ v, g f = .ok (f, v) ∧ d.get? f = some v) ∧ (f ∉ keys → d.get? f = none) := by
  induction keys generalizing d with
  | nil => simp only [smMapE] at h; cases h; simp [Dict.get?_nil_s]
  | cons k ks ih =>
    obtain ⟨b, bs, hb, hbs, rfl⟩ := smMapE_cons_ok h
    have hb1 := hk k b hb
    have ih' := ih hbs
    rw [Dict.get?_cons, hb1]
    by_cases hkf : k = f
    · subst hkf
      refine ⟨fun _ => ⟨b.2, ?_, by simp⟩, fun hn => absurd (List.mem_cons_self) hn⟩
      rw [hb]; congr 1; exact Prod.ext hb1 rfl
    · rw [if_neg (by simpa using hkf)]
      refine ⟨fun hm => ?_, fun hn => ?_⟩
      · rcases List.mem_cons.mp hm with rfl | hm
        · exact absurd rfl hkf
        · exact ih'.1 hm
      · exact ih'.2 (fun hm => hn (List.mem_cons_of_mem _ hm))

theorem smMapE_keys {g : String → Except Err (String × Val)} {keys : List String} {d : Dict Val}
    (h : smMapE g keys = .ok d) (hk : ∀ k r, g k = .ok r → r.1 = k) : d.keys = keys :=
  (smMapE_map (fun p : String × Val => p.1) id h fun k _ r hr => hk k r hr).trans (List.map_id keys)

/-! ### first-occurrence dedup -/

/-- `smDedup` (a recursion carrying the elements seen) is the dedup fold of `Lemmas/ListFacts.lean` -/
theorem foldl_dedup_eq_smDedupAux {α} [BEq α] [LawfulBEq α] (l init seen : List α)
    (h : ∀ x, x ∈ seen ↔ x ∈ init) :
    l.foldl (fun acc a => if acc.contains a then acc else acc ++ [a]) init = init ++ smDedupAux seen l := by
  induction l generalizing init seen with
  | nil => simp [smDedupAux]
  | cons a l ih =>
    have hc : seen.contains a = init.contains a := by simp [h a]
    rw [List.foldl_cons, smDedupAux, hc]
    split
    · exact ih init seen h
    · rw [ih (init ++ [a]) (a :: seen) (fun x => by simp [h x, or_comm]), List.append_assoc]
      rfl

theorem smDedup_eq {α} [BEq α] [LawfulBEq α] (l : List α) : smDedup l = distinctKeys id l :=
  (foldl_dedup_eq_smDedupAux l [] [] fun _ => Iff.rfl).symm

theorem mem_smDedup {α} [BEq α] [LawfulBEq α] {l : List α} {a : α} : a ∈ smDedup l ↔ a ∈ l := by
  rw [smDedup_eq, mem_distinctKeys]; simp

theorem nodup_smDedup {α} [BEq α] [LawfulBEq α] (l : List α) : (smDedup l).Nodup :=
  smDedup_eq l ▸ distinctKeys_nodup id l

/-! ### `summarize_cell_values` -/

theorem Cell.getV_eq (c : Cell) (k : String) : c.getV k = (Dict.get? c.values k).getD .none := rfl

theorem Cell.getV_of_get? {c : Cell} {k : String} {v : Val} (h : Dict.get? c.values k = some v) : c.getV k = v := by
  simp [Cell.getV, h]

theorem Cell.get?_of_getV_ne_none {c : Cell} {k : String} (h : c.getV k ≠ .none) :
    Dict.get? c.values k = some (c.getV k) := by
  cases hg : Dict.get? c.values k with
  | none => exact absurd (by simp [Cell.getV, hg]) h
  | some x => rw [Cell.getV_of_get? hg]

theorem mem_valueKeys {cells : List Cell} {k : String} :
    k ∈ valueKeys cells ↔ ∃ c ∈ cells, k ∈ c.values.keys := by
  simp [valueKeys, mem_smDedup, List.mem_flatMap]

theorem getV_eq_none_of_not_mem_valueKeys {cells : List Cell} {k : String}
    (h : k ∉ valueKeys cells) : ∀ c ∈ cells, c.getV k = .none := by
  intro c hc
  have : k ∉ c.values.keys := fun hk => h (mem_valueKeys.mpr ⟨c, hc, hk⟩)
  simp [Cell.getV, Dict.get?_eq_assoc, Assoc.get?_eq_none_iff.mpr this]

theorem rawGet_rawValues {cells : List Cell} {keys : List String} {k : String} (h : k ∈ keys) :
    rawGet (rawValues cells keys) k = .ok (cells.map fun c => c.getV k) := by
  unfold rawGet rawValues
  rw [Dict.get?_eq_assoc, Assoc.get?_map_key, if_pos h]

theorem rawGet_rawValues_not_mem {cells : List Cell} {keys : List String} {k : String} (h : k ∉ keys) :
    rawGet (rawValues cells keys) k = .error .keyError := by
  unfold rawGet rawValues
  rw [Dict.get?_eq_assoc, Assoc.get?_map_key, if_neg h]

theorem lowerKey_eq_self {s : String} (h : s.toList.map Char.toLower = s.toList) : lowerKey s = s :=
  String.ext (String.toList_map.trans h)

theorem aggKey_fst {tr : Transc} {extra : List RuleEntry} {raw : Dict (List Val)} {k : String}
    {r : String × Val} (h : aggKey tr extra raw k = .ok r) : r.1 = k := by
  unfold aggKey at h
  split at h
  · cases h
  · split at h
    · cases h
    · cases h; rfl

/-- the first statement of `summarize_cell_values`: an unknown field name is refused before anything is computed -/
theorem summarizeCellValues_unknown {tr : Transc} {extra : List RuleEntry} {cells : List Cell}
    {prem : Bool} (h : ∃ c ∈ cells, ∃ k ∈ c.values.keys, ruleOf extra (lowerKey k) = none) :
    summarizeCellValues tr extra cells prem = .error .triangleError := by
  obtain ⟨c, hc, k, hk, hr⟩ := h
  unfold summarizeCellValues
  have : (valueKeys cells).any (fun k => (ruleOf extra (lowerKey k)).isNone) = true := by
    rw [List.any_eq_true]
    exact ⟨k, mem_valueKeys.mpr ⟨c, hc, hk⟩, by simp [hr]⟩
  simp [this]

theorem firstNonLoss_fst {nl : Dict (List Val)} {k : String} {r : String × Val}
    (h : firstNonLoss nl k = .ok r) : r.1 = k := by
  unfold firstNonLoss at h
  split at h
  · cases h; rfl
  · cases h

theorem firstValue_cons_of_ne_none {v : Val} (l : List Val) (h : v ≠ .none) : firstValue (v :: l) = v := by
  cases v <;> first | exact absurd rfl h | rfl

/-- the first non-`None` value: either every value is `None` (result `None`) or the result is a member that is not `None` -/
theorem firstValue_spec (l : List Val) :
    (firstValue l = .none ∧ ∀ v ∈ l, v = .none) ∨ (firstValue l ≠ .none ∧ firstValue l ∈ l) := by
  induction l with
  | nil => left; exact ⟨rfl, by simp⟩
  | cons v l ih =>
    by_cases hv : v = .none
    · subst hv
      have e : firstValue (Val.none :: l) = firstValue l := rfl
      rw [e]
      rcases ih with ⟨h1, h2⟩ | ⟨h1, h2⟩
      · left; exact ⟨h1, by intro x hx; rcases List.mem_cons.mp hx with rfl | hx; rfl; exact h2 x hx⟩
      · right; exact ⟨h1, List.mem_cons_of_mem _ h2⟩
    · right
      rw [firstValue_cons_of_ne_none l hv]
      exact ⟨hv, List.mem_cons_self⟩

/-- the stages of a successful `summarize_cell_values`: the fields that go through their rule (all of them with
`summarize_premium = True`, else those outside NON_LOSS_METRICS), then the others -/
theorem summarizeCellValues_ok {tr : Transc} {extra : List RuleEntry} {cells : List Cell} {pf : Bool}
    {d : Dict Val} (h : summarizeCellValues tr extra cells pf = .ok d) :
    ∃ loss nonLoss,
      smMapE (aggKey tr extra (rawValues cells (valueKeys cells)))
        ((valueKeys cells).filter fun k => pf || !nonLossMetrics.contains k) = .ok loss ∧
      smMapE (firstNonLoss (rawValues cells (valueKeys cells)))
        ((valueKeys cells).filter fun k => !pf && nonLossMetrics.contains k) = .ok nonLoss ∧
      d = loss ++ nonLoss := by
  unfold summarizeCellValues at h
  simp only at h
  split at h
  · cases h
  · cases pf with
    | true =>
      simp only [if_true] at h
      have e1 : ((valueKeys cells).filter fun k => true || !nonLossMetrics.contains k) = valueKeys cells :=
        List.filter_eq_self.mpr fun _ _ => rfl
      have e2 : ((valueKeys cells).filter fun k => !true && nonLossMetrics.contains k) = [] :=
        List.filter_eq_nil_iff.mpr fun _ _ => by simp
      exact ⟨d, [], by rw [e1]; exact h, by rw [e2]; rfl, by simp⟩
    | false =>
      simp only [Bool.false_eq_true, if_false] at h
      split at h
      · cases h
      · rename_i loss hloss
        split at h
        · cases h
        · rename_i nonLoss hnon
          cases h
          exact ⟨loss, nonLoss, by simpa using hloss, by simpa using hnon, rfl⟩

/-- the entry of a field that goes through its rule (`summarize_premium = True`, or a field outside
NON_LOSS_METRICS): the rule of the lower-cased key applied to the raw values of ALL cells -/
theorem summarizeCellValues_entry {tr : Transc} {extra : List RuleEntry} {cells : List Cell} {pf : Bool}
    {d : Dict Val} {f : String} (h : summarizeCellValues tr extra cells pf = .ok d)
    (hc : pf = true ∨ f ∉ nonLossMetrics) (hf : f ∈ valueKeys cells) :
    ∃ v, aggKey tr extra (rawValues cells (valueKeys cells)) f = .ok (f, v) ∧ Dict.get? d f = some v := by
  obtain ⟨loss, nonLoss, hloss, _, rfl⟩ := summarizeCellValues_ok h
  obtain ⟨v, hv, hd⟩ := (smMapE_get? hloss (fun k r hk => aggKey_fst hk) f).1
    (List.mem_filter.mpr ⟨hf, by rcases hc with rfl | hc <;> simp [*]⟩)
  exact ⟨v, hv, by rw [Dict.get?_append, hd]⟩

theorem summarizeCellValues_get?_none {tr : Transc} {extra : List RuleEntry} {cells : List Cell} {pf : Bool}
    {d : Dict Val} {f : String} (h : summarizeCellValues tr extra cells pf = .ok d)
    (hf : f ∉ valueKeys cells) : Dict.get? d f = none := by
  obtain ⟨loss, nonLoss, hloss, hnon, rfl⟩ := summarizeCellValues_ok h
  rw [Dict.get?_append,
    (smMapE_get? hloss (fun k r hk => aggKey_fst hk) f).2 (fun hm => hf (List.mem_filter.mp hm).1),
    (smMapE_get? hnon (fun k r hk => firstNonLoss_fst hk) f).2 (fun hm => hf (List.mem_filter.mp hm).1)]

/-- the result of `summarize_cell_values` carries exactly the field names of its cells, each once -/
theorem summarizeCellValues_keys_perm {tr : Transc} {extra : List RuleEntry} {cells : List Cell}
    {pf : Bool} {d : Dict Val} (h : summarizeCellValues tr extra cells pf = .ok d) :
    d.keys.Perm (valueKeys cells) := by
  obtain ⟨loss, nonLoss, hloss, hnon, rfl⟩ := summarizeCellValues_ok h
  rw [Dict.keys_append, smMapE_keys hloss (fun k r hk => aggKey_fst hk), smMapE_keys hnon (fun k r hk => firstNonLoss_fst hk)]
  simpa using List.filter_append_perm (fun k => pf || !nonLossMetrics.contains k) (valueKeys cells)

theorem summarizeCellValues_congr {tr : Transc} {extra : List RuleEntry} {cs cs' : List Cell} {pf : Bool}
    (h : cs.map (·.values) = cs'.map (·.values)) :
    summarizeCellValues tr extra cs pf = summarizeCellValues tr extra cs' pf := by
  have hk : valueKeys cs = valueKeys cs' := by
    have : ∀ l : List Cell, (l.flatMap fun c => c.values.keys) = (l.map (·.values)).flatMap Dict.keys :=
      fun l => by rw [List.flatMap_map]
    unfold valueKeys; rw [this, this, h]
  have hr : ∀ keys, rawValues cs keys = rawValues cs' keys := fun keys => by
    have : ∀ (l : List Cell) k,
        (l.map fun c => c.getV k) = (l.map (·.values)).map fun d => (Dict.get? d k).getD .none :=
      fun l k => by rw [List.map_map]; rfl
    exact List.map_congr_left fun k _ => by rw [this, this, h]
  unfold summarizeCellValues
  simp only [hk, hr]

/-! ### `_non_loss_distinct_indices`

`summarize_cell_values` still computes these indices and picks the values at them, but reads neither: with
`summarize_premium = False` a premium or exposure field takes the first value that is not `None` (`firstValue`). -/

theorem distinct_foldl_head (l : List (Metadata × Nat)) (st : List Metadata × List Nat) (i : Nat)
    (tl : List Nat) (h : st.2 = i :: tl) : ∃ tl', (l.foldl distinctStep st).2 = i :: tl' := by
  induction l generalizing st tl with
  | nil => exact ⟨tl, h⟩
  | cons x l ih =>
    rw [List.foldl_cons]
    unfold distinctStep
    split
    · exact ih st tl h
    · exact ih _ (tl ++ [x.2]) (by simp [h])

theorem nonLossDistinctIndices_head (c : Cell) (rest : List Cell) :
    ∃ tl, nonLossDistinctIndices (c :: rest) = 0 :: tl := by
  unfold nonLossDistinctIndices
  simp only [List.map_cons, List.zipIdx_cons, List.foldl_cons]
  exact distinct_foldl_head _ _ 0 [] (by simp [distinctStep])

theorem pickIdx_head {α} (tl : List Nat) (v : α) (vs : List α) :
    ∃ r, pickIdx (0 :: tl) (v :: vs) = v :: r := by
  unfold pickIdx
  simp [List.zipIdx_cons]

/-! ### the entry of a field, by the kind of its rule -/

theorem aggKey_sum {tr : Transc} {extra : List RuleEntry} {cells : List Cell} {keys : List String}
    {f : String} {v : Val} (hr : ruleOf extra (lowerKey f) = some ⟨.sum, [f]⟩) (hf : f ∈ keys)
    (h : aggKey tr extra (rawValues cells keys) f = .ok (f, v)) :
    conformingSum (cells.map fun c => c.getV f) = .ok v := by
  unfold aggKey at h
  rw [hr] at h
  simp only [applyRule, rawGet_rawValues hf] at h
  split at h
  · cases h
  · rename_i v' hv'
    cases h
    exact hv'

/-- **cell-level sum clause**: a field whose rule is the sum of itself and that goes through its rule comes out as
the sample-wise sum over all cells, cells without the field counting 0 -/
theorem summarizeCellValues_sum {tr : Transc} {extra : List RuleEntry} {cells : List Cell}
    {pf : Bool} {d : Dict Val} {f : String} (h : summarizeCellValues tr extra cells pf = .ok d)
    (hc : pf = true ∨ f ∉ nonLossMetrics) (hr : ruleOf extra (lowerKey f) = some ⟨.sum, [f]⟩) :
    SumOf ((d.get? f).getD .none) (cells.map fun c => c.getV f) := by
  by_cases hf : f ∈ valueKeys cells
  · obtain ⟨v, hv, hd⟩ := summarizeCellValues_entry h hc hf
    rw [hd]
    exact conformingSum_sum (aggKey_sum hr hf hv)
  · -- no cell has the field: the entry is missing, and every addend is `None`
    rw [summarizeCellValues_get?_none h hf,
      List.map_congr_left (getV_eq_none_of_not_mem_valueKeys hf) (g := fun _ => Val.none)]
    exact ⟨fun i => by simp [Val.inRange], fun i _ => by simp [Val.at, sum_map_zero], by simp [Val.isIntKind],
      by simp [Val.isArr]⟩

theorem summarizeCellValues_sum_at {tr : Transc} {extra : List RuleEntry} {cells : List Cell}
    {pf : Bool} {d : Dict Val} {f : String} {i : Nat}
    (h : summarizeCellValues tr extra cells pf = .ok d)
    (hc : pf = true ∨ f ∉ nonLossMetrics)
    (hr : ruleOf extra (lowerKey f) = some ⟨.sum, [f]⟩)
    (hin : ∀ c ∈ cells, (c.getV f).inRange i = true) :
    ((d.get? f).getD .none).at i = (cells.map fun c => (c.getV f).at i).sum ∧
    ((d.get? f).getD .none).inRange i = true := by
  have s := summarizeCellValues_sum h hc hr
  have hin' : ∀ v ∈ cells.map fun c => c.getV f, v.inRange i = true := by simpa using hin
  exact ⟨by rw [s.sample i hin', List.map_map]; rfl, by rw [s.range]; exact List.all_eq_true.mpr hin'⟩

theorem aggKey_wavg {tr : Transc} {extra : List RuleEntry} {cells : List Cell} {keys : List String}
    {f w : String} {v : Val} (hr : ruleOf extra (lowerKey f) = some ⟨.wavg, [f, w]⟩) (hf : f ∈ keys)
    (h : aggKey tr extra (rawValues cells keys) f = .ok (f, v)) :
    w ∈ keys ∧ conformingWavg (cells.map fun c => c.getV f) (cells.map fun c => c.getV w) = .ok v := by
  unfold aggKey at h
  rw [hr] at h
  simp only [applyRule, rawGet_rawValues hf] at h
  by_cases hw : w ∈ keys
  · simp only [rawGet_rawValues hw] at h
    split at h
    · cases h
    · rename_i v' hv'
      cases h
      exact ⟨hw, hv'⟩
  · simp only [rawGet_rawValues_not_mem hw] at h
    cases h

/-- **cell-level ratio clause**: a field whose rule is the `w`-weighted average of itself satisfies
`result × Σ w = Σ value × w` sample by sample (Σ w over ALL cells of the group; cells without the field count 0 in
the numerator), with a non-zero denominator -/
theorem summarizeCellValues_wavg_at {tr : Transc} {extra : List RuleEntry} {cells : List Cell} {pf : Bool}
    {d : Dict Val} {f w : String} {i : Nat}
    (h : summarizeCellValues tr extra cells pf = .ok d) (hc : pf = true ∨ f ∉ nonLossMetrics)
    (hr : ruleOf extra (lowerKey f) = some ⟨.wavg, [f, w]⟩) (hf : f ∈ valueKeys cells)
    (hin : ∀ c ∈ cells, (c.getV f).inRange i = true ∧ (c.getV w).inRange i = true) :
    ∃ v, Dict.get? d f = some v ∧
      v.at i * (cells.map fun c => (c.getV w).at i).sum =
        (cells.map fun c => (c.getV f).at i * (c.getV w).at i).sum ∧
      (cells.map fun c => (c.getV w).at i).sum ≠ 0 := by
  obtain ⟨v, hv, hd⟩ := summarizeCellValues_entry h hc hf
  obtain ⟨_, hs⟩ := aggKey_wavg hr hf hv
  have := conformingWavg_at (i := i) hs
    (by intro x hx; obtain ⟨c, hc, rfl⟩ := List.mem_map.mp hx; exact (hin c hc).1)
    (by intro x hx; obtain ⟨c, hc, rfl⟩ := List.mem_map.mp hx; exact (hin c hc).2)
  exact ⟨v, hd, by simpa [List.zip_map', List.map_map, Function.comp_def] using this.1,
    by simpa [List.map_map, Function.comp_def] using this.2.1⟩

theorem aggKey_wavglog {tr : Transc} {extra : List RuleEntry} {cells : List Cell} {keys : List String}
    {f w : String} {v : Val} (hr : ruleOf extra (lowerKey f) = some ⟨.wavglog, [f, w]⟩) (hf : f ∈ keys)
    (h : aggKey tr extra (rawValues cells keys) f = .ok (f, v)) :
    ∃ es a, expList tr (cells.map fun c => c.getV f) = .ok es ∧
      conformingWavg es (cells.map fun c => c.getV w) = .ok a ∧ Val.mapF tr.log a = .ok v := by
  unfold aggKey at h
  rw [hr] at h
  simp only [applyRule, rawGet_rawValues hf] at h
  split at h
  · cases h
  · rename_i v' hv'
    cases h
    split at hv'
    · cases hv'
    · rename_i es hes
      by_cases hw : w ∈ keys
      · simp only [rawGet_rawValues hw] at hv'
        split at hv'
        · cases hv'
        · rename_i a ha
          exact ⟨es, a, hes, ha, hv'⟩
      · simp only [rawGet_rawValues_not_mem hw] at hv'
        cases hv'

theorem summarizeCellValues_wavglog_at {tr : Transc} {extra : List RuleEntry} {cells : List Cell} {pf : Bool}
    {d : Dict Val} {f w : String} {i : Nat}
    (h : summarizeCellValues tr extra cells pf = .ok d) (hc : pf = true ∨ f ∉ nonLossMetrics)
    (hr : ruleOf extra (lowerKey f) = some ⟨.wavglog, [f, w]⟩) (hf : f ∈ valueKeys cells)
    (hin : ∀ c ∈ cells, (c.getV f).inRange i = true ∧ (c.getV w).inRange i = true) :
    ∃ v, Dict.get? d f = some v ∧
      v.at i = tr.log ((cells.map fun c => tr.exp ((c.getV f).at i) * (c.getV w).at i).sum /
        (cells.map fun c => (c.getV w).at i).sum) ∧
      (cells.map fun c => (c.getV w).at i).sum ≠ 0 ∧ v.inRange i = true ∧
      ∀ c ∈ cells, (c.getV f).isNone = false := by
  obtain ⟨v, hv, hd⟩ := summarizeCellValues_entry h hc hf
  obtain ⟨es, a, hes, ha, hl⟩ := aggKey_wavglog hr hf hv
  have := wavglog_at (i := i) hes ha hl
    (by intro x hx; obtain ⟨c, hc, rfl⟩ := List.mem_map.mp hx; exact (hin c hc).1)
    (by intro x hx; obtain ⟨c, hc, rfl⟩ := List.mem_map.mp hx; exact (hin c hc).2)
  refine ⟨v, hd, ?_, ?_, this.2.2, ?_⟩
  · simpa [List.zip_map', List.map_map, Function.comp_def] using this.1
  · simpa [List.map_map, Function.comp_def] using this.2.1
  · exact fun c hc => (expList_ok hes).2 _ (List.mem_map.mpr ⟨c, hc, rfl⟩)

/-- **`summarize_premium = False`, premium/exposure fields**: the value of the FIRST cell of the group that
has one (`None` if none has), not a sum -/
theorem summarizeCellValues_noprem_first {tr : Transc} {extra : List RuleEntry} {cells : List Cell}
    {d : Dict Val} {f : String}
    (h : summarizeCellValues tr extra cells false = .ok d)
    (hnl : f ∈ nonLossMetrics) (hf : f ∈ valueKeys cells) :
    d.get? f = some (firstValue (cells.map fun c => c.getV f)) := by
  obtain ⟨loss, nonLoss, hloss, hnon, rfl⟩ := summarizeCellValues_ok h
  have hnone : Dict.get? loss f = none := (smMapE_get? hloss (fun k r hk => aggKey_fst hk) f).2
    (fun hm => by simpa [hnl] using (List.mem_filter.mp hm).2)
  obtain ⟨v, hv, hd⟩ := (smMapE_get? hnon (fun k r hk => firstNonLoss_fst hk) f).1
    (List.mem_filter.mpr ⟨hf, by simpa using hnl⟩)
  rw [Dict.get?_append, hnone, hd]
  unfold firstNonLoss at hv
  rw [rawValues, Dict.get?_eq_assoc, Assoc.get?_map_key, if_pos hf] at hv
  simp only at hv
  cases hv
  rfl

/-! ### `toolz.groupby` in closed form -/

/-- the closed form: distinct keys in first-occurrence order, each with the sub-list of its elements -/
def groupsOf {α κ} [BEq κ] (key : α → κ) (l : List α) : List (κ × List α) :=
  (smDedup (l.map key)).map fun k => (k, l.filter fun a => key a == k)

/-- **`toolz.groupby` = distinct keys in first-occurrence order, each with its elements in order** -/
theorem groupBy_eq_groupsOf {α κ} [BEq κ] [LawfulBEq κ] (key : α → κ) (l : List α) :
    groupBy key l = groupsOf key l := by
  rw [groupBy_eq_map, groupsOf, smDedup_eq, distinctKeys, distinctKeys, List.foldl_map]
  rfl

theorem mem_groupsOf_iff {α κ} [BEq κ] [LawfulBEq κ] {key : α → κ} {l : List α} {p : κ × List α} :
    p ∈ groupsOf key l ↔ (∃ a ∈ l, key a = p.1) ∧ p.2 = l.filter (key · == p.1) :=
  groupBy_eq_groupsOf key l ▸ mem_groupBy_iff

theorem groupsOf_cover {α κ} [BEq κ] [LawfulBEq κ] {key : α → κ} {l : List α} {a : α} (ha : a ∈ l) :
    ∃ p ∈ groupsOf key l, p.1 = key a ∧ a ∈ p.2 :=
  groupBy_eq_groupsOf key l ▸ groupBy_cover ha

/-- the test `p` is on the KEY because it has to be constant on a group -/
theorem sum_by_groups {α β κ} [BEq κ] [LawfulBEq κ] (key : α → κ) (okey : β → κ) (g : α → Rat) (G : β → Rat)
    (p : κ → Bool) {l : List α} {out : List β} (hk : (out.map okey).Perm (smDedup (l.map key)))
    (hcell : ∀ o ∈ out, p (okey o) = true → G o = ((l.filter fun a => key a == okey o).map g).sum) :
    ((out.filter fun o => p (okey o)).map G).sum = ((l.filter fun a => p (key a)).map g).sum := by
  rw [sum_filter_eq_indicator, sum_filter_eq_indicator,
    ← sum_groups key (fun a => if p (key a) then g a else 0) (out.map okey) l (hk.nodup_iff.mpr (nodup_smDedup _))
      (fun a ha => hk.mem_iff.mpr (mem_smDedup.mpr (List.mem_map.mpr ⟨a, ha, rfl⟩))), List.map_map]
  refine congrArg List.sum (List.map_congr_left fun o ho => ?_)
  have hp : ∀ a ∈ l.filter (fun a => key a == okey o), p (key a) = p (okey o) := fun a ha => by
    rw [beq_iff_eq.mp (List.mem_filter.mp ha).2]
  cases hpo : p (okey o) with
  | true =>
    simp only [if_true, Function.comp]
    rw [hcell o ho hpo]
    exact congrArg List.sum (List.map_congr_left fun a ha => by simp [hp a ha, hpo])
  | false =>
    simp only [Function.comp]
    exact (sum_map_zero _ _ fun a ha => by simp [hp a ha, hpo]).symm

/-! ### the stages of `summarize` -/

theorem summaryCell_ok {tr : Transc} {extra : List RuleEntry} {incr prem : Bool} {md : Metadata}
    {g : CoordKey × List Cell} {o : Cell} (h : summaryCell tr extra incr prem md g = .ok o) :
    ∃ vals, summarizeCellValues tr extra g.2 (if incr then true else prem) = .ok vals ∧
      Cell.mk? { kind := if incr then .incremental else .cumulative, ps := g.1.1, pe := g.1.2.1,
                 ev := g.1.2.2.1, prev := g.1.2.2.2, values := vals, md := md } = .ok o := by
  unfold summaryCell at h
  split at h
  · cases h
  · rename_i vals hv
    exact ⟨vals, hv, h⟩

theorem summarize_ok {tr : Transc} {extra : List RuleEntry} {t out : List Cell} {prem : Bool}
    (h : summarize tr extra t prem = .ok out) :
    ∃ md cells, metadataGcd t = .ok md ∧
      smMapE (summaryCell tr extra (smIsIncremental t) prem md)
        (groupsOf (coordKey (smIsIncremental t)) t) = .ok cells ∧ Triangle.ofCells cells = .ok out := by
  unfold summarize at h
  split at h
  · cases h
  · rename_i md hmd
    simp only at h
    split at h
    · cases h
    · rename_i cells hcells
      rw [groupBy_eq_groupsOf] at hcells
      exact ⟨md, cells, hmd, hcells, h⟩

theorem coordKey_false_prev (c : Cell) : (coordKey false c).2.2.2 = none := rfl

theorem summaryCell_coordKey {tr : Transc} {extra : List RuleEntry} {prem : Bool} {md : Metadata}
    {t : List Cell} {g : CoordKey × List Cell} {o : Cell}
    (hg : g ∈ groupsOf (coordKey (smIsIncremental t)) t)
    (h : summaryCell tr extra (smIsIncremental t) prem md g = .ok o) :
    coordKey (smIsIncremental t) o = g.1 := by
  obtain ⟨vals, _, hmk⟩ := summaryCell_ok h
  cases (AllOps.mk?_ok hmk).1
  obtain ⟨⟨c, _, hk⟩, _⟩ := mem_groupsOf_iff.mp hg
  rw [← hk]
  cases hi : smIsIncremental t <;> simp [coordKey]


/-! ### erasing the fields without a rule -/

/-- the cell without its fields that have no aggregation rule -/
def eraseUnknown (extra : List RuleEntry) (c : Cell) : Cell :=
  { c with values := c.values.filter fun p => (ruleOf extra (lowerKey p.1)).isSome }

theorem eraseUnknown_id {extra : List RuleEntry} {c : Cell}
    (h : ∀ k ∈ c.values.keys, ruleOf extra (lowerKey k) ≠ none) : eraseUnknown extra c = c := by
  unfold eraseUnknown
  have : c.values.filter (fun p => (ruleOf extra (lowerKey p.1)).isSome) = c.values := by
    rw [List.filter_eq_self]
    intro p hp
    have := h p.1 (List.mem_map.mpr ⟨p, hp, rfl⟩)
    cases hr : ruleOf extra (lowerKey p.1) with
    | none => exact absurd hr this
    | some r => rfl
  rw [this]

theorem smIsIncremental_map {e : Cell → Cell} (he : ∀ c, (e c).kind = c.kind) (t : List Cell) :
    smIsIncremental (t.map e) = smIsIncremental t := by
  cases t with
  | nil => rfl
  | cons c t => simp [smIsIncremental, he]

theorem groupsOf_map {α κ} [BEq κ] (key : α → κ) (e : α → α) (he : ∀ a, key (e a) = key a) (l : List α) :
    groupsOf key (l.map e) = (groupsOf key l).map fun g => (g.1, g.2.map e) := by
  unfold groupsOf
  simp only [List.map_map, Function.comp_def, he, List.filter_map]

/-! ### metadata gcd -/

theorem metadataGcd_ok {t : List Cell} {m : Metadata} (h : metadataGcd t = .ok m) :
    allSame (t.map (·.md.riskBasis)) = true ∧ allSame (t.map (·.md.currency)) = true ∧
    ∃ c0 rest, t = c0 :: rest ∧ m =
      { riskBasis := c0.md.riskBasis, currency := c0.md.currency, country := attrGcd t (·.country),
        limit := attrGcd t (·.limit), lossDefinition := attrGcd t (·.lossDefinition),
        reinsuranceBasis := attrGcd t (·.reinsuranceBasis), details := detailsGcd (t.map (·.md.details)),
        lossDetails := detailsGcd (t.map (·.md.lossDetails)) } := by
  unfold metadataGcd at h
  split at h
  · cases h
  · rename_i hrb
    split at h
    · cases h
    · rename_i hcu
      cases t with
      | nil => cases h
      | cons c0 rest =>
        cases h
        exact ⟨by simpa using hrb, by simpa using hcu, c0, rest, rfl, rfl⟩

theorem metadataGcd_map {e : Cell → Cell} (he : ∀ c, (e c).md = c.md) (t : List Cell) :
    metadataGcd (t.map e) = metadataGcd t := by
  cases t with
  | nil => rfl
  | cons c t =>
    simp [metadataGcd, attrGcd, List.map_map, Function.comp_def, he, List.all_map]

theorem allSame_map_iff {α β} [BEq β] [LawfulBEq β] (c0 : α) (rest : List α) (f : α → β) :
    allSame ((c0 :: rest).map f) = true ↔ ∀ c ∈ c0 :: rest, f c = f c0 := by
  simp [allSame, List.all_eq_true]

theorem allSame_nil {β} [BEq β] : allSame ([] : List β) = false := rfl

/-- `len({…}) == 1` fails as soon as two members differ -/
theorem allSame_false_of_ne {α β} [BEq β] [LawfulBEq β] {t : List α} {f : α → β} {a b : α}
    (ha : a ∈ t) (hb : b ∈ t) (hne : f a ≠ f b) : allSame (t.map f) = false := by
  cases t with
  | nil => simp at ha
  | cons c0 rest =>
    cases h : allSame ((c0 :: rest).map f) with
    | false => rfl
    | true =>
      have := (allSame_map_iff c0 rest f).mp h
      exact absurd ((this a ha).trans (this b hb).symm) hne

theorem attrGcd_eq_some_iff {α} [BEq α] [LawfulBEq α] (c0 : Cell) (rest : List Cell)
    (f : Metadata → Option α) (x : α) :
    attrGcd (c0 :: rest) f = some x ↔ ∀ c ∈ c0 :: rest, f c.md = some x := by
  unfold attrGcd
  simp only
  split
  · rename_i hall
    have hall' : ∀ c ∈ c0 :: rest, f c.md = f c0.md := by
      simpa [List.all_eq_true] using hall
    constructor
    · intro h c hc; rw [hall' c hc, h]
    · intro h; exact h c0 (by simp)
  · rename_i hall
    constructor
    · intro h; cases h
    · intro h
      exfalso; apply hall
      rw [List.all_eq_true]
      intro c hc
      simp [h c hc, h c0 (by simp)]

theorem detailsGcd_get? (d0 : Dict MVal) (rest : List (Dict MVal)) (k : String) (v : MVal)
    (hn : d0.keys.Nodup) :
    Dict.get? (detailsGcd (d0 :: rest)) k = some v ↔
      v ≠ .none ∧ ∀ d ∈ d0 :: rest, Dict.get? d k = some v := by
  unfold detailsGcd
  rw [Dict.get?_filter_eq_some_iff _ _ _ _ hn]
  simp only [Bool.and_eq_true, List.all_eq_true, beq_iff_eq, bne_iff_ne, ne_eq, List.mem_cons,
    forall_eq_or_imp]
  constructor
  · rintro ⟨h0, hr, hv⟩; exact ⟨hv, h0, hr⟩
  · rintro ⟨hv, h0, hr⟩; exact ⟨h0, hr, hv⟩

theorem detailsGcd_keys_nodup (d0 : Dict MVal) (rest : List (Dict MVal)) (hn : d0.keys.Nodup) :
    (detailsGcd (d0 :: rest)).keys.Nodup :=
  hn.sublist (Dict.keys_filter_sublist _ _)

theorem metadataGcd_keys_nodup {t : List Cell} {m : Metadata} (h : metadataGcd t = .ok m)
    (hn : ∀ c ∈ t, c.md.details.keys.Nodup ∧ c.md.lossDetails.keys.Nodup) :
    m.details.keys.Nodup ∧ m.lossDetails.keys.Nodup := by
  obtain ⟨_, _, c0, rest, rfl, rfl⟩ := metadataGcd_ok h
  exact ⟨detailsGcd_keys_nodup _ _ (hn c0 (by simp)).1, detailsGcd_keys_nodup _ _ (hn c0 (by simp)).2⟩

end Bermuda
