import Lean.Meta.Tactic.Simp.RegisterCommand
/-- equations that restate a fact about month-aligned dates in month indices (`Lemmas/DateUtils.lean`) -/
register_simp_attr cal
