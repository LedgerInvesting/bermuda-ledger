/-
Lemmas for the HeapIR discipline (property C03), part 2: soundness of the abstract interpretation,
statement by statement. `Post` is what `exec_sound` (part 3) proves of a statement accepted by the
discipline; its frame is that of the FUNCTION (locations `< n0`), not of the statement.
-/
import Bermuda.Lemmas.HeapIR
namespace Bermuda.HeapIR
open Bermuda.Heap

/-- what is guaranteed about the way a statement ends -/
def Post (n0 : Nat) (W : Loc → Prop) (rc : Cls) (tr : Bool) (τ : Typing) (h0 : Heap) (res : ARes) (out : Out) : Prop :=
  ∃ τ' : Typing, τ.le τ' ∧ Typed n0 W τ' out.heap ∧ PreservesW n0 W h0 out.heap ∧
    match out with
    | .norm s => Covers τ' res.norm s.env
    | .exc s => tr = true → Covers τ' res.exc s.env
    | .brk s => Covers τ' res.brk s.env
    | .ret r _ => SatCls τ' rc r

/-- the locations a call may write although they exist: the objects handed to its unprotected parameters -/
def callW (wp : List Nat) (args : List Ref) : Loc → Prop :=
  fun l => ∃ j, j ∈ wp ∧ args[j]? = some (.loc l)

theorem callW_nil {args : List Ref} {l : Loc} : ¬ callW [] args l := fun ⟨_, hj, _⟩ => nomatch hj

/-- what summary `s` promises of a call. The hypothesis on `callW`: the caller hands to unprotected parameters
only objects without constraints on their entries: the objects of its own unprotected parameters, level `ext`,
or new objects of level `sh 0` / `num`. -/
def GoodCall (s : Summary) (c : List Ref → Heap → Oracle → Heap × Except Unit Ref × Oracle) : Prop :=
  ∀ (args : List Ref) (h : Heap) (o : Oracle) (n : Nat) (W : Loc → Prop) (τ : Typing),
    Typed n W τ h → n ≤ h.size → (∀ l, callW s.2 args l → ∃ t, τ l = some t ∧ t.elem = none) →
    ∃ τ' : Typing, τ.le τ' ∧ Typed n W τ' (c args h o).1 ∧ PreservesW h.size (callW s.2 args) h (c args h o).1 ∧
      ∀ v, (c args h o).2.1 = .ok v → SatCls τ' s.1 v

def GoodCalls (sums : List Summary) (cs : CallSem) : Prop :=
  ∀ f, GoodCall (sums.getD f (.any, [])) (cs f)

theorem GoodCall.error (s : Summary) : GoodCall s fun _ h o => (h, .error (), o) :=
  fun _ _ _ _ _ τ ht _ _ => ⟨τ, Typing.le_refl τ, ht, PreservesW.refl (Nat.le_refl _), fun _ hv => nomatch hv⟩

section
variable {n0 : Nat} {W : Loc → Prop} {rc : Cls} {tr : Bool} {τ : Typing} {h : Heap}

theorem Post.after {τ' : Typing} {h0 h1 : Heap} {res : ARes} {out : Out} (e : Ext n0 W τ h0 τ' h1)
    (p : Post n0 W rc tr τ' h1 res out) : Post n0 W rc tr τ h0 res out := by
  obtain ⟨τ'', l2, t2, p2, c2⟩ := p
  exact ⟨τ'', Typing.le_trans e.le l2, t2, e.frame.trans p2, c2⟩

/-- exits of `r` are among the exits of `r'` -/
def ARes.sub (r r' : ARes) : Prop :=
  ∀ (τ : Typing) (env : List Ref), (Covers τ r.norm env → Covers τ r'.norm env) ∧
    (Covers τ r.exc env → Covers τ r'.exc env) ∧ (Covers τ r.brk env → Covers τ r'.brk env)

theorem Post.weaken {τ : Typing} {h0 : Heap} {r r' : ARes} {out : Out} (hs : ARes.sub r r')
    (h : Post n0 W rc tr τ h0 r out) : Post n0 W rc tr τ h0 r' out := by
  obtain ⟨τ', l, t, p, c⟩ := h
  refine ⟨τ', l, t, p, ?_⟩
  cases out with
  | norm s => exact (hs τ' s.env).1 c
  | exc s => exact fun h => (hs τ' s.env).2.1 (c h)
  | brk s => exact (hs τ' s.env).2.2 c
  | ret r s => exact c

theorem post_of_eq {tr : Bool} {τ : Typing} {h0 : Heap} {r r' : ARes} {out : Out} (h : Post n0 W rc tr τ h0 r out)
    (hn : r'.norm = r.norm) (he : r'.exc = r.exc) (hb : r'.brk = r.brk) : Post n0 W rc tr τ h0 r' out :=
  h.weaken fun _ _ => ⟨hn ▸ id, he ▸ id, hb ▸ id⟩

theorem Post.of_ext {τ' : Typing} {h0 : Heap} {res : ARes} {out : Out} (e : Ext n0 W τ h0 τ' out.heap)
    (c : match (generalizing := false) out with
      | .norm s => Covers τ' res.norm s.env
      | .exc s => tr = true → Covers τ' res.exc s.env
      | .brk s => Covers τ' res.brk s.env
      | .ret r _ => SatCls τ' rc r) : Post n0 W rc tr τ h0 res out :=
  ⟨τ', e.le, e.typed, e.frame, c⟩

theorem Post.norm {τ' : Typing} {h0 : Heap} {ok : Bool} {a a' : AEnv} {s : St} (e : Ext n0 W τ h0 τ' s.heap)
    (he : SatEnv τ' a' s.env) : Post n0 W rc tr τ h0 (prim tr ok a a') (.norm s) :=
  .of_ext e ⟨a', rfl, he⟩

theorem Post.exc {τ' : Typing} {h0 : Heap} {ok : Bool} {a a' : AEnv} {s : St} (e : Ext n0 W τ h0 τ' s.heap)
    (he : SatEnv τ' a s.env) : Post n0 W rc tr τ h0 (prim tr ok a a') (.exc s) :=
  .of_ext e fun htr => ⟨a, by simp [prim, htr], he⟩

/-- the common shape of the model's three writers: `storeRef`, `mergeRef` and `shrinkRef` are written out separately
in `Model/HeapIR.lean` but unfold to this function with `F` = `(dictSet · key v)`, `(dictUnion · (contents h v))`,
`shrinkEntries n` (definitionally: same two matches), which is why `exec_sound` can hand a hypothesis `storeRef … = some h'` to
`writeRef_sound` as it stands -/
def writeRef (F : List (String × Ref) → List (String × Ref)) (h : Heap) (x : Ref) (data : List Rat) : Option Heap :=
  match x with
  | .loc l => match h.get l with
    | some (.dict es) => some (h.set l (.dict (F es)))
    | some (.arr _) => some (h.set l (.arr data))
    | _ => none
  | _ => none

/-- `c ≠ any` is bundled in: a write through a reference of unknown class is what the discipline rejects (`storeOk`,
`mergeOk`, `!isAny` each imply it), so that `writeRef_sound` has one hypothesis for the three writers -/
def Keeps (τ : Typing) (c : Cls) (F : List (String × Ref) → List (String × Ref)) : Prop :=
  c ≠ .any ∧ ∀ t, c = .lv t → ∀ es, (∀ e ∈ es, EntryOK τ t e.2) → ∀ e ∈ F es, EntryOK τ t e.2

theorem writeRef_sound (ht : Typed n0 W τ h) (hn : n0 ≤ h.size) {c : Cls} {x : Ref}
    (hx : SatCls τ c x) {F : List (String × Ref) → List (String × Ref)} (hF : Keeps τ c F)
    {data : List Rat} {h' : Heap} (hw : writeRef F h x data = some h') : Ext n0 W τ h τ h' := by
  cases x with
  | none => cases hw
  | scalar q => cases hw
  | loc l =>
    cases c with
    | scalar => exact absurd rfl (hx l)
    | any => exact absurd rfl hF.1
    | lv t =>
    obtain ⟨t', hl', _⟩ := hx l rfl
    simp only [writeRef] at hw
    split at hw
    · rename_i es hg
      cases Option.some.inj hw
      obtain ⟨hl, hnn, hes⟩ := ht.dict_of_sat hx hg
      refine .set ht hn hl _ (fun hnum => absurd hnum hnn) (fun es' heq => ?_) (fun d hd => ?_)
      · cases heq
        exact hF.2 t rfl es hes
      · rw [hd] at hg; cases hg
    · cases Option.some.inj hw
      exact .set ht hn hl' _ (fun _ => ⟨data, rfl⟩) (fun _ heq => by cases heq) (fun _ _ => ⟨data, rfl⟩)
    · cases hw

theorem entryOK_of_storable {t : Lvl} {c : Cls} {r : Ref} (hs : storable t c = true)
    (hr : SatCls τ c r) : EntryOK τ t r := by
  cases he : t.elem with
  | none => exact .of_elem_none he r
  | some t' =>
    rw [storable, he] at hs
    exact (EntryOK.iff_of_elem_some he).mpr (hr.of_le hs)

theorem entryOK_of_mergeable (ht : Typed n0 W τ h) {t : Lvl} {c : Cls} {r : Ref}
    (hm : mergeable t c = true) (hr : SatCls τ c r) : ∀ e ∈ contents h r, EntryOK τ t e.2 := by
  cases he : t.elem with
  | none => exact fun e _ => .of_elem_none he e.2
  | some t' =>
    rw [mergeable, he] at hm
    exact contents_entryOK ht (hr.of_le hm)

theorem Keeps.store {cx cv : Cls} {rv : Ref} (hok : storeOk cx cv = true) (hv : SatCls τ cv rv)
    (key : String) : Keeps τ cx (dictSet · key rv) := by
  refine ⟨?_, fun t hc es hes e he => ?_⟩
  · rintro rfl; cases hok
  subst hc
  rcases mem_dictSet he with h1 | rfl
  · exact hes e h1
  · exact entryOK_of_storable hok hv

theorem Keeps.merge (ht : Typed n0 W τ h) {cx cv : Cls} {rv : Ref}
    (hok : mergeOk cx cv = true) (hv : SatCls τ cv rv) : Keeps τ cx (dictUnion · (contents h rv)) := by
  refine ⟨?_, fun t hc es hes e he => ?_⟩
  · rintro rfl; cases hok
  subst hc
  rcases mem_dictUnion he with h1 | ⟨e', he', h1⟩
  · exact hes e h1
  · rw [h1]; exact entryOK_of_mergeable ht hok hv e' he'

theorem mem_shrinkEntries {n : Nat} {es : List (String × Ref)} {e : String × Ref}
    (h : e ∈ shrinkEntries n es) : e ∈ es := by
  unfold shrinkEntries at h
  split at h
  · simp at h
  · simpa using h
  · exact List.mem_of_mem_eraseIdx h

theorem Keeps.shrink {c : Cls} (hc : (!c.isAny) = true) (n : Nat) : Keeps τ c (shrinkEntries n) := by
  refine ⟨?_, fun _ _ _ hes e he => hes e (mem_shrinkEntries he)⟩
  rintro rfl; cases hc

variable {st : St} {a : AEnv}

/-- `execStore`, `execMerge`, `execShrink` and the in-place branch of `execAug` all end in this `match` on the result of
the write, where `st` is the state AFTER the oracle has been read; the conclusion is that `match` as it stands, so that
`exact post_write …` closes a goal about `exec cs (.store x k v) st` by unfolding alone. The callers name that state
(`st := { st with orc := … }`): unification cannot find it. -/
theorem post_write (ht : Typed n0 W τ st.heap) (hn : n0 ≤ st.heap.size) (he : SatEnv τ a st.env) {ok : Bool}
    {w : Option Heap} (hw : ∀ h', w = some h' → Ext n0 W τ st.heap τ h') :
    Post n0 W rc tr τ st.heap (prim tr ok a a)
      (match (generalizing := false) w with
        | some h' => .norm { st with heap := h' }
        | none => .exc st) := by
  cases w with
  | some h' => exact .norm (hw h' rfl) he
  | none => exact .exc (.refl ht hn) he

theorem execUnknown_sound (ht : Typed n0 W τ st.heap) (hn : n0 ≤ st.heap.size) (he : SatEnv τ a st.env)
    (args : List Var) {ok : Bool} (hok : (args.all fun y => (a.get y).isScalar) = true) :
    Post n0 W rc tr τ st.heap (prim tr ok a a) (execUnknown st args) := by
  simp only [execUnknown]
  split
  · rename_i y hy
    have hmem : y ∈ args := List.mem_of_getElem? hy
    have hs : a.get y = .scalar := Cls.isScalar_iff.mp (List.all_eq_true.mp hok y hmem)
    split
    · rename_i h' hw
      exact .norm (writeRef_sound ht hn (he y) (.shrink (by rw [hs]; rfl) _) hw) he
    · exact .norm (.refl ht hn) he
  · exact .norm (.refl ht hn) he

theorem EntryOK.loadCls {t : Lvl} {r : Ref} (h : EntryOK τ t r) (hn : t ≠ .num) :
    SatCls τ (loadCls (.lv t)) r := by
  cases t with
  | num => exact absurd rfl hn
  | sh k => cases k with
    | zero => trivial
    | succ k => exact h
  | deep | nums => exact h
  | ext => trivial

theorem loadRef_sound (ht : Typed n0 W τ h) {c : Cls} {ry : Ref} (hy : SatCls τ c ry) {k : Key} {n : Nat}
    {r : Ref} (hl : loadRef h ry k n = some r) : SatCls τ (loadCls c) r := by
  cases ry with
  | none | scalar _ => cases Option.some.inj hl; exact SatCls.nonloc _ (by simp)
  | loc l =>
    cases c with
    | scalar => exact absurd rfl (hy l)
    | any => trivial
    | lv t =>
      simp only [loadRef] at hl
      split at hl
      · rename_i es hg
        have hmem : ∃ e ∈ es, e.2 = r := by
          split at hl
          · exact mem_of_dictGet hl
          · obtain ⟨e, he, rfl⟩ := Option.map_eq_some_iff.mp hl
            exact ⟨e, List.mem_of_getElem? he, rfl⟩
        obtain ⟨e, he, rfl⟩ := hmem
        obtain ⟨_, hnn, hes⟩ := ht.dict_of_sat hy hg
        exact (hes e he).loadCls hnn
      · cases Option.some.inj hl; exact SatCls.nonloc _ (by simp)
      · cases hl

theorem execLoad_sound (ht : Typed n0 W τ st.heap) (hn : n0 ≤ st.heap.size) (he : SatEnv τ a st.env)
    (x y : Var) (k : Key) :
    Post n0 W rc tr τ st.heap (prim tr true a (a.set x (loadCls (a.get y)))) (execLoad st x y k) := by
  simp only [execLoad]
  split
  · rename_i r hl
    exact .norm (.refl ht hn) (he.set x (loadRef_sound ht (he y) hl))
  · exact .exc (.refl ht hn) he

theorem alloc_bind_sound (ht : Typed n0 W τ st.heap) (hn : n0 ≤ st.heap.size) (he : SatEnv τ a st.env)
    (x : Var) (t : Lvl) (o : Obj) (orc : Oracle) {ok : Bool} (hte : t ≠ .ext)
    (harr : t = .num → ∃ d, o = .arr d)
    (hent : ∀ es, o = .dict es → ∀ e ∈ es, EntryOK τ t e.2) :
    Post n0 W rc tr τ st.heap (prim tr ok a (a.set x (.lv t)))
      (.norm ({ st with heap := (st.heap.alloc o).1, orc := orc }.bind x (.loc (st.heap.alloc o).2))) := by
  have e := Ext.alloc ht hn t o hte harr hent
  exact .norm e ((he.mono e.le).set x (SatCls.add_self _ _ _))

def CopyPost (n0 : Nat) (W : Loc → Prop) (τ : Typing) (h : Heap) (res : Heap × Ref) : Prop :=
  ∃ τ' : Typing, Ext n0 W τ h τ' res.1 ∧ SatCls τ' (.lv .deep) res.2

theorem CopyPost.same (ht : Typed n0 W τ h) (hn : n0 ≤ h.size) {r : Ref}
    (hr : ∀ l, r ≠ .loc l) : CopyPost n0 W τ h (h, r) :=
  ⟨τ, .refl ht hn, SatCls.nonloc _ hr⟩

theorem CopyPost.alloc (ht : Typed n0 W τ h) (hn : n0 ≤ h.size) (o : Obj)
    (ho : ∀ es, o = .dict es → ∀ e ∈ es, SatCls τ (.lv .deep) e.2) :
    CopyPost n0 W τ h ((h.alloc o).1, .loc (h.alloc o).2) :=
  ⟨_, .alloc ht hn .deep o (fun hc => by cases hc) (fun hc => by cases hc) ho, SatCls.add_self _ _ _⟩

theorem deepCopy_sound (fuel : Nat) : ∀ {τ : Typing} {h : Heap}, Typed n0 W τ h → n0 ≤ h.size → ∀ r : Ref,
    CopyPost n0 W τ h (deepCopy fuel h r) := by
  induction fuel with
  | zero => intro τ h ht hn r; exact .same ht hn (by simp)
  | succ n ih =>
    intro τ h ht hn r
    cases r with
    | none | scalar _ => exact .same ht hn (by simp)
    | loc l =>
      simp only [deepCopy]
      split
      · next es _ =>
        obtain ⟨τ', e1, s1⟩ := List.foldlRecOn es
          (fun (acc : Heap × List (String × Ref)) e =>
            ((deepCopy n acc.1 e.2).1, acc.2 ++ [(e.1, (deepCopy n acc.1 e.2).2)]))
          (motive := fun acc => ∃ τ' : Typing, Ext n0 W τ h τ' acc.1 ∧ ∀ e ∈ acc.2, SatCls τ' (.lv .deep) e.2)
          (b := (h, [])) ⟨τ, .refl ht hn, fun _ h => nomatch h⟩
          fun acc ⟨τ1, e1, s1⟩ e _ => by
            obtain ⟨τ2, e2, s2⟩ := ih e1.typed e1.size e.2
            refine ⟨τ2, e1.trans e2, fun e' he' => ?_⟩
            rcases List.mem_append.mp he' with h1 | h1
            · exact (s1 e' h1).mono e2.le
            · cases List.mem_singleton.mp h1; exact s2
        obtain ⟨τ'', e2, s2⟩ := CopyPost.alloc e1.typed e1.size (.dict _) (fun es heq => by cases heq; exact s1)
        exact ⟨τ'', e1.trans e2, s2⟩
      · next o hnd _ => exact .alloc ht hn o fun es heq => absurd heq (hnd es)
      · exact .same ht hn (by simp)

theorem allocOk_iff {a : AEnv} {t : Lvl} {al : Alloc} : allocOk a t al = true ↔
    match al with
    | .dict => t ≠ .num ∧ t ≠ .ext
    | .arr => t ≠ .ext
    | .lit es => t ≠ .num ∧ t ≠ .ext ∧ ∀ e ∈ es, storable t (a.get e.2) = true
    | .union ys => t ≠ .num ∧ t ≠ .ext ∧ ∀ y ∈ ys, mergeable t (a.get y) = true
    | .deep _ => t = .deep := by
  have hnum : (!t.isNum) = true ↔ t ≠ .num := by rw [Bool.not_eq_true', Bool.eq_false_iff, Ne, Lvl.isNum_iff]
  have hext : (!t.isExt) = true ↔ t ≠ .ext := by rw [Bool.not_eq_true', Bool.eq_false_iff, Ne, Lvl.isExt_iff]
  cases al <;> simp only [allocOk, Bool.and_eq_true, List.all_eq_true, hnum, hext, Lvl.isDeep_iff, and_assoc]

theorem execAlloc_sound (ht : Typed n0 W τ st.heap) (hn : n0 ≤ st.heap.size) (he : SatEnv τ a st.env)
    (x : Var) (t : Lvl) (al : Alloc) {ok : Bool} (hok : allocOk a t al = true) :
    Post n0 W rc tr τ st.heap (prim tr ok a (a.set x (.lv t))) (execAlloc st x al) := by
  have hok := allocOk_iff.mp hok
  cases al with
  | dict =>
    exact alloc_bind_sound ht hn he x t _ st.orc hok.2 (fun hc => absurd hc hok.1)
      (by intro es heq e he; cases heq; cases he)
  | arr =>
    exact alloc_bind_sound ht hn he x t _ _ hok (fun _ => ⟨_, rfl⟩) (by intro es heq; cases heq)
  | lit es =>
    obtain ⟨hnn, hte, hall⟩ := hok
    refine alloc_bind_sound ht hn he x t _ st.orc hte (fun hc => absurd hc hnn) ?_
    intro es' heq e hmem
    cases heq
    obtain ⟨p, hp, rfl⟩ := List.mem_map.mp hmem
    exact entryOK_of_storable (hall p hp) (he p.2)
  | union ys =>
    obtain ⟨hnn, hte, hall⟩ := hok
    have hmerged : ∀ e ∈ (ys.map st.get).foldl (fun acc r => dictUnion acc (contents st.heap r)) [],
        EntryOK τ t e.2 :=
      List.foldlRecOn _ _ (motive := fun acc : List (String × Ref) => ∀ e ∈ acc, EntryOK τ t e.2)
        (fun _ h => nomatch h) fun acc hacc r hr => by
        obtain ⟨y, hy, rfl⟩ := List.mem_map.mp hr
        exact (Keeps.merge (cx := .lv t) ht (hall y hy) (he y)).2 t rfl acc hacc
    refine alloc_bind_sound ht hn he x t _ st.orc hte (fun hc => absurd hc hnn) ?_
    intro es' heq e hmem
    unfold unionObj at heq
    split at heq
    · split at heq
      · cases heq
      · cases heq; exact hmerged e hmem
    · cases heq; exact hmerged e hmem
  | deep y =>
    subst hok
    obtain ⟨τ', e1, s1⟩ := deepCopy_sound (n0 := n0) (W := W) (st.heap.size + 1) ht hn (st.get y)
    exact .norm e1 ((he.mono e1.le).set x s1)

theorem execArith_sound (ht : Typed n0 W τ st.heap) (hn : n0 ≤ st.heap.size) (he : SatEnv τ a st.env) (x : Var) :
    Post n0 W rc tr τ st.heap (prim tr true a (a.set x (.lv .num))) (execArith st x) := by
  simp only [execArith]
  split
  · exact .norm (.refl ht hn) (he.set x (SatCls.nonloc _ (by simp)))
  · exact alloc_bind_sound (st := { st with orc := (popD (popN st.orc).2).2 }) ht hn he x .num _ _
      (by intro hc; cases hc) (fun _ => ⟨_, rfl⟩) (by intro es heq; cases heq)

/-- `x op= v` on an immutable value is `x = x op v` -/
theorem execAug_eq_arith (st : St) (x v : Var) (h : ∀ l, st.get x ≠ .loc l) : execAug st x v = execArith st x := by
  simp only [execAug, execArith]
  split
  · next l hl => exact absurd hl (h l)
  · rfl

/-- `x op= v`. A variable classed `scalar` is rebound; one classed `lv t` holds an immutable value (rebound: to an
immutable value, or to a new array, which may stand at any level but `ext`) or an object of this call (written in place) -/
theorem execAug_sound {sums : List Summary} (ht : Typed n0 W τ st.heap) (hn : n0 ≤ st.heap.size)
    (he : SatEnv τ a st.env) (x v : Var) (hok : (absExec sums rc tr (.aug x v) a).ok = true) :
    Post n0 W rc tr τ st.heap (absExec sums rc tr (.aug x v) a) (execAug st x v) := by
  simp only [absExec] at hok ⊢
  cases hx : a.get x with
  | scalar =>
    rw [execAug_eq_arith st x v (by have := he x; rwa [hx] at this)]
    exact execArith_sound ht hn he x
  | any => simp [hx, prim] at hok
  | lv t =>
    simp only [hx, prim, Bool.and_eq_true, Bool.not_eq_true'] at hok
    have hte : t ≠ .ext := fun hc => by rw [Lvl.isExt_iff.mpr hc] at hok; cases hok.2
    simp only [execAug]
    split
    · exact post_write (st := { st with orc := (popD (popN st.orc).2).2 }) ht hn he
        fun _ hw => writeRef_sound ht hn (hx ▸ he x) (.merge (cx := .lv t) ht hok.1 (he v)) hw
    · split
      · exact .norm (.refl ht hn) (he.update_same x (SatCls.nonloc _ (by simp)))
      · exact .norm (.alloc ht hn t (.arr _) hte (fun _ => ⟨_, rfl⟩) (by intro es heq; cases heq))
          ((he.mono (Typing.le_add ht t)).update_same x (hx ▸ SatCls.add_self _ _ _))

/-- the objects handed to unprotected parameters are typed, at a level without constraints on the entries -/
theorem callOk_writable {wp : List Nat} {args : List Var} (he : SatEnv τ a st.env) (hok : callOk a wp args = true) :
    ∀ l, callW wp (args.map st.get) l → ∃ t, τ l = some t ∧ t.elem = none := by
  intro l ⟨j, hj, hget⟩
  obtain ⟨y, hy, hyl⟩ := Option.map_eq_some_iff.mp (List.getElem?_map .. ▸ hget)
  have hw : (a.get y).isWritableArg = true := by have := List.all_eq_true.mp hok j hj; rwa [hy] at this
  have hs := he y
  cases hc : a.get y with
  | scalar => exact absurd hyl ((hc ▸ hs) l)
  | any => rw [hc] at hw; cases hw
  | lv t =>
    rw [hc] at hs hw
    obtain ⟨t', h1, h2⟩ := hs l hyl
    rcases Lvl.sub_iff.mp h2 with rfl | ⟨rfl, _⟩
    · exact ⟨t', h1, by simpa [Cls.isWritableArg] using hw⟩
    · exact ⟨.num, h1, rfl⟩

theorem execCall_sound {sums : List Summary} {cs : CallSem} (hcs : GoodCalls sums cs)
    (ht : Typed n0 W τ st.heap) (hn : n0 ≤ st.heap.size) (he : SatEnv τ a st.env) (x : Var) (f : Nat) (args : List Var)
    {ok : Bool} (hok : callOk a (sums.getD f (.any, [])).2 args = true) :
    Post n0 W rc tr τ st.heap (prim tr ok a (a.set x (sums.getD f (.any, [])).1)) (execCall cs st x f args) := by
  have hext := callOk_writable (st := st) he hok
  obtain ⟨τ', l1, t1, p1, s1⟩ := hcs f (args.map st.get) st.heap st.orc n0 W τ ht hn hext
  -- the callee's frame, restricted to the caller's: what the callee may write below `n0` is `ext` for the caller
  have e : Ext n0 W τ st.heap τ' (cs f (args.map st.get) st.heap st.orc).1 := ⟨l1, t1, p1.mono hn fun l hl hw => by
    obtain ⟨t, h1, _⟩ := hext l hw
    exact (ht.writable h1).resolve_left (Nat.not_le.mpr hl)⟩
  simp only [execCall]
  generalize cs f (args.map st.get) st.heap st.orc = res at e s1 ⊢
  obtain ⟨h', r, o⟩ := res
  cases r with
  | ok v => exact .norm e ((he.mono l1).set x (s1 v rfl))
  | error _ => exact .exc e (he.mono l1)

theorem ARes.sub_ojoin_left (r1 r2 : ARes) (ok : Bool) :
    ARes.sub r1 ⟨ok, ojoin r1.norm r2.norm, ojoin r1.exc r2.exc, ojoin r1.brk r2.brk⟩ :=
  fun _ _ => ⟨Covers.ojoin_left _, Covers.ojoin_left _, Covers.ojoin_left _⟩

theorem ARes.sub_ojoin_right (r1 r2 : ARes) (ok : Bool) :
    ARes.sub r2 ⟨ok, ojoin r1.norm r2.norm, ojoin r1.exc r2.exc, ojoin r1.brk r2.brk⟩ :=
  fun _ _ => ⟨Covers.ojoin_right _, Covers.ojoin_right _, Covers.ojoin_right _⟩

theorem ARes.sub_seq (r1 r2 : ARes) (ok : Bool) :
    ARes.sub r2 ⟨ok, r2.norm, ojoin r1.exc r2.exc, ojoin r1.brk r2.brk⟩ :=
  fun _ _ => ⟨id, Covers.ojoin_right _, Covers.ojoin_right _⟩

theorem ARes.sub_try (r1 r2 : ARes) (ok : Bool) :
    ARes.sub r2 ⟨ok, ojoin r1.norm r2.norm, r2.exc, ojoin r1.brk r2.brk⟩ :=
  fun _ _ => ⟨Covers.ojoin_right _, id, Covers.ojoin_right _⟩

/-! The control constructs, over the outcome `o` of the sub-statement and its analysis `r1` as variables: the exit that
continues is consumed, every other exit of the sub-statement is an exit of the construct. -/

section
variable {h0 : Heap} {r1 r2 : ARes} {o : Out} {k : St → Out}

theorem Post.seq_none (p : Post n0 W rc tr τ h0 r1 o) (hr : r1.norm = none) :
    Post n0 W rc tr τ h0 r1 (match (generalizing := false) o with | .norm st' => k st' | o => o) := by
  cases o with
  | norm st' =>
    obtain ⟨_, _, _, _, _, h', _⟩ := p
    rw [hr] at h'; cases h'
  | _ => exact p

theorem Post.seq_some {a1 : AEnv} {ok : Bool} (p : Post n0 W rc tr τ h0 r1 o) (hr : r1.norm = some a1)
    (q : ∀ (st' : St) (τ' : Typing), Typed n0 W τ' st'.heap → n0 ≤ st'.heap.size → SatEnv τ' a1 st'.env →
      Post n0 W rc tr τ' st'.heap r2 (k st')) :
    Post n0 W rc tr τ h0 ⟨ok, r2.norm, ojoin r1.exc r2.exc, ojoin r1.brk r2.brk⟩
      (match (generalizing := false) o with | .norm st' => k st' | o => o) := by
  obtain ⟨τ', l, t', pr, c⟩ := p
  cases o with
  | norm st' =>
    obtain ⟨a', ha', se⟩ := c
    cases hr.symm.trans ha'
    exact (Post.after ⟨l, t', pr⟩ (q st' τ' t' pr.1 se)).weaken (ARes.sub_seq _ _ _)
  | exc s' => exact ⟨τ', l, t', pr, fun h => (c h).ojoin_left _⟩
  | brk s' => exact ⟨τ', l, t', pr, c.ojoin_left _⟩
  | ret v s' => exact ⟨τ', l, t', pr, c⟩

/-- the body of a `try` is analysed with its exceptional exit tracked (`true`) -/
theorem Post.try_none (p : Post n0 W rc true τ h0 r1 o) (hr : r1.exc = none) :
    Post n0 W rc tr τ h0 r1 (match (generalizing := false) o with | .exc st' => k st' | o => o) := by
  cases o with
  | exc st' =>
    obtain ⟨_, _, _, _, c⟩ := p
    obtain ⟨_, h', _⟩ := c rfl
    rw [hr] at h'; cases h'
  | _ => exact p

theorem Post.try_some {e : AEnv} {ok : Bool} (p : Post n0 W rc true τ h0 r1 o) (hr : r1.exc = some e)
    (q : ∀ (st' : St) (τ' : Typing), Typed n0 W τ' st'.heap → n0 ≤ st'.heap.size → SatEnv τ' e st'.env →
      Post n0 W rc tr τ' st'.heap r2 (k st')) :
    Post n0 W rc tr τ h0 ⟨ok, ojoin r1.norm r2.norm, r2.exc, ojoin r1.brk r2.brk⟩
      (match (generalizing := false) o with | .exc st' => k st' | o => o) := by
  obtain ⟨τ', l, t', pr, c⟩ := p
  cases o with
  | exc st' =>
    obtain ⟨a', ha', se⟩ := c rfl
    cases hr.symm.trans ha'
    exact (Post.after ⟨l, t', pr⟩ (q st' τ' t' pr.1 se)).weaken (ARes.sub_try _ _ _)
  | norm s' => exact ⟨τ', l, t', pr, c.ojoin_left _⟩
  | brk s' => exact ⟨τ', l, t', pr, c.ojoin_left _⟩
  | ret v s' => exact ⟨τ', l, t', pr, c⟩

theorem Post.block (p : Post n0 W rc tr τ h0 r1 o) :
    Post n0 W rc tr τ h0 ⟨r1.ok, ojoin r1.norm r1.brk, r1.exc, none⟩
      (match (generalizing := false) o with | .brk st' => .norm st' | o => o) := by
  obtain ⟨τ', l, t', pr, c⟩ := p
  cases o with
  | norm s' => exact ⟨τ', l, t', pr, c.ojoin_left _⟩
  | brk s' => exact ⟨τ', l, t', pr, c.ojoin_right _⟩
  | exc s' => exact ⟨τ', l, t', pr, c⟩
  | ret v s' => exact ⟨τ', l, t', pr, c⟩

end

/-- a loop whose body preserves the invariant `inv` -/
theorem iter_sound (f : St → Out) (r : ARes) (inv : AEnv) (ok : Bool)
    (hf : ∀ (st : St) (τ : Typing), Typed n0 W τ st.heap → n0 ≤ st.heap.size → SatEnv τ inv st.env →
      Post n0 W rc tr τ st.heap r (f st))
    (hinv : ole r.norm inv = true) :
    ∀ (n : Nat) (st : St) (τ : Typing), Typed n0 W τ st.heap → n0 ≤ st.heap.size → SatEnv τ inv st.env →
      Post n0 W rc tr τ st.heap ⟨ok, some inv, r.exc, r.brk⟩ (iter f n st) := by
  intro n
  induction n with
  | zero =>
    intro st τ ht hn he
    exact .of_ext (.refl ht hn) ⟨inv, rfl, he⟩
  | succ n ih =>
    intro st τ ht hn he
    have p := hf st τ ht hn he
    simp only [iter]
    generalize f st = o at p ⊢
    cases o with
    | norm st' =>
      obtain ⟨τ', l1, t1, p1, a', ha', se⟩ := p
      exact .after ⟨l1, t1, p1⟩ (ih st' τ' t1 p1.1 (se.of_le (by rw [ha'] at hinv; exact hinv)))
    | _ => exact p

end
end Bermuda.HeapIR
