/-
The discipline check `writesOnlyFresh` of `Model/HeapIR.lean` in a form the kernel evaluates quickly, for the
generated programs (`Generated/HeapIRC*.lean`), which are checked by evaluation.

`absExec` keeps its abstract environment in a list indexed by variable number (`AEnv.get` / `AEnv.set`) and finds
the summary of a callee by walking `sums`. The kernel has no arrays: it pays for every list position walked, and
these walks are most of the work of evaluating `absExec`. On `Nat` literals, however, shifts, masks, `%`, `log2`
and comparisons are single kernel steps. So `nabsExec` is `absExec`, line by line, with
- the environment held in ONE natural number: digit `x` in base 256 is the code (`Cls.code`) of the class of
  variable `x`; code 0 is `scalar`, the class of an unbound variable, so the number 0 is the empty environment.
  A class fits a digit when its code is below 256 (`Cls.small`: every class except `lv (sh k)` with `k ≥ 250`);
  where a class enters from the program text (`alloc`, the summary of a callee, a loop invariant, the
  parameters) `nabsExec` checks that it does, and answers `false` otherwise;
- the summaries behind a lookup function, in the end a binary trie built from `sums` (`Trie.ofList`).
`Rep e a` says that the digits of `e` are the classes of `a`. Everything rests on ONE theorem, `nabsExec_sim`:
from related environments, if `nabsExec` accepts then `absExec` accepts and the environments at the three exits
are related again. Only this direction is proved and needed: `fastCheck` may refuse a program that
`writesOnlyFresh` accepts (a level `sh k`, `k ≥ 250`), never the converse. `disciplined_of_fast` is the form the
generated files use.
-/
import Bermuda.Lemmas.HeapIROrder
namespace Bermuda.HeapIR

def Cls.code : Cls → Nat
  | .scalar => 0 | .any => 1 | .lv .deep => 2 | .lv .num => 3 | .lv .nums => 4 | .lv .ext => 5 | .lv (.sh k) => 6 + k

def Cls.ofCode : Nat → Cls
  | 0 => .scalar | 1 => .any | 2 => .lv .deep | 3 => .lv .num | 4 => .lv .nums | 5 => .lv .ext | k + 6 => .lv (.sh k)

theorem Cls.ofCode_code (c : Cls) : Cls.ofCode c.code = c := by
  cases c with
  | lv t => cases t <;> simp [Cls.code, Cls.ofCode, Nat.add_comm]
  | _ => rfl

theorem Cls.code_ofCode : ∀ d, (Cls.ofCode d).code = d
  | 0 | 1 | 2 | 3 | 4 | 5 => rfl
  | k + 6 => Nat.add_comm 6 k

def Cls.small (c : Cls) : Bool := c.code.ble 255

theorem Cls.small_iff {c : Cls} : c.small = true ↔ c.code < 256 := by
  rw [Cls.small, Nat.ble_eq]; omega

theorem Cls.small_loadCls {c : Cls} (h : c.small = true) : (loadCls c).small = true := by
  rw [Cls.small_iff] at h ⊢
  cases c with
  | lv t => cases t with
    | sh k => cases k <;> simp [loadCls, Lvl.elem, Cls.code] at h ⊢ <;> omega
    | _ => simp [loadCls, Lvl.elem, Cls.code]
  | _ => simp [loadCls, Cls.code]

theorem Cls.small_join {c d : Cls} (hc : c.small = true) (hd : d.small = true) : (c.join d).small = true := by
  unfold Cls.join; split
  · exact hd
  · split
    · exact hc
    · rfl

def digit (e x : Nat) : Nat := (e >>> (8 * x)) % 256
/-- xor with `old ^^^ v` at digit `x` (`old ^^^ (old ^^^ v) = v`), with 0 at every other digit -/
def setDigit (e x v : Nat) : Nat := e ^^^ ((digit e x ^^^ v) <<< (8 * x))

theorem testBit_digit (e x i : Nat) : (digit e x).testBit i = (decide (i < 8) && e.testBit (8 * x + i)) := by
  rw [digit, show 256 = 2 ^ 8 from rfl, Nat.testBit_mod_two_pow, Nat.testBit_shiftRight]

theorem digit_lt (e x : Nat) : digit e x < 256 := Nat.mod_lt _ (by decide)

theorem digit_zero (e : Nat) : digit e 0 = e % 256 := rfl

theorem digit_succ (e x : Nat) : digit e (x + 1) = digit (e / 256) x := by
  rw [digit, digit, Nat.mul_add, Nat.mul_one, Nat.add_comm, Nat.shiftRight_add, Nat.shiftRight_eq_div_pow e 8]

theorem digit_setDigit (e x y v : Nat) (hv : v < 256) :
    digit (setDigit e x v) y = if y = x then v else digit e y := by
  apply Nat.eq_of_testBit_eq
  intro i
  have hlt : ∀ j, 8 ≤ j → (digit e x ^^^ v).testBit j = false := fun j hj =>
    Nat.testBit_lt_two_pow (Nat.lt_of_lt_of_le (Nat.xor_lt_two_pow (n := 8) (digit_lt e x) hv) (Nat.pow_le_pow_right (by decide) hj))
  rw [testBit_digit, setDigit, Nat.testBit_xor, Nat.testBit_shiftLeft]
  by_cases hi : i < 8
  · by_cases hyx : y = x
    · subst hyx
      simp [hi, Nat.testBit_xor, testBit_digit]
    · rw [if_neg hyx, testBit_digit]
      by_cases hlt' : 8 * x ≤ 8 * y + i
      · rw [hlt _ (by omega)]; simp
      · simp [hlt']
  · have : (if y = x then v else digit e y).testBit i = false := by
      apply Nat.testBit_lt_two_pow
      refine Nat.lt_of_lt_of_le (?_ : _ < 256) (Nat.pow_le_pow_right (by decide) (Nat.le_of_not_lt hi) : 2 ^ 8 ≤ 2 ^ i)
      split
      · exact hv
      · exact digit_lt _ _
    simp [hi, this]

abbrev NEnv := Nat
def NEnv.get (e : NEnv) (x : Var) : Cls := .ofCode (digit e x)
def NEnv.set (e : NEnv) (x : Var) (c : Cls) : NEnv := setDigit e x c.code

theorem NEnv.get_zero (x : Var) : NEnv.get 0 x = .scalar := by
  rw [NEnv.get, digit, Nat.zero_shiftRight]; rfl

theorem NEnv.get_small (e : NEnv) (x : Var) : (e.get x).small = true := by
  rw [Cls.small_iff, NEnv.get, Cls.code_ofCode]; exact digit_lt e x

theorem NEnv.get_succ (e : NEnv) (x : Var) : e.get (x + 1) = NEnv.get (e / 256) x :=
  congrArg Cls.ofCode (digit_succ e x)

theorem NEnv.get_cons (c : Cls) (hc : c.small = true) (r : NEnv) (x : Var) :
    NEnv.get (c.code + 256 * r) x = match x with | 0 => c | x + 1 => r.get x := by
  have := Cls.small_iff.mp hc
  cases x with
  | zero => rw [NEnv.get, digit_zero, show (c.code + 256 * r) % 256 = c.code by omega, Cls.ofCode_code]
  | succ x => rw [NEnv.get_succ, show (c.code + 256 * r) / 256 = r by omega]

theorem NEnv.get_set (e : NEnv) (x y : Var) {c : Cls} (hc : c.small = true) :
    (e.set x c).get y = if y = x then c else e.get y := by
  rw [NEnv.get, NEnv.set, digit_setDigit _ _ _ _ (Cls.small_iff.mp hc)]
  split
  · exact Cls.ofCode_code c
  · rfl

def Rep (e : NEnv) (a : AEnv) : Prop := ∀ x, e.get x = a.get x

theorem Rep.set {e : NEnv} {a : AEnv} (h : Rep e a) (x : Var) {c : Cls} (hc : c.small = true) :
    Rep (e.set x c) (a.set x c) := fun y => by
  rw [NEnv.get_set e x y hc, AEnv.get_set, h y]

def NEnv.ofList : AEnv → NEnv
  | [] => 0
  | c :: a => c.code + 256 * NEnv.ofList a

theorem Rep.ofList : ∀ {a : AEnv}, a.all Cls.small = true → Rep (NEnv.ofList a) a
  | [], _, x => by rw [NEnv.ofList, NEnv.get_zero]; rfl
  | c :: a, h, x => by
    rw [List.all_cons, Bool.and_eq_true] at h
    rw [NEnv.ofList, NEnv.get_cons c h.1]
    cases x with
    | zero => rfl
    | succ x => exact Rep.ofList h.2 x

def NEnv.le (e : NEnv) : AEnv → Bool
  | [] => e.beq 0
  | d :: b => (Cls.ofCode (e % 256)).le d && NEnv.le (e / 256) b

theorem NEnv.le_get : ∀ {b : AEnv} {e : NEnv}, e.le b = true → ∀ x, (e.get x).le (b.get x) = true
  | [], e, h, x => by
    rw [Nat.eq_of_beq_eq_true h, NEnv.get_zero]; rfl
  | d :: b, e, h, x => by
    rw [NEnv.le, Bool.and_eq_true] at h
    cases x with
    | zero => exact h.1
    | succ x => exact NEnv.get_succ e x ▸ NEnv.le_get h.2 x

theorem Rep.le {e : NEnv} {a b : AEnv} (h : Rep e a) (hle : e.le b = true) : a.le b = true :=
  AEnv.le_iff_get.mpr fun x => h x ▸ NEnv.le_get hle x

def NEnv.joinAll : Nat → NEnv → NEnv → NEnv
  | 0, _, _ => 0
  | fuel + 1, e1, e2 =>
    bif e1.beq 0 then e2 else bif e2.beq 0 then e1 else
    ((Cls.ofCode (e1 % 256)).join (Cls.ofCode (e2 % 256))).code + 256 * NEnv.joinAll fuel (e1 / 256) (e2 / 256)

theorem NEnv.get_joinAll : ∀ (fuel e1 e2 : Nat), e1 + e2 ≤ fuel → ∀ x,
    NEnv.get (NEnv.joinAll fuel e1 e2) x = (NEnv.get e1 x).join (NEnv.get e2 x)
  | 0, e1, e2, h, x => by
    obtain rfl : e1 = 0 := by omega
    obtain rfl : e2 = 0 := by omega
    rw [NEnv.joinAll, NEnv.get_zero]; rfl
  | fuel + 1, e1, e2, h, x => by
    rw [NEnv.joinAll]
    cases h1 : e1.beq 0 with
    | true => rw [cond_true, Nat.eq_of_beq_eq_true h1, NEnv.get_zero, Cls.join_scalar_left]
    | false =>
    cases h2 : e2.beq 0 with
    | true => rw [cond_false, cond_true, Nat.eq_of_beq_eq_true h2, NEnv.get_zero, Cls.join_scalar_right]
    | false =>
    rw [cond_false, cond_false]
    have hs : ((Cls.ofCode (e1 % 256)).join (Cls.ofCode (e2 % 256))).small = true :=
      Cls.small_join (NEnv.get_small e1 0) (NEnv.get_small e2 0)
    rw [NEnv.get_cons _ hs]
    cases x with
    | zero => rfl
    | succ x => rw [NEnv.get_succ, NEnv.get_succ]; exact NEnv.get_joinAll fuel _ _ (by omega) x

/-- Only the digits that differ are touched. A round puts the join at the highest differing digit (found by `log2`
of the xor) of BOTH numbers; that leaves the join of the two as it was (`Cls.join_self`), so for correctness it does
not matter which digit a round picks or whether `fuel` rounds suffice: after them, `joinAll`. -/
def NEnv.join : Nat → NEnv → NEnv → NEnv
  | 0, e1, e2 => NEnv.joinAll (e1 + e2) e1 e2
  | fuel + 1, e1, e2 =>
    bif e1.beq e2 then e1 else
    let x := (e1 ^^^ e2).log2 / 8
    let c := (e1.get x).join (e2.get x)
    NEnv.join fuel (e1.set x c) (e2.set x c)

theorem NEnv.get_join : ∀ (fuel : Nat) (e1 e2 : NEnv) (y : Var),
    (NEnv.join fuel e1 e2).get y = (e1.get y).join (e2.get y)
  | 0, e1, e2, y => NEnv.get_joinAll _ _ _ (Nat.le_refl _) y
  | fuel + 1, e1, e2, y => by
    rw [NEnv.join]
    cases hb : e1.beq e2 with
    | true => rw [cond_true, Nat.eq_of_beq_eq_true hb, Cls.join_self]
    | false =>
      have hs := Cls.small_join (NEnv.get_small e1 ((e1 ^^^ e2).log2 / 8)) (NEnv.get_small e2 ((e1 ^^^ e2).log2 / 8))
      rw [cond_false, NEnv.get_join fuel, NEnv.get_set _ _ _ hs, NEnv.get_set _ _ _ hs]
      split
      · next h => rw [h, Cls.join_self]
      · rfl

inductive Trie (α : Type) where
  | leaf
  | node (l : Trie α) (v : α) (r : Trie α)

/-- position 0 at the root, the odd positions in the left subtree, the even ones in the right -/
def Trie.get {α} (d : α) : Trie α → Nat → α
  | .leaf, _ => d
  | .node l v r, n => bif n.beq 0 then v else bif (n % 2).beq 1 then l.get d (n / 2) else r.get d (n / 2 - 1)

def evens {α} : List α → List α
  | a :: _ :: l => a :: evens l
  | l => l

def Trie.ofList {α} : Nat → List α → Trie α
  | _, [] => .leaf
  | 0, _ => .leaf
  | fuel + 1, a :: l => .node (Trie.ofList fuel (evens l)) a (Trie.ofList fuel (evens l.tail))

theorem evens_getD {α} (d : α) : ∀ (l : List α) (k : Nat), (evens l).getD k d = l.getD (2 * k) d
  | [], _ => rfl
  | [_], 0 => rfl
  | [_], k + 1 => by simp [evens]
  | _ :: _ :: l, 0 => rfl
  | _ :: _ :: l, k + 1 => by
    rw [evens, List.getD_cons_succ, evens_getD d l k, Nat.mul_add, Nat.mul_one]; rfl

theorem length_evens {α} : ∀ l : List α, (evens l).length ≤ l.length
  | [] | [_] => Nat.le_refl _
  | _ :: _ :: l => by have := length_evens l; simp only [evens, List.length_cons]; omega

theorem Trie.get_ofList {α} (d : α) : ∀ (fuel : Nat) (l : List α), l.length ≤ fuel → ∀ i,
    (Trie.ofList fuel l).get d i = l.getD i d
  | _, [], _, _ => by rw [Trie.ofList, Trie.get, List.getD_nil]
  | 0, _ :: _, h, _ => by simp at h
  | fuel + 1, a :: l, h, i => by
    have h1 := length_evens l
    have h2 := length_evens l.tail
    have h3 : l.tail.length ≤ l.length := by rw [List.length_tail]; omega
    rw [List.length_cons] at h
    rw [Trie.ofList, Trie.get]
    cases i with
    | zero => rfl
    | succ i =>
      rw [show (i + 1).beq 0 = false from rfl, cond_false, List.getD_cons_succ]
      cases hp : ((i + 1) % 2).beq 1 with
      | true =>
        have hp := Nat.eq_of_beq_eq_true hp
        rw [cond_true, Trie.get_ofList d fuel _ (by omega), evens_getD, show 2 * ((i + 1) / 2) = i by omega]
      | false =>
        have hp := Nat.ne_of_beq_eq_false hp
        rw [cond_false, Trie.get_ofList d fuel _ (by omega), evens_getD, List.getD_eq_getElem?_getD, List.getElem?_tail,
          ← List.getD_eq_getElem?_getD, show 2 * ((i + 1) / 2 - 1) + 1 = i by omega]

/-- 64 rounds: a choice for speed (up to 64 differing variables are repaired digit by digit, beyond that `joinAll`
walks all digits); `NEnv.get_join` holds for any number of rounds and no bound on the programs depends on it -/
def nojoin : Option NEnv → Option NEnv → Option NEnv
  | none, b => b
  | a, none => a
  | some a, some b => some (NEnv.join 64 a b)

def nole : Option NEnv → AEnv → Bool
  | none, _ => true
  | some a, b => a.le b

structure NRes where
  ok : Bool
  norm : Option NEnv
  exc : Option NEnv
  brk : Option NEnv

def nprim (tr ok : Bool) (a a' : NEnv) : NRes := ⟨ok, some a', if tr then some a else none, none⟩

def nallocOk (a : NEnv) (t : Lvl) : Alloc → Bool
  | .dict => !t.isNum && !t.isExt
  | .arr => !t.isExt
  | .lit es => !t.isNum && !t.isExt && es.all fun e => storable t (a.get e.2)
  | .union ys => !t.isNum && !t.isExt && ys.all fun y => mergeable t (a.get y)
  | .deep _ => t.isDeep

def ncallOk (a : NEnv) (wp : List Nat) (args : List Var) : Bool :=
  wp.all fun j => match args[j]? with
    | some y => (a.get y).isWritableArg
    | none => true

def nabsExec (look : Nat → Summary) (rc : Cls) : Bool → Stmt → NEnv → NRes
  | tr, .skip, a => nprim tr true a a
  | tr, .alloc x t al, a => nprim tr (nallocOk a t al && (Cls.lv t).small) a (a.set x (.lv t))
  | tr, .bind x y, a => nprim tr true a (a.set x (a.get y))
  | tr, .const x, a => nprim tr true a (a.set x .scalar)
  | tr, .arith x, a => nprim tr true a (a.set x (.lv .num))
  | tr, .havoc x, a => nprim tr true a (a.set x .any)
  | tr, .load x y _, a => nprim tr true a (a.set x (loadCls (a.get y)))
  | tr, .store x _ v, a => nprim tr (storeOk (a.get x) (a.get v)) a a
  | tr, .merge x y, a => nprim tr (mergeOk (a.get x) (a.get y)) a a
  | tr, .shrink x, a => nprim tr (!(a.get x).isAny) a a
  | tr, .aug x v, a =>
    match a.get x with
    | .scalar => nprim tr true a (a.set x (.lv .num))
    | .lv t => nprim tr (mergeable t (a.get v) && !t.isExt) a a
    | .any => nprim tr false a a
  | tr, .call x f args, a =>
    nprim tr (ncallOk a (look f).2 args && (look f).1.small) a (a.set x (look f).1)
  | tr, .unknown args, a => nprim tr (args.all fun y => (a.get y).isScalar) a a
  | tr, .seq s t, a =>
    let r1 := nabsExec look rc tr s a
    match r1.norm with
    | none => r1
    | some a1 =>
      let r2 := nabsExec look rc tr t a1
      ⟨r1.ok && r2.ok, r2.norm, nojoin r1.exc r2.exc, nojoin r1.brk r2.brk⟩
  | tr, .ite s t, a =>
    let r1 := nabsExec look rc tr s a
    let r2 := nabsExec look rc tr t a
    ⟨r1.ok && r2.ok, nojoin r1.norm r2.norm, nojoin r1.exc r2.exc, nojoin r1.brk r2.brk⟩
  | tr, .loop inv s, a =>
    let r := nabsExec look rc tr s (NEnv.ofList inv)
    ⟨r.ok && inv.all Cls.small && a.le inv && nole r.norm inv, some (NEnv.ofList inv), r.exc, r.brk⟩
  | tr, .block s, a =>
    let r := nabsExec look rc tr s a
    ⟨r.ok, nojoin r.norm r.brk, r.exc, none⟩
  | _, .brk, a => ⟨true, none, none, some a⟩
  | tr, .try s t, a =>
    let r1 := nabsExec look rc true s a
    match r1.exc with
    | none => r1
    | some e =>
      let r2 := nabsExec look rc tr t e
      ⟨r1.ok && r2.ok, nojoin r1.norm r2.norm, r2.exc, nojoin r1.brk r2.brk⟩
  | _, .ret x, a => ⟨(a.get x).le rc, none, none, none⟩
  | tr, .raise, a => ⟨true, none, if tr then some a else none, none⟩

def ORep : Option NEnv → Option AEnv → Prop
  | none, none => True
  | some e, some a => Rep e a
  | _, _ => False

theorem ORep.join : ∀ {o1 o2 : Option NEnv} {p1 p2 : Option AEnv}, ORep o1 p1 → ORep o2 p2 →
    ORep (nojoin o1 o2) (ojoin p1 p2)
  | none, _, none, _, _, h => h
  | some _, none, some _, none, h, _ => h
  | some e1, some e2, some a1, some a2, h1, h2 => fun x => by
    rw [NEnv.get_join, AEnv.get_join, h1 x, h2 x]

theorem ORep.le : ∀ {o : Option NEnv} {p : Option AEnv} {b : AEnv}, ORep o p → nole o b = true → ole p b = true
  | none, none, _, _, _ => rfl
  | some _, some _, _, h, hle => Rep.le h hle

structure Sim (n : NRes) (r : ARes) : Prop where
  ok : r.ok = true
  norm : ORep n.norm r.norm
  exc : ORep n.exc r.exc
  brk : ORep n.brk r.brk

theorem Sim.prim {tr ok ok' : Bool} {e e' : NEnv} {a a' : AEnv} (hok : ok' = true) (h : Rep e a) (h' : Rep e' a') :
    Sim (nprim tr ok e e') (prim tr ok' a a') :=
  ⟨hok, h', by cases tr <;> first | trivial | exact h, trivial⟩

theorem nallocOk_eq {e : NEnv} {a : AEnv} (h : Rep e a) (t : Lvl) (al : Alloc) : nallocOk e t al = allocOk a t al := by
  cases al <;> simp only [nallocOk, allocOk, h _]

theorem ncallOk_eq {e : NEnv} {a : AEnv} (h : Rep e a) (wp : List Nat) (args : List Var) : ncallOk e wp args = callOk a wp args := by
  simp only [ncallOk, callOk, h _]
  rfl

theorem nabsExec_sim {look : Nat → Summary} {sums : List Summary} (hl : ∀ f, look f = sums.getD f (.any, []))
    (rc : Cls) (s : Stmt) : ∀ (tr : Bool) (e : NEnv) (a : AEnv), Rep e a → (nabsExec look rc tr s e).ok = true →
      Sim (nabsExec look rc tr s e) (absExec sums rc tr s a) := by
  induction s with
  | skip => exact fun tr e a h _ => Sim.prim rfl h h
  | alloc x t al =>
    intro tr e a h hok
    obtain ⟨h1, h2⟩ := Bool.and_eq_true_iff.mp hok
    exact Sim.prim (nallocOk_eq h t al ▸ h1) h (h.set x h2)
  | bind x y => exact fun tr e a h _ => Sim.prim rfl h (h y ▸ h.set x (e.get_small y))
  | const x => exact fun tr e a h _ => Sim.prim rfl h (h.set x rfl)
  | arith x => exact fun tr e a h _ => Sim.prim rfl h (h.set x rfl)
  | havoc x => exact fun tr e a h _ => Sim.prim rfl h (h.set x rfl)
  | load x y k => exact fun tr e a h _ => Sim.prim rfl h (h y ▸ h.set x (Cls.small_loadCls (e.get_small y)))
  | store x k v => exact fun tr e a h hok => Sim.prim (h x ▸ h v ▸ hok) h h
  | merge x y => exact fun tr e a h hok => Sim.prim (h x ▸ h y ▸ hok) h h
  | shrink x => exact fun tr e a h hok => Sim.prim (h x ▸ hok) h h
  | aug x v =>
    intro tr e a h hok
    have hok : (match e.get x with | .scalar => _ | .lv t => _ | .any => _ : NRes).ok = true := hok
    show Sim (match e.get x with | .scalar => _ | .lv t => _ | .any => _) (match a.get x with | .scalar => _ | .lv t => _ | .any => _)
    rw [h x, h v] at hok ⊢
    generalize a.get x = c at hok ⊢
    cases c with
    | scalar => exact Sim.prim rfl h (h.set x (c := .lv .num) rfl)
    | lv t => exact Sim.prim hok h h
    | any => exact Sim.prim hok h h
  | call x f args =>
    intro tr e a h hok
    obtain ⟨h1, h2⟩ := Bool.and_eq_true_iff.mp hok
    show Sim _ (prim tr (callOk a (sums.getD f (.any, [])).2 args) a (a.set x (sums.getD f (.any, [])).1))
    rw [← hl f]
    exact Sim.prim (ncallOk_eq h _ args ▸ h1) h (h.set x h2)
  | unknown args =>
    exact fun tr e a h hok => Sim.prim ((funext h : NEnv.get e = AEnv.get a) ▸ hok) h h
  | seq s t ihs iht =>
    intro tr e a h hok
    have hok : (match (nabsExec look rc tr s e).norm with | none => _ | some _ => _ : NRes).ok = true := hok
    show Sim (match (nabsExec look rc tr s e).norm with | none => _ | some _ => _)
      (match (absExec sums rc tr s a).norm with | none => _ | some _ => _)
    have i1 := ihs tr e a h
    generalize nabsExec look rc tr s e = n1 at hok i1 ⊢
    generalize absExec sums rc tr s a = r1 at i1 ⊢
    obtain ⟨ok1, _ | e1, exc1, brk1⟩ := n1 <;> obtain ⟨rok1, _ | a1, rexc1, rbrk1⟩ := r1
    · exact i1 hok
    · exact (i1 hok).norm.elim
    · exact (i1 (Bool.and_eq_true_iff.mp hok).1).norm.elim
    · obtain ⟨hok1, hok2⟩ := Bool.and_eq_true_iff.mp hok
      have s1 := i1 hok1
      have s2 := iht tr e1 a1 s1.norm hok2
      exact ⟨Bool.and_eq_true_iff.mpr ⟨s1.ok, s2.ok⟩, s2.norm, s1.exc.join s2.exc, s1.brk.join s2.brk⟩
  | ite s t ihs iht =>
    intro tr e a h hok
    obtain ⟨hok1, hok2⟩ := Bool.and_eq_true_iff.mp hok
    have s1 := ihs tr e a h hok1
    have s2 := iht tr e a h hok2
    exact ⟨Bool.and_eq_true_iff.mpr ⟨s1.ok, s2.ok⟩, s1.norm.join s2.norm, s1.exc.join s2.exc, s1.brk.join s2.brk⟩
  | loop inv s ih =>
    intro tr e a h hok
    have hok : (_ && inv.all Cls.small && e.le inv && nole (nabsExec look rc tr s (NEnv.ofList inv)).norm inv) = true := hok
    rw [Bool.and_eq_true, Bool.and_eq_true, Bool.and_eq_true] at hok
    obtain ⟨⟨⟨hok1, hinv⟩, hle⟩, hnle⟩ := hok
    have s1 := ih tr _ inv (Rep.ofList hinv) hok1
    exact ⟨Bool.and_eq_true_iff.mpr ⟨Bool.and_eq_true_iff.mpr ⟨s1.ok, h.le hle⟩, s1.norm.le hnle⟩,
      Rep.ofList hinv, s1.exc, s1.brk⟩
  | block s ih =>
    intro tr e a h hok
    have s1 := ih tr e a h hok
    exact ⟨s1.ok, s1.norm.join s1.brk, s1.exc, trivial⟩
  | brk => exact fun tr e a h _ => ⟨rfl, trivial, trivial, h⟩
  | «try» s t ihs iht =>
    intro tr e a h hok
    have hok : (match (nabsExec look rc true s e).exc with | none => _ | some _ => _ : NRes).ok = true := hok
    show Sim (match (nabsExec look rc true s e).exc with | none => _ | some _ => _)
      (match (absExec sums rc true s a).exc with | none => _ | some _ => _)
    have i1 := ihs true e a h
    generalize nabsExec look rc true s e = n1 at hok i1 ⊢
    generalize absExec sums rc true s a = r1 at i1 ⊢
    obtain ⟨ok1, norm1, _ | e1, brk1⟩ := n1 <;> obtain ⟨rok1, rnorm1, _ | a1, rbrk1⟩ := r1
    · exact i1 hok
    · exact (i1 hok).exc.elim
    · exact (i1 (Bool.and_eq_true_iff.mp hok).1).exc.elim
    · obtain ⟨hok1, hok2⟩ := Bool.and_eq_true_iff.mp hok
      have s1 := i1 hok1
      have s2 := iht tr e1 a1 s1.exc hok2
      exact ⟨Bool.and_eq_true_iff.mpr ⟨s1.ok, s2.ok⟩, s1.norm.join s2.norm, s2.exc, s1.brk.join s2.brk⟩
  | ret x => exact fun tr e a h hok => ⟨show (a.get x).le rc = true from h x ▸ hok, trivial, trivial, trivial⟩
  | raise => exact fun tr e a h _ => ⟨rfl, trivial, by cases tr <;> first | trivial | exact h, trivial⟩

def fastCheck (look : Nat → Summary) (f : Fn) : Bool :=
  (entryEnv f.params f.wparams).all Cls.small &&
  (nabsExec look f.retCls false f.body (NEnv.ofList (entryEnv f.params f.wparams))).ok && !f.retCls.isExt

theorem writesOnlyFresh_of_fast {look : Nat → Summary} {sums : List Summary}
    (hl : ∀ f, look f = sums.getD f (.any, [])) {f : Fn} (h : fastCheck look f = true) :
    writesOnlyFresh sums f = true := by
  rw [fastCheck, Bool.and_eq_true, Bool.and_eq_true] at h
  exact Bool.and_eq_true_iff.mpr ⟨(nabsExec_sim hl _ _ _ _ _ (Rep.ofList h.1.1) h.1.2).ok, h.2⟩

theorem disciplined_of_fast {sums : List Summary} {fs : List Fn}
    (h : fs.all (fastCheck ((Trie.ofList sums.length sums).get (.any, []))) = true) :
    fs.all (writesOnlyFresh sums) = true :=
  List.all_eq_true.mpr fun f hf =>
    writesOnlyFresh_of_fast (Trie.get_ofList _ _ _ (Nat.le_refl _)) (List.all_eq_true.mp h f hf)

end Bermuda.HeapIR
