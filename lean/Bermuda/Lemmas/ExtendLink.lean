/-
The common tail of `make_right_triangle` / `make_right_diagonal` on an incremental input, in closed form. The new cells are
empty cumulative cells, so `to_incremental` has nothing to subtract: on every row it only chains the evaluation dates
(`chainRow`), starting from the day before the period start, and `_fix_prev_evaluation_date` moves the start of every chain
to the row's latest observation. Hence every new cell `n` comes back as `linked t new n` (`finishRight_linked`), and a
result cell satisfies `ChainCell` (`finishRight_chain`).
-/
import Bermuda.Lemmas.ExtendInc
namespace Bermuda.Extend

def prevOf (t new : List Cell) (n : Cell) : Option Date :=
  match maxEval ((Spec.C15.rowOf new n).filter fun o => o.ev < n.ev) with
  | some d => some d
  | none => maxEval (Spec.C15.rowOf t n)

def linked (t new : List Cell) (n : Cell) : Cell :=
  { n with kind := .incremental, prev := prevOf t new n }

theorem linked_datesOk {t new : List Cell} {n : Cell} (hk : n.kind = .cumulative) (hp : n.prev = none)
    (hd : n.datesOk = true) :
    (linked t new n).datesOk = true ↔ ∃ p, prevOf t new n = some p ∧ p < n.ev := by
  unfold Cell.datesOk at hd ⊢
  simp only [hk, hp, Bool.and_true] at hd
  rw [Bool.and_eq_true, and_iff_right (by exact hd)]
  show (match CellKind.incremental, prevOf t new n with
    | .incremental, some p => decide (p < n.ev)
    | .incremental, none => false
    | _, some _ => false
    | _, none => true) = true ↔ _
  cases prevOf t new n <;> simp

theorem prevOf_lt {t new : List Cell} {n : Cell} (hrow : ∃ x ∈ t, rowKey x = rowKey n)
    (hafter : ∀ e ∈ t, rowKey e = rowKey n → e.ev < n.ev) : ∃ p, prevOf t new n = some p ∧ p < n.ev := by
  unfold prevOf
  cases hm : maxEval ((Spec.C15.rowOf new n).filter fun o => o.ev < n.ev) with
  | some d =>
    obtain ⟨⟨o, ho, rfl⟩, _⟩ := maxEval_spec hm
    exact ⟨_, rfl, by simpa using (List.mem_filter.mp ho).2⟩
  | none =>
    obtain ⟨x, hx, hxk⟩ := hrow
    obtain ⟨m, hm', ⟨o, ho, rfl⟩, _⟩ := maxEval_of_mem (mem_rowOf.mpr ⟨hx, hxk.symm⟩)
    exact ⟨_, hm', hafter o (mem_rowOf.mp ho).1 (mem_rowOf.mp ho).2.symm⟩

def chainRow (k : RowKey) : Date → List Date → List Cell
  | _, [] => []
  | p, d :: ds => incAt k p d [] :: chainRow k d ds

theorem valuesDiff_nil {v : Dict Val} (h : valuesDiff [] [] = .ok v) : v = [] := by
  simp [valuesDiff, sameKeys, Dict.keys_nil, pure_eq_ok] at h
  exact h

theorem incPairs_empty {k : RowKey} : ∀ (rest : List Cell) (p : Cell) (ds : List Cell),
    (∀ c ∈ p :: rest, c.values = []) → incPairs k p rest = .ok ds → ds = chainRow k p.ev (rest.map (·.ev))
  | [], _, ds, _, h => by cases h; rfl
  | n :: rest, p, ds, hv, h => by
    obtain ⟨v, ds', hvd, hds, rfl, _⟩ := incPairs_cons_ok h
    rw [hv p (by simp), hv n (by simp)] at hvd
    obtain rfl := incPairs_empty rest n ds' (fun c hc => hv c (List.mem_cons_of_mem _ hc)) hds
    cases valuesDiff_nil hvd
    rfl

theorem incRow_empty {k : RowKey} {r ds : List Cell} (hv : ∀ c ∈ r, c.values = []) (h : incRow k r = .ok ds) :
    ds = chainRow k k.1.1.pred (r.map (·.ev)) := by
  cases r with
  | nil => cases h; rfl
  | cons c0 rest =>
    obtain ⟨ds', hds, rfl, _⟩ := incRow_cons_ok h
    obtain rfl := incPairs_empty rest c0 ds' hv hds
    rw [hv c0 (by simp)]
    rfl

theorem chainRow_sorted {k : RowKey} : ∀ (ds : List Date) (p : Date), (∀ c ∈ chainRow k p ds, c.datesOk = true) →
    (p :: ds).Pairwise (fun a b => a < b)
  | [], _, _ => List.pairwise_singleton _ _
  | d :: ds, p, h => by
    have hpd : p < d := prev_lt_ev (c := incAt k p d []) (h _ List.mem_cons_self) rfl
    have ih := chainRow_sorted ds d fun c hc => h c (List.mem_cons_of_mem _ hc)
    refine List.pairwise_cons.mpr ⟨fun x hx => ?_, ih⟩
    rcases List.mem_cons.mp hx with rfl | hx
    · exact hpd
    · exact DateOrder.lt_trans hpd ((List.pairwise_cons.mp ih).1 x hx)

abbrev incRowOf (p : RowKey × List Cell) : List Cell := chainRow p.1 p.1.1.1.pred (p.2.map (·.ev))

theorem toIncremental_empty {right inc : List Cell} (hni : Triangle.isIncremental right = false)
    (hv : ∀ c ∈ right, c.values = []) (h : Triangle.toIncremental right = .ok inc) :
    inc.Perm ((orderedRows right).flatMap incRowOf) ∧
      ∀ p ∈ orderedRows right, p.2.Pairwise (fun x y => x.ev < y.ev) := by
  obtain ⟨parts, hparts, hperm⟩ := toIncremental_ok hni h
  have hrow : ∀ p ∈ orderedRows right, ∀ ds, incRow p.1 p.2 = .ok ds → ds = incRowOf p := fun p hp ds hds =>
    incRow_empty (fun c hc => hv c (((orderedRows_spec hp).1 c).mp hc).1) hds
  refine ⟨?_, fun p hp => ?_⟩
  · rw [mapM_ok_eq_map hparts hrow] at hperm
    rwa [List.flatMap_def]
  · obtain ⟨ds, _, hds⟩ := mapM_ok_mem' hparts p hp
    have hok := fun c hc => ((incRow_shape hds).2 c hc).2.2
    rw [hrow p hp ds hds] at hok
    exact List.pairwise_map.mp (List.pairwise_cons.mp (chainRow_sorted _ _ hok)).2

theorem mem_chainRow {k : RowKey} {c : Cell} : ∀ {ds : List Date} {p : Date}, c ∈ chainRow k p ds →
    rowKey c = k ∧ c.ev ∈ ds
  | d :: ds, p, h => by
    rcases List.mem_cons.mp h with rfl | h
    · exact ⟨rfl, List.mem_cons_self⟩
    · exact ⟨(mem_chainRow h).1, List.mem_cons_of_mem _ (mem_chainRow h).2⟩

theorem maxEval_before {l1 l2 : List Cell} {a b : Cell}
    (hs : (l1 ++ a :: b :: l2).Pairwise (fun x y => x.ev < y.ev)) :
    maxEval ((l1 ++ a :: b :: l2).filter fun o => o.ev < b.ev) = some a.ev := by
  obtain ⟨_, h2, h12⟩ := List.pairwise_append.mp hs
  obtain ⟨ha, h2'⟩ := List.pairwise_cons.mp h2
  obtain ⟨hb, _⟩ := List.pairwise_cons.mp h2'
  have hab : a.ev < b.ev := ha b (by simp)
  refine maxEval_eq_some (List.mem_filter.mpr ⟨by simp, by simpa using hab⟩) fun o ho => ?_
  obtain ⟨hol, holt⟩ := List.mem_filter.mp ho
  have holt' : o.ev < b.ev := by simpa using holt
  rcases List.mem_append.mp hol with h | h
  · exact DateOrder.le_of_lt (h12 o h a (by simp))
  · rcases List.mem_cons.mp h with rfl | h
    · exact DateOrder.le_refl _
    · rcases List.mem_cons.mp h with rfl | h
      · exact absurd holt' (DateOrder.lt_irrefl _)
      · exact absurd holt' (DateOrder.lt_asymm (hb o h))

theorem maxEval_before_head {b : Cell} {l2 : List Cell} (hs : (b :: l2).Pairwise (fun x y => x.ev < y.ev)) :
    maxEval ((b :: l2).filter fun o => o.ev < b.ev) = none := by
  rw [List.filter_eq_nil_iff.mpr]
  · rfl
  · intro o ho
    rcases List.mem_cons.mp ho with rfl | h
    · simpa using DateOrder.lt_irrefl _
    · simpa using DateOrder.lt_asymm ((List.pairwise_cons.mp hs).1 o h)

/-- the cells of one row `r` of `new` (sorted by evaluation date, `e` the row's latest observation), linked, are the
chain row from `e`: the suffix `r'` after `l1` continues from the last date of `l1` -/
theorem map_linked_suffix {t new r : List Cell} {k : RowKey} {e : Date}
    (hk : ∀ n ∈ r, rowKey n = k ∧ n.values = []) (hs : r.Pairwise (fun x y => x.ev < y.ev))
    (hrow : ∀ n ∈ r, (Spec.C15.rowOf new n).Perm r) (he : ∀ n ∈ r, maxEval (Spec.C15.rowOf t n) = some e) :
    ∀ (r' l1 : List Cell) (q : Date), r = l1 ++ r' → (l1 = [] ∧ q = e ∨ ∃ l0 a, l1 = l0 ++ [a] ∧ q = a.ev) →
      r'.map (linked t new) = chainRow k q (r'.map (·.ev))
  | [], _, _, _, _ => rfl
  | b :: r'', l1, q, hr, hq => by
    have hb : b ∈ r := by rw [hr]; simp
    have hprev : prevOf t new b = some q := by
      unfold prevOf
      rw [maxEval_perm ((hrow b hb).filter _)]
      rcases hq with ⟨rfl, rfl⟩ | ⟨l0, a, rfl, rfl⟩
      · rw [hr, List.nil_append, maxEval_before_head (by rw [hr] at hs; exact hs)]
        exact he b hb
      · have hr' : r = l0 ++ a :: b :: r'' := by rw [hr]; simp
        rw [hr', maxEval_before (by rw [hr'] at hs; exact hs)]
    have hcell : linked t new b = incAt k q b.ev [] := by
      have := incAt_eq_self (x := linked t new b) (k := k) (p := q) (hk b hb).1 rfl hprev
      rw [← this]
      show incAt k q b.ev b.values = _
      rw [(hk b hb).2]
    rw [List.map_cons, List.map_cons, chainRow, hcell,
      map_linked_suffix hk hs hrow he r'' (l1 ++ [b]) b.ev (by rw [hr]; simp) (Or.inr ⟨l1, b, rfl, rfl⟩)]

theorem maxEval_rowOf_edge {t obs : List Cell} (hobs : Triangle.rightEdge t = .ok obs) {e : Cell} (he : e ∈ obs)
    {n : Cell} (hk : rowKey n = rowKey e) : maxEval (Spec.C15.rowOf t n) = some e.ev := by
  obtain ⟨het, hlatest⟩ := Triangle.rightEdge_latest hobs he
  refine maxEval_eq_some (mem_rowOf.mpr ⟨het, hk⟩) fun o ho => ?_
  obtain ⟨hot, hok⟩ := mem_rowOf.mp ho
  obtain ⟨k1, k2, k3⟩ := rowKey_eq_iff.mp (hok.symm.trans hk)
  exact hlatest o hot k1 k2 k3

section Tail
variable {t new right inc : List Cell}

theorem edge_heads (hinc : inc.Perm ((orderedRows right).flatMap incRowOf))
    (hs : ∀ p ∈ orderedRows right, p.2.Pairwise (fun x y => x.ev < y.ev))
    {p : RowKey × List Cell} (hp : p ∈ orderedRows right) {c0 : Cell} {rest : List Cell} (hc : p.2 = c0 :: rest) :
    incAt p.1 p.1.1.1.pred c0.ev [] ∈ edgeCellsOf inc ∧
      ∀ c ∈ chainRow p.1 c0.ev (rest.map (·.ev)), c ∉ edgeCellsOf inc := by
  have hRp : incRowOf p = incAt p.1 p.1.1.1.pred c0.ev [] :: chainRow p.1 c0.ev (rest.map (·.ev)) := by
    simp only [incRowOf, hc, List.map_cons, chainRow]
  have hdi : incAt p.1 p.1.1.1.pred c0.ev [] ∈ inc :=
    hinc.mem_iff.mpr (List.mem_flatMap.mpr ⟨p, hp, by rw [hRp]; exact List.mem_cons_self⟩)
  have hsd : (c0.ev :: rest.map (·.ev)).Pairwise (fun a b => a < b) := by
    have := hs p hp
    rw [hc] at this
    exact List.pairwise_map.mpr this
  have htail : ∀ c ∈ chainRow p.1 c0.ev (rest.map (·.ev)), c ∉ edgeCellsOf inc := by
    intro c hcm hE
    obtain ⟨hper, hmd⟩ := rowKey_iff_period.mp ((mem_chainRow hcm).1.symm ▸ rfl :
      rowKey (incAt p.1 p.1.1.1.pred c0.ev []) = rowKey c)
    exact DateOrder.lt_irrefl _
      (DateOrder.lt_of_lt_of_le ((List.pairwise_cons.mp hsd).1 _ (mem_chainRow hcm).2) ((edgeCellsOf_mem hE).2 (incAt p.1 p.1.1.1.pred c0.ev []) hdi hmd hper))
  refine ⟨?_, htail⟩
  obtain ⟨e, he, hem, hep⟩ := edgeCellsOf_cover hdi
  obtain ⟨p', hp', hep'⟩ := List.mem_flatMap.mp (hinc.mem_iff.mp (edgeCellsOf_mem he).1)
  have hpp : p' = p := orderedRows_key_unique hp' hp
    ((mem_chainRow hep').1.symm.trans (rowKey_iff_period.mpr ⟨hep, hem⟩))
  subst hpp
  rw [hRp] at hep'
  rcases List.mem_cons.mp hep' with rfl | h
  · exact he
  · exact absurd he (htail e h)

theorem filter_edge_rows (hinc : inc.Perm ((orderedRows right).flatMap incRowOf))
    (hs : ∀ p ∈ orderedRows right, p.2.Pairwise (fun x y => x.ev < y.ev)) :
    (inc.filter fun c => !(edgeCellsOf inc).contains c).Perm ((orderedRows right).flatMap fun p => (incRowOf p).tail) := by
  refine (hinc.filter _).trans ?_
  rw [List.filter_flatMap]
  refine List.Perm.of_eq (flatMap_congr_mem fun p hp => ?_)
  cases hc : p.2 with
  | nil => simp [incRowOf, hc, chainRow]
  | cons c0 rest =>
    obtain ⟨hhead, htail⟩ := edge_heads hinc hs hp hc
    simp only [incRowOf, hc, List.map_cons, chainRow, List.tail_cons]
    rw [List.filter_cons_of_neg (by simpa using hhead), List.filter_eq_self]
    intro c hcm
    simpa using htail c hcm

theorem row_linked (hperm : right.Perm new) {obs : List Cell} (hobs : Triangle.rightEdge t = .ok obs)
    (hv : ∀ c ∈ right, c.values = []) (hrows : ∀ n ∈ right, ∃ x ∈ t, rowKey x = rowKey n)
    (hs : ∀ p ∈ orderedRows right, p.2.Pairwise (fun x y => x.ev < y.ev))
    {p : RowKey × List Cell} (hp : p ∈ orderedRows right) :
    ∃ cell ∈ obs, rowKey cell = p.1 ∧ p.2.map (linked t new) = chainRow p.1 cell.ev (p.2.map (·.ev)) := by
  obtain ⟨hmem, _⟩ := orderedRows_spec hp
  obtain ⟨⟨a, ha, hak⟩, hp2⟩ := mem_orderedRows_iff.mp hp
  obtain ⟨x, hx, hxk⟩ := hrows a ha
  obtain ⟨cell, hcell, hcm, hcp⟩ := Triangle.rightEdge_cover hobs hx
  have hck : rowKey cell = p.1 := (rowKey_iff_period.mpr ⟨hcp, hcm⟩).trans (hxk.trans hak)
  refine ⟨cell, hcell, hck, ?_⟩
  refine map_linked_suffix (fun n hn => ⟨((hmem n).mp hn).2, hv n ((hmem n).mp hn).1⟩) (hs p hp)
    (fun n hn => ?_) (fun n hn => maxEval_rowOf_edge hobs hcell (((hmem n).mp hn).2.trans hck.symm))
    p.2 [] cell.ev rfl (Or.inl ⟨rfl, rfl⟩)
  unfold Spec.C15.rowOf
  refine (hperm.symm.filter _).trans ?_
  rw [hp2, List.filter_congr (q := fun c => rowKey c == p.1) fun o _ => Bool.eq_iff_iff.mpr (by
    rw [sameRow_iff, beq_iff_eq, ((hmem n).mp hn).2]; exact eq_comm)]
  exact (List.mergeSort_perm _ _).symm

theorem fixed_heads (hperm : right.Perm new) {obs : List Cell} (hobs : Triangle.rightEdge t = .ok obs)
    (hv : ∀ c ∈ right, c.values = []) (hrows : ∀ n ∈ right, ∃ x ∈ t, rowKey x = rowKey n)
    (hinc : inc.Perm ((orderedRows right).flatMap incRowOf))
    (hs : ∀ p ∈ orderedRows right, p.2.Pairwise (fun x y => x.ev < y.ev)) :
    (fixedCells obs inc).Perm ((orderedRows right).flatMap fun p => (p.2.take 1).map (linked t new)) := by
  have hobs_rows := rightEdge_rows_nodup hobs
  have hedge_rows := edgeCellsOf_rows_nodup inc
  have hkey : ∀ p ∈ orderedRows right, ∀ y ∈ (p.2.take 1).map (linked t new), rowKey y = p.1 := by
    intro p hp y hy
    obtain ⟨c, hc, rfl⟩ := List.mem_map.mp hy
    exact (((orderedRows_spec hp).1 c).mp (List.mem_of_mem_take hc)).2
  refine (List.perm_ext_iff_of_nodup ?_ ?_).mpr fun y => ⟨fun hy => ?_, fun hy => ?_⟩
  · -- two observed edge cells re-link different rows, and one re-links each edge cell once
    apply List.Nodup.of_map rowKey
    unfold fixedCells
    rw [List.map_flatMap, List.nodup_flatMap]
    constructor
    · intro cell _
      rw [List.map_map]
      exact List.Nodup.sublist ((List.filter_sublist).map rowKey) hedge_rows
    · apply (List.Nodup.of_map _ hobs_rows).pairwise_of_forall_ne
      intro a ha b hb hab x hxa hxb
      obtain ⟨c1, hc1, rfl⟩ := List.mem_map.mp hxa
      obtain ⟨c2, hc2, he⟩ := List.mem_map.mp hxb
      obtain ⟨o1, ho1, rfl⟩ := List.mem_map.mp hc1
      obtain ⟨o2, ho2, rfl⟩ := List.mem_map.mp hc2
      have m1 := (List.mem_filter.mp ho1).2
      have m2 := (List.mem_filter.mp ho2).2
      simp only [Bool.and_eq_true, beq_iff_eq] at m1 m2
      obtain ⟨hkp, hkm⟩ := rowKey_iff_period.mp (show rowKey o2 = rowKey o1 from he)
      exact hab (List.inj_on_of_nodup_map hobs_rows ha hb (rowKey_iff_period.mpr
        ⟨m1.1.symm.trans (hkp.symm.trans m2.1), m1.2.symm.trans (hkm.symm.trans m2.2)⟩))
  · rw [List.nodup_flatMap]
    constructor
    · intro p _
      cases p.2 with
      | nil => exact List.nodup_nil
      | cons c _ => exact List.nodup_singleton _
    · apply (List.Nodup.of_map _ (orderedRows_keys_nodup right)).pairwise_of_forall_ne
      intro p hp q hq hpq y hyp hyq
      exact hpq (orderedRows_key_unique hp hq ((hkey p hp y hyp).symm.trans (hkey q hq y hyq)))
  · obtain ⟨cell, hcell, ob, hobe, hper, hmd, rfl⟩ := mem_fixedCells.mp hy
    obtain ⟨p, hp, hobp⟩ := List.mem_flatMap.mp (hinc.mem_iff.mp (edgeCellsOf_mem hobe).1)
    obtain ⟨cell', hcell', hck', hrow⟩ := row_linked hperm hobs hv hrows hs hp
    have hcc : cell = cell' := List.inj_on_of_nodup_map hobs_rows hcell hcell'
      ((rowKey_iff_period.mpr ⟨hper, hmd⟩).symm.trans ((mem_chainRow hobp).1.trans hck'.symm))
    subst hcc
    refine List.mem_flatMap.mpr ⟨p, hp, ?_⟩
    cases hc : p.2 with
    | nil => simp [incRowOf, hc, chainRow] at hobp
    | cons c0 rest =>
      obtain ⟨_, htail⟩ := edge_heads hinc hs hp hc
      simp only [incRowOf, hc, List.map_cons, chainRow] at hobp hrow
      rcases List.mem_cons.mp hobp with rfl | h
      · rw [List.take_succ_cons, List.take_zero, List.map_cons, (List.cons.inj hrow).1]
        exact List.mem_singleton.mpr rfl
      · exact absurd hobe (htail ob h)
  · obtain ⟨p, hp, hyp⟩ := List.mem_flatMap.mp hy
    obtain ⟨cell, hcell, hck, hrow⟩ := row_linked hperm hobs hv hrows hs hp
    cases hc : p.2 with
    | nil => simp [hc] at hyp
    | cons c0 rest =>
      obtain ⟨hhead, _⟩ := edge_heads hinc hs hp hc
      simp only [hc, List.map_cons, chainRow] at hrow
      rw [hc, List.take_succ_cons, List.take_zero, List.map_cons, (List.cons.inj hrow).1] at hyp
      obtain ⟨hper, hmd⟩ := rowKey_iff_period.mp (show rowKey (incAt p.1 p.1.1.1.pred c0.ev []) = rowKey cell from hck.symm)
      rw [List.mem_singleton.mp hyp]
      exact mem_fixedCells.mpr ⟨cell, hcell, _, hhead, hper, hmd, rfl⟩

/-- what `_fix_prev_evaluation_date` hands to the last `Triangle(...)`, whether or not every re-linked cell passes the
constructor: the new cells, linked -/
theorem tail_perm (hperm : right.Perm new) {obs : List Cell} (hobs : Triangle.rightEdge t = .ok obs)
    (hv : ∀ c ∈ right, c.values = []) (hrows : ∀ n ∈ right, ∃ x ∈ t, rowKey x = rowKey n)
    (hinc : inc.Perm ((orderedRows right).flatMap incRowOf))
    (hs : ∀ p ∈ orderedRows right, p.2.Pairwise (fun x y => x.ev < y.ev)) :
    ((inc.filter fun c => !(edgeCellsOf inc).contains c) ++ fixedCells obs inc).Perm (new.map (linked t new)) := by
  have hrow : ∀ p ∈ orderedRows right,
      (p.2.take 1).map (linked t new) ++ (incRowOf p).tail = p.2.map (linked t new) := by
    intro p hp
    obtain ⟨cell, _, _, hrow⟩ := row_linked hperm hobs hv hrows hs hp
    cases hc : p.2 with
    | nil => simp [incRowOf, hc, chainRow]
    | cons c0 rest =>
      simp only [hc, List.map_cons, chainRow] at hrow
      simp only [incRowOf, hc, List.map_cons, chainRow, List.tail_cons, List.take_succ_cons, List.take_zero,
        List.map_nil, List.singleton_append, (List.cons.inj hrow).2]
  refine ((filter_edge_rows hinc hs).append (fixed_heads hperm hobs hv hrows hinc hs)).trans ?_
  refine List.perm_append_comm.trans ((List.flatMap_append_perm _ _ _).trans ?_)
  rw [flatMap_congr_mem hrow, ← List.map_flatMap]
  exact ((orderedRows_flat_perm right).map _).trans (hperm.map _)

theorem finishRight_linked {out : List Cell} (hinc : Triangle.isIncremental t = true)
    (hempty : ∀ n ∈ new, n.kind = .cumulative ∧ n.values = [] ∧ n.prev = none)
    (hrows : ∀ n ∈ new, ∃ x ∈ t, rowKey x = rowKey n) (h : finishRight t new = .ok out) :
    (∃ obs, Triangle.rightEdge t = .ok obs) ∧ out.Perm (new.map (linked t new)) := by
  obtain ⟨right, inc, hperm, hni, hincr, hfix⟩ := finishRight_inc_ok hinc (fun n hn => (hempty n hn).1) h
  have hv : ∀ c ∈ right, c.values = [] := fun c hc => (hempty c (hperm.mem_iff.mp hc)).2.1
  obtain ⟨hincF, hs⟩ := toIncremental_empty hni hv hincr
  obtain ⟨obs, hobs, _, hout⟩ := fixPrev_ok hfix
  exact ⟨⟨obs, hobs⟩,
    hout.trans (tail_perm hperm hobs hv (fun n hn => hrows n (hperm.mem_iff.mp hn)) hincF hs)⟩

theorem chainCell_linked {obs : List Cell} (hobs : Triangle.rightEdge t = .ok obs)
    (hempty : ∀ n ∈ new, n.kind = .cumulative ∧ n.values = [] ∧ n.prev = none)
    (hrows : ∀ n ∈ new, ∃ x ∈ t, rowKey x = rowKey n) {n : Cell} (hn : n ∈ new) :
    ChainCell t new (linked t new n) := by
  refine ⟨rfl, (hempty n hn).2.1, ?_⟩
  have hearlier : ∀ n' ∈ new, rowKey n' = rowKey n → n'.ev < n.ev →
      n' ∈ (Spec.C15.rowOf new n).filter fun o => o.ev < n.ev := fun n' hn' hk hlt =>
    List.mem_filter.mpr ⟨mem_rowOf.mpr ⟨hn', hk.symm⟩, by simpa using hlt⟩
  cases hm : maxEval ((Spec.C15.rowOf new n).filter fun o => o.ev < n.ev) with
  | none =>
    obtain ⟨x, hx, hxk⟩ := hrows n hn
    obtain ⟨e, he, hem, hep⟩ := Triangle.rightEdge_cover hobs hx
    have hke : rowKey n = rowKey e := hxk.symm.trans (rowKey_iff_period.mpr ⟨hep, hem⟩).symm
    obtain ⟨hep', hem'⟩ := rowKey_iff_period.mp hke
    refine Or.inl ⟨obs, e, hobs, he, hem'.symm, hep'.symm, ?_, ⟨n, hn, rfl, rfl⟩, fun n' hn' hk => ?_⟩
    · show prevOf t new n = some e.ev
      unfold prevOf
      rw [hm]
      exact maxEval_rowOf_edge hobs he hke
    · refine DateOrder.not_lt.mp fun hlt => ?_
      obtain ⟨m, hm', _⟩ := maxEval_of_mem (hearlier n' hn' hk hlt)
      rw [hm] at hm'
      cases hm'
  | some d =>
    obtain ⟨⟨a, ha, had⟩, hmax⟩ := maxEval_spec hm
    obtain ⟨har, halt⟩ := List.mem_filter.mp ha
    obtain ⟨han, hak⟩ := mem_rowOf.mp har
    refine Or.inr ⟨a, han, n, hn, hak.symm, rfl, ?_, rfl, by simpa using halt, fun n' hn' hk ⟨h1, h2⟩ => ?_⟩
    · show prevOf t new n = some a.ev
      unfold prevOf
      rw [hm, had]
    · exact DateOrder.lt_irrefl _ (DateOrder.lt_of_lt_of_le h1 (had ▸ hmax n' (hearlier n' hn' hk h2)))

theorem finishRight_chain {out : List Cell} (hinc : Triangle.isIncremental t = true)
    (hempty : ∀ n ∈ new, n.kind = .cumulative ∧ n.values = [] ∧ n.prev = none)
    (hrows : ∀ n ∈ new, ∃ x ∈ t, rowKey x = rowKey n) (h : finishRight t new = .ok out) :
    ∀ c ∈ out, ChainCell t new c := by
  obtain ⟨⟨obs, hobs⟩, hout⟩ := finishRight_linked hinc hempty hrows h
  intro c hc
  obtain ⟨n, hn, rfl⟩ := List.mem_map.mp (hout.mem_iff.mp hc)
  exact chainCell_linked hobs hempty hrows hn

def tailCell (t new : List Cell) (n : Cell) : Cell :=
  if Triangle.isIncremental t = true then linked t new n else n

theorem ckey_tailCell (t new : List Cell) (n : Cell) : ckey (tailCell t new n) = ckey n := by
  unfold tailCell
  split <;> rfl

theorem finishRight_tail {out : List Cell}
    (hempty : ∀ n ∈ new, n.kind = .cumulative ∧ n.values = [] ∧ n.prev = none)
    (hrows : ∀ n ∈ new, ∃ x ∈ t, rowKey x = rowKey n) (h : finishRight t new = .ok out) :
    out.Perm (new.map (tailCell t new)) := by
  cases hinc : Triangle.isIncremental t with
  | false =>
    rw [show tailCell t new = id from funext fun n => by simp [tailCell, hinc], List.map_id]
    exact finishRight_cum hinc h
  | true =>
    rw [show tailCell t new = linked t new from funext fun n => by simp [tailCell, hinc]]
    exact (finishRight_linked hinc hempty hrows h).2

end Tail

end Bermuda.Extend
