/-
C07, reading direction: the hooked decoder (`JsonIO.decode`, `objectHook` on every object, bottom-up)
agrees with the independent plain reading (`Spec.C07.plainRead`) on every document of the
documented shape — `fromDict_plain`. Every object is treated the same way: once its members decode,
the hook sees `decoded kvs` (`decode_obj_decoded`), whose lookups are the plain lookups, decoded
(`get?_decoded`); then each `obj.get(..)` of the hook is matched with the plain reader's. The
`values`, `details`, `loss_details` objects pass through the hook unchanged because their keys are
trigger-free.
Unqualified `plainRead`, `read*` and `jLookup` are the plain readers of Spec/C07.lean; the hook's side (`decode`,
`objectHook`, `parse*`, `getDate`, `p*`) is Model/JsonIO.lean.
-/
import Bermuda.Lemmas.JsonIO
namespace Bermuda.JsonIO
open Bermuda Bermuda.Spec.C07

theorem decode_obj (kvs : List (String × JVal)) :
    decode (.obj kvs) = (decodeKvs kvs).bind fun ps => objectHook (mkDict ps) := by
  rw [decode]

theorem decode_arr (l : List JVal) : decode (.arr l) = (decodeList l).map .list := by
  rw [decode]

theorem decodeList_eq_mapM : ∀ l : List JVal, decodeList l = l.mapM decode
  | [] => by rw [decodeList]; rfl
  | v :: l => by
    rw [decodeList, decodeList_eq_mapM l, List.mapM_cons]
    cases decode v <;> cases l.mapM decode <;> rfl

/-- `.null` stands in where `decode v` fails: a statement about `decoded kvs` means something only when all members
decode (`hdec`, `DecodesAt`) -/
def decP (v : JVal) : PVal := match decode v with | .ok p => p | .error _ => .null

theorem decP_of_ok {v p} (h : decode v = .ok p) : decP v = p := by rw [decP, h]

def decoded (kvs : List (String × JVal)) : Dict PVal := kvs.map fun kv => (kv.1, decP kv.2)

theorem decodeKvs_ok : ∀ kvs : List (String × JVal), (∀ kv ∈ kvs, ∃ p, decode kv.2 = .ok p) →
    decodeKvs kvs = .ok (decoded kvs)
  | [], _ => by rw [decodeKvs]; rfl
  | (k, v) :: rest, h => by
    obtain ⟨p, hp⟩ := h (k, v) List.mem_cons_self
    rw [decodeKvs, hp, decodeKvs_ok rest fun kv hkv => h kv (List.mem_cons_of_mem _ hkv)]
    show Except.ok ((k, p) :: decoded rest) = .ok ((k, decP v) :: decoded rest)
    rw [decP_of_ok hp]

theorem keys_decoded (kvs : List (String × JVal)) : (decoded kvs).map (·.1) = kvs.map (·.1) :=
  keys_map_snd _ kvs

theorem get?_decoded (kvs : List (String × JVal)) (k : String) :
    Dict.get? (decoded kvs) k = (jLookup kvs k).map decP := by
  rw [jLookup, Option.map_map]
  exact Assoc.get?_map_val (fun p => decP p.2) kvs k

theorem contains_of_lookup {kvs k v} (h : jLookup kvs k = some v) : (kvs.map (·.1)).contains k = true :=
  List.contains_iff_mem.mpr (Assoc.mem_keys_of_get? h)

theorem contains_decoded (kvs : List (String × JVal)) (k : String) :
    Dict.contains (decoded kvs) k = (kvs.map (·.1)).contains k := by
  rw [Dict.contains_eq, Dict.keys, keys_decoded]

theorem contains_decoded_of_lookup {kvs k v} (h : jLookup kvs k = some v) :
    Dict.contains (decoded kvs) k = true :=
  (contains_decoded kvs k).trans (contains_of_lookup h)

theorem not_contains_decoded {kvs : List (String × JVal)} {allowed : List String}
    (hk : (kvs.map (·.1)).all allowed.contains = true) {k : String} (hna : allowed.contains k = false) :
    Dict.contains (decoded kvs) k = false := by
  rw [contains_decoded]
  cases h : (kvs.map (·.1)).contains k with
  | false => rfl
  | true =>
    have := List.all_eq_true.mp hk k (List.contains_iff_mem.mp h)
    rw [hna] at this; cases this

theorem objectHook_passthrough (d : Dict PVal) (h : triggerFree (Dict.keys d) = true) :
    objectHook d = .ok (.dict d) := by
  unfold triggerFree at h
  simp only [Bool.and_eq_true, Bool.not_eq_true', Bool.and_eq_false_iff] at h
  unfold objectHook
  simp only [Dict.contains_eq, h.1.1, h.1.2, Bool.false_eq_true, if_false]
  rcases h.2 with (h3 | h3) | h3 <;>
    simp only [h3, Bool.false_and, Bool.and_false, Bool.false_eq_true, ↓reduceIte]

theorem objectHook_slices (d : Dict PVal) (h : d.contains "slices" = true) :
    objectHook d = pySumLists ((d.get? "slices").getD .null) := by
  rw [objectHook, if_pos h]

theorem objectHook_cellSet (d : Dict PVal) (h1 : d.contains "slices" = false) (h2 : d.contains "cells" = true) :
    objectHook d = parseCellSet d := by
  rw [objectHook, h1, if_neg Bool.false_ne_true, if_pos h2]

theorem objectHook_observation (d : Dict PVal) (h1 : d.contains "slices" = false)
    (h2 : d.contains "cells" = false) (h3 : d.contains "period_start" = true)
    (h4 : d.contains "period_end" = true) (h5 : d.contains "values" = true) :
    objectHook d = parseObservation d := by
  rw [objectHook, h1, h2, h3, h4, h5, if_neg Bool.false_ne_true, if_neg Bool.false_ne_true]
  rfl

theorem mkDict_of_nodup (ps : List (String × PVal)) (h : nodupKeys (ps.map (·.1)) = true) :
    mkDict ps = ps :=
  (Assoc.foldl_set_fresh (fun p : String × PVal => p.1) (fun p => p.2) ps []
    (by simpa using (nodupKeys_iff _).mp h)).trans (by simp)

theorem decode_obj_decoded (kvs : List (String × JVal)) (hn : nodupKeys (kvs.map (·.1)) = true)
    (hdec : ∀ kv ∈ kvs, ∃ p, decode kv.2 = .ok p) : decode (.obj kvs) = objectHook (decoded kvs) := by
  rw [decode_obj, decodeKvs_ok kvs hdec]
  show objectHook (mkDict (decoded kvs)) = _
  rw [mkDict_of_nodup _ (by rw [keys_decoded]; exact hn)]

/-- the obligation of `decode_obj_keyed` for the key `k`; each `*_decoded` lemma below delivers it together with what
the hook's accessor returns on the decoded dict -/
def DecodesAt (kvs : List (String × JVal)) (k : String) : Prop :=
  ∀ v, jLookup kvs k = some v → ∃ p, decode v = .ok p

/-- `decode_obj_decoded` when the keys come from a fixed list: one obligation per allowed key -/
theorem decode_obj_keyed {kvs : List (String × JVal)} {allowed : List String}
    (hn : nodupKeys (kvs.map (·.1)) = true) (hk : (kvs.map (·.1)).all allowed.contains = true)
    (H : ∀ k ∈ allowed, DecodesAt kvs k) : decode (.obj kvs) = objectHook (decoded kvs) :=
  decode_obj_decoded kvs hn fun kv hkv =>
    H kv.1 (List.contains_iff_mem.mp (List.all_eq_true.mp hk kv.1 (List.mem_map_of_mem hkv))) kv.2
      ((Assoc.get?_eq_some_iff ((nodupKeys_iff _).mp hn)).mpr hkv)

theorem get?_decoded_some {kvs k v p} (hl : jLookup kvs k = some v) (hd : decode v = .ok p) :
    Dict.get? (decoded kvs) k = some p ∧ DecodesAt kvs k :=
  ⟨by rw [get?_decoded, hl, Option.map_some, decP_of_ok hd],
    fun _ hv => ⟨p, Option.some.inj (hl.symm.trans hv) ▸ hd⟩⟩

theorem get?_decoded_none {kvs k} (hl : jLookup kvs k = none) :
    Dict.get? (decoded kvs) k = none ∧ DecodesAt kvs k :=
  ⟨by rw [get?_decoded, hl]; rfl, fun _ hv => by rw [hl] at hv; cases hv⟩

def scalarP : JVal → PVal
  | .null => .null | .bool b => .bool b | .int i => .int i | .flt q => .flt q | .str s => .str s
  | _ => .null

def valP : JVal → PVal
  | .arr l => .list (l.map scalarP)
  | v => scalarP v

theorem decode_of_readScalar {v s} (h : readScalar v = some s) :
    decode v = .ok (scalarP v) := by
  cases v <;> simp [readScalar] at h <;> rw [decode] <;> rfl

theorem scalar?_scalarP {v s} (h : readScalar v = some s) :
    (scalarP v).scalar? = some s := by
  cases v <;> simp [readScalar] at h <;> subst h <;> rfl

theorem decode_plain_obj (vs : List (String × JVal)) (hn : nodupKeys (vs.map (·.1)) = true)
    (ht : triggerFree (vs.map (·.1)) = true) (hdec : ∀ kv ∈ vs, ∃ p, decode kv.2 = .ok p) :
    decode (.obj vs) = .ok (.dict (decoded vs)) := by
  rw [decode_obj_decoded vs hn hdec]
  exact objectHook_passthrough _ (by rw [Dict.keys, keys_decoded]; exact ht)

theorem decode_of_jNum {e} (h : (jNum? e).isSome = true) : decode e = .ok (scalarP e) := by
  cases e <;> simp [jNum?] at h <;> rw [decode] <;> rfl

theorem jNum_of_jInt {e} (h : (jInt? e).isSome = true) : (jNum? e).isSome = true := by
  cases e <;> simp [jInt?] at h <;> rfl

theorem readArray_numeric {l x} (h : readArray l = some x) :
    ∀ e ∈ l, decode e = .ok (scalarP e) := by
  intro e hm
  unfold readArray at h
  dsimp only at h
  split at h
  · rename_i he
    rw [List.isEmpty_iff.mp he] at hm; cases hm
  · split at h
    · rename_i hlen
      exact decode_of_jNum (jNum_of_jInt (List.filterMap_length_eq_length.mp (by simpa using hlen) e hm))
    · split at h
      · rename_i hlen
        exact decode_of_jNum (List.filterMap_length_eq_length.mp (by simpa using hlen) e hm)
      · cases h

theorem npArray_map_scalarP (l : List JVal) :
    npArray (l.map scalarP) = match readArray l with | some v => .ok v | none => .error .other := by
  have e : ∀ (f : PVal → Option Rat) (g : JVal → Option Rat), (∀ v, f (scalarP v) = g v) →
      (l.map scalarP).filterMap f = l.filterMap g := fun f g h => by
    rw [List.filterMap_map]; exact congrArg (List.filterMap · l) (funext h)
  unfold npArray readArray
  simp only [e PVal.int? jInt? fun v => by cases v <;> rfl, e PVal.num? jNum? fun v => by cases v <;> rfl,
    List.length_map, List.isEmpty_map]
  split
  · rfl
  · split
    · rfl
    · split <;> rfl

theorem decode_of_readVal {v x} (h : readVal v = some x) : decode v = .ok (valP v) := by
  cases v with
  | arr l =>
    have := mapM_map_pure decode id scalarP l (readArray_numeric h)
    rw [List.map_id] at this
    rw [decode_arr, decodeList_eq_mapM, this]
    rfl
  | null => rw [decode]; rfl
  | int i => rw [decode]; rfl
  | flt q => rw [decode]; rfl
  | _ => simp [readVal] at h

theorem preVal_of_readVal {v x} (h : readVal v = some x) :
    preVal (valP v) = .ok (.val x) := by
  cases v with
  | arr l =>
    simp only [readVal] at h
    simp only [valP, preVal, npArray_map_scalarP, h]
    rfl
  | null => cases h; rfl
  | int i => cases h; rfl
  | flt q => cases h; rfl
  | _ => simp [readVal] at h

theorem readDate_str {kvs k dt} (h : readDate kvs k = some dt) :
    ∃ s, jLookup kvs k = some (.str s) ∧ parseIso s = .ok dt := by
  unfold readDate at h
  split at h
  · rename_i s hs
    refine ⟨s, hs, ?_⟩
    split at h
    · rename_i d hd; cases h; exact hd
    · cases h
  · cases h

theorem readValues_obj {kvs values} (h : readValues kvs = some values) :
    ∃ vs, jLookup kvs "values" = some (.obj vs) ∧ nodupKeys (vs.map (·.1)) = true ∧
      triggerFree (vs.map (·.1)) = true ∧
      vs.mapM (fun kv => (readVal kv.2).map fun v => (kv.1, v)) = some values := by
  unfold readValues at h
  split at h
  · rename_i vs hvs
    split at h
    · rename_i hc
      simp only [Bool.and_eq_true] at hc
      exact ⟨vs, hvs, hc.1, hc.2, h⟩
    · cases h
  · cases h

theorem getDate_decoded {kvs k dt} (h : readDate kvs k = some dt) :
    getDate (decoded kvs) k = .ok dt ∧ DecodesAt kvs k := by
  obtain ⟨s, hs, hp⟩ := readDate_str h
  obtain ⟨hg, hd⟩ := get?_decoded_some hs (decode_of_readScalar (v := .str s) rfl)
  exact ⟨by rw [getDate, hg]; exact hp, hd⟩

theorem dict_decoded {R : Type} {rd : JVal → Option R} {kvs k vs} {out : List (String × R)}
    (hvs : jLookup kvs k = some (.obj vs)) (hn : nodupKeys (vs.map (·.1)) = true)
    (ht : triggerFree (vs.map (·.1)) = true)
    (hm : vs.mapM (fun kv => (rd kv.2).map fun x => (kv.1, x)) = some out)
    (hdec : ∀ v x, rd v = some x → ∃ p, decode v = .ok p) :
    Dict.get? (decoded kvs) k = some (.dict (decoded vs)) ∧ DecodesAt kvs k :=
  get?_decoded_some hvs (decode_plain_obj vs hn ht fun kv hkv => by
    obtain ⟨b, hb⟩ := mapM_some_mem' hm kv hkv
    obtain ⟨x, hx, -⟩ := Option.map_eq_some_iff.mp hb
    exact hdec _ x hx)

theorem pValues_decoded {kvs values} (h : readValues kvs = some values) :
    pValues (decoded kvs) = .ok (values.map fun kv => (kv.1, PreVal.val kv.2)) ∧ DecodesAt kvs "values" := by
  obtain ⟨vs, hvs, hn, ht, hm⟩ := readValues_obj h
  obtain ⟨hg, hd⟩ := dict_decoded hvs hn ht hm fun v x hx => ⟨_, decode_of_readVal hx⟩
  refine ⟨?_, hd⟩
  rw [pValues, hg]
  show (vs.map _).mapM _ = _
  rw [List.mapM_map]
  refine mapM_some_imp (k := fun kv : String × Val => (kv.1, PreVal.val kv.2)) (fun a b hb => ?_) hm
  obtain ⟨x, hx, rfl⟩ := Option.map_eq_some_iff.mp hb
  show (preVal (decP a.2)).map _ = _
  rw [decP_of_ok (decode_of_readVal hx), preVal_of_readVal hx]
  rfl

theorem checkValues_val (values : Dict Val) :
    checkValues (values.map fun kv => (kv.1, PreVal.val kv.2)) = .ok values :=
  mapM_map_pure_self _ _ values fun _ _ => rfl

theorem pPrev_decoded {kvs prev} (h : readPrev kvs = some prev) :
    pPrev (decoded kvs) = .ok prev ∧ DecodesAt kvs "prev_evaluation_date" := by
  unfold readPrev at h
  rw [pPrev, contains_decoded]
  split at h
  · rename_i hc
    obtain ⟨dt, hd, rfl⟩ := Option.map_eq_some_iff.mp h
    have p := getDate_decoded hd
    rw [if_pos hc, p.1]
    exact ⟨rfl, p.2⟩
  · rename_i hc
    cases h
    rw [if_neg hc]
    exact ⟨rfl, fun v hv => absurd (contains_of_lookup hv) hc⟩

/-- **a cell object of the documented shape is read by the hooked decoder exactly as plainly** -/
theorem decode_readCell {v c} (h : readCell v = some c) :
    decode v = .ok (.cell c) := by
  cases v with
  | obj kvs =>
    simp only [readCell, Option.ite_none_right_eq_some, Option.bind_eq_some_iff, Bool.and_eq_true,
      Option.some.injEq] at h
    obtain ⟨⟨hn, hk⟩, ps, hps, pe, hpe, ev, hev, prev, hprev, values, hvals, hok, rfl⟩ := h
    have p1 := getDate_decoded hps
    have p2 := getDate_decoded hpe
    have p3 := getDate_decoded hev
    have p4 := pPrev_decoded hprev
    have p5 := pValues_decoded hvals
    rw [decode_obj_keyed hn hk (by
      simp only [cellKeys, List.mem_cons, List.mem_nil_iff, or_false, forall_eq_or_imp, forall_eq]
      exact ⟨p1.2, p2.2, p3.2, p4.2, p5.2⟩)]
    obtain ⟨s1, hs1, _⟩ := readDate_str hps
    obtain ⟨s2, hs2, _⟩ := readDate_str hpe
    obtain ⟨vs, hvs, _⟩ := readValues_obj hvals
    rw [objectHook_observation _ (not_contains_decoded hk (by decide)) (not_contains_decoded hk (by decide))
      (contains_decoded_of_lookup hs1) (contains_decoded_of_lookup hs2) (contains_decoded_of_lookup hvs)]
    unfold parseObservation
    rw [p5.1, p1.1, p2.1, p3.1, p4.1]
    simp only [Except.bind, checkValues_val, contains_decoded]
    rw [if_pos hok]
  | _ => simp [readCell] at h

theorem pStrAttr_decoded {kvs k dflt r} (h : readStrAttr kvs k dflt = some r) :
    pStrAttr (decoded kvs) k dflt = .ok r ∧ DecodesAt kvs k := by
  unfold readStrAttr at h
  cases hl : jLookup kvs k with
  | none =>
    rw [hl] at h; cases h
    obtain ⟨hg, hd⟩ := get?_decoded_none hl
    exact ⟨by rw [pStrAttr, hg], hd⟩
  | some v =>
    rw [hl] at h
    cases v <;> cases h <;>
      exact (get?_decoded_some hl (decode_of_readScalar rfl)).imp_left fun hg => by rw [pStrAttr, hg]; rfl

theorem pLimit_decoded {kvs r} (h : readLimit kvs = some r) :
    pLimit (decoded kvs) = .ok r ∧ DecodesAt kvs "per_occurrence_limit" := by
  unfold readLimit at h
  cases hl : jLookup kvs "per_occurrence_limit" with
  | none =>
    rw [hl] at h; cases h
    obtain ⟨hg, hd⟩ := get?_decoded_none hl
    exact ⟨by rw [pLimit, hg], hd⟩
  | some v =>
    rw [hl] at h
    cases v <;> cases h <;>
      exact (get?_decoded_some hl (decode_of_readScalar rfl)).imp_left fun hg => by rw [pLimit, hg]; rfl

theorem pDetailAttr_decoded {kvs k r} (h : readDetails kvs k = some r) :
    pDetailAttr (decoded kvs) k = .ok r ∧ DecodesAt kvs k := by
  unfold readDetails at h
  split at h
  · rename_i hl
    cases h
    obtain ⟨hg, hd⟩ := get?_decoded_none hl
    exact ⟨by rw [pDetailAttr, hg], hd⟩
  · rename_i ds hl
    simp only [Option.ite_none_right_eq_some, Bool.and_eq_true] at h
    obtain ⟨⟨hn, ht⟩, hm⟩ := h
    obtain ⟨hg, hd⟩ := dict_decoded hl hn ht hm fun v s hs => ⟨_, decode_of_readScalar hs⟩
    refine ⟨?_, hd⟩
    rw [pDetailAttr, hg]
    show (ds.map _).mapM _ = _
    rw [List.mapM_map]
    have := mapM_some_imp (g := detailScalar ∘ fun kv : String × JVal => (kv.1, decP kv.2)) (k := id)
      (fun a b hb => by
        obtain ⟨s, hs, rfl⟩ := Option.map_eq_some_iff.mp hb
        show detailScalar (a.1, decP a.2) = _
        rw [decP_of_ok (decode_of_readScalar hs), detailScalar, scalar?_scalarP hs]; rfl) hm
    rwa [List.map_id] at this
  · cases h

theorem readCells_arr {kvs l} (h : readCells kvs = some l) :
    ∃ cs, jLookup kvs "cells" = some (.arr cs) ∧ cs.mapM readCell = some l := by
  unfold readCells at h
  split at h
  · exact ⟨_, by assumption, h⟩
  · cases h

theorem pCells_decoded {kvs l} (md : JMeta) (h : readCells kvs = some l) :
    pCells (decoded kvs) md = .ok (.list (l.map fun c => .cell { c with md := md })) ∧
      DecodesAt kvs "cells" := by
  obtain ⟨cs, hl, hm⟩ := readCells_arr h
  have hdec : decode (.arr cs) = .ok (.list (l.map PVal.cell)) := by
    rw [decode_arr, decodeList_eq_mapM, mapM_some_imp (fun _ _ => decode_readCell) hm]; rfl
  obtain ⟨hg, hd⟩ := get?_decoded_some hl hdec
  refine ⟨?_, hd⟩
  rw [pCells, hg]
  simp only [mapM_map_pure (replaceMeta md) PVal.cell (fun c => PVal.cell { c with md := md }) l fun _ _ => rfl]
  rfl

/-- **a slice object of the documented shape**: the hook turns it into its cells, each carrying
the slice's metadata -/
theorem decode_readSlice {v cs} (h : readSlice v = some cs) :
    decode v = .ok (.list (cs.map .cell)) := by
  cases v with
  | obj kvs =>
    simp only [readSlice, Option.ite_none_right_eq_some, Option.bind_eq_some_iff, Option.map_eq_some_iff,
      Bool.and_eq_true] at h
    obtain ⟨⟨hn, hk⟩, rb, hrb, co, hco, cu, hcu, re, hre, ld, hld, lim, hlim, det, hdet, ldet, hldet, l, hcells,
      rfl⟩ := h
    have p1 := pStrAttr_decoded hrb
    have p2 := pStrAttr_decoded hco
    have p3 := pStrAttr_decoded hcu
    have p4 := pStrAttr_decoded hre
    have p5 := pStrAttr_decoded hld
    have p6 := pLimit_decoded hlim
    have p7 := pDetailAttr_decoded hdet
    have p8 := pDetailAttr_decoded hldet
    have p9 := pCells_decoded (⟨rb, co, cu, re, ld, lim, det, ldet⟩ : JMeta) hcells
    rw [decode_obj_keyed hn hk (by
      simp only [sliceKeys, List.mem_cons, List.mem_nil_iff, or_false, forall_eq_or_imp, forall_eq]
      exact ⟨p3.2, p2.2, p1.2, p4.2, p5.2, p6.2, p7.2, p8.2, p9.2⟩)]
    obtain ⟨cs', hl, _⟩ := readCells_arr hcells
    rw [objectHook_cellSet _ (not_contains_decoded hk (by decide)) (contains_decoded_of_lookup hl)]
    unfold parseCellSet
    rw [p1.1, p2.1, p3.1, p4.1, p5.1, p6.1, p7.1, p8.1]
    simp only [Except.bind]
    rw [p9.1, List.map_map]
    rfl
  | _ => simp [readSlice] at h

theorem foldlM_append_lists : ∀ (lss : List (List JCell)) (acc : List PVal),
    (lss.map fun cs => PVal.list (cs.map PVal.cell)).foldlM appendList acc =
      (Except.ok (acc ++ (lss.flatten.map PVal.cell)) : Except Err _)
  | [], acc => by simp [pure, Except.pure]
  | cs :: rest, acc => by
    rw [List.map_cons, List.foldlM_cons]
    rw [show appendList acc (.list (cs.map PVal.cell)) = .ok (acc ++ cs.map PVal.cell) from rfl, ok_bind,
      foldlM_append_lists rest]
    simp

theorem mapM_cell_some (cells : List JCell) :
    (cells.map PVal.cell).mapM PVal.cell? = some cells :=
  mapM_map_pure_self PVal.cell? PVal.cell cells fun _ _ => rfl

/-- the property `C07.fromDict_plain` -/
theorem fromDict_plain (j : JVal) (cells : List JCell) (h : plainRead j = some cells) :
    fromDict j = ofJCells cells := by
  obtain ⟨ss, lss, rfl, hm, rfl⟩ := plainRead_inv h
  rw [fromDict, decode_obj, decodeKvs, decode_arr, decodeList_eq_mapM,
    mapM_some_imp (fun _ _ => decode_readSlice) hm, decodeKvs]
  show (objectHook (mkDict [("slices", .list _)])).bind triangleOf = _
  rw [mkDict_of_nodup _ rfl, objectHook_slices _ rfl]
  show ((List.foldlM appendList [] _).map PVal.list).bind triangleOf = _
  rw [foldlM_append_lists lss []]
  show triangleOf (.list (lss.flatten.map PVal.cell)) = _
  rw [triangleOf, mapM_cell_some]

end Bermuda.JsonIO
