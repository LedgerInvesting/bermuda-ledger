/-
The helpers of `Model/Ops.lean`: what comes out of `pySliceStep`, `lastBy?`, a slice, the rows of `right_edge` is a
member of what went in, and the runner as a fold.
-/
import Bermuda.Model.Ops
import Bermuda.Lemmas.Triangle
import Bermuda.Lemmas.GroupByFacts
namespace Bermuda

theorem mem_of_mem_pySliceStep {α} {l : List α} {i j : Option Int} {k : Int} {a : α}
    (h : a ∈ pySliceStep l i j k) : a ∈ l := by
  obtain ⟨idx, _, hget⟩ := List.mem_filterMap.mp h
  exact List.mem_of_getElem? hget

theorem mem_of_lastBy? {α} {le : α → α → Bool} {l : List α} {a : α}
    (h : lastBy? le l = some a) : a ∈ l := by
  unfold lastBy? at h
  exact (List.mergeSort_perm l le).mem_iff.mp (List.mem_of_getLast? h)

theorem lastBy?_max {α : Type} {cmp : α → α → Ordering} [Std.TransCmp cmp] {l : List α} {a : α}
    (h : lastBy? (leOf cmp) l = some a) : a ∈ l ∧ ∀ x ∈ l, leOf cmp x a = true :=
  ⟨mem_of_lastBy? h, fun x hx =>
    (getLast?_max (sorted_mergeSort (cmp := cmp) l) h x ((List.mergeSort_perm l _).mem_iff.mpr hx)).elim id
      fun e => e ▸ leOf_refl (cmp := cmp) x⟩

theorem lastBy?_eq_none_iff {α} {le : α → α → Bool} {l : List α} : lastBy? le l = none ↔ l = [] := by
  rw [lastBy?, List.getLast?_eq_none_iff]
  exact ⟨fun h => List.eq_nil_of_length_eq_zero (by rw [← List.length_mergeSort (le := le), h]; rfl),
    fun h => by rw [h, List.mergeSort_nil]⟩

theorem lastBy?_isSome {α} (le : α → α → Bool) {l : List α} (hl : l ≠ []) : ∃ c, lastBy? le l = some c :=
  Option.ne_none_iff_exists'.mp fun h => hl (lastBy?_eq_none_iff.mp h)

theorem mem_of_mem_slices {t : List Cell} {p : Metadata × List Cell} {c : Cell}
    (hp : p ∈ Triangle.slices t) (hc : c ∈ p.2) : c ∈ t := by
  unfold Triangle.slices at hp
  obtain ⟨m, _, rfl⟩ := List.mem_map.mp hp
  exact (List.mem_filter.mp ((List.mergeSort_perm _ _).mem_iff.mp hc)).1

theorem mem_rightEdge_rows {t : List Cell} {c : Cell}
    (hc : c ∈ (Triangle.slices t).flatMap (fun p =>
      (groupBy (fun c : Cell => (c.ps, c.pe)) p.2).filterMap fun q =>
        lastBy? (fun a b => Date.cmp a.ev b.ev != .gt) q.2)) : c ∈ t := by
  obtain ⟨p, hp, hc⟩ := List.mem_flatMap.mp hc
  obtain ⟨q, hq, hlast⟩ := List.mem_filterMap.mp hc
  exact mem_of_mem_slices hp (mem_of_mem_groupBy hq (mem_of_lastBy? hlast))

theorem run_eq_foldlM (t : List Cell) (ops : List Op) : run t ops = ops.foldlM step t :=
  eq_foldlM_of_rec (fun _ => rfl) (fun t op _ => by rw [run]; cases step t op <;> rfl) t ops

end Bermuda
