/-
C14, wide table of a cumulative triangle: `fromWideRows (toWideRows t) = t` up to the numeric comparison of
`Spec/C14.lean` (`fromWide_toWide`). A written row carries its cell (`RowCtx.rowOf`); on a strictly sorted triangle
`groupBy` returns exactly the cells' blocks; in one block read back the scenario sort is the identity and the samples
come back in order (`wideGroupCell_block`); the constructor leaves the order alone.
-/
import Bermuda.Lemmas.FrameTable
import Bermuda.Lemmas.GroupByFacts
namespace Bermuda.Frame
open Bermuda Bermuda.Spec.C14

theorem cellWideRows_ok {c : Cell} {N F : List String} {n : Nat} (h : CellOK c F n) :
    cellWideRows c N F = .ok ((List.range n).map fun i => wideRow c N (i, fieldDictPure c F i)) := by
  unfold cellWideRows
  rw [cleanFieldDicts_ok h]
  simp only [Except.map]
  rw [zip_range_map, List.map_map]
  rfl

theorem get?_numMap (fd : Dict Rat) (k : String) :
    Dict.get? (fd.map fun kv => (kv.1, MVal.num kv.2)) k = (Dict.get? fd k).map MVal.num :=
  Assoc.get?_map_snd MVal.num fd k

/-- what the lemmas about one written row of cell `c` need: `N` the metadata columns of the table
(duplicate-free, among the six attributes and `D`, holding every name with a non-`None` entry in `c.md`), `fd` the
row's field entries (distinct keys, among the fields `F`) -/
structure RowCtx (c : Cell) (N F D L : List String) (fd : Dict Rat) : Prop where
  nN : N.Nodup
  nsub : ∀ n ∈ N, n ∈ sixNames ∨ n ∈ D
  nfull : ∀ k, k ∈ sixNames ∨ k ∈ D → k ∉ N → Row.col (flatDict c.md) k = MVal.none
  fdn : (Dict.keys fd).Nodup
  fdsub : ∀ f ∈ Dict.keys fd, f ∈ F
  names : NamesOK D L F

namespace RowCtx
variable {c : Cell} {N F D L : List String} {fd : Dict Rat} (h : RowCtx c N F D L fd) (i : Nat)
include h

theorem notN_of_field {k : String}
    (hk : k ∈ F ∨ k ∈ ["period_start", "period_end", "evaluation_date", "prev_evaluation_date", "scenario"]) :
    k ∉ N := fun hn =>
  have ⟨hsp, hF⟩ := h.names.not_special (h.nsub k hn)
  hk.elim hF hsp

theorem get?_wideRow (k : String) :
    Dict.get? (wideRow c N (i, fd)) k =
      (if k ∈ N then some (Row.col (flatDict c.md) k) else none).or
        (((Dict.get? fd k).map MVal.num).or
          (Dict.get? (baseDict c ++ [("scenario", MVal.num ((i : Nat) + 1 : Nat))]) k)) := by
  have hwf : Dict.WF (fd.map fun kv => (kv.1, MVal.num kv.2)) := by
    rw [Dict.WF, Dict.keys_map_val fun kv => MVal.num kv.2]
    exact h.fdn
  unfold wideRow
  rw [Dict.get?_union _ _ (metadataDict_wf c h.nN), get?_metadataDict, Dict.get?_union _ _ hwf, get?_numMap]

theorem rowOf {E : Row → Row} (hE : KeepsOthers E) : RowOf (· ∈ D) c (E (wideRow c N (i, fd))) where
  coord := fun k hk => by
    have hne : k ≠ "scenario" := by rintro rfl; simp at hk
    have hk' := List.mem_append_left ["scenario"] hk
    rw [hE _ _ hne, h.get?_wideRow i, if_neg (h.notN_of_field (Or.inr hk')),
      Dict.get?_eq_none_iff.mpr fun hm => h.names.fcore k (h.fdsub k hm) (List.mem_append_left _ hk'), Dict.get?_append_or,
      show Dict.get? [("scenario", MVal.num ((i : Nat) + 1 : Nat))] k = none by
        rw [Dict.get?_cons, beq_false_of_ne (Ne.symm hne)]; rfl]
    simp
  md := fun k hk => by
    obtain ⟨hsp, hF⟩ := h.names.not_special hk
    rw [Row.col_congr (hE _ _ fun he => hsp (he ▸ by simp))]
    by_cases hn : k ∈ N
    · exact Row.col_of_get? (by rw [h.get?_wideRow i, if_pos hn]; rfl)
    · rw [h.nfull k hk hn]
      refine Row.col_of_get?_none ?_
      rw [h.get?_wideRow i, if_neg hn, Dict.get?_eq_none_iff.mpr fun hm => hF (h.fdsub k hm),
        Dict.get?_eq_none_iff.mpr fun hm => hsp (baseScenario_keys hm)]
      rfl

theorem num_field {E : Row → Row} (hE : KeepsOthers E) {f : String} (hf : f ∈ F) :
    mvalNum? (Row.col (E (wideRow c N (i, fd))) f) = Dict.get? fd f := by
  have hcore := h.names.fcore f hf
  unfold Row.col
  rw [hE _ _ (not_core_ne_scenario hcore), h.get?_wideRow i, if_neg (h.notN_of_field (Or.inl hf)),
    Dict.get?_eq_none_iff.mpr fun hm => hcore (List.mem_append_left _ (baseScenario_keys hm))]
  cases Dict.get? fd f <;> rfl

theorem scenario : Row.col (wideRow c N (i, fd)) "scenario" = MVal.num ((i + 1 : Nat) : Rat) := by
  refine Row.col_of_get? ?_
  rw [h.get?_wideRow i, if_neg (h.notN_of_field (Or.inr (by simp))),
    Dict.get?_eq_none_iff.mpr fun hm => h.names.fcore _ (h.fdsub _ hm) (by decide), Dict.get?_append_or,
    Dict.get?_eq_none_iff.mpr fun hm => absurd (baseDict_keys hm) (by decide)]
  rfl

end RowCtx

theorem mem_keys_wideRow (c : Cell) (N : List String) (i : Nat) (fd : Dict Rat) {k : String} (hcore : k ∉ coreSet) :
    k ∈ Dict.keys (wideRow c N (i, fd)) ↔ k ∈ N ∨ k ∈ Dict.keys fd := by
  unfold wideRow
  rw [Dict.mem_keys_union, Dict.mem_keys_union, Dict.keys_map_val fun kv => MVal.num kv.2, keys_metadataDict]
  have h1 : k ∉ Dict.keys (baseDict c ++ [("scenario", MVal.num ((i : Nat) + 1 : Nat))]) := by
    intro hm
    apply hcore
    have := baseScenario_keys hm
    simp only [List.mem_cons, List.not_mem_nil, or_false] at this
    rcases this with rfl | rfl | rfl | rfl | rfl <;> decide
  constructor
  · rintro ((hm | hm) | hm)
    · exact absurd hm h1
    · exact Or.inr hm
    · exact Or.inl hm
  · exact fun hn => hn.elim Or.inr fun hm => Or.inl (Or.inr hm)

def reconField (c : Cell) (f : String) : Option (String × Val) :=
  ((Dict.get? c.values f).bind valData).map fun data => (f, reconVal data)

theorem pureEntry_fst (c : Cell) (i : Nat) (f : String) (p : String × Rat) (h : pureEntry c i f = some p) :
    p.1 = f := by
  obtain ⟨q, _, rfl⟩ := Option.map_eq_some_iff.mp h
  rfl

theorem get?_fieldDictPure (c : Cell) (F : List String) (i : Nat) {f : String} (hf : f ∈ F) :
    Dict.get? (fieldDictPure c F i) f = (Dict.get? c.values f).bind fun v => (valData v).bind (·[i]?) :=
  (Assoc.get?_filterMap_key F _ f).trans (if_pos hf)

theorem keys_fieldDictPure (c : Cell) (F : List String) (i : Nat) :
    (Dict.keys (fieldDictPure c F i)).Sublist F :=
  filterMap_keys_sublist fun f _ => pureEntry_fst c i f

theorem assembleField_two (f : String) (es : List (Option Rat)) (h : 2 ≤ es.length) :
    assembleField f es = if es.all Option.isNone then .ok none
      else if es.all Option.isSome then .ok (some (f, Val.arr false [es.length] (es.filterMap id)))
      else .error .typeError := by
  match es, h with
  | a :: b :: rest, _ => rfl

theorem assembleField_none (f : String) {n : Nat} (hn : 1 ≤ n) :
    assembleField f (List.replicate n none) = .ok none := by
  match n, hn with
  | 1, _ => rfl
  | k + 2, _ => rw [assembleField_two f _ (by simp), if_pos (by simp)]

theorem assembleField_some (f : String) {data : List Rat} (hne : data ≠ []) :
    assembleField f (data.map some) = .ok (some (f, reconVal data)) := by
  match data, hne with
  | [q], _ => rfl
  | a :: b :: rest, _ =>
    have hmap : ((a :: b :: rest).map some).filterMap id = a :: b :: rest := by
      rw [List.filterMap_map]
      exact List.filterMap_some
    rw [assembleField_two f _ (by simp), if_neg (by simp), if_pos (by simp), hmap, List.length_map]
    rfl

theorem groupFieldVal_block {c : Cell} {F : List String} {n : Nat} (h : CellOK c F n)
    (g : List Row) (f : String) (hf : f ∈ F) (hlen : g.length = n)
    (hcol : ∀ i (hi : i < g.length), mvalNum? (Row.col g[i] f) = Dict.get? (fieldDictPure c F i) f) :
    groupFieldVal g f = .ok (reconField c f) := by
  have hes : g.map (fun row => mvalNum? (Row.col row f)) =
      (List.range n).map fun i => (Dict.get? c.values f).bind fun v => (valData v).bind (·[i]?) := by
    apply List.ext_getElem
    · simp [hlen]
    · intro i h1 h2
      simp only [List.getElem_map, List.getElem_range]
      rw [hcol i (by simpa using h1), get?_fieldDictPure c F i hf]
  unfold groupFieldVal reconField
  rw [hes]
  cases hg : Dict.get? c.values f with
  | none =>
    simp only [Option.bind_none, Option.map_none]
    rw [List.map_const', List.length_range]
    exact assembleField_none f h.pos
  | some v =>
    obtain ⟨data, hd, hdl⟩ := h.vals (f, v) (Dict.mem_of_get? hg)
    simp only [Option.bind_some, hd, Option.map_some]
    rw [← hdl, map_getElem?_range]
    exact assembleField_some f (h.data_ne hdl)

/-- the domain of `fromWide_toWide` (wide form, cumulative triangles): a non-empty strictly sorted triangle of
`Cell`s / `CumulativeCell`s, table-safe metadata and column names, every cell all-scalar or
all-sample -/
structure WFwide (t : List Cell) (D L : List String) : Prop where
  ne : t ≠ []
  sorted : t.Pairwise (fun a b => Cell.cmp a b = .lt)
  cum : ∀ c ∈ t, c.kind ≠ .incremental ∧ c.prev = none
  dates : ∀ c ∈ t, c.datesOk = true
  md : ∀ c ∈ t, MdOK c.md D L
  names : NamesOK D L (allFields t)
  cells : ∀ c ∈ t, CellOK c (allFields t) (sampleCount c)

/-- what the row lemmas need of a triangle, cumulative or incremental -/
structure WideTable (t : List Cell) (D L : List String) : Prop where
  ne : t ≠ []
  md : ∀ c ∈ t, MdOK c.md D L
  names : NamesOK D L (allFields t)
  cells : ∀ c ∈ t, CellOK c (allFields t) (sampleCount c)

theorem WFwide.table {t : List Cell} {D L : List String} (h : WFwide t D L) : WideTable t D L :=
  ⟨h.ne, h.md, h.names, h.cells⟩

theorem WideTable.mdName_sub {t : List Cell} {D L : List String} (h : WideTable t D L) {n : String}
    (hn : n ∈ allMetadataNames t) : n ∈ sixNames ∨ n ∈ D := by
  obtain ⟨c, hc, h6 | hd | hl⟩ := allMetadataNames_sub hn
  · exact Or.inl h6
  · exact Or.inr ((h.md c hc).dkeys n hd).1
  · exact Or.inr (h.names.lsub n ((h.md c hc).lkeys n hl))

theorem WideTable.rowCtx {t : List Cell} {D L : List String} (h : WideTable t D L) {c : Cell} (hc : c ∈ t)
    (i : Nat) : RowCtx c (allMetadataNames t) (allFields t) D L (fieldDictPure c (allFields t) i) where
  nN := allMetadataNames_nodup t
  nsub := fun _ hn => h.mdName_sub hn
  nfull := fun _ _ hk => col_flat_of_not_mem hc hk
  fdn := List.Nodup.sublist (keys_fieldDictPure c _ i) (allFields_nodup t)
  fdsub := fun _ hf => (keys_fieldDictPure c _ i).subset hf
  names := h.names

theorem WideTable.rowOf {t : List Cell} {D L : List String} (h : WideTable t D L) {c : Cell} (hc : c ∈ t)
    {E : Row → Row} (hE : KeepsOthers E) (i : Nat) :
    RowOf (· ∈ D) c (E (wideRow c (allMetadataNames t) (i, fieldDictPure c (allFields t) i))) :=
  (h.rowCtx hc i).rowOf i hE

theorem WideTable.rowMetadata_read {t : List Cell} {D L : List String} (h : WideTable t D L) {c : Cell} (hc : c ∈ t)
    {r : Row} (hcol : ∀ k, k ∈ sixNames ∨ k ∈ D → Row.col r k = Row.col (flatDict c.md) k) :
    rowMetadata r D L = c.md := by
  have hm := h.md c hc
  have hn := h.names
  have hD : ∀ k, k ∈ D ∨ k ∈ L → k ∈ D := fun k hk => hk.elim id (hn.lsub k)
  rw [(hm.flatOK hn).rowMetadata_split hn.dsorted hn.lsorted
    (fun k hk => (Dict.mem_keys_append.mp hk).imp (fun hd => (hm.dkeys k hd).1) (hm.lkeys k))
    (fun k hk h6 => (hn.dcore k (hD k hk)).1 (six_core h6)) fun k hk => hcol k (hk.imp_right (hD k)),
    (hm.flatOK hn).splitDetails_self (fun k hk => (hm.dkeys k hk).2) hm.lkeys]

theorem WideTable.reads {t : List Cell} {D L : List String} (h : WideTable t D L) (cols : List String) :
    Reads t (· ∈ D) cols D L id where
  sub := fun k hk => hk.elim id (h.names.lsub k)
  notCoord := fun _ hk hm =>
    (h.names.not_special hk).1 (List.mem_append_left ["prev_evaluation_date", "scenario"] hm)
  md := fun _ hc _ hcol => h.rowMetadata_read hc fun k hk => hcol k (hk.imp_right Or.inl)
  flat := fun _ _ _ _ _ => rfl

def cellKey (c : Cell) (D L : List String) : List MVal :=
  (groupCols "wide_data_frame_to_triangle" D L).map (cellKeyVal c)

/-- The GENERATED key list of the wide reader, as a literal. This and `long_keys` are where the proofs meet the
regenerated table: a change of the `by` lists in `data_frame_input.py` breaks these two first. -/
theorem wide_keys : Generated.FrameKeys.groupByKeys.find? (·.1 == "wide_data_frame_to_triangle") =
    some ("wide_data_frame_to_triangle", ["period_start", "period_end", "evaluation_date", "risk_basis",
      "country", "currency", "reinsurance_basis", "loss_definition", "per_occurrence_limit", "$detail_cols",
      "$loss_detail_cols"]) := by decide +kernel

theorem mem_wideCols {D L : List String} {x : String} :
    x ∈ groupCols "wide_data_frame_to_triangle" D L ↔
      x ∈ ["period_start", "period_end", "evaluation_date"] ∨ x ∈ sixNames ∨ x ∈ D ∨ x ∈ L := by
  rw [mem_groupCols_iff wide_keys]
  simp [mem_expandKey, sixNames, or_assoc]

theorem wideKey_row {t : List Cell} {D L : List String} (h : WideTable t D L) {c : Cell} (hc : c ∈ t) {r : Row}
    (hr : RowOf (· ∈ D) c r) (cols : List String)
    (hcols : ∀ k ∈ ["period_start", "period_end", "evaluation_date"], cols.contains k = true) :
    wideKey cols D L r = cellKey c D L :=
  List.map_congr_left fun _ hk => hr.keyEntry (h.reads cols) hc hcols (mem_wideCols.mp hk)

theorem cellKey_inj {t : List Cell} {D L : List String} (h : WideTable t D L) {a b : Cell} (ha : a ∈ t)
    (hb : b ∈ t) (hk : cellKey a D L = cellKey b D L) :
    a.ps = b.ps ∧ a.pe = b.pe ∧ a.ev = b.ev ∧ a.md = b.md :=
  cellKeyVal_inj (h.reads []) ha hb fun k hk' => List.map_inj_left.mp hk k (mem_wideCols.mpr hk')

def wblock (t : List Cell) (E : Row → Row) (c : Cell) : List Row :=
  (List.range (sampleCount c)).map fun i =>
    E (wideRow c (allMetadataNames t) (i, fieldDictPure c (allFields t) i))

theorem mem_wblocks {t : List Cell} {E : Row → Row} {r : Row} :
    r ∈ (t.map (wblock t E)).flatten ↔ ∃ c ∈ t, ∃ i, i < sampleCount c ∧
      r = E (wideRow c (allMetadataNames t) (i, fieldDictPure c (allFields t) i)) := by
  constructor
  · intro hr
    obtain ⟨b, hb, hrb⟩ := List.mem_flatten.mp hr
    obtain ⟨c, hc, rfl⟩ := List.mem_map.mp hb
    obtain ⟨i, hi, rfl⟩ := List.mem_map.mp hrb
    exact ⟨c, hc, i, List.mem_range.mp hi, rfl⟩
  · rintro ⟨c, hc, i, hi, rfl⟩
    exact List.mem_flatten.mpr ⟨_, List.mem_map_of_mem hc, List.mem_map.mpr ⟨i, List.mem_range.mpr hi, rfl⟩⟩

theorem WideTable.row_mem {t : List Cell} {D L : List String} (h : WideTable t D L) {c : Cell} (hc : c ∈ t)
    (E : Row → Row) :
    E (wideRow c (allMetadataNames t) (0, fieldDictPure c (allFields t) 0)) ∈ (t.map (wblock t E)).flatten :=
  mem_wblocks.mpr ⟨c, hc, 0, (h.cells c hc).pos, rfl⟩

/-- what the reader makes of a cell's rows when it is given the field columns `F`: a `CumulativeCell` with
float values, in the order of `F` -/
def recon (F : List String) (c : Cell) : Cell :=
  { kind := .cumulative, ps := c.ps, pe := c.pe, ev := c.ev, prev := none,
    values := F.filterMap (reconField c), md := c.md }

section block
variable {t : List Cell} {D L : List String} (h : WideTable t D L) {c : Cell} (hc : c ∈ t)
  {E : Row → Row} (hE : KeepsOthers E) (cols : List String)
  (hmode : (E = id ∧ cols.contains "scenario" = true) ∨ sampleCount c = 1)
  {F : List String} (hF : ∀ f ∈ F, f ∈ allFields t)
include h hc hE hmode hF

theorem wideGroupCell_block :
    wideGroupCell cols F D L (wblock t E c) = .ok (recon F c) := by
  have hn := (h.cells c hc).pos
  have hlen : (wblock t E c).length = sampleCount c := by simp [wblock]
  have hsort : sortGroup cols (wblock t E c) = .ok (wblock t E c) := by
    apply sortGroup_sorted
    rcases hmode with ⟨rfl, hsc⟩ | h1
    · exact Or.inr ⟨hsc, pairwise_scenarioLe fun i => (h.rowCtx hc i).scenario i⟩
    · exact Or.inl (by omega)
  unfold wideGroupCell
  rw [hsort]
  simp only [Except.bind]
  obtain ⟨tl, hcons⟩ : ∃ tl, wblock t E c =
      E (wideRow c (allMetadataNames t) (0, fieldDictPure c (allFields t) 0)) :: tl := range_map_pos _ hn
  have hvals : F.mapM (groupFieldVal (wblock t E c)) = .ok (F.map (reconField c)) := by
    apply mapM_ok_of_all
    intro f hf
    apply groupFieldVal_block (h.cells c hc) _ f (hF f hf) hlen
    intro i hi
    have : (wblock t E c)[i] = E (wideRow c (allMetadataNames t) (i, fieldDictPure c (allFields t) i)) := by
      simp [wblock]
    rw [this]
    exact (h.rowCtx hc i).num_field i hE (hF f hf)
  rw [hcons] at hvals ⊢
  simp only [hvals]
  obtain ⟨d1, d2, d3⟩ := (h.rowOf hc hE 0).dates
  rw [d1, d2, d3, (h.rowOf hc hE 0).rowMetadata_read (h.reads cols) hc]
  simp only [mvalDate?, recon, List.filterMap_map]
  rfl

end block

theorem wblock_ne {t : List Cell} {D L : List String} (h : WideTable t D L) {c : Cell} (hc : c ∈ t)
    (E : Row → Row) : wblock t E c ≠ [] := by
  obtain ⟨tl, htl⟩ : ∃ tl, wblock t E c = _ :: tl := range_map_pos _ (h.cells c hc).pos
  rw [htl]
  exact List.cons_ne_nil _ _

theorem wblock_map (t : List Cell) (E : Row → Row) (c : Cell) : (wblock t id c).map E = wblock t E c := by
  simp [wblock, List.map_map, Function.comp_def]

/-- the written table: the blocks of the cells in order, with the `scenario` column either kept
(then it is a column) or dropped (then every cell has one row) -/
theorem toWideRows_ok {t : List Cell} {D L : List String} (h : WideTable t D L) :
    ∃ E : Row → Row, KeepsOthers E ∧
      toWideRows t = .ok (mkTable (t.map (wblock t E)).flatten) ∧
      ((E = id ∧ (colsOf (t.map (wblock t E)).flatten).contains "scenario" = true) ∨
        ∀ c ∈ t, sampleCount c = 1) := by
  obtain ⟨c0, hc0⟩ := List.exists_mem_of_ne_nil _ h.ne
  have key := writeRows_ok (B := wblock t id) (fun c hc => cellWideRows_ok (h.cells c hc)) (h.row_mem hc0 id)
    (mem_keys_of_col (by rw [id, (h.rowCtx hc0 0).scenario 0]; nofun)) fun c hc hne =>
      have h2 : 2 ≤ sampleCount c := by have := (h.cells c hc).pos; omega
      ⟨_, mem_wblocks.mpr ⟨c, hc, 0, by omega, rfl⟩, _, mem_wblocks.mpr ⟨c, hc, 1, h2, rfl⟩, _, _, by simp,
        (h.rowCtx hc 0).scenario 0, (h.rowCtx hc 1).scenario 1⟩
  unfold toWideRows
  simpa only [wblock_map] using key

/-- the fields of a cell read back through any value builder that keeps the numbers -/
theorem numV_filterMap_perm {c : Cell} {F F₀ : List String} {n : Nat} (hok : CellOK c F₀ n) (hF : F.Nodup)
    (hsub : ∀ f ∈ Dict.keys c.values, f ∈ F) (g : List Rat → Val)
    (hg : ∀ data, numV (g data) = numV (.arr false [] data)) :
    ((F.filterMap fun f => ((Dict.get? c.values f).bind valData).map fun data => (f, g data)).map
      fun kv => (kv.1, numV kv.2)).Perm (c.values.map fun kv => (kv.1, numV kv.2)) := by
  refine .trans (.of_eq ?_) ((Dict.filterMap_get?_perm hF hok.nodup hsub).map fun kv => (kv.1, numV kv.2))
  rw [List.map_filterMap, List.map_filterMap]
  refine filterMap_congr' fun f _ => ?_
  cases hgf : Dict.get? c.values f with
  | none => rfl
  | some v =>
    obtain ⟨data, hd, hlen⟩ := hok.vals (f, v) (Dict.mem_of_get? hgf)
    simp only [Option.bind_some, hd, Option.map_some, hg, numV_of_valData hd (hok.data_ne hlen)]

theorem canonCell_recon {t : List Cell} {D L F : List String} (h : WFwide t D L) (hF : F.Perm (allFields t))
    {c : Cell} (hc : c ∈ t) : canonCell (recon F c) = canonCell c :=
  canonCell_eq_of (typedKind_cum (h.cum c hc).1) ⟨rfl, rfl, rfl, (h.cum c hc).2.symm⟩
    (numV_filterMap_perm (h.cells c hc) (hF.nodup_iff.mpr (allFields_nodup t))
      (fun _ hf => hF.mem_iff.mpr (mem_allFields.mpr ⟨c, hc, hf⟩)) reconVal numV_reconVal) (h.cells c hc).nodup

theorem cellKey_nodup {t : List Cell} {D L : List String} (h : WFwide t D L) :
    (t.map fun c => cellKey c D L).Nodup := by
  unfold List.Nodup
  rw [List.pairwise_map]
  refine h.sorted.imp_of_mem fun {a b} ha hb hlt hk => ?_
  obtain ⟨e1, e2, e3, e4⟩ := cellKey_inj h.table ha hb hk
  have : Cell.cmp a b = .eq := by
    rw [Cell.cmp_eq_eq (h.md a ha).canon (h.md b hb).canon]
    exact Cell.coord_eq_iff.mpr ⟨e4, e1, e2, e3, (h.cum a ha).2.trans (h.cum b hb).2.symm⟩
  rw [this] at hlt
  cases hlt

theorem fromWide_toWide_eq {t : List Cell} {D L F : List String} (h : WFwide t D L) (hF : F.Perm (allFields t)) :
    ((toWideRows t).bind fun tb => fromWideRows tb F D L) = Triangle.ofCells (t.map (recon F)) := by
  obtain ⟨E, hE, hw, hmode⟩ := toWideRows_ok h.table
  rw [hw]
  simp only [Except.bind]
  unfold fromWideRows
  obtain ⟨c0, hc0⟩ := List.exists_mem_of_ne_nil _ h.ne
  have hcols := (h.table.rowOf hc0 hE 0).coord_cols (h.table.row_mem hc0 E)
  rw [mkTable_cols, noprev_col fun r hr => by
    obtain ⟨c, hc, i, _, rfl⟩ := mem_wblocks.mp hr
    exact ⟨c, h.table.rowOf hc hE i, (h.cum c hc).2⟩]
  simp only [Bool.false_eq_true, if_false]
  unfold fromWideCum
  -- the groups are the blocks
  have hgroups : groupBy (wideKey (mkTable (t.map (wblock t E)).flatten).cols D L)
      (mkTable (t.map (wblock t E)).flatten).rows = t.map fun c => (cellKey c D L, wblock t E c) := by
    have hflat : (mkTable (t.map (wblock t E)).flatten).rows =
        ((t.map fun c => (cellKey c D L, wblock t E c)).map (·.2)).flatten := by
      rw [mkTable_rows, List.map_map]
      rfl
    rw [hflat]
    apply GroupL.groupBy_blocks
    · simpa [List.map_map, Function.comp_def] using cellKey_nodup h
    · intro b hb
      obtain ⟨c, hc, rfl⟩ := List.mem_map.mp hb
      exact wblock_ne h.table hc E
    · intro b hb r hr
      obtain ⟨c, hc, rfl⟩ := List.mem_map.mp hb
      obtain ⟨i, _, rfl⟩ := List.mem_map.mp hr
      exact wideKey_row h.table hc (h.table.rowOf hc hE i) _ hcols
  rw [hgroups]
  have hcells : (t.map fun c => (cellKey c D L, wblock t E c)).mapM
      (wideGroupToCell (mkTable (t.map (wblock t E)).flatten).cols F D L) = .ok (t.map (recon F)) := by
    rw [List.mapM_map]
    apply mapM_ok_of_all
    intro c hc
    unfold wideGroupToCell
    simp only [Function.comp]
    rw [wideGroupCell_block h.table hc hE (mkTable (t.map (wblock t E)).flatten).cols
      (hmode.imp_right fun h2 => h2 c hc) fun f hf => hF.mem_iff.mp hf]
    simp only [Except.bind]
    exact Cell.mk?_of_datesOk (datesOk_cumulative (h.dates c hc) ⟨rfl, rfl, rfl, rfl, rfl⟩)
  rw [hcells]
  rfl

/-- the order of `F'` only decides the order of the values inside each cell, which the comparison does not look at -/
theorem fromWide_toWide_fieldsPerm {t : List Cell} {D L F' : List String} (h : WFwide t D L)
    (hp : F'.Perm (allFields t)) :
    okAnd (fun out => wideSpec t out && slicesSpec false t out)
      ((toWideRows t).bind fun tb => fromWideRows tb F' D L) = true := by
  rw [fromWide_toWide_eq h hp]
  exact wideSpec_map h.sorted (k := .cumulative) (fun _ _ => rfl) fun c hc => canonCell_recon h hp hc

/-- **fromWide_toWide** (cumulative triangles). Writing a well-formed triangle to the wide table
and reading the table back — grouping the rows by the GENERATED key list — gives the triangle
itself: same coordinates, same slice metadata, same field sets, numbers as floats, sample order
kept; every slice stays separate. -/
theorem fromWide_toWide {t : List Cell} {D L : List String} (h : WFwide t D L) :
    okAnd (fun out => wideSpec t out && slicesSpec false t out)
      ((toWideRows t).bind fun tb => fromWideRows tb (allFields t) D L) = true :=
  fromWide_toWide_fieldsPerm h (.refl _)

end Bermuda.Frame
