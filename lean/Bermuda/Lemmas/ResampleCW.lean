/-
The centre/width restatement of the maximum-entropy quantile function (`Spec/C17.lean`, `cw*`) equals the model's
`meQuantile` on draws in `[0, 1)`; the two Spec clauses built on it hold on the model's replicate.
-/
import Bermuda.Lemmas.ResampleMESpec
import Mathlib.Data.Rat.Floor
namespace Bermuda.Resample
open Bermuda.Spec.C17

theorem cwCentre_eq {sx : List Rat} {i : Nat} (hi : i < sx.length) : cwCentre sx i = meanAt sx i := by
  rcases first_mid_last hi with rfl | ⟨h0, h1⟩ | ⟨h0, h1⟩
  · rw [meanAt_zero, cwCentre, if_pos rfl]; ring
  · obtain ⟨k, rfl⟩ : ∃ k, i = k + 1 := ⟨i - 1, by omega⟩
    rw [meanAt_mid h1, cwCentre, if_neg (Nat.succ_ne_zero k), if_neg (Nat.ne_of_lt h1), Nat.add_sub_cancel]; ring
  · obtain ⟨k, rfl⟩ : ∃ k, i = k + 1 := ⟨i - 1, by omega⟩
    rw [meanAt_last h1, cwCentre, if_neg (Nat.succ_ne_zero k), if_pos h1, Nat.add_sub_cancel]; ring

theorem cwWidth_eq {sx : List Rat} (lo hi : Rat) {i : Nat} (hi' : i < sx.length) :
    cwWidth sx lo hi i = zAt sx lo hi (i + 1) - zAt sx lo hi i := by
  have left : (if i = 0 then lo else (sx.getD (i - 1) 0 + sx.getD i 0) / 2) = zAt sx lo hi i := by
    rw [zAt, if_neg (Nat.not_le.mpr hi')]
  have right : (if i + 1 = sx.length then hi else (sx.getD i 0 + sx.getD (i + 1) 0) / 2) =
      zAt sx lo hi (i + 1) := by
    split
    · rename_i h; rw [h, zAt_last (by omega)]
    · rw [zAt_succ (by omega)]
  rw [cwWidth, left, right]

/-- the cell interval of the code, `[z_i + shift_i, z_{i+1} + shift_i]`, is `centre ± width/2` -/
theorem cw_interval {sx : List Rat} (lo hi : Rat) {i : Nat} (hi' : i < sx.length) :
    y0At sx lo hi i = cwCentre sx i - cwWidth sx lo hi i / 2 ∧
    y1At sx lo hi i = cwCentre sx i + cwWidth sx lo hi i / 2 := by
  rw [cwCentre_eq hi', cwWidth_eq lo hi hi']
  simp only [y0At, y1At, shiftAt]
  constructor <;> ring

theorem grid_frac_eq {n : Nat} (hn : 0 < n) (i : Nat) (u : Rat) : (u - xrAt n i) * n = u * n - i := by
  rw [xrAt, sub_mul, div_mul_cancel₀ _ (Nat.cast_ne_zero.mpr (Nat.pos_iff_ne_zero.mp hn))]

theorem cwCell_eq {n i : Nat} (hn : 0 < n) {u : Rat} (hl : xrAt n i ≤ u) (hu : u < xrAt n (i + 1)) :
    cwCell n u = i := by
  obtain ⟨t0, t1⟩ := grid_frac_range hn hl hu
  rw [grid_frac_eq hn] at t0 t1
  have : ⌊u * (n : Rat)⌋ = (i : Int) := Int.floor_eq_iff.mpr ⟨by push_cast; linarith, by push_cast; linarith⟩
  rw [cwCell, show (u * (n : Rat)).floor = ⌊u * (n : Rat)⌋ from rfl, this, Int.toNat_natCast]

theorem quantileOn_eq_cw {sx : List Rat} (lo hi : Rat) {i : Nat} {u : Rat}
    (hi' : i < sx.length) (hl : xrAt sx.length i ≤ u) (hu : u < xrAt sx.length (i + 1)) :
    quantileOn sx lo hi i u = cwValue sx lo hi u := by
  have hn : 0 < sx.length := Nat.zero_lt_of_lt hi'
  obtain ⟨a, b⟩ := cw_interval lo hi hi'
  rw [quantileOn_eq, a, b, grid_frac_eq hn]
  simp only [cwValue, cwCell_eq hn hl hu]
  ring

theorem meQuantile_eq_cw {sx : List Rat} (lo hi : Rat) (hn : 0 < sx.length) {u : Rat} (h0 : 0 ≤ u)
    (h1 : u < 1) : meQuantile sx lo hi u = .ok (cwValue sx lo hi u) := by
  obtain ⟨i, hi', hl, hu, e⟩ := meQuantile_unit (sx := sx) lo hi hn h0 h1
  rw [e, quantileOn_eq_cw lo hi hi' hl hu]

theorem meQuantiles_eq_cw {xs U qs : List Rat} {L : Option (Rat × Rat)} (h : meQuantiles xs U L = .ok qs)
    (hn : 0 < xs.length) (hU : ∀ u ∈ U, 0 ≤ u ∧ u < 1) :
    qs = ((sortQ U).take xs.length).map (cwValue (sortQ xs) (meLimits xs L).1 (meLimits xs L).2) := by
  refine (List.map_id _).symm.trans (forall₂_map_eq (g := id) (forall₂_imp_mem (meQuantiles_spec h).2 ?_))
  intro u hu q hq
  obtain ⟨u0, u1⟩ := hU u (mem_take_sortQ hu)
  rw [meQuantile_eq_cw _ _ (sortQ_length xs ▸ hn) u0 u1] at hq
  exact (Except.ok.inj hq).symm

variable {xs U qs : List Rat} {L : Option (Rat × Rat)} {tol : Rat}

theorem meValueCWOk_model (h : meQuantiles xs U L = .ok qs) (ht : 0 ≤ tol) :
    meValueCWOk xs U L tol (reimposeRank xs qs) = true := by
  unfold meValueCWOk
  split
  · rename_i ha
    simp only [meCWApplies, Bool.and_eq_true, decide_eq_true_eq, List.all_eq_true] at ha
    dsimp only
    rw [sortQ_congr (reimposeRank_perm' (meQuantiles_spec h).1), ← meQuantiles_eq_cw h (by omega) ha.2]
    exact closeLists_refl ht _
  · rfl

theorem between_abs {c w q tol : Rat} (ht : 0 ≤ tol)
    (h : (c - w / 2 ≤ q ∧ q ≤ c + w / 2) ∨ (c + w / 2 ≤ q ∧ q ≤ c - w / 2)) :
    c - (if w < 0 then -w else w) / 2 - tol ≤ q ∧ q ≤ c + (if w < 0 then -w else w) / 2 + tol := by
  have key : ∀ {v : Rat}, 0 ≤ v → (c - v / 2 ≤ q ∧ q ≤ c + v / 2) ∨ (c + v / 2 ≤ q ∧ q ≤ c - v / 2) →
      c - v / 2 - tol ≤ q ∧ q ≤ c + v / 2 + tol := by
    rintro v hv (⟨a, b⟩ | ⟨a, b⟩)
    · exact ⟨(sub_le_self _ ht).trans a, b.trans (le_add_of_nonneg_right ht)⟩
    · have hv2 : 0 ≤ v / 2 := div_nonneg hv zero_le_two
      have hcv : c - v / 2 ≤ c + v / 2 := (sub_le_self _ hv2).trans (le_add_of_nonneg_right hv2)
      exact ⟨(sub_le_self _ ht).trans (hcv.trans a), (b.trans hcv).trans (le_add_of_nonneg_right ht)⟩
  split
  · rename_i hw
    exact key (neg_nonneg.mpr hw.le) (by rw [neg_div, sub_neg_eq_add, ← sub_eq_add_neg]; exact h.symm)
  · exact key (not_lt.mp ‹_›) h

theorem meIntervalsCWOk_model (h : meQuantiles xs U L = .ok qs) (hU : ∀ u ∈ U, 0 ≤ u ∧ u < 1) (ht : 0 ≤ tol) :
    meIntervalsCWOk xs L tol (reimposeRank xs qs) = true := by
  unfold meIntervalsCWOk
  split
  · rename_i h2
    have h2' : 2 ≤ xs.length := of_decide_eq_true h2
    simp only [List.all_eq_true, List.any_eq_true, List.mem_map, List.mem_range, Bool.and_eq_true,
      decide_eq_true_eq]
    intro q hq
    obtain ⟨i, hi, hb⟩ := meQuantiles_interval h (by omega) hU q ((mem_reimposeRank h).mp hq)
    obtain ⟨a, b⟩ := cw_interval (sx := sortQ xs) (meLimits xs L).1 (meLimits xs L).2 (sortQ_length xs ▸ hi)
    rw [a, b] at hb
    exact ⟨_, ⟨i, hi, rfl⟩, between_abs ht hb⟩
  · rfl

end Bermuda.Resample
