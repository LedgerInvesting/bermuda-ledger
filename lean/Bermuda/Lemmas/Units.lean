/-
Helper lemmas shared by the four utilities of C18 (Model/Units.lean): pointwise relations between lists and between
dicts, `mapM` in `Except`, and the numeric reading of a value dict (`Spec.C18.vdata`, `comp`, `total`; with distinct
keys, through its keys: `look`, `lcomp`).
-/
import Bermuda.Model.Units
import Bermuda.Spec.C18
import Bermuda.Lemmas.ListFacts
import Bermuda.Lemmas.Canonical
import Bermuda.Lemmas.ExceptFacts
import Bermuda.Lemmas.Forall2
import Bermuda.Lemmas.Assoc
import Mathlib.Tactic.Ring
import Mathlib.Tactic.Linarith
import Mathlib.Tactic.FieldSimp
namespace Bermuda.Units
open Bermuda

theorem mem_slices_md {t : List Cell} {sl : Metadata × List Cell} (h : sl ∈ Triangle.slices t)
    {c : Cell} (hc : c ∈ sl.2) : c.md = sl.1 ∧ c ∈ t :=
  ((Triangle.mem_slice_iff h c).mp hc).symm

/-- the relation `List.Forall₂`, under the name the statements of `currency_spec` and `disagg_conserves` are written with -/
inductive Forall2 {α β} (R : α → β → Prop) : List α → List β → Prop
  | nil : Forall2 R [] []
  | cons {a b l₁ l₂} : R a b → Forall2 R l₁ l₂ → Forall2 R (a :: l₁) (b :: l₂)

theorem Forall2.iff_forall₂ {α β} {R : α → β → Prop} {l₁ : List α} {l₂ : List β} :
    Forall2 R l₁ l₂ ↔ List.Forall₂ R l₁ l₂ :=
  ⟨fun h => by induction h with
    | nil => exact .nil
    | cons hr _ ih => exact .cons hr ih,
   fun h => by induction h with
    | nil => exact .nil
    | cons hr _ ih => exact .cons hr ih⟩

theorem Forall2.length_eq {α β} {R : α → β → Prop} {l₁ l₂} (h : Forall2 R l₁ l₂) :
    l₁.length = l₂.length := (iff_forall₂.mp h).length_eq

theorem Forall2.imp {α β} {R S : α → β → Prop} {l₁ l₂} (h : Forall2 R l₁ l₂)
    (hi : ∀ a b, a ∈ l₁ → R a b → S a b) : Forall2 S l₁ l₂ :=
  iff_forall₂.mpr (forall₂_imp_mem (iff_forall₂.mp h) fun a ha b => hi a b ha)

theorem Forall2.append {α β} {R : α → β → Prop} {a₁ a₂ b₁ b₂} (h₁ : Forall2 R a₁ b₁)
    (h₂ : Forall2 R a₂ b₂) : Forall2 R (a₁ ++ a₂) (b₁ ++ b₂) := by
  induction h₁ with
  | nil => simpa using h₂
  | cons hr _ ih => exact .cons hr ih

theorem Forall2.flatten {α β} {R : α → β → Prop} {as : List (List α)} {bs : List (List β)}
    (h : Forall2 (Forall2 R) as bs) : Forall2 R as.flatten bs.flatten := by
  induction h with
  | nil => exact .nil
  | cons hr _ ih => simpa using hr.append ih

theorem Forall2.refl_of {α} {R : α → α → Prop} (l : List α) (h : ∀ a ∈ l, R a a) : Forall2 R l l :=
  iff_forall₂.mpr (List.forall₂_same.mpr h)

theorem Forall2.map_left {α β γ} {R : γ → β → Prop} {f : α → γ} {l : List α} {r : List β}
    (h : Forall2 (fun a b => R (f a) b) l r) : Forall2 R (l.map f) r :=
  iff_forall₂.mpr (List.forall₂_map_left_iff.mpr (iff_forall₂.mp h))

theorem Forall2.mem_right {α β} {R : α → β → Prop} {l₁ l₂} (h : Forall2 R l₁ l₂) {b : β}
    (hb : b ∈ l₂) : ∃ a ∈ l₁, R a b := forall₂_mem_right (iff_forall₂.mp h) b hb

theorem Forall2.getElem? {α β} {R : α → β → Prop} {l : List α} {r : List β} (h : Forall2 R l r)
    {k : Nat} {b : β} (hb : r[k]? = some b) : ∃ a, l[k]? = some a ∧ R a b := by
  induction h generalizing k with
  | nil => cases hb
  | cons hab _ ih =>
    cases k with
    | zero => cases hb; exact ⟨_, rfl, hab⟩
    | succ k => exact ih hb

theorem Forall2.map_eq {α β γ} {R : α → β → Prop} {l : List α} {r : List β} (h : Forall2 R l r)
    (f : β → γ) (g : α → γ) (hr : ∀ a b, R a b → f b = g a) : r.map f = l.map g :=
  forall₂_map_eq ((iff_forall₂.mp h).imp hr)

theorem Forall2.filter {α β} {R : α → β → Prop} {p : α → Bool} {q : β → Bool} {l : List α} {r : List β}
    (h : Forall2 R l r) (hpq : ∀ a b, R a b → p a = q b) : Forall2 R (l.filter p) (r.filter q) := by
  induction h with
  | nil => exact .nil
  | @cons a b l r hab _ ih =>
    rw [List.filter_cons, List.filter_cons, hpq a b hab]
    split
    · exact .cons hab ih
    · exact ih

theorem Forall2.of_map {α β} {R : α → β → Prop} {g : α → β} {l : List α} (h : ∀ a ∈ l, R a (g a)) :
    Forall2 R l (l.map g) :=
  iff_forall₂.mpr (List.forall₂_map_right_iff.mpr (List.forall₂_same.mpr h))

theorem forall2_singleton {α β} {R : α → List β → Prop} (l : List α) (f : α → β)
    (h : ∀ a ∈ l, R a [f a]) : Forall2 R l (l.map fun a => [f a]) :=
  .of_map h

theorem flatten_map_singleton {α} (l : List α) : (l.map fun c => [c]).flatten = l := by
  induction l with
  | nil => rfl
  | cons a rest ih => simp [ih]

theorem Forall2.sum_eq {α β} {R : α → β → Prop} {l : List α} {r : List β} (h : Forall2 R l r)
    (φ : β → Rat) (ψ : α → Rat) (hr : ∀ a b, a ∈ l → R a b → φ b = ψ a) :
    (r.map φ).sum = (l.map ψ).sum := by
  induction h with
  | nil => rfl
  | cons hab _ ih =>
    simp only [List.map_cons, List.sum_cons]
    rw [hr _ _ (by simp) hab, ih fun a b ha => hr a b (by simp [ha])]

theorem Forall2.find_key {α β} {Q : (String × α) → (String × β) → Prop}
    {l : List (String × α)} {r : List (String × β)}
    (h : Forall2 (fun a b => b.1 = a.1 ∧ Q a b) l r) (hn : (l.map (·.1)).Nodup)
    {a : String × α} (ha : a ∈ l) : ∃ b, r.find? (·.1 == a.1) = some b ∧ Q a b := by
  induction h with
  | nil => cases ha
  | @cons a0 b0 l' r' hab _ ih =>
    rw [List.map_cons, List.nodup_cons] at hn
    rcases List.mem_cons.mp ha with rfl | ha'
    · exact ⟨b0, by simp [hab.1], hab.2⟩
    · have hne : ¬ a0.1 = a.1 := fun e => hn.1 (by rw [e]; exact List.mem_map.mpr ⟨a, ha', rfl⟩)
      obtain ⟨b, hb, hq⟩ := ih hn.2 ha'
      refine ⟨b, ?_, hq⟩
      rw [List.find?_cons]
      have : (b0.1 == a.1) = false := by rw [hab.1]; simpa using hne
      rw [this]; exact hb

theorem Forall2.keys {kvs kvs' : Dict Val} {Q : (String × Val) → (String × Val) → Prop}
    (h : Forall2 (fun kv kv' => kv'.1 = kv.1 ∧ Q kv kv') kvs kvs') :
    kvs'.map (·.1) = kvs.map (·.1) :=
  h.map_eq _ _ fun _ _ hab => hab.1

theorem mapM_ok_forall2 {α β} {f : α → Except Err β} {l : List α} {r : List β}
    (h : l.mapM f = .ok r) : Forall2 (fun a b => f a = .ok b) l r :=
  Forall2.iff_forall₂.mpr (mapM_ok_forall₂.mp h)

theorem mapM_ok_zip {α β} {f : α → Except Err β} {l : List α} {r : List β}
    (h : l.mapM f = .ok r) : r.length = l.length ∧ ∀ p ∈ l.zip r, f p.1 = .ok p.2 :=
  ⟨mapM_ok_length h, fun p hp => (mapM_ok_iff.mp h).2 p.1 p.2 hp⟩

theorem mapM_ok_fun {α β} [Inhabited β] {f : α → Except Err β} {l : List α} {r : List β}
    (h : l.mapM f = .ok r) :
    r = l.map (fun a => (f a).toOption.getD default) ∧
      ∀ a ∈ l, f a = .ok ((f a).toOption.getD default) :=
  ⟨mapM_ok_eq_map h fun a _ b hb => by rw [hb]; rfl, fun a ha => by
    obtain ⟨b, _, hb⟩ := mapM_ok_mem' h a ha; rw [hb]; rfl⟩

theorem mapM_error_first {α β} {f : α → Except Err β} {l : List α} {e : Err}
    (h : l.mapM f = .error e) : ∃ x ∈ l, f x = .error e := by
  obtain ⟨pre, a, post, rfl, _, ha⟩ := mapM_error_iff.mp h
  exact ⟨a, by simp, ha⟩

@[simp] theorem vdata_none : Spec.C18.vdata .none = [] := rfl
@[simp] theorem vdata_int (k : Int) : Spec.C18.vdata (.int k) = [(k : Rat)] := rfl
@[simp] theorem vdata_flt (q : Rat) : Spec.C18.vdata (.flt q) = [q] := rfl
@[simp] theorem vdata_arr (b : Bool) (sh : List Nat) (d : List Rat) : Spec.C18.vdata (.arr b sh d) = d := rfl
@[simp] theorem comp_none (i : Nat) : Spec.C18.comp .none i = 0 := by cases i <;> rfl
@[simp] theorem comp_int (k : Int) (i : Nat) : Spec.C18.comp (.int k) i = if i = 0 then (k : Rat) else 0 := by
  cases i <;> rfl
@[simp] theorem comp_flt (q : Rat) (i : Nat) : Spec.C18.comp (.flt q) i = if i = 0 then q else 0 := by
  cases i <;> rfl
@[simp] theorem comp_arr (b : Bool) (sh : List Nat) (d : List Rat) (i : Nat) :
    Spec.C18.comp (.arr b sh d) i = (d[i]?).getD 0 := rfl

theorem sameKeys_refl (a : List String) : Spec.C18.sameKeys a a = true := by simp [Spec.C18.sameKeys]

theorem close_zero_self (a : Rat) : Spec.C18.close 0 a a = true := by simp [Spec.C18.close, Spec.C18.rabs]

theorem closeList_refl (l : List Rat) : Spec.C18.closeList 0 l l = true := by
  induction l with
  | nil => rfl
  | cons a l ih => simp [Spec.C18.closeList, close_zero_self, ih]

theorem sum_map_mul_right (l : List Rat) (c : Rat) : (l.map (· * c)).sum = l.sum * c := by
  induction l with
  | nil => simp
  | cons a rest ih => simp only [List.map_cons, List.sum_cons, ih]; ring

theorem sum_map_mul_left (l : List Rat) (c : Rat) : (l.map (c * ·)).sum = c * l.sum := by
  simpa only [mul_comm] using sum_map_mul_right l c

theorem sum_map_div (l : List Rat) (c : Rat) : (l.map (· / c)).sum = l.sum / c := by
  simpa only [div_eq_mul_inv] using sum_map_mul_right l c⁻¹

theorem renorm_sum {ws : List Rat} (h : ws.sum ≠ 0) : (renorm ws).sum = 1 := by
  unfold renorm
  rw [sum_map_div]; exact div_self h

theorem sum_normalised {κ} (raw : List (κ × Rat)) :
    ((raw.map fun x => (x.1, x.2 / (raw.map (·.2)).sum)).map (·.2)).sum =
      (raw.map (·.2)).sum / (raw.map (·.2)).sum := by
  rw [← sum_map_div, List.map_map, List.map_map]
  rfl

theorem sum_zipWith_add : ∀ (a b : List Rat), a.length = b.length →
    (List.zipWith (· + ·) a b).sum = a.sum + b.sum
  | [], [], _ => by simp
  | x :: a, y :: b, h => by
    simp only [List.zipWith_cons_cons, List.sum_cons]
    rw [sum_zipWith_add a b (by simpa using h)]; ring
  | [], _ :: _, h => by simp at h
  | _ :: _, [], h => by simp at h

theorem getElem?_zipWith_add (d d' : List Rat) (h : d.length = d'.length) (i : Nat) :
    ((List.zipWith (· + ·) d d')[i]?).getD 0 = (d[i]?).getD 0 + (d'[i]?).getD 0 := by
  induction d generalizing d' i with
  | nil => cases d' <;> simp at h ⊢
  | cons a rest ih =>
    cases d' with
    | nil => simp at h
    | cons b rest' =>
      cases i with
      | zero => rfl
      | succ k => exact ih rest' (by simpa using h) k

theorem sum_swap {α β} (l : List α) (r : List β) (F : α → β → Rat) :
    (l.map fun a => (r.map fun b => F a b).sum).sum = (r.map fun b => (l.map fun a => F a b).sum).sum := by
  induction l with
  | nil => simp
  | cons a rest ih =>
    simp only [List.map_cons, List.sum_cons, ih, List.sum_map_add]

theorem sum_filterMap_getD {α} (l : List α) (H : α → Option Rat) :
    ((l.filterMap fun a => (H a).map fun b => (a, b)).map (·.2)).sum = (l.map fun a => (H a).getD 0).sum := by
  induction l with
  | nil => simp
  | cons a rest ih =>
    rw [List.filterMap_cons]
    cases hH : H a with
    | none => simp [ih, hH]
    | some b => simp [ih, hH]

theorem sum_indicator_nodup {α} [BEq α] [LawfulBEq α] (l : List α) (hn : l.Nodup) (d : α) (F : α → Rat) :
    (l.map fun a => if a == d then F a else 0).sum = if d ∈ l then F d else 0 := by
  induction l with
  | nil => simp
  | cons a rest ih =>
    rw [List.nodup_cons] at hn
    simp only [List.map_cons, List.sum_cons, ih hn.2, List.mem_cons]
    by_cases h : a = d
    · subst h; simp [hn.1]
    · have h' : (a == d) = false := by simpa using h
      have : ¬ d = a := fun e => h e.symm
      simp [h', this]

theorem sum_getD_range (cw : List Rat) (n : Nat) (h : cw.length ≤ n) :
    ((List.range n).map fun k => (cw[k]?).getD 0).sum = cw.sum := by
  induction cw generalizing n with
  | nil => simp
  | cons a rest ih =>
    cases n with
    | zero => simp at h
    | succ m =>
      rw [List.range_succ_eq_map, List.map_cons, List.map_map, List.sum_cons, List.sum_cons]
      simp only [List.getElem?_cons_zero, Option.getD_some]
      congr 1
      rw [← ih m (by simpa using h)]
      apply congrArg
      apply List.map_congr_left
      intro k _
      simp [Function.comp]

theorem drop_split (l : List Rat) {a b : Nat} (hab : a ≤ b) :
    ((l.take b).drop a).sum + (l.drop b).sum = (l.drop a).sum := by
  rw [← List.sum_take_add_sum_drop (l.drop a) (b - a), List.drop_drop, List.drop_take, Nat.add_sub_cancel' hab]

theorem sum_range_indicator (l : List Rat) (m : Nat) :
    ((List.range l.length).map fun n => l[n]! * (if n < m then 1 else 0)).sum = (l.take m).sum := by
  induction l generalizing m with
  | nil => simp
  | cons a rest ih =>
    rw [List.length_cons, List.range_succ_eq_map, List.map_cons, List.map_map, List.sum_cons]
    cases m with
    | zero => simp [Function.comp_def]
    | succ k =>
      rw [List.take_succ_cons, List.sum_cons, ← ih k]
      simp only [Function.comp_def, Nat.succ_eq_add_one, List.getElem!_cons_zero, List.getElem!_cons_succ,
        Nat.zero_lt_succ, Nat.add_lt_add_iff_right, if_true, mul_one]

/-- every entry is ≥ 0 (unfolds to the hypotheses `∀ x ∈ wp, 0 ≤ x` of the C18 premium theorems) -/
def NN (l : List Rat) : Prop := ∀ x ∈ l, 0 ≤ x

theorem NN.sum {l : List Rat} (h : NN l) : 0 ≤ l.sum := by
  induction l with
  | nil => simp
  | cons a rest ih =>
    simp only [List.sum_cons]
    have := h a (by simp)
    have := ih fun x hx => h x (by simp [hx])
    linarith

theorem NN.sum_pos {l : List Rat} (h : NN l) (hne : l.sum ≠ 0) : 0 < l.sum :=
  lt_of_le_of_ne h.sum (Ne.symm hne)

theorem sum_le_sum {α} (l : List α) (F G : α → Rat) (h : ∀ a ∈ l, F a ≤ G a) :
    (l.map F).sum ≤ (l.map G).sum := by
  induction l with
  | nil => simp
  | cons a rest ih =>
    simp only [List.map_cons, List.sum_cons]
    have := h a (by simp)
    have := ih fun b hb => h b (by simp [hb])
    linarith

theorem sum_nonneg_of {α} (l : List α) (F : α → Rat) (h : ∀ a ∈ l, 0 ≤ F a) : 0 ≤ (l.map F).sum :=
  NN.sum fun x hx => by obtain ⟨a, ha, rfl⟩ := List.mem_map.mp hx; exact h a ha

theorem sum_pos_iff {α} (l : List α) (F : α → Rat) (h : ∀ a ∈ l, 0 ≤ F a) :
    0 < (l.map F).sum ↔ ∃ a ∈ l, 0 < F a := by
  induction l with
  | nil => simp
  | cons a l ih =>
    have h1 := h a (by simp)
    have h2 := sum_nonneg_of l F fun b hb => h b (by simp [hb])
    rw [List.map_cons, List.sum_cons, List.exists_mem_cons_iff, ← ih fun b hb => h b (by simp [hb])]
    constructor
    · intro hpos
      by_contra hn
      rw [not_or, not_lt, not_lt] at hn
      linarith
    · rintro (hpos | hpos) <;> linarith

theorem sum_ne_zero_iff {α} (l : List α) (F : α → Rat) (h : ∀ a ∈ l, 0 ≤ F a) :
    (l.map F).sum ≠ 0 ↔ ∃ a ∈ l, 0 < F a := by
  rw [← sum_pos_iff l F h]
  exact ⟨fun hne => lt_of_le_of_ne (sum_nonneg_of l F h) (Ne.symm hne), ne_of_gt⟩

open Bermuda.Spec.C18

/-- the keys of `d` are distinct -/
def KN (d : Dict Val) : Prop := (d.map (·.1)).Nodup

/-- `Assoc.get?` (`look_eq`), written out with `find?` as the model's `accumulate` has it -/
def look (d : Dict Val) (f : String) : Option Val := (d.find? (·.1 == f)).map (·.2)

/-- component `i` of field `f`, 0 when the field is missing -/
def lcomp (d : Dict Val) (f : String) (i : Nat) : Rat := ((look d f).map (comp · i)).getD 0

theorem look_eq (d : Dict Val) (f : String) : look d f = Assoc.get? d f := rfl

theorem mem_keys_of_look {d : Dict Val} {g : String} {v : Val} (h : look d g = some v) : g ∈ d.map (·.1) :=
  Assoc.mem_keys_of_get? h

/-- filter-sum view of a dict with distinct keys equals the `look` view -/
theorem dsum_eq_lcomp {d : Dict Val} (hk : KN d) (g : String) (i : Nat) :
    ((d.filter (·.1 == g)).map fun kv => comp kv.2 i).sum = lcomp d g i := by
  induction d with
  | nil => simp [lcomp, look]
  | cons p rest ih =>
    unfold KN at hk
    rw [List.map_cons, List.nodup_cons] at hk
    unfold lcomp
    rw [look_eq, Assoc.get?_cons, List.filter_cons]
    by_cases hp : p.1 = g
    · subst hp
      have := ih hk.2
      unfold lcomp at this
      rw [look_eq, Assoc.get?_eq_none_iff.mpr hk.1] at this
      simp only [beq_self_eq_true, if_true, List.map_cons, List.sum_cons, this]
      simp
    · have : (p.1 == g) = false := by simpa using hp
      simp only [this]
      exact ih hk.2

theorem sum_map_perm {α} {l l' : List α} (h : l.Perm l') (φ : α → Rat) :
    (l.map φ).sum = (l'.map φ).sum := (h.map φ).sum_eq

theorem total_perm {l l' : List Cell} (h : l.Perm l') (f : String) (i : Nat) :
    total l f i = total l' f i := sum_map_perm h _

theorem total_nil (g : String) (i : Nat) : total [] g i = 0 := by simp [total]

theorem total_append (a b : List Cell) (g : String) (i : Nat) :
    total (a ++ b) g i = total a g i + total b g i := by
  simp [total]

theorem total_flatMap {α} (l : List α) (f : α → List Cell) (g : String) (i : Nat) :
    total (l.flatMap f) g i = (l.map fun a => total (f a) g i).sum := by
  induction l with
  | nil => rfl
  | cons a rest ih => rw [List.flatMap_cons, total_append, ih, List.map_cons, List.sum_cons]

theorem total_map_values (l : List Cell) (f : Cell → Cell) (hf : ∀ c, (f c).values = c.values)
    (g : String) (i : Nat) : total (l.map f) g i = total l g i := by
  unfold total
  rw [List.map_map]
  apply congrArg
  apply List.map_congr_left
  intro c _
  simp only [Function.comp, cellField, hf]

end Bermuda.Units
