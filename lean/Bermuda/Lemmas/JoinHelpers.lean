/-
Generic helper lemmas for C10 that are NOT statements of the property, in the namespace of `Properties/C10.lean`:
the index of an operand (the last cell at a key), `joinCore` as "filter the coordinate set by the relational set
expression", the `on` reduction, what `join` and `merge` return (`join_closed`, `merge_closed`), the source cell of
`add_statics` and its literal lookup, `pmCell` (the total cell map behind `periodMergeCell`).
-/
import Bermuda.Lemmas.Join
import Bermuda.Properties.C01
namespace Bermuda.Properties.C10
open Bermuda List
open Bermuda.Properties.C01 (ofCells_idem Canonical)

theorem isIncremental_of_consistent {l : List Cell} (h : kindsConsistent l = true) :
    isIncremental l = (!l.isEmpty && l.all (·.kind == .incremental)) := by
  cases l with
  | nil => rfl
  | cons c l =>
    obtain ⟨k, hk⟩ := kindsConsistent_iff.mp h
    simp only [isIncremental, List.isEmpty_cons, Bool.not_false, Bool.true_and, List.all_cons]
    cases hc : c.kind == CellKind.incremental
    · rfl
    · exact (List.all_eq_true.mpr fun d hd => by
        rw [hk d (List.mem_cons_of_mem _ hd), ← hk c List.mem_cons_self]; exact hc).symm

theorem isIncremental_perm {l l' : List Cell} (hp : l.Perm l') (h : kindsConsistent l = true) :
    isIncremental l' = isIncremental l := by
  rw [isIncremental_of_consistent h, isIncremental_of_consistent (kindsConsistent_perm hp ▸ h), hp.isEmpty_eq,
    hp.all_eq]

theorem kindMismatch_self (t : List Cell) : kindMismatch t t = false := by
  cases t <;> simp [kindMismatch]

theorem setExpr_congr {ty : JoinType} {A B A' B' : List Coord} (hA : ∀ k, k ∈ A ↔ k ∈ A')
    (hB : ∀ k, k ∈ B ↔ k ∈ B') (k : Coord) : Spec.setExpr ty A B k = Spec.setExpr ty A' B' k := by
  have h1 : A.contains k = A'.contains k := by
    rw [Bool.eq_iff_iff, List.contains_iff_mem, List.contains_iff_mem]; exact hA k
  have h2 : B.contains k = B'.contains k := by
    rw [Bool.eq_iff_iff, List.contains_iff_mem, List.contains_iff_mem]; exact hB k
  cases ty <;> simp only [Spec.setExpr, h1, h2]

theorem setExpr_mem {ty : JoinType} {A B : List Coord} {k : Coord}
    (h : Spec.setExpr ty A B k = true) : k ∈ A ∨ k ∈ B := by
  cases ty <;> simp only [Spec.setExpr, Bool.or_eq_true, Bool.and_eq_true, List.contains_iff_mem] at h
  -- full, inner, left, right, left_anti, right_anti: the operand that holds `k`
  · exact h
  · exact .inl h.1
  · exact .inl h
  · exact .inr h
  · exact .inl h.1
  · exact .inr h.1

theorem setExpr_self {ty : JoinType} (hty : ty = .full ∨ ty = .inner ∨ ty = .left ∨ ty = .right)
    {K : List Coord} {k : Coord} (hk : k ∈ K) : Spec.setExpr ty K K k = true := by
  rcases hty with rfl | rfl | rfl | rfl <;> simp [Spec.setExpr, hk]

theorem mem_allCoordinates {a b : List Cell} {k : Coord} :
    k ∈ allCoordinates a b ↔
      k ∈ a.map (joinKey (isIncremental a)) ∨ k ∈ b.map (joinKey (isIncremental a)) := by
  unfold allCoordinates
  simp only [mem_dedupJ, List.mem_append]

theorem nodup_allCoordinates (a b : List Cell) : (allCoordinates a b).Nodup := nodup_dedupJ _

/-! ### the index of an operand: the LAST cell at a key (`Spec.cellAtLast`), which is what the dict comprehension
keeps; under distinct keys it is THE cell at the key (`Spec.cellAt`) -/

/-- `{key(c): c for c in t}.get(k)` is the last cell of `t` with key `k` -/
theorem dictGet_eq_cellAtLast (inc : Bool) (t : List Cell) (k : Coord) :
    dictGet inc t k = Spec.cellAtLast inc t k := by
  unfold Spec.cellAtLast
  induction t with
  | nil => rfl
  | cons c t ih =>
    rw [dictGet, ih, List.filter_cons]
    by_cases hk : (joinKey inc c == k) = true
    · rw [if_pos hk, if_pos hk, List.getLast?_cons]
      cases (t.filter (fun c => joinKey inc c == k)).getLast? <;> rfl
    · rw [if_neg hk, if_neg hk]
      cases (t.filter (fun c => joinKey inc c == k)).getLast? <;> rfl

theorem cellAtLast_some {inc : Bool} {t : List Cell} {k : Coord} {x : Cell}
    (h : Spec.cellAtLast inc t k = some x) : x ∈ t ∧ joinKey inc x = k := by
  have := List.mem_filter.mp (List.mem_of_getLast? h)
  exact ⟨this.1, eq_of_beq this.2⟩

theorem cellAtLast_isSome {inc : Bool} {t : List Cell} {k : Coord} :
    (Spec.cellAtLast inc t k).isSome = (t.map (joinKey inc)).contains k := by
  unfold Spec.cellAtLast
  rw [Bool.eq_iff_iff, List.contains_iff_mem, Option.isSome_iff_ne_none, Ne,
    List.getLast?_eq_none_iff, List.filter_eq_nil_iff]
  simp

theorem cellAtLast_eq_some_iff {inc : Bool} {t : List Cell} (hn : (t.map (joinKey inc)).Nodup)
    {k : Coord} {c : Cell} : Spec.cellAtLast inc t k = some c ↔ c ∈ t ∧ joinKey inc c = k := by
  refine ⟨cellAtLast_some, fun ⟨hc, hk⟩ => ?_⟩
  have hs : (Spec.cellAtLast inc t k).isSome := by
    rw [cellAtLast_isSome, List.contains_iff_mem]; exact hk ▸ List.mem_map_of_mem hc
  obtain ⟨x, hx⟩ := Option.isSome_iff_exists.mp hs
  obtain ⟨hxt, hxk⟩ := cellAtLast_some hx
  rw [hx, inj_of_nodup_map hn hxt hc (hxk.trans hk.symm)]

theorem cellAt_eq_some_iff {inc : Bool} {t : List Cell} (hn : (t.map (joinKey inc)).Nodup)
    {k : Coord} {c : Cell} : Spec.cellAt inc t k = some c ↔ c ∈ t ∧ joinKey inc c = k := by
  unfold Spec.cellAt
  have hfind : ∀ {x}, t.find? (fun c => joinKey inc c == k) = some x → x ∈ t ∧ joinKey inc x = k :=
    fun hx => ⟨List.mem_of_find?_eq_some hx, eq_of_beq (List.find?_some (p := fun c => joinKey inc c == k) hx)⟩
  refine ⟨hfind, fun ⟨hc, hk⟩ => ?_⟩
  obtain ⟨x, hx⟩ := Option.isSome_iff_exists.mp
    (List.find?_isSome.mpr ⟨c, hc, beq_iff_eq.mpr hk⟩ : (t.find? (fun c => joinKey inc c == k)).isSome)
  rw [hx, inj_of_nodup_map hn (hfind hx).1 hc ((hfind hx).2.trans hk.symm)]

theorem cellAt_perm {inc : Bool} {t t' : List Cell} (hn : (t.map (joinKey inc)).Nodup)
    (hp : t.Perm t') (k : Coord) : Spec.cellAt inc t k = Spec.cellAt inc t' k :=
  Option.ext fun c => by
    rw [cellAt_eq_some_iff hn, cellAt_eq_some_iff ((hp.map _).nodup_iff.mp hn), hp.mem_iff]

theorem cellAtLast_max {inc : Bool} {t : List Cell} (hs : t.Pairwise (fun x y => Cell.le x y))
    {k : Coord} {x : Cell} (h : Spec.cellAtLast inc t k = some x) :
    ∀ y ∈ t, joinKey inc y = k → Cell.le y x = true := by
  intro y hy hk
  exact (getLast?_max (hs.sublist List.filter_sublist) h y (List.mem_filter.mpr ⟨hy, beq_iff_eq.mpr hk⟩)).elim id
    fun e => e ▸ leOf_refl (cmp := Cell.cmp) y

/-- `coalesce`'s coordinate is `join`'s without `prev`, by `rfl`: the lemmas about `Spec.cellAt` at `inc := false` are
lemmas about the first cell at a `coalesce` coordinate -/
theorem coalKey_eq_joinKey (c : Cell) : coalKey c = joinKey false c := rfl

def pairOf (inc : Bool) (a b : List Cell) (k : Coord) : CellPair :=
  (Spec.cellAtLast inc a k, Spec.cellAtLast inc b k)

theorem keep_pairOf (ty : JoinType) {inc : Bool} {a b : List Cell} {k : Coord}
    (hk : k ∈ a.map (joinKey inc) ∨ k ∈ b.map (joinKey inc)) :
    ty.keep (pairOf inc a b k) = Spec.setExpr ty (a.map (joinKey inc)) (b.map (joinKey inc)) k := by
  -- "has a cell at `k`" is membership of the key; only `full` and the two anti joins need that `k` is a
  -- coordinate of one of the operands
  rw [← List.contains_iff_mem, ← List.contains_iff_mem, ← cellAtLast_isSome, ← cellAtLast_isSome] at hk
  unfold pairOf
  cases ty <;> simp only [JoinType.keep, Spec.setExpr, ← cellAtLast_isSome, Option.not_isSome]
  all_goals
    revert hk
    cases Spec.cellAtLast inc a k <;> cases Spec.cellAtLast inc b k <;> simp

theorem pairKey_pairOf {inc : Bool} {a b : List Cell} {k : Coord}
    (hk : k ∈ a.map (joinKey inc) ∨ k ∈ b.map (joinKey inc)) :
    Spec.pairKey? inc (pairOf inc a b k) = some k := by
  rw [← List.contains_iff_mem, ← List.contains_iff_mem, ← cellAtLast_isSome, ← cellAtLast_isSome] at hk
  unfold pairOf
  cases ha : Spec.cellAtLast inc a k with
  | some c => simp [Spec.pairKey?, (cellAtLast_some ha).2]
  | none =>
    cases hb : Spec.cellAtLast inc b k with
    | some c => simp [Spec.pairKey?, (cellAtLast_some hb).2]
    | none => simp [ha, hb] at hk

theorem joinCore_eq (ty : JoinType) (a b : List Cell) :
    joinCore ty a b =
      ((allCoordinates a b).filter (Spec.setExpr ty (a.map (joinKey (isIncremental a)))
        (b.map (joinKey (isIncremental a))))).map (pairOf (isIncremental a) a b) := by
  have hpairs : cellPairs a b = (allCoordinates a b).map (pairOf (isIncremental a) a b) := by
    simp only [cellPairs, dictGet_eq_cellAtLast]; rfl
  unfold joinCore
  rw [hpairs, List.filter_map]
  exact congrArg _ (List.filter_congr fun k hk => keep_pairOf ty (mem_allCoordinates.mp hk))

theorem mem_of_mem_joinCore {ty : JoinType} {a b : List Cell} {p : CellPair}
    (hp : p ∈ joinCore ty a b) :
    (∀ c, p.1 = some c → c ∈ a) ∧ (∀ c, p.2 = some c → c ∈ b) := by
  rw [joinCore_eq] at hp
  obtain ⟨k, _, rfl⟩ := List.mem_map.mp hp
  exact ⟨fun c hc => (cellAtLast_some hc).1, fun c hc => (cellAtLast_some hc).1⟩

theorem joinCore_closed (ty : JoinType) (a b : List Cell) :
    ∃ ks : List Coord, ks.Nodup ∧
      (∀ k, k ∈ ks ↔ Spec.setExpr ty (a.map (joinKey (isIncremental a)))
        (b.map (joinKey (isIncremental a))) k = true) ∧
      (∀ k ∈ ks, Spec.pairKey? (isIncremental a) (pairOf (isIncremental a) a b k) = some k) ∧
      joinCore ty a b = ks.map (pairOf (isIncremental a) a b) :=
  ⟨_, (nodup_allCoordinates a b).filter _,
    fun k => by rw [List.mem_filter, mem_allCoordinates, and_iff_right_of_imp setExpr_mem],
    fun k hk => pairKey_pairOf (mem_allCoordinates.mp (List.mem_filter.mp hk).1), joinCore_eq ty a b⟩

theorem keys_of_closed {inc : Bool} {ks : List Coord} {f : Coord → CellPair} (hnd : ks.Nodup)
    (hkey : ∀ k ∈ ks, Spec.pairKey? inc (f k) = some k) :
    let ks' := (ks.map f).map (Spec.pairKey? inc)
    ks'.Nodup ∧ none ∉ ks' ∧ ∀ k, some k ∈ ks' ↔ k ∈ ks := by
  intro ks'
  have : ks' = ks.map some := (List.map_map ..).trans (List.map_congr_left hkey)
  rw [this]
  exact ⟨hnd.map _ fun _ _ hxy e => hxy (Option.some.inj e), by simp, fun k => by simp⟩

theorem sortedOn_perm (on : Option (List String)) (a : List Cell) :
    (Spec.sortedOn on a).Perm (Spec.onCells on a) := by
  unfold Spec.sortedOn Spec.onCells
  split
  · exact List.mergeSort_perm _ _
  · exact List.Perm.refl _

theorem sortedOn_sorted {on : Option (List String)} {a : List Cell}
    (hs : a.Pairwise (fun x y => Cell.le x y)) :
    (Spec.sortedOn on a).Pairwise (fun x y => Cell.le x y) := by
  unfold Spec.sortedOn
  split
  · exact sorted_mergeSort (cmp := Cell.cmp) _
  · exact hs

theorem mem_onCells_values {on : Option (List String)} {t : List Cell} {x : Cell}
    (hx : x ∈ Spec.onCells on t) : ∃ c ∈ t, x.values = c.values := by
  unfold Spec.onCells at hx
  split at hx
  · obtain ⟨c, hc, rfl⟩ := List.mem_map.mp hx
    exact ⟨c, hc, rfl⟩
  · exact ⟨x, hx, rfl⟩

theorem mem_sortedOn_values {on : Option (List String)} {t : List Cell} {x : Cell}
    (hx : x ∈ Spec.sortedOn on t) : ∃ c ∈ t, x.values = c.values :=
  mem_onCells_values ((sortedOn_perm on t).mem_iff.mp hx)

theorem reduceOn_ok {on : Option (List String)} {a a' : List Cell} (h : reduceOn on a = .ok a') :
    a' = Spec.sortedOn on a ∧ isIncremental a' = isIncremental a := by
  unfold reduceOn at h
  unfold Spec.sortedOn
  split at h
  · rename_i x xs
    -- the constructor passed, so the reduced cells are of one class and sorting keeps `is_incremental`
    obtain ⟨hc, rfl⟩ := Triangle.ofCells_eq_ok.mp h
    refine ⟨rfl, (isIncremental_perm (List.mergeSort_perm _ _).symm hc).trans ?_⟩
    cases a <;> rfl
  · rename_i hh
    cases h
    refine ⟨?_, rfl⟩
    split
    · rename_i x xs; exact absurd rfl (hh x xs)
    · rfl

theorem reduceOn_eq_sortedOn {on : Option (List String)} {a a' : List Cell}
    (h : reduceOn on a = .ok a') : a' = Spec.sortedOn on a := (reduceOn_ok h).1

theorem cellAtLast_sortedOn_eq_cellAt {inc : Bool} {on : Option (List String)} {a : List Cell}
    (hn : ((Spec.onCells on a).map (joinKey inc)).Nodup) (k : Coord) :
    Spec.cellAtLast inc (Spec.sortedOn on a) k = Spec.cellAt inc (Spec.onCells on a) k := by
  have hp := sortedOn_perm on a
  -- under distinct keys the last cell at a key is the only one, in any order of the cells
  exact Option.ext fun c => by
    rw [cellAtLast_eq_some_iff ((hp.map _).nodup_iff.mpr hn), cellAt_eq_some_iff hn, hp.mem_iff]

theorem cellAtLast_sortedOn_of_ties {inc : Bool} {on : Option (List String)} {a : List Cell}
    (hprev : ∀ x ∈ a, ∀ y ∈ a, x.prev = y.prev ∨ inc = true) (k : Coord) :
    Spec.cellAtLast inc (Spec.sortedOn on a) k = Spec.cellAtLast inc (Spec.onCells on a) k := by
  unfold Spec.sortedOn Spec.onCells
  split
  · rename_i x xs
    unfold Spec.cellAtLast
    -- the cells at one key tie, so the stable sort of `Triangle(...)` keeps their relative order
    rw [mergeSort_filter_stable_of_mem (le := Cell.le) (leOf_trans (cmp := Cell.cmp)) (leOf_total (cmp := Cell.cmp))]
    intro u hu v hv pu pv
    obtain ⟨u0, hu0, rfl⟩ := List.mem_map.mp hu
    obtain ⟨v0, hv0, rfl⟩ := List.mem_map.mp hv
    have hk : joinKey inc (u0.selectOn (x :: xs)) = joinKey inc (v0.selectOn (x :: xs)) := by
      rw [beq_iff_eq] at pu pv; rw [pu, pv]
    -- cells with equal join key and equal `prev` have one coordinate, so they tie under `Cell.__lt__`
    simp only [joinKey, Coord.mk.injEq] at hk
    refine Cell.le_of_coord_eq (Cell.coord_eq_iff.mpr ⟨hk.1, hk.2.1, hk.2.2.1, hk.2.2.2.1, ?_⟩)
    rcases hprev u0 hu0 v0 hv0 with h | h
    · exact h
    · subst h; exact hk.2.2.2.2
  · rfl

/-- cumulative / plain cells that satisfy the date rules have no `prev_evaluation_date` -/
theorem prev_eq_of_not_incremental {t : List Cell} (hd : ∀ c ∈ t, c.datesOk = true)
    (hk : ∀ c ∈ t, c.kind ≠ .incremental) : ∀ x ∈ t, ∀ y ∈ t, x.prev = y.prev := by
  have hn : ∀ c ∈ t, c.prev = none := fun c hc =>
    Option.not_isSome_iff_eq_none.mp fun hs => hk c hc ((Cell.datesOk_iff.mp (hd c hc)).2.2.2.1.mpr hs)
  intro x hx y hy
  rw [hn x hx, hn y hy]

theorem join_eq (ty : Option JoinType) (on : Option (List String)) (a b : List Cell) :
    join ty on a b =
      if kindMismatch a b then .error .valueError
      else (reduceOn on a).bind fun a' => (reduceOn on b).bind fun b' =>
        match ty with
        | some ty => .ok (joinCore ty a' b')
        | none => .error .valueError := by
  unfold join
  split <;> rfl

theorem join_inv {ty : JoinType} {on : Option (List String)} {a b : List Cell} {ps : List CellPair}
    (h : join (some ty) on a b = .ok ps) :
    kindMismatch a b = false ∧ reduceOn on a = .ok (Spec.sortedOn on a) ∧
      reduceOn on b = .ok (Spec.sortedOn on b) ∧
      isIncremental (Spec.sortedOn on a) = isIncremental a ∧
      ps = joinCore ty (Spec.sortedOn on a) (Spec.sortedOn on b) := by
  rw [join_eq] at h
  have hk : kindMismatch a b = false := Bool.eq_false_iff.mpr (not_of_guard h)
  obtain ⟨a', ha, h⟩ := bind_ok (of_guard h)
  obtain ⟨b', hb, h⟩ := bind_ok h
  obtain ⟨rfl, hi⟩ := reduceOn_ok ha
  obtain ⟨rfl, -⟩ := reduceOn_ok hb
  exact ⟨hk, ha, hb, hi, (Except.ok.inj h).symm⟩

theorem join_of_no_mismatch {ty : JoinType} {a b : List Cell} (h : kindMismatch a b = false) :
    join (some ty) none a b = .ok (joinCore ty a b) := by
  rw [join_eq, h]; rfl

theorem join_closed {ty : JoinType} {on : Option (List String)} {a b : List Cell} {ps : List CellPair}
    (h : join (some ty) on a b = .ok ps) :
    ∃ ks : List Coord, ks.Nodup ∧
      (∀ k, k ∈ ks ↔ Spec.setExpr ty ((Spec.onCells on a).map (joinKey (isIncremental a)))
        ((Spec.onCells on b).map (joinKey (isIncremental a))) k = true) ∧
      (∀ k ∈ ks, Spec.pairKey? (isIncremental a)
        (pairOf (isIncremental a) (Spec.sortedOn on a) (Spec.sortedOn on b) k) = some k) ∧
      ps = ks.map (pairOf (isIncremental a) (Spec.sortedOn on a) (Spec.sortedOn on b)) := by
  obtain ⟨-, -, -, hi, rfl⟩ := join_inv h
  have hkeys : ∀ (t : List Cell) k, k ∈ (Spec.sortedOn on t).map (joinKey (isIncremental a)) ↔
      k ∈ (Spec.onCells on t).map (joinKey (isIncremental a)) := fun t _ => ((sortedOn_perm on t).map _).mem_iff
  obtain ⟨ks, hnd, hmem, hkey, e⟩ := joinCore_closed ty (Spec.sortedOn on a) (Spec.sortedOn on b)
  rw [hi] at hmem hkey e
  exact ⟨ks, hnd, fun k => by rw [hmem, setExpr_congr (hkeys a) (hkeys b)], hkey, e⟩

theorem mergeCellPair_some {p : CellPair} {c : Cell} (h : mergeCellPair p = some c) :
    p = (none, some c) ∨ p = (some c, none) ∨
      ∃ x y, p = (some x, some y) ∧ c = { x with values := x.values.union y.values } := by
  obtain ⟨_ | x, _ | y⟩ := p
  · cases h
  · exact .inl (h ▸ rfl)
  · exact .inr (.inl (h ▸ rfl))
  · exact .inr (.inr ⟨x, y, rfl, (Option.some.inj h).symm⟩)

theorem mergeCellPair_key {inc : Bool} {p : CellPair} {c : Cell} (h : mergeCellPair p = some c) :
    Spec.pairKey? inc p = some (joinKey inc c) := by
  rcases mergeCellPair_some h with rfl | rfl | ⟨x, y, rfl, rfl⟩ <;> rfl

theorem mergeCellPair_of_join {a b : List Cell} {ps : List CellPair} (hj : join (some .full) none a b = .ok ps)
    {p : CellPair} (hp : p ∈ ps) {c : Cell} (hc : mergeCellPair p = some c) :
    c ∈ b ∨ ∃ x ∈ a, c.kind = x.kind ∧ (c.values = x.values ∨ ∃ y ∈ b, c.values = x.values.union y.values) := by
  obtain ⟨ks, -, -, -, rfl⟩ := join_closed hj
  obtain ⟨k, -, hpe⟩ := List.mem_map.mp hp
  simp only [Spec.sortedOn, pairOf] at hpe
  rcases mergeCellPair_some hc with rfl | rfl | ⟨x, y, rfl, rfl⟩
  · exact Or.inl (cellAtLast_some (Prod.mk.inj hpe).2).1
  · exact Or.inr ⟨c, (cellAtLast_some (Prod.mk.inj hpe).1).1, rfl, Or.inl rfl⟩
  · exact Or.inr ⟨x, (cellAtLast_some (Prod.mk.inj hpe).1).1, rfl,
      Or.inr ⟨y, (cellAtLast_some (Prod.mk.inj hpe).2).1, rfl⟩⟩

theorem mergeCellPair_isSome {inc : Bool} {p : CellPair} (h : Spec.pairKey? inc p ≠ none) :
    (mergeCellPair p).isSome = true := by
  obtain ⟨p1, p2⟩ := p
  cases p1 <;> cases p2 <;> simp_all [mergeCellPair, Spec.pairKey?]

theorem filterMap_merge_keys {inc : Bool} {ps : List CellPair}
    (h : ∀ p ∈ ps, Spec.pairKey? inc p ≠ none) :
    (ps.filterMap mergeCellPair).map (fun c => some (joinKey inc c)) = ps.map (Spec.pairKey? inc) := by
  induction ps with
  | nil => rfl
  | cons p ps ih =>
    have hp := mergeCellPair_isSome (h p (by simp))
    rw [List.filterMap_cons]
    cases hm : mergeCellPair p with
    | none => rw [hm] at hp; cases hp
    | some c =>
      simp only [List.map_cons, mergeCellPair_key hm, ih (fun q hq => h q (by simp [hq]))]

theorem merge_closed {ty : JoinType} {on : Option (List String)} {a b out : List Cell}
    (h : merge (some ty) on a b = .ok out) :
    (out.map (joinKey (isIncremental a))).Nodup ∧
    (∀ k, k ∈ out.map (joinKey (isIncremental a)) ↔
      Spec.setExpr ty ((Spec.onCells on a).map (joinKey (isIncremental a)))
        ((Spec.onCells on b).map (joinKey (isIncremental a))) k = true) ∧
    ∀ c ∈ out, mergeCellPair (pairOf (isIncremental a) (Spec.sortedOn on a) (Spec.sortedOn on b)
      (joinKey (isIncremental a) c)) = some c := by
  obtain ⟨ps, hj, h⟩ := bind_ok (show (join (some ty) on a b >>= _) = _ from h)
  obtain ⟨ks, hnd, hmem, hkey, rfl⟩ := join_closed hj
  have hperm := Triangle.ofCells_perm h
  -- the merged cells carry the pairs' coordinates one for one
  have hks : ((ks.map (pairOf (isIncremental a) (Spec.sortedOn on a) (Spec.sortedOn on b))).filterMap
      mergeCellPair).map (joinKey (isIncremental a)) = ks := by
    refine (List.map_inj_right fun _ _ => Option.some.inj).mp ?_
    rw [List.map_map]
    refine (filterMap_merge_keys fun p hp => ?_).trans ((List.map_map ..).trans (List.map_congr_left hkey))
    obtain ⟨k, hk, rfl⟩ := List.mem_map.mp hp
    rw [hkey k hk]; exact Option.some_ne_none k
  refine ⟨(hperm.map _).nodup_iff.mpr (hks.symm ▸ hnd), fun k => by rw [(hperm.map _).mem_iff, hks, hmem],
    fun c hc => ?_⟩
  obtain ⟨p, hp, hm⟩ := List.mem_filterMap.mp (hperm.mem_iff.mp hc)
  obtain ⟨k, hk, rfl⟩ := List.mem_map.mp hp
  rwa [← Option.some.inj ((hkey k hk).symm.trans (mergeCellPair_key hm))]

/-- the model's `{**l, **r}` satisfies the finite-map predicate of the Spec -/
theorem isRightUnion_union {l r : Dict Val} (hl : l.WF) (hr : r.WF) :
    Spec.isRightUnion l r (l.union r) = true := by
  have hw := Dict.WF_union hl r
  unfold Spec.isRightUnion
  simp only [Bool.and_eq_true, List.all_eq_true]
  refine ⟨⟨nodupB_iff.mpr hw, fun kv hkv => ?_⟩, fun k hk => ?_⟩
  · have h1 : Dict.get? (l.union r) kv.1 = some kv.2 := (Assoc.get?_eq_some_iff hw).mpr hkv
    rw [Dict.get?_union l r hr] at h1
    cases hg : Dict.get? r kv.1 with
    | some v => rw [hg] at h1; simp at h1; simp [h1]
    | none => rw [hg] at h1; simp at h1; simp [h1]
  · rw [List.contains_iff_mem, Dict.mem_keys_union]
    exact List.mem_append.mp hk

theorem sameFrame_values (x : Cell) (v : Dict Val) : Spec.sameFrame x { x with values := v } = true := by
  simp [Spec.sameFrame]

/-- the Bool form of "whatever satisfies `b` is in `l`" used by the Spec predicates -/
theorem not_or_contains {β} [BEq β] [LawfulBEq β] {b : Bool} {l : List β} {x : β} (h : b = true → x ∈ l) :
    (!b || l.contains x) = true :=
  not_or_eq_true.mpr fun hb => List.contains_iff_mem.mpr (h hb)

theorem zip_map_self {α β} (l : List α) (f : α → β) : l.zip (l.map f) = l.map (fun a => (a, f a)) :=
  Bermuda.zip_map_self f l

theorem sameFrame_of_frame {c o : Cell} (h : o = { c with values := o.values }) :
    Spec.sameFrame c o = true := by
  rw [h]; exact sameFrame_values c _

/-- a cell-wise map that only rewrites `values` keeps the canonical form: same order, same class,
same dates -/
theorem frame_map_canonical {f : Cell → Cell} (hf : ∀ c, f c = { c with values := (f c).values })
    {t : List Cell} (ht : Canonical t) : Canonical (t.map f) := by
  have hle : ∀ a b, Cell.le (f a) (f b) = Cell.le a b := by
    intro a b; rw [hf a, hf b]; rfl
  have hk : ∀ c, (f c).kind = c.kind := fun c => by rw [hf c]
  have hd : ∀ c, (f c).datesOk = c.datesOk := fun c => by rw [hf c]; rfl
  refine ⟨?_, ?_, ?_⟩
  · rw [List.pairwise_map]; exact ht.1.imp (fun {a b} h => by rw [hle]; exact h)
  · rw [kindsConsistent_map fun c _ => hk c]; exact ht.2.1
  · intro c hc
    obtain ⟨c₀, hc₀, rfl⟩ := List.mem_map.mp hc
    rw [hd]; exact ht.2.2 c₀ hc₀

theorem joinKey_frame {f : Cell → Cell} (hf : ∀ c, f c = { c with values := (f c).values })
    (inc : Bool) (c : Cell) : joinKey inc (f c) = joinKey inc c := by
  rw [hf c]; rfl

theorem isIncremental_map_frame {f : Cell → Cell} (hf : ∀ c, f c = { c with values := (f c).values })
    (t : List Cell) : isIncremental (t.map f) = isIncremental t := by
  cases t with
  | nil => rfl
  | cons c t => simp only [List.map_cons, isIncremental]; rw [hf c]

theorem keys_map_frame {f : Cell → Cell} (hf : ∀ c, f c = { c with values := (f c).values })
    (inc : Bool) (t : List Cell) : (t.map f).map (joinKey inc) = t.map (joinKey inc) := by
  rw [List.map_map]; apply List.map_congr_left; intro c _; exact joinKey_frame hf inc c

theorem dictGet_map_frame {f : Cell → Cell} (hf : ∀ c, f c = { c with values := (f c).values })
    {inc : Bool} {t : List Cell} (hn : (t.map (joinKey inc)).Nodup) {c : Cell} (hc : c ∈ t) :
    dictGet inc (t.map f) (joinKey inc c) = some (f c) := by
  have hn' : ((t.map f).map (joinKey inc)).Nodup := by rw [keys_map_frame hf]; exact hn
  rw [dictGet_eq_cellAtLast]
  exact (cellAtLast_eq_some_iff hn').mpr ⟨List.mem_map.mpr ⟨c, hc, rfl⟩, joinKey_frame hf inc c⟩

theorem joinCore_frame_maps {ty : JoinType} (hty : ty = .full ∨ ty = .inner ∨ ty = .left ∨ ty = .right)
    {f g : Cell → Cell} (hf : ∀ c, f c = { c with values := (f c).values })
    (hg : ∀ c, g c = { c with values := (g c).values })
    {t : List Cell} (hn : (t.map (joinKey (isIncremental t))).Nodup) :
    joinCore ty (t.map f) (t.map g) = t.map (fun c => (some (f c), some (g c))) := by
  have hall : allCoordinates (t.map f) (t.map g) = t.map (joinKey (isIncremental t)) := by
    unfold allCoordinates
    simp only [isIncremental_map_frame hf, keys_map_frame hf, keys_map_frame hg]
    rw [dedupJ_append_of_subset (fun _ h => h), dedupJ_of_nodup hn]
  rw [joinCore_eq, hall, isIncremental_map_frame hf, keys_map_frame hf, keys_map_frame hg,
    List.filter_eq_self.mpr (fun k hk => setExpr_self hty hk), List.map_map]
  apply List.map_congr_left
  intro c hc
  simp only [Function.comp, pairOf, ← dictGet_eq_cellAtLast, dictGet_map_frame hf hn hc,
    dictGet_map_frame hg hn hc]

theorem joinCore_self {ty : JoinType} (hty : ty = .full ∨ ty = .inner ∨ ty = .left ∨ ty = .right)
    {t : List Cell} (hn : (t.map (joinKey (isIncremental t))).Nodup) :
    joinCore ty t t = t.map (fun c => (some c, some c)) := by
  have h := joinCore_frame_maps hty (f := id) (g := id) (fun _ => rfl) (fun _ => rfl) hn
  rwa [List.map_id] at h

/-- cells that tie under `Cell.__lt__` are identical when coordinates are distinct -/
theorem ties_identical_map {f : Cell → Cell} (hf : ∀ c, f c = { c with values := (f c).values })
    {t : List Cell} (hc : ∀ c ∈ t, c.md.Canon) (hn : (t.map Cell.coord).Nodup) :
    ∀ a b, a ∈ t.map f → b ∈ t.map f → Cell.cmp a b = .eq → a = b := by
  intro a b ha hb hab
  obtain ⟨a0, ha0, rfl⟩ := List.mem_map.mp ha
  obtain ⟨b0, hb0, rfl⟩ := List.mem_map.mp hb
  rw [Cell.cmp_congr_coord (by rw [hf a0]) (by rw [hf b0])] at hab
  have := (Cell.cmp_eq_eq (hc a0 ha0) (hc b0 hb0)).mp hab
  rw [inj_of_nodup_map hn ha0 hb0 this]

theorem select_frame (ks : List String) (c : Cell) :
    c.select ks = { c with values := (c.select ks).values } := rfl

/-- on a triangle `select` is the cell-wise restriction of the value dicts, order unchanged -/
theorem select_eq_map {t : List Cell} (ks : List String) (ht : Canonical t) :
    Triangle.select t ks = .ok (t.map (·.select ks)) := by
  unfold Triangle.select
  have : t.mapM (fun c => (c.select ks).mk?) = .ok (t.map (·.select ks)) :=
    mapM_ok_of_all fun c hc => Cell.mk?_of_datesOk (ht.2.2 c hc)
  rw [this, ok_bind]
  exact ofCells_idem (frame_map_canonical (select_frame ks) ht)

theorem sourceCell?_eq_none_iff {src : List Cell} {c : Cell} :
    sourceCell? src c = none ↔ ∀ s' ∈ src, ¬ (s'.md = c.md ∧ s'.ps = c.ps ∧ s'.pe = c.pe) := by
  unfold sourceCell?
  rw [lastBy?_eq_none_iff, List.filter_eq_nil_iff]
  simp only [Bool.and_eq_true, beq_iff_eq, and_assoc]

/-- under "one source cell per (metadata, period, evaluation date)" the Spec's fold-max and the
model's last-of-stable-sort pick the same source cell -/
theorem latestSource?_eq_sourceCell? {src : List Cell} (hn : (src.map coalKey).Nodup) (c : Cell) :
    Spec.latestSource? src c = sourceCell? src c := by
  cases hs : sourceCell? src c with
  | none =>
    -- no source cell in the slice and period of `c`: the fold runs over the empty list
    have : src.filter (fun s => s.md == c.md && s.ps == c.ps && s.pe == c.pe) = [] :=
      lastBy?_eq_none_iff.mp hs
    unfold Spec.latestSource?
    rw [this]; rfl
  | some s =>
    obtain ⟨hsm, hsmax⟩ := lastBy?_max (show lastBy? (leOf evCmp) _ = _ from hs)
    obtain ⟨m, hm, hmem, hbest⟩ : ∃ m, Spec.latestSource? src c = some m ∧
        m ∈ src.filter (fun s => s.md == c.md && s.ps == c.ps && s.pe == c.pe) ∧
        ∀ o ∈ src.filter (fun s => s.md == c.md && s.ps == c.ps && s.pe == c.pe), ¬ evCmp m o = .lt := by
      refine foldl_optBest (StrictWeak.of_cmp (cmp := evCmp)).swap hsm (fun _ => rfl) fun b x => ?_
      show (if Date.cmp b.ev x.ev == .lt then some x else some b) = _
      by_cases h : Date.cmp b.ev x.ev = .lt <;> simp [h, evCmp, cmpOn]
    rw [hm]
    -- both are latest among the source cells of the slice and period: same evaluation date, hence the same cell
    have hmax : leOf evCmp s m = true :=
      leOf_iff_isLE.mpr (Std.OrientedCmp.isGE_iff_isLE.mp (Ordering.isGE_iff_ne_lt.mpr (hbest s hsm)))
    have hev : s.ev = m.ev := Date.cmp_eq_eq.mp (leOf_antisymm (cmp := evCmp) hmax (hsmax m hmem))
    obtain ⟨hms, hmc⟩ := List.mem_filter.mp hmem
    obtain ⟨hss, hsc⟩ := List.mem_filter.mp hsm
    simp only [Bool.and_eq_true, beq_iff_eq] at hmc hsc
    have hk : coalKey m = coalKey s := by
      simp only [coalKey, Coord.mk.injEq]
      exact ⟨hmc.1.1.trans hsc.1.1.symm, hmc.1.2.trans hsc.1.2.symm, hmc.2.trans hsc.2.symm,
        hev.symm, trivial⟩
    rw [inj_of_nodup_map hn hms hss hk]

/-- `groupby(key, l).get(k, []) = [a for a in l if key(a) == k]` -/
theorem groupGet_groupBy {α κ} [BEq κ] [LawfulBEq κ] (key : α → κ) (l : List α) (k : κ) :
    groupGet (groupBy key l) k = l.filter (fun a => key a == k) := by
  unfold groupGet
  rw [Bermuda.groupBy_eq_map, Assoc.find?_map_key]
  by_cases h : k ∈ distinctKeys key l
  · rw [if_pos h]
  · rw [if_neg h]
    exact (List.filter_eq_nil_iff.mpr fun a ha e => h (mem_distinctKeys.mpr ⟨a, ha, eq_of_beq e⟩)).symm

/-- the literal lookup chain (`slices.get` → `groupby(period)` → latest → `.get(period)`) finds the
same source cell as the direct filter; stated for the filtered source, which is the slice when the source is sorted (`slices_of_sorted`) -/
theorem sourceIndexedGet_eq {src : List Cell} (c : Cell) :
    sourceIndexedGet (src.filter (fun s => s.md == c.md)) c = sourceCell? src c := by
  have h1 : sourceIndexedGet (src.filter (fun s => s.md == c.md)) c =
      lastBy? evLe (groupGet (groupBy (fun s : Cell => (s.ps, s.pe))
        (src.filter (fun s => s.md == c.md))) (c.ps, c.pe)) := by
    unfold sourceIndexedGet groupGet
    cases (groupBy (fun s : Cell => (s.ps, s.pe)) (src.filter (fun s => s.md == c.md))).find?
      (fun e => e.1 == (c.ps, c.pe)) with
    | some e => rfl
    | none => exact (lastBy?_eq_none_iff.mpr rfl).symm
  rw [h1, groupGet_groupBy, List.filter_filter]
  unfold sourceCell?
  congr 1
  apply List.filter_congr
  intro s _
  show ((s.ps == c.ps && s.pe == c.pe) && s.md == c.md) = (s.md == c.md && s.ps == c.ps && s.pe == c.pe)
  ac_rfl

theorem addStaticsCell_of_some {src : List Cell} {st : List String} {c s : Cell}
    (h : sourceCell? src c = some s) : addStaticsCell src st c = c.addStatics s st := by
  unfold addStaticsCell; rw [h]

theorem addStaticsCell_of_none {src : List Cell} {st : List String} {c : Cell}
    (h : sourceCell? src c = none) : addStaticsCell src st c = c := by
  unfold addStaticsCell; rw [h]

theorem addStatics_block {src : List Cell} (st : List String)
    (hs : src.Pairwise (fun a b => Cell.le a b)) {blk : List Cell} {m : Metadata}
    (hblk : ∀ c ∈ blk, c.md = m) :
    addStaticsBlockLit (Triangle.slices src) st (m, blk) = blk.map (addStaticsCell src st) := by
  unfold addStaticsBlockLit
  -- `simp only []` here and below reduces the projections and `match`es on a constructor that `unfold` leaves
  simp only []
  rw [slices_of_sorted hs, Assoc.find?_map_key]
  by_cases hm : m ∈ metasOf src
  · rw [if_pos hm]
    simp only []
    unfold addStaticsSliceLit
    apply List.map_congr_left
    intro c hc
    have hcm := hblk c hc
    subst hcm
    rw [sourceIndexedGet_eq]
    rfl
  · rw [if_neg hm]
    simp only []
    -- no source cell has the metadata of the block, so every cell is returned as it is
    refine ((List.map_congr_left fun c hc => addStaticsCell_of_none ?_).trans (List.map_id blk)).symm
    exact sourceCell?_eq_none_iff.mpr fun s hsm hcond =>
      hm (mem_metasOf.mpr ⟨s, hsm, hcond.1.trans (hblk c hc)⟩)

/-- the index of `period_merge` as a key function for `groupBy`: its `==` is `samePeriodKey` (`filter_samePeriodKey`) and
`periodMergeLit`'s `idx` is this by `rfl` -/
def pmIdx (c : Cell) : Date × Date × Metadata := (c.ps, c.pe, c.md)

theorem filter_samePeriodKey (b : List Cell) (c : Cell) :
    b.filter (samePeriodKey c) = b.filter (fun r => pmIdx r == pmIdx c) := by
  apply List.filter_congr
  intro r _
  show (r.ps == c.ps && r.pe == c.pe && r.md == c.md) = (r.ps == c.ps && (r.pe == c.pe && r.md == c.md))
  rw [Bool.and_assoc]

theorem map_append_empty (d : Dict Val) : d.map (fun kv => (kv.1 ++ "", kv.2)) = d := by
  exact List.map_id'' (fun kv => by rw [String.append_empty]) d

/-- `Spec.periodMergeSpec` writes "no suffix" as `++ ""`; this and `applySuffix_some` bring the model to that spelling -/
theorem applySuffix_none (d : Dict Val) :
    applySuffix none d = d.map (fun kv => (kv.1 ++ "", kv.2)) := (map_append_empty d).symm

theorem applySuffix_some (s : String) (d : Dict Val) :
    applySuffix (some s) d = d.map (fun kv => (kv.1 ++ s, kv.2)) := by
  unfold applySuffix
  simp only []
  split
  · rename_i he
    have : s = "" := by simpa using he
    subst this; exact (map_append_empty d).symm
  · rfl

theorem WF_map_suffix {d : Dict Val} (h : d.WF) (s : String) :
    Dict.WF (d.map (fun kv => (kv.1 ++ s, kv.2))) := by
  unfold Dict.WF Dict.keys at *
  rw [List.map_map]
  have : ((fun x : String × Val => x.1) ∘ fun kv : String × Val => (kv.1 ++ s, kv.2)) =
      (fun k => k ++ s) ∘ (fun x : String × Val => x.1) := rfl
  rw [this, ← List.map_map]
  exact List.Pairwise.map _ (fun x y hxy e => hxy ((String.append_left_inj s).mp e)) h

theorem WF_applySuffix {d : Dict Val} (h : d.WF) (suffix : Option String) :
    (applySuffix suffix d).WF := by
  cases suffix with
  | none => exact h
  | some s => rw [applySuffix_some]; exact WF_map_suffix h s

/-- the total cell map behind `periodMergeCell` -/
def pmCell (b : List Cell) (suffix : Option String) (c : Cell) : Cell :=
  match b.filter (samePeriodKey c) with
  | [r] => overwriteValues c r suffix
  | _ => c

theorem periodMergeCell_eq (b : List Cell) (suffix : Option String) (c : Cell) :
    periodMergeCell b suffix c =
      if (b.filter (fun r => pmIdx r == pmIdx c)).length ≤ 1 then .ok (pmCell b suffix c)
      else .error .valueError := by
  unfold periodMergeCell pmCell
  rw [← filter_samePeriodKey]
  match b.filter (samePeriodKey c) with
  | [] => rfl
  | [r] => rfl
  | _ :: _ :: _ => simp

theorem periodMergeCell_ok {b : List Cell} {suffix : Option String} {c c' : Cell}
    (h : periodMergeCell b suffix c = .ok c') : c' = pmCell b suffix c := by
  rw [periodMergeCell_eq] at h
  split at h <;> cases h
  rfl

theorem periodMergeCell_of_le {b : List Cell} {suffix : Option String} {c : Cell}
    (h : (b.filter (samePeriodKey c)).length ≤ 1) :
    periodMergeCell b suffix c = .ok (pmCell b suffix c) := by
  rw [periodMergeCell_eq, if_pos (filter_samePeriodKey b c ▸ h)]

theorem periodMergeCell_of_gt {b : List Cell} {suffix : Option String} {c : Cell}
    (h : ¬ (b.filter (samePeriodKey c)).length ≤ 1) :
    periodMergeCell b suffix c = .error .valueError := by
  rw [periodMergeCell_eq, if_neg (filter_samePeriodKey b c ▸ h)]

theorem periodMergeCell_error {b : List Cell} {suffix : Option String} {c : Cell} {e : Err}
    (h : periodMergeCell b suffix c = .error e) : e = .valueError := by
  rw [periodMergeCell_eq] at h
  split at h <;> cases h
  rfl

/-- one group of the literal loop = the cell-wise map on the group -/
theorem periodMergeGroupLit_spec (b : List Cell) (suffix : Option String)
    (k : Date × Date × Metadata) (row : List Cell) (hrow : ∀ c ∈ row, pmIdx c = k) :
    periodMergeGroupLit (groupBy pmIdx b) suffix (k, row) =
      if (b.filter (fun r => pmIdx r == k)).length ≤ 1 then .ok (row.map (pmCell b suffix))
      else .error .valueError := by
  unfold periodMergeGroupLit
  simp only []
  rw [groupGet_groupBy]
  have hcell : ∀ c ∈ row, b.filter (samePeriodKey c) = b.filter (fun r => pmIdx r == k) := by
    intro c hc; rw [filter_samePeriodKey, hrow c hc]
  match hf : b.filter (fun r => pmIdx r == k) with
  | [] =>
    simp only [List.length_nil, Nat.zero_le, if_true]
    refine congrArg _ ((List.map_congr_left fun c hc => ?_).trans (List.map_id row)).symm
    unfold pmCell; rw [hcell c hc, hf]; rfl
  | [r] =>
    simp only [List.length_singleton, Nat.le_refl, if_true]
    congr 1
    apply List.map_congr_left
    intro c hc
    unfold pmCell; rw [hcell c hc, hf]
  | _ :: _ :: _ => simp

theorem periodMergeLit_unfold (a b : List Cell) (suffix : Option String) :
    periodMergeLit a b suffix =
      if kindMismatch a b then .error .valueError
      else Except.bind ((groupBy pmIdx a).mapM (periodMergeGroupLit (groupBy pmIdx b) suffix))
        (fun out => Triangle.ofCells out.flatten) := by
  unfold periodMergeLit
  split <;> rfl

theorem periodMerge_unfold (a b : List Cell) (suffix : Option String) :
    periodMerge a b suffix =
      if kindMismatch a b then .error .valueError
      else Except.bind (a.mapM (periodMergeCell b suffix)) Triangle.ofCells := by
  unfold periodMerge
  split <;> rfl

theorem periodMerge_eq (a b : List Cell) (suffix : Option String) :
    periodMerge a b suffix =
      if kindMismatch a b then .error .valueError
      else if ∀ c ∈ a, (b.filter (fun r => pmIdx r == pmIdx c)).length ≤ 1 then
        Triangle.ofCells (a.map (pmCell b suffix))
      else .error .valueError := by
  rw [periodMerge_unfold, mapM_guarded fun c _ => periodMergeCell_eq b suffix c]
  split
  · rfl
  · split <;> rfl

end Bermuda.Properties.C10
