/-
C15: the example triangles `exBack`, `exFill` of the non-vacuity / success instances of `Properties/C15.lean`, and the staged
evaluation of the model on them (`List.mergeSort` does not reduce in the kernel: every sort is applied to an already
sorted list via `List.mergeSort_of_pairwise`, the rest is `decide +kernel`).
-/
import Bermuda.Lemmas.Extend
namespace Bermuda.Extend

def exB1 : Cell :=
  { kind := .cumulative, ps := ⟨2020, 1, 1⟩, pe := ⟨2020, 1, 31⟩, ev := ⟨2020, 3, 31⟩,
    values := [("paid_loss", .int 5), ("earned_premium", .int 100)] }
def exB2 : Cell :=
  { kind := .cumulative, ps := ⟨2020, 1, 1⟩, pe := ⟨2020, 1, 31⟩, ev := ⟨2020, 4, 30⟩,
    values := [("paid_loss", .int 7), ("earned_premium", .int 100)] }
/-- one row observed at the lags 2 and 3 -/
def exBack : List Cell := [exB1, exB2]

theorem exBack_periods : periods exBack = [(⟨2020, 1, 1⟩, ⟨2020, 1, 31⟩)] := by
  unfold periods
  rw [List.mergeSort_of_pairwise (by decide +kernel)]
  decide +kernel

theorem exBack_pres : periodResolution exBack = some 1 := by
  unfold periodResolution
  rw [exBack_periods]
  simp only
  rw [List.mergeSort_of_pairwise (by decide +kernel)]
  decide +kernel

def exF1 : Cell :=
  { kind := .cumulative, ps := ⟨2020, 1, 1⟩, pe := ⟨2020, 1, 31⟩, ev := ⟨2020, 1, 31⟩, values := [("paid_loss", .int 5)] }
def exF2 : Cell :=
  { kind := .cumulative, ps := ⟨2020, 1, 1⟩, pe := ⟨2020, 1, 31⟩, ev := ⟨2020, 3, 31⟩, values := [("paid_loss", .int 7)] }
def exFill : List Cell := [exF1, exF2]

theorem exFill_rows : slicePeriodRows exFill = [(sliceKey exF1, exFill)] := by
  unfold slicePeriodRows
  rw [List.mergeSort_of_pairwise (by decide +kernel)]
  rw [show (exFill.map sliceKey).eraseDups = [sliceKey exF1] by decide +kernel]
  simp only [List.map]
  rw [show exFill.filter (fun c => sliceKey c == sliceKey exF1) = exFill by decide +kernel]
  rw [List.mergeSort_of_pairwise (by decide +kernel)]

theorem exFill_row : fillRow 1 false exFill
    = .ok [exF1, exF2, { exF1 with ev := ⟨2020, 2, 29⟩ }] := by
  unfold fillRow newLags
  simp only [show exFill.head? = some exF1 from rfl, show exFill.getLast? = some exF2 from rfl]
  rw [List.mergeSort_of_pairwise (by decide +kernel)]
  decide +kernel

end Bermuda.Extend
