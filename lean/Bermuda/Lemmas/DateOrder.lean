/-
The order on dates. `a < b` is `Date.cmp a b = .lt` and `a ≤ b` is `Date.cmp a b ≠ .gt`, both by
definition, so every lemma here also reads as a fact about `Date.cmp`. The linear-order facts
come from the `TransCmp`/`LawfulEqCmp` instances of `Lemmas/Order.lean`; only `lt_iff`/`le_iff`
and what speaks of days and months looks at the components.
Core Lean only.
-/
import Bermuda.Model.DateUtils
import Bermuda.Lemmas.Order
namespace Bermuda
open Std
universe u v w

namespace DateOrder
variable {a b c d : Date}

theorem le_iff_isLE : a ≤ b ↔ (Date.cmp a b).isLE := Ordering.isLE_iff_ne_gt.symm

theorem le_iff_not_lt : a ≤ b ↔ ¬ b < a := not_congr OrientedCmp.gt_iff_lt
theorem not_le : ¬ a ≤ b ↔ b < a := Decidable.not_iff_comm.mp le_iff_not_lt.symm
theorem not_lt : ¬ a < b ↔ b ≤ a := le_iff_not_lt.symm

theorem lt_irrefl (a : Date) : ¬ a < a := fun h =>
  Ordering.noConfusion ((ReflCmp.compare_self (cmp := Date.cmp)).symm.trans h)
theorem lt_trans (h₁ : a < b) (h₂ : b < c) : a < c := TransCmp.lt_trans h₁ h₂
theorem lt_asymm (h : a < b) : ¬ b < a := fun h' => lt_irrefl a (lt_trans h h')
theorem le_of_lt (h : a < b) : a ≤ b := le_iff_not_lt.mpr (lt_asymm h)
theorem le_refl (a : Date) : a ≤ a := le_iff_not_lt.mpr (lt_irrefl a)
theorem le_of_eq (h : a = b) : a ≤ b := h ▸ le_refl a
theorem le_trans (h₁ : a ≤ b) (h₂ : b ≤ c) : a ≤ c :=
  le_iff_isLE.mpr (TransCmp.isLE_trans (le_iff_isLE.mp h₁) (le_iff_isLE.mp h₂))
theorem lt_of_lt_of_le (h₁ : a < b) (h₂ : b ≤ c) : a < c :=
  TransCmp.lt_of_lt_of_isLE h₁ (le_iff_isLE.mp h₂)
theorem lt_of_le_of_lt (h₁ : a ≤ b) (h₂ : b < c) : a < c :=
  TransCmp.lt_of_isLE_of_lt (le_iff_isLE.mp h₁) h₂
theorem lt_of_lt_of_not_lt (h₁ : a < b) (h₂ : ¬ c < b) : a < c := lt_of_lt_of_le h₁ (not_lt.mp h₂)
theorem lt_of_not_lt_of_lt (h₁ : ¬ b < a) (h₂ : b < c) : a < c := lt_of_le_of_lt (not_lt.mp h₁) h₂
theorem le_antisymm (h₁ : a ≤ b) (h₂ : b ≤ a) : a = b :=
  LawfulEqCmp.eq_of_compare (OrientedCmp.isLE_antisymm (le_iff_isLE.mp h₁) (le_iff_isLE.mp h₂))
theorem eq_of_not_lt (h₁ : ¬ a < b) (h₂ : ¬ b < a) : a = b :=
  le_antisymm (not_lt.mp h₂) (not_lt.mp h₁)
theorem le_total (a b : Date) : a ≤ b ∨ b ≤ a :=
  (Decidable.em (a ≤ b)).imp_right fun h => le_of_lt (not_le.mp h)
theorem lt_of_le_of_ne (h : a ≤ b) (hne : a ≠ b) : a < b :=
  Decidable.by_contra fun h' => hne (le_antisymm h (not_lt.mp h'))
theorem lt_or_eq_of_le (h : a ≤ b) : a < b ∨ a = b :=
  (Decidable.em (a = b)).symm.imp_left (lt_of_le_of_ne h)
theorem lt_trichotomy (a b : Date) : a < b ∨ a = b ∨ b < a :=
  (Decidable.em (a ≤ b)).elim (fun h => (lt_or_eq_of_le h).imp_right .inl) fun h => .inr (.inr (not_le.mp h))

theorem lt_iff (a b : Date) :
    a < b ↔ a.y < b.y ∨ (a.y = b.y ∧ (a.m < b.m ∨ (a.m = b.m ∧ a.d < b.d))) := by
  show Date.cmp a b = .lt ↔ _
  simp only [Date.cmp, compareLex, cmpOn, Ordering.then_eq_lt, Int.compare_eq_lt, Nat.compare_eq_lt,
    compare_eq_iff_eq]

theorem le_iff (a b : Date) :
    a ≤ b ↔ a.y < b.y ∨ (a.y = b.y ∧ (a.m < b.m ∨ (a.m = b.m ∧ a.d ≤ b.d))) := by
  rw [le_iff_not_lt, lt_iff]; omega

theorem dim_bounds (y : Int) (m : Nat) : 28 ≤ dim y m ∧ dim y m ≤ 31 := by
  unfold dim; split
  · split <;> omega
  all_goals omega

theorem dim_pos (y : Int) (m : Nat) : 0 < dim y m := Nat.lt_of_lt_of_le (by decide) (dim_bounds y m).1

theorem valid_iff (d : Date) : d.valid ↔ 1 ≤ d.m ∧ d.m ≤ 12 ∧ 1 ≤ d.d ∧ d.d ≤ dim d.y d.m := by
  simp [Date.valid, and_assoc]

theorem monthToId_mono (ha : a.m ≤ 12) (h : a ≤ b) : monthToId a ≤ monthToId b := by
  rw [le_iff] at h; unfold monthToId; omega

theorem lt_of_monthToId_lt (hb : b.m ≤ 12) (h : monthToId a < monthToId b) : a < b :=
  not_le.mp fun hba => Int.not_lt.mpr (monthToId_mono hb hba) h

theorem lt_succ (d : Date) : d < d.succ := by
  rw [lt_iff]; unfold Date.succ
  split
  · simp
  · split
    · simp
    · dsimp only; omega

theorem pred_lt (d : Date) : d.pred < d := by
  rw [lt_iff]; unfold Date.pred
  split
  · dsimp only; omega
  · split
    · dsimp only; omega
    · dsimp only; omega

theorem succ_valid (hv : d.valid) : d.succ.valid := by
  obtain ⟨h1, h2, h3, h4⟩ := (valid_iff d).mp hv
  unfold Date.succ
  split
  · rw [valid_iff]; dsimp only; omega
  · split
    · rw [valid_iff]; have := dim_pos d.y (d.m + 1); dsimp only; omega
    · rw [valid_iff]; have := dim_pos (d.y + 1) 1; dsimp only; omega

theorem pred_succ (hv : d.valid) : d.succ.pred = d := by
  obtain ⟨y, m, dd⟩ := d
  obtain ⟨h1, h2, h3, h4⟩ := (valid_iff _).mp hv
  dsimp only at h1 h2 h3 h4
  unfold Date.succ
  dsimp only
  split
  · next h => simp only [Date.pred, show dd + 1 > 1 by omega, if_true, Nat.add_sub_cancel]
  · next h =>
    have : dd = dim y m := by omega
    split
    · next hm => simp [Date.pred, this, show m + 1 > 1 by omega]
    · next hm =>
      have : m = 12 := by omega
      subst this
      have : dd = 31 := by simpa [dim] using this
      simp [Date.pred, this]

theorem succ_pred (hv : d.valid) : d.pred.succ = d := by
  obtain ⟨y, m, dd⟩ := d
  obtain ⟨h1, h2, h3, h4⟩ := (valid_iff _).mp hv
  dsimp only at h1 h2 h3 h4
  unfold Date.pred
  dsimp only
  split
  · next h =>
    simp only [Date.succ, show dd - 1 < dim y m by omega, if_true, Date.mk.injEq, true_and]; omega
  · next h =>
    have : dd = 1 := by omega
    subst this
    split
    · next hm =>
      simp only [Date.succ, Nat.lt_irrefl, if_false, show m - 1 < 12 by omega, if_true, Date.mk.injEq,
        true_and, and_true]
      omega
    · next hm =>
      have : m = 1 := by omega
      subst this
      simp [Date.succ, dim]

theorem succ_le_of_lt (hb : b.valid) (h : a < b) : a.succ ≤ b := by
  obtain ⟨h1, h2, h3, h4⟩ := (valid_iff b).mp hb
  rw [lt_iff] at h
  rw [le_iff]; unfold Date.succ
  split
  · dsimp only; omega
  · next hd =>
    -- `a` is at or past the end of its month, and `b` is a day of its own month
    have : ¬ (a.y = b.y ∧ a.m = b.m) := fun ⟨hy, hm⟩ => by rw [← hy, ← hm] at h4; omega
    split
    · dsimp only; omega
    · dsimp only; omega

/-- no date lies strictly between `b` and `b.succ` -/
theorem not_le_iff_succ_le (hb : b.valid) : ¬ b ≤ a ↔ a.succ ≤ b :=
  not_le.trans ⟨succ_le_of_lt hb, lt_of_lt_of_le (lt_succ a)⟩

theorem le_pred_of_lt (ha : a.valid) (h : a < b) : a ≤ b.pred := by
  obtain ⟨h1, h2, h3, h4⟩ := (valid_iff a).mp ha
  rw [lt_iff] at h
  rw [le_iff]; unfold Date.pred
  split
  · dsimp only; omega
  · split
    · next hm =>
      dsimp only
      have : a.y = b.y → a.m = b.m - 1 → a.d ≤ dim b.y (b.m - 1) := fun hy hm => hy ▸ hm ▸ h4
      omega
    · dsimp only
      have := (dim_bounds a.y a.m).2
      omega

theorem isMonthEnd_iff (d : Date) : d.isMonthEnd = true ↔ d.d = dim d.y d.m := by
  simp [Date.isMonthEnd]

theorem monthFraction_monthEnd {d : Date} (h : d.isMonthEnd = true) : monthFraction d = 1 := by
  unfold monthFraction
  rw [(isMonthEnd_iff d).mp h, Rat.div_def]
  exact Rat.mul_inv_cancel _ fun e => Nat.ne_of_gt (dim_pos d.y d.m) (Rat.natCast_inj.mp e)

theorem devLagMonths_monthEnds {p e : Date} (hp : p.isMonthEnd = true) (he : e.isMonthEnd = true) :
    devLagMonths p e = ((monthToId e - monthToId p : Int) : Rat) := by
  unfold devLagMonths
  rw [monthFraction_monthEnd hp, monthFraction_monthEnd he, Rat.sub_add_cancel]
  congr 1
  unfold monthToId; omega

theorem pred_first {d : Date} (hv : d.valid = true) (hd : d.d = 1) :
    d.pred.valid = true ∧ d.pred.isMonthEnd = true ∧ monthToId d.pred = monthToId d - 1 := by
  obtain ⟨h1, h2, -, -⟩ := (valid_iff d).mp hv
  simp only [isMonthEnd_iff, valid_iff]
  unfold Date.pred monthToId
  rw [if_neg (by omega)]
  split
  · have := dim_pos d.y (d.m - 1)
    exact ⟨by dsimp only; omega, rfl, by dsimp only; omega⟩
  · have : dim (d.y - 1) 12 = 31 := by simp [dim]
    exact ⟨by dsimp only; omega, rfl, by dsimp only; omega⟩

end DateOrder
end Bermuda
