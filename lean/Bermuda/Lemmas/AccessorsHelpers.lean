/-
Helper lemmas for C13 that are not property statements: the `common_metadata` fold, the `num_samples` loop, period
lengths and the spacing of neighbouring lags (through the neighbours of a list, `Lemmas/Accessors`), `_multi_gcd` and
the Spec's `gapsOf`, `experience_gaps`.
-/
import Bermuda.Model.Accessors
import Bermuda.Spec.C13
import Bermuda.Lemmas.Accessors
import Bermuda.Lemmas.Assoc
import Bermuda.Lemmas.ExceptFacts
namespace Bermuda.C13L
open Bermuda Std Bermuda.Spec.C13

theorem pairwise_forall_of_symm {α} {R : α → α → Prop} {l : List α} (hs : ∀ x y, R x y → R y x)
    (h : l.Pairwise R) : ∀ a ∈ l, ∀ b ∈ l, a ≠ b → R a b := fun _ ha _ hb =>
  List.Pairwise.forall_of_forall_of_flip (R := fun x y => x ≠ y → R x y) (fun _ _ e => absurd rfl e)
    (h.imp (S := fun x y => x ≠ y → R x y) fun r _ => r)
    (h.imp (S := fun x y => y ≠ x → R y x) fun r _ => hs _ _ r) ha hb

theorem perm_of_nodup_mem {α} {l₁ l₂ : List α} (h1 : l₁.Nodup) (h2 : l₂.Nodup) (h : ∀ a, a ∈ l₁ ↔ a ∈ l₂) :
    l₁.Perm l₂ := (List.perm_ext_iff_of_nodup h1 h2).mpr h

theorem nodup_eraseDups {α} [BEq α] [LawfulBEq α] : ∀ (l : List α), l.eraseDups.Nodup :=
  Bermuda.nodup_eraseDups

theorem two_le_length_of_mem_ne {α} {L : List α} {a b : α} (ha : a ∈ L) (hb : b ∈ L) (hab : a ≠ b) : 2 ≤ L.length := by
  match L, ha, hb with
  | [x], ha, hb => simp at ha hb; exact absurd (ha.trans hb.symm) hab
  | _ :: _ :: _, _, _ => simp

theorem zip_map_all {α β} (l : List α) (f : α → β) (p : α × β → Bool) :
    ((l.zip (l.map f)).all p) = l.all (fun a => p (a, f a)) := by
  induction l with
  | nil => rfl
  | cons a l ih => simp [ih]

theorem firstIfEqual_eq_some {α} [BEq α] [LawfulBEq α] {a b : Option α} {x : α} :
    firstIfEqual a b = some x ↔ a = some x ∧ b = some x := by
  unfold firstIfEqual
  by_cases h : a = b
  · subst h; simp
  · have : (a == b) = false := by simpa using h
    simp only [this, Bool.false_eq_true, if_false]
    constructor
    · intro h'; cases h'
    · rintro ⟨rfl, rfl⟩; exact absurd rfl h

theorem foldl_both_iff {α} {f : α → α → α} {I S : α → Prop} {rest : List α} (hI : ∀ a, I a → ∀ b ∈ rest, I (f a b))
    (hS : ∀ a, I a → ∀ b ∈ rest, (S (f a b) ↔ S a ∧ S b)) {m : α} (hm : I m) :
    I (rest.foldl f m) ∧ (S (rest.foldl f m) ↔ S m ∧ ∀ m' ∈ rest, S m') := by
  induction rest generalizing m with
  | nil => simpa using hm
  | cons m' rest ih =>
    obtain ⟨h1, h2⟩ := ih (fun a ha b hb => hI a ha b (.tail _ hb)) (fun a ha b hb => hS a ha b (.tail _ hb))
      (hI m hm m' List.mem_cons_self)
    exact ⟨h1, by rw [List.foldl_cons, h2, hS m hm m' List.mem_cons_self, List.forall_mem_cons, and_assoc]⟩

theorem foldl_common_attr {α} [BEq α] [LawfulBEq α] (get : Metadata → Option α)
    (hget : ∀ a b, get (commonMetadata₂ a b) = firstIfEqual (get a) (get b))
    (rest : List Metadata) (m : Metadata) (x : α) :
    get (rest.foldl commonMetadata₂ m) = some x ↔ get m = some x ∧ ∀ m' ∈ rest, get m' = some x :=
  (foldl_both_iff (I := fun _ => True) (S := fun m => get m = some x) (fun _ _ _ _ => trivial)
    (fun a _ b _ => by rw [hget, firstIfEqual_eq_some]) trivial).2

theorem commonMetadata_eq (t : List Cell) : Triangle.commonMetadata t =
    match Triangle.metadata t with
    | [] => .error .indexError
    | m :: rest => .ok (rest.foldl commonMetadata₂ m) := by
  unfold Triangle.commonMetadata
  split <;> rename_i hm <;> rw [hm] <;> rfl

theorem commonMetadata_eq_fold {t : List Cell} {c : Metadata} (h : Triangle.commonMetadata t = .ok c) :
    ∃ m rest, Triangle.metadata t = m :: rest ∧ c = rest.foldl commonMetadata₂ m := by
  rw [commonMetadata_eq] at h
  split at h
  · cases h
  · rename_i m rest hm; cases h; exact ⟨m, rest, hm, rfl⟩

/-- an attribute is kept by `common_metadata` with value `x` iff every slice has it with value `x` -/
theorem common_attr_iff {α} [BEq α] [LawfulBEq α] (get : Metadata → Option α)
    (hget : ∀ a b, get (commonMetadata₂ a b) = firstIfEqual (get a) (get b))
    {t : List Cell} {c : Metadata} (h : Triangle.commonMetadata t = .ok c) (x : α) :
    get c = some x ↔ ∀ m ∈ Triangle.metadata t, get m = some x := by
  obtain ⟨m, rest, hm, rfl⟩ := commonMetadata_eq_fold h
  rw [foldl_common_attr get hget, hm]
  simp only [List.mem_cons, forall_eq_or_imp]

/-- the keys of a dict are distinct (always true of a Python dict) -/
def KeysDistinct (d : Dict MVal) : Prop := d.Pairwise (fun a b => a.1 ≠ b.1)

theorem get?_eq_some_iff {d : Dict MVal} (hd : KeysDistinct d) (k : String) (v : MVal) :
    d.get? k = some v ↔ (k, v) ∈ d := Assoc.get?_eq_some_iff (List.pairwise_map.mpr hd)

/-- `common_metadata(a, b)` filters `a`'s details by `b`'s, but `b`'s loss details by `a`'s -/
theorem mem_common_details {a b : Metadata} (hb : KeysDistinct b.details) (kv : String × MVal) :
    kv ∈ (commonMetadata₂ a b).details ↔ kv ∈ a.details ∧ kv ∈ b.details := by
  show kv ∈ a.details.filter _ ↔ _
  rw [List.mem_filter, beq_iff_eq, get?_eq_some_iff hb]

theorem mem_common_lossDetails {a b : Metadata} (ha : KeysDistinct a.lossDetails) (kv : String × MVal) :
    kv ∈ (commonMetadata₂ a b).lossDetails ↔ kv ∈ a.lossDetails ∧ kv ∈ b.lossDetails := by
  show kv ∈ b.lossDetails.filter _ ↔ _
  rw [List.mem_filter, beq_iff_eq, get?_eq_some_iff ha, and_comm]

theorem foldl_common_details (rest : List Metadata) (m : Metadata)
    (hk : ∀ m' ∈ rest, KeysDistinct m'.details) (kv : String × MVal) :
    kv ∈ (rest.foldl commonMetadata₂ m).details ↔ kv ∈ m.details ∧ ∀ m' ∈ rest, kv ∈ m'.details :=
  (foldl_both_iff (I := fun _ => True) (S := fun m => kv ∈ m.details) (fun _ _ _ _ => trivial)
    (fun _ _ b hb => mem_common_details (hk b hb) kv) trivial).2

theorem foldl_common_lossDetails (rest : List Metadata) (m : Metadata)
    (hm : KeysDistinct m.lossDetails) (hk : ∀ m' ∈ rest, KeysDistinct m'.lossDetails)
    (kv : String × MVal) :
    kv ∈ (rest.foldl commonMetadata₂ m).lossDetails ↔
      kv ∈ m.lossDetails ∧ ∀ m' ∈ rest, kv ∈ m'.lossDetails :=
  (foldl_both_iff (I := fun m => KeysDistinct m.lossDetails) (S := fun m => kv ∈ m.lossDetails) (fun _ _ b hb => (hk b hb).sublist List.filter_sublist)
    (fun _ ha _ _ => mem_common_lossDetails ha kv) hm).2

theorem recombine_attr {α} [BEq α] [LawfulBEq α] (get : Metadata → Option α)
    (hget : ∀ a b, get (commonMetadata₂ a b) = firstIfEqual (get a) (get b))
    {t : List Cell} {c : Metadata} (h : Triangle.commonMetadata t = .ok c)
    {m : Metadata} (hm : m ∈ Triangle.metadata t) :
    (get c).or (if (get c).isNone then get m else none) = get m := by
  cases hc : get c with
  | none => simp
  | some x => simp [(common_attr_iff get hget h x).mp hc m hm]

theorem keysDistinct_unique {d : Dict MVal} (hd : KeysDistinct d) {k : String} {v v' : MVal}
    (h : (k, v) ∈ d) (h' : (k, v') ∈ d) : v = v' := by
  have h1 := (get?_eq_some_iff hd k v).mpr h
  have h2 := (get?_eq_some_iff hd k v').mpr h'
  rw [h1] at h2
  exact Option.some.inj h2

theorem contains_iff {d : Dict MVal} {k : String} : d.contains k = true ↔ ∃ v, (k, v) ∈ d :=
  Dict.contains_iff_mem.trans Dict.mem_keys

theorem keys_contains_eq (d : Dict MVal) (k : String) : d.keys.contains k = d.contains k :=
  ((Dict.contains_eq_isSome d k).trans (Assoc.get?_isSome d k)).symm

theorem keysDistinct_of_canon {d : Dict MVal} (h : DictCanon d) : KeysDistinct d :=
  List.pairwise_map.mp h.nodup_keys

theorem keysDistinct_nodup {d : Dict MVal} (h : KeysDistinct d) : d.Nodup :=
  h.imp (fun {a b} hab e => hab (by rw [e]))

/-- the common metadata's detail dicts have distinct keys when all slices' dicts do -/
theorem foldl_common_keysDistinct (rest : List Metadata) (m : Metadata)
    (hm : KeysDistinct m.details ∧ KeysDistinct m.lossDetails)
    (hk : ∀ m' ∈ rest, KeysDistinct m'.lossDetails) :
    KeysDistinct (rest.foldl commonMetadata₂ m).details ∧
    KeysDistinct (rest.foldl commonMetadata₂ m).lossDetails :=
  (foldl_both_iff (I := fun m => KeysDistinct m.details ∧ KeysDistinct m.lossDetails) (S := fun _ => True)
    (fun _ ha b hb => ⟨ha.1.sublist List.filter_sublist, (hk b hb).sublist List.filter_sublist⟩)
    (fun _ _ _ _ => and_self_iff.symm) hm).1

/-- a key-sorted dict is determined by its items: sorting `common ++ difference` gives back the
slice's (canonical) dict -/
theorem sortItems_recombine {cd dd md : Dict MVal} (hcd : KeysDistinct cd) (hdd : dd.Nodup)
    (hdisj : ∀ kv ∈ dd, cd.contains kv.1 = false) (hmd : DictCanon md)
    (hmem : ∀ kv, kv ∈ cd ++ dd ↔ kv ∈ md) : sortItems (cd ++ dd) = md := by
  have hnd : (cd ++ dd).Nodup := by
    rw [List.nodup_append]
    refine ⟨keysDistinct_nodup hcd, hdd, ?_⟩
    intro x hx y hy e
    have := hdisj y hy
    rw [← e] at this
    have h2 : cd.contains x.1 = true := contains_iff.mpr ⟨x.2, hx⟩
    rw [h2] at this; cases this
  exact sortItems_of_perm_canon
    ((List.perm_ext_iff_of_nodup hnd (keysDistinct_nodup (keysDistinct_of_canon hmd))).mpr hmem) hmd

theorem metadata_ext_fields {a b : Metadata} (h1 : a.riskBasis = b.riskBasis) (h2 : a.country = b.country)
    (h3 : a.currency = b.currency) (h4 : a.reinsuranceBasis = b.reinsuranceBasis)
    (h5 : a.lossDefinition = b.lossDefinition) (h6 : a.limit = b.limit)
    (h7 : a.details = b.details) (h8 : a.lossDetails = b.lossDetails) : a = b := by
  cases a; cases b; simp_all

theorem mem_metadata_iff (t : List Cell) (m : Metadata) :
    m ∈ Triangle.metadata t ↔ m ∈ (t.map (·.md)).eraseDups := by
  unfold Triangle.metadata
  rw [(List.mergeSort_perm _ _).mem_iff, List.mem_eraseDups, List.mem_map, mem_metasOf]

theorem optAttr_of_iff {α} [BEq α] [LawfulBEq α] (get : Metadata → Option α) (metas : List Metadata)
    (c : Metadata) (h : ∀ x, get c = some x ↔ ∀ m ∈ metas, get m = some x) : optAttr get metas c = true := by
  unfold optAttr
  cases hc : get c with
  | some x =>
    simp only [List.all_eq_true, beq_iff_eq]
    exact (h x).mp hc
  | none =>
    simp only [Bool.not_eq_true']
    cases metas with
    | nil => rfl
    | cons m rest =>
      simp only []
      cases hm : get m with
      | none => simp
      | some y =>
        simp only [Option.isSome_some, Bool.true_and]
        rw [← Bool.not_eq_true, List.all_eq_true]
        intro hall
        have : get c = some y := (h y).mpr (by
          intro m' hm'
          rcases List.mem_cons.mp hm' with rfl | hm'
          · exact hm
          · simpa using hall m' hm')
        rw [hc] at this; cases this

theorem dictShared_of_iff (get : Metadata → Dict MVal) (metas : List Metadata) (c : Metadata)
    (h : ∀ kv, kv ∈ get c ↔ ∀ m ∈ metas, kv ∈ get m) : dictShared get metas c = true := by
  unfold dictShared
  simp only [Bool.and_eq_true, List.all_eq_true, List.elem_eq_mem, decide_eq_true_eq]
  refine ⟨fun kv hkv => (h kv).mp hkv, ?_⟩
  cases metas with
  | nil => trivial
  | cons m rest =>
    simp only [List.all_eq_true, not_or_eq_true, decide_eq_true_eq]
    exact fun kv hkv hall => (h kv).mpr (List.forall_mem_cons.mpr ⟨hkv, hall⟩)

theorem maxDate_spec {l : List Date} (hl : l ≠ []) :
    ∃ d, maxDate l = some d ∧ d ∈ l ∧ ∀ x ∈ l, x ≤ d := by
  cases l with
  | nil => exact absurd rfl hl
  | cons a l =>
    obtain ⟨hm, hb⟩ := foldl_best StrictWeak.dateLt.swap l a
    exact ⟨_, foldl_some (g := fun m d => if m < d then d else m) (fun m d => (apply_ite some (m < d) d m).symm) l a, hm,
      fun x hx => DateOrder.not_lt.mp (hb x hx)⟩

theorem numSamples_fold (vs : List Val) (acc : Option Nat) :
    vs.foldlM numSamplesStep acc =
      match acc.toList ++ vs.filterMap (·.sampleSize) with
      | [] => .ok none
      | k :: rest => if ∀ n ∈ rest, n = k then .ok (some k) else .error .valueError := by
  induction vs generalizing acc with
  | nil => cases acc <;> rfl
  | cons v vs ih =>
    rw [List.foldlM_cons]
    cases hs : v.sampleSize with
    | none => rw [List.filterMap_cons_none hs]; simp only [numSamplesStep, hs, ok_bind, ih acc]
    | some n =>
      rw [List.filterMap_cons_some hs]
      cases acc with
      | none => simp only [numSamplesStep, hs, ok_bind, ih (some n)]; rfl
      | some m =>
        by_cases hmn : m = n
        · subst hmn
          simp only [numSamplesStep, hs, bne_self_eq_false, Bool.false_eq_true, if_false, ok_bind,
            ih (some m), Option.toList_some, List.singleton_append, List.forall_mem_cons, true_and]
        · have : ¬ ∀ x ∈ n :: vs.filterMap (·.sampleSize), x = m := fun h => hmn (h n List.mem_cons_self).symm
          simp only [numSamplesStep, hs, bne_iff_ne, ne_eq, hmn, not_false_eq_true, if_true, error_bind,
            Option.toList_some, List.singleton_append, this, if_false]

theorem numSamples_fold_none (vs : List Val) (k : Nat)
    (h : ∀ v ∈ vs, ∀ n, v.sampleSize = some n → n = k) :
    vs.foldlM numSamplesStep none =
      .ok (if vs.any (fun v => v.sampleSize.isSome) then some k else none) := by
  have hk : ∀ n ∈ vs.filterMap (·.sampleSize), n = k := fun n hn => by
    obtain ⟨v, hv, e⟩ := List.mem_filterMap.mp hn; exact h v hv n e
  rw [numSamples_fold, Option.toList_none, List.nil_append]
  cases hS : vs.filterMap (·.sampleSize) with
  | nil =>
    rw [if_neg]
    rw [List.any_eq_true]
    rintro ⟨v, hv, hs⟩
    obtain ⟨n, hn⟩ := Option.isSome_iff_exists.mp hs
    exact List.not_mem_nil (hS ▸ List.mem_filterMap.mpr ⟨v, hv, hn⟩)
  | cons a r =>
    obtain ⟨v, hv, hn⟩ := List.mem_filterMap.mp (hS ▸ List.mem_cons_self : a ∈ vs.filterMap (·.sampleSize))
    obtain rfl := hk a (hS ▸ List.mem_cons_self)
    simp only []
    rw [if_pos fun n hn => hk n (hS ▸ List.mem_cons_of_mem _ hn),
      if_pos (List.any_eq_true.mpr ⟨v, hv, by rw [hn]; rfl⟩)]

theorem numSamples_fold_none_error (vs : List Val)
    (h : ∃ v ∈ vs, ∃ w ∈ vs, ∃ n n', v.sampleSize = some n ∧ w.sampleSize = some n' ∧ n ≠ n') :
    vs.foldlM numSamplesStep none = .error .valueError := by
  obtain ⟨v, hv, w, hw, n, n', hn, hn', hne⟩ := h
  have hv' : n ∈ vs.filterMap (·.sampleSize) := List.mem_filterMap.mpr ⟨v, hv, hn⟩
  have hw' : n' ∈ vs.filterMap (·.sampleSize) := List.mem_filterMap.mpr ⟨w, hw, hn'⟩
  rw [numSamples_fold, Option.toList_none, List.nil_append]
  cases hS : vs.filterMap (·.sampleSize) with
  | nil => rw [hS] at hv'; cases hv'
  | cons a r =>
    rw [hS] at hv' hw'
    -- two members differ, so one of them is not the head
    refine if_neg fun hall => hne ?_
    have key : ∀ x ∈ a :: r, x = a := fun x hx => (List.mem_cons.mp hx).elim id (hall x)
    rw [key n hv', key n' hw']

theorem strictAsc_of_pairwise {α} {cmp : α → α → Ordering} {l : List α}
    (h : l.Pairwise (fun a b => cmp a b = .lt)) : strictAsc cmp l = true := by
  induction l with
  | nil => rfl
  | cons a l ih =>
    cases l with
    | nil => rfl
    | cons b r =>
      have h' := List.pairwise_cons.mp h
      simp only [strictAsc, Bool.and_eq_true, beq_iff_eq]
      exact ⟨h'.1 b (by simp), ih h'.2⟩

/-- strictly ascending + same members ⇒ the executable `sortedDistinct` holds -/
theorem sortedDistinct_of {α} [BEq α] [LawfulBEq α] {cmp : α → α → Ordering} {present out : List α}
    (h1 : out.Pairwise (fun a b => cmp a b = .lt)) (h2 : ∀ x, x ∈ out ↔ x ∈ present) :
    sortedDistinct cmp present out = true := by
  simp only [sortedDistinct, Bool.and_eq_true, List.all_eq_true, List.contains_iff_mem]
  exact ⟨⟨strictAsc_of_pairwise h1, fun x hx => (h2 x).mp hx⟩, fun x hx => (h2 x).mpr hx⟩

theorem sortedDistinct_sortedDedup {α : Type} [DecidableEq α] [BEq α] [LawfulBEq α] {cmp : α → α → Ordering}
    [TransCmp cmp] (heq : ∀ a b, cmp a b = .eq → a = b) (l : List α) :
    sortedDistinct cmp l (sortedDedup cmp l) = true :=
  sortedDistinct_of (sortedDedup_spec heq l).1 (sortedDedup_spec heq l).2

theorem duration_eq_iff (u : LagUnit) (a b : Cell) :
    duration u a = duration u b ↔ periodLength u a.period = periodLength u b.period := by
  cases u
  · exact Iff.rfl
  all_goals
    simp only [duration, periodLength, Cell.period, Rat.intCast_inj]
    omega

theorem monthFraction_monthEnd {d : Date} (h : d.d = dim d.y d.m) : monthFraction d = 1 :=
  DateOrder.monthFraction_monthEnd ((DateOrder.isMonthEnd_iff d).mpr h)

theorem ratCmp_lt_iff (a b : Rat) : ratCmp a b = .lt ↔ a < b := ratCmp_eq_lt

/-- consecutive differences all equal `d` -/
def constDiffC13 (d : Rat) : List Rat → Prop
  | a :: b :: r => b - a = d ∧ constDiffC13 d (b :: r)
  | _ => True

/-- the documented "constant lag spacing" over a set of lags: neighbouring lags (no lag strictly
in between) are equally far apart -/
def SpacedC13 (S : Rat → Prop) : Prop :=
  ∀ x y z, S x → S y → S z → x < y → y < z →
    (∀ w, S w → ¬ (x < w ∧ w < y)) → (∀ w, S w → ¬ (y < w ∧ w < z)) → y - x = z - y

theorem spaced_iff_adjacent {l : List Rat} (hs : l.Pairwise (· < ·)) :
    SpacedC13 (· ∈ l) ↔ ∀ x y z, (x, y) ∈ adjacentPairs l → (y, z) ∈ adjacentPairs l → y - x = z - y := by
  have hb := fun {x y : Rat} => mem_adjacentPairs_iff_between (fun a : Rat => Rat.lt_irrefl)
    (fun _ _ _ => StrictWeak.ratLt.trans) hs (x := x) (y := y)
  constructor
  · intro h x y z hxy hyz
    obtain ⟨hx, hy, h1, n1⟩ := hb.mp hxy
    obtain ⟨-, hz, h2, n2⟩ := hb.mp hyz
    exact h x y z hx hy hz h1 h2 n1 n2
  · intro h x y z hx hy hz h1 h2 n1 n2
    exact h x y z (hb.mpr ⟨hx, hy, h1, n1⟩) (hb.mpr ⟨hy, hz, h2, n2⟩)

theorem spaced_iff_constDiff (a b : Rat) (r : List Rat) (hs : (a :: b :: r).Pairwise (· < ·)) :
    SpacedC13 (· ∈ a :: b :: r) ↔ constDiffC13 (b - a) (b :: r) := by
  rw [spaced_iff_adjacent hs]
  induction r generalizing a b with
  | nil =>
    simp only [constDiffC13, iff_true]
    intro x y z hxy hyz
    cases List.mem_singleton.mp hxy
    cases List.mem_singleton.mp hyz
    rfl
  | cons c r ih =>
    obtain ⟨ha, hs'⟩ := List.pairwise_cons.mp hs
    obtain ⟨hb, -⟩ := List.pairwise_cons.mp hs'
    rw [constDiffC13, and_congr_right fun e : c - b = b - a => by rw [← e, ← ih b c hs']]
    constructor
    · intro h
      have e : b - a = c - b := h a b c List.mem_cons_self (List.mem_cons_of_mem _ List.mem_cons_self)
      exact ⟨e.symm, fun x y z hxy hyz => h x y z (List.mem_cons_of_mem _ hxy) (List.mem_cons_of_mem _ hyz)⟩
    · rintro ⟨e, h⟩ x y z hxy hyz
      -- the pair in front is followed by the head pair of the rest only: no other pair starts at `b` or ends at `a`
      rw [adjacentPairs_cons_cons, List.mem_cons] at hxy hyz
      rcases hxy with hxy | hxy
      · obtain ⟨ex, ey⟩ := Prod.mk.inj hxy
        rcases hyz with hyz | hyz
        · exact absurd (ha b (by simp)) (ey ▸ (Prod.mk.inj hyz).1 ▸ Rat.lt_irrefl)
        · rw [adjacentPairs_cons_cons, List.mem_cons] at hyz
          rcases hyz with hyz | hyz
          · rw [ex, ey, (Prod.mk.inj hyz).2]; exact e.symm
          · exact absurd (hb y (mem_of_mem_adjacentPairs hyz).1) (ey ▸ Rat.lt_irrefl)
      · rcases hyz with hyz | hyz
        · exact absurd (ha y (mem_of_mem_adjacentPairs hxy).2) ((Prod.mk.inj hyz).1 ▸ Rat.lt_irrefl)
        · exact h x y z hxy hyz

theorem zip_all_iff_constDiff (d : Rat) (l1 : Rat) (rest : List Rat) :
    (((l1 :: rest).zip rest).all fun (pn : Rat × Rat) => pn.2 - pn.1 == d) = true ↔
      constDiffC13 d (l1 :: rest) := by
  induction rest generalizing l1 with
  | nil => simp [constDiffC13]
  | cons x rest ih =>
    simp only [List.zip_cons_cons, List.all_cons, Bool.and_eq_true, beq_iff_eq, constDiffC13]
    rw [ih x]

theorem not_between_iff {x w y : Rat} : (!(decide (x < w) && decide (w < y))) = true ↔ ¬ (x < w ∧ w < y) := by
  simp only [Bool.not_eq_true', Bool.and_eq_false_iff, decide_eq_false_iff_not]
  exact Decidable.not_and_iff_not_or_not.symm

theorem noneBetween_iff (L : List Rat) (x y : Rat) :
    (L.all fun w => !(decide (x < w) && decide (w < y))) = true ↔ ∀ w ∈ L, ¬ (x < w ∧ w < y) := by
  simp only [List.all_eq_true, not_between_iff]

theorem spaced_congr {S S' : Rat → Prop} (h : ∀ x, S x ↔ S' x) : SpacedC13 S ↔ SpacedC13 S' := by
  have : S = S' := funext fun x => propext (h x)
  rw [this]

theorem leInt_eq : (fun a b : Int => intCmp a b != .gt) = (fun a b => decide (a ≤ b)) := by
  funext a b
  rw [Bool.eq_iff_iff]
  simp only [intCmp, bne_iff_ne, ne_eq, Int.compare_eq_gt, decide_eq_true_eq]
  omega

theorem mergeSort_int_perm {l₁ l₂ : List Int} (hp : l₁.Perm l₂) :
    l₁.mergeSort (fun a b => intCmp a b != .gt) = l₂.mergeSort (fun a b => intCmp a b != .gt) :=
  mergeSort_perm_invariant (cmp := intCmp) hp (fun a b _ _ h => by simpa [intCmp] using h)

theorem sorted_int_mergeSort (l : List Int) :
    (l.mergeSort (fun a b => intCmp a b != .gt)).Pairwise (· ≤ ·) := by
  have := sorted_mergeSort (cmp := intCmp) l
  refine this.imp ?_
  intro a b h
  have := congrFun (congrFun leInt_eq a) b
  simp only [leOf] at h
  rw [this] at h
  simpa using h

theorem sorted_int_mergeSort' (l : List Int) : (l.mergeSort (fun a b => decide (a ≤ b))).Pairwise (· ≤ ·) :=
  pairwise_sortInt l

theorem sorted_nodup_int_lt {L : List Int} (hs : L.Pairwise (· ≤ ·)) (hn : L.Nodup) : L.Pairwise (· < ·) :=
  (hs.and hn).imp fun ⟨h1, h2⟩ => Int.lt_iff_le_and_ne.mpr ⟨h1, h2⟩

theorem diffs_eq_zip (ys : List Int) : diffs ys = (ys.zip ys.tail).map fun (p : Int × Int) => p.2 - p.1 := rfl

theorem diffs_cons_cons (a b : Int) (r : List Int) : diffs (a :: b :: r) = (b - a) :: diffs (b :: r) := rfl

theorem mem_diffs {l : List Int} {g : Int} (h : g ∈ diffs l) : ∃ a ∈ l, ∃ b ∈ l, g = b - a := by
  obtain ⟨pq, hpq, rfl⟩ := List.mem_map.mp h
  exact ⟨_, (mem_of_mem_adjacentPairs hpq).1, _, (mem_of_mem_adjacentPairs hpq).2, rfl⟩

theorem diffs_length (l : List Int) : (diffs l).length = l.length - 1 := by
  simp [diffs_eq_zip, List.length_zip]

theorem diffs_forall {R : Int → Int → Prop} {P : Int → Prop} (hR : ∀ a b, R a b → P (b - a)) {l : List Int}
    (h : l.Pairwise R) : ∀ g ∈ diffs l, P g := by
  intro g hg
  obtain ⟨pq, hpq, rfl⟩ := List.mem_map.mp hg
  exact hR _ _ (rel_of_mem_adjacentPairs h hpq)

theorem diffs_pos {l : List Int} (h : l.Pairwise (· < ·)) : ∀ g ∈ diffs l, 0 < g :=
  diffs_forall (fun a b (hab : a < b) => by omega) h

theorem diffs_nonneg {l : List Int} (h : l.Pairwise (· ≤ ·)) : ∀ g ∈ diffs l, 0 ≤ g :=
  diffs_forall (fun a b (hab : a ≤ b) => by omega) h

/-- congruence modulo `d` is transitive, so it holds of neighbours iff it holds of all pairs: the common divisors of
the gaps depend on the set of members only -/
theorem dvd_diffs_iff (d : Int) (L : List Int) :
    (∀ g ∈ diffs L, d ∣ g) ↔ ∀ a ∈ L, ∀ b ∈ L, d ∣ b - a := by
  have htr : ∀ a b c : Int, d ∣ b - a → d ∣ c - b → d ∣ c - a := fun a b c h1 h2 => by
    have := Int.dvd_add h1 h2; rwa [show b - a + (c - b) = c - a by omega] at this
  have hsym : ∀ a b : Int, d ∣ b - a → d ∣ a - b := fun a b h => by
    have := Int.dvd_neg.mpr h; rwa [show -(b - a) = a - b by omega] at this
  show (∀ g ∈ (adjacentPairs L).map _, d ∣ g) ↔ _
  rw [List.forall_mem_map, adjacentPairs_forall_iff_pairwise (R := fun a b => d ∣ b - a) fun a _ b _ c _ => htr a b c]
  exact ⟨fun h a ha b hb => List.Pairwise.forall_of_forall_of_flip (R := fun a b => d ∣ b - a)
      (fun x _ => by simp) h (h.imp fun {a b} => hsym a b) ha hb, List.pairwise_of_forall_mem_list⟩

theorem multiGcd_eq {xs : List Int} {r : Int} (h : multiGcd xs = .ok r) :
    ∃ x rest, dedup xs = x :: rest ∧ r = rest.foldl (fun r z => (Int.gcd r z : Int)) x := by
  unfold multiGcd at h
  split at h
  · cases h
  · rename_i y hy; cases h; exact ⟨_, [], hy, rfl⟩
  · rename_i a b rest hy; cases h; exact ⟨a, b :: rest, hy, rfl⟩

theorem multiGcd_nonneg {xs : List Int} {r : Int} (hx : ∀ x ∈ xs, 0 ≤ x) (h : multiGcd xs = .ok r) : 0 ≤ r := by
  obtain ⟨x, rest, hd, rfl⟩ := multiGcd_eq h
  exact gcdFold_nonneg _ (hx x (mem_dedup.mp (by rw [hd]; simp)))

theorem pos_of_dvd_pos {r g : Int} (h0 : 0 ≤ r) (hd : r ∣ g) (hg : 0 < g) : 0 < r := by
  rcases Int.lt_or_eq_of_le h0 with h | h
  · exact h
  · rw [← h] at hd
    have := Int.zero_dvd.mp hd
    omega

theorem multiGcd_ok {xs : List Int} (hx : xs ≠ []) : ∃ r, multiGcd xs = .ok r := by
  unfold multiGcd
  split
  · rename_i hd
    cases xs with
    | nil => exact absurd rfl hx
    | cons a l =>
      have : a ∈ dedup (a :: l) := mem_dedup.mpr (by simp)
      rw [hd] at this; simp at this
  · exact ⟨_, rfl⟩
  · exact ⟨_, rfl⟩

/-- the shape shared by `period_resolution` and `eval_date_resolution`: `None` when there is no gap,
else the gcd of the gaps -/
theorem resolution_some {g : List Int} {r : Int}
    (h : (if g.isEmpty then Except.ok none else (multiGcd g).map some) = .ok (some r)) :
    g.isEmpty = false ∧ multiGcd g = .ok r := by
  split at h
  · cases h
  · rename_i hne
    cases hg : multiGcd g with
    | error e => rw [hg] at h; cases h
    | ok v => rw [hg] at h; cases h; exact ⟨by simpa using hne, rfl⟩

theorem resolution_of_ne_nil {g : List Int} (h : g ≠ []) :
    ∃ r, (if g.isEmpty then Except.ok none else (multiGcd g).map some) = .ok (some r) := by
  obtain ⟨r, hr⟩ := multiGcd_ok h
  exact ⟨r, by rw [if_neg (by simpa using h), hr]; rfl⟩

theorem resolution_none {g : List Int}
    (h : (if g.isEmpty then Except.ok none else (multiGcd g).map some) = .ok none) :
    g.isEmpty = true := by
  split at h
  · assumption
  · cases hg : multiGcd g with
    | error e => rw [hg] at h; cases h
    | ok v => rw [hg] at h; cases h

/-- the executable `resolutionSpec` from its Prop content -/
theorem resolutionSpec_of {gaps : List Int} {r : Int} (h0 : 0 ≤ r) (h1 : ∀ g ∈ gaps, r ∣ g)
    (h2 : ∀ d : Int, (∀ g ∈ gaps, d ∣ g) → d ∣ r) : resolutionSpec gaps r = true := by
  simp only [resolutionSpec, Bool.and_eq_true, decide_eq_true_eq, List.all_eq_true, beq_iff_eq, Bool.or_eq_true,
    Bool.not_eq_true']
  refine ⟨⟨h0, fun g hg => Int.emod_eq_zero_of_dvd (h1 g hg)⟩, ?_⟩
  intro d _
  by_cases hall : ∀ g ∈ gaps, g % (d : Int) = 0
  · right
    exact Int.emod_eq_zero_of_dvd (h2 d (fun g hg => Int.dvd_of_emod_eq_zero (hall g hg)))
  · left; right
    rw [← Bool.not_eq_true, List.all_eq_true]
    intro h'
    exact hall (fun g hg => by simpa using h' g hg)

theorem monthToId_mono' {a b : Date} (ha : a.valid = true) (hb : b.valid = true) (h : a ≤ b) :
    monthToId a ≤ monthToId b :=
  DateOrder.monthToId_mono ((DateOrder.valid_iff a).mp ha).2.1 h

theorem gapsOf_true (xs : List Int) :
    gapsOf xs true = diffs (xs.eraseDups.mergeSort fun a b => decide (a ≤ b)) := rfl

theorem gapsOf_false (xs : List Int) : gapsOf xs false = diffs (xs.mergeSort fun a b => decide (a ≤ b)) := rfl

theorem dvd_gapsOf_iff (d : Int) (xs : List Int) (b : Bool) :
    (∀ g ∈ gapsOf xs b, d ∣ g) ↔ ∀ x ∈ xs, ∀ y ∈ xs, d ∣ y - x := by
  cases b
  · rw [gapsOf_false, dvd_diffs_iff]; simp only [(List.mergeSort_perm _ _).mem_iff]
  · rw [gapsOf_true, dvd_diffs_iff]; simp only [(List.mergeSort_perm _ _).mem_iff, List.mem_eraseDups]

theorem gapsOf_nonneg (xs : List Int) (b : Bool) : ∀ g ∈ gapsOf xs b, 0 ≤ g := by
  cases b <;> exact diffs_nonneg (sorted_int_mergeSort' _)

theorem gapsOf_pos (xs : List Int) : ∀ g ∈ gapsOf xs true, 0 < g :=
  diffs_pos (sorted_nodup_int_lt (sorted_int_mergeSort' _)
    ((List.mergeSort_perm _ _).nodup_iff.mpr (nodup_eraseDups _)))

theorem gapsOf_length (xs : List Int) (b : Bool) :
    (gapsOf xs b).length = (if b then xs.eraseDups else xs).length - 1 := by
  cases b
  · rw [gapsOf_false, diffs_length, List.length_mergeSort]; rfl
  · rw [gapsOf_true, diffs_length, List.length_mergeSort]; rfl

theorem gapsOf_true_ne_nil_iff (xs : List Int) : gapsOf xs true ≠ [] ↔ ∃ a ∈ xs, ∃ b ∈ xs, a ≠ b := by
  have h2 := two_le_length_iff (nodup_eraseDups xs)
  simp only [List.mem_eraseDups] at h2
  rw [← h2, ← List.length_pos_iff, gapsOf_length]
  simp only [if_true]
  omega

theorem diffs_sortedDedup {L L' : List Int} (h : ∀ x, x ∈ L ↔ x ∈ L') :
    diffs (sortedDedup intCmp L) = gapsOf L' true := by
  rw [gapsOf_true, ← leInt_eq]
  exact congrArg diffs (mergeSort_int_perm (perm_of_nodup_mem (nodup_dedup _) (nodup_eraseDups _) fun x => by
    rw [mem_dedup, List.mem_eraseDups, h]))

theorem diffs_mergeSort {L L' : List Int} (h : L.Perm L') :
    diffs (L.mergeSort fun a b => intCmp a b != .gt) = gapsOf L' false := by
  rw [gapsOf_false, ← leInt_eq]
  exact congrArg diffs (mergeSort_int_perm h)

theorem Date.lt_succ' (d : Date) : d < d.succ := DateOrder.lt_succ d

theorem Date.pred_lt' (d : Date) : d.pred < d := DateOrder.pred_lt d

/-- the function `experience_gaps` maps over neighbouring periods -/
def gapF (pq : Period × Period) : Option Period :=
  if pq.2.1 != pq.1.2.succ then some (pq.1.2.succ, pq.2.1.pred) else none

theorem gapF_eq_some_iff {pq : Period × Period} {g : Period} :
    gapF pq = some g ↔ pq.2.1 ≠ pq.1.2.succ ∧ g = (pq.1.2.succ, pq.2.1.pred) := by
  unfold gapF
  split
  · rename_i h; simp [bne_iff_ne.mp h, eq_comm]
  · rename_i h; simp [Decidable.of_not_not (mt bne_iff_ne.mpr h)]

theorem gapF_of_ne {a b : Period} (h : b.1 ≠ a.2.succ) : gapF (a, b) = some (a.2.succ, b.1.pred) :=
  gapF_eq_some_iff.mpr ⟨h, rfl⟩

theorem experienceGaps_eq (t : List Cell) :
    Triangle.experienceGaps t = (adjacentPairs (Triangle.periods t)).filterMap gapF := rfl

/-- proper periods with valid dates -/
def ProperP (p : Period) : Prop := p.1.valid = true ∧ p.2.valid = true ∧ p.1 ≤ p.2

theorem gapF_range {a b : Period} {g : Period} (ha : ProperP a) (hb : ProperP b) (hab : a.2 < b.1)
    (hg : gapF (a, b) = some g) : g = (a.2.succ, b.1.pred) ∧ g.1 ≤ g.2 ∧ a.2 < g.1 ∧ g.2 < b.1 := by
  obtain ⟨hne, rfl⟩ := gapF_eq_some_iff.mp hg
  refine ⟨rfl, ?_, DateOrder.lt_succ _, DateOrder.pred_lt _⟩
  exact DateOrder.le_pred_of_lt (DateOrder.succ_valid ha.2.1)
    (DateOrder.lt_of_le_of_ne (DateOrder.succ_le_of_lt hb.1 hab) (Ne.symm hne))

/-- **every reported gap is a non-empty day range that touches no period**, for start-sorted proper periods that
are pairwise apart -/
theorem gaps_sound {P : List Period} (hv : ∀ p ∈ P, ProperP p) (hp : P.Pairwise (fun a b => a.2 < b.1))
    {g : Period} (hg : g ∈ (adjacentPairs P).filterMap gapF) :
    g.1 ≤ g.2 ∧ (∀ p ∈ P, p.2 < g.1 ∨ g.2 < p.1) ∧ (∃ p ∈ P, p.2.succ = g.1) ∧ (∃ q ∈ P, q.1.pred = g.2) := by
  obtain ⟨⟨a, b⟩, hab, hgf⟩ := List.mem_filterMap.mp hg
  obtain ⟨ha, hb⟩ := mem_of_mem_adjacentPairs hab
  obtain ⟨rfl, r1, r2, r3⟩ := gapF_range (hv a ha) (hv b hb) (rel_of_mem_adjacentPairs hp hab) hgf
  refine ⟨r1, fun p hpm => ?_, ⟨a, ha, rfl⟩, ⟨b, hb, rfl⟩⟩
  -- a period before `a` ends before `a` starts, one behind `b` starts after `b` ends
  rcases mem_cases_of_adjacent hp hab hpm with h | rfl | rfl | h
  · exact Or.inl (DateOrder.lt_of_lt_of_le h (DateOrder.le_trans (hv a ha).2.2 (DateOrder.le_of_lt r2)))
  · exact Or.inl r2
  · exact Or.inr r3
  · exact Or.inr (DateOrder.lt_of_lt_of_le r3 (DateOrder.le_trans (hv b hb).2.2 (DateOrder.le_of_lt h)))

/-- **the gaps are complete**: a day from the first period start to the last period end lies in a period or in a
reported gap -/
theorem gaps_complete {P : List Period} (hv : ∀ p ∈ P, ProperP p) (hp : P.Pairwise (fun a b => a.2 < b.1))
    {d : Date} (hd : d.valid = true) (h1 : ∃ p ∈ P, p.1 ≤ d) (h2 : ∃ q ∈ P, d ≤ q.2) :
    (∃ p ∈ P, p.1 ≤ d ∧ d ≤ p.2) ∨ ∃ g ∈ (adjacentPairs P).filterMap gapF, g.1 ≤ d ∧ d ≤ g.2 := by
  cases P with
  | nil => obtain ⟨p, hp, _⟩ := h1; simp at hp
  | cons a l =>
    -- the first period starts no later than `d`; follow "starts no later than `d`" along the list
    have had : a.1 ≤ d := by
      obtain ⟨p, hpm, hpd⟩ := h1
      rcases List.mem_cons.mp hpm with rfl | hpm
      · exact hpd
      · exact DateOrder.le_trans (hv a (by simp)).2.2
          (DateOrder.le_trans (DateOrder.le_of_lt ((List.pairwise_cons.mp hp).1 p hpm)) hpd)
    rcases adjacent_switch (fun p : Period => p.1 ≤ d) a l had with h | ⟨x, y, hxy, hxd, hyd⟩
    · obtain ⟨q, hq, hqd⟩ := h2
      exact Or.inl ⟨q, hq, h q hq, hqd⟩
    · by_cases hdx : d ≤ x.2
      · exact Or.inl ⟨x, (mem_of_mem_adjacentPairs hxy).1, hxd, hdx⟩
      · have h1 : x.2.succ ≤ d := DateOrder.succ_le_of_lt hd (DateOrder.not_le.mp hdx)
        have hyd' : d < y.1 := DateOrder.not_le.mp hyd
        exact Or.inr ⟨(x.2.succ, y.1.pred), List.mem_filterMap.mpr
          ⟨(x, y), hxy, gapF_of_ne fun e => DateOrder.not_le.mpr hyd' (e ▸ h1)⟩, h1, DateOrder.le_pred_of_lt hd hyd'⟩

/-- the gaps ascend (strictly, by their first day) -/
theorem gaps_ascending {P : List Period} (hv : ∀ p ∈ P, ProperP p) (hp : P.Pairwise (fun a b => a.2 < b.1)) :
    ((adjacentPairs P).filterMap gapF).Pairwise (fun g g' => g.1 < g'.1) := by
  -- the periods end in ascending order, and a gap starts the day after the first of two neighbours ends
  have he : P.Pairwise (fun a b => a.2 < b.2) :=
    hp.imp_of_mem fun _ hb h => DateOrder.lt_of_lt_of_le h (hv _ hb).2.2
  refine (pairwise_adjacentPairs_fst he).imp_of_mem (fun {pq pq'} _ hq h => ?_) |>.filterMap gapF fun _ _ h => h
  intro g hg g' hg'
  rw [(gapF_eq_some_iff.mp hg).2, (gapF_eq_some_iff.mp hg').2]
  exact DateOrder.lt_of_le_of_lt (DateOrder.succ_le_of_lt (hv _ (mem_of_mem_adjacentPairs hq).1).2.1 h) (DateOrder.lt_succ _)

/-- every period end is the last end, or is continued the next day, or opens a reported gap -/
theorem gaps_open {P : List Period} (hv : ∀ p ∈ P, ProperP p) (hp : P.Pairwise (fun a b => a.2 < b.1)) :
    ∀ p ∈ P, (∀ q ∈ P, q.2 ≤ p.2) ∨ (∃ q ∈ P, q.1 = p.2.succ) ∨
      ∃ g ∈ (adjacentPairs P).filterMap gapF, g.1 = p.2.succ := by
  intro p hpm
  obtain ⟨l1, l2, rfl⟩ := List.append_of_mem hpm
  cases l2 with
  | nil =>
    left; intro q hq
    rcases List.mem_append.mp hq with h | h
    · exact DateOrder.le_of_lt (DateOrder.lt_of_lt_of_le ((List.pairwise_append.mp hp).2.2 q h p (by simp))
        (hv p hpm).2.2)
    · rw [List.mem_singleton.mp h]; exact DateOrder.le_refl _
  | cons b r =>
    right
    by_cases hb : b.1 = p.2.succ
    · exact Or.inl ⟨b, by simp, hb⟩
    · exact Or.inr ⟨_, List.mem_filterMap.mpr ⟨(p, b), mem_adjacentPairs_iff.mpr ⟨l1, r, rfl⟩, gapF_of_ne hb⟩, rfl⟩

end Bermuda.C13L
