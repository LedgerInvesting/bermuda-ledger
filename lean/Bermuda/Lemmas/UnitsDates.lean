/-
Calendar lemmas for C18 (`disagg_tiling`, `aggregate_disagg`): integer month offsets from a first-of-month
date, through the C12 lemmas of `Lemmas/DateUtils.lean`; the sub-periods in closed form (`subOf`), consecutive,
the observable ones a prefix (`obsSubs_range`).
-/
import Bermuda.Lemmas.DateUtils
import Bermuda.Spec.C18

namespace Bermuda.Units
open Bermuda Bermuda.Spec.C18

/-- sub-period `k` of a period starting on the first of month `M0` -/
def subOf (M0 : Int) (res k : Nat) : Date × Date :=
  (firstOf (M0 + (k * res : Nat)), monthEndOf (M0 + ((k + 1) * res : Nat) - 1))

/-- from 1970 on (`h70`): `addMonths` is characterised for month ids ≥ 0 only, `add_months` mis-rounds before 1970 (C12) -/
theorem subperiods_firstOf {ps : Date} (hd : ps.d = 1) (h70 : 0 ≤ monthToId ps) (res n : Nat) :
    subperiods ps res n = (List.range n).map (subOf (monthToId ps) res) := by
  unfold subperiods subOf
  apply List.map_congr_left
  intro k _
  rw [addMonths_natCast, addMonths_natCast, addMonths_firstOf ps _ hd (by omega),
    periodEnd_of_first _ hd _ (by omega)]

theorem subOf_start_le_end (M0 : Int) {res : Nat} (hr : 1 ≤ res) (k : Nat) :
    (subOf M0 res k).1 ≤ (subOf M0 res k).2 := by
  have : (k + 1) * res = k * res + res := Nat.succ_mul k res
  unfold subOf
  simp only [cal]
  omega

theorem subOf_start_ge (M0 : Int) (res k : Nat) : firstOf M0 ≤ (subOf M0 res k).1 := by
  unfold subOf
  simp only [cal]
  omega

theorem subOf_end_lt {M0 : Int} {res : Nat} (hr : 1 ≤ res) {j k : Nat} (h : j < k) :
    (subOf M0 res j).2 < (subOf M0 res k).2 := by
  have : (j + 1) * res < (k + 1) * res := Nat.mul_lt_mul_of_pos_right (by omega) (by omega)
  unfold subOf
  simp only [cal]
  omega

theorem range_filter_lt (m n : Nat) (h : n ≤ m) (q : Nat → Bool) :
    (List.range m).filter (fun k => decide (k < n) && q k) = (List.range n).filter q := by
  obtain ⟨d, rfl⟩ : ∃ d, m = n + d := ⟨m - n, by omega⟩
  rw [List.range_add, List.filter_append]
  have h1 : (List.range n).filter (fun k => decide (k < n) && q k) = (List.range n).filter q := by
    apply List.filter_congr
    intro k hk
    have : k < n := by simpa using hk
    simp [this]
  have h2 : ((List.range d).map (n + ·)).filter (fun k => decide (k < n) && q k) = [] := by
    rw [List.filter_eq_nil_iff]
    intro k hk
    obtain ⟨j, _, rfl⟩ := List.mem_map.mp hk
    simp
  rw [h1, h2, List.append_nil]

theorem expectedSubs_eq {c : Cell} {res n : Nat} (hr : 1 ≤ res) (hd : c.ps.d = 1)
    (h70 : 0 ≤ monthToId c.ps) (hn : 1 ≤ n)
    (hpe : c.pe = (addMonths c.ps ((n * res : Nat) : Rat)).pred) :
    expectedSubs res c = obsSubs c res n := by
  have hpe' : c.pe = monthEndOf (monthToId c.ps + ((n * res : Nat) : Int) - 1) := by
    rw [hpe, addMonths_natCast, periodEnd_of_first _ hd _ (by omega)]
  have hpos : 1 ≤ n * res := Nat.mul_le_mul hn hr
  have hmonths : monthsIn c = n * res := by
    unfold monthsIn
    rw [hpe', monthToId_monthEndOf]; omega
  have hlast : c.pe = (subOf (monthToId c.ps) res (n - 1)).2 := by
    rw [hpe']; unfold subOf; simp only
    have : n - 1 + 1 = n := by omega
    rw [this]
  unfold expectedSubs obsSubs
  rw [hmonths, subperiods_firstOf hd h70, subperiods_firstOf hd h70, List.filter_map, List.filter_map]
  congr 1
  rw [← range_filter_lt (n * res) n (Nat.le_mul_of_pos_right n hr) _]
  apply List.filter_congr
  intro k _
  simp only [Function.comp]
  congr 1
  -- end of sub-period k is within the period iff k < n
  by_cases hk : k < n
  · have : (subOf (monthToId c.ps) res k).2 ≤ c.pe := by
      rw [hlast]
      rcases Nat.lt_or_eq_of_le (by omega : k ≤ n - 1) with h | h
      · exact DateOrder.le_of_lt (subOf_end_lt hr h)
      · rw [h]; exact DateOrder.le_refl _
    simp [hk, this]
  · have : ¬ (subOf (monthToId c.ps) res k).2 ≤ c.pe := by
      rw [DateOrder.le_iff_not_lt, not_not, hlast]
      exact subOf_end_lt hr (by omega)
    simp [hk, this]

theorem subOf_consecutive (M0 : Int) (res k : Nat) :
    (subOf M0 res (k + 1)).1 = (subOf M0 res k).2.succ := by
  unfold subOf
  simp only [cal]
  omega

theorem range_filter_prefix (n : Nat) (q : Nat → Bool) (hq : ∀ j k, j < k → q k = true → q j = true) :
    ∃ j, j ≤ n ∧ (List.range n).filter q = List.range j := by
  induction n with
  | zero => exact ⟨0, Nat.le_refl _, rfl⟩
  | succ m ih =>
    rw [List.range_succ, List.filter_append]
    by_cases hm : q m = true
    · refine ⟨m + 1, Nat.le_refl _, ?_⟩
      have : (List.range m).filter q = List.range m := by
        rw [List.filter_eq_self]
        intro j hj
        exact hq j m (by simpa using hj) hm
      rw [this, List.range_succ]; simp [hm]
    · obtain ⟨j, hj, he⟩ := ih
      refine ⟨j, by omega, ?_⟩
      rw [he]; simp [hm]

theorem obsSubs_range {c : Cell} {res : Nat} (hr : 1 ≤ res) (hd : c.ps.d = 1)
    (h70 : 0 ≤ monthToId c.ps) (n : Nat) :
    ∃ j, j ≤ n ∧ obsSubs c res n = (List.range j).map (subOf (monthToId c.ps) res) ∧
      ∀ k, k < n → (k < j ↔ (subOf (monthToId c.ps) res k).2 ≤ c.ev) := by
  unfold obsSubs
  rw [subperiods_firstOf hd h70, List.filter_map]
  obtain ⟨j, hj, he⟩ := range_filter_prefix n
    ((fun p : Date × Date => decide (p.2 ≤ c.ev)) ∘ subOf (monthToId c.ps) res) (by
      intro j k hjk hk
      simp only [Function.comp, decide_eq_true_eq] at hk ⊢
      exact DateOrder.le_trans (DateOrder.le_of_lt (subOf_end_lt hr hjk)) hk)
  refine ⟨j, hj, by rw [he], fun k hk => ?_⟩
  have hm : k ∈ List.range j ↔ _ := he ▸ List.mem_filter
  simpa [hk] using hm

end Bermuda.Units
