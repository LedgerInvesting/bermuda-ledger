/-
Helper lemmas for the extended closure theorem of C01 (`Properties/C01Ext.lean`) over `Model/AllOps.lean`
(`Op2`): the invariant `AllOk` with its closure rules, and the operations whose result cells are input cells or
input cells with other values / metadata (join family, selection family). `Canonical` and `ofCells_canonical`,
on which every lemma here rests, are declared in `Properties/C01.lean`, hence the import.
-/
import Bermuda.Model.AllOps
import Bermuda.Properties.C01
import Bermuda.Lemmas.AssocModels
import Bermuda.Lemmas.JoinHelpers
import Bermuda.Lemmas.SelectAux
namespace Bermuda.AllOps
open Bermuda Bermuda.Properties.C01

/-- every cell satisfies the constructor's date rules -/
def AllOk (l : List Cell) : Prop := ∀ c ∈ l, c.datesOk = true

theorem AllOk.nil : AllOk [] := fun _ h => by cases h

theorem AllOk.append {a b : List Cell} (ha : AllOk a) (hb : AllOk b) : AllOk (a ++ b) :=
  fun c hc => (List.mem_append.mp hc).elim (ha c) (hb c)

theorem AllOk.cons {c : Cell} {l : List Cell} (hc : c.datesOk = true) (hl : AllOk l) : AllOk (c :: l) :=
  List.forall_mem_cons.mpr ⟨hc, hl⟩

theorem AllOk.sub {a b : List Cell} (hb : AllOk b) (h : ∀ c ∈ a, c ∈ b) : AllOk a :=
  fun c hc => hb c (h c hc)

theorem AllOk.flatten {ls : List (List Cell)} (h : ∀ l ∈ ls, AllOk l) : AllOk ls.flatten := by
  intro c hc
  obtain ⟨l, hl, hcl⟩ := List.mem_flatten.mp hc
  exact h l hl c hcl

theorem allOk_of {t : List Cell} (h : Canonical t) : AllOk t := h.2.2

theorem canonical_nil : Canonical [] := ⟨List.Pairwise.nil, by decide, AllOk.nil⟩

theorem canonical_sublist {s l : List Cell} (hs : s.Sublist l) (h : Canonical l) : Canonical s :=
  ⟨h.1.sublist hs, kindsConsistent_of_subset hs.subset h.2.1, fun c hc => allOk_of h c (hs.subset hc)⟩

/-- the prefixes, for the final `Triangle(cells)` of `_read_triangle` on a truncated file (C19) -/
theorem _root_.Bermuda.Codec.canonical_take {l : List Cell} (h : Canonical l) (k : Nat) : Canonical (l.take k) :=
  canonical_sublist (List.take_sublist k l) h

theorem ofCells_allOk {l t : List Cell} (h : Triangle.ofCells l = .ok t) (hl : AllOk l) : Canonical t :=
  ofCells_canonical h hl

/-- `Triangle(cells)` never refuses cells taken from one triangle; what it returns is canonical -/
theorem ofCells_sub_canonical {t l r : List Cell} (ht : Canonical t) (hl : ∀ c ∈ l, c ∈ t)
    (h : Triangle.ofCells l = .ok r) : Canonical r :=
  ofCells_canonical h ((allOk_of ht).sub hl)

theorem nth_mem {α} {l : List α} {i : Nat} {a : α} (h : nth l i = .ok a) : a ∈ l := by
  unfold nth at h
  split at h
  · rename_i x hx; cases h; exact List.mem_of_getElem? hx
  · cases h

theorem add_canonical {a b r : List Cell} (ha : AllOk a) (hb : AllOk b) (h : Triangle.add a b = .ok r) :
    Canonical r :=
  ofCells_canonical h (ha.append hb)

theorem deriveMetadata_canonical {t r : List Cell} {e : MetaEdit} (h : Triangle.deriveMetadata t e = .ok r) :
    Canonical r := by
  obtain ⟨v, hv, h⟩ := bind_ok h
  exact ofCells_canonical h (mapM_mk_ok (f := fun c => { c with md := c.md.edit e }) hv)

theorem select_canonical {t r : List Cell} {keys : List String} (h : Triangle.select t keys = .ok r) :
    Canonical r := by
  obtain ⟨v, hv, h⟩ := bind_ok h
  exact ofCells_canonical h (mapM_mk_ok (f := fun c => c.select keys) hv)

theorem rightEdge_allOk {t r : List Cell} (ht : AllOk t) (h : Triangle.rightEdge t = .ok r) : Canonical r :=
  ofCells_canonical h (fun c hc => ht c (mem_rightEdge_rows hc))

theorem slices_allOk {t : List Cell} (ht : AllOk t) {p : Metadata × List Cell} (hp : p ∈ Triangle.slices t) :
    AllOk p.2 := fun c hc => ht c (mem_of_mem_slices hp hc)

theorem selectMetadata_allOk {t r : List Cell} {on : List String} (ht : AllOk t)
    (h : selectMetadata t on = .ok r) : AllOk r := by
  intro c hc
  obtain ⟨c', hc', rfl⟩ := List.mem_map.mp ((ofCells_perm h).mem_iff.mp hc)
  exact ht c' hc'

theorem reduceOn_allOk {t r : List Cell} {on : Option (List String)} (ht : AllOk t)
    (h : reduceOn on t = .ok r) : AllOk r := by
  unfold reduceOn at h
  split at h
  · exact selectMetadata_allOk ht h
  · cases h; exact ht

theorem join_dates {ty : Option JoinType} {on : Option (List String)} {a b : List Cell} {pairs : List CellPair}
    (ha : AllOk a) (hb : AllOk b) (h : join ty on a b = .ok pairs) :
    ∀ p ∈ pairs, (∀ c, p.1 = some c → c.datesOk = true) ∧ (∀ c, p.2 = some c → c.datesOk = true) := by
  obtain ⟨a', ha', h⟩ := bind_ok (of_guard h)
  obtain ⟨b', hb', h⟩ := bind_ok h
  split at h
  · cases h
    intro p hp
    have := Properties.C10.mem_of_mem_joinCore hp
    exact ⟨fun c hc => reduceOn_allOk ha ha' c (this.1 c hc), fun c hc => reduceOn_allOk hb hb' c (this.2 c hc)⟩
  · cases h

theorem mergeCellPair_dates {p : CellPair} {c : Cell}
    (hp : (∀ c, p.1 = some c → c.datesOk = true) ∧ (∀ c, p.2 = some c → c.datesOk = true))
    (h : mergeCellPair p = some c) : c.datesOk = true := by
  rcases Properties.C10.mergeCellPair_some h with rfl | rfl | ⟨x, y, rfl, rfl⟩
  · exact hp.2 c rfl
  · exact hp.1 c rfl
  · exact hp.1 x rfl

theorem merge_canonical {ty : Option JoinType} {on : Option (List String)} {a b r : List Cell}
    (ha : AllOk a) (hb : AllOk b) (h : merge ty on a b = .ok r) : Canonical r := by
  obtain ⟨pairs, hp, h⟩ := bind_ok h
  refine ofCells_canonical h (fun c hc => ?_)
  obtain ⟨p, hpm, hpc⟩ := List.mem_filterMap.mp hc
  exact mergeCellPair_dates (join_dates ha hb hp p hpm) hpc

theorem coalesce_canonical {ts : List (List Cell)} {r : List Cell} (hts : ∀ t ∈ ts, AllOk t)
    (h : coalesce ts = .ok r) : Canonical r :=
  ofCells_canonical h fun c hc =>
    AllOk.flatten hts c (List.mem_of_find?_eq_some ((mem_firstsBy _).mp hc).2)

theorem addStaticsCell_dates (source : List Cell) (statics : List String) (c : Cell) :
    (addStaticsCell source statics c).datesOk = c.datesOk := by
  unfold addStaticsCell
  split <;> rfl

theorem addStatics_canonical {t source r : List Cell} {statics : List String} (ht : AllOk t)
    (h : addStatics t source statics = .ok r) : Canonical r := by
  refine ofCells_canonical h (fun c hc => ?_)
  obtain ⟨c', hc', rfl⟩ := List.mem_map.mp hc
  rw [addStaticsCell_dates]; exact ht c' hc'

theorem periodMergeCell_dates {b : List Cell} {suffix : Option String} {c d : Cell}
    (h : periodMergeCell b suffix c = .ok d) : d.datesOk = c.datesOk := by
  unfold periodMergeCell at h
  split at h
  · cases h; rfl
  · cases h; rfl
  · cases h

theorem periodMerge_canonical {a b r : List Cell} {suffix : Option String} (ha : AllOk a)
    (h : periodMerge a b suffix = .ok r) : Canonical r := by
  obtain ⟨out, ho, h⟩ := bind_ok (of_guard h)
  exact ofCells_canonical h (mapM_forall ho fun c hc d hd => (periodMergeCell_dates hd).trans (ha c hc))

theorem clipFull_canonical {t r : List Cell} {a : ClipFull} (ht : AllOk t)
    (h : Triangle.clipFull t a = .ok r) : Canonical r := by
  obtain ⟨c1, h1, h⟩ := bind_ok h
  obtain ⟨c2, h2, h⟩ := bind_ok h
  refine ofCells_canonical h fun c hc => ht c ?_
  exact optFilter_mem (optFilter_mem (optFilter_mem (optFilter_mem (devFilter_mem h1 (devFilter_mem h2 hc)))))

theorem filterP_canonical {t r : List Cell} {p : Cell → Bool} (ht : AllOk t)
    (h : Triangle.filterP t p = .ok r) : Canonical r :=
  ofCells_canonical h (fun c hc => ht c (List.mem_filter.mp hc).1)

/-- what `__getitem__` returns: a canonical triangle, or a cell that satisfies the date rules -/
def ItemOk : List Cell ⊕ Cell → Prop
  | .inl r => Canonical r
  | .inr c => c.datesOk = true

open Properties.C11 in
theorem tailPipe_ok {f : List Cell} {p e : DateIdx} {m : MetaIdx} {res : List Cell ⊕ Cell} (hf : AllOk f)
    (h : tailPipe f p e m = .ok res) : ItemOk res := by
  obtain ⟨⟨ps, pe⟩, _, h⟩ := bind_ok h
  obtain ⟨f2, h2, h⟩ := bind_ok h
  obtain ⟨⟨es, ee⟩, _, h⟩ := bind_ok h
  obtain ⟨cl, h3, h⟩ := bind_ok h
  have hcl := clipFull_canonical (allOk_of (filterP_canonical hf h2)) h3
  split at h
  · cases h; exact hcl
  · split at h <;> cases h
    exact allOk_of hcl _ (by simp)

theorem getItem_ok {t : List Cell} {p e : DateIdx} {m : MetaIdx} {res : List Cell ⊕ Cell}
    (ht : AllOk t) (h : Triangle.getItem t p e m = .ok res) : ItemOk res := by
  rw [Properties.C11.getItem_unfold] at h
  obtain ⟨f, hf, h⟩ := bind_ok h
  refine tailPipe_ok ?_ h
  -- the metadata stage filters for an index that is a metadata (or junk) and hands `t` on as it is otherwise
  cases m
  case is | junk => exact allOk_of (filterP_canonical ht hf)
  all_goals cases hf; exact ht

theorem split_all_canonical {t : List Cell} {keys : List String} {parts : List (List MVal × List Cell)}
    (ht : AllOk t) (h : Triangle.split t keys = .ok parts) : ∀ p ∈ parts, Canonical p.2 := by
  refine mapM_forall h fun g hg p hf => ?_
  obtain ⟨tri, htri, hf⟩ := bind_ok hf
  cases hf
  exact ofCells_canonical htri (fun c hc => ht c (mem_of_mem_groupBy hg hc))

theorem slices_all_canonical {t : List Cell} (ht : Canonical t) :
    ∀ p ∈ Triangle.slices t, Canonical p.2 := fun _ hp =>
  ⟨Triangle.slice_sorted hp, slice_kindsConsistent ht.2.1 hp, slices_allOk (allOk_of ht) hp⟩

theorem run2_eq_foldlM (t : List Cell) (ops : List Op2) : run2 t ops = ops.foldlM step2 t :=
  eq_foldlM_of_rec (fun _ => rfl) (fun t op _ => by rw [run2]; cases step2 t op <;> rfl) t ops

end Bermuda.AllOps
