/-
Canonical-form lemmas for `Model/AllOps3.lean` (`Op4`): the readers of `Model/FrameStatics.lean` and
`Model/FrameRich.lean` (for EVERY accepted frame / matrix), `__getitem__` with any index object on
`Triangle` and `TriangleSlice`, `make_pred_triangle`, `make_pred_triangle_complement`. The binary round trip is in
`Lemmas/AllOpsBinary.lean`.
-/
import Bermuda.Model.AllOps3
import Bermuda.Lemmas.AllOpsOp3Readers
namespace Bermuda.AllOps
open Bermuda Bermuda.Properties.C01 Bermuda.Frame Bermuda.Fn

theorem fromStatics_canonical {rows : List StaticsRow} {ev : Option Date} {res : Option Int} {md : Metadata}
    {r : List Cell} (h : fromStatics rows ev res md = .ok r) : Canonical r := by
  unfold fromStatics at h
  iterate 3 obtain ⟨_, _, h⟩ := bind_ok h
  obtain ⟨cells, hc, h⟩ := bind_ok h
  exact ofCells_canonical h (mapM_forall hc fun _ _ _ => mk?_ok_dates)

theorem fromArrayFrameFull_canonical {fr : ArrayFrame} {field : String} {res evalRes : Option Int} {fromEnd : Bool}
    {md : Metadata} {r : List Cell} (h : fromArrayFrameFull fr field res evalRes fromEnd md = .ok r) :
    Canonical r := by
  unfold fromArrayFrameFull at h
  obtain ⟨_, _, h⟩ := bind_ok h
  obtain ⟨_, _, h⟩ := bind_ok h
  obtain ⟨cells, hc, h⟩ := bind_ok h
  exact ofCells_canonical h (AllOk.flatten (mapM_forall hc fun _ _ _ hf =>
    mapM_forall hf fun _ _ _ => mk?_ok_dates))

theorem arrayTriangleBuilder_canonical {frames : List ArrayFrame} {fields : List String} {res evalRes : Option Int}
    {fromEnd : Bool} {md : Metadata} {r : List Cell}
    (h : arrayTriangleBuilder frames fields res evalRes fromEnd md = .ok r) : Canonical r := by
  unfold arrayTriangleBuilder at h
  replace h := of_guard h
  split at h
  · cases h
  · obtain ⟨t0, h0, h⟩ := bind_ok h
    refine foldlM_inv Canonical h (fromArrayFrameFull_canonical h0) (fun acc p acc' hacc _ hf => ?_)
    obtain ⟨t, ht, hf⟩ := bind_ok hf
    exact merge_canonical (allOk_of hacc) (allOk_of (fromArrayFrameFull_canonical ht)) hf

theorem richCell_dates {m : RichMatrix} {i j k : Nat} {c : Cell} (h : richCell m i j k = .ok (some c)) :
    c.datesOk = true := by
  unfold richCell at h
  rcases of_ite_ok h with h | h
  · cases h
  · split at h <;> exact mk?_map_dates h

theorem fromRich_canonical {m : RichMatrix} {r : List Cell} (h : fromRich m = .ok r) : Canonical r := by
  obtain ⟨cells, hc, h⟩ := bind_ok h
  exact ofCells_canonical h (mapM3_some_forall hc fun _ _ _ _ => richCell_dates)

theorem pyGetSlice_mem {α} {l r : List α} {i j k : Option Int} (h : pyGetSlice l i j k = .ok r) :
    ∀ a ∈ r, a ∈ l := by
  unfold pyGetSlice at h
  split at h
  · cases h; exact fun a ha => (pySlice_sublist l i j).subset ha
  · cases of_guard h
    exact fun a => mem_of_mem_pySliceStep

theorem getItemAny_ok {t : List Cell} {idx : Index} {res : List Cell ⊕ Cell} (ht : AllOk t)
    (h : Triangle.getItemAny t idx = .ok res) : ItemOk res := by
  unfold Triangle.getItemAny at h
  split at h
  · obtain ⟨c, hc, h⟩ := bind_ok h
    cases h; exact ht c (pyIndex_mem hc)
  · obtain ⟨cs, hcs, h⟩ := bind_ok h
    obtain ⟨r, hr, h⟩ := bind_ok h
    cases h
    exact ofCells_canonical hr (fun c hc => ht c (pyGetSlice_mem hcs c hc))
  · exact getItem_ok ht h
  · cases h
  · cases h

theorem sliceOfCells_canonical {l r : List Cell} (hl : AllOk l) (h : TriangleSlice.ofCells l = .ok r) :
    Canonical r := by
  unfold TriangleSlice.ofCells at h
  obtain ⟨t, ht, h⟩ := bind_ok h
  split at h
  · obtain ⟨_, h', _⟩ := bind_ok h; cases h'
  · cases h; exact ofCells_canonical ht hl

theorem sliceGetItem_ok {t : List Cell} {p e : DateIdx} {res : List Cell ⊕ Cell} (ht : AllOk t)
    (h : TriangleSlice.getItem t p e = .ok res) : ItemOk res := by
  rw [Properties.C11.sliceGetItem_eq_getItem] at h
  obtain ⟨x, hx, h⟩ := bind_ok h
  have hx' := getItem_ok ht hx
  cases x with
  | inl r =>
    obtain ⟨r', hr', rfl⟩ := map_ok h
    exact sliceOfCells_canonical (allOk_of hx') hr'
  | inr c => cases h; exact hx'

theorem sliceGetItemAny_ok {t : List Cell} {idx : Index} {res : List Cell ⊕ Cell} (ht : AllOk t)
    (h : Fn.sliceGetItemAny t idx = .ok res) : ItemOk res := by
  unfold Fn.sliceGetItemAny at h
  obtain ⟨s, hs, h⟩ := bind_ok h
  have hsc := sliceOfCells_canonical ht hs
  unfold TriangleSlice.getItemAny at h
  split at h
  · obtain ⟨c, hc, h⟩ := bind_ok h
    cases h; exact allOk_of hsc c (pyIndex_mem hc)
  · obtain ⟨cs, hcs, h⟩ := bind_ok h
    obtain ⟨r, hr, h⟩ := bind_ok h
    cases h
    exact sliceOfCells_canonical (fun c hc => allOk_of hsc c (pyGetSlice_mem hcs c hc)) hr
  · exact sliceGetItem_ok (allOk_of hsc) h
  · cases h
  · cases h

theorem triangleOnly_canonical {x : Except Err (List Cell ⊕ Cell)} {r : List Cell}
    (hx : ∀ res, x = .ok res → ItemOk res) (h : triangleOnly x = .ok r) : Canonical r := by
  unfold triangleOnly at h
  split at h
  · cases h
  · cases h; exact hx _ rfl
  · cases h

theorem cellWithStatics_dates {statics : StaticsFn} {ps pe ev : Date} {md : Metadata} {c : Cell}
    (h : cellWithStatics statics ps pe ev md = .ok (some c)) : c.datesOk = true := by
  unfold cellWithStatics at h
  obtain ⟨ob, _, h⟩ := bind_ok h
  split at h
  · cases h
  · split at h
    · cases h
    · cases h
    · cases h
    · obtain ⟨c', hc', h⟩ := map_ok h
      cases h; exact mk?_ok_dates hc'

theorem makePredTriangle_canonical {a : PredArgs} {statics : StaticsFn} {r : List Cell}
    (h : Fn.makePredTriangle a statics = .ok r) : Canonical r := by
  unfold Fn.makePredTriangle at h
  simp only [] at h
  iterate 7 obtain ⟨_, _, h⟩ := bind_ok h
  obtain ⟨cells, hc, h⟩ := bind_ok h
  obtain ⟨tri, htri, h⟩ := bind_ok h
  have htc : Canonical tri := by
    refine ofCells_canonical htri (fun c hmem => ?_)
    obtain ⟨oc, hoc, rfl : oc = some c⟩ := List.mem_filterMap.mp hmem
    obtain ⟨co, _, hf⟩ := mapM_ok_mem hc (some c) hoc
    exact cellWithStatics_dates hf
  split at h
  · exact toIncremental_canonical htc h
  · cases h; exact htc

theorem makePredTriangleComplement_canonical {t r : List Cell} {a : ComplementArgs}
    (h : Fn.makePredTriangleComplement t a = .ok r) : Canonical r := by
  unfold Fn.makePredTriangleComplement at h
  obtain ⟨pa, _, h⟩ := bind_ok h
  obtain ⟨edge, _, h⟩ := bind_ok h
  simp only [] at h
  obtain ⟨raw, hraw, h⟩ := bind_ok h
  obtain ⟨kept, hk, h⟩ := bind_ok h
  exact ofCells_canonical h (fun c hc => (allOk_of (makePredTriangle_canonical hraw)) c (filterE_mem hk c hc))

theorem run4_eq_foldlM (t : List Cell) (ops : List Op4) : run4 t ops = ops.foldlM step4 t :=
  eq_foldlM_of_rec (fun _ => rfl) (fun t op _ => by rw [run4]; cases step4 t op <;> rfl) t ops

end Bermuda.AllOps
