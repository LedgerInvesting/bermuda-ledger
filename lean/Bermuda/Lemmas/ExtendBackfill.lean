/-
Lemmas for `backfill` (C15), model side: the valid prefix kept by the `try/except: break` loop (`takeValid`), the block one
period row contributes, the loop over the static fields, the stages of a run and when a row returns.
-/
import Bermuda.Lemmas.Extend
namespace Bermuda.Extend

theorem takeValid_sublist : ∀ (l : List Cell), (takeValid l).Sublist l
  | [] => List.Sublist.slnil
  | c :: rest => by
    simp only [takeValid]
    split
    · exact (takeValid_sublist rest).cons_cons c
    · exact List.nil_sublist _

theorem takeValid_datesOk : ∀ (l : List Cell), ∀ c ∈ takeValid l, c.datesOk = true
  | [], c, h => by simp [takeValid] at h
  | a :: rest, c, h => by
    simp only [takeValid] at h
    split at h
    · rename_i ha
      rcases List.mem_cons.mp h with rfl | h
      · exact ha
      · exact takeValid_datesOk rest c h
    · simp at h

/-- the `i`-th cell survives the `try/except: break` loop when the cells up to it are valid -/
theorem takeValid_mem : ∀ (l : List Cell) (i : Nat) (hi : i < l.length),
    (∀ j (hj : j ≤ i), (l[j]'(by omega)).datesOk = true) → l[i] ∈ takeValid l
  | [], i, hi, _ => by simp at hi
  | c :: rest, 0, _, h => by
    have h0 := h 0 (by omega)
    simp only [List.getElem_cons_zero] at h0
    simp [takeValid, h0]
  | c :: rest, i + 1, hi, h => by
    have h0 := h 0 (by omega)
    simp only [List.getElem_cons_zero] at h0
    simp only [takeValid, h0, if_true, List.getElem_cons_succ]
    apply List.mem_cons_of_mem
    apply takeValid_mem rest i (by simpa using hi)
    intro j hj
    have := h (j + 1) (by omega)
    simpa using this

/-- a cell `backfill` adds on the row `first` heads: the `i`-th step back from the first lag -/
def backfillCell (first : Cell) (repl : Dict Val) (res : Int) (i : Nat) : Cell :=
  { first with ev := addMonths first.pe (first.devLag - (((i : Int) + 1 : Int) : Rat) * (res : Rat)),
               values := repl }

/-- the block one period row contributes: nothing (empty row, or a resolution `≤ 0` whose loop is not entered), or the
valid prefix of the steps back from the first cell -/
theorem backfillRow_shape {statics : List String} {res? : Option Int} {minLag minAllowed : Int}
    {row ys : List Cell} (h : backfillRow statics res? minLag minAllowed row = .ok ys) :
    (ys = [] ∧ (row.head? = none ∨ ∃ res, res? = some res ∧ res ≤ 0)) ∨
    ∃ first repl res, row.head? = some first ∧ replacementValues first statics = .ok repl ∧
      res? = some res ∧ 0 < res ∧
      ys = takeValid ((List.range (backfillSteps first.devLag res (max minLag minAllowed))).map
        (backfillCell first repl res)) := by
  unfold backfillRow at h
  split at h
  · rename_i hnone
    cases h; exact Or.inl ⟨rfl, Or.inl hnone⟩
  · rename_i first hfirst
    simp only [bind, Except.bind] at h
    split at h
    · cases h
    · rename_i repl hrepl
      cases res? with
      | none => simp [throw, throwThe, MonadExceptOf.throw] at h
      | some res =>
        simp only [pure, Except.pure] at h
        split at h
        · rename_i hle
          split at h
          · simp [throw, throwThe, MonadExceptOf.throw] at h
          · cases h; exact Or.inl ⟨rfl, Or.inr ⟨res, rfl, hle⟩⟩
        · rename_i hpos
          cases h
          exact Or.inr ⟨first, repl, res, hfirst, hrepl, rfl, by omega, rfl⟩

theorem backfillRow_pos {statics : List String} {res minLag minAllowed : Int} {row : List Cell} {first : Cell}
    {repl : Dict Val} (hf : row.head? = some first) (hrepl : replacementValues first statics = .ok repl)
    (hpos : 0 < res) :
    backfillRow statics (some res) minLag minAllowed row =
      .ok (takeValid ((List.range (backfillSteps first.devLag res (max minLag minAllowed))).map
        (backfillCell first repl res))) := by
  unfold backfillRow
  simp only [hf, hrepl, ok_bind, pure_eq_ok, if_neg (Int.not_le.mpr hpos)]
  rfl

theorem backfillRow_mem {statics : List String} {res? : Option Int} {minLag minAllowed : Int}
    {row ys : List Cell} (h : backfillRow statics res? minLag minAllowed row = .ok ys) {a : Cell}
    (ha : a ∈ ys) :
    ∃ first, row.head? = some first ∧ ∃ repl, replacementValues first statics = .ok repl ∧
      ∃ res, res? = some res ∧ 0 < res ∧
      ∃ i, i < backfillSteps first.devLag res (max minLag minAllowed) ∧ a = backfillCell first repl res i := by
  rcases backfillRow_shape h with ⟨rfl, _⟩ | ⟨first, repl, res, hf, hrepl, hres, hpos, rfl⟩
  · cases ha
  · obtain ⟨i, hi, rfl⟩ := List.mem_map.mp ((takeValid_sublist _).subset ha)
    exact ⟨first, hf, repl, hrepl, res, hres, hpos, i, List.mem_range.mp hi, rfl⟩

/-- invariant of the loop `for field in static_fields: replacement_values[field] = first[field]` -/
def ReplInv (first : Cell) (done : List String) (d : Dict Val) : Prop :=
  d.keys = first.values.keys ∧
  ∀ kv ∈ d, (kv.1 ∈ done ∧ first.values.get? kv.1 = some kv.2) ∨ (kv.1 ∉ done ∧ kv.2 = Val.int 0)

theorem replStep {first : Cell} {done : List String} {d : Dict Val} (hinv : ReplInv first done d)
    {f : String} {v : Val} (hv : first.values.get? f = some v) : ReplInv first (done ++ [f]) (d.set f v) := by
  obtain ⟨hkeys, hent⟩ := hinv
  have hmem : f ∈ d.keys := hkeys ▸ Assoc.mem_keys_of_get? hv
  constructor
  · rw [← hkeys]
    exact (Assoc.keys_set d f v).trans (if_pos (List.contains_iff_mem.mpr hmem))
  · intro kv hkv
    rcases Assoc.mem_set.mp hkv with rfl | ⟨hp, hne⟩
    · exact Or.inl ⟨by simp, hv⟩
    · rcases hent kv hp with ⟨h1, h2⟩ | ⟨h1, h2⟩
      · exact Or.inl ⟨by simp [h1], h2⟩
      · exact Or.inr ⟨by simp [h1, hne], h2⟩

/-- the loop `for field in static_fields: replacement_values[field] = first[field]` -/
theorem replFold {first : Cell} : ∀ (statics done : List String) (d : Dict Val), ReplInv first done d →
    ((∃ repl, statics.foldlM (fun d f => match first.values.get? f with
        | some v => (pure (d.set f v) : Except Err (Dict Val))
        | none => throw Err.keyError) d = .ok repl) ↔ ∀ f ∈ statics, ∃ v, first.values.get? f = some v) ∧
    ∀ repl, statics.foldlM (fun d f => match first.values.get? f with
        | some v => (pure (d.set f v) : Except Err (Dict Val))
        | none => throw Err.keyError) d = .ok repl → ReplInv first (done ++ statics) repl
  | [], done, d, hinv =>
    ⟨⟨fun _ _ hf => (List.not_mem_nil hf).elim, fun _ => ⟨d, rfl⟩⟩, fun repl h => by cases h; simpa using hinv⟩
  | f :: rest, done, d, hinv => by
    rw [List.foldlM_cons, List.forall_mem_cons]
    cases hv : first.values.get? f with
    | none =>
      refine ⟨⟨?_, ?_⟩, ?_⟩
      · rintro ⟨_, h⟩; cases h
      · rintro ⟨⟨_, h⟩, _⟩; cases h
      · intro _ h; cases h
    | some v =>
      have ih := replFold rest (done ++ [f]) (d.set f v) (replStep hinv hv)
      rw [List.append_assoc] at ih
      exact ⟨ih.1.trans ⟨fun h => ⟨⟨v, rfl⟩, h⟩, fun h => h.2⟩, ih.2⟩

theorem replInv_init (first : Cell) : ReplInv first [] (first.values.map fun kv => (kv.1, Val.int 0)) :=
  ⟨Dict.keys_map_val _ _, fun kv hkv => by
    obtain ⟨p, _, rfl⟩ := List.mem_map.mp hkv
    right; simp⟩

theorem replacementValues_ok {first : Cell} {statics : List String}
    (h : ∀ f ∈ statics, ∃ v, first.values.get? f = some v) :
    ∃ repl, replacementValues first statics = .ok repl :=
  (replFold statics [] _ (replInv_init first)).1.mpr h

theorem replacementValues_spec {first : Cell} {statics : List String} {repl : Dict Val}
    (h : replacementValues first statics = .ok repl) :
    repl.keys = first.values.keys ∧
    ∀ kv ∈ repl, (kv.1 ∈ statics ∧ first.values.get? kv.1 = some kv.2) ∨
                 (kv.1 ∉ statics ∧ kv.2 = Val.int 0) := by
  have := (replFold statics [] _ (replInv_init first)).2 repl h
  rwa [List.nil_append] at this

theorem backfill_ok {t out : List Cell} {statics : List String} {res? : Option Int} {minLag : Int} :
    backfill t statics res? minLag = .ok out ↔
    ∃ pres parts addTri, periodResolution t = some pres ∧
      (periodRows t).mapM (fun r => backfillRow statics (resolvedRes t res?) minLag (-pres + 1) r.2) = .ok parts ∧
      Triangle.ofCells parts.flatten = .ok addTri ∧ Triangle.ofCells (t ++ addTri) = .ok out := by
  unfold backfill
  cases hpr : periodResolution t with
  | none => simp [throw_bind]
  | some pres =>
    show ((periodRows t).mapM (fun r => backfillRow statics (resolvedRes t res?) minLag (-pres + 1) r.2) >>=
      fun added => Triangle.ofCells added.flatten >>= fun addTri => Triangle.ofCells (t ++ addTri)) = .ok out ↔ _
    constructor
    · intro h
      obtain ⟨parts, hparts, h⟩ := bind_ok h
      obtain ⟨addTri, hadd, h⟩ := bind_ok h
      exact ⟨pres, parts, addTri, rfl, hparts, hadd, h⟩
    · rintro ⟨_, parts, addTri, ⟨rfl⟩, hparts, hadd, h⟩
      rw [hparts]
      show (Triangle.ofCells parts.flatten >>= _) = _
      rw [hadd]
      exact h

theorem backfill_perm {t out : List Cell} {statics : List String} {res? : Option Int} {minLag : Int}
    (h : backfill t statics res? minLag = .ok out) :
    ∃ pres parts, periodResolution t = some pres ∧
      (periodRows t).mapM (fun r => backfillRow statics (resolvedRes t res?) minLag (-pres + 1) r.2) = .ok parts ∧
      out.Perm (t ++ parts.flatten) := by
  obtain ⟨pres, parts, addTri, hpres, hparts, hadd, hout⟩ := backfill_ok.mp h
  exact ⟨pres, parts, hpres, hparts,
    (Triangle.ofCells_perm hout).trans ((Triangle.ofCells_perm hadd).append_left t)⟩

theorem backfillRow_total {statics : List String} {res minLag minAllowed : Int} {row : List Cell}
    (hres : 0 < res) (hstat : ∀ first, row.head? = some first → ∀ f ∈ statics, ∃ v, first.values.get? f = some v) :
    ∃ ys, backfillRow statics (some res) minLag minAllowed row = .ok ys := by
  cases hf : row.head? with
  | none => exact ⟨[], by rw [backfillRow, hf]⟩
  | some first =>
    obtain ⟨repl, hrepl⟩ := replacementValues_ok (hstat first hf)
    exact ⟨_, backfillRow_pos hf hrepl hres⟩

end Bermuda.Extend
