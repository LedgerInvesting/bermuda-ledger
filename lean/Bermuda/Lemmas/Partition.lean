/-
A list split by a key function: `Partition key l G` says that the table `G` holds, under pairwise distinct
keys, the non-empty classes of `l`, each up to order. Every grouping of the
model (`groupBy`, `Triangle.slices`, the three `slicePeriodRows`, `periodRows`, `orderedRows`) is one, by
`Partition.of_keys` or from `groupBy_partition` through `reorder` and `mapGroups`; what the areas want to
know about their rows is proved here once, for any key.
Core Lean only.
-/
import Bermuda.Lemmas.GroupByFacts
namespace Bermuda

universe u v
variable {α : Type u} {κ : Type v} [BEq κ]

theorem filter_flatMap_isolate {β : Type v} (B : α → List β) (q : β → Bool) :
    ∀ {l : List α} {c : α}, l.Nodup → c ∈ l → (∀ c' ∈ l, c' ≠ c → (B c').filter q = []) →
      (l.flatMap B).filter q = (B c).filter q
  | [], _, _, hc, _ => by cases hc
  | a :: rest, c, hn, hc, hoth => by
    obtain ⟨ha, hn⟩ := List.nodup_cons.mp hn
    rw [List.flatMap_cons, List.filter_append]
    rcases List.mem_cons.mp hc with rfl | hc'
    · rw [List.filter_flatMap, List.flatMap_eq_nil_iff.mpr fun r hr =>
        hoth r (List.mem_cons_of_mem _ hr) fun e => ha (e ▸ hr), List.append_nil]
    · rw [hoth a List.mem_cons_self fun e => ha (e ▸ hc'), List.nil_append]
      exact filter_flatMap_isolate B q hn hc' fun c' h => hoth c' (List.mem_cons_of_mem _ h)

theorem filter_flatMap_of_const {β : Type v} {B : α → List β} {p : β → Bool} {q : α → Bool} :
    ∀ {l : List α}, (∀ c ∈ l, ∀ o ∈ B c, p o = q c) → (l.flatMap B).filter p = (l.filter q).flatMap B
  | [], _ => rfl
  | a :: l, h => by
    rw [List.flatMap_cons, List.filter_append, filter_flatMap_of_const fun c hc => h c (.tail _ hc),
      List.filter_cons]
    split
    · next hq => rw [List.flatMap_cons, List.filter_eq_self.mpr fun o ho => (h a (.head _) o ho).trans hq]
    · next hq => rw [List.filter_eq_nil_iff.mpr fun o ho => (h a (.head _) o ho) ▸ hq, List.nil_append]

theorem filter_flatten_single (p : α → Bool) (L : List (List α)) (k : Nat) (hk : k < L.length)
    (h : ∀ k' (hk' : k' < L.length), k' ≠ k → ∀ o ∈ L[k'], p o = false) :
    L.flatten.filter p = L[k].filter p := by
  have := filter_flatMap_isolate (fun j => L.getD j []) p List.nodup_range (List.mem_range.mpr hk) fun k' hk' hne =>
    List.filter_eq_nil_iff.mpr fun o ho => by
      have hk'' := List.mem_range.mp hk'
      rw [List.getD_eq_getElem?_getD, List.getElem?_eq_getElem hk''] at ho
      simp [h k' hk'' hne o ho]
  rwa [List.flatMap_def, map_getD_range, List.getD_eq_getElem?_getD, List.getElem?_eq_getElem hk] at this

structure Partition (key : α → κ) (l : List α) (G : List (κ × List α)) : Prop where
  nodup : (G.map (·.1)).Nodup
  group : ∀ p ∈ G, p.2.Perm (l.filter (key · == p.1))
  keys : ∀ k, k ∈ G.map (·.1) ↔ ∃ a ∈ l, key a = k

namespace Partition
variable {key : α → κ} {l : List α} {G : List (κ × List α)}

theorem of_keys {ks : List κ} (hn : ks.Nodup) (hc : ∀ k, k ∈ ks ↔ ∃ a ∈ l, key a = k) {f : κ → List α}
    (hf : ∀ k ∈ ks, (f k).Perm (l.filter (key · == k))) : Partition key l (ks.map fun k => (k, f k)) := by
  have hk : (ks.map fun k => (k, f k)).map (·.1) = ks := by rw [List.map_map]; exact List.map_id' _
  refine ⟨hk.symm ▸ hn, fun p hp => ?_, fun k => hk.symm ▸ hc k⟩
  obtain ⟨k, hk, rfl⟩ := List.mem_map.mp hp
  exact hf k hk

theorem reorder (h : Partition key l G) {G' : List (κ × List α)} (hp : G'.Perm G) : Partition key l G' :=
  ⟨(hp.map _).nodup_iff.mpr h.nodup, fun p m => h.group p (hp.mem_iff.mp m),
    fun k => ((hp.map _).mem_iff).trans (h.keys k)⟩

theorem congr_perm (h : Partition key l G) {l' : List α} (hp : l.Perm l') : Partition key l' G :=
  ⟨h.nodup, fun p m => (h.group p m).trans (hp.filter _), fun k => (h.keys k).trans
    ⟨fun ⟨a, ha, e⟩ => ⟨a, hp.mem_iff.mp ha, e⟩, fun ⟨a, ha, e⟩ => ⟨a, hp.mem_iff.mpr ha, e⟩⟩⟩

theorem mapGroups (h : Partition key l G) {f : List α → List α} (hf : ∀ p ∈ G, (f p.2).Perm p.2) :
    Partition key l (G.map fun p => (p.1, f p.2)) := by
  have hk : (G.map fun p => (p.1, f p.2)).map (·.1) = G.map (·.1) := by rw [List.map_map]; rfl
  refine ⟨hk.symm ▸ h.nodup, fun q hq => ?_, fun k => hk.symm ▸ h.keys k⟩
  obtain ⟨p, hp, rfl⟩ := List.mem_map.mp hq
  exact (hf p hp).trans (h.group p hp)

theorem perm_of_groups_eq (h : Partition key l G) {G' : List (κ × List α)} (h' : Partition key l G')
    (he : ∀ p ∈ G, ∀ q ∈ G', p.1 = q.1 → p.2 = q.2) : G.Perm G' := by
  refine (List.perm_ext_iff_of_nodup (nodup_of_nodup_map h.nodup) (nodup_of_nodup_map h'.nodup)).mpr fun p => ⟨fun hp => ?_, fun hp => ?_⟩
  · obtain ⟨q, hq, e⟩ := List.mem_map.mp ((h'.keys p.1).mpr ((h.keys p.1).mp (List.mem_map_of_mem hp)))
    exact (Prod.ext e (he p hp q hq e.symm).symm : q = p) ▸ hq
  · obtain ⟨q, hq, e⟩ := List.mem_map.mp ((h.keys p.1).mpr ((h'.keys p.1).mp (List.mem_map_of_mem hp)))
    exact (Prod.ext e (he q hq p hp e) : q = p) ▸ hq

variable [LawfulBEq κ]

theorem mem_iff (h : Partition key l G) {p : κ × List α} (hp : p ∈ G) {a : α} :
    a ∈ p.2 ↔ a ∈ l ∧ key a = p.1 := by
  rw [(h.group p hp).mem_iff, List.mem_filter, beq_iff_eq]

theorem key_eq (h : Partition key l G) {p : κ × List α} (hp : p ∈ G) {a : α} (ha : a ∈ p.2) : key a = p.1 :=
  ((h.mem_iff hp).mp ha).2

theorem exists_group (h : Partition key l G) {a : α} (ha : a ∈ l) : ∃ p ∈ G, p.1 = key a ∧ a ∈ p.2 := by
  obtain ⟨p, hp, hk⟩ := List.mem_map.mp ((h.keys _).mpr ⟨a, ha, rfl⟩)
  exact ⟨p, hp, hk, (h.mem_iff hp).mpr ⟨ha, hk.symm⟩⟩

theorem ne_nil (h : Partition key l G) {p : κ × List α} (hp : p ∈ G) : p.2 ≠ [] := by
  obtain ⟨a, ha, hk⟩ := (h.keys p.1).mp (List.mem_map_of_mem hp)
  exact List.ne_nil_of_mem ((h.mem_iff hp).mpr ⟨ha, hk⟩)

theorem forall_keys (h : Partition key l G) (q : κ → Prop) : (∀ p ∈ G, q p.1) ↔ ∀ a ∈ l, q (key a) := by
  constructor
  · intro H a ha
    obtain ⟨p, hp, hk, -⟩ := h.exists_group ha
    exact hk ▸ H p hp
  · intro H p hp
    obtain ⟨a, ha⟩ := List.exists_mem_of_ne_nil _ (h.ne_nil hp)
    exact h.key_eq hp ha ▸ H a ((h.mem_iff hp).mp ha).1

theorem forall_pairs (h : Partition key l G) {R : α → α → Prop} :
    (∀ p ∈ G, ∀ a ∈ p.2, ∀ b ∈ p.2, R a b) ↔ ∀ a ∈ l, ∀ b ∈ l, key a = key b → R a b := by
  constructor
  · intro H a ha b hb e
    obtain ⟨p, hp, hk, hap⟩ := h.exists_group ha
    exact H p hp a hap b ((h.mem_iff hp).mpr ⟨hb, e.symm.trans hk.symm⟩)
  · intro H p hp a ha b hb
    obtain ⟨hal, hak⟩ := (h.mem_iff hp).mp ha
    obtain ⟨hbl, hbk⟩ := (h.mem_iff hp).mp hb
    exact H a hal b hbl (hak.trans hbk.symm)

theorem flatMap_perm (h : Partition key l G) : (G.flatMap (·.2)).Perm l := by
  have h1 : (G.flatMap (·.2)).Perm (G.flatMap fun p => l.filter (key · == p.1)) :=
    perm_flatMap_left h.group
  have h2 := flatMap_filter_key_perm key h.nodup fun a ha => (h.keys _).mpr ⟨a, ha, rfl⟩
  rw [List.flatMap_map] at h2
  exact h1.trans h2

theorem flatMap_map_perm (h : Partition key l G) {β : Type u} (f : α → β) :
    (G.flatMap fun p => p.2.map f).Perm (l.map f) := by
  have : (G.flatMap fun p => p.2.map f) = (G.flatMap (·.2)).map f := by
    rw [List.map_flatMap]
  exact this ▸ h.flatMap_perm.map f

end Partition

variable [LawfulBEq κ]

/-- filtering a concatenation of keyed blocks by the key of one block returns that block -/
theorem filter_flatMap_block {key : α → κ} {L : List (κ × List α)} (hnd : (L.map (·.1)).Nodup)
    (hkey : ∀ p ∈ L, ∀ c ∈ p.2, key c = p.1) {p : κ × List α} (hp : p ∈ L) :
    (L.flatMap (·.2)).filter (key · == p.1) = p.2 := by
  rw [filter_flatMap_isolate (·.2) _ (nodup_of_nodup_map hnd) hp fun r hr hne => List.filter_eq_nil_iff.mpr fun c hc e =>
    hne (inj_of_nodup_map hnd hr hp ((hkey r hr c hc).symm.trans (eq_of_beq e)))]
  exact List.filter_eq_self.mpr fun c hc => beq_iff_eq.mpr (hkey p hp c hc)

theorem Partition.of_blocks {key : α → κ} {L : List (κ × List α)} (hnd : (L.map (·.1)).Nodup)
    (hkey : ∀ p ∈ L, ∀ c ∈ p.2, key c = p.1) (hne : ∀ p ∈ L, p.2 ≠ []) :
    Partition key (L.flatMap (·.2)) L :=
  ⟨hnd, fun _ hp => filter_flatMap_block hnd hkey hp ▸ .refl _, fun k =>
    ⟨fun hk => by
      obtain ⟨p, hp, rfl⟩ := List.mem_map.mp hk
      obtain ⟨a, ha⟩ := List.exists_mem_of_ne_nil _ (hne p hp)
      exact ⟨a, List.mem_flatMap.mpr ⟨p, hp, ha⟩, hkey p hp a ha⟩,
    fun ⟨a, ha, hk⟩ => by
      obtain ⟨p, hp, hap⟩ := List.mem_flatMap.mp ha
      exact List.mem_map.mpr ⟨p, hp, (hkey p hp a hap).symm.trans hk⟩⟩⟩

theorem groupBy_partition (key : α → κ) (l : List α) : Partition key l (groupBy key l) := by
  rw [groupBy_eq_map]
  exact .of_keys (distinctKeys_nodup key l) (fun _ => mem_distinctKeys) fun _ _ => .refl _

theorem slices_partition (t : List Cell) : Partition (·.md) t (Triangle.slices t) :=
  .of_keys (metasOf_nodup t) (fun _ => mem_metasOf) fun _ _ => List.mergeSort_perm _ _

theorem Triangle.slices_keys (t : List Cell) : (Triangle.slices t).map (·.1) = metasOf t := by
  rw [Triangle.slices, List.map_map]; exact List.map_id' _

theorem Triangle.slices_length (t : List Cell) : (Triangle.slices t).length = (metasOf t).length := by
  rw [← Triangle.slices_keys, List.length_map]

theorem Triangle.mem_slices_iff {t : List Cell} {p : Metadata × List Cell} :
    p ∈ Triangle.slices t ↔ p.1 ∈ metasOf t ∧ p.2 = (t.filter (·.md == p.1)).mergeSort Cell.le := by
  rw [Triangle.slices, List.mem_map]
  exact ⟨fun ⟨m, hm, e⟩ => e ▸ ⟨hm, rfl⟩, fun ⟨hm, e⟩ => ⟨p.1, hm, Prod.ext rfl e.symm⟩⟩

theorem Triangle.mem_slice_iff {t : List Cell} {p : Metadata × List Cell} (hp : p ∈ Triangle.slices t) (c : Cell) :
    c ∈ p.2 ↔ c ∈ t ∧ c.md = p.1 :=
  (slices_partition t).mem_iff hp

theorem Triangle.exists_slice {t : List Cell} {c : Cell} (hc : c ∈ t) :
    ∃ p ∈ Triangle.slices t, p.1 = c.md ∧ c ∈ p.2 :=
  (slices_partition t).exists_group hc

theorem Triangle.slices_flatMap_perm (t : List Cell) : ((Triangle.slices t).flatMap (·.2)).Perm t :=
  (slices_partition t).flatMap_perm

theorem Triangle.slice_sorted {t : List Cell} {p : Metadata × List Cell} (hp : p ∈ Triangle.slices t) :
    p.2.Pairwise (fun a b => Cell.le a b) :=
  (Triangle.mem_slices_iff.mp hp).2 ▸ sorted_mergeSort (cmp := Cell.cmp) _

theorem Triangle.metadata_perm (t : List Cell) : (Triangle.metadata t).Perm (metasOf t) := List.mergeSort_perm _ _

theorem Triangle.mem_metadata {t : List Cell} {m : Metadata} : m ∈ Triangle.metadata t ↔ ∃ c ∈ t, c.md = m :=
  (Triangle.metadata_perm t).mem_iff.trans mem_metasOf

end Bermuda
