/-
`groupBy` (`toolz.groupby`) in closed form: the keys in order of first occurrence, each with the
members of its class in their original order. Everything else one wants to know about the groups
is read off that form; the second half of the file (`namespace GroupL`) reads off it what `groupBy` does on a
concatenation, on blocks, on a table written in rounds and on a list whose equal-key elements are contiguous.
Core Lean only.
-/
import Bermuda.Model.Ops
import Bermuda.Lemmas.ListFacts
namespace Bermuda

universe u v w
variable {α : Type u} {κ : Type v} [BEq κ] [LawfulBEq κ]

/-- one step of `groupBy` on a table that is in closed form for the prefix `pre` -/
private theorem groupBy_step (key : α → κ) {ks : List κ} {pre : List α}
    (hks : ∀ x ∈ pre, key x ∈ ks) (a : α) (acc : List (κ × List α))
    (hacc : acc = ks.map fun k => (k, pre.filter (key · == k))) :
    (if acc.any (·.1 == key a) then acc.map (fun p => if p.1 == key a then (p.1, p.2 ++ [a]) else p)
      else acc ++ [(key a, [a])]) =
    (if ks.contains (key a) then ks else ks ++ [key a]).map fun k =>
      (k, (pre ++ [a]).filter (key · == k)) := by
  have hany : acc.any (·.1 == key a) = ks.contains (key a) := by
    rw [hacc, Bool.eq_iff_iff, List.contains_iff_mem, List.any_eq_true]
    exact ⟨fun ⟨p, hp, e⟩ => by
        obtain ⟨k, hk, rfl⟩ := List.mem_map.mp hp; exact eq_of_beq e ▸ hk,
      fun h => ⟨_, List.mem_map_of_mem h, beq_self_eq_true _⟩⟩
  have hfilter : ∀ k, (pre ++ [a]).filter (key · == k) =
      pre.filter (key · == k) ++ if key a == k then [a] else [] := fun k => by
    rw [List.filter_append, List.filter_cons, List.filter_nil]
  rw [hany]
  split
  · rw [hacc, List.map_map]
    refine List.map_congr_left fun k _ => ?_
    by_cases h : k = key a
    · subst h; simp [hfilter]
    · simp [hfilter, h, Ne.symm h]
  · next hc =>
    have hnone : pre.filter (key · == key a) = [] :=
      List.filter_eq_nil_iff.mpr fun x hx e => hc (List.contains_iff_mem.mpr (eq_of_beq e ▸ hks x hx))
    rw [hacc, List.map_append, List.map_singleton, hfilter, hnone, beq_self_eq_true]
    congr 1
    refine List.map_congr_left fun k hk => ?_
    have : key a ≠ k := fun e => hc (List.contains_iff_mem.mpr (e ▸ hk))
    simp [hfilter, this]

theorem groupBy_eq_map (key : α → κ) (l : List α) :
    groupBy key l = (distinctKeys key l).map fun k => (k, l.filter (key · == k)) := by
  suffices h : ∀ pre : List α,
      l.foldl (fun acc a =>
        let k := key a
        if acc.any (·.1 == k) then acc.map (fun p => if p.1 == k then (p.1, p.2 ++ [a]) else p)
        else acc ++ [(k, [a])]) ((distinctKeys key pre).map fun k => (k, pre.filter (key · == k))) =
      (distinctKeys key (pre ++ l)).map fun k => (k, (pre ++ l).filter (key · == k)) from h []
  induction l with
  | nil => intro pre; rw [List.append_nil]; rfl
  | cons a l ih =>
    intro pre
    rw [List.foldl_cons, groupBy_step key (fun x hx => mem_distinctKeys.mpr ⟨x, hx, rfl⟩) a _ rfl]
    have := ih (pre ++ [a])
    rwa [List.append_assoc, distinctKeys, List.foldl_append] at this

variable (key : α → κ) (l : List α)

theorem groupBy_keys : (groupBy key l).map (·.1) = distinctKeys key l := by
  rw [groupBy_eq_map, List.map_map]; exact List.map_id' _

theorem groupBy_keys_nodup : ((groupBy key l).map (·.1)).Nodup :=
  groupBy_keys key l ▸ distinctKeys_nodup key l

variable {key l}

theorem groupBy_group_eq {p : κ × List α} (hp : p ∈ groupBy key l) :
    p.2 = l.filter (key · == p.1) := by
  rw [groupBy_eq_map] at hp
  obtain ⟨k, -, rfl⟩ := List.mem_map.mp hp; rfl

theorem mem_of_mem_groupBy {p : κ × List α} {a : α} (hp : p ∈ groupBy key l) (ha : a ∈ p.2) : a ∈ l :=
  (List.mem_filter.mp (groupBy_group_eq hp ▸ ha)).1

theorem mem_groupBy_iff {p : κ × List α} :
    p ∈ groupBy key l ↔ (∃ a ∈ l, key a = p.1) ∧ p.2 = l.filter (key · == p.1) := by
  rw [groupBy_eq_map, List.mem_map]
  constructor
  · rintro ⟨k, hk, rfl⟩; exact ⟨mem_distinctKeys.mp hk, rfl⟩
  · rintro ⟨hk, hp⟩; exact ⟨p.1, mem_distinctKeys.mpr hk, Prod.ext rfl hp.symm⟩

theorem groupBy_cover {a : α} (ha : a ∈ l) : ∃ p ∈ groupBy key l, p.1 = key a ∧ a ∈ p.2 :=
  ⟨(key a, l.filter (key · == key a)), mem_groupBy_iff.mpr ⟨⟨a, ha, rfl⟩, rfl⟩, rfl,
    List.mem_filter.mpr ⟨ha, beq_self_eq_true _⟩⟩

theorem groupBy_group_ne_nil {p : κ × List α} (hp : p ∈ groupBy key l) : p.2 ≠ [] := by
  obtain ⟨⟨a, ha, hk⟩, hp2⟩ := mem_groupBy_iff.mp hp
  rw [hp2]; exact List.ne_nil_of_mem (List.mem_filter.mpr ⟨ha, beq_iff_eq.mpr hk⟩)

theorem key_of_mem_groupBy {p : κ × List α} (hp : p ∈ groupBy key l) {a : α} (ha : a ∈ p.2) :
    key a = p.1 := by
  rw [groupBy_group_eq hp] at ha; exact eq_of_beq (List.mem_filter.mp ha).2

theorem groupBy_flatMap_perm : ((groupBy key l).flatMap (·.2)).Perm l := by
  rw [groupBy_eq_map, List.flatMap_map]
  exact flatMap_filter_key_perm key (distinctKeys_nodup key l) fun a ha =>
    mem_distinctKeys.mpr ⟨a, ha, rfl⟩

end Bermuda

namespace Bermuda.GroupL
open Bermuda
variable {α κ : Type} [BEq κ] [LawfulBEq κ]

theorem groupBy_append (key : α → κ) (l r : List α) :
    groupBy key (l ++ r) =
      (distinctKeys key l ++ (distinctKeys key r).filter fun k => !(distinctKeys key l).contains k).map fun k =>
        (k, l.filter (key · == k) ++ r.filter (key · == k)) := by
  rw [groupBy_eq_map, distinctKeys_append]
  exact List.map_congr_left fun k _ => by rw [List.filter_append]

theorem groupBy_append_disjoint (key : α → κ) (l r : List α) (h : ∀ x ∈ l, ∀ y ∈ r, key x ≠ key y) :
    groupBy key (l ++ r) = groupBy key l ++ groupBy key r := by
  have hr : ∀ k ∈ distinctKeys key r, k ∉ distinctKeys key l := fun k hk hl => by
    obtain ⟨y, hy, rfl⟩ := mem_distinctKeys.mp hk
    obtain ⟨x, hx, e⟩ := mem_distinctKeys.mp hl
    exact h x hx y hy e
  rw [groupBy_append, List.filter_eq_self.mpr fun k hk => by simpa using hr k hk, List.map_append,
    groupBy_eq_map, groupBy_eq_map]
  congr 1 <;> refine List.map_congr_left fun k hk => ?_
  · rw [List.filter_eq_nil_iff.mpr fun y hy e => hr _ (mem_distinctKeys.mpr ⟨y, hy, eq_of_beq e⟩) hk,
      List.append_nil]
  · rw [List.filter_eq_nil_iff.mpr fun x hx e => hr k hk (mem_distinctKeys.mpr ⟨x, hx, eq_of_beq e⟩),
      List.nil_append]

theorem groupBy_append_known (key : α → κ) (l r : List α) (h : ∀ y ∈ r, key y ∈ (groupBy key l).map (·.1)) :
    groupBy key (l ++ r) = (groupBy key l).map fun p => (p.1, p.2 ++ r.filter (key · == p.1)) := by
  rw [groupBy_append, List.filter_eq_nil_iff.mpr fun k hk => by
      obtain ⟨y, hy, rfl⟩ := mem_distinctKeys.mp hk
      simpa [groupBy_keys] using h y hy,
    List.append_nil, groupBy_eq_map, List.map_map]
  rfl

theorem groupBy_flatten_disjoint (key : α → κ) : ∀ (bs : List (List α)),
    bs.Pairwise (fun b1 b2 => ∀ x ∈ b1, ∀ y ∈ b2, key x ≠ key y) →
    groupBy key bs.flatten = (bs.map (groupBy key)).flatten
  | [], _ => rfl
  | b :: bs, h => by
    rw [List.flatten_cons, groupBy_append_disjoint, List.map_cons, List.flatten_cons,
      groupBy_flatten_disjoint key bs (List.pairwise_cons.mp h).2]
    intro x hx y hy
    obtain ⟨b2, hb2, hyb⟩ := List.mem_flatten.mp hy
    exact (List.pairwise_cons.mp h).1 b2 hb2 x hx y hyb

theorem groupBy_const {key : α → κ} {k : κ} {b : List α} (hne : b ≠ []) (hb : ∀ x ∈ b, key x = k) :
    groupBy key b = [(k, b)] := by
  cases b with
  | nil => exact absurd rfl hne
  | cons x xs =>
    obtain rfl := hb x List.mem_cons_self
    have : groupBy key [x] = [(key x, [x])] := rfl
    rw [← List.singleton_append, groupBy_append_known key [x] xs fun y hy => by
        simp [this, hb y (List.mem_cons_of_mem _ hy)],
      this, List.map_singleton, List.filter_eq_self.mpr fun y hy => by simp [hb y (List.mem_cons_of_mem _ hy)]]

theorem groupBy_blocks (key : α → κ) (blocks : List (κ × List α))
    (hnd : (blocks.map (·.1)).Nodup) (hne : ∀ b ∈ blocks, b.2 ≠ [])
    (hk : ∀ b ∈ blocks, ∀ x ∈ b.2, key x = b.1) :
    groupBy key (blocks.map (·.2)).flatten = blocks := by
  have hb : blocks.map (groupBy key ∘ (·.2)) = blocks.map fun b => [b] :=
    List.map_congr_left fun b hb => groupBy_const (hne b hb) (hk b hb)
  rw [groupBy_flatten_disjoint, List.map_map, hb, ← List.flatMap_def, List.flatMap_singleton']
  · rw [List.pairwise_map]
    refine (List.pairwise_map.mp hnd).imp_of_mem fun {a b} ha hb hab x hx y hy he => hab ?_
    rw [← hk a ha x hx, ← hk b hb y hy, he]

theorem filter_key_one {γ : Type} {K : γ → κ} : ∀ {vals : List γ}, (vals.map K).Nodup → ∀ {v : γ}, v ∈ vals →
    vals.filter (K · == K v) = [v]
  | a :: rest, hn, v, hv => by
    rw [List.map_cons, List.nodup_cons] at hn
    rw [List.filter_cons]
    rcases List.mem_cons.mp hv with rfl | h'
    · rw [if_pos (beq_self_eq_true _), List.filter_eq_nil_iff.mpr fun x hx => by
        simpa using fun he : K x = K v => hn.1 (he ▸ List.mem_map_of_mem hx)]
    · rw [if_neg (by simpa using fun he : K a = K v => hn.1 (he ▸ List.mem_map_of_mem h'))]
      exact filter_key_one hn.2 h'

theorem groupBy_rounds {γ : Type} (key : α → κ) (vals : List γ) (row : Nat → γ → α) (K : γ → κ)
    (hk : ∀ i, ∀ v ∈ vals, key (row i v) = K v) (hn : (vals.map K).Nodup) {n : Nat} (h1 : 1 ≤ n) :
    groupBy key ((List.range n).flatMap fun i => vals.map (row i)) =
      vals.map fun v => (K v, (List.range n).map fun i => row i v) := by
  obtain ⟨m, rfl⟩ : ∃ m, n = m + 1 := ⟨n - 1, by omega⟩
  induction m with
  | zero =>
    -- one round: distinct keys, every element its own group
    have := groupBy_blocks key (vals.map fun v => (K v, [row 0 v]))
      (by simpa [List.map_map, Function.comp_def] using hn) (by simp)
      (by simpa using fun v hv => hk 0 v hv)
    have hfl : ((vals.map fun v => (K v, [row 0 v])).map (·.2)).flatten = vals.map (row 0) := by
      rw [List.map_map, ← List.flatMap_def, List.map_eq_flatMap]
      rfl
    rw [hfl] at this
    simpa using this
  | succ m ih =>
    rw [List.range_succ, List.flatMap_append, List.flatMap_singleton, groupBy_append_known _ _ _ fun x hx => by
        obtain ⟨v, hv, rfl⟩ := List.mem_map.mp hx
        rw [ih (by omega), hk _ v hv, List.map_map]
        exact List.mem_map.mpr ⟨v, hv, rfl⟩,
      ih (by omega), List.map_map]
    refine List.map_congr_left fun v hv => ?_
    rw [Function.comp, List.filter_map,
      List.filter_congr (q := fun x => K x == K v) fun x hx => by rw [Function.comp, hk _ x hx],
      filter_key_one hn hv, List.map_append]
    rfl

theorem flatten_groupBy (key : α → κ) (l : List α) :
    ((groupBy key l).map (·.2)).flatten = ((distinctKeys key l).map fun k => l.filter (key · == k)).flatten := by
  rw [groupBy_eq_map, List.map_map]; rfl

theorem groupBy_contiguous (key : α → κ) : ∀ (l : List α),
    (∀ l1 a b l2, l = l1 ++ a :: b :: l2 → key b ≠ key a → ∀ x ∈ l2, key x ≠ key a) →
    ((groupBy key l).map (·.2)).flatten = l
  | [], _ => rfl
  | a :: l, hc => by
    have ih := groupBy_contiguous key l fun l1 x y l2 e => hc (a :: l1) x y l2 (by rw [e]; rfl)
    -- the keys of the tail do not contain the head's key, or start with it
    have hk : key a ∉ distinctKeys key l ∨ ∃ ks, distinctKeys key l = key a :: ks ∧ key a ∉ ks := by
      cases l with
      | nil => exact .inl (by simp [distinctKeys])
      | cons b l2 =>
        by_cases hb : key b = key a
        · have hn := distinctKeys_nodup key (b :: l2)
          rw [distinctKeys_cons, hb] at hn ⊢
          exact .inr ⟨_, rfl, (List.nodup_cons.mp hn).1⟩
        · refine .inl fun hm => ?_
          obtain ⟨x, hx, e⟩ := mem_distinctKeys.mp hm
          rcases List.mem_cons.mp hx with rfl | hx
          · exact hb e
          · exact hc [] a b l2 rfl hb x hx e
    rw [flatten_groupBy] at ih ⊢
    rw [distinctKeys_cons, List.map_cons, List.flatten_cons, List.filter_cons, if_pos (beq_self_eq_true _),
      List.cons_append, List.map_congr_left (g := fun k => l.filter (key · == k)) fun k hk' => by
        rw [List.filter_cons, if_neg fun e => (bne_iff_ne.mp (List.mem_filter.mp hk').2) (eq_of_beq e).symm]]
    congr 1
    conv => rhs; rw [← ih]
    -- the tail's members under the head's key, then the tail's other groups: the tail's groups in their order
    rcases hk with hk | ⟨ks, hks, hn⟩
    · rw [List.filter_eq_nil_iff.mpr fun x hx e => hk (mem_distinctKeys.mpr ⟨x, hx, eq_of_beq e⟩), List.nil_append,
        List.filter_eq_self.mpr fun k hk' => bne_iff_ne.mpr fun e : k = key a => hk (e ▸ hk')]
    · rw [hks, List.filter_cons, if_neg (by simp), List.filter_eq_self.mpr fun k hk' =>
        bne_iff_ne.mpr fun e : k = key a => hn (e ▸ hk'), List.map_cons, List.flatten_cons]

end Bermuda.GroupL
