/-
Towards `aggregate_disagg` (C18), through C08's description of `_aggregate_period` (`Lemmas/AggregateBridge.lean`:
`SliceFacts`, `GridForm.slice_values`, `GridForm.window_origin`, `Stage`). Every output period is a window of the
origin's grid; the periods of a well-formed slice are windows of that grid too, a sub-period cell lies inside its
parent's period, and two windows of one grid that share a date are the same window: so the sources of an aggregated
cell are exactly the group of ONE input cell, on whose coordinates it sits (`slice_sources`).
-/
import Bermuda.Lemmas.UnitsTiling
import Bermuda.Lemmas.AggregateBridge
namespace Bermuda

theorem GridForm.window_not_before {q : Int} {u : ResUnit} {origin : Date} {G : Int → Date} {D : Int → Prop}
    (gr : GridForm q u origin G D) (hq : 1 ≤ q) {m n : Int} (hm : D (m + 1)) (hn : D n) {a b : Date}
    (hab : a ≤ b) (hb : b ≤ G (m + 1)) (ha : (G n).succ ≤ a) : ¬ m < n := fun h =>
  DateOrder.lt_irrefl b (DateOrder.lt_of_le_of_lt hb
    (DateOrder.lt_of_lt_of_le (gr.lt_succ_of_lt hq hm hn (by omega)) (DateOrder.le_trans ha hab)))

namespace Units
open Bermuda Bermuda.Spec.C18 Generated.Summarize

theorem sliceWF_window {res : Nat} {sl : List Cell} {L : Int} (w : SliceWF res sl L) {c : Cell} (hc : c ∈ sl)
    {origin : Date} {z : Int} (hz : monthToId c.ps = monthToId origin + z * L + 1) :
    c.ps = (monthEndOf (monthToId origin + z * L)).succ ∧ c.pe = monthEndOf (monthToId origin + (z + 1) * L) := by
  obtain ⟨hpe, hps⟩ := sliceWF_pe w hc
  refine ⟨by rw [monthEndOf_succ, ← hz, hps], ?_⟩
  rw [hpe, hz]; congr 1; ring

/-- one slice of the round trip: `sl` the input slice, `mid` the slice of the disaggregated triangle (the groups `G c`,
in some order), `back` the aggregation of `mid` -/
structure SliceTrip (tr : Transc) (sl mid back : List Cell) (res : Nat) (F : List String) (L q : Int)
    (s : String) (origin : Date) (prem : Bool) (G : Cell → List Cell) : Prop where
  wf : SliceWF res sl L
  groups : ∀ c ∈ sl, SubCellsN res (L / (res : Int)).toNat F c (G c)
  perm : mid.Perm (sl.flatMap G)
  originValid : origin.valid = true
  originMonthEnd : origin.isMonthEnd = true
  grid : ∀ c ∈ sl, ∃ z : Int, monthToId c.ps = monthToId origin + z * L + 1
  resolution : standardizeResolution q s = .ok (L, .month)
  agg : aggregatePeriod tr mid (some (q, s)) origin prem = .ok back

section Slice
variable {tr : Transc} {sl mid back : List Cell} {res : Nat} {F : List String} {L q : Int} {s : String}
  {origin : Date} {prem : Bool} {G : Cell → List Cell}
  (T : SliceTrip tr sl mid back res F L q s origin prem G)
include T

theorem slice_box {c : Cell} (hc : c ∈ sl) {y : Cell} (hy : y ∈ G c) :
    (y.ps.valid = true ∧ c.ps ≤ y.ps ∧ y.ps ≤ y.pe ∧ y.pe ≤ c.pe) ∧ y.md = c.md ∧ y.ev = c.ev := by
  have hsub := T.groups c hc
  have hm : (y.ps, y.pe) ∈ obsSubs c res (L / (res : Int)).toNat :=
    hsub.periods ▸ List.mem_map.mpr ⟨y, hy, rfl⟩
  have hm' : (y.ps, y.pe) ∈ expectedSubs res c := (sliceWF_expected T.wf hc).symm ▸ hm
  refine ⟨⟨?_, mem_expectedSubs T.wf hc hm'⟩, (hsub.cells y hy).1, (hsub.cells y hy).2.1⟩
  obtain ⟨_, hd, h70, _, _⟩ := T.wf.cell c hc
  obtain ⟨j, _, he, _⟩ := obsSubs_range T.wf.hres hd h70 (L / (res : Int)).toNat
  obtain ⟨k, _, hk⟩ := List.mem_map.mp (he ▸ hm)
  have e : (subOf (monthToId c.ps) res k).1 = y.ps := congrArg Prod.fst hk
  rw [← e]
  exact firstOf_valid _

theorem slice_parent {x : Cell} (hx : x ∈ mid) : ∃ c ∈ sl, x ∈ G c :=
  List.mem_flatMap.mp (T.perm.mem_iff.mp hx)

theorem slice_cells_ok {x : Cell} (hx : x ∈ mid) : x.ps.valid = true ∧ ¬ x.pe < x.ps := by
  obtain ⟨c, hc, hxp⟩ := slice_parent T hx
  obtain ⟨⟨hv, _, hle, _⟩, _⟩ := slice_box T hc hxp
  exact ⟨hv, DateOrder.not_lt.mpr hle⟩

theorem slice_sources :
    SliceFacts mid back prem ∧
    (∀ o ∈ back, ∃ c ∈ sl, G c ≠ [] ∧
      o.ps = c.ps ∧ o.pe = c.pe ∧ o.ev = c.ev ∧ o.md = c.md ∧ (mid.filter (insideB o)).Perm (G c)) ∧
    ∀ c ∈ sl, G c ≠ [] → ∃ o ∈ back, o.md = c.md ∧ o.ps = c.ps ∧ o.pe = c.pe ∧ o.ev = c.ev := by
  have w := T.wf
  have hL : 1 ≤ L := w.hL
  have gr := gridForm_month L T.originValid T.originMonthEnd
  have hfacts : SliceFacts mid back prem :=
    sliceFacts_month T.agg T.resolution hL T.originValid T.originMonthEnd fun x hx => slice_cells_ok T hx
  have hsrc : ∀ o ∈ back, ∀ c ∈ sl, ∀ y ∈ G c, insideB o y = true →
      o.ps = c.ps ∧ o.pe = c.pe ∧ o.ev = c.ev ∧ o.md = c.md ∧ (mid.filter (insideB o)).Perm (G c) := by
    intro o ho
    obtain ⟨j, rel, _, _, hout, hall⟩ := gr.window_origin T.agg T.resolution fun _ _ => ⟨roomAbove_true, roomBelow_true⟩
    obtain ⟨p, hp, hkey, _, _⟩ := hout o ho
    obtain ⟨k, _, _, hps, hpe, _⟩ := hall p hp
    obtain ⟨k1, k2, _⟩ := key3_eq_iff.mp hkey
    rw [k1] at hps
    rw [k2] at hpe
    -- `o` and the period of `c` are windows of one grid with the period of `y` inside both
    have hwin : ∀ c ∈ sl, ∀ y ∈ G c, insideB o y = true → o.ps = c.ps ∧ o.pe = c.pe ∧ o.ev = c.ev := by
      intro c hcm y hy hin
      obtain ⟨h1, h2, h3⟩ := insideB_iff.mp hin
      obtain ⟨⟨_, b1, b2, b3⟩, _, b5⟩ := slice_box T hcm hy
      obtain ⟨z, hz⟩ := T.grid c hcm
      obtain ⟨cps, cpe⟩ := sliceWF_window w hcm hz
      rw [hpe] at h2
      rw [hps] at h1
      rw [cps] at b1
      rw [cpe] at b3
      have n1 := gr.window_not_before hL (m := j + k) (n := z) trivial trivial b2 (DateOrder.not_lt.mp h2) b1
      have n2 := gr.window_not_before hL (m := z) (n := j + k) trivial trivial b2 b3 (DateOrder.not_lt.mp h1)
      obtain rfl : z = j + k := Int.le_antisymm (Int.not_lt.mp n1) (Int.not_lt.mp n2)
      exact ⟨hps.trans cps.symm, hpe.trans cpe.symm, by rw [← h3, b5]⟩
    intro c hcm y hy hin
    obtain ⟨e1, e2, e3⟩ := hwin c hcm y hy hin
    have hiso : ∀ c' ∈ sl, ∀ y' ∈ G c', insideB o y' = true → c' = c := by
      intro c' hc' y' hy' hin'
      obtain ⟨a1, a2, a3⟩ := hwin c' hc' y' hy' hin'
      exact sliceWF_key_inj w hc' hcm (a1 ▸ e1) (a2 ▸ e2) (a3 ▸ e3)
    refine ⟨e1, e2, e3, ?_, (T.perm.filter _).trans (List.Perm.of_eq ?_)⟩
    · obtain ⟨_, _, x, hx, hinx, hmd⟩ := hfacts.outc o ho
      obtain ⟨c', hc', hxp⟩ := slice_parent T hx
      rw [hmd, (slice_box T hc' hxp).2.1, hiso c' hc' x hxp hinx]
    · rw [filter_flatMap_isolate G (insideB o) w.nodup hcm fun c' hc' hne =>
        List.filter_eq_nil_iff.mpr fun y' hy' hin' => hne (hiso c' hc' y' hy' hin'), List.filter_eq_self]
      intro y' hy'
      obtain ⟨⟨_, b1, _, b3⟩, _, b5⟩ := slice_box T hcm hy'
      exact insideB_iff.mpr ⟨e1 ▸ DateOrder.not_lt.mpr b1, e2 ▸ DateOrder.not_lt.mpr b3, by rw [e3, b5]⟩
  refine ⟨hfacts, fun o ho => ?_, fun c hc hne => ?_⟩
  · obtain ⟨_, _, x, hx, hinx, _⟩ := hfacts.outc o ho
    obtain ⟨c, hc, hxp⟩ := slice_parent T hx
    exact ⟨c, hc, List.ne_nil_of_mem hxp, hsrc o ho c hc x hxp hinx⟩
  · obtain ⟨x, hxp⟩ := List.exists_mem_of_ne_nil _ hne
    obtain ⟨o, ho, hin, _⟩ := hfacts.covered x (T.perm.mem_iff.mpr (List.mem_flatMap.mpr ⟨c, hc, hxp⟩))
    obtain ⟨e1, e2, e3, e4, _⟩ := hsrc o ho c hc x hxp hin
    exact ⟨o, ho, e4, e1, e2, e3⟩

theorem slice_sumOf {o : Cell} (ho : o ∈ back) {f : String} (hr : ruleOf [] (lowerKey f) = some ⟨.sum, [f]⟩)
    (hc : prem = true ∨ f ∉ nonLossMetrics) :
    SumOf (o.getV f) ((mid.filter (insideB o)).map fun x => x.getV f) := by
  obtain ⟨_, _, hout⟩ := (gridForm_month L T.originValid T.originMonthEnd).slice_values T.wf.hL T.agg
    T.resolution fun x hx => ⟨slice_cells_ok T hx, roomAbove_true, roomBelow_true⟩
  exact (summarizeCellValues_sum (hout o ho).2.2.2 hc hr).perm (((List.mergeSort_perm _ _).filter _).map _)

/-- slice level of `aggregate_disagg`: C08's per-cell sum runs over the group of ONE input cell (`slice_sources`), and
the group sums to that cell (`SubCellsN.atSums`) -/
theorem aggregate_disagg_slice :
    ∀ o ∈ back, ∃ c ∈ sl, obsSubs c res (L / (res : Int)).toNat ≠ [] ∧
      o.ps = c.ps ∧ o.pe = c.pe ∧ o.ev = c.ev ∧ o.md = c.md ∧ o.kind = .cumulative ∧
      ∀ f i, F.contains f = true → ruleOf [] (lowerKey f) = some ⟨.sum, [f]⟩ →
        (prem = true ∨ f ∉ nonLossMetrics) → (∀ x ∈ mid, (x.getV f).inRange i = true) →
        (o.getV f).at i = (c.getV f).at i := by
  intro o ho
  obtain ⟨hfacts, hsrc, _⟩ := slice_sources T
  obtain ⟨c, hc, hpne, e1, e2, e3, e4, hperm⟩ := hsrc o ho
  have hsub := T.groups c hc
  refine ⟨c, hc, hsub.ne_nil_iff.mp hpne, e1, e2, e3, e4, (hfacts.outc o ho).1, fun f i hf hr hc hin => ?_⟩
  rw [(hfacts.sums o ho f i hr hc fun x hx _ => hin x hx).2, sum_map_perm hperm]
  exact hsub.atSums hpne f hf i

end Slice

/-- the round trip: a well-formed triangle `t` with ONE period resolution `L` in all slices, disaggregated to
`out`, and `out` aggregated back to `L`-month periods (no evaluation resolution) from a month-end origin on
whose `L`-grid all period starts lie -/
structure RoundTrip (tr : Transc) (t out back : List Cell) (res : Nat) (ws : List Rat) (F : List String)
    (L q : Int) (s : String) (origin : Date) (a : AggArgs) : Prop where
  wf : disaggWF res t = true
  resolutionOf : ∀ sl ∈ Triangle.slices t, periodResolution sl.2 = .ok L
  weights : ws ≠ []
  core : disaggCore t res ws F = .ok out
  originValid : origin.valid = true
  originMonthEnd : origin.isMonthEnd = true
  grid : ∀ c ∈ t, ∃ z : Int, monthToId c.ps = monthToId origin + z * L + 1
  resolution : standardizeResolution q s = .ok (L, .month)
  periodRes : a.periodRes = some (q, s)
  evalRes : a.evalRes = none
  periodOrigin : a.periodOrigin = origin
  agg : aggregate tr out a = .ok back

section Triangle
variable {tr : Transc} {t out back : List Cell} {res : Nat} {ws : List Rat} {F : List String} {L q : Int}
  {s : String} {origin : Date} {a : AggArgs} (R : RoundTrip tr t out back res ws F L q s origin a)
include R

/-- the aggregation of the disaggregated triangle is a C08 `Stage` over the slices of `out`, and every slice of `out` is
(a permutation of) the groups of ONE well-formed input slice -/
theorem roundTrip_slices : ∃ G : Cell → List Cell,
    (∀ o ∈ back, ∃ sl ∈ Triangle.slices t, ∃ mid agg, (∀ x ∈ mid, x ∈ out) ∧ o ∈ agg ∧
      SliceTrip tr sl.2 mid agg res F L q s origin a.prem G) ∧
    (∀ c ∈ t, obsSubs c res (L / (res : Int)).toNat ≠ [] → ∃ sl ∈ Triangle.slices t, c ∈ sl.2 ∧ ∃ mid agg,
      (∀ o ∈ agg, o ∈ back) ∧ SliceTrip tr sl.2 mid agg res F L q s origin a.prem G) ∧
    (back.map key4).Nodup := by
  obtain ⟨hwf, hL, hws, hcore, hov, hoe, hgrid, hst, hp, he, ho, hagg⟩ := R
  obtain ⟨G, hperm, hG⟩ := disaggCore_groups (disaggWF_kn hwf) hws hcore
  have hslice : ∀ sl ∈ Triangle.slices t, SliceWF res sl.2 L ∧
      ∀ c ∈ sl.2, SubCellsN res (L / (res : Int)).toNat F c (G c) := fun sl hs => by
    obtain ⟨L', hL', w, hin⟩ := wf_groups hwf hG hs
    obtain rfl : L' = L := by rw [hL sl hs] at hL'; cases hL'; rfl
    exact ⟨w, hin⟩
  have hmem : ∀ o ∈ out, ∃ c ∈ t, o ∈ G c := fun o ho => List.mem_flatMap.mp (hperm.mem_iff.mp ho)
  have hcell : ∀ c ∈ t, ∀ o ∈ G c, o.md = c.md ∧ o.kind = .cell := fun c hc o ho => by
    obtain ⟨sl, hs, _, hcs⟩ := Triangle.exists_slice hc
    have := ((hslice sl hs).2 c hcs).cells o ho
    exact ⟨this.1, this.2.2.1⟩
  have hinc : smIsIncremental out = false := by
    unfold smIsIncremental
    cases hout : out with
    | nil => rfl
    | cons c rest =>
      obtain ⟨c', hc', hcG⟩ := hmem c (hout ▸ List.mem_cons_self)
      simp [(hcell c' hc' c hcG).2]
  obtain ⟨aggs, st⟩ := stage_of_aggregateCum_noeval
    ((aggregate_ok hagg).resolve_left fun h => by rw [hinc] at h; cases h.1).2 hp he
  rw [ho] at st
  -- a slice `S` of `out`: some cell of `out` has its metadata; it lies in the group of a cell of an input slice
  have hS : ∀ S ∈ Triangle.slices out, ∀ agg, aggregatePeriod tr S.2 (some (q, s)) origin a.prem = .ok agg →
      ∃ sl ∈ Triangle.slices t, S.1 = sl.1 ∧ SliceTrip tr sl.2 S.2 agg res F L q s origin a.prem G := by
    intro S hS agg hSa
    obtain ⟨o, ho', hom⟩ := ((slices_partition out).keys S.1).mp (List.mem_map_of_mem hS)
    obtain ⟨c, hc, hoc⟩ := hmem o ho'
    obtain ⟨sl, hs, hmd, hcs⟩ := Triangle.exists_slice hc
    have hmeq : S.1 = sl.1 := by rw [← hom, (hcell c hc o hoc).1, hmd]
    refine ⟨sl, hs, hmeq, (hslice sl hs).1, (hslice sl hs).2, ?_, hov, hoe,
      fun c hc => hgrid c (mem_slices_md hs hc).2, hst, hSa⟩
    refine ((slices_partition out).group S hS).trans ((hperm.filter _).trans ?_)
    rw [hmeq, filter_flatMap_of_const (q := (·.md == sl.1)) fun c hc o ho => by rw [(hcell c hc o ho).1]]
    exact ((slices_partition t).group sl hs).symm.flatMap_right _
  refine ⟨G, fun o hob => ?_, fun c hc hobs => ?_, st.key4_nodup⟩
  · obtain ⟨p, hp, r, hrun, hor, _⟩ := st.mem_slice hob
    obtain ⟨sl, hslm, _, T⟩ := hS p hp r hrun
    exact ⟨sl, hslm, p.2, r, fun x hx => mem_of_mem_slices hp hx, hor, T⟩
  · obtain ⟨sl0, hs0, _, hcs0⟩ := Triangle.exists_slice hc
    obtain ⟨x, hx⟩ := List.exists_mem_of_ne_nil _ (((hslice sl0 hs0).2 c hcs0).ne_nil_iff.mpr hobs)
    have hxout : x ∈ out := hperm.mem_iff.mpr (List.mem_flatMap.mpr ⟨c, hc, hx⟩)
    obtain ⟨S, hSm, hSx, _⟩ := (slices_partition out).exists_group hxout
    obtain ⟨Rf, hR, hruns⟩ := st.aggs_eq
    obtain ⟨sl, hslm, hm, T⟩ := hS _ hSm _ (hruns _ hSm)
    have hm : c.md = sl.1 := by rw [← (hcell c hc x hx).1, ← hSx, hm]
    exact ⟨sl, hslm, (Triangle.mem_slice_iff hslm c).mpr ⟨hc, hm⟩, S.2, Rf S, fun o ho =>
      st.perm.mem_iff.mpr (List.mem_flatten.mpr ⟨Rf S, hR ▸ List.mem_map_of_mem hSm, ho⟩), T⟩

/-- what the aggregation of the disaggregated triangle does, slice by slice -/
theorem aggregate_disagg_core :
    (∀ o ∈ back, ∃ c ∈ t, obsSubs c res (L / (res : Int)).toNat ≠ [] ∧
      o.ps = c.ps ∧ o.pe = c.pe ∧ o.ev = c.ev ∧ o.md = c.md ∧ o.kind = .cumulative ∧
      ∀ f i, F.contains f = true → ruleOf [] (lowerKey f) = some ⟨.sum, [f]⟩ →
        (a.prem = true ∨ f ∉ nonLossMetrics) → (∀ x ∈ out, (x.getV f).inRange i = true) →
        (o.getV f).at i = (c.getV f).at i) ∧
    (∀ c ∈ t, obsSubs c res (L / (res : Int)).toNat ≠ [] →
      ∃ o ∈ back, o.md = c.md ∧ o.ps = c.ps ∧ o.pe = c.pe ∧ o.ev = c.ev) := by
  obtain ⟨G, hA, hD, _⟩ := roundTrip_slices R
  constructor
  · intro o hob
    obtain ⟨sl, hslm, mid, agg, hmid, hor, T⟩ := hA o hob
    obtain ⟨c, hc, h1, h2, h3, h4, h5, h6, h7⟩ := aggregate_disagg_slice T o hor
    exact ⟨c, (mem_slices_md hslm hc).2, h1, h2, h3, h4, h5, h6,
      fun f i hf hr hc' hin => h7 f i hf hr hc' fun x hx => hin x (hmid x hx)⟩
  · intro c hc hobs
    obtain ⟨sl, hslm, hcs, mid, agg, hback, T⟩ := hD c hc hobs
    obtain ⟨o, hoa, rest⟩ := (slice_sources T).2.2 c hcs ((T.groups c hcs).ne_nil_iff.mpr hobs)
    exact ⟨o, hback o hoa, rest⟩

end Triangle

end Units
end Bermuda
