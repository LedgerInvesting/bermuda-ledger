/-
Heap lemmas for C03: allocation and writes against the frame `Preserves n`, and the invariant
"the accumulator is a scalar or a location allocated after entry" (`FreshRef n`).

The frame lemmas have the shape `Preserves n h0 h → Preserves n h0 (f h …).1`: the heap `h` a helper
starts from already extends the entry heap `h0`, and so does the heap it leaves. In this form the
steps of a helper compose by application.
-/
import Bermuda.Model.Heap
namespace Bermuda.Heap

theorem size_alloc (h : Heap) (o : Obj) : (h.alloc o).1.size = h.size + 1 := by
  simp [Heap.alloc, Heap.size]

theorem loc_alloc (h : Heap) (o : Obj) : (h.alloc o).2 = h.size := rfl

theorem get_alloc_lt (h : Heap) (o : Obj) {l : Loc} (hl : l < h.size) :
    (h.alloc o).1.get l = h.get l := by
  simp only [Heap.alloc, Heap.get, Heap.size] at *
  exact List.getElem?_append_left hl

theorem get_alloc_self (h : Heap) (o : Obj) : (h.alloc o).1.get h.size = some o := by
  simp [Heap.alloc, Heap.get, Heap.size]

theorem size_set (h : Heap) (l : Loc) (o : Obj) : (h.set l o).size = h.size := by
  simp [Heap.set, Heap.size]

theorem get_set_ne (h : Heap) (l : Loc) (o : Obj) {l' : Loc} (hne : l ≠ l') :
    (h.set l o).get l' = h.get l' := by
  simp only [Heap.set, Heap.get]
  exact List.getElem?_set_ne hne

theorem get_set_eq (h : Heap) {l : Loc} (hl : l < h.size) (o : Obj) : (h.set l o).get l = some o := by
  simp only [Heap.set, Heap.get, Heap.size] at *
  exact List.getElem?_set_self hl

/-- so an argument that lives in the heap (the head of its `reach`) is covered by `Preserves h.size` -/
theorem reach_head_lt {h : Heap} {l : Loc} {o : Obj} (hl : h.get l = some o) : l < h.size := by
  simp only [Heap.get, Heap.size] at *
  exact (List.getElem?_eq_some_iff.mp hl).1

theorem size_le_of_get_none (h : Heap) {l : Loc} (hl : h.get l = none) : h.size ≤ l := by
  simp only [Heap.get, Heap.size] at *
  exact List.getElem?_eq_none_iff.mp hl

theorem mem_of_dictGet {es : List (String × Ref)} {k : String} {r : Ref} (h : dictGet es k = some r) :
    ∃ e ∈ es, e.2 = r := by
  obtain ⟨e, he, rfl⟩ := Option.map_eq_some_iff.mp h
  exact ⟨e, List.mem_of_find?_eq_some he, rfl⟩

theorem mem_dictSet {es : List (String × Ref)} {k : String} {v : Ref} {e : String × Ref}
    (he : e ∈ dictSet es k v) : e ∈ es ∨ e = (k, v) := by
  unfold dictSet at he
  split at he
  · obtain ⟨q, hq, rfl⟩ := List.mem_map.mp he
    split
    · exact Or.inr rfl
    · exact Or.inl hq
  · rcases List.mem_append.mp he with h | h
    · exact Or.inl h
    · simp at h; exact Or.inr h

theorem mem_dictUnion {a b : List (String × Ref)} {e : String × Ref} (h : e ∈ dictUnion a b) :
    e ∈ a ∨ ∃ e' ∈ b, e.2 = e'.2 := by
  unfold dictUnion at h
  induction b generalizing a with
  | nil => left; simpa using h
  | cons p b ih =>
    simp only [List.foldl_cons] at h
    rcases ih h with h1 | ⟨e', he', h2⟩
    · rcases mem_dictSet h1 with h3 | rfl
      · left; exact h3
      · right; exact ⟨p, List.mem_cons_self .., rfl⟩
    · right; exact ⟨e', List.mem_cons_of_mem _ he', h2⟩

/-- the accumulator is a scalar or a location allocated after entry -/
def FreshRef (n : Nat) : Ref → Prop
  | .loc l => n ≤ l
  | _ => True

theorem freshRef_mono {n m : Nat} (hnm : n ≤ m) {r : Ref} (h : FreshRef m r) : FreshRef n r := by
  cases r with
  | loc l => exact Nat.le_trans hnm h
  | _ => trivial

section
variable {n : Nat} {h0 h : Heap} {p : Pattern}

theorem Preserves.refl (hn : n ≤ h.size) : Preserves n h h :=
  ⟨hn, fun _ _ => rfl⟩

protected theorem Preserves.rfl : Preserves h.size h h := .refl (Nat.le_refl _)

theorem Preserves.trans {h₁ h₂ h₃ : Heap} (a : Preserves n h₁ h₂) (b : Preserves n h₂ h₃) : Preserves n h₁ h₃ :=
  ⟨b.1, fun l hl => (b.2 l hl).trans (a.2 l hl)⟩

/-- a frame for a later, larger entry point restricts to the earlier one -/
theorem Preserves.mono {m : Nat} {h' : Heap} (hnm : n ≤ m) (a : Preserves m h h') : Preserves n h h' :=
  ⟨Nat.le_trans hnm a.1, fun l hl => a.2 l (Nat.lt_of_lt_of_le hl hnm)⟩

/-- the frame of a call whose result has been named by a case split -/
theorem Preserves.of_eq {α : Type} {h1 : Heap} {x : Heap × α} {r : α} (p : Preserves n h0 x.1)
    (heq : x = (h1, r)) : Preserves n h0 h1 := by
  subst heq; exact p

theorem Preserves.alloc (pr : Preserves n h0 h) (o : Obj) : Preserves n h0 (h.alloc o).1 :=
  ⟨by rw [size_alloc]; exact Nat.le_succ_of_le pr.1,
    fun l hl => (get_alloc_lt h o (Nat.lt_of_lt_of_le hl pr.1)).trans (pr.2 l hl)⟩

theorem Preserves.set (pr : Preserves n h0 h) {l : Loc} (hl : n ≤ l) (o : Obj) : Preserves n h0 (h.set l o) :=
  ⟨by rw [size_set]; exact pr.1,
    fun l' hl' => (get_set_ne h l o (Nat.ne_of_gt (Nat.lt_of_lt_of_le hl' hl))).trans (pr.2 l' hl')⟩

/-- binary operators allocate: the old heap is untouched and the result is a scalar or new -/
theorem binop_frame {f : Rat → Rat → Rat} {h' : Heap} {a b r : Ref} (pr : Preserves n h0 h)
    (hr : binop f h a b = .ok (h', r)) : Preserves n h0 h' ∧ FreshRef n r := by
  unfold binop at hr
  split at hr
  · cases hr; exact ⟨pr, trivial⟩
  · split at hr
    · cases hr; exact ⟨pr.alloc _, pr.1⟩
    · cases hr
  · split at hr
    · cases hr; exact ⟨pr.alloc _, pr.1⟩
    · cases hr
  · split at hr
    · simp only [bind, Except.bind] at hr
      split at hr
      · cases hr
      · cases hr; exact ⟨pr.alloc _, pr.1⟩
    · cases hr
  · cases hr

/-- a binary operator leaves EVERY existing location alone -/
theorem binop_get {f : Rat → Rat → Rat} {h' : Heap} {a b r : Ref} (hr : binop f h a b = .ok (h', r))
    {l : Loc} (hl : l < h.size) : h'.get l = h.get l :=
  (binop_frame .rfl hr).1.2 l hl

theorem iadd_ok {h' : Heap} {x v x' : Ref} (hr : iadd h x v = .ok (h', x')) :
    (∃ lx dx d, x = .loc lx ∧ h.get lx = some (.arr dx) ∧ h' = h.set lx (.arr d) ∧ x' = .loc lx) ∨
      binop (· + ·) h x v = .ok (h', x') := by
  unfold iadd at hr
  split at hr
  · rename_i lx
    split at hr
    · rename_i dx hx
      split at hr
      · cases hr; exact .inl ⟨lx, dx, _, rfl, hx, rfl, rfl⟩
      · split at hr
        · simp only [bind, Except.bind] at hr
          split at hr
          · cases hr
          · cases hr; exact .inl ⟨lx, dx, _, rfl, hx, rfl, rfl⟩
        · cases hr
      · cases hr
    · cases hr
  · exact .inr hr
  · cases hr

/-- `x += v` with a fresh accumulator: writes go to the accumulator's own (new) location or
rebind; the accumulator stays fresh -/
theorem iadd_frame {h' : Heap} {x v x' : Ref} (pr : Preserves n h0 h) (hx : FreshRef n x)
    (hr : iadd h x v = .ok (h', x')) : Preserves n h0 h' ∧ FreshRef n x' := by
  rcases iadd_ok hr with ⟨lx, _, _, rfl, _, rfl, rfl⟩ | hb
  · exact ⟨pr.set hx _, hx⟩
  · exact binop_frame pr hb

/-- `+=` leaves every location that does not hold an array alone (it writes into the accumulator's
own array, or allocates) -/
theorem iadd_get_dict {h' : Heap} {x v x' : Ref} (hr : iadd h x v = .ok (h', x')) {l : Loc}
    {es : List (String × Ref)} (hl : h.get l = some (.dict es)) : h'.get l = some (.dict es) := by
  rcases iadd_ok hr with ⟨lx, _, _, rfl, hx, rfl, rfl⟩ | hb
  · rw [get_set_ne _ _ _ (fun heq => by rw [heq, hl] at hx; cases hx)]; exact hl
  · rw [binop_get hb (reach_head_lt hl)]; exact hl

theorem deepcopyVal_frame (pr : Preserves n h0 h) (r : Ref) :
    Preserves n h0 (deepcopyVal h r).1 ∧ FreshRef n (deepcopyVal h r).2 := by
  unfold deepcopyVal
  split
  · split
    · exact ⟨pr.alloc _, pr.1⟩
    · next hnone => exact ⟨pr, Nat.le_trans pr.1 (size_le_of_get_none h hnone)⟩
  · next hne =>
    refine ⟨pr, ?_⟩
    cases r with
    | loc l => exact absurd rfl (hne l)
    | _ => trivial

theorem initAccumulator_frame (pr : Preserves n h0 h) {i : Init} (hi : i.isFresh = true) (values : List Ref) :
    Preserves n h0 (initAccumulator i h values).1 ∧ FreshRef n (initAccumulator i h values).2 := by
  cases i with
  | literal => exact ⟨pr, trivial⟩
  | fresh | copy | computed => exact deepcopyVal_frame pr _
  | element | param | unknown => cases hi

theorem initOf_fresh {p : Pattern} (hp : p.targetsFresh = true) (name : String) :
    (p.initOf name).isFresh = true := by
  unfold Pattern.initOf
  split
  · next t hfind =>
    have ht := List.all_eq_true.mp hp t (List.mem_of_find?_eq_some hfind)
    rw [if_pos ht]
    cases hi : t.inits with
    | nil => simp [hi] at ht
    | cons a rest =>
      simp only [hi, List.all_cons, Bool.and_eq_true] at ht
      exact ht.2.1
  · rfl

theorem sumLoop_frame (vs : List Ref) : ∀ {h : Heap} {total : Ref}, Preserves n h0 h → FreshRef n total →
    Preserves n h0 (sumLoop h total vs).1 := by
  induction vs with
  | nil => intro h total pr _; exact pr
  | cons v rest ih =>
    intro h total pr ht
    by_cases hv : v = .none
    · subst hv; simp only [sumLoop]; exact ih pr ht
    · rw [sumLoop.eq_3 _ _ _ _ hv]
      split
      · exact pr
      · split
        · next hr =>
          obtain ⟨p1, f1⟩ := iadd_frame pr ht hr
          exact ih p1 f1
        · exact pr

theorem conformingSum_frame (hp : p.targetsFresh = true) (pr : Preserves n h0 h) (values : List Ref) :
    Preserves n h0 (conformingSum p h values).1 := by
  unfold conformingSum
  obtain ⟨p0, f0⟩ := initAccumulator_frame pr (initOf_fresh hp "total") values
  exact sumLoop_frame values p0 f0

theorem wavgLoop_frame (vs : List (Ref × Rat)) : ∀ {h : Heap} {total : Ref}, Preserves n h0 h →
    FreshRef n total → Preserves n h0 (wavgLoop h total vs).1 := by
  induction vs with
  | nil => intro h total pr _; exact pr
  | cons vw rest ih =>
    intro h total pr ht
    obtain ⟨v, w⟩ := vw
    by_cases hv : v = .none
    · subst hv; simp only [wavgLoop]; exact ih pr ht
    · rw [wavgLoop.eq_3 _ _ _ _ _ hv]
      split
      · exact pr
      · split
        · exact pr
        · next hb =>
          have p1 := (binop_frame pr hb).1
          split
          · next hr =>
            obtain ⟨p2, f2⟩ := iadd_frame p1 ht hr
            exact ih p2 f2
          · exact p1

theorem conformingWeightedAverage_frame (hp : p.targetsFresh = true) (pr : Preserves n h0 h)
    (values : List Ref) (weights : List Rat) :
    Preserves n h0 (conformingWeightedAverage p h values weights).1 := by
  unfold conformingWeightedAverage
  obtain ⟨p0, f0⟩ := initAccumulator_frame pr (initOf_fresh hp "total") values
  have p1 := wavgLoop_frame (values.zip weights) p0 f0
  simp only
  split
  · next heq => exact p1.of_eq heq
  · next heq =>
    split
    · exact p1.of_eq heq
    · split
      · next hb => exact (binop_frame (p1.of_eq heq) hb).1
      · exact p1.of_eq heq

theorem combineEntries_frame (f : Rat → Rat → Rat) (cur nxt : List (String × Ref)) (ks : List (String × Ref)) :
    ∀ {h : Heap}, Preserves n h0 h → Preserves n h0 (combineEntries f h cur nxt ks).1 := by
  induction ks with
  | nil => intro h pr; exact pr
  | cons k rest ih =>
    intro h pr
    obtain ⟨k, v⟩ := k
    simp only [combineEntries]
    split
    · split
      · split
        · next heq => exact (ih pr).of_eq heq
        · next heq => exact (ih pr).of_eq heq
      · split
        · exact pr
        · next hb =>
          split
          · next heq => exact (ih (binop_frame pr hb).1).of_eq heq
          · next heq => exact (ih (binop_frame pr hb).1).of_eq heq
    · exact pr

theorem valuesCombine_frame (hp : p.targetsFresh = true) (f : Rat → Rat → Rat) (pr : Preserves n h0 h) (a b : Loc) :
    Preserves n h0 (valuesCombine p f h a b).1 := by
  unfold valuesCombine
  simp only [hp, if_true]
  split
  · split
    · exact pr
    · split
      · next heq => exact (combineEntries_frame f _ _ _ pr).of_eq heq
      · next heq => exact ((combineEntries_frame f _ _ _ pr).of_eq heq).alloc _
  · exact pr

theorem mergeCellPair_frame (hp : p.targetsFresh = true) (pr : Preserves n h0 h) (a b : Ref) :
    Preserves n h0 (mergeCellPair p h a b).1 := by
  unfold mergeCellPair
  split
  · exact pr
  · exact pr
  · split
    · rw [if_pos hp]
      exact pr.alloc _
    · exact pr
  · exact pr

theorem mkCell_frame (pr : Preserves n h0 h) (v m : Ref) : Preserves n h0 (mkCell h v m).1 := pr.alloc _

theorem replaceValues_frame (hp : p.targetsFresh = true) (pr : Preserves n h0 h) (c : Loc)
    (es : List (String × Ref)) : Preserves n h0 (replaceValues p h c es).1 := by
  unfold replaceValues
  split
  · exact pr
  · rw [if_pos hp]; exact mkCell_frame (pr.alloc _) _ _

theorem cellReplace_frame (hp : p.targetsFresh = true) (pr : Preserves n h0 h) (c : Loc) (v : Ref) :
    Preserves n h0 (cellReplace p h c v).1 := by
  unfold cellReplace
  split
  · rw [if_pos hp]; exact mkCell_frame pr _ _
  · exact pr

theorem cellSelect_frame (hp : p.targetsFresh = true) (pr : Preserves n h0 h) (c : Loc) (keys : List String) :
    Preserves n h0 (cellSelect p h c keys).1 := by
  unfold cellSelect
  split
  · exact pr
  · exact replaceValues_frame hp pr _ _

theorem cellDeriveFields_frame (hp : p.targetsFresh = true) (defs : List (String × Ref)) :
    ∀ {h : Heap} (c : Loc), Preserves n h0 h → Preserves n h0 (cellDeriveFields p h c defs).1 := by
  induction defs with
  | nil => intro h c pr; exact pr
  | cons d rest ih =>
    intro h c pr
    obtain ⟨name, value⟩ := d
    simp only [cellDeriveFields]
    split
    · exact pr
    · next ev _ =>
      have p1 := replaceValues_frame hp pr c (dictSet ev name value)
      split
      · next heq => exact ih _ (p1.of_eq heq)
      · next heq => exact p1.of_eq heq
      · next heq => exact p1.of_eq heq

theorem cellAddStatics_frame (hp : p.targetsFresh = true) (pr : Preserves n h0 h) (c src : Loc)
    (fields : List String) : Preserves n h0 (cellAddStatics p h c src fields).1 := by
  unfold cellAddStatics
  split
  · exact replaceValues_frame hp pr _ _
  · exact pr

theorem overwriteValues_frame (hp : p.targetsFresh = true) (pr : Preserves n h0 h) (c1 c2 : Loc)
    (suffix : Option String) : Preserves n h0 (overwriteValues p h c1 c2 suffix).1 := by
  unfold overwriteValues
  split
  · exact replaceValues_frame hp pr _ _
  · exact pr

theorem mapEntries_frame {f : Heap → String → Ref → Except Err (Heap × Ref)}
    (hf : ∀ {h : Heap} {k : String} {v : Ref} {h' : Heap} {r : Ref}, Preserves n h0 h → f h k v = .ok (h', r) →
      Preserves n h0 h')
    (es : List (String × Ref)) : ∀ {h : Heap}, Preserves n h0 h → Preserves n h0 (mapEntries f h es).1 := by
  induction es with
  | nil => intro h pr; exact pr
  | cons e rest ih =>
    intro h pr
    obtain ⟨k, v⟩ := e
    simp only [mapEntries]
    split
    · exact pr
    · next hr =>
      split
      · next heq => exact (ih (hf pr hr)).of_eq heq
      · next heq => exact (ih (hf pr hr)).of_eq heq

theorem thinValue_frame (ndxs : List Nat) {k : String} {v : Ref} {h' : Heap} {r : Ref}
    (pr : Preserves n h0 h) (hr : thinValue ndxs h k v = .ok (h', r)) : Preserves n h0 h' := by
  unfold thinValue at hr
  split at hr
  · split at hr
    · split at hr
      · cases hr; exact pr.alloc _
      · cases hr; exact pr
    · cases hr; exact pr
  · cases hr; exact pr

theorem thinCell_frame (hp : p.targetsFresh = true) (pr : Preserves n h0 h) (c : Loc) (ndxs : List Nat) :
    Preserves n h0 (thinCell p h c ndxs).1 := by
  unfold thinCell
  split
  · exact pr
  · next ev _ =>
    have p1 := mapEntries_frame (f := thinValue ndxs) (thinValue_frame ndxs) ev pr
    split
    · next heq => exact replaceValues_frame hp (p1.of_eq heq) _ _
    · next heq => exact p1.of_eq heq

theorem convertValue_frame (fields : List String) (rate : Rat) {k : String} {v : Ref} {h' : Heap} {r : Ref}
    (pr : Preserves n h0 h) (hr : convertValue fields rate h k v = .ok (h', r)) : Preserves n h0 h' := by
  unfold convertValue at hr
  split at hr
  · exact (binop_frame pr hr).1
  · cases hr; exact pr

theorem convertCellCurrency_frame (hp : p.targetsFresh = true) (pr : Preserves n h0 h) (c : Loc)
    (fields : List String) (rate : Rat) (cur : Ref) :
    Preserves n h0 (convertCellCurrency p h c fields rate cur).1 := by
  unfold convertCellCurrency
  split
  · exact pr
  · next ev _ =>
    rw [if_pos hp]
    have p1 := mapEntries_frame (f := convertValue fields rate) (convertValue_frame fields rate) ev pr
    split
    · next heq => exact p1.of_eq heq
    · next heq => exact mkCell_frame (((p1.of_eq heq).alloc _).alloc _) _ _

theorem deriveMetadataStep_frame (hp : p.targetsFresh = true) (pr : Preserves n h0 h) (self c : Loc)
    (name : String) (isAttr : Bool) (value : Ref) :
    Preserves n h0 (deriveMetadataStep p h self c name isAttr value).1 := by
  unfold deriveMetadataStep
  simp only [hp, Bool.not_true, Bool.false_and, Bool.false_eq_true, if_false]
  split
  · split
    · split
      · exact mkCell_frame (pr.alloc _) _ _
      · split
        · split
          · exact mkCell_frame ((pr.alloc _).alloc _) _ _
          · exact pr
        · exact pr
    · exact pr
  · exact pr

theorem cellDeriveMetadata_frame (hp : p.targetsFresh = true) (defs : List (String × Bool × Ref)) (self : Loc) :
    ∀ {h : Heap} (c : Loc), Preserves n h0 h → Preserves n h0 (cellDeriveMetadata p h self c defs).1 := by
  induction defs with
  | nil => intro h c pr; exact pr
  | cons d rest ih =>
    intro h c pr
    obtain ⟨name, isAttr, value⟩ := d
    simp only [cellDeriveMetadata]
    have p1 := deriveMetadataStep_frame hp pr self c name isAttr value
    split
    · next heq => exact ih _ (p1.of_eq heq)
    · next heq => exact p1.of_eq heq
    · next heq => exact p1.of_eq heq

theorem summarizeKeys_frame (hp : p.targetsFresh = true) (cells : List (List (String × Ref))) (keys : List String) :
    ∀ {h : Heap}, Preserves n h0 h → Preserves n h0 (summarizeKeys p h cells keys).1 := by
  induction keys with
  | nil => intro h pr; exact pr
  | cons k ks ih =>
    intro h pr
    simp only [summarizeKeys]
    split
    · next heq => exact (conformingSum_frame hp pr _).of_eq heq
    · next heq =>
      have p1 := (conformingSum_frame hp pr _).of_eq heq
      split
      · next heq2 => exact (ih p1).of_eq heq2
      · next heq2 => exact (ih p1).of_eq heq2

theorem summarizeCellValues_frame (hp : p.targetsFresh = true) (pr : Preserves n h0 h) (cells : List Loc)
    (keys : List String) : Preserves n h0 (summarizeCellValues p h cells keys).1 := by
  unfold summarizeCellValues
  simp only
  split
  · next heq => exact (summarizeKeys_frame hp _ _ pr).of_eq heq
  · next heq => exact ((summarizeKeys_frame hp _ _ pr).of_eq heq).alloc _

/-- invariant of the `vals_dict` loop: every array the dict at `dl` holds was allocated after entry -/
def AccInv (n : Nat) (h : Heap) (dl : Loc) : Prop :=
  ∀ es, h.get dl = some (.dict es) → ∀ e ∈ es, FreshRef n e.2

theorem accumulateItems_frame (dl : Loc) (hdl : n ≤ dl) (share : Rat) (items : List (String × Ref)) :
    ∀ {h : Heap}, Preserves n h0 h → AccInv n h dl →
      Preserves n h0 (accumulateItems h dl share items).1 ∧ AccInv n (accumulateItems h dl share items).1 dl := by
  induction items with
  | nil => intro h pr hi; exact ⟨pr, hi⟩
  | cons it rest ih =>
    intro h pr hi
    obtain ⟨field, val⟩ := it
    simp only [accumulateItems]
    split
    · next es hes =>
      split
      · exact ⟨pr, hi⟩
      · next h1 prod hb =>
        have p1 := (binop_frame pr hb).1
        have hes1 : h1.get dl = some (.dict es) := by rw [binop_get hb (reach_head_lt hes)]; exact hes
        have fcur : FreshRef n ((dictGet es field).getD (.scalar 0)) := by
          cases hf : dictGet es field with
          | none => trivial
          | some r =>
            obtain ⟨e, he, rfl⟩ := mem_of_dictGet hf
            exact hi es hes e he
        split
        · exact ⟨p1, fun es' he' => by rw [hes1] at he'; cases he'; exact hi es hes⟩
        · next h2 r hr =>
          obtain ⟨p2, fr⟩ := iadd_frame p1 fcur hr
          have hes2 : h2.get dl = some (.dict es) := iadd_get_dict hr hes1
          rw [hes2]
          refine ih (p2.set hdl _) fun es' he' => ?_
          rw [get_set_eq h2 (reach_head_lt hes2)] at he'; cases he'
          intro e he
          rcases mem_dictSet he with h' | rfl
          · exact hi es hes e h'
          · exact fr
    · exact ⟨pr, hi⟩

theorem accumulateCells_frame (dl : Loc) (hdl : n ≤ dl) (cells : List (List (String × Ref) × Rat)) :
    ∀ {h : Heap}, Preserves n h0 h → AccInv n h dl → Preserves n h0 (accumulateCells h dl cells).1 := by
  induction cells with
  | nil => intro h pr _; exact pr
  | cons c rest ih =>
    intro h pr hi
    obtain ⟨ev, share⟩ := c
    simp only [accumulateCells]
    obtain ⟨p1, i1⟩ := accumulateItems_frame dl hdl share ev pr hi
    split
    · next heq => rw [heq] at i1; exact ih (p1.of_eq heq) i1
    · next heq => exact p1.of_eq heq

theorem aqpyAccumulate_frame (hp : p.targetsFresh = true) (pr : Preserves n h0 h) (cells : List (Loc × Rat)) :
    Preserves n h0 (aqpyAccumulate p h cells).1 := by
  unfold aqpyAccumulate
  simp only [initOf_fresh hp "vals_dict", if_true]
  have hi : AccInv n (h.alloc (Obj.dict [])).1 (h.alloc (Obj.dict [])).2 := by
    intro es he
    rw [loc_alloc, get_alloc_self] at he
    cases he
    intro e he; cases he
  split
  · next heq => exact (accumulateCells_frame _ pr.1 _ (pr.alloc _) hi).of_eq heq
  · next heq => exact (accumulateCells_frame _ pr.1 _ (pr.alloc _) hi).of_eq heq

theorem linearBlend_frame (vs : List (Ref × Rat)) :
    ∀ {h : Heap} (acc : Ref), Preserves n h0 h → Preserves n h0 (linearBlend h acc vs).1 := by
  induction vs with
  | nil => intro h acc pr; exact pr
  | cons vw rest ih =>
    intro h acc pr
    obtain ⟨v, w⟩ := vw
    simp only [linearBlend]
    split
    · exact pr
    · next hb =>
      have p1 := (binop_frame pr hb).1
      split
      · exact p1
      · next hb2 => exact ih _ (binop_frame p1 hb2).1

theorem blendFields_frame (dl : Loc) (hdl : n ≤ dl) (cells : List (List (String × Ref))) (weights : List Rat)
    (fs : List String) : ∀ {h : Heap}, Preserves n h0 h → Preserves n h0 (blendFields h dl cells weights fs).1 := by
  induction fs with
  | nil => intro h pr; exact pr
  | cons f rest ih =>
    intro h pr
    simp only [blendFields]
    split
    · next heq => exact (linearBlend_frame _ _ pr).of_eq heq
    · next heq =>
      have p1 := (linearBlend_frame _ _ pr).of_eq heq
      split
      · exact ih (p1.set hdl _)
      · exact p1

theorem blendCells_frame {pb pr : Pattern} (hpb : pb.targetsFresh = true) (hpr : pr.targetsFresh = true)
    (p0 : Preserves n h0 h) (cells : List Loc) (weights : List Rat) :
    Preserves n h0 (blendCells pb pr h cells weights).1 := by
  cases cells with
  | nil => exact p0
  | cons c0 tl =>
    simp only [blendCells]
    cases hv : cellValues h c0 with
    | none => exact p0
    | some x =>
      obtain ⟨v0, ev0⟩ := x
      simp only [initOf_fresh hpb "clean_values", if_true]
      split
      · next heq => exact (blendFields_frame _ p0.1 _ _ _ (p0.alloc _)).of_eq heq
      · next heq => exact cellReplace_frame hpr ((blendFields_frame _ p0.1 _ _ _ (p0.alloc _)).of_eq heq) _ _

theorem weightCellValues_frame (ev : List (String × Ref)) (ws : List Rat) :
    ∀ {h : Heap}, Preserves n h0 h → Preserves n h0 (weightCellValues h ev ws).1 := by
  induction ws with
  | nil => intro h pr; exact pr
  | cons w rest ih =>
    intro h pr
    simp only [weightCellValues]
    have p1 := mapEntries_frame (f := fun h _ v => binop (· * ·) h v (.scalar w))
      (fun pr' hr => (binop_frame pr' hr).1) ev pr
    split
    · next heq => exact p1.of_eq heq
    · next heq =>
      split
      · next heq2 => exact (ih ((p1.of_eq heq).alloc _)).of_eq heq2
      · next heq2 => exact (ih ((p1.of_eq heq).alloc _)).of_eq heq2

end

theorem reach_sub_Reach {h : Heap} {r : Ref} {l : Loc} (hl : l ∈ reach h r) : Reach h r l := by
  cases r with
  | none | scalar _ => simp [reach] at hl
  | loc l0 =>
    simp only [reach, List.mem_cons] at hl
    rcases hl with rfl | hl
    · exact Reach.self _
    · split at hl
      · next es hg =>
        obtain ⟨⟨k, v⟩, he, hm⟩ := List.mem_filterMap.mp hl
        cases v with
        | loc l' =>
          simp only [Option.some.injEq] at hm
          subst hm
          exact Reach.step (Reach.self l0) hg he
        | none | scalar _ => simp at hm
      · simp at hl

/-- in a heap without dangling references everything reachable from a live object is live -/
theorem Reach.lt_size {h : Heap} (hc : h.Closed) {r : Ref} {l : Loc} (hr : Reach h r l)
    (hlive : ∀ l0, r = .loc l0 → l0 < h.size) : l < h.size := by
  induction hr with
  | self l => exact hlive l rfl
  | step _ hg he _ => exact hc _ _ _ _ hg he

end Bermuda.Heap
