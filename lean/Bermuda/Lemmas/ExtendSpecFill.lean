/-
C15: the executable clauses of `fillSpec` hold of the model's `fill_forward_gaps`.
Part 1: the clauses shared with `backfillSpec` (`kept t out = t` as a list equation, coordinates of the added cells),
then the structure of the output (coordinates pairwise different, canonical form, observed cells kept).
-/
import Bermuda.Lemmas.AllOpsExtend
namespace Bermuda.Extend

/-! ### coordinates -/

theorem mem_added {t out : List Cell} {a : Cell} :
    a ∈ Spec.C15.added t out ↔ a ∈ out ∧ ∀ o ∈ t, ckey a ≠ ckey o := by
  simp only [Spec.C15.added, List.mem_filter, Bool.not_eq_true', List.any_eq_false]
  constructor
  · rintro ⟨h1, h2⟩
    exact ⟨h1, fun o ho hk => h2 o ho (sameCoord_iff_row.mpr (Prod.mk.inj hk))⟩
  · rintro ⟨h1, h2⟩
    exact ⟨h1, fun o ho hs => h2 o ho (Prod.ext_iff.mpr (sameCoord_iff_row.mp hs))⟩

theorem mem_kept {t out : List Cell} {a : Cell} :
    a ∈ Spec.C15.kept t out ↔ a ∈ out ∧ ∃ o ∈ t, ckey a = ckey o := by
  simp only [Spec.C15.kept, List.mem_filter, List.any_eq_true, sameCoord_iff_row, ckey, Prod.mk.injEq]

/-- a sorted output with pairwise different coordinates that contains every observed cell: the cells
at occupied coordinates are exactly the observed triangle, as a LIST; the added ones have pairwise
different coordinates -/
theorem spec_preserved {t out : List Cell} (hsorted_t : t.Pairwise (fun a b => Cell.le a b))
    (hmd : ∀ c ∈ t, c.md.Canon) (hnd : (t.map ckey).Nodup)
    (hsorted : out.Pairwise (fun a b => Cell.le a b)) (hkeys : (out.map ckey).Nodup)
    (hsub : ∀ c ∈ t, c ∈ out) :
    Spec.C15.kept t out = t ∧ Spec.C15.nodupCoords (Spec.C15.added t out) = true := by
  have hmem : ∀ c, c ∈ Spec.C15.kept t out ↔ c ∈ t := by
    intro c
    rw [mem_kept]
    constructor
    · rintro ⟨hc, o, ho, hk⟩
      rw [inj_of_nodup_map hkeys hc (hsub o ho) hk]; exact ho
    · intro hc; exact ⟨hsub c hc, c, hc, rfl⟩
  have hksub : (Spec.C15.kept t out).Sublist out := List.filter_sublist
  have hasub : (Spec.C15.added t out).Sublist out := List.filter_sublist
  constructor
  · have hknd : (Spec.C15.kept t out).Nodup := ((List.Nodup.of_map _ hkeys)).sublist hksub
    have hperm : (Spec.C15.kept t out).Perm t :=
      (List.perm_ext_iff_of_nodup hknd (List.Nodup.of_map _ hnd)).mpr hmem
    apply sorted_perm_unique (cmp := Cell.cmp) ?_ (hsorted.sublist hksub) hsorted_t hperm
    intro a b ha hb hcmp
    have ha' := (hmem a).mp ha
    exact inj_of_nodup_map hnd ha' hb (ckey_of_cmp_eq (hmd a ha') (hmd b hb) hcmp)
  · exact nodupCoords_of_keys _ ((hkeys.sublist (hasub.map ckey)))

/-- with nothing added the output is the observed triangle -/
theorem out_eq_of_added_nil {t out : List Cell} (hk : Spec.C15.kept t out = t)
    (ha : Spec.C15.added t out = []) : out = t := by
  rw [← hk]
  unfold Spec.C15.kept
  symm
  rw [List.filter_eq_self]
  intro c hc
  unfold Spec.C15.added at ha
  rw [List.filter_eq_nil_iff] at ha
  have := ha c hc
  simpa using this

/-! ### one row: coordinates, slice key, constructor rules -/

theorem fillCell_sliceKey (nf : Bool) (o : Cell) (x : Int) : sliceKey (fillCell nf o x) = sliceKey o := by
  obtain ⟨f1, f2, f3, _⟩ := fillCell_fields nf o x
  simp only [sliceKey, f1, f2, f3]

theorem lagInt_trunc {c : Cell} (hc : MonthAligned c) : truncInt c.devLag = lagInt c := by
  rw [devLag_lagInt hc, truncInt_intCast]

/-- every entry of the filled dictionary of a month-aligned row sits at the month end `period_end + key` -/
theorem fillEntry_ev {res : Int} {nf : Bool} {row : List Cell} {k : SliceKey}
    (hal : ∀ c ∈ row, MonthAligned c) (hkey : ∀ c ∈ row, sliceKey c = k) {p : Rat × Cell}
    (hp : FillEntry res nf row p) :
    sliceKey p.2 = k ∧ ∃ kk : Int, p.1 = ((kk : Int) : Rat) ∧ p.2.ev = monthEndOf (monthToId k.2.2 + kk) := by
  rcases hp with ⟨h1, h2⟩ | ⟨o, ho, lag, _, h1, h2, _⟩
  · refine ⟨hkey _ h1, lagInt p.2, ?_, ?_⟩
    · rw [h2, devLag_lagInt (hal _ h1)]
    · have := ev_monthEndOf (hal _ h1)
      rw [this]
      have hk := hkey _ h1
      simp only [sliceKey] at hk
      rw [← hk]
  · have hk := hkey _ ho
    refine ⟨by rw [h2, fillCell_sliceKey, hk], lag, h1, ?_⟩
    rw [h2, (fillCell_fields nf o lag).2.2.2, addMonths_form (hal o ho)]
    simp only [sliceKey] at hk
    rw [← hk]

theorem fillRow_out {res : Int} {nf : Bool} {row cells : List Cell} {k : SliceKey}
    (hal : ∀ c ∈ row, MonthAligned c) (hkey : ∀ c ∈ row, sliceKey c = k)
    (h : fillRow res nf row = .ok cells) :
    (cells.map ckey).Nodup ∧ ∀ c ∈ cells, sliceKey c = k := by
  obtain ⟨_, d, hd, rfl⟩ := fillRow_ok.mp h
  obtain ⟨hnd, _, hent⟩ := fillRow_loose hd
  constructor
  · rw [List.map_map]
    refine (List.Nodup.of_map _ hnd).map_on fun p hp q hq hpq => inj_of_nodup_map hnd hp hq ?_
    obtain ⟨_, kp, hkp, hep⟩ := fillEntry_ev hal hkey (hent p hp)
    obtain ⟨_, kq, hkq, heq⟩ := fillEntry_ev hal hkey (hent q hq)
    have := (ckey_eq_iff.mp hpq).2
    rw [hep, heq] at this
    have := monthEndOf_inj.mp this
    have hkk : kp = kq := by omega
    show p.1 = q.1
    rw [hkp, hkq, hkk]
  · intro c hc
    obtain ⟨p, hp, rfl⟩ := List.mem_map.mp hc
    exact (fillEntry_ev hal hkey (hent p hp)).1

/-! ### the whole triangle -/

/-- the domain of the bridges: a canonical month-aligned triangle with canonical metadata and no
coordinate occupied twice -/
structure SpecDomain (t : List Cell) : Prop where
  canonical : Properties.C01.Canonical t
  canon : ∀ c ∈ t, c.md.Canon
  aligned : ∀ c ∈ t, MonthAligned c
  nodup : (t.map ckey).Nodup

namespace SpecDomain
variable {t : List Cell} (hD : SpecDomain t)
include hD

theorem eq_of_coord {a b : Cell} (ha : a ∈ t) (hb : b ∈ t) (hk : rowKey a = rowKey b) (he : a.ev = b.ev) : a = b :=
  inj_of_nodup_map hD.nodup ha hb (ckey_eq_iff.mpr ⟨hk, he⟩)

theorem ev_lt_iff {a b : Cell} (ha : a ∈ t) (hb : b ∈ t) (hk : rowKey a = rowKey b) :
    a.ev < b.ev ↔ lagInt a < lagInt b := by
  rw [ev_monthEndOf (hD.aligned a ha), ev_monthEndOf (hD.aligned b hb), monthEndOf_lt_monthEndOf, pe_of_rowKey hk]
  omega

/-- the Spec's first lag of a row is the lag of the row's earliest observation -/
theorem firstLag_eq {first : Cell} (hf : first ∈ t) (hearly : ∀ o ∈ t, rowKey o = rowKey first → ¬ (o.ev < first.ev))
    {c : Cell} (hc : rowKey c = rowKey first) : Spec.C15.firstLag t c = some ((lagInt first : Int) : Rat) := by
  rw [← devLag_lagInt (hD.aligned first hf)]
  refine minRat_map_eq (mem_rowOf.mpr ⟨hf, hc⟩) fun o ho => ?_
  obtain ⟨hot, hok⟩ := mem_rowOf.mp ho
  have hof : rowKey o = rowKey first := hok.symm.trans hc
  rw [devLag_lagInt (hD.aligned o hot), devLag_lagInt (hD.aligned first hf)]
  exact_mod_cast Int.not_lt.mp ((hD.ev_lt_iff hot hf hof).not.mp (hearly o hot hof))

theorem lastLag_eq {last : Cell} (hl : last ∈ t) (hlate : ∀ o ∈ t, rowKey o = rowKey last → ¬ (last.ev < o.ev))
    {c : Cell} (hc : rowKey c = rowKey last) : Spec.C15.lastLag t .month c = some ((lagInt last : Int) : Rat) := by
  rw [← devLag_lagInt (hD.aligned last hl)]
  refine Extend.lastLag_eq hl hc fun o ho hol => ?_
  show o.devLag ≤ last.devLag
  rw [devLag_lagInt (hD.aligned o ho), devLag_lagInt (hD.aligned last hl)]
  exact_mod_cast Int.not_lt.mp ((hD.ev_lt_iff hl ho hol.symm).not.mp (hlate o ho hol))

end SpecDomain

/-- the lags within a slice row are pairwise different -/
theorem row_lags_nodup {t : List Cell} (hD : SpecDomain t) {r : SliceKey × List Cell}
    (hr : r ∈ slicePeriodRows t) : r.2.Pairwise (fun a b => a.devLag ≠ b.devLag) := by
  have hnd : r.2.Nodup := by
    obtain ⟨_, _, _, h2⟩ := mem_slicePeriodRows hr
    rw [h2]
    exact (List.mergeSort_perm _ _).nodup_iff.mpr ((List.Nodup.of_map _ hD.nodup).filter _)
  refine (List.Nodup.pairwise_of_forall_ne hnd ?_)
  intro a ha b hb hne hlag
  obtain ⟨hat, hak⟩ := (mem_slicePeriodRow_iff hr a).mp ha
  obtain ⟨hbt, hbk⟩ := (mem_slicePeriodRow_iff hr b).mp hb
  have hk : rowKey a = rowKey b := sliceKey_eq_iff.mp (hak.trans hbk.symm)
  have hli : lagInt a = lagInt b := by
    rw [devLag_lagInt (hD.aligned a hat), devLag_lagInt (hD.aligned b hbt)] at hlag
    exact_mod_cast hlag
  exact hne (hD.eq_of_coord hat hbt hk
    (by rw [ev_monthEndOf (hD.aligned a hat), ev_monthEndOf (hD.aligned b hbt), pe_of_rowKey hk, hli]))

theorem fill_preserves_observed' {t out : List Cell} {res? : Option Int} {nf : Bool}
    (h : fillForwardGaps t res? nf = .ok out)
    (hnd : ∀ r ∈ slicePeriodRows t, r.2.Pairwise (fun a b => a.devLag ≠ b.devLag)) :
    ∀ c ∈ t, c ∈ out := by
  intro c hc
  obtain ⟨r, hr, _, hcr⟩ := slicePeriodRows_cover hc
  rcases fillForwardGaps_ok.mp h with ⟨hempty, _⟩ | ⟨res, parts, _, hparts, hof⟩
  · rw [hempty] at hr; cases hr
  · obtain ⟨ys, hys, hfy⟩ := mapM_ok_mem' hparts r hr
    exact (Triangle.ofCells_perm hof).mem_iff.mpr
      (List.mem_flatten.mpr ⟨ys, hys, fillRow_preserves hfy (hnd r hr) c hcr⟩)

theorem fill_out_structure {t out : List Cell} {res? : Option Int} {nf : Bool} (hD : SpecDomain t)
    (h : fillForwardGaps t res? nf = .ok out) :
    Properties.C01.Canonical out ∧ (out.map ckey).Nodup ∧ ∀ c ∈ t, c ∈ out := by
  refine ⟨AllOps.fillForwardGaps_canonical hD.canonical.2.2 h, ?_,
    fill_preserves_observed' h (fun r hr => row_lags_nodup hD hr)⟩
  rcases fillForwardGaps_ok.mp h with ⟨_, rfl⟩ | ⟨res, parts, hres, hparts, hof⟩
  · exact List.nodup_nil
  · rw [((Triangle.ofCells_perm hof).map ckey).nodup_iff]
    apply mapM_blocks_keys_nodup (fun r : SliceKey × List Cell => fillRow res nf r.2) (·.1) sliceKey
      (fun a b hab => sliceKey_eq_iff.mpr (ckey_eq_iff.mp hab).1)
      _ _ (slicePeriodRows_partition t).nodup hparts
    intro r hr ys hys
    exact fillRow_out (fun c hc => hD.aligned c ((mem_slicePeriodRow_iff hr c).mp hc).1)
      (fun c hc => ((mem_slicePeriodRow_iff hr c).mp hc).2) hys

end Bermuda.Extend
