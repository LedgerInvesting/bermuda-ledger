-- GENERATED by harness/translate_c03ir.py from /repo -- do not edit
import Bermuda.Generated.HeapIRSums
import Bermuda.Lemmas.HeapIRFast
namespace Bermuda.Generated.HeapIR
open Bermuda.HeapIR

/-- bermuda/plot.py:626  params: triangle, metric, name, show_values, title, mark_scaler, <globals> -/
def f275 : Fn := ⟨"bermuda.plot:_plot_heatmap", [0, 1, 2, 3, 4, 5, 6], [],
  (.seq (.seq (.seq (.seq (.seq (.seq (.const 2) (.seq (.const 3) (.const 5))) (.seq (.call 13 286 [2]) (.seq (.bind 12 13) (.alloc 13 (.sh 0) .dict)))) (.seq (.seq (.store 13 .dyn 1) (.seq (.call 14 288 [0, 13]) (.alloc 13 (.sh 0) .dict))) (.seq (.seq (.havoc 14) (.store 13 .dyn 14)) (.seq (.bind 11 13) (.alloc 13 (.sh 0) .dict))))) (.seq (.seq (.seq (.havoc 14) (.seq (.store 13 .dyn 14) (.const 13))) (.seq (.seq (.const 13) (.alloc 13 (.sh 0) .dict)) (.seq (.havoc 14) (.store 13 .dyn 14)))) (.seq (.seq (.alloc 13 (.sh 0) .dict) (.seq (.havoc 14) (.store 13 .dyn 14))) (.seq (.seq (.const 13) (.const 13)) (.seq (.const 13) (.const 13)))))) (.seq (.seq (.seq (.seq (.alloc 13 (.sh 0) .dict) (.seq (.havoc 14) (.store 13 .dyn 14))) (.seq (.seq (.alloc 13 (.sh 0) .dict) (.havoc 14)) (.seq (.store 13 .dyn 14) (.const 13)))) (.seq (.seq (.const 13) (.seq (.alloc 13 (.sh 0) .dict) (.havoc 14))) (.seq (.seq (.store 13 .dyn 14) (.bind 10 13)) (.seq (.alloc 13 (.sh 0) .dict) (.havoc 14))))) (.seq (.seq (.seq (.store 13 .dyn 14) (.seq (.bind 9 13) (.alloc 13 (.sh 0) .dict))) (.seq (.seq (.havoc 14) (.store 13 .dyn 14)) (.seq (.alloc 13 (.sh 0) .dict) (.havoc 14)))) (.seq (.seq (.store 13 .dyn 14) (.seq (.const 13) (.const 13))) (.seq (.seq (.alloc 13 (.sh 0) .dict) (.havoc 14)) (.seq (.store 13 .dyn 14) (.const 13))))))) (.seq (.seq (.seq (.seq (.seq (.alloc 13 (.sh 0) .dict) (.seq (.havoc 14) (.store 13 .dyn 14))) (.seq (.seq (.alloc 13 (.sh 0) .dict) (.havoc 14)) (.seq (.store 13 .dyn 14) (.const 13)))) (.seq (.seq (.alloc 13 (.sh 0) .dict) (.seq (.havoc 14) (.store 13 .dyn 14))) (.seq (.seq (.const 13) (.alloc 13 (.sh 0) .dict)) (.seq (.havoc 14) (.store 13 .dyn 14))))) (.seq (.seq (.seq (.alloc 13 (.sh 0) .dict) (.seq (.havoc 14) (.store 13 .dyn 14))) (.seq (.seq (.const 13) (.const 13)) (.seq (.alloc 13 (.sh 0) .dict) (.havoc 14)))) (.seq (.seq (.store 13 .dyn 14) (.seq (.const 14) (.const 14))) (.seq (.seq (.alloc 14 (.sh 0) .dict) (.havoc 15)) (.seq (.store 14 .dyn 15) (.const 15)))))) (.seq (.seq (.seq (.seq (.const 15) (.seq (.alloc 15 (.sh 0) .dict) (.havoc 16))) (.seq (.seq (.store 15 .dyn 16) (.const 16)) (.seq (.const 16) (.alloc 16 (.sh 0) .dict)))) (.seq (.seq (.havoc 17) (.seq (.store 16 .dyn 17) (.const 17))) (.seq (.seq (.const 17) (.alloc 17 (.sh 0) .dict)) (.seq (.havoc 18) (.store 17 .dyn 18))))) (.seq (.seq (.seq (.alloc 18 (.sh 1) (.lit [("", 13), ("", 14), ("", 15), ("", 16), ("", 17)])) (.seq (.alloc 13 (.sh 0) .dict) (.havoc 14))) (.seq (.seq (.store 13 .dyn 14) (.alloc 13 (.sh 0) .dict)) (.seq (.havoc 14) (.store 13 .dyn 14)))) (.seq (.seq (.bind 8 13) (.seq (.ite (.seq (.seq (.seq (.seq (.load 13 6 .dyn) (.load 13 6 .dyn)) (.seq (.arith 13) (.seq (.arith 13) (.arith 13)))) (.seq (.seq (.arith 13) (.const 13)) (.seq (.alloc 13 (.sh 0) .dict) (.seq (.havoc 14) (.store 13 .dyn 14))))) (.seq (.seq (.seq (.const 13) (.const 13)) (.seq (.alloc 13 (.sh 0) .dict) (.seq (.havoc 14) (.store 13 .dyn 14)))) (.seq (.seq (.alloc 13 (.sh 0) .dict) (.seq (.havoc 14) (.store 13 .dyn 14))) (.seq (.bind 7 13) (.seq (.ite (.arith 13) (.alloc 13 (.sh 0) (.union [8, 7]))) (.ret 13)))))) .skip) (.const 13))) (.seq (.seq (.alloc 13 (.sh 0) .dict) (.havoc 14)) (.seq (.store 13 .dyn 14) (.ret 13)))))))),
  (.lv (.sh 0))⟩

/-- bermuda/plot.py:1657  params: triangle, metric, name, right_edge, title, <globals> -/
def f276 : Fn := ⟨"bermuda.plot:_plot_histogram", [0, 1, 2, 3, 4, 5], [],
  (.seq (.seq (.seq (.seq (.seq (.const 2) (.const 3)) (.seq (.ite (.seq (.ite (.seq (.load 11 0 .dyn) (.load 12 11 .dyn)) (.call 12 347 [0])) (.bind 0 12)) .skip) (.seq (.alloc 11 (.sh 1) .dict) (.loop [.any, .any, .scalar, .scalar, .any, .any, .scalar, .scalar, .any, .scalar, .any, (.lv (.sh 1)), .any, .any] (.seq (.seq (.load 12 0 .dyn) (.bind 8 12)) (.seq (.havoc 12) (.seq (.ite (.call 13 283 [12]) (.bind 13 12)) (.loop [.any, .any, .scalar, .scalar, .any, .any, .scalar, .scalar, .any, .scalar, .any, (.lv (.sh 1)), .any, .any] (.seq (.seq (.seq (.const 12) (.bind 9 12)) (.seq (.load 12 13 .dyn) (.bind 10 12))) (.seq (.seq (.alloc 12 (.sh 0) .dict) (.store 12 .dyn 10)) (.seq (.const 14) (.seq (.store 12 .dyn 9) (.store 11 .dyn 12))))))))))))) (.seq (.seq (.alloc 11 (.sh 0) .dict) (.havoc 12)) (.seq (.store 11 .dyn 12) (.seq (.bind 7 11) (.alloc 11 (.sh 0) .dict))))) (.seq (.seq (.seq (.havoc 12) (.store 11 .dyn 12)) (.seq (.alloc 11 (.sh 0) .dict) (.seq (.havoc 12) (.store 11 .dyn 12)))) (.seq (.seq (.const 11) (.seq (.const 11) (.alloc 11 (.sh 0) .dict))) (.seq (.havoc 12) (.seq (.store 11 .dyn 12) (.alloc 11 (.sh 0) .dict)))))) (.seq (.seq (.seq (.seq (.havoc 12) (.store 11 .dyn 12)) (.seq (.alloc 11 .nums .dict) (.seq (.const 12) (.const 12)))) (.seq (.seq (.store 11 .dyn 12) (.alloc 11 (.sh 0) .dict)) (.seq (.havoc 12) (.seq (.store 11 .dyn 12) (.const 11))))) (.seq (.seq (.seq (.const 11) (.alloc 11 (.sh 0) .dict)) (.seq (.havoc 12) (.seq (.store 11 .dyn 12) (.const 11)))) (.seq (.seq (.const 11) (.seq (.alloc 11 (.sh 0) .dict) (.havoc 12))) (.seq (.store 11 .dyn 12) (.seq (.bind 6 11) (.ret 6))))))),
  (.lv (.sh 0))⟩

/-- bermuda/plot.py:1086  params: triangle, metric, name, title, mark_scaler, uncertainty, uncertainty_type, highlight_ultimates, <globals> -/
def f277 : Fn := ⟨"bermuda.plot:_plot_mountain", [0, 1, 2, 3, 4, 5, 6, 7, 8], [],
  (.seq (.seq (.seq (.seq (.seq (.seq (.seq (.const 2) (.const 4)) (.seq (.const 5) (.const 6))) (.seq (.seq (.const 7) (.call 26 286 [2])) (.seq (.bind 25 26) (.ite (.seq (.seq (.seq (.seq (.ite (.call 26 280 [0]) (.bind 26 0)) (.bind 24 26)) (.seq (.alloc 26 (.sh 0) .dict) (.store 26 .dyn 1))) (.seq (.seq (.call 27 288 [24, 26]) (.alloc 26 (.sh 0) .dict)) (.seq (.havoc 27) (.store 26 .dyn 27)))) (.seq (.seq (.seq (.bind 22 26) (.ite (.seq (.load 26 0 .dyn) (.load 27 26 .dyn)) (.call 27 347 [0]))) (.seq (.alloc 26 (.sh 0) .dict) (.store 26 .dyn 1))) (.seq (.seq (.call 28 288 [27, 26]) (.alloc 26 (.sh 0) .dict)) (.seq (.havoc 27) (.seq (.store 26 .dyn 27) (.bind 23 26)))))) (.seq (.seq (.alloc 26 (.sh 0) .dict) (.seq (.store 26 .dyn 1) (.call 27 288 [0, 26]))) (.seq (.seq (.alloc 26 (.sh 0) .dict) (.havoc 27)) (.seq (.store 26 .dyn 27) (.bind 22 26)))))))) (.seq (.seq (.seq (.const 26) (.alloc 26 (.sh 0) .dict)) (.seq (.havoc 27) (.store 26 .dyn 27))) (.seq (.seq (.const 26) (.alloc 26 (.sh 0) .dict)) (.seq (.havoc 27) (.seq (.store 26 .dyn 27) (.const 26)))))) (.seq (.seq (.seq (.seq (.alloc 26 (.sh 0) .dict) (.havoc 27)) (.seq (.store 26 .dyn 27) (.bind 21 26))) (.seq (.seq (.const 26) (.alloc 26 (.sh 0) .dict)) (.seq (.havoc 27) (.store 26 .dyn 27)))) (.seq (.seq (.seq (.bind 20 26) (.const 26)) (.seq (.alloc 27 .nums (.lit [("", 26)])) (.alloc 26 (.sh 0) .dict))) (.seq (.seq (.havoc 27) (.store 26 .dyn 27)) (.seq (.bind 19 26) (.seq (.alloc 26 (.sh 0) .dict) (.havoc 27))))))) (.seq (.seq (.seq (.seq (.seq (.store 26 .dyn 27) (.const 26)) (.seq (.alloc 26 (.sh 0) .dict) (.havoc 27))) (.seq (.seq (.store 26 .dyn 27) (.alloc 26 (.sh 0) .dict)) (.seq (.havoc 27) (.store 26 .dyn 27)))) (.seq (.seq (.seq (.const 26) (.alloc 26 (.sh 0) .dict)) (.seq (.havoc 27) (.store 26 .dyn 27))) (.seq (.seq (.alloc 26 (.sh 0) .dict) (.havoc 27)) (.seq (.store 26 .dyn 27) (.seq (.bind 18 26) (.const 26)))))) (.seq (.seq (.seq (.seq (.const 26) (.alloc 26 (.sh 0) .dict)) (.seq (.havoc 27) (.store 26 .dyn 27))) (.seq (.seq (.const 27) (.const 27)) (.seq (.alloc 27 (.sh 0) .dict) (.havoc 28)))) (.seq (.seq (.seq (.store 27 .dyn 28) (.const 28)) (.seq (.const 28) (.alloc 28 (.sh 0) .dict))) (.seq (.seq (.havoc 29) (.store 28 .dyn 29)) (.seq (.const 29) (.seq (.const 29) (.alloc 29 (.sh 0) .dict)))))))) (.seq (.seq (.seq (.seq (.seq (.seq (.havoc 30) (.store 29 .dyn 30)) (.seq (.const 30) (.const 30))) (.seq (.seq (.alloc 30 (.sh 0) .dict) (.havoc 31)) (.seq (.store 30 .dyn 31) (.alloc 31 (.sh 1) (.lit [("", 26), ("", 27), ("", 28), ("", 29), ("", 30)]))))) (.seq (.seq (.seq (.bind 17 31) (.alloc 26 (.sh 0) .dict)) (.seq (.havoc 27) (.store 26 .dyn 27))) (.seq (.seq (.const 26) (.const 26)) (.seq (.const 26) (.seq (.alloc 26 (.sh 0) .dict) (.havoc 27)))))) (.seq (.seq (.seq (.seq (.store 26 .dyn 27) (.alloc 26 (.sh 0) .dict)) (.seq (.havoc 27) (.store 26 .dyn 27))) (.seq (.seq (.const 26) (.const 26)) (.seq (.const 26) (.const 26)))) (.seq (.seq (.seq (.alloc 26 (.sh 0) .dict) (.havoc 27)) (.seq (.store 26 .dyn 27) (.alloc 26 (.sh 0) .dict))) (.seq (.seq (.havoc 27) (.store 26 .dyn 27)) (.seq (.const 26) (.seq (.alloc 26 (.sh 0) .dict) (.havoc 27))))))) (.seq (.seq (.seq (.seq (.seq (.store 26 .dyn 27) (.bind 16 26)) (.seq (.alloc 26 (.sh 0) .dict) (.havoc 27))) (.seq (.seq (.store 26 .dyn 27) (.alloc 26 (.sh 0) .dict)) (.seq (.havoc 27) (.store 26 .dyn 27)))) (.seq (.seq (.seq (.bind 15 26) (.const 26)) (.seq (.const 26) (.alloc 26 (.sh 0) .dict))) (.seq (.seq (.havoc 27) (.store 26 .dyn 27)) (.seq (.alloc 26 (.sh 0) .dict) (.seq (.havoc 27) (.store 26 .dyn 27)))))) (.seq (.seq (.seq (.seq (.bind 14 26) (.const 26)) (.seq (.arith 26) (.ite (.bind 27 5) (.bind 27 26)))) (.seq (.seq (.ite (.seq (.seq (.seq (.seq (.seq (.alloc 26 (.sh 0) .dict) (.havoc 27)) (.seq (.store 26 .dyn 27) (.const 26))) (.seq (.seq (.alloc 26 (.sh 0) .dict) (.havoc 27)) (.seq (.store 26 .dyn 27) (.alloc 26 (.sh 0) .dict)))) (.seq (.seq (.seq (.havoc 27) (.store 26 .dyn 27)) (.seq (.const 26) (.alloc 26 (.sh 0) .dict))) (.seq (.seq (.havoc 27) (.store 26 .dyn 27)) (.seq (.alloc 26 (.sh 0) .dict) (.havoc 27))))) (.seq (.seq (.seq (.seq (.store 26 .dyn 27) (.bind 13 26)) (.seq (.alloc 26 (.sh 0) .dict) (.havoc 27))) (.seq (.seq (.store 26 .dyn 27) (.const 26)) (.seq (.alloc 26 (.sh 0) .dict) (.havoc 27)))) (.seq (.seq (.seq (.store 26 .dyn 27) (.const 26)) (.seq (.alloc 26 (.sh 0) .dict) (.havoc 27))) (.seq (.seq (.store 26 .dyn 27) (.alloc 26 (.sh 0) .dict)) (.seq (.havoc 27) (.seq (.store 26 .dyn 27) (.bind 12 26))))))) (.seq (.seq (.const 26) (.arith 26)) (.seq (.ite (.bind 27 5) (.bind 27 26)) (.ite (.seq (.seq (.seq (.seq (.const 26) (.alloc 26 (.sh 0) .dict)) (.seq (.havoc 27) (.store 26 .dyn 27))) (.seq (.seq (.const 26) (.alloc 26 (.sh 0) .dict)) (.seq (.havoc 27) (.store 26 .dyn 27)))) (.seq (.seq (.seq (.const 26) (.const 26)) (.seq (.alloc 26 (.sh 0) .dict) (.havoc 27))) (.seq (.seq (.store 26 .dyn 27) (.alloc 26 (.sh 0) .dict)) (.seq (.havoc 27) (.seq (.store 26 .dyn 27) (.bind 12 26)))))) (.seq (.seq (.alloc 26 (.sh 0) .dict) (.havoc 27)) (.seq (.store 26 .dyn 27) (.bind 12 26))))))) (.ite (.seq (.seq (.seq (.seq (.seq (.seq (.const 26) (.alloc 26 (.sh 0) .dict)) (.seq (.havoc 27) (.store 26 .dyn 27))) (.seq (.seq (.const 26) (.alloc 26 (.sh 0) .dict)) (.seq (.havoc 27) (.store 26 .dyn 27)))) (.seq (.seq (.seq (.bind 11 26) (.alloc 26 (.sh 0) .dict)) (.seq (.havoc 27) (.store 26 .dyn 27))) (.seq (.seq (.const 26) (.const 26)) (.seq (.const 26) (.alloc 26 (.sh 0) .dict))))) (.seq (.seq (.seq (.seq (.havoc 27) (.store 26 .dyn 27)) (.seq (.alloc 26 (.sh 0) .dict) (.havoc 27))) (.seq (.seq (.store 26 .dyn 27) (.const 26)) (.seq (.const 26) (.const 26)))) (.seq (.seq (.seq (.alloc 26 (.sh 0) .dict) (.havoc 27)) (.seq (.store 26 .dyn 27) (.const 26))) (.seq (.seq (.const 26) (.alloc 26 (.sh 0) .dict)) (.seq (.havoc 27) (.store 26 .dyn 27)))))) (.seq (.seq (.seq (.seq (.seq (.alloc 26 (.sh 0) .dict) (.havoc 27)) (.seq (.store 26 .dyn 27) (.bind 10 26))) (.seq (.seq (.alloc 26 (.sh 0) .dict) (.havoc 27)) (.seq (.store 26 .dyn 27) (.const 26)))) (.seq (.seq (.seq (.alloc 26 (.sh 0) .dict) (.havoc 27)) (.seq (.store 26 .dyn 27) (.alloc 26 (.sh 0) .dict))) (.seq (.seq (.havoc 27) (.store 26 .dyn 27)) (.seq (.bind 9 26) (.const 26))))) (.seq (.seq (.seq (.seq (.const 26) (.alloc 26 (.sh 0) .dict)) (.seq (.havoc 27) (.store 26 .dyn 27))) (.seq (.seq (.alloc 26 (.sh 0) .dict) (.havoc 27)) (.seq (.store 26 .dyn 27) (.aug 9 26)))) (.seq (.seq (.seq (.const 26) (.arith 26)) (.seq (.ite (.bind 27 5) (.bind 27 26)) (.ite (.seq (.seq (.seq (.alloc 26 (.sh 0) .dict) (.seq (.havoc 27) (.store 26 .dyn 27))) (.seq (.seq (.const 26) (.alloc 26 (.sh 0) .dict)) (.seq (.havoc 27) (.store 26 .dyn 27)))) (.seq (.seq (.seq (.const 26) (.alloc 26 (.sh 0) .dict)) (.seq (.havoc 27) (.store 26 .dyn 27))) (.seq (.seq (.alloc 26 (.sh 0) .dict) (.havoc 27)) (.seq (.store 26 .dyn 27) (.aug 9 26))))) .skip))) (.seq (.seq (.const 26) (.arith 26)) (.seq (.ite (.bind 27 5) (.bind 27 26)) (.ite (.seq (.seq (.seq (.seq (.const 26) (.alloc 26 (.sh 0) .dict)) (.seq (.havoc 27) (.store 26 .dyn 27))) (.seq (.seq (.const 26) (.alloc 26 (.sh 0) .dict)) (.seq (.havoc 27) (.store 26 .dyn 27)))) (.seq (.seq (.seq (.const 26) (.const 26)) (.seq (.alloc 26 (.sh 0) .dict) (.havoc 27))) (.seq (.seq (.store 26 .dyn 27) (.alloc 26 (.sh 0) .dict)) (.seq (.havoc 27) (.seq (.store 26 .dyn 27) (.aug 9 26)))))) .skip))))))) (.seq (.seq (.alloc 26 (.sh 0) .dict) (.havoc 27)) (.seq (.store 26 .dyn 27) (.bind 9 26))))) (.seq (.ite (.arith 26) (.alloc 26 (.sh 0) (.union [15, 12]))) (.seq (.alloc 26 (.sh 0) .dict) (.havoc 27))))) (.seq (.seq (.seq (.store 26 .dyn 27) (.alloc 26 (.sh 0) .dict)) (.seq (.havoc 27) (.store 26 .dyn 27))) (.seq (.seq (.const 26) (.alloc 26 (.sh 0) .dict)) (.seq (.havoc 27) (.seq (.store 26 .dyn 27) (.ret 26))))))))),
  (.lv (.sh 0))⟩

/-- bermuda/plot.py:372  params: triangle, title, mark_scaler, uncertainty, uncertainty_type, <globals> -/
def f278 : Fn := ⟨"bermuda.plot:_plot_right_edge", [0, 1, 2, 3, 4, 5], [],
  (.seq (.seq (.seq (.seq (.seq (.seq (.const 2) (.seq (.const 3) (.const 4))) (.seq (.const 18) (.seq (.ite (.seq (.load 18 0 .dyn) (.load 19 18 .dyn)) (.call 19 326 [0])) (.arith 18)))) (.seq (.seq (.ite (.seq (.seq (.ite (.seq (.load 18 0 .dyn) (.load 19 18 .dyn)) (.call 19 326 [0])) (.const 18)) (.seq (.const 18) .raise)) .skip) (.seq (.ite (.seq (.load 18 0 .dyn) (.load 19 18 .dyn)) (.call 19 347 [0])) (.load 18 5 .dyn))) (.seq (.seq (.call 20 288 [19, 18]) (.alloc 18 (.sh 0) .dict)) (.seq (.havoc 19) (.store 18 .dyn 19))))) (.seq (.seq (.seq (.bind 15 18) (.seq (.call 18 266 [0]) (.bind 14 18))) (.seq (.seq (.alloc 18 (.sh 0) .dict) (.havoc 19)) (.seq (.store 18 .dyn 19) (.alloc 18 (.sh 0) .dict)))) (.seq (.seq (.havoc 19) (.seq (.store 18 .dyn 19) (.const 18))) (.seq (.seq (.alloc 18 (.sh 0) .dict) (.havoc 19)) (.seq (.store 18 .dyn 19) (.const 18)))))) (.seq (.seq (.seq (.seq (.alloc 18 (.sh 0) .dict) (.seq (.havoc 19) (.store 18 .dyn 19))) (.seq (.seq (.const 18) (.const 18)) (.seq (.alloc 18 (.sh 0) .dict) (.havoc 19)))) (.seq (.seq (.store 18 .dyn 19) (.seq (.const 18) (.alloc 18 (.sh 0) .dict))) (.seq (.seq (.havoc 19) (.store 18 .dyn 19)) (.seq (.const 18) (.alloc 19 .nums (.lit [("", 18)])))))) (.seq (.seq (.seq (.alloc 18 (.sh 0) .dict) (.seq (.havoc 19) (.store 18 .dyn 19))) (.seq (.seq (.const 18) (.const 18)) (.seq (.const 18) (.const 18)))) (.seq (.seq (.alloc 18 (.sh 0) .dict) (.seq (.havoc 19) (.store 18 .dyn 19))) (.seq (.seq (.const 19) (.const 19)) (.seq (.alloc 19 (.sh 0) .dict) (.havoc 20))))))) (.seq (.seq (.seq (.seq (.seq (.store 19 .dyn 20) (.seq (.const 20) (.const 20))) (.seq (.alloc 20 (.sh 0) .dict) (.seq (.havoc 21) (.store 20 .dyn 21)))) (.seq (.seq (.const 21) (.seq (.const 21) (.alloc 21 (.sh 0) .dict))) (.seq (.seq (.havoc 22) (.store 21 .dyn 22)) (.seq (.const 22) (.const 22))))) (.seq (.seq (.seq (.alloc 22 (.sh 0) .dict) (.seq (.havoc 23) (.store 22 .dyn 23))) (.seq (.seq (.alloc 23 (.sh 1) (.lit [("", 18), ("", 19), ("", 20), ("", 21), ("", 22)])) (.alloc 18 (.sh 0) .dict)) (.seq (.havoc 19) (.store 18 .dyn 19)))) (.seq (.seq (.bind 13 18) (.seq (.alloc 18 (.sh 0) .dict) (.havoc 19))) (.seq (.seq (.store 18 .dyn 19) (.bind 9 18)) (.seq (.alloc 18 (.sh 0) .dict) (.load 19 15 .dyn)))))) (.seq (.seq (.seq (.seq (.loop [.any, .any, .scalar, .scalar, .scalar, .any, .scalar, .scalar, .scalar, (.lv (.sh 0)), .scalar, .scalar, .scalar, (.lv (.sh 0)), .scalar, (.lv (.sh 0)), .any, .any, (.lv (.sh 0)), .any, .any, (.lv (.sh 0)), (.lv (.sh 0)), (.lv (.sh 1))] (.seq (.load 20 19 .dyn) (.seq (.bind 16 20) (.loop [.any, .any, .scalar, .scalar, .scalar, .any, .scalar, .scalar, .scalar, (.lv (.sh 0)), .scalar, .scalar, .scalar, (.lv (.sh 0)), .scalar, (.lv (.sh 0)), .any, .any, (.lv (.sh 0)), .any, .any, (.lv (.sh 0)), (.lv (.sh 0)), (.lv (.sh 1))] (.seq (.seq (.load 20 16 .dyn) (.bind 17 20)) (.seq (.const 20) (.seq (.arith 20) (.ite .skip (.store 18 .dyn 17))))))))) (.seq (.alloc 19 (.sh 0) (.union [18])) (.alloc 18 (.sh 0) (.union [19])))) (.seq (.seq (.bind 12 18) (.alloc 18 (.sh 0) .dict)) (.seq (.havoc 19) (.store 18 .dyn 19)))) (.seq (.seq (.bind 8 18) (.seq (.alloc 18 (.sh 0) .dict) (.havoc 19))) (.seq (.seq (.store 18 .dyn 19) (.bind 7 18)) (.seq (.loop [.any, .any, .scalar, .scalar, .scalar, .any, .scalar, (.lv (.sh 0)), (.lv (.sh 0)), (.lv (.sh 0)), .scalar, .any, (.lv (.sh 0)), (.lv (.sh 0)), .scalar, (.lv (.sh 0)), .any, .any, (.lv (.sh 0)), .any, .any, (.lv (.sh 0)), (.lv (.sh 0)), (.lv (.sh 1))] (.block (.seq (.seq (.seq (.seq (.seq (.seq (.seq (.load 18 12 .dyn) (.bind 11 18)) (.seq (.call 18 286 [11]) (.bind 10 18))) (.seq (.seq (.const 18) (.arith 18)) (.seq (.ite (.bind 19 3) (.bind 19 18)) (.ite (.seq (.seq (.seq (.seq (.seq (.alloc 18 (.sh 0) .dict) (.havoc 19)) (.seq (.store 18 .dyn 19) (.const 18))) (.seq (.seq (.alloc 18 (.sh 0) .dict) (.havoc 19)) (.seq (.store 18 .dyn 19) (.const 18)))) (.seq (.seq (.seq (.alloc 18 (.sh 0) .dict) (.havoc 19)) (.seq (.store 18 .dyn 19) (.const 18))) (.seq (.seq (.alloc 18 (.sh 0) .dict) (.havoc 19)) (.seq (.store 18 .dyn 19) (.const 18))))) (.seq (.seq (.seq (.seq (.const 18) (.alloc 18 (.sh 0) .dict)) (.seq (.havoc 19) (.store 18 .dyn 19))) (.seq (.seq (.const 18) (.alloc 18 (.sh 0) .dict)) (.seq (.havoc 19) (.store 18 .dyn 19)))) (.seq (.seq (.seq (.const 18) (.alloc 18 (.sh 0) .dict)) (.seq (.havoc 19) (.store 18 .dyn 19))) (.seq (.seq (.alloc 18 (.sh 0) .dict) (.havoc 19)) (.seq (.store 18 .dyn 19) (.aug 9 18)))))) (.seq (.seq (.const 18) (.arith 18)) (.seq (.ite (.bind 19 3) (.bind 19 18)) (.ite (.seq (.seq (.seq (.seq (.seq (.alloc 18 (.sh 0) .dict) (.havoc 19)) (.seq (.store 18 .dyn 19) (.const 18))) (.seq (.seq (.alloc 18 (.sh 0) .dict) (.havoc 19)) (.seq (.store 18 .dyn 19) (.const 18)))) (.seq (.seq (.seq (.alloc 18 (.sh 0) .dict) (.havoc 19)) (.seq (.store 18 .dyn 19) (.const 18))) (.seq (.seq (.const 18) (.const 18)) (.seq (.alloc 18 (.sh 0) .dict) (.seq (.havoc 19) (.store 18 .dyn 19)))))) (.seq (.seq (.seq (.seq (.const 18) (.const 18)) (.seq (.alloc 18 (.sh 0) .dict) (.havoc 19))) (.seq (.seq (.store 18 .dyn 19) (.const 18)) (.seq (.alloc 18 (.sh 0) .dict) (.havoc 19)))) (.seq (.seq (.seq (.store 18 .dyn 19) (.const 18)) (.seq (.alloc 18 (.sh 0) .dict) (.havoc 19))) (.seq (.seq (.store 18 .dyn 19) (.alloc 18 (.sh 0) .dict)) (.seq (.havoc 19) (.seq (.store 18 .dyn 19) (.aug 9 18))))))) .skip))))))) (.seq (.seq (.seq (.alloc 18 (.sh 0) .dict) (.havoc 19)) (.seq (.store 18 .dyn 19) (.const 18))) (.seq (.seq (.alloc 18 (.sh 0) .dict) (.havoc 19)) (.seq (.store 18 .dyn 19) (.const 18))))) (.seq (.seq (.seq (.seq (.const 18) (.alloc 18 (.sh 0) .dict)) (.seq (.havoc 19) (.store 18 .dyn 19))) (.seq (.seq (.alloc 18 (.sh 0) .dict) (.havoc 19)) (.seq (.store 18 .dyn 19) (.const 18)))) (.seq (.seq (.seq (.const 18) (.const 18)) (.seq (.const 18) (.alloc 18 (.sh 0) .dict))) (.seq (.seq (.havoc 19) (.store 18 .dyn 19)) (.seq (.const 18) (.alloc 18 (.sh 0) .dict)))))) (.seq (.seq (.seq (.seq (.seq (.havoc 19) (.store 18 .dyn 19)) (.seq (.alloc 18 (.sh 0) .dict) (.havoc 19))) (.seq (.seq (.store 18 .dyn 19) (.const 18)) (.seq (.const 18) (.const 18)))) (.seq (.seq (.seq (.alloc 18 (.sh 0) .dict) (.havoc 19)) (.seq (.store 18 .dyn 19) (.const 18))) (.seq (.seq (.alloc 18 (.sh 0) .dict) (.havoc 19)) (.seq (.store 18 .dyn 19) (.alloc 18 (.sh 0) .dict))))) (.seq (.seq (.seq (.seq (.havoc 19) (.store 18 .dyn 19)) (.seq (.alloc 18 (.sh 0) .dict) (.havoc 19))) (.seq (.seq (.store 18 .dyn 19) (.aug 8 18)) (.seq (.alloc 18 (.sh 0) .dict) (.havoc 19)))) (.seq (.seq (.seq (.store 18 .dyn 19) (.const 18)) (.seq (.const 19) (.arith 19))) (.seq (.seq (.ite (.const 20) (.ite (.load 20 18 .dyn) (.ite (.bind 20 18) (.bind 20 19)))) (.const 18)) (.seq (.const 18) (.alloc 18 (.sh 0) .dict))))))) (.seq (.seq (.seq (.seq (.seq (.seq (.havoc 19) (.store 18 .dyn 19)) (.seq (.const 18) (.const 18))) (.seq (.seq (.alloc 18 (.sh 0) .dict) (.havoc 19)) (.seq (.store 18 .dyn 19) (.alloc 18 (.sh 0) .dict)))) (.seq (.seq (.seq (.havoc 19) (.store 18 .dyn 19)) (.seq (.const 18) (.const 18))) (.seq (.seq (.const 18) (.const 18)) (.seq (.alloc 18 (.sh 0) .dict) (.havoc 19))))) (.seq (.seq (.seq (.seq (.store 18 .dyn 19) (.const 18)) (.seq (.alloc 18 (.sh 0) .dict) (.havoc 19))) (.seq (.seq (.store 18 .dyn 19) (.alloc 18 (.sh 0) .dict)) (.seq (.havoc 19) (.store 18 .dyn 19)))) (.seq (.seq (.seq (.const 18) (.const 18)) (.seq (.const 18) (.alloc 18 (.sh 0) .dict))) (.seq (.seq (.havoc 19) (.store 18 .dyn 19)) (.seq (.const 18) (.alloc 18 (.sh 0) .dict)))))) (.seq (.seq (.seq (.seq (.seq (.havoc 19) (.store 18 .dyn 19)) (.seq (.const 18) (.const 18))) (.seq (.seq (.alloc 18 (.sh 0) .dict) (.havoc 19)) (.seq (.store 18 .dyn 19) (.const 19)))) (.seq (.seq (.seq (.const 19) (.alloc 19 (.sh 0) .dict)) (.seq (.havoc 20) (.store 19 .dyn 20))) (.seq (.seq (.const 20) (.const 20)) (.seq (.alloc 20 (.sh 0) .dict) (.havoc 21))))) (.seq (.seq (.seq (.seq (.store 20 .dyn 21) (.const 21)) (.seq (.const 21) (.alloc 21 (.sh 0) .dict))) (.seq (.seq (.havoc 22) (.store 21 .dyn 22)) (.seq (.const 22) (.const 22)))) (.seq (.seq (.seq (.alloc 22 (.sh 0) .dict) (.havoc 23)) (.seq (.store 22 .dyn 23) (.alloc 23 (.sh 1) (.lit [("", 18), ("", 19), ("", 20), ("", 21), ("", 22)])))) (.seq (.seq (.alloc 18 (.sh 0) .dict) (.havoc 19)) (.seq (.store 18 .dyn 19) (.aug 7 18)))))))))) (.ite (.arith 18) (.alloc 18 (.sh 0) (.union [9, 8]))))))) (.seq (.seq (.seq (.ite (.arith 19) (.alloc 19 (.sh 0) (.union [18, 7]))) (.seq (.alloc 18 (.sh 0) .dict) (.havoc 19))) (.seq (.seq (.store 18 .dyn 19) (.const 18)) (.seq (.const 18) (.alloc 18 (.sh 0) .dict)))) (.seq (.seq (.havoc 19) (.seq (.store 18 .dyn 19) (.bind 6 18))) (.seq (.seq (.alloc 18 (.sh 0) .dict) (.havoc 19)) (.seq (.store 18 .dyn 19) (.ret 18)))))))),
  (.lv (.sh 0))⟩

/-- bermuda/plot.py:958  params: triangle, metric, name, title, mark_scaler, uncertainty, uncertainty_type, <globals> -/
def f279 : Fn := ⟨"bermuda.plot:_plot_sunset", [0, 1, 2, 3, 4, 5, 6, 7], [],
  (.seq (.seq (.seq (.seq (.seq (.seq (.seq (.const 2) (.const 4)) (.seq (.const 5) (.seq (.const 6) (.call 22 286 [2])))) (.seq (.seq (.bind 21 22) (.seq (.alloc 22 (.sh 0) .dict) (.store 22 .dyn 1))) (.seq (.const 23) (.seq (.call 24 288 [0, 22, 23]) (.alloc 22 (.sh 0) .dict))))) (.seq (.seq (.seq (.havoc 23) (.seq (.store 22 .dyn 23) (.bind 20 22))) (.seq (.const 22) (.seq (.alloc 22 (.sh 0) .dict) (.havoc 23)))) (.seq (.seq (.store 22 .dyn 23) (.seq (.const 22) (.alloc 22 (.sh 0) .dict))) (.seq (.havoc 23) (.seq (.store 22 .dyn 23) (.const 22)))))) (.seq (.seq (.seq (.seq (.alloc 22 (.sh 0) .dict) (.havoc 23)) (.seq (.store 22 .dyn 23) (.seq (.bind 19 22) (.const 22)))) (.seq (.seq (.alloc 22 (.sh 0) .dict) (.seq (.havoc 23) (.store 22 .dyn 23))) (.seq (.bind 18 22) (.seq (.const 22) (.alloc 23 .nums (.lit [("", 22)])))))) (.seq (.seq (.seq (.alloc 22 (.sh 0) .dict) (.seq (.havoc 23) (.store 22 .dyn 23))) (.seq (.bind 17 22) (.seq (.alloc 22 (.sh 0) .dict) (.havoc 23)))) (.seq (.seq (.store 22 .dyn 23) (.seq (.const 22) (.alloc 22 (.sh 0) .dict))) (.seq (.havoc 23) (.seq (.store 22 .dyn 23) (.alloc 22 (.sh 0) .dict))))))) (.seq (.seq (.seq (.seq (.seq (.havoc 23) (.store 22 .dyn 23)) (.seq (.const 22) (.seq (.alloc 22 (.sh 0) .dict) (.havoc 23)))) (.seq (.seq (.store 22 .dyn 23) (.seq (.alloc 22 (.sh 0) .dict) (.havoc 23))) (.seq (.store 22 .dyn 23) (.seq (.bind 16 22) (.alloc 22 (.sh 0) .dict))))) (.seq (.seq (.seq (.havoc 23) (.seq (.store 22 .dyn 23) (.alloc 22 (.sh 0) .dict))) (.seq (.havoc 23) (.seq (.store 22 .dyn 23) (.const 22)))) (.seq (.seq (.alloc 22 (.sh 0) .dict) (.seq (.havoc 23) (.store 22 .dyn 23))) (.seq (.alloc 22 (.sh 0) .dict) (.seq (.havoc 23) (.store 22 .dyn 23)))))) (.seq (.seq (.seq (.seq (.bind 15 22) (.alloc 22 (.sh 0) .dict)) (.seq (.havoc 23) (.seq (.store 22 .dyn 23) (.alloc 22 (.sh 0) .dict)))) (.seq (.seq (.havoc 23) (.seq (.store 22 .dyn 23) (.const 22))) (.seq (.alloc 22 (.sh 0) .dict) (.seq (.havoc 23) (.store 22 .dyn 23))))) (.seq (.seq (.seq (.alloc 22 (.sh 0) .dict) (.seq (.havoc 23) (.store 22 .dyn 23))) (.seq (.bind 14 22) (.seq (.alloc 22 (.sh 0) .dict) (.havoc 23)))) (.seq (.seq (.store 22 .dyn 23) (.seq (.const 22) (.const 22))) (.seq (.const 22) (.seq (.alloc 22 (.sh 0) .dict) (.havoc 23)))))))) (.seq (.seq (.seq (.seq (.seq (.seq (.store 22 .dyn 23) (.alloc 22 (.sh 0) .dict)) (.seq (.havoc 23) (.seq (.store 22 .dyn 23) (.const 22)))) (.seq (.seq (.const 22) (.seq (.const 22) (.alloc 22 (.sh 0) .dict))) (.seq (.havoc 23) (.seq (.store 22 .dyn 23) (.const 22))))) (.seq (.seq (.seq (.const 22) (.seq (.const 22) (.alloc 22 (.sh 0) .dict))) (.seq (.havoc 23) (.seq (.store 22 .dyn 23) (.const 22)))) (.seq (.seq (.const 22) (.seq (.alloc 22 (.sh 0) .dict) (.havoc 23))) (.seq (.store 22 .dyn 23) (.seq (.const 23) (.const 23)))))) (.seq (.seq (.seq (.seq (.alloc 23 (.sh 0) .dict) (.havoc 24)) (.seq (.store 23 .dyn 24) (.seq (.const 24) (.const 24)))) (.seq (.seq (.alloc 24 (.sh 0) .dict) (.seq (.havoc 25) (.store 24 .dyn 25))) (.seq (.const 25) (.seq (.const 25) (.alloc 25 (.sh 0) .dict))))) (.seq (.seq (.seq (.havoc 26) (.seq (.store 25 .dyn 26) (.const 26))) (.seq (.const 26) (.seq (.alloc 26 (.sh 0) .dict) (.havoc 27)))) (.seq (.seq (.store 26 .dyn 27) (.seq (.alloc 27 (.sh 1) (.lit [("", 22), ("", 23), ("", 24), ("", 25), ("", 26)])) (.alloc 22 (.sh 0) .dict))) (.seq (.havoc 23) (.seq (.store 22 .dyn 23) (.bind 13 22))))))) (.seq (.seq (.seq (.seq (.seq (.const 22) (.const 22)) (.seq (.arith 22) (.seq (.const 22) (.alloc 22 (.sh 0) .dict)))) (.seq (.seq (.havoc 23) (.seq (.store 22 .dyn 23) (.alloc 22 (.sh 0) .dict))) (.seq (.havoc 23) (.seq (.store 22 .dyn 23) (.bind 12 22))))) (.seq (.seq (.seq (.const 22) (.seq (.const 22) (.const 22))) (.seq (.alloc 23 .nums (.lit [("", 22)])) (.seq (.const 22) (.alloc 22 (.sh 0) .dict)))) (.seq (.seq (.havoc 23) (.seq (.store 22 .dyn 23) (.const 22))) (.seq (.alloc 22 (.sh 0) .dict) (.seq (.havoc 23) (.store 22 .dyn 23)))))) (.seq (.seq (.seq (.seq (.alloc 22 (.sh 0) .dict) (.seq (.havoc 23) (.store 22 .dyn 23))) (.seq (.bind 11 22) (.seq (.const 22) (.arith 22)))) (.seq (.seq (.ite (.bind 23 5) (.bind 23 22)) (.seq (.ite (.seq (.seq (.seq (.seq (.seq (.alloc 22 (.sh 0) .dict) (.havoc 23)) (.seq (.store 22 .dyn 23) (.const 22))) (.seq (.seq (.alloc 22 (.sh 0) .dict) (.havoc 23)) (.seq (.store 22 .dyn 23) (.seq (.alloc 22 (.sh 0) .dict) (.havoc 23))))) (.seq (.seq (.seq (.store 22 .dyn 23) (.const 22)) (.seq (.alloc 22 (.sh 0) .dict) (.havoc 23))) (.seq (.seq (.store 22 .dyn 23) (.alloc 22 (.sh 0) .dict)) (.seq (.havoc 23) (.seq (.store 22 .dyn 23) (.bind 10 22)))))) (.seq (.seq (.seq (.seq (.alloc 22 (.sh 0) .dict) (.havoc 23)) (.seq (.store 22 .dyn 23) (.const 22))) (.seq (.seq (.alloc 22 (.sh 0) .dict) (.havoc 23)) (.seq (.store 22 .dyn 23) (.seq (.alloc 22 (.sh 0) .dict) (.havoc 23))))) (.seq (.seq (.seq (.store 22 .dyn 23) (.const 22)) (.seq (.alloc 22 (.sh 0) .dict) (.havoc 23))) (.seq (.seq (.store 22 .dyn 23) (.alloc 22 (.sh 0) .dict)) (.seq (.havoc 23) (.seq (.store 22 .dyn 23) (.bind 9 22))))))) (.seq (.seq (.const 22) (.arith 22)) (.seq (.ite (.bind 23 5) (.bind 23 22)) (.ite (.seq (.seq (.seq (.seq (.const 22) (.alloc 22 (.sh 0) .dict)) (.seq (.havoc 23) (.store 22 .dyn 23))) (.seq (.seq (.const 22) (.alloc 22 (.sh 0) .dict)) (.seq (.havoc 23) (.seq (.store 22 .dyn 23) (.alloc 22 (.sh 0) .dict))))) (.seq (.seq (.seq (.havoc 23) (.store 22 .dyn 23)) (.seq (.const 22) (.seq (.alloc 22 (.sh 0) .dict) (.havoc 23)))) (.seq (.seq (.store 22 .dyn 23) (.alloc 22 (.sh 0) .dict)) (.seq (.havoc 23) (.seq (.store 22 .dyn 23) (.bind 9 22)))))) (.seq (.const 22) (.bind 9 22)))))) (.const 22))) (.seq (.arith 22) (.seq (.ite (.seq (.alloc 22 (.sh 1) (.lit [("", 11), ("", 12)])) (.bind 23 22)) (.seq (.alloc 22 (.sh 1) (.lit [("", 9), ("", 11), ("", 12)])) (.bind 23 22))) (.bind 8 23))))) (.seq (.seq (.seq (.load 22 8 .dyn) (.seq (.alloc 22 (.sh 0) .dict) (.havoc 23))) (.seq (.store 22 .dyn 23) (.seq (.alloc 22 (.sh 0) .dict) (.havoc 23)))) (.seq (.seq (.store 22 .dyn 23) (.seq (.const 22) (.alloc 22 (.sh 0) .dict))) (.seq (.havoc 23) (.seq (.store 22 .dyn 23) (.ret 22))))))))),
  (.lv (.sh 0))⟩

/-- bermuda/plot.py:326  params: triangle, <globals> -/
def f280 : Fn := ⟨"bermuda.plot:_remove_triangle_samples", [0, 1], [],
  (.seq (.seq (.seq (.const 5) (.ite (.seq (.load 5 0 .dyn) (.load 6 5 .dyn)) (.call 6 341 [0]))) (.seq (.const 5) (.seq (.arith 5) (.ite (.seq (.const 5) (.ret 5)) .skip)))) (.seq (.seq (.alloc 5 (.sh 0) .dict) (.bind 3 5)) (.seq (.loop [.any, .any, .any, (.lv (.sh 0)), .any, (.lv (.sh 0)), .any, .scalar, (.lv .num), (.lv .num)] (.block (.seq (.seq (.seq (.load 5 0 .dyn) (.bind 2 5)) (.seq (.alloc 5 .nums .dict) (.load 6 2 .dyn))) (.seq (.seq (.loop [.any, .any, .any, (.lv (.sh 0)), .any, (.lv .nums), .any, .scalar, (.lv .num), (.lv .num)] (.seq (.seq (.seq (.load 7 6 .dyn) (.bind 4 7)) (.seq (.const 7) (.seq (.const 7) (.load 8 4 .dyn)))) (.seq (.seq (.load 9 8 .dyn) (.const 8)) (.seq (.arith 8) (.seq (.ite (.bind 9 7) (.bind 9 8)) (.store 5 .dyn 9)))))) (.const 5)) (.seq (.const 5) (.ite (.seq (.store 3 .dyn 2) (.const 5)) .skip)))))) (.seq (.call 5 307 [3]) (.ret 5))))),
  (.lv (.sh 2))⟩

/-- bermuda/plot.py:150  params: metric_spec, <globals> -/
def f281 : Fn := ⟨"bermuda.plot:_resolve_metric_spec", [0, 1], [],
  (.seq (.seq (.const 4) (.seq (.const 4) (.ite (.seq (.alloc 4 (.sh 0) (.lit [("", 0)])) (.bind 0 4)) .skip))) (.seq (.const 4) (.seq (.const 4) (.ite (.seq (.seq (.alloc 4 (.sh 0) .dict) (.bind 3 4)) (.seq (.loop [.any, .any, .any, (.lv (.sh 0)), .any, .any] (.block (.seq (.seq (.load 4 0 .dyn) (.seq (.bind 2 4) (.const 4))) (.seq (.const 4) (.seq (.const 4) (.ite (.seq (.const 4) (.seq (.const 4) .raise)) (.seq (.load 4 1 .dyn) (.seq (.arith 4) (.ite (.seq (.const 4) (.seq (.const 4) .raise)) (.seq (.load 4 1 .dyn) (.seq (.load 5 4 .dyn) (.store 3 .dyn 5)))))))))))) (.ret 3))) (.ret 0))))),
  .any⟩

/-- bermuda/plot.py:1760  params: cell, prev_cell, next_cell, func, <globals> -/
def f282 : Fn := ⟨"bermuda.plot:_safe_apply_metric", [0, 1, 2, 3, 4], [],
  (.«try» (.seq (.havoc 5) (.ret 5)) (.seq (.const 5) (.«try» (.seq (.havoc 5) (.ret 5)) (.seq (.const 5) (.ret 5))))),
  .any⟩

/-- bermuda/plot.py:1845  params: x, <globals> -/
def f283 : Fn := ⟨"bermuda.plot:_scalar_or_array_to_iter", [0, 1], [],
  (.seq (.seq (.const 2) (.seq (.const 3) (.arith 3))) (.seq (.seq (.ite (.bind 4 2) (.bind 4 3)) (.ite (.seq (.alloc 2 (.sh 0) (.lit [("", 0)])) (.seq (.arith 2) (.ret 2))) .skip)) (.seq (.const 2) (.ret 2)))),
  (.lv .num)⟩

/-- bermuda/plot.py:1797  params: slice_tri, base_tri, <globals> -/
def f284 : Fn := ⟨"bermuda.plot:_slice_label", [0, 1, 2], [],
  (.seq (.seq (.seq (.seq (.seq (.seq (.ite (.seq (.load 12 1 .dyn) (.load 13 12 .dyn)) (.call 13 315 [1])) (.ite (.seq (.load 12 0 .dyn) (.load 14 12 .dyn)) (.call 14 315 [0]))) (.seq (.call 12 50 [13, 14]) (.bind 11 12))) (.seq (.seq (.alloc 12 .nums .dict) (.bind 10 12)) (.seq (.load 12 11 .dyn) (.seq (.load 13 12 .dyn) (.load 12 11 .dyn))))) (.seq (.seq (.seq (.load 14 12 .dyn) (.alloc 12 (.sh 0) (.union [13, 14]))) (.seq (.loop [.any, .any, .any, .any, .scalar, .scalar, .scalar, .scalar, .scalar, .any, (.lv .nums), (.lv (.sh 0)), (.lv (.sh 0)), .any, .any] (.block (.seq (.seq (.seq (.havoc 13) (.bind 3 13)) (.seq (.load 13 12 .dyn) (.bind 9 13))) (.seq (.seq (.const 13) (.const 13)) (.seq (.store 10 .dyn 13) (.const 13)))))) (.alloc 12 (.sh 0) .dict))) (.seq (.seq (.bind 8 12) (.load 12 11 .dyn)) (.seq (.load 13 12 .dyn) (.seq (.const 12) (.arith 12)))))) (.seq (.seq (.seq (.seq (.ite (.seq (.seq (.load 12 11 .dyn) (.load 13 12 .dyn)) (.seq (.store 8 .dyn 13) (.const 12))) .skip) (.load 12 11 .dyn)) (.seq (.load 13 12 .dyn) (.const 12))) (.seq (.seq (.arith 12) (.ite (.seq (.seq (.load 12 11 .dyn) (.load 13 12 .dyn)) (.seq (.store 8 .dyn 13) (.const 12))) .skip)) (.seq (.load 12 11 .dyn) (.seq (.load 13 12 .dyn) (.const 12))))) (.seq (.seq (.seq (.arith 12) (.ite (.seq (.seq (.load 12 11 .dyn) (.load 13 12 .dyn)) (.seq (.store 8 .dyn 13) (.const 12))) .skip)) (.seq (.alloc 12 .nums .dict) (.seq (.bind 7 12) (.load 12 11 .dyn)))) (.seq (.seq (.load 13 12 .dyn) (.const 12)) (.seq (.arith 12) (.seq (.ite (.seq (.seq (.load 12 11 .dyn) (.load 13 12 .dyn)) (.seq (.const 12) (.seq (.store 7 .dyn 12) (.const 12)))) .skip) (.load 12 11 .dyn))))))) (.seq (.seq (.seq (.seq (.seq (.load 13 12 .dyn) (.const 12)) (.seq (.arith 12) (.ite (.seq (.seq (.load 12 11 .dyn) (.load 13 12 .dyn)) (.seq (.const 12) (.seq (.store 7 .dyn 12) (.const 12)))) .skip))) (.seq (.seq (.load 12 11 .dyn) (.load 13 12 .dyn)) (.seq (.const 12) (.seq (.arith 12) (.ite (.seq (.seq (.load 12 11 .dyn) (.load 13 12 .dyn)) (.seq (.const 12) (.seq (.store 7 .dyn 12) (.const 12)))) .skip))))) (.seq (.seq (.seq (.const 12) (.const 12)) (.seq (.bind 6 12) (.seq (.const 12) (.const 12)))) (.seq (.seq (.bind 5 12) (.const 12)) (.seq (.const 12) (.seq (.const 12) (.const 12)))))) (.seq (.seq (.seq (.seq (.const 12) (.const 12)) (.seq (.bind 4 12) (.const 12))) (.seq (.seq (.bind 3 12) (.ite (.aug 3 6) .skip)) (.seq (.ite (.bind 12 3) (.bind 12 5)) (.seq (.ite (.seq (.const 12) (.aug 3 12)) .skip) (.ite (.aug 3 5) .skip))))) (.seq (.seq (.seq (.const 12) (.const 12)) (.seq (.arith 12) (.seq (.ite (.bind 13 3) (.bind 13 12)) (.ite (.seq (.const 12) (.aug 3 12)) .skip)))) (.seq (.seq (.const 12) (.const 12)) (.seq (.arith 12) (.seq (.ite (.aug 3 4) .skip) (.ret 3)))))))),
  (.lv .num)⟩

/-- bermuda/plot.py:197  params: x, <globals> -/
def f285 : Fn := ⟨"bermuda.plot:_to_camel_case", [0, 1], [],
  (.seq (.seq (.const 0) (.seq (.const 3) (.ite .skip (.loop [.scalar, .any, .any] (.block (.seq (.seq (.havoc 2) (.const 3)) (.seq (.const 3) (.const 3)))))))) (.seq (.const 3) (.seq (.const 3) (.ret 3)))),
  .scalar⟩

/-- bermuda/plot.py:194  params: x, <globals> -/
def f286 : Fn := ⟨"bermuda.plot:_to_snake_case", [0, 1], [],
  (.seq (.seq (.const 0) (.seq (.const 2) (.const 3))) (.seq (.ite (.call 4 29 [0, 2, 3]) (.ite (.call 4 346 [0, 2, 3]) (.const 4))) (.seq (.const 2) (.ret 2)))),
  .scalar⟩

/-- bermuda/plot.py:296  params: <globals> -/
def f287 : Fn := ⟨"bermuda.plot:bermuda_plot_theme", [0], [],
  (.seq (.seq (.seq (.seq (.seq (.seq (.alloc 1 (.sh 3) .dict) (.const 2)) (.seq (.alloc 2 (.sh 2) .dict) (.seq (.const 3) (.const 3)))) (.seq (.seq (.store 2 .dyn 3) (.const 3)) (.seq (.const 3) (.seq (.store 2 .dyn 3) (.store 1 .dyn 2))))) (.seq (.seq (.seq (.const 2) (.alloc 2 (.sh 2) .dict)) (.seq (.const 3) (.seq (.alloc 3 (.sh 1) .dict) (.const 4)))) (.seq (.seq (.alloc 4 (.sh 0) .dict) (.const 5)) (.seq (.const 5) (.seq (.store 4 .dyn 5) (.store 3 .dyn 4)))))) (.seq (.seq (.seq (.seq (.const 4) (.alloc 4 (.sh 0) .dict)) (.seq (.const 5) (.seq (.const 5) (.store 4 .dyn 5)))) (.seq (.seq (.store 3 .dyn 4) (.const 4)) (.seq (.alloc 4 (.sh 0) .dict) (.seq (.const 5) (.load 5 0 .dyn))))) (.seq (.seq (.seq (.store 4 .dyn 5) (.const 5)) (.seq (.const 5) (.seq (.store 4 .dyn 5) (.store 3 .dyn 4)))) (.seq (.seq (.const 4) (.seq (.alloc 4 (.sh 0) .dict) (.const 5))) (.seq (.load 5 0 .dyn) (.seq (.store 4 .dyn 5) (.const 5))))))) (.seq (.seq (.seq (.seq (.seq (.const 5) (.store 4 .dyn 5)) (.seq (.store 3 .dyn 4) (.seq (.store 2 .dyn 3) (.const 3)))) (.seq (.seq (.alloc 3 (.sh 1) .dict) (.const 4)) (.seq (.const 4) (.seq (.store 3 .dyn 4) (.store 2 .dyn 3))))) (.seq (.seq (.seq (.const 3) (.alloc 3 (.sh 1) .dict)) (.seq (.const 4) (.seq (.const 4) (.store 3 .dyn 4)))) (.seq (.seq (.const 4) (.seq (.const 4) (.store 3 .dyn 4))) (.seq (.store 2 .dyn 3) (.seq (.const 3) (.alloc 3 (.sh 1) .dict)))))) (.seq (.seq (.seq (.seq (.const 4) (.const 4)) (.seq (.store 3 .dyn 4) (.seq (.store 2 .dyn 3) (.const 3)))) (.seq (.seq (.alloc 3 (.sh 1) .dict) (.const 4)) (.seq (.const 4) (.seq (.store 3 .dyn 4) (.const 4))))) (.seq (.seq (.seq (.const 4) (.store 3 .dyn 4)) (.seq (.const 4) (.seq (.alloc 4 (.sh 0) .dict) (.const 5)))) (.seq (.seq (.const 5) (.seq (.store 4 .dyn 5) (.store 3 .dyn 4))) (.seq (.store 2 .dyn 3) (.seq (.store 1 .dyn 2) (.ret 1)))))))),
  (.lv (.sh 3))⟩

/-- bermuda/plot.py:203  params: triangle, metric_dict, remove_empties, flat, keep_samples, <globals> -/
def f288 : Fn := ⟨"bermuda.plot:build_plot_data", [0, 1, 2, 3, 4, 5], [],
  (.seq (.seq (.seq (.seq (.const 2) (.const 3)) (.seq (.const 4) (.seq (.const 27) (.call 27 266 [0])))) (.seq (.seq (.bind 9 27) (.alloc 27 .nums .dict)) (.seq (.load 28 5 .dyn) (.seq (.ite (.bind 29 1) (.bind 29 28)) (.loop [.any, .any, .scalar, .scalar, .scalar, .any, .scalar, .scalar, .scalar, .scalar, .any, .scalar, .scalar, .scalar, .scalar, .scalar, .scalar, .scalar, .scalar, .scalar, .scalar, .scalar, .scalar, .scalar, .scalar, .scalar, .scalar, (.lv .nums), .any, .any, (.lv .num), (.lv .num)] (.seq (.seq (.seq (.load 28 29 .dyn) (.seq (.bind 10 28) (.const 28))) (.seq (.seq (.const 28) (.arith 28)) (.seq (.const 30) (.const 30)))) (.seq (.seq (.seq (.arith 30) (.ite (.bind 31 28) (.bind 31 30))) (.seq (.const 28) (.const 28))) (.seq (.seq (.arith 28) (.ite (.bind 30 31) (.bind 30 28))) (.seq (.ite (.bind 28 9) (.seq (.seq (.const 30) (.const 30)) (.seq (.arith 30) (.seq (.ite (.seq (.const 30) (.bind 31 30)) (.seq (.seq (.const 30) (.const 30)) (.seq (.arith 30) (.seq (.ite (.seq (.const 30) (.bind 32 30)) (.seq (.seq (.const 30) (.const 30)) (.seq (.arith 30) (.seq (.ite (.seq (.const 30) (.bind 33 30)) (.seq (.const 30) (.bind 33 30))) (.bind 32 33))))) (.bind 31 32))))) (.bind 28 31))))) (.store 27 .dyn 28)))))))))) (.seq (.seq (.seq (.bind 8 27) (.alloc 27 (.sh 1) .dict)) (.seq (.ite (.seq (.load 28 0 .dyn) (.load 29 28 .dyn)) (.call 29 349 [0])) (.seq (.loop [.any, .any, .scalar, .scalar, .scalar, .any, .scalar, .scalar, (.lv .nums), .scalar, .any, .any, .any, .any, .any, .any, .any, .any, .scalar, .scalar, .scalar, .scalar, .scalar, .scalar, .scalar, .scalar, .scalar, (.lv (.sh 1)), .any, .any, .any, (.lv (.sh 0)), (.lv (.sh 0)), .any, .any, .any] (.seq (.seq (.seq (.seq (.load 28 29 .dyn) (.load 30 28 .dyn)) (.seq (.bind 11 30) (.load 30 28 .dyn))) (.seq (.seq (.bind 12 30) (.const 28)) (.seq (.const 30) (.arith 30)))) (.seq (.seq (.seq (.ite (.bind 30 12) (.alloc 30 (.sh 0) (.union [12]))) (.alloc 31 (.sh 0) (.lit [("", 28)]))) (.seq (.merge 31 30) (.const 28))) (.seq (.seq (.ite (.bind 28 12) (.alloc 28 (.sh 0) (.union [12]))) (.const 30)) (.seq (.alloc 32 (.sh 0) (.lit [("", 30)])) (.seq (.merge 32 28) (.loop [.any, .any, .scalar, .scalar, .scalar, .any, .scalar, .scalar, (.lv .nums), .scalar, .any, .any, .any, .any, .any, .any, .any, .any, .scalar, .scalar, .scalar, .scalar, .scalar, .scalar, .scalar, .scalar, .scalar, (.lv (.sh 1)), .any, .any, .any, (.lv (.sh 0)), (.lv (.sh 0)), .any, .any, .any] (.seq (.seq (.seq (.load 28 12 .dyn) (.bind 13 28)) (.seq (.load 28 31 .dyn) (.seq (.bind 14 28) (.load 28 32 .dyn)))) (.seq (.seq (.bind 15 28) (.seq (.alloc 28 (.sh 0) .dict) (.load 30 5 .dyn))) (.seq (.ite (.bind 33 1) (.bind 33 30)) (.seq (.loop [.any, .any, .scalar, .scalar, .scalar, .any, .scalar, .scalar, (.lv .nums), .scalar, .any, .any, .any, .any, .any, .any, .any, .any, .scalar, .scalar, .scalar, .scalar, .scalar, .scalar, .scalar, .scalar, .scalar, (.lv (.sh 1)), (.lv (.sh 0)), .any, .any, (.lv (.sh 0)), (.lv (.sh 0)), .any, .any, .any] (.seq (.seq (.seq (.havoc 30) (.bind 16 30)) (.seq (.load 30 33 .dyn) (.seq (.bind 17 30) (.call 30 286 [16])))) (.seq (.seq (.call 30 262 [13, 14, 15, 17, 16, 4]) (.const 34)) (.seq (.ite (.const 35) (.ite (.load 35 8 .dyn) (.ite (.bind 35 16) (.bind 35 34)))) (.seq (.call 34 254 [30, 2, 35]) (.store 28 .dyn 34)))))) (.store 27 .dyn 28)))))))))))) (.bind 7 27)))) (.seq (.seq (.ite (.seq (.alloc 27 (.sh 1) .dict) (.seq (.loop [.any, .any, .scalar, .scalar, .scalar, .any, .scalar, (.lv (.sh 1)), (.lv .nums), .scalar, .any, .any, .any, .any, .any, .any, .any, .any, .any, (.lv (.sh 0)), .any, .any, .scalar, .scalar, .scalar, .scalar, .scalar, (.lv (.sh 1)), .any, .any, .any, (.lv (.sh 0)), (.lv (.sh 0)), .any, .any, .any] (.seq (.seq (.havoc 28) (.seq (.bind 18 28) (.load 28 7 .dyn))) (.seq (.seq (.bind 19 28) (.alloc 28 (.sh 0) .dict)) (.seq (.loop [.any, .any, .scalar, .scalar, .scalar, .any, .scalar, (.lv (.sh 1)), (.lv .nums), .scalar, .any, .any, .any, .any, .any, .any, .any, .any, .any, (.lv (.sh 0)), .any, .any, .scalar, .scalar, .scalar, .scalar, .scalar, (.lv (.sh 1)), (.lv (.sh 0)), .any, .any, (.lv (.sh 0)), (.lv (.sh 0)), .any, .any, .any] (.seq (.seq (.havoc 29) (.bind 20 29)) (.seq (.load 29 19 .dyn) (.seq (.bind 21 29) (.ite .skip (.store 28 .dyn 21)))))) (.store 27 .dyn 28))))) (.bind 7 27))) .skip) (.seq (.alloc 27 (.sh 1) .dict) (.loop [.any, .any, .scalar, .scalar, .scalar, .any, .scalar, (.lv (.sh 1)), (.lv .nums), .scalar, .any, .any, .any, .any, .any, .any, .any, .any, .any, (.lv (.sh 0)), .any, .any, .any, .any, .any, .any, .scalar, (.lv (.sh 1)), .any, .any, .any, .any, .any, .any, .any, .any] (.seq (.seq (.seq (.seq (.seq (.load 28 0 .dyn) (.bind 22 28)) (.seq (.call 28 265 [22]) (.seq (.load 29 7 .dyn) (.alloc 30 (.sh 0) (.union [28, 29]))))) (.seq (.seq (.const 28) (.ite .skip (.loop [.any, .any, .scalar, .scalar, .scalar, .any, .scalar, (.lv (.sh 1)), (.lv .nums), .scalar, .any, .any, .any, .any, .any, .any, .any, .any, .any, (.lv (.sh 0)), .any, .any, .any, .any, .any, .any, .scalar, (.lv (.sh 1)), (.lv .num), .any, (.lv (.sh 0)), .any, .any, .any, .any, .any] (.block (.seq (.seq (.havoc 23) (.ite (.seq (.load 28 23 .dyn) (.load 29 28 .dyn)) (.call 29 27 [23]))) (.seq (.ite (.seq (.load 28 22 .dyn) (.load 29 28 .dyn)) (.call 29 27 [22])) (.arith 28))))))) (.seq (.const 28) (.seq (.call 29 327 [0, 28]) (.call 28 318 [29]))))) (.seq (.seq (.seq (.ite (.const 29) (.ite (.load 29 28 .dyn) (.bind 29 28))) (.store 30 .dyn 29)) (.seq (.const 28) (.seq (.ite (.call 28 280 [0]) (.bind 28 0)) (.ite .skip (.loop [.any, .any, .scalar, .scalar, .scalar, .any, .scalar, (.lv (.sh 1)), (.lv .nums), .scalar, .any, .any, .any, .any, .any, .any, .any, .any, .any, (.lv (.sh 0)), .any, .any, .any, .any, .any, .any, .scalar, (.lv (.sh 1)), .any, (.lv .nums), (.lv (.sh 0)), .any, .any, .any, .any, .any] (.block (.seq (.seq (.havoc 24) (.ite (.seq (.load 29 24 .dyn) (.load 31 29 .dyn)) (.call 31 27 [24]))) (.seq (.ite (.seq (.load 29 22 .dyn) (.load 31 29 .dyn)) (.call 31 27 [22])) (.arith 29))))))))) (.seq (.seq (.const 29) (.seq (.call 31 327 [28, 29]) (.call 28 318 [31]))) (.seq (.const 29) (.seq (.alloc 31 .nums (.lit [("", 29)])) (.ite (.bind 29 28) (.bind 29 31))))))) (.seq (.seq (.seq (.seq (.ite (.const 28) (.ite (.load 28 29 .dyn) (.bind 28 29))) (.const 29)) (.seq (.ite (.bind 31 28) (.bind 31 29)) (.seq (.store 30 .dyn 31) (.const 28)))) (.seq (.seq (.load 28 22 .dyn) (.seq (.alloc 29 (.sh 0) (.union [28])) (.store 30 .dyn 29))) (.seq (.const 28) (.seq (.call 28 64 [0]) (.store 30 .dyn 28))))) (.seq (.seq (.seq (.const 28) (.call 28 60 [0])) (.seq (.store 30 .dyn 28) (.seq (.const 28) (.const 28)))) (.seq (.seq (.alloc 28 (.sh 0) .dict) (.seq (.load 29 7 .dyn) (.loop [.any, .any, .scalar, .scalar, .scalar, .any, .scalar, (.lv (.sh 1)), (.lv .nums), .scalar, .any, .any, .any, .any, .any, .any, .any, .any, .any, (.lv (.sh 0)), .any, .any, .any, .any, .any, .any, .scalar, (.lv (.sh 1)), (.lv (.sh 0)), (.lv (.sh 0)), (.lv (.sh 0)), .any, .any, .any, .any, .any] (.seq (.seq (.seq (.load 31 29 .dyn) (.bind 25 31)) (.seq (.const 31) (.load 31 25 .dyn))) (.seq (.seq (.load 31 22 .dyn) (.arith 31)) (.seq (.ite (.bind 32 25) (.bind 32 31)) (.ite .skip (.seq (.const 31) (.seq (.load 31 25 .dyn) (.store 28 .dyn 31)))))))))) (.seq (.const 28) (.seq (.store 30 .dyn 28) (.store 27 .dyn 30)))))))))) (.seq (.bind 6 27) (.seq (.ite (.seq (.alloc 27 (.sh 1) .dict) (.seq (.loop [.any, .any, .scalar, .scalar, .scalar, .any, (.lv (.sh 1)), (.lv (.sh 1)), (.lv .nums), .scalar, .any, .any, .any, .any, .any, .any, .any, .any, .any, (.lv (.sh 0)), .any, .any, .any, .any, .any, .any, (.lv (.sh 0)), (.lv (.sh 1)), .any, .any, .any, .any, .any, .any, .any, .any] (.seq (.seq (.load 28 6 .dyn) (.bind 26 28)) (.seq (.call 28 268 [26]) (.store 27 .dyn 28)))) (.ret 27))) .skip) (.ret 6)))))),
  .any⟩

/-- bermuda/plot.py:168  params: func, <globals> -/
def f289 : Fn := ⟨"bermuda.plot:freezeargs", [0, 1], [],
  (.seq (.seq (.const 10) (.ite .skip (.loop [.any, .any, .scalar, .scalar, .scalar, (.lv (.sh 0)), (.lv (.sh 0)), .any, .any, .any, .any, (.lv (.sh 0)), .any] (.block (.seq (.seq (.seq (.havoc 5) (.seq (.havoc 6) (.alloc 10 (.sh 0) .dict))) (.seq (.loop [.any, .any, .scalar, .scalar, .scalar, .any, .any, .any, .any, .any, (.lv (.sh 0)), (.lv (.sh 0)), .any] (.seq (.seq (.load 11 5 .dyn) (.seq (.bind 7 11) (.const 11))) (.seq (.const 11) (.seq (.ite (.seq (.alloc 11 (.sh 0) (.union [7])) (.bind 12 11)) (.bind 12 7)) (.store 10 .dyn 12))))) (.seq (.bind 5 10) (.alloc 10 (.sh 0) .dict)))) (.seq (.seq (.loop [.any, .any, .scalar, .scalar, .scalar, (.lv (.sh 0)), .any, .any, .any, .any, (.lv (.sh 0)), (.lv (.sh 0)), .any] (.seq (.seq (.seq (.havoc 11) (.bind 8 11)) (.seq (.load 11 6 .dyn) (.bind 9 11))) (.seq (.seq (.const 11) (.const 11)) (.seq (.ite (.seq (.alloc 11 (.sh 0) (.union [9])) (.bind 12 11)) (.bind 12 9)) (.store 10 .dyn 12))))) (.seq (.bind 6 10) (.load 10 5 .dyn))) (.seq (.load 10 6 .dyn) (.seq (.havoc 10) .brk)))))))) (.seq (.const 4) (.ret 4))),
  .scalar⟩

/-- bermuda/plot.py:681  params: triangle, metric_spec, hide_samples, ncols, width, height, facet_titles, <globals> -/
def f290 : Fn := ⟨"bermuda.plot:plot_atas", [0, 1, 2, 3, 4, 5, 6, 7], [],
  (.seq (.seq (.seq (.seq (.seq (.const 2) (.const 3)) (.seq (.const 4) (.seq (.const 5) (.const 14)))) (.seq (.seq (.const 14) (.alloc 14 (.sh 0) .dict)) (.seq (.havoc 15) (.seq (.store 14 .dyn 15) (.bind 13 14))))) (.seq (.seq (.seq (.call 14 281 [1]) (.bind 12 14)) (.seq (.const 14) (.seq (.bind 11 14) (.ite (.seq (.load 14 0 .dyn) (.load 15 14 .dyn)) (.call 15 350 [0]))))) (.seq (.seq (.const 14) (.bind 10 14)) (.seq (.arith 14) (.seq (.call 15 267 [14]) (.ite (.bind 14 3) (.bind 14 15))))))) (.seq (.seq (.seq (.seq (.bind 9 14) (.ite (.seq (.ite (.call 14 280 [0]) (.bind 14 0)) (.bind 15 14)) (.bind 15 0))) (.seq (.const 14) (.seq (.call 16 261 [15, 14, 12, 13, 6, 4, 5, 9]) (.call 14 263 [9])))) (.seq (.seq (.load 15 14 .dyn) (.alloc 14 (.sh 0) .dict)) (.seq (.havoc 15) (.seq (.store 14 .dyn 15) (.call 14 263 [9]))))) (.seq (.seq (.seq (.load 15 14 .dyn) (.alloc 14 (.sh 0) .dict)) (.seq (.havoc 15) (.seq (.store 14 .dyn 15) (.const 14)))) (.seq (.seq (.alloc 14 (.sh 0) .dict) (.havoc 15)) (.seq (.store 14 .dyn 15) (.seq (.bind 8 14) (.ret 8))))))),
  (.lv (.sh 0))⟩

/-- bermuda/plot.py:1204  params: triangle, axis_metrics, hide_samples, uncertainty, width, height, ncols, facet_titles, show_points, <globals> -/
def f291 : Fn := ⟨"bermuda.plot:plot_ballistic", [0, 1, 2, 3, 4, 5, 6, 7, 8, 9], [],
  (.seq (.seq (.seq (.seq (.const 2) (.seq (.const 3) (.const 4))) (.seq (.seq (.const 5) (.const 6)) (.seq (.const 8) (.const 14)))) (.seq (.seq (.const 14) (.seq (.alloc 14 (.sh 0) .dict) (.havoc 15))) (.seq (.seq (.store 14 .dyn 15) (.bind 13 14)) (.seq (.ite (.seq (.load 14 0 .dyn) (.load 15 14 .dyn)) (.call 15 350 [0])) (.const 14))))) (.seq (.seq (.seq (.bind 12 14) (.seq (.call 14 267 [12]) (.ite (.bind 15 6) (.bind 15 14)))) (.seq (.seq (.bind 11 15) (.ite (.seq (.ite (.call 14 280 [0]) (.bind 14 0)) (.bind 15 14)) (.bind 15 0))) (.seq (.const 14) (.call 16 261 [15, 14, 1, 13, 7, 3, 4, 5, 11, 11, 8])))) (.seq (.seq (.call 14 263 [11]) (.seq (.load 15 14 .dyn) (.alloc 14 (.sh 0) .dict))) (.seq (.seq (.havoc 15) (.store 14 .dyn 15)) (.seq (.bind 10 14) (.ret 10)))))),
  (.lv (.sh 0))⟩

/-- bermuda/plot.py:1335  params: triangle, axis_metrics, hide_samples, rule, uncertainty, width, height, ncols, facet_titles, show_points, <globals> -/
def f292 : Fn := ⟨"bermuda.plot:plot_broom", [0, 1, 2, 3, 4, 5, 6, 7, 8, 9, 10], [],
  (.seq (.seq (.seq (.seq (.seq (.const 2) (.const 3)) (.seq (.const 4) (.const 5))) (.seq (.seq (.const 6) (.const 7)) (.seq (.const 9) (.const 15)))) (.seq (.seq (.seq (.const 15) (.alloc 15 (.sh 0) .dict)) (.seq (.havoc 16) (.store 15 .dyn 16))) (.seq (.seq (.bind 14 15) (.ite (.seq (.load 15 0 .dyn) (.load 16 15 .dyn)) (.call 16 350 [0]))) (.seq (.const 15) (.bind 13 15))))) (.seq (.seq (.seq (.seq (.call 15 267 [13]) (.ite (.bind 16 7) (.bind 16 15))) (.seq (.bind 12 16) (.ite (.seq (.ite (.call 15 280 [0]) (.bind 15 0)) (.bind 16 15)) (.bind 16 0)))) (.seq (.seq (.const 15) (.call 17 261 [16, 15, 1, 14, 8, 4, 3, 5, 6, 12, 12, 9])) (.seq (.call 15 263 [12]) (.load 16 15 .dyn)))) (.seq (.seq (.seq (.alloc 15 (.sh 0) .dict) (.havoc 16)) (.seq (.store 15 .dyn 16) (.bind 11 15))) (.seq (.seq (.alloc 15 (.sh 0) .dict) (.havoc 16)) (.seq (.store 15 .dyn 16) (.ret 15)))))),
  (.lv (.sh 0))⟩

/-- bermuda/plot.py:511  params: triangle, hide_samples, width, height, ncols, facet_titles, <globals> -/
def f293 : Fn := ⟨"bermuda.plot:plot_data_completeness", [0, 1, 2, 3, 4, 5, 6], [],
  (.seq (.seq (.seq (.seq (.const 1) (.seq (.const 2) (.const 3))) (.seq (.const 4) (.seq (.const 11) (.const 11)))) (.seq (.seq (.alloc 11 (.sh 0) .dict) (.seq (.havoc 12) (.store 11 .dyn 12))) (.seq (.seq (.bind 10 11) (.ite (.seq (.load 11 0 .dyn) (.load 12 11 .dyn)) (.call 12 350 [0]))) (.seq (.const 11) (.bind 9 11))))) (.seq (.seq (.seq (.call 11 267 [9]) (.seq (.ite (.bind 12 4) (.bind 12 11)) (.bind 8 12))) (.seq (.ite (.seq (.ite (.call 11 280 [0]) (.bind 11 0)) (.bind 12 11)) (.bind 12 0)) (.seq (.const 11) (.call 13 261 [12, 11, 10, 5, 2, 3, 8, 8])))) (.seq (.seq (.call 11 263 [8]) (.seq (.load 12 11 .dyn) (.alloc 11 (.sh 0) .dict))) (.seq (.seq (.havoc 12) (.store 11 .dyn 12)) (.seq (.bind 7 11) (.ret 7)))))),
  (.lv (.sh 0))⟩

/-- bermuda/plot.py:1470  params: triangle, axis_metrics, hide_samples, uncertainty, width, height, ncols, facet_titles, show_points, <globals> -/
def f294 : Fn := ⟨"bermuda.plot:plot_drip", [0, 1, 2, 3, 4, 5, 6, 7, 8, 9], [],
  (.seq (.seq (.seq (.seq (.seq (.const 2) (.const 3)) (.seq (.const 4) (.const 5))) (.seq (.seq (.const 6) (.const 8)) (.seq (.const 14) (.const 14)))) (.seq (.seq (.seq (.alloc 14 (.sh 0) .dict) (.havoc 15)) (.seq (.store 14 .dyn 15) (.bind 13 14))) (.seq (.seq (.ite (.seq (.load 14 0 .dyn) (.load 15 14 .dyn)) (.call 15 350 [0])) (.const 14)) (.seq (.bind 12 14) (.seq (.call 14 267 [12]) (.ite (.bind 15 6) (.bind 15 14))))))) (.seq (.seq (.seq (.seq (.bind 11 15) (.ite (.seq (.ite (.call 14 280 [0]) (.bind 14 0)) (.bind 15 14)) (.bind 15 0))) (.seq (.const 14) (.call 16 261 [15, 14, 1, 13, 7, 3, 4, 5, 11, 11, 8]))) (.seq (.seq (.call 14 263 [11]) (.load 15 14 .dyn)) (.seq (.alloc 14 (.sh 0) .dict) (.seq (.havoc 15) (.store 14 .dyn 15))))) (.seq (.seq (.seq (.const 14) (.alloc 14 (.sh 0) .dict)) (.seq (.havoc 15) (.store 14 .dyn 15))) (.seq (.seq (.bind 10 14) (.alloc 14 (.sh 0) .dict)) (.seq (.havoc 15) (.seq (.store 14 .dyn 15) (.ret 14))))))),
  (.lv (.sh 0))⟩

/-- bermuda/plot.py:754  params: triangle, metric_spec, hide_samples, uncertainty, uncertainty_type, n_lines, seed, width, height, ncols, facet_titles, <globals> -/
def f295 : Fn := ⟨"bermuda.plot:plot_growth_curve", [0, 1, 2, 3, 4, 5, 6, 7, 8, 9, 10, 11], [],
  (.seq (.seq (.seq (.seq (.seq (.const 2) (.const 3)) (.seq (.const 4) (.seq (.const 5) (.const 6)))) (.seq (.seq (.const 7) (.const 8)) (.seq (.const 9) (.seq (.const 18) (.const 18))))) (.seq (.seq (.seq (.alloc 18 (.sh 0) .dict) (.havoc 19)) (.seq (.store 18 .dyn 19) (.seq (.bind 17 18) (.call 18 281 [1])))) (.seq (.seq (.bind 16 18) (.const 18)) (.seq (.bind 15 18) (.seq (.ite (.seq (.load 18 0 .dyn) (.load 19 18 .dyn)) (.call 19 350 [0])) (.const 18)))))) (.seq (.seq (.seq (.seq (.bind 14 18) (.arith 18)) (.seq (.call 19 267 [18]) (.seq (.ite (.bind 18 9) (.bind 18 19)) (.bind 13 18)))) (.seq (.seq (.ite (.seq (.ite (.call 18 280 [0]) (.bind 18 0)) (.bind 19 18)) (.bind 19 0)) (.const 18)) (.seq (.call 20 261 [19, 18, 16, 3, 4, 5, 6, 13, 17, 10, 7, 8, 13]) (.seq (.call 18 263 [13]) (.load 19 18 .dyn))))) (.seq (.seq (.seq (.alloc 18 (.sh 0) .dict) (.havoc 19)) (.seq (.store 18 .dyn 19) (.seq (.call 18 263 [13]) (.load 19 18 .dyn)))) (.seq (.seq (.alloc 18 (.sh 0) .dict) (.havoc 19)) (.seq (.store 18 .dyn 19) (.seq (.bind 12 18) (.ret 12))))))),
  (.lv (.sh 0))⟩

/-- bermuda/plot.py:589  params: triangle, metric_spec, hide_samples, show_values, width, height, ncols, facet_titles, <globals> -/
def f296 : Fn := ⟨"bermuda.plot:plot_heatmap", [0, 1, 2, 3, 4, 5, 6, 7, 8], [],
  (.seq (.seq (.seq (.seq (.seq (.const 2) (.const 3)) (.seq (.const 4) (.const 5))) (.seq (.seq (.const 6) (.const 15)) (.seq (.const 15) (.alloc 15 (.sh 0) .dict)))) (.seq (.seq (.seq (.havoc 16) (.store 15 .dyn 16)) (.seq (.bind 14 15) (.call 15 281 [1]))) (.seq (.seq (.bind 13 15) (.const 15)) (.seq (.bind 12 15) (.seq (.ite (.seq (.load 15 0 .dyn) (.load 16 15 .dyn)) (.call 16 350 [0])) (.const 15)))))) (.seq (.seq (.seq (.seq (.bind 11 15) (.arith 15)) (.seq (.call 16 267 [15]) (.ite (.bind 15 6) (.bind 15 16)))) (.seq (.seq (.bind 10 15) (.ite (.seq (.ite (.call 15 280 [0]) (.bind 15 0)) (.bind 16 15)) (.bind 16 0))) (.seq (.const 15) (.seq (.call 17 261 [16, 15, 13, 14, 7, 4, 5, 10, 10, 3]) (.const 15))))) (.seq (.seq (.seq (.alloc 15 (.sh 0) .dict) (.havoc 16)) (.seq (.store 15 .dyn 16) (.const 15))) (.seq (.seq (.alloc 15 (.sh 0) .dict) (.havoc 16)) (.seq (.store 15 .dyn 16) (.seq (.bind 9 15) (.ret 9))))))),
  (.lv (.sh 0))⟩

/-- bermuda/plot.py:1628  params: triangle, metric_spec, right_edge, hide_samples, width, height, ncols, facet_titles, <globals> -/
def f297 : Fn := ⟨"bermuda.plot:plot_histogram", [0, 1, 2, 3, 4, 5, 6, 7, 8], [],
  (.seq (.seq (.seq (.seq (.const 2) (.seq (.const 3) (.const 4))) (.seq (.seq (.const 5) (.const 6)) (.seq (.const 15) (.alloc 15 (.sh 0) .dict)))) (.seq (.seq (.seq (.havoc 16) (.store 15 .dyn 16)) (.seq (.bind 14 15) (.call 15 281 [1]))) (.seq (.seq (.bind 13 15) (.ite (.seq (.load 15 0 .dyn) (.load 16 15 .dyn)) (.call 16 350 [0]))) (.seq (.const 15) (.bind 12 15))))) (.seq (.seq (.seq (.seq (.const 15) (.bind 11 15)) (.seq (.arith 15) (.call 16 267 [15]))) (.seq (.seq (.ite (.bind 15 6) (.bind 15 16)) (.bind 10 15)) (.seq (.ite (.seq (.ite (.call 15 280 [0]) (.bind 15 0)) (.bind 16 15)) (.bind 16 0)) (.const 15)))) (.seq (.seq (.seq (.call 17 261 [16, 15, 13, 14, 2, 7, 4, 5, 10]) (.call 15 263 [10])) (.seq (.load 16 15 .dyn) (.alloc 15 (.sh 0) .dict))) (.seq (.seq (.havoc 16) (.store 15 .dyn 16)) (.seq (.bind 9 15) (.ret 9)))))),
  (.lv (.sh 0))⟩

/-- bermuda/plot.py:1595  params: triangle, axis_metrics, hide_samples, uncertainty, width, height, ncols, facet_titles, show_points, <globals> -/
def f298 : Fn := ⟨"bermuda.plot:plot_hose", [0, 1, 2, 3, 4, 5, 6, 7, 8, 9], [],
  (.seq (.seq (.seq (.const 2) (.seq (.const 3) (.const 4))) (.seq (.const 5) (.seq (.const 6) (.const 8)))) (.seq (.seq (.call 10 294 [0, 1, 2, 3, 4, 5, 6, 7, 8]) (.seq (.const 10) (.alloc 10 (.sh 0) .dict))) (.seq (.havoc 11) (.seq (.store 10 .dyn 11) (.ret 10))))),
  (.lv (.sh 0))⟩

/-- bermuda/plot.py:1044  params: triangle, metric_spec, hide_samples, uncertainty, uncertainty_type, width, height, ncols, facet_titles, highlight_ultimates, <globals> -/
def f299 : Fn := ⟨"bermuda.plot:plot_mountain", [0, 1, 2, 3, 4, 5, 6, 7, 8, 9, 10], [],
  (.seq (.seq (.seq (.seq (.seq (.const 2) (.const 3)) (.seq (.const 4) (.seq (.const 5) (.const 6)))) (.seq (.seq (.const 7) (.seq (.const 9) (.const 18))) (.seq (.const 18) (.seq (.alloc 18 (.sh 0) .dict) (.havoc 19))))) (.seq (.seq (.seq (.store 18 .dyn 19) (.bind 17 18)) (.seq (.call 18 281 [1]) (.seq (.bind 16 18) (.const 18)))) (.seq (.seq (.bind 15 18) (.seq (.ite (.seq (.load 18 0 .dyn) (.load 19 18 .dyn)) (.call 19 350 [0])) (.const 18))) (.seq (.bind 14 18) (.seq (.arith 18) (.call 19 267 [18])))))) (.seq (.seq (.seq (.seq (.ite (.bind 18 7) (.bind 18 19)) (.bind 13 18)) (.seq (.ite (.seq (.const 18) (.bind 19 18)) (.seq (.const 18) (.bind 19 18))) (.seq (.bind 12 19) (.ite (.seq (.ite (.call 18 280 [0]) (.bind 18 0)) (.bind 19 18)) (.bind 19 0))))) (.seq (.seq (.const 18) (.seq (.call 20 261 [19, 18, 16, 3, 4, 9, 13, 17, 8, 5, 6, 13]) (.call 18 263 [13]))) (.seq (.load 19 18 .dyn) (.seq (.alloc 18 (.sh 0) .dict) (.havoc 19))))) (.seq (.seq (.seq (.store 18 .dyn 19) (.call 18 263 [13])) (.seq (.load 19 18 .dyn) (.seq (.alloc 18 (.sh 0) .dict) (.havoc 19)))) (.seq (.seq (.store 18 .dyn 19) (.seq (.bind 11 18) (.alloc 18 (.sh 0) .dict))) (.seq (.havoc 19) (.seq (.store 18 .dyn 19) (.ret 18))))))),
  (.lv (.sh 0))⟩

/-- bermuda/plot.py:342  params: triangle, hide_samples, uncertainty, uncertainty_type, width, height, ncols, facet_titles, <globals> -/
def f300 : Fn := ⟨"bermuda.plot:plot_right_edge", [0, 1, 2, 3, 4, 5, 6, 7, 8], [],
  (.seq (.seq (.seq (.seq (.const 1) (.seq (.const 2) (.const 3))) (.seq (.seq (.const 4) (.const 5)) (.seq (.const 6) (.const 13)))) (.seq (.seq (.const 13) (.seq (.alloc 13 (.sh 0) .dict) (.havoc 14))) (.seq (.seq (.store 13 .dyn 14) (.bind 12 13)) (.seq (.ite (.seq (.load 13 0 .dyn) (.load 14 13 .dyn)) (.call 14 350 [0])) (.const 13))))) (.seq (.seq (.seq (.bind 11 13) (.seq (.call 13 267 [11]) (.ite (.bind 14 6) (.bind 14 13)))) (.seq (.seq (.bind 10 14) (.ite (.seq (.ite (.call 13 280 [0]) (.bind 13 0)) (.bind 14 13)) (.bind 14 0))) (.seq (.const 13) (.call 15 261 [14, 13, 12, 7, 2, 3, 4, 5, 10, 10])))) (.seq (.seq (.call 13 263 [10]) (.seq (.load 14 13 .dyn) (.alloc 13 (.sh 0) .dict))) (.seq (.seq (.havoc 14) (.store 13 .dyn 14)) (.seq (.bind 9 13) (.ret 9)))))),
  (.lv (.sh 0))⟩

/-- bermuda/plot.py:919  params: triangle, metric_spec, hide_samples, uncertainty, uncertainty_type, width, height, ncols, facet_titles, <globals> -/
def f301 : Fn := ⟨"bermuda.plot:plot_sunset", [0, 1, 2, 3, 4, 5, 6, 7, 8, 9], [],
  (.seq (.seq (.seq (.seq (.seq (.const 2) (.const 3)) (.seq (.const 4) (.seq (.const 5) (.const 6)))) (.seq (.seq (.const 7) (.const 16)) (.seq (.const 16) (.seq (.alloc 16 (.sh 0) .dict) (.havoc 17))))) (.seq (.seq (.seq (.store 16 .dyn 17) (.bind 15 16)) (.seq (.call 16 281 [1]) (.seq (.bind 14 16) (.const 16)))) (.seq (.seq (.bind 13 16) (.ite (.seq (.load 16 0 .dyn) (.load 17 16 .dyn)) (.call 17 350 [0]))) (.seq (.const 16) (.seq (.bind 12 16) (.arith 16)))))) (.seq (.seq (.seq (.seq (.call 17 267 [16]) (.ite (.bind 16 7) (.bind 16 17))) (.seq (.bind 11 16) (.seq (.ite (.seq (.ite (.call 16 280 [0]) (.bind 16 0)) (.bind 17 16)) (.bind 17 0)) (.const 16)))) (.seq (.seq (.call 18 261 [17, 16, 14, 3, 4, 11, 15, 8, 5, 6, 11]) (.call 16 263 [11])) (.seq (.load 17 16 .dyn) (.seq (.alloc 16 (.sh 0) .dict) (.havoc 17))))) (.seq (.seq (.seq (.store 16 .dyn 17) (.call 16 263 [11])) (.seq (.load 17 16 .dyn) (.seq (.alloc 16 (.sh 0) .dict) (.havoc 17)))) (.seq (.seq (.store 16 .dyn 17) (.seq (.bind 10 16) (.alloc 16 (.sh 0) .dict))) (.seq (.havoc 17) (.seq (.store 16 .dyn 17) (.ret 16))))))),
  (.lv (.sh 0))⟩

/-- bermuda/triangle.py:414  params: self, other, <globals> -/
def f302 : Fn := ⟨"bermuda.triangle:Triangle.__add__", [0, 1, 2], [],
  (.seq (.seq (.seq (.const 3) (.load 3 0 .dyn)) (.seq (.load 4 3 .dyn) (.load 3 1 .dyn))) (.seq (.seq (.load 5 3 .dyn) (.ite (.arith 3) (.alloc 3 (.sh 0) (.union [4, 5])))) (.seq (.call 4 307 [3]) (.ret 4)))),
  (.lv (.sh 2))⟩

/-- bermuda/triangle.py:105  params: self, cell, <globals> -/
def f303 : Fn := ⟨"bermuda.triangle:Triangle.__contains__", [0, 1, 2], [],
  (.seq (.seq (.load 3 0 .dyn) (.load 4 3 .dyn)) (.seq (.arith 3) (.ret 3))),
  (.lv .num)⟩

/-- bermuda/triangle.py:94  params: self, other, <globals> -/
def f304 : Fn := ⟨"bermuda.triangle:Triangle.__eq__", [0, 1, 2], [],
  (.seq (.seq (.seq (.ite (.seq (.load 5 0 .dyn) (.load 6 5 .dyn)) (.call 6 313 [0])) (.seq (.const 5) (.ite (.seq (.load 5 1 .dyn) (.load 6 5 .dyn)) (.call 6 313 [1])))) (.seq (.const 5) (.seq (.arith 5) (.alloc 6 .nums .dict)))) (.seq (.seq (.ite (.seq (.load 7 0 .dyn) (.load 8 7 .dyn)) (.call 8 313 [0])) (.seq (.ite (.seq (.load 7 1 .dyn) (.load 9 7 .dyn)) (.call 9 313 [1])) (.loop [.any, .any, .any, .any, .any, (.lv .num), (.lv .nums), .any, .any, .any] (.seq (.seq (.load 7 8 .dyn) (.seq (.bind 3 7) (.load 7 9 .dyn))) (.seq (.bind 4 7) (.seq (.arith 7) (.store 6 .dyn 7))))))) (.seq (.const 6) (.seq (.ite (.bind 7 5) (.bind 7 6)) (.ret 7))))),
  (.lv .num)⟩

/-- bermuda/triangle.py:206  params: self, index, <globals> -/
def f305 : Fn := ⟨"bermuda.triangle:Triangle.__getitem__", [0, 1, 2], [],
  (.seq (.seq (.seq (.seq (.seq (.const 15) (.const 15)) (.seq (.const 15) (.seq (.ite (.seq (.seq (.load 15 0 .dyn) (.load 16 15 .dyn)) (.seq (.load 15 16 .dyn) (.ret 15))) .skip) (.const 15)))) (.seq (.seq (.const 15) (.ite (.seq (.seq (.load 15 0 .dyn) (.load 16 15 .dyn)) (.seq (.load 15 16 .dyn) (.seq (.call 16 307 [15]) (.ret 16)))) .skip)) (.seq (.const 15) (.seq (.const 15) (.arith 15))))) (.seq (.seq (.seq (.ite (.seq (.seq (.load 15 1 .dyn) (.seq (.bind 11 15) (.load 15 1 .dyn))) (.seq (.bind 10 15) (.seq (.load 15 1 .dyn) (.bind 9 15)))) (.seq (.const 15) (.seq (.const 15) .raise))) (.const 15)) (.seq (.const 15) (.seq (.const 15) (.const 15)))) (.seq (.seq (.arith 15) (.seq (.ite (.bind 16 9) (.bind 16 15)) (.ite (.seq (.seq (.ite .skip (.loop [.any, .any, .any, .scalar, .scalar, .scalar, .scalar, .scalar, .scalar, .any, .any, .any, .any, .scalar, .scalar, (.lv .num), .any] (.block (.seq (.havoc 12) (.seq (.ite (.seq (.load 15 12 .dyn) (.load 16 15 .dyn)) (.call 16 339 [12])) (.arith 15)))))) (.const 15)) (.seq (.call 16 327 [0, 15]) (.bind 6 16))) (.bind 6 0)))) (.seq (.const 15) (.seq (.const 15) (.ite (.seq (.seq (.load 15 11 .dyn) (.seq (.load 16 15 .dyn) (.bind 8 16))) (.seq (.load 15 11 .dyn) (.seq (.load 16 15 .dyn) (.bind 7 16)))) (.seq (.const 15) (.seq (.const 15) (.ite (.seq (.seq (.alloc 15 (.sh 0) (.lit [("", 11), ("", 11)])) (.load 16 15 .dyn)) (.seq (.bind 8 16) (.seq (.load 16 15 .dyn) (.bind 7 16)))) (.seq (.const 15) (.seq (.const 15) .raise))))))))))) (.seq (.seq (.seq (.seq (.const 15) (.ite (.seq (.const 15) (.bind 8 15)) .skip)) (.seq (.const 15) (.seq (.ite (.seq (.const 15) (.bind 7 15)) .skip) (.ite .skip (.loop [.any, .any, .any, .scalar, .scalar, .scalar, .any, .any, .any, .any, .any, .any, .any, .any, .scalar, (.lv .num), .any] (.block (.seq (.seq (.havoc 13) (.load 15 13 .dyn)) (.seq (.load 16 15 .dyn) (.arith 15))))))))) (.seq (.seq (.const 15) (.seq (.call 16 327 [6, 15]) (.bind 6 16))) (.seq (.const 15) (.seq (.const 15) (.ite (.seq (.seq (.load 15 10 .dyn) (.seq (.load 16 15 .dyn) (.bind 5 16))) (.seq (.load 15 10 .dyn) (.seq (.load 16 15 .dyn) (.bind 4 16)))) (.seq (.const 15) (.seq (.const 15) (.ite (.seq (.seq (.alloc 15 (.sh 0) (.lit [("", 10), ("", 10)])) (.load 16 15 .dyn)) (.seq (.bind 5 16) (.seq (.load 16 15 .dyn) (.bind 4 16)))) (.seq (.const 15) (.seq (.const 15) .raise)))))))))) (.seq (.seq (.seq (.call 15 314 [6, 5, 4]) (.bind 3 15)) (.seq (.alloc 15 .nums .dict) (.seq (.loop [.any, .any, .any, (.lv (.sh 2)), .any, .any, (.lv (.sh 2)), .any, .any, .any, .any, .any, .any, .any, .any, (.lv .nums), .any] (.seq (.seq (.load 16 1 .dyn) (.bind 14 16)) (.seq (.const 16) (.seq (.const 16) (.store 15 .dyn 16))))) (.const 15)))) (.seq (.seq (.ite (.ret 3) .skip) (.seq (.load 15 3 .dyn) (.load 16 15 .dyn))) (.seq (.const 15) (.seq (.load 15 16 .dyn) (.ret 15))))))),
  .any⟩

/-- bermuda/triangle.py:91  params: self, <globals> -/
def f306 : Fn := ⟨"bermuda.triangle:Triangle.__hash__", [0, 1], [],
  (.seq (.seq (.load 2 0 .dyn) (.load 3 2 .dyn)) (.seq (.alloc 2 (.sh 0) (.union [3])) (.seq (.const 2) (.ret 2)))),
  .scalar⟩

/-- bermuda/triangle.py:41  params: cells, <globals> -/
def f307 : Fn := ⟨"bermuda.triangle:Triangle.__init__", [1, 2], [],
  (.seq (.seq (.seq (.seq (.alloc 0 (.sh 2) .dict) (.seq (.alloc 10 (.sh 0) (.union [1])) (.bind 1 10))) (.seq (.seq (.alloc 10 .nums .dict) (.loop [(.lv (.sh 2)), (.lv (.sh 0)), .any, .scalar, .scalar, .scalar, .any, .scalar, .scalar, .scalar, (.lv .nums)] (.seq (.seq (.load 11 1 .dyn) (.seq (.bind 6 11) (.const 11))) (.seq (.const 11) (.seq (.const 11) (.store 10 .dyn 11)))))) (.seq (.const 10) (.ite (.seq (.const 10) (.seq (.const 10) .raise)) .skip)))) (.seq (.seq (.seq (.alloc 10 .nums .dict) (.loop [(.lv (.sh 2)), (.lv (.sh 0)), .any, .scalar, .scalar, .scalar, .any, .any, .scalar, .scalar, (.lv .nums), (.lv .num), .any] (.seq (.seq (.seq (.load 11 1 .dyn) (.bind 7 11)) (.seq (.load 11 7 .dyn) (.load 12 11 .dyn))) (.seq (.seq (.load 11 12 .dyn) (.load 12 11 .dyn)) (.seq (.const 11) (.seq (.arith 11) (.store 10 .dyn 11))))))) (.seq (.const 10) (.alloc 11 .nums .dict))) (.seq (.seq (.loop [(.lv (.sh 2)), (.lv (.sh 0)), .any, .scalar, .scalar, .scalar, .any, .any, .any, .scalar, .scalar, (.lv .nums), .any, .any] (.seq (.seq (.seq (.load 12 1 .dyn) (.bind 8 12)) (.seq (.load 12 8 .dyn) (.load 13 12 .dyn))) (.seq (.seq (.load 12 13 .dyn) (.load 13 12 .dyn)) (.seq (.const 12) (.seq (.arith 12) (.store 11 .dyn 12)))))) (.const 11)) (.seq (.alloc 12 .nums .dict) (.loop [(.lv (.sh 2)), (.lv (.sh 0)), .any, .scalar, .scalar, .scalar, .any, .any, .any, .any, .scalar, .scalar, (.lv .nums), .any, .any] (.seq (.seq (.seq (.load 13 1 .dyn) (.bind 9 13)) (.seq (.load 13 9 .dyn) (.load 14 13 .dyn))) (.seq (.seq (.load 13 14 .dyn) (.load 14 13 .dyn)) (.seq (.const 13) (.seq (.arith 13) (.store 12 .dyn 13)))))))))) (.seq (.seq (.seq (.seq (.const 12) (.ite (.bind 13 10) (.ite (.bind 13 11) (.bind 13 12)))) (.seq (.const 10) (.ite (.seq (.const 10) (.seq (.const 10) .raise)) .skip))) (.seq (.seq (.«try» (.seq (.seq (.alloc 10 (.sh 0) (.union [1])) (.alloc 11 (.sh 0) (.union [10]))) (.seq (.alloc 10 (.sh 1) (.lit [("", 11)])) (.store 0 .dyn 10))) (.seq (.seq (.const 10) (.const 5)) (.seq (.const 10) (.seq (.const 10) .raise)))) (.load 10 0 .dyn)) (.seq (.load 11 10 .dyn) (.const 10)))) (.seq (.seq (.seq (.arith 10) (.ite (.bind 10 11) (.alloc 10 (.sh 0) (.union [11])))) (.seq (.load 11 0 .dyn) (.load 12 11 .dyn))) (.seq (.seq (.const 11) (.ite (.bind 11 12) (.alloc 11 (.sh 0) (.union [12])))) (.seq (.loop [(.lv (.sh 2)), (.lv (.sh 0)), .any, .any, .any, .scalar, .any, .any, .any, .any, (.lv (.sh 0)), (.lv (.sh 0)), (.lv (.sh 0)), .any, .any, (.lv .num), (.lv .num)] (.block (.seq (.seq (.seq (.seq (.load 12 10 .dyn) (.bind 4 12)) (.seq (.load 12 11 .dyn) (.bind 3 12))) (.seq (.seq (.ite (.seq (.load 12 4 .dyn) (.load 13 12 .dyn)) (.call 13 339 [4])) (.ite (.seq (.load 12 3 .dyn) (.load 13 12 .dyn)) (.call 13 339 [3]))) (.seq (.arith 12) (.seq (.ite (.seq (.load 13 4 .dyn) (.load 14 13 .dyn)) (.ite (.call 14 23 [4]) (.call 14 40 [4]))) (.ite (.seq (.load 13 3 .dyn) (.load 14 13 .dyn)) (.ite (.call 14 23 [3]) (.call 14 40 [3]))))))) (.seq (.seq (.seq (.arith 13) (.ite (.bind 14 12) (.bind 14 13))) (.seq (.ite (.seq (.seq (.load 12 4 .dyn) (.seq (.load 13 12 .dyn) (.ite (.seq (.load 12 4 .dyn) (.load 13 12 .dyn)) (.call 13 320 [4])))) (.seq (.seq (.const 12) (.const 12)) (.seq (.const 12) .brk))) .skip) (.seq (.load 12 0 .dyn) (.load 13 12 .dyn)))) (.seq (.seq (.const 12) (.load 12 13 .dyn)) (.seq (.const 12) (.seq (.const 12) (.ite (.seq (.seq (.seq (.seq (.ite (.seq (.load 12 4 .dyn) (.load 13 12 .dyn)) (.call 13 339 [4])) (.ite (.seq (.load 12 3 .dyn) (.load 13 12 .dyn)) (.call 13 339 [3]))) (.seq (.arith 12) (.ite (.seq (.load 13 4 .dyn) (.load 14 13 .dyn)) (.call 14 27 [4])))) (.seq (.seq (.ite (.seq (.load 13 3 .dyn) (.load 14 13 .dyn)) (.call 14 27 [3])) (.arith 13)) (.seq (.ite (.seq (.load 14 4 .dyn) (.load 15 14 .dyn)) (.call 15 320 [4])) (.ite (.seq (.load 14 3 .dyn) (.load 15 14 .dyn)) (.call 15 320 [3]))))) (.seq (.seq (.seq (.arith 14) (.load 15 4 .dyn)) (.seq (.load 16 15 .dyn) (.load 15 3 .dyn))) (.seq (.seq (.load 16 15 .dyn) (.arith 15)) (.seq (.ite (.bind 16 12) (.ite (.bind 16 13) (.ite (.bind 16 14) (.bind 16 15)))) (.ite (.seq (.seq (.load 12 4 .dyn) (.seq (.load 13 12 .dyn) (.ite (.seq (.load 12 4 .dyn) (.load 13 12 .dyn)) (.call 13 320 [4])))) (.seq (.seq (.const 12) (.const 12)) (.seq (.const 12) .brk))) .skip))))) .skip)))))))) (.ret 0)))))),
  (.lv (.sh 2))⟩

/-- bermuda/triangle.py:102  params: self, <globals> -/
def f308 : Fn := ⟨"bermuda.triangle:Triangle.__iter__", [0, 1], [],
  (.seq (.seq (.load 2 0 .dyn) (.load 3 2 .dyn)) (.seq (.ite (.arith 2) (.ite (.load 2 3 .dyn) (.bind 2 3))) (.ret 2))),
  .any⟩

/-- bermuda/triangle.py:99  params: self, <globals> -/
def f309 : Fn := ⟨"bermuda.triangle:Triangle.__len__", [0, 1], [],
  (.seq (.seq (.load 2 0 .dyn) (.load 3 2 .dyn)) (.seq (.const 2) (.ret 2))),
  .scalar⟩

/-- bermuda/triangle.py:418  params: self, other, <globals> -/
def f310 : Fn := ⟨"bermuda.triangle:Triangle.__radd__", [0, 1, 2], [],
  (.seq (.const 3) (.seq (.arith 3) (.ite (.seq (.const 3) (.ret 3)) (.seq (.call 3 302 [0, 1]) (.ret 3))))),
  (.lv (.sh 2))⟩

/-- bermuda/triangle.py:201  params: self, <globals> -/
def f311 : Fn := ⟨"bermuda.triangle:Triangle.__repr__", [0, 1], [],
  (.seq (.seq (.seq (.const 3) (.alloc 3 .nums .dict)) (.seq (.ite (.call 4 21 [0]) (.ite (.call 4 39 [0]) (.call 4 312 [0]))) (.const 4))) (.seq (.seq (.loop [.any, .any, .scalar, (.lv .nums)] (.seq (.seq (.load 5 4 .dyn) (.bind 2 5)) (.seq (.const 5) (.store 3 .dyn 5)))) (.const 3)) (.seq (.call 4 354 [3]) (.ret 4)))),
  .scalar⟩

/-- bermuda/triangle.py:108  params: self, <globals> -/
def f312 : Fn := ⟨"bermuda.triangle:Triangle._repr_html_", [0, 1], [],
  (.seq (.seq (.seq (.seq (.seq (.seq (.const 18) (.const 18)) (.seq (.arith 18) (.seq (.ite (.seq (.seq (.seq (.const 18) (.seq (.const 19) (.const 20))) (.seq (.seq (.const 21) (.const 22)) (.seq (.const 23) (.const 24)))) (.seq (.seq (.const 25) (.seq (.const 26) (.alloc 27 .nums (.lit [("", 18), ("", 19), ("", 20), ("", 21), ("", 22), ("", 23), ("", 24), ("", 25), ("", 26)])))) (.seq (.seq (.bind 2 27) (.const 18)) (.seq (.const 18) (.ret 18))))) .skip) (.alloc 18 .nums .dict)))) (.seq (.seq (.bind 17 18) (.seq (.const 18) (.bind 16 18))) (.seq (.ite (.seq (.load 18 0 .dyn) (.load 19 18 .dyn)) (.call 19 315 [0])) (.seq (.call 18 47 [19]) (.loop [.any, .any, .scalar, .scalar, .scalar, .scalar, .scalar, .scalar, .scalar, .scalar, .any, .scalar, .scalar, .scalar, .scalar, .any, .scalar, (.lv .nums), (.lv (.sh 0)), .any] (.block (.seq (.seq (.havoc 19) (.seq (.bind 10 19) (.load 19 18 .dyn))) (.seq (.seq (.bind 15 19) (.const 19)) (.seq (.arith 19) (.ite (.seq (.const 19) (.seq (.store 17 .dyn 19) (.const 19))) .skip)))))))))) (.seq (.seq (.seq (.alloc 18 .nums .dict) (.seq (.bind 14 18) (.ite (.seq (.load 18 0 .dyn) (.load 19 18 .dyn)) (.call 19 322 [0])))) (.seq (.ite (.seq (.seq (.const 18) (.store 14 .dyn 18)) (.seq (.const 18) (.seq (.ite (.seq (.load 18 0 .dyn) (.load 19 18 .dyn)) (.call 19 322 [0])) (.loop [.any, .any, .scalar, .scalar, .scalar, .scalar, .scalar, .scalar, .scalar, .scalar, .any, .scalar, .scalar, .any, (.lv .nums), .any, .scalar, (.lv .nums), .any, .any] (.block (.seq (.seq (.seq (.load 18 19 .dyn) (.bind 13 18)) (.seq (.const 18) (.load 18 13 .dyn))) (.seq (.seq (.const 18) (.load 18 13 .dyn)) (.seq (.const 18) (.seq (.store 14 .dyn 18) (.const 18)))))))))) .skip) (.seq (.alloc 18 .nums .dict) (.bind 12 18)))) (.seq (.seq (.alloc 18 .nums .dict) (.seq (.bind 11 18) (.ite (.seq (.load 18 0 .dyn) (.load 19 18 .dyn)) (.call 19 324 [0])))) (.seq (.loop [.any, .any, .scalar, .scalar, .scalar, .scalar, .scalar, .scalar, (.lv .num), .any, .any, (.lv .nums), (.lv .nums), .any, (.lv .nums), .any, .scalar, (.lv .nums), .any, .any] (.block (.seq (.seq (.havoc 18) (.seq (.bind 10 18) (.load 18 19 .dyn))) (.seq (.seq (.bind 9 18) (.const 18)) (.seq (.arith 18) (.ite (.seq (.const 18) (.seq (.store 12 .dyn 18) (.const 18))) (.seq (.seq (.seq (.const 18) (.arith 18)) (.seq (.const 18) (.arith 18))) (.seq (.seq (.bind 8 18) (.const 18)) (.seq (.store 11 .dyn 18) (.const 18)))))))))) (.seq (.ite (.seq (.seq (.const 18) (.const 18)) (.seq (.store 12 .dyn 18) (.const 18))) .skip) (.ite (.seq (.seq (.const 18) (.const 18)) (.seq (.store 11 .dyn 18) (.const 18))) .skip)))))) (.seq (.seq (.seq (.seq (.ite (.seq (.load 18 0 .dyn) (.load 19 18 .dyn)) (.call 19 338 [0])) (.const 18)) (.seq (.ite (.seq (.const 18) (.bind 7 18)) (.seq (.call 18 337 [0]) (.seq (.const 18) (.ite (.seq (.const 18) (.bind 7 18)) (.seq (.call 18 335 [0]) (.seq (.const 18) (.ite (.seq (.const 18) (.bind 7 18)) (.seq (.const 18) (.bind 7 18))))))))) (.seq (.ite (.seq (.load 18 0 .dyn) (.load 19 18 .dyn)) (.call 19 344 [0])) (.const 18)))) (.seq (.seq (.load 18 19 .dyn) (.seq (.const 19) (.load 19 18 .dyn))) (.seq (.ite (.seq (.load 18 0 .dyn) (.load 19 18 .dyn)) (.call 19 344 [0])) (.seq (.const 18) (.arith 18))))) (.seq (.seq (.seq (.load 18 19 .dyn) (.seq (.const 19) (.load 19 18 .dyn))) (.seq (.const 18) (.seq (.bind 6 18) (.ite (.seq (.load 18 0 .dyn) (.load 19 18 .dyn)) (.call 19 321 [0]))))) (.seq (.seq (.const 18) (.seq (.load 18 19 .dyn) (.ite (.seq (.load 18 0 .dyn) (.load 19 18 .dyn)) (.call 19 321 [0])))) (.seq (.const 18) (.seq (.arith 18) (.load 18 19 .dyn))))))) (.seq (.seq (.seq (.seq (.seq (.const 18) (.bind 5 18)) (.seq (.call 18 318 [0]) (.seq (.const 19) (.load 19 18 .dyn)))) (.seq (.seq (.call 18 318 [0]) (.seq (.const 19) (.arith 19))) (.seq (.load 19 18 .dyn) (.seq (.const 18) (.bind 4 18))))) (.seq (.seq (.seq (.load 18 0 .dyn) (.seq (.load 19 18 .dyn) (.const 18))) (.seq (.load 18 19 .dyn) (.seq (.const 18) (.const 18)))) (.seq (.seq (.ite (.seq (.const 18) (.bind 19 18)) (.seq (.const 18) (.bind 19 18))) (.seq (.bind 3 19) (.const 18))) (.seq (.const 19) (.seq (.const 20) (.ite (.seq (.load 21 0 .dyn) (.load 22 21 .dyn)) (.call 22 350 [0]))))))) (.seq (.seq (.seq (.seq (.const 21) (.seq (.const 21) (.const 22))) (.seq (.const 22) (.seq (.const 23) (.const 24)))) (.seq (.seq (.ite (.seq (.load 25 0 .dyn) (.load 26 25 .dyn)) (.call 26 342 [0])) (.seq (.const 25) (.const 26))) (.seq (.ite (.seq (.load 27 0 .dyn) (.load 28 27 .dyn)) (.call 28 319 [0])) (.seq (.const 27) (.const 28))))) (.seq (.seq (.seq (.const 29) (.seq (.const 30) (.const 31))) (.seq (.alloc 32 .nums (.lit [("", 18), ("", 19), ("", 20), ("", 21), ("", 22), ("", 23), ("", 24), ("", 25), ("", 26), ("", 27), ("", 28), ("", 29), ("", 30), ("", 31)])) (.seq (.merge 32 14) (.merge 32 12)))) (.seq (.seq (.merge 32 11) (.seq (.merge 32 17) (.bind 2 32))) (.seq (.const 18) (.seq (.const 18) (.ret 18)))))))),
  .scalar⟩

/-- bermuda/triangle.py:268  params: self, <globals> -/
def f313 : Fn := ⟨"bermuda.triangle:Triangle.cells", [0, 1], [],
  (.seq (.load 2 0 .dyn) (.seq (.load 3 2 .dyn) (.ret 3))),
  .any⟩

/-- bermuda/triangle.py:607  params: self, min_eval, max_eval, min_period, max_period, min_dev, max_dev, dev_lag_unit, <globals> -/
def f314 : Fn := ⟨"bermuda.triangle:Triangle.clip", [0, 1, 2, 3, 4, 5, 6, 7, 8], [],
  (.seq (.seq (.seq (.seq (.seq (.const 1) (.const 2)) (.seq (.const 3) (.const 4))) (.seq (.seq (.const 5) (.const 6)) (.seq (.const 7) (.const 16)))) (.seq (.seq (.seq (.load 16 0 .dyn) (.load 17 16 .dyn)) (.seq (.bind 9 17) (.const 16))) (.seq (.seq (.arith 16) (.ite (.seq (.seq (.ite .skip (.loop [.any, .scalar, .scalar, .scalar, .scalar, .scalar, .scalar, .scalar, .any, .any, .any, .scalar, .scalar, .scalar, .scalar, .scalar, (.lv .num), .any] (.block (.seq (.havoc 10) (.seq (.ite (.seq (.load 16 10 .dyn) (.load 17 16 .dyn)) (.call 17 320 [10])) (.arith 16)))))) (.const 16)) (.seq (.alloc 17 (.sh 0) (.union [16, 9])) (.bind 9 17))) .skip)) (.seq (.const 16) (.arith 16))))) (.seq (.seq (.seq (.seq (.ite (.seq (.seq (.ite .skip (.loop [.any, .scalar, .scalar, .scalar, .scalar, .scalar, .scalar, .scalar, .any, .any, .any, .any, .scalar, .scalar, .scalar, .scalar, (.lv .num), .any] (.block (.seq (.havoc 11) (.seq (.ite (.seq (.load 16 11 .dyn) (.load 17 16 .dyn)) (.call 17 320 [11])) (.arith 16)))))) (.const 16)) (.seq (.alloc 17 (.sh 0) (.union [16, 9])) (.bind 9 17))) .skip) (.const 16)) (.seq (.arith 16) (.ite (.seq (.seq (.ite .skip (.loop [.any, .scalar, .scalar, .scalar, .scalar, .scalar, .scalar, .scalar, .any, .any, .any, .any, .any, .scalar, .scalar, .scalar, (.lv .num), .any] (.block (.seq (.seq (.havoc 12) (.load 16 12 .dyn)) (.seq (.load 17 16 .dyn) (.arith 16)))))) (.const 16)) (.seq (.alloc 17 (.sh 0) (.union [16, 9])) (.bind 9 17))) .skip))) (.seq (.seq (.const 16) (.arith 16)) (.seq (.ite (.seq (.seq (.ite .skip (.loop [.any, .scalar, .scalar, .scalar, .scalar, .scalar, .scalar, .scalar, .any, .any, .any, .any, .any, .any, .scalar, .scalar, (.lv .num), .any] (.block (.seq (.seq (.havoc 13) (.load 16 13 .dyn)) (.seq (.load 17 16 .dyn) (.arith 16)))))) (.const 16)) (.seq (.alloc 17 (.sh 0) (.union [16, 9])) (.bind 9 17))) .skip) (.const 16)))) (.seq (.seq (.seq (.arith 16) (.ite (.seq (.seq (.ite .skip (.loop [.any, .scalar, .scalar, .scalar, .scalar, .scalar, .scalar, .scalar, .any, .any, .any, .any, .any, .any, .any, .scalar, (.lv .num), .any] (.block (.seq (.havoc 14) (.seq (.call 16 26 [14, 7]) (.arith 16)))))) (.const 16)) (.seq (.alloc 17 (.sh 0) (.union [16, 9])) (.bind 9 17))) .skip)) (.seq (.const 16) (.arith 16))) (.seq (.seq (.ite (.seq (.seq (.ite .skip (.loop [.any, .scalar, .scalar, .scalar, .scalar, .scalar, .scalar, .scalar, .any, .any, .any, .any, .any, .any, .any, .any, (.lv .num), .any] (.block (.seq (.havoc 15) (.seq (.call 16 26 [15, 7]) (.arith 16)))))) (.const 16)) (.seq (.alloc 17 (.sh 0) (.union [16, 9])) (.bind 9 17))) .skip) (.alloc 16 (.sh 0) (.union [9]))) (.seq (.call 17 307 [16]) (.ret 17)))))),
  (.lv (.sh 2))⟩

/-- bermuda/triangle.py:293  params: self, <globals> -/
def f315 : Fn := ⟨"bermuda.triangle:Triangle.common_metadata", [0, 1], [],
  (.seq (.seq (.seq (.const 5) (.seq (.ite (.seq (.load 5 0 .dyn) (.load 6 5 .dyn)) (.call 6 339 [0])) (.bind 4 6))) (.seq (.seq (.const 5) (.const 5)) (.seq (.arith 5) (.ite (.seq (.const 5) (.seq (.load 5 4 .dyn) (.ret 5))) .skip)))) (.seq (.seq (.const 5) (.seq (.load 5 4 .dyn) (.bind 2 5))) (.seq (.seq (.const 5) (.ite (.bind 5 4) (.alloc 5 (.sh 0) (.union [4])))) (.seq (.loop [.any, .any, .any, .any, .any, .any, .any] (.block (.seq (.seq (.load 6 5 .dyn) (.bind 3 6)) (.seq (.call 6 49 [2, 3]) (.bind 2 6))))) (.ret 2))))),
  .any⟩

def chunk4 : List Fn := [f275, f276, f277, f278, f279, f280, f281, f282, f283, f284, f285, f286, f287, f288, f289, f290, f291, f292, f293, f294, f295, f296, f297, f298, f299, f300, f301, f302, f303, f304, f305, f306, f307, f308, f309, f310, f311, f312, f313, f314, f315]

/-- every function of this chunk respects the discipline (re-proved against today's source) -/
theorem chunk4_disciplined : chunk4.all (writesOnlyFresh sums) = true :=
  disciplined_of_fast (by decide +kernel)

end Bermuda.Generated.HeapIR
