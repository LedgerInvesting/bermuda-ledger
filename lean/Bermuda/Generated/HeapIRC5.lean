-- GENERATED by harness/translate_c03ir.py from /repo -- do not edit
import Bermuda.Generated.HeapIRSums
import Bermuda.Lemmas.HeapIRFast
namespace Bermuda.Generated.HeapIR
open Bermuda.HeapIR

/-- bermuda/triangle.py:535  params: self, definitions, <globals> -/
def f316 : Fn := ⟨"bermuda.triangle:Triangle.derive_fields", [0, 1, 2], [],
  (.seq (.seq (.seq (.const 4) (.ite .skip (.loop [.any, .any, .any, .any, .any, .any] (.block (.seq (.havoc 3) (.seq (.load 4 1 .dyn) (.ite (.call 5 24 [3, 4]) (.call 5 316 [3, 4])))))))) (.seq (.const 4) (.seq (.ite (.seq (.load 4 0 .dyn) (.load 5 4 .dyn)) (.call 5 313 [0])) (.alloc 4 (.sh 0) .dict)))) (.seq (.seq (.havoc 5) (.store 4 .dyn 5)) (.seq (.alloc 5 (.sh 0) (.union [4])) (.seq (.call 4 307 [5]) (.ret 4))))),
  (.lv (.sh 2))⟩

/-- bermuda/triangle.py:548  params: self, definitions, <globals> -/
def f317 : Fn := ⟨"bermuda.triangle:Triangle.derive_metadata", [0, 1, 2], [],
  (.seq (.seq (.seq (.const 4) (.ite .skip (.loop [.any, .any, .any, .any, .any, .any] (.block (.seq (.havoc 3) (.seq (.load 4 1 .dyn) (.ite (.call 5 25 [3, 4]) (.call 5 317 [3, 4])))))))) (.seq (.const 4) (.seq (.ite (.seq (.load 4 0 .dyn) (.load 5 4 .dyn)) (.call 5 313 [0])) (.alloc 4 (.sh 0) .dict)))) (.seq (.seq (.havoc 5) (.store 4 .dyn 5)) (.seq (.alloc 5 (.sh 0) (.union [4])) (.seq (.call 4 307 [5]) (.ret 4))))),
  (.lv (.sh 2))⟩

/-- bermuda/triangle.py:374  params: self, unit, <globals> -/
def f318 : Fn := ⟨"bermuda.triangle:Triangle.dev_lags", [0, 1, 2], [],
  (.seq (.seq (.const 4) (.seq (.alloc 4 .nums .dict) (.load 5 0 .dyn))) (.seq (.seq (.load 6 5 .dyn) (.loop [.any, .any, .any, .any, (.lv .nums), .any, .any] (.seq (.seq (.load 5 6 .dyn) (.bind 3 5)) (.seq (.call 5 26 [3, 1]) (.store 4 .dyn 5))))) (.seq (.alloc 5 .nums (.union [4])) (.ret 5)))),
  (.lv .nums)⟩

/-- bermuda/triangle.py:283  params: self, <globals> -/
def f319 : Fn := ⟨"bermuda.triangle:Triangle.eval_date_resolution", [0, 1], [],
  (.seq (.const 2) (.seq (.call 2 60 [0]) (.ret 2))),
  .any⟩

/-- bermuda/triangle.py:386  params: self, <globals> -/
def f320 : Fn := ⟨"bermuda.triangle:Triangle.evaluation_date", [0, 1], [],
  (.seq (.const 2) (.seq (.ite (.seq (.load 2 0 .dyn) (.load 3 2 .dyn)) (.call 3 332 [0])) (.ite (.seq (.const 2) .raise) (.seq (.ite (.seq (.load 2 0 .dyn) (.load 3 2 .dyn)) (.call 3 321 [0])) (.seq (.ite (.const 2) (.ite (.load 2 3 .dyn) (.bind 2 3))) (.ret 2)))))),
  .any⟩

/-- bermuda/triangle.py:381  params: self, <globals> -/
def f321 : Fn := ⟨"bermuda.triangle:Triangle.evaluation_dates", [0, 1], [],
  (.seq (.seq (.const 3) (.seq (.alloc 3 (.sh 0) .dict) (.load 4 0 .dyn))) (.seq (.seq (.load 5 4 .dyn) (.loop [.any, .any, .any, (.lv (.sh 0)), .any, .any, .any] (.seq (.seq (.load 4 5 .dyn) (.bind 2 4)) (.seq (.ite (.seq (.load 4 2 .dyn) (.load 6 4 .dyn)) (.call 6 320 [2])) (.store 3 .dyn 6))))) (.seq (.alloc 4 (.sh 0) (.union [3])) (.ret 4)))),
  .any⟩

/-- bermuda/triangle.py:360  params: self, <globals> -/
def f322 : Fn := ⟨"bermuda.triangle:Triangle.experience_gaps", [0, 1], [],
  (.seq (.seq (.seq (.const 7) (.seq (.alloc 7 (.sh 2) .dict) (.bind 2 7))) (.seq (.ite (.seq (.load 7 0 .dyn) (.load 8 7 .dyn)) (.call 8 344 [0])) (.seq (.const 7) (.arith 7)))) (.seq (.seq (.ite (.bind 7 8) (.alloc 7 (.sh 0) (.union [8]))) (.seq (.ite (.seq (.load 8 0 .dyn) (.load 9 8 .dyn)) (.call 9 344 [0])) (.const 8))) (.seq (.ite (.bind 8 9) (.alloc 8 (.sh 0) (.union [9]))) (.seq (.loop [.any, .any, (.lv (.sh 2)), (.lv .num), .any, .any, .any, .any, .any, .any, .any] (.block (.seq (.seq (.seq (.seq (.load 9 7 .dyn) (.load 10 9 .dyn)) (.seq (.bind 4 10) (.load 10 9 .dyn))) (.seq (.seq (.bind 6 10) (.load 9 8 .dyn)) (.seq (.load 10 9 .dyn) (.bind 5 10)))) (.seq (.seq (.seq (.load 10 9 .dyn) (.bind 4 10)) (.seq (.const 9) (.const 9))) (.seq (.seq (.arith 9) (.bind 3 9)) (.seq (.arith 9) (.ite (.seq (.seq (.const 9) (.seq (.const 9) (.arith 9))) (.seq (.alloc 10 (.sh 1) (.lit [("", 3), ("", 9)])) (.seq (.alloc 9 (.sh 2) (.lit [("", 10)])) (.aug 2 9)))) .skip))))))) (.ret 2))))),
  .any⟩

/-- bermuda/triangle.py:653  params: self, attribute, <globals> -/
def f323 : Fn := ⟨"bermuda.triangle:Triangle.extract", [0, 1, 2], [],
  (.seq (.seq (.seq (.const 4) (.seq (.const 4) (.const 4))) (.seq (.seq (.ite (.seq (.seq (.seq (.load 4 0 .dyn) (.load 5 4 .dyn)) (.seq (.alloc 4 (.sh 0) .dict) (.havoc 5))) (.seq (.seq (.store 4 .dyn 5) (.alloc 5 (.sh 0) (.union [4]))) (.seq (.arith 4) (.ret 4)))) .skip) (.ite .skip (.loop [.any, .any, .any, .any, .any, .any] (.block (.seq (.havoc 3) (.seq (.load 4 3 .dyn) (.ite (.const 5) (.ite (.load 5 4 .dyn) (.bind 5 1))))))))) (.seq (.const 4) (.load 4 0 .dyn)))) (.seq (.seq (.seq (.load 5 4 .dyn) (.alloc 4 (.sh 0) .dict)) (.seq (.havoc 5) (.store 4 .dyn 5))) (.seq (.seq (.alloc 5 (.sh 0) (.union [4])) (.const 4)) (.seq (.arith 4) (.ret 4))))),
  (.lv .num)⟩

/-- bermuda/triangle.py:399  params: self, <globals> -/
def f324 : Fn := ⟨"bermuda.triangle:Triangle.field_cell_counts", [0, 1], [],
  (.seq (.seq (.const 5) (.seq (.alloc 5 .nums .dict) (.bind 3 5))) (.seq (.ite (.seq (.load 5 0 .dyn) (.load 6 5 .dyn)) (.call 6 326 [0])) (.seq (.loop [.any, .any, .any, (.lv .nums), .any, .any, .any, .any, .any, (.lv (.sh 0))] (.block (.seq (.seq (.load 5 6 .dyn) (.seq (.bind 2 5) (.alloc 5 .nums .dict))) (.seq (.seq (.ite (.seq (.load 7 0 .dyn) (.load 8 7 .dyn)) (.call 8 313 [0])) (.loop [.any, .any, .any, (.lv .nums), .any, (.lv .nums), .any, .any, .any, (.lv (.sh 0))] (.seq (.seq (.load 7 8 .dyn) (.seq (.bind 4 7) (.load 7 4 .dyn))) (.seq (.alloc 9 (.sh 0) (.union [7])) (.seq (.arith 7) (.store 5 .dyn 7)))))) (.seq (.arith 5) (.store 3 .dyn 5)))))) (.ret 3)))),
  .any⟩

/-- bermuda/triangle.py:407  params: self, <globals> -/
def f325 : Fn := ⟨"bermuda.triangle:Triangle.field_slice_counts", [0, 1], [],
  (.seq (.seq (.const 5) (.seq (.alloc 5 .nums .dict) (.bind 3 5))) (.seq (.ite (.seq (.load 5 0 .dyn) (.load 6 5 .dyn)) (.call 6 326 [0])) (.seq (.loop [.any, .any, .any, (.lv .nums), .any, .any, .any, .any, .any, .any] (.block (.seq (.seq (.load 5 6 .dyn) (.seq (.bind 2 5) (.alloc 5 .nums .dict))) (.seq (.seq (.ite (.seq (.load 7 0 .dyn) (.load 8 7 .dyn)) (.call 8 350 [0])) (.loop [.any, .any, .any, (.lv .nums), .any, (.lv .nums), .any, .any, .any, .any] (.seq (.seq (.load 7 8 .dyn) (.bind 4 7)) (.seq (.ite (.seq (.load 7 4 .dyn) (.load 9 7 .dyn)) (.call 9 326 [4])) (.seq (.arith 7) (.store 5 .dyn 7)))))) (.seq (.arith 5) (.store 3 .dyn 5)))))) (.ret 3)))),
  .any⟩

/-- bermuda/triangle.py:394  params: self, <globals> -/
def f326 : Fn := ⟨"bermuda.triangle:Triangle.fields", [0, 1], [],
  (.seq (.seq (.const 4) (.seq (.alloc 4 (.sh 0) .dict) (.load 5 0 .dyn))) (.seq (.seq (.load 6 5 .dyn) (.loop [.any, .any, .any, .any, (.lv (.sh 0)), .any, .any] (.seq (.seq (.load 5 6 .dyn) (.bind 2 5)) (.seq (.load 5 2 .dyn) (.loop [.any, .any, .any, .any, (.lv (.sh 0)), .any, .any] (.seq (.havoc 5) (.seq (.bind 3 5) (.store 4 .dyn 3)))))))) (.seq (.alloc 5 (.sh 0) (.union [4])) (.ret 5)))),
  .any⟩

/-- bermuda/triangle.py:645  params: self, predicate, <globals> -/
def f327 : Fn := ⟨"bermuda.triangle:Triangle.filter", [0, 1, 2], [],
  (.seq (.seq (.const 3) (.seq (.load 3 0 .dyn) (.load 4 3 .dyn))) (.seq (.seq (.alloc 3 (.sh 0) (.union [1, 4])) (.alloc 4 (.sh 0) (.union [3]))) (.seq (.call 3 307 [4]) (.ret 3)))),
  (.lv (.sh 2))⟩

/-- bermuda/triangle.py:515  params: self, <globals> -/
def f328 : Fn := ⟨"bermuda.triangle:Triangle.has_consistent_currency", [0, 1], [],
  (.seq (.seq (.seq (.const 3) (.alloc 3 (.sh 0) .dict)) (.seq (.ite (.seq (.load 4 0 .dyn) (.load 5 4 .dyn)) (.call 5 313 [0])) (.loop [.any, .any, .any, (.lv (.sh 0)), .any, .any, .any] (.seq (.seq (.load 4 5 .dyn) (.seq (.bind 2 4) (.ite (.seq (.load 4 2 .dyn) (.load 6 4 .dyn)) (.call 6 339 [2])))) (.seq (.load 4 6 .dyn) (.seq (.load 6 4 .dyn) (.store 3 .dyn 6))))))) (.seq (.seq (.const 3) (.const 3)) (.seq (.arith 3) (.ret 3)))),
  .any⟩

/-- bermuda/triangle.py:520  params: self, <globals> -/
def f329 : Fn := ⟨"bermuda.triangle:Triangle.has_consistent_risk_basis", [0, 1], [],
  (.seq (.seq (.seq (.const 3) (.alloc 3 (.sh 0) .dict)) (.seq (.ite (.seq (.load 4 0 .dyn) (.load 5 4 .dyn)) (.call 5 313 [0])) (.loop [.any, .any, .any, (.lv (.sh 0)), .any, .any, .any] (.seq (.seq (.load 4 5 .dyn) (.seq (.bind 2 4) (.ite (.seq (.load 4 2 .dyn) (.load 6 4 .dyn)) (.call 6 339 [2])))) (.seq (.load 4 6 .dyn) (.seq (.load 6 4 .dyn) (.store 3 .dyn 6))))))) (.seq (.seq (.const 3) (.const 3)) (.seq (.arith 3) (.ret 3)))),
  .any⟩

/-- bermuda/triangle.py:594  params: self, <globals> -/
def f330 : Fn := ⟨"bermuda.triangle:Triangle.has_consistent_values_shapes", [0, 1], [],
  (.seq (.seq (.seq (.const 7) (.const 7)) (.seq (.alloc 7 (.sh 2) .dict) (.seq (.bind 5 7) (.ite (.seq (.load 7 0 .dyn) (.load 8 7 .dyn)) (.call 8 313 [0]))))) (.seq (.seq (.loop [.any, .any, .any, .any, .any, (.lv (.sh 2)), .scalar, .any, .any] (.block (.seq (.seq (.load 7 8 .dyn) (.bind 4 7)) (.seq (.load 7 4 .dyn) (.loop [.any, .any, .any, .any, .any, (.lv (.sh 2)), .scalar, .any, .any] (.block (.seq (.seq (.seq (.havoc 9) (.bind 3 9)) (.seq (.load 9 7 .dyn) (.bind 2 9))) (.seq (.seq (.ite (.load 9 5 .dyn) (.seq (.alloc 9 (.sh 1) .dict) (.store 5 .dyn 9))) (.const 10)) (.seq (.store 9 .dyn 10) (.const 9)))))))))) (.alloc 7 .nums .dict)) (.seq (.loop [.any, .any, .any, .any, .any, (.lv (.sh 2)), (.lv (.sh 1)), (.lv .nums), .any] (.seq (.seq (.load 8 5 .dyn) (.seq (.bind 6 8) (.alloc 8 (.sh 0) (.union [6])))) (.seq (.seq (.const 8) (.const 8)) (.seq (.arith 8) (.store 7 .dyn 8))))) (.seq (.const 7) (.ret 7))))),
  .scalar⟩

/-- bermuda/triangle.py:431  params: self, <globals> -/
def f331 : Fn := ⟨"bermuda.triangle:Triangle.is_disjoint", [0, 1], [],
  (.seq (.seq (.seq (.const 6) (.seq (.ite (.seq (.load 6 0 .dyn) (.load 7 6 .dyn)) (.call 7 332 [0])) (.ite (.seq (.const 6) (.ret 6)) .skip))) (.seq (.ite (.seq (.load 6 0 .dyn) (.load 7 6 .dyn)) (.call 7 344 [0])) (.seq (.const 6) (.arith 6)))) (.seq (.seq (.ite (.bind 6 7) (.alloc 6 (.sh 0) (.union [7]))) (.seq (.ite (.seq (.load 7 0 .dyn) (.load 8 7 .dyn)) (.call 8 344 [0])) (.const 7))) (.seq (.seq (.ite (.bind 7 8) (.alloc 7 (.sh 0) (.union [8]))) (.loop [.any, .any, .any, .any, .any, .any, .any, .any, .any, .any] (.block (.seq (.seq (.seq (.load 8 6 .dyn) (.seq (.load 9 8 .dyn) (.bind 5 9))) (.seq (.load 9 8 .dyn) (.seq (.bind 4 9) (.load 8 7 .dyn)))) (.seq (.seq (.load 9 8 .dyn) (.seq (.bind 3 9) (.load 9 8 .dyn))) (.seq (.bind 2 9) (.seq (.arith 8) (.ite (.seq (.const 8) (.ret 8)) .skip)))))))) (.seq (.const 6) (.ret 6))))),
  .scalar⟩

/-- bermuda/triangle.py:426  params: self, <globals> -/
def f332 : Fn := ⟨"bermuda.triangle:Triangle.is_empty", [0, 1], [],
  (.seq (.seq (.const 2) (.seq (.load 2 0 .dyn) (.load 3 2 .dyn))) (.seq (.alloc 2 .nums .dict) (.seq (.arith 2) (.ret 2)))),
  .any⟩

/-- bermuda/triangle.py:526  params: self, <globals> -/
def f333 : Fn := ⟨"bermuda.triangle:Triangle.is_incremental", [0, 1], [],
  (.seq (.seq (.seq (.const 2) (.ite (.seq (.load 2 0 .dyn) (.load 3 2 .dyn)) (.call 3 313 [0]))) (.seq (.const 2) (.seq (.ite (.seq (.load 3 0 .dyn) (.load 4 3 .dyn)) (.call 4 313 [0])) (.const 3)))) (.seq (.seq (.load 3 4 .dyn) (.const 3)) (.seq (.const 3) (.seq (.ite (.bind 4 2) (.bind 4 3)) (.ret 4))))),
  .scalar⟩

/-- bermuda/triangle.py:531  params: self, <globals> -/
def f334 : Fn := ⟨"bermuda.triangle:Triangle.is_multi_slice", [0, 1], [],
  (.seq (.seq (.const 2) (.seq (.ite (.seq (.load 2 0 .dyn) (.load 3 2 .dyn)) (.call 3 350 [0])) (.const 2))) (.seq (.const 2) (.seq (.arith 2) (.ret 2)))),
  .any⟩

/-- bermuda/triangle.py:492  params: self, dev_lag_unit, <globals> -/
def f335 : Fn := ⟨"bermuda.triangle:Triangle.is_regular", [0, 1, 2], [],
  (.seq (.seq (.seq (.seq (.const 7) (.seq (.call 7 337 [0, 1]) (.const 7))) (.seq (.ite (.seq (.const 7) (.ret 7)) .skip) (.seq (.ite (.seq (.load 7 0 .dyn) (.load 8 7 .dyn)) (.call 8 332 [0])) (.ite (.seq (.const 7) (.ret 7)) .skip)))) (.seq (.seq (.call 7 318 [0, 1]) (.seq (.bind 6 7) (.const 7))) (.seq (.seq (.const 7) (.arith 7)) (.seq (.ite (.seq (.const 7) (.ret 7)) .skip) (.const 7))))) (.seq (.seq (.seq (.load 7 6 .dyn) (.seq (.const 7) (.load 7 6 .dyn))) (.seq (.seq (.arith 7) (.bind 5 7)) (.seq (.const 7) (.const 7)))) (.seq (.seq (.arith 7) (.seq (.ite (.bind 7 6) (.alloc 7 .nums (.union [6]))) (.const 8))) (.seq (.seq (.ite (.bind 8 6) (.alloc 8 .nums (.union [6]))) (.loop [.any, .any, .any, (.lv .num), (.lv .num), (.lv .num), (.lv .nums), (.lv .nums), (.lv .nums), (.lv .num)] (.block (.seq (.seq (.load 9 7 .dyn) (.seq (.bind 4 9) (.load 9 8 .dyn))) (.seq (.seq (.bind 3 9) (.arith 9)) (.seq (.arith 9) (.ite (.seq (.const 9) (.ret 9)) .skip))))))) (.seq (.const 7) (.ret 7)))))),
  .scalar⟩

/-- bermuda/triangle.py:687  params: self, <globals> -/
def f336 : Fn := ⟨"bermuda.triangle:Triangle.is_right_edge_ragged", [0, 1], [],
  (.seq (.seq (.const 3) (.ite (.seq (.load 3 0 .dyn) (.load 4 3 .dyn)) (.call 4 350 [0]))) (.seq (.loop [.any, .any, .any, .any, .any, .any, .any] (.block (.seq (.seq (.seq (.load 3 4 .dyn) (.bind 2 3)) (.seq (.ite (.seq (.load 3 2 .dyn) (.load 5 3 .dyn)) (.call 5 347 [2])) (.ite (.seq (.load 3 5 .dyn) (.load 6 3 .dyn)) (.call 6 321 [5])))) (.seq (.seq (.const 3) (.const 3)) (.seq (.arith 3) (.ite (.seq (.const 3) (.ret 3)) .skip)))))) (.seq (.const 3) (.ret 3)))),
  .scalar⟩

/-- bermuda/triangle.py:454  params: self, dev_lag_unit, <globals> -/
def f337 : Fn := ⟨"bermuda.triangle:Triangle.is_semi_regular", [0, 1, 2], [],
  (.seq (.seq (.seq (.seq (.const 14) (.seq (.ite (.seq (.load 14 0 .dyn) (.load 15 14 .dyn)) (.call 15 331 [0])) (.const 14))) (.seq (.ite (.seq (.const 14) (.ret 14)) .skip) (.seq (.ite (.seq (.load 14 0 .dyn) (.load 15 14 .dyn)) (.call 15 332 [0])) (.ite (.seq (.const 14) (.ret 14)) .skip)))) (.seq (.seq (.ite (.seq (.load 14 0 .dyn) (.load 15 14 .dyn)) (.call 15 344 [0])) (.seq (.const 14) (.load 14 15 .dyn))) (.seq (.seq (.load 15 14 .dyn) (.bind 8 15)) (.seq (.load 15 14 .dyn) (.bind 7 15))))) (.seq (.seq (.seq (.const 14) (.seq (.bind 6 14) (.const 14))) (.seq (.arith 14) (.seq (.ite (.seq (.ite .skip (.loop [.any, .any, .any, .scalar, .scalar, .scalar, .scalar, .any, .any, .scalar, .any, .any, .scalar, .scalar, (.lv .num), .any] (.block (.seq (.seq (.havoc 10) (.seq (.havoc 11) (.const 14))) (.seq (.seq (.const 14) (.arith 14)) (.seq (.call 15 58 [14, 11]) .brk)))))) (.const 9)) (.seq (.seq (.const 14) (.seq (.arith 14) (.const 15))) (.seq (.arith 15) (.seq (.ite (.bind 16 14) (.bind 16 15)) (.ite (.seq (.ite .skip (.loop [.any, .any, .any, .scalar, .scalar, .scalar, .scalar, .any, .any, .scalar, .scalar, .scalar, .any, .any, (.lv .num), (.lv .num), (.lv .num)] (.block (.seq (.seq (.havoc 12) (.havoc 13)) (.seq (.arith 14) .brk))))) (.const 9)) (.seq (.const 14) (.seq (.const 14) .raise))))))) (.havoc 14)))) (.seq (.seq (.bind 5 14) (.seq (.ite (.seq (.load 14 0 .dyn) (.load 15 14 .dyn)) (.call 15 344 [0])) (.const 14))) (.seq (.seq (.ite (.bind 14 15) (.alloc 14 (.sh 0) (.union [15]))) (.loop [.any, .any, .any, .any, .any, .any, .scalar, .any, .any, .scalar, .any, .any, .any, .any, .any, .any, .any] (.block (.seq (.seq (.seq (.load 15 14 .dyn) (.load 16 15 .dyn)) (.seq (.bind 4 16) (.load 16 15 .dyn))) (.seq (.seq (.bind 3 16) (.havoc 15)) (.seq (.arith 15) (.ite (.seq (.const 15) (.ret 15)) .skip))))))) (.seq (.const 14) (.ret 14)))))),
  .scalar⟩

/-- bermuda/triangle.py:447  params: self, <globals> -/
def f338 : Fn := ⟨"bermuda.triangle:Triangle.is_slicewise_disjoint", [0, 1], [],
  (.seq (.seq (.const 3) (.ite (.seq (.load 3 0 .dyn) (.load 4 3 .dyn)) (.call 4 350 [0]))) (.seq (.loop [.any, .any, .any, .any, .any, .any] (.block (.seq (.seq (.load 3 4 .dyn) (.bind 2 3)) (.seq (.ite (.seq (.load 3 2 .dyn) (.load 5 3 .dyn)) (.call 5 331 [2])) (.seq (.const 3) (.ite (.seq (.const 3) (.ret 3)) .skip)))))) (.seq (.const 3) (.ret 3)))),
  .scalar⟩

/-- bermuda/triangle.py:278  params: self, <globals> -/
def f339 : Fn := ⟨"bermuda.triangle:Triangle.metadata", [0, 1], [],
  (.seq (.seq (.seq (.const 3) (.alloc 3 (.sh 0) .dict)) (.seq (.load 4 0 .dyn) (.load 5 4 .dyn))) (.seq (.seq (.loop [.any, .any, .any, (.lv (.sh 0)), .any, .any, .any] (.seq (.seq (.load 4 5 .dyn) (.bind 2 4)) (.seq (.ite (.seq (.load 4 2 .dyn) (.load 6 4 .dyn)) (.call 6 339 [2])) (.store 3 .dyn 6)))) (.alloc 4 (.sh 0) (.union [3]))) (.seq (.alloc 3 (.sh 0) (.union [4])) (.ret 3)))),
  .any⟩

/-- bermuda/triangle.py:306  params: self, <globals> -/
def f340 : Fn := ⟨"bermuda.triangle:Triangle.metadata_differences", [0, 1], [],
  (.seq (.seq (.const 3) (.alloc 3 (.sh 1) .dict)) (.seq (.ite (.seq (.load 4 0 .dyn) (.load 5 4 .dyn)) (.call 5 339 [0])) (.seq (.loop [.any, .any, .any, (.lv (.sh 1)), .any, .any, .any] (.seq (.seq (.load 4 5 .dyn) (.bind 2 4)) (.seq (.ite (.seq (.load 4 0 .dyn) (.load 6 4 .dyn)) (.call 6 315 [0])) (.seq (.call 4 50 [6, 2]) (.store 3 .dyn 4))))) (.ret 3)))),
  .any⟩

/-- bermuda/triangle.py:312  params: self, <globals> -/
def f341 : Fn := ⟨"bermuda.triangle:Triangle.num_samples", [0, 1], [],
  (.seq (.seq (.seq (.const 6) (.const 6)) (.seq (.bind 2 6) (.seq (.load 6 0 .dyn) (.load 7 6 .dyn)))) (.seq (.seq (.loop [.any, .any, .any, .any, .any, .any, .any, .any, (.lv .num), .any, (.lv .num)] (.block (.seq (.seq (.load 6 7 .dyn) (.bind 5 6)) (.seq (.load 6 5 .dyn) (.loop [.any, .any, .any, .any, .any, .any, .any, .any, (.lv .num), .any, (.lv .num)] (.block (.seq (.seq (.seq (.load 8 6 .dyn) (.seq (.bind 4 8) (.const 8))) (.seq (.const 8) (.seq (.load 9 4 .dyn) (.load 10 9 .dyn)))) (.seq (.seq (.const 9) (.seq (.arith 9) (.ite (.bind 10 8) (.bind 10 9)))) (.seq (.seq (.ite (.seq (.load 8 4 .dyn) (.seq (.load 9 8 .dyn) (.bind 3 9))) (.seq (.const 8) (.bind 3 8))) (.const 8)) (.seq (.arith 8) (.ite (.seq (.const 8) (.seq (.arith 8) (.ite (.bind 2 3) (.seq (.arith 8) (.ite (.seq (.const 8) (.seq (.const 8) .raise)) .skip))))) .skip))))))))))) (.const 6)) (.seq (.arith 6) (.seq (.ite (.seq (.const 6) (.bind 7 6)) (.bind 7 2)) (.ret 7))))),
  .any⟩

/-- bermuda/triangle.py:288  params: self, <globals> -/
def f342 : Fn := ⟨"bermuda.triangle:Triangle.period_resolution", [0, 1], [],
  (.seq (.const 2) (.seq (.call 2 64 [0]) (.ret 2))),
  .any⟩

/-- bermuda/triangle.py:335  params: self, <globals> -/
def f343 : Fn := ⟨"bermuda.triangle:Triangle.period_rows", [0, 1], [],
  (.seq (.seq (.seq (.alloc 4 (.sh 1) .dict) (.seq (.const 7) (.ite .skip (.loop [.any, .any, .scalar, .scalar, (.lv (.sh 1)), .any, .scalar, .any, .any] (.block (.seq (.havoc 5) (.ite (.seq (.load 7 5 .dyn) (.load 8 7 .dyn)) (.call 8 27 [5])))))))) (.seq (.const 7) (.seq (.load 7 0 .dyn) (.load 8 7 .dyn)))) (.seq (.seq (.alloc 7 (.sh 1) .dict) (.seq (.loop [.any, .any, .scalar, .scalar, (.lv (.sh 1)), .any, .scalar, (.lv (.sh 1)), .any, (.lv (.sh 0))] (.seq (.alloc 9 (.sh 0) (.union [8])) (.store 7 .dyn 9))) (.bind 3 7))) (.seq (.ite (.seq (.load 7 0 .dyn) (.load 8 7 .dyn)) (.call 8 344 [0])) (.seq (.loop [.any, .any, .any, (.lv (.sh 1)), (.lv (.sh 1)), .any, .any, .any, .any, (.lv (.sh 0)), .any, .any] (.block (.seq (.seq (.seq (.load 7 8 .dyn) (.bind 2 7)) (.seq (.load 7 3 .dyn) (.ite .skip (.loop [.any, .any, .any, (.lv (.sh 1)), (.lv (.sh 1)), .any, .any, (.lv (.sh 0)), .any, (.lv (.sh 0)), .any, .any] (.block (.seq (.seq (.havoc 6) (.ite (.seq (.load 9 6 .dyn) (.load 10 9 .dyn)) (.call 10 339 [6]))) (.seq (.ite (.seq (.load 9 6 .dyn) (.load 11 9 .dyn)) (.call 11 320 [6])) (.alloc 9 (.sh 0) (.lit [("", 10), ("", 11)]))))))))) (.seq (.seq (.const 9) (.alloc 9 (.sh 0) (.union [7]))) (.seq (.alloc 7 (.sh 0) (.lit [("", 2), ("", 9)])) (.seq (.store 4 .dyn 7) (.havoc 7))))))) (.ret 4))))),
  (.lv (.sh 1))⟩

/-- bermuda/triangle.py:355  params: self, <globals> -/
def f344 : Fn := ⟨"bermuda.triangle:Triangle.periods", [0, 1], [],
  (.seq (.seq (.const 3) (.seq (.alloc 3 (.sh 0) .dict) (.load 4 0 .dyn))) (.seq (.seq (.load 5 4 .dyn) (.loop [.any, .any, .any, (.lv (.sh 0)), .any, .any, .any] (.seq (.seq (.load 4 5 .dyn) (.bind 2 4)) (.seq (.ite (.seq (.load 4 2 .dyn) (.load 6 4 .dyn)) (.call 6 27 [2])) (.store 3 .dyn 6))))) (.seq (.alloc 4 (.sh 0) (.union [3])) (.ret 4)))),
  .any⟩

/-- bermuda/triangle.py:576  params: self, <globals> -/
def f345 : Fn := ⟨"bermuda.triangle:Triangle.remove_static_details", [0, 1], [],
  (.seq (.seq (.seq (.seq (.const 10) (.ite (.seq (.load 10 0 .dyn) (.load 11 10 .dyn)) (.call 11 332 [0]))) (.seq (.ite (.seq (.const 10) (.ret 10)) .skip) (.ite (.seq (.load 10 0 .dyn) (.load 11 10 .dyn)) (.call 11 315 [0])))) (.seq (.seq (.load 10 11 .dyn) (.load 11 10 .dyn)) (.seq (.alloc 10 (.sh 0) (.union [11])) (.seq (.bind 3 10) (.ite (.seq (.load 10 0 .dyn) (.load 11 10 .dyn)) (.call 11 315 [0])))))) (.seq (.seq (.seq (.load 10 11 .dyn) (.load 11 10 .dyn)) (.seq (.alloc 10 (.sh 0) (.union [11])) (.seq (.bind 2 10) (.ite .skip (.loop [.any, .any, (.lv (.sh 0)), (.lv (.sh 0)), .any, .any, .any, .scalar, .scalar, .scalar, (.lv (.sh 0)), .any, .any] (.block (.seq (.seq (.havoc 4) (.alloc 10 (.sh 0) .dict)) (.seq (.load 11 4 .dyn) (.seq (.load 12 11 .dyn) (.loop [.any, .any, (.lv (.sh 0)), (.lv (.sh 0)), .any, .any, .any, .scalar, .scalar, .scalar, (.lv (.sh 0)), .any, .any] (.seq (.seq (.havoc 11) (.seq (.bind 5 11) (.load 11 12 .dyn))) (.seq (.bind 6 11) (.seq (.arith 11) (.ite .skip (.store 10 .dyn 6))))))))))))))) (.seq (.seq (.const 10) (.ite .skip (.loop [.any, .any, (.lv (.sh 0)), (.lv (.sh 0)), .any, .any, .any, .any, .any, .any, .scalar, .any, .any, .any] (.block (.seq (.seq (.havoc 7) (.alloc 11 (.sh 0) .dict)) (.seq (.load 12 7 .dyn) (.seq (.load 13 12 .dyn) (.loop [.any, .any, (.lv (.sh 0)), (.lv (.sh 0)), .any, .any, .any, .any, .any, .any, .scalar, (.lv (.sh 0)), .any, .any] (.seq (.seq (.havoc 12) (.seq (.bind 8 12) (.load 12 13 .dyn))) (.seq (.bind 9 12) (.seq (.arith 12) (.ite .skip (.store 11 .dyn 9))))))))))))) (.seq (.const 11) (.seq (.ite (.call 12 25 [0, 10, 11]) (.call 12 317 [0, 10, 11])) (.ret 12)))))),
  .any⟩

/-- bermuda/triangle.py:562  params: self, definitions, <globals> -/
def f346 : Fn := ⟨"bermuda.triangle:Triangle.replace", [0, 1, 2], [],
  (.seq (.seq (.seq (.const 4) (.ite .skip (.loop [.any, .any, .any, .any, .any, .any] (.block (.seq (.havoc 3) (.seq (.load 4 1 .dyn) (.ite (.call 5 29 [3, 4]) (.ite (.call 5 346 [3, 4]) (.const 5))))))))) (.seq (.const 4) (.seq (.ite (.seq (.load 4 0 .dyn) (.load 5 4 .dyn)) (.call 5 313 [0])) (.alloc 4 (.sh 0) .dict)))) (.seq (.seq (.havoc 5) (.store 4 .dyn 5)) (.seq (.alloc 5 (.sh 0) (.union [4])) (.seq (.call 4 307 [5]) (.ret 4))))),
  (.lv (.sh 2))⟩

/-- bermuda/triangle.py:674  params: self, <globals> -/
def f347 : Fn := ⟨"bermuda.triangle:Triangle.right_edge", [0, 1], [],
  (.seq (.seq (.const 6) (.seq (.alloc 6 (.sh 0) .dict) (.bind 5 6))) (.seq (.seq (.ite (.seq (.load 6 0 .dyn) (.load 7 6 .dyn)) (.call 7 350 [0])) (.loop [.any, .any, .any, .any, .any, (.lv (.sh 0)), .any, .any, .any, .any] (.block (.seq (.seq (.load 6 7 .dyn) (.bind 4 6)) (.seq (.ite (.seq (.load 6 4 .dyn) (.load 8 6 .dyn)) (.call 8 343 [4])) (.loop [.any, .any, .any, .any, .any, (.lv (.sh 0)), .any, .any, .any, .any] (.block (.seq (.seq (.seq (.load 6 8 .dyn) (.load 9 6 .dyn)) (.seq (.bind 3 9) (.seq (.load 9 6 .dyn) (.bind 2 9)))) (.seq (.seq (.const 6) (.arith 6)) (.seq (.load 6 2 .dyn) (.seq (.store 5 .dyn 6) (.const 6)))))))))))) (.seq (.call 6 307 [5]) (.ret 6)))),
  (.lv (.sh 2))⟩

/-- bermuda/triangle.py:603  params: self, keys, <globals> -/
def f348 : Fn := ⟨"bermuda.triangle:Triangle.select", [0, 1, 2], [],
  (.seq (.seq (.seq (.const 4) (.ite .skip (.loop [.any, .any, .any, .any, .any] (.block (.seq (.havoc 3) (.ite (.call 4 30 [3, 1]) (.call 4 348 [3, 1]))))))) (.seq (.const 4) (.seq (.ite (.seq (.load 4 0 .dyn) (.load 5 4 .dyn)) (.call 5 313 [0])) (.alloc 4 (.sh 0) .dict)))) (.seq (.seq (.havoc 5) (.store 4 .dyn 5)) (.seq (.alloc 5 (.sh 0) (.union [4])) (.seq (.call 4 307 [5]) (.ret 4))))),
  (.lv (.sh 2))⟩

/-- bermuda/triangle.py:348  params: self, <globals> -/
def f349 : Fn := ⟨"bermuda.triangle:Triangle.slice_period_rows", [0, 1], [],
  (.seq (.seq (.seq (.alloc 5 (.sh 1) .dict) (.const 8)) (.seq (.ite .skip (.loop [.any, .any, .scalar, .scalar, .scalar, (.lv (.sh 1)), .any, .scalar, (.lv (.sh 0)), .any, .any] (.block (.seq (.seq (.havoc 6) (.ite (.seq (.load 8 6 .dyn) (.load 9 8 .dyn)) (.call 9 339 [6]))) (.seq (.ite (.seq (.load 8 6 .dyn) (.load 10 8 .dyn)) (.call 10 27 [6])) (.alloc 8 (.sh 0) (.lit [("", 9), ("", 10)]))))))) (.seq (.const 8) (.load 8 0 .dyn)))) (.seq (.seq (.load 9 8 .dyn) (.seq (.alloc 8 (.sh 1) .dict) (.loop [.any, .any, .scalar, .scalar, .scalar, (.lv (.sh 1)), .any, .scalar, (.lv (.sh 1)), .any, .any] (.seq (.alloc 10 (.sh 0) (.union [9])) (.store 8 .dyn 10))))) (.seq (.bind 4 8) (.seq (.loop [.any, .any, (.lv (.sh 0)), .any, (.lv (.sh 1)), (.lv (.sh 1)), .any, .any, .any, .any, .any] (.block (.seq (.seq (.seq (.havoc 8) (.bind 3 8)) (.seq (.load 8 4 .dyn) (.seq (.bind 2 8) (.ite .skip (.loop [.any, .any, (.lv (.sh 0)), .any, (.lv (.sh 1)), (.lv (.sh 1)), .any, .any, .any, .any, .any] (.block (.seq (.havoc 7) (.ite (.seq (.load 8 7 .dyn) (.load 9 8 .dyn)) (.call 9 320 [7]))))))))) (.seq (.seq (.const 8) (.alloc 8 (.sh 0) (.union [2]))) (.seq (.alloc 9 (.sh 0) (.lit [("", 3), ("", 8)])) (.seq (.store 5 .dyn 9) (.havoc 8))))))) (.ret 5))))),
  (.lv (.sh 1))⟩

/-- bermuda/triangle.py:272  params: self, <globals> -/
def f350 : Fn := ⟨"bermuda.triangle:Triangle.slices", [0, 1], [],
  (.seq (.seq (.seq (.const 3) (.ite .skip (.loop [.any, .any, .any, .any, .any] (.block (.seq (.havoc 2) (.ite (.seq (.load 3 2 .dyn) (.load 4 3 .dyn)) (.call 4 339 [2]))))))) (.seq (.const 3) (.seq (.load 3 0 .dyn) (.load 4 3 .dyn)))) (.seq (.seq (.alloc 3 (.sh 1) .dict) (.seq (.loop [.any, .any, .any, (.lv (.sh 1)), .any, (.lv (.sh 0))] (.seq (.alloc 5 (.sh 0) (.union [4])) (.store 3 .dyn 5))) (.alloc 3 (.sh 0) .dict))) (.seq (.havoc 4) (.seq (.store 3 .dyn 4) (.ret 3))))),
  (.lv (.sh 0))⟩

/-- bermuda/triangle.py:667  params: self, dev_lag_unit, <globals> -/
def f351 : Fn := ⟨"bermuda.triangle:Triangle.to_data_frame", [0, 1, 2], [],
  (.seq (.seq (.seq (.const 4) (.seq (.alloc 4 (.sh 1) .dict) (.load 5 0 .dyn))) (.seq (.load 6 5 .dyn) (.seq (.loop [.any, .any, .any, .any, (.lv (.sh 1)), .any, .any] (.seq (.seq (.load 5 6 .dyn) (.bind 3 5)) (.seq (.ite (.call 5 31 [3, 1]) (.call 5 42 [3, 1])) (.store 4 .dyn 5)))) (.alloc 4 (.sh 0) .dict)))) (.seq (.seq (.havoc 5) (.seq (.store 4 .dyn 5) (.const 4))) (.seq (.seq (.alloc 4 (.sh 0) .dict) (.havoc 5)) (.seq (.store 4 .dyn 5) (.ret 4))))),
  (.lv (.sh 0))⟩

/-- bermuda/triangle.py:701  params: self, index, <globals> -/
def f352 : Fn := ⟨"bermuda.triangle:TriangleSlice.__getitem__", [0, 1, 2], [],
  (.seq (.seq (.seq (.seq (.seq (.const 13) (.const 13)) (.seq (.const 13) (.ite (.seq (.seq (.load 13 0 .dyn) (.load 14 13 .dyn)) (.seq (.load 13 14 .dyn) (.ret 13))) .skip))) (.seq (.seq (.const 13) (.const 13)) (.seq (.ite (.seq (.seq (.load 13 0 .dyn) (.load 14 13 .dyn)) (.seq (.load 13 14 .dyn) (.seq (.call 14 353 [13]) (.ret 14)))) .skip) (.seq (.const 13) (.const 13))))) (.seq (.seq (.seq (.arith 13) (.ite (.seq (.seq (.load 13 1 .dyn) (.bind 10 13)) (.seq (.load 13 1 .dyn) (.bind 9 13))) (.seq (.const 13) (.seq (.const 13) .raise)))) (.seq (.const 13) (.const 13))) (.seq (.seq (.ite (.seq (.seq (.load 13 10 .dyn) (.seq (.load 14 13 .dyn) (.bind 8 14))) (.seq (.load 13 10 .dyn) (.seq (.load 14 13 .dyn) (.bind 7 14)))) (.seq (.const 13) (.seq (.const 13) (.ite (.seq (.seq (.alloc 13 (.sh 0) (.lit [("", 10), ("", 10)])) (.load 14 13 .dyn)) (.seq (.bind 8 14) (.seq (.load 14 13 .dyn) (.bind 7 14)))) (.seq (.const 13) (.seq (.const 13) .raise)))))) (.const 13)) (.seq (.ite (.seq (.const 13) (.bind 8 13)) .skip) (.seq (.const 13) (.ite (.seq (.const 13) (.bind 7 13)) .skip)))))) (.seq (.seq (.seq (.seq (.ite .skip (.loop [.any, .any, .any, .scalar, .scalar, .scalar, .scalar, .any, .any, .any, .any, .any, .scalar, (.lv .num), .any] (.block (.seq (.seq (.havoc 11) (.load 13 11 .dyn)) (.seq (.load 14 13 .dyn) (.arith 13)))))) (.const 13)) (.seq (.call 14 327 [0, 13]) (.bind 6 14))) (.seq (.seq (.const 13) (.const 13)) (.seq (.ite (.seq (.seq (.load 13 9 .dyn) (.seq (.load 14 13 .dyn) (.bind 5 14))) (.seq (.load 13 9 .dyn) (.seq (.load 14 13 .dyn) (.bind 4 14)))) (.seq (.const 13) (.seq (.const 13) (.ite (.seq (.seq (.alloc 13 (.sh 0) (.lit [("", 9), ("", 9)])) (.load 14 13 .dyn)) (.seq (.bind 5 14) (.seq (.load 14 13 .dyn) (.bind 4 14)))) (.seq (.const 13) (.seq (.const 13) .raise)))))) (.seq (.call 13 314 [6, 5, 4]) (.bind 3 13))))) (.seq (.seq (.seq (.alloc 13 .nums .dict) (.loop [.any, .any, .any, (.lv (.sh 2)), .any, .any, (.lv (.sh 2)), .any, .any, .any, .any, .any, .any, (.lv .nums), .any] (.seq (.seq (.load 14 1 .dyn) (.bind 12 14)) (.seq (.const 14) (.seq (.const 14) (.store 13 .dyn 14)))))) (.seq (.const 13) (.ite (.seq (.ite (.seq (.load 13 3 .dyn) (.load 14 13 .dyn)) (.call 14 313 [3])) (.seq (.call 13 353 [14]) (.ret 13))) .skip))) (.seq (.seq (.load 13 3 .dyn) (.load 14 13 .dyn)) (.seq (.const 13) (.seq (.load 13 14 .dyn) (.ret 13))))))),
  .any⟩

/-- bermuda/triangle.py:696  params: cells, <globals> -/
def f353 : Fn := ⟨"bermuda.triangle:TriangleSlice.__init__", [1, 2], [],
  (.seq (.seq (.seq (.alloc 0 (.sh 2) .dict) (.call 3 307 [1])) (.seq (.merge 0 3) (.ite (.seq (.load 3 0 .dyn) (.load 4 3 .dyn)) (.call 4 350 [0])))) (.seq (.seq (.const 3) (.const 3)) (.seq (.arith 3) (.seq (.ite (.seq (.const 3) (.seq (.const 3) .raise)) .skip) (.ret 0))))),
  (.lv (.sh 2))⟩

/-- bermuda/triangle.py:761  params: data, <globals> -/
def f354 : Fn := ⟨"bermuda.triangle:strip_html_tags", [0, 1], [],
  (.seq (.seq (.const 3) (.seq (.const 3) (.bind 2 3))) (.seq (.const 3) (.seq (.const 3) (.ret 3)))),
  .scalar⟩

/-- bermuda/utils/adjust.py:351  params: cell, last_date_start, decay_factor, weighting_basis, <globals> -/
def f355 : Fn := ⟨"bermuda.utils.adjust:_cell_weight", [0, 1, 2, 3, 4], [],
  (.seq (.seq (.seq (.const 8) (.seq (.arith 8) (.ite (.seq (.ite (.seq (.load 8 0 .dyn) (.load 9 8 .dyn)) (.call 9 320 [0])) (.bind 8 9)) (.seq (.load 9 0 .dyn) (.seq (.load 10 9 .dyn) (.bind 8 10)))))) (.seq (.bind 7 8) (.seq (.call 8 63 [1]) (.call 8 63 [7])))) (.seq (.seq (.arith 8) (.seq (.bind 6 8) (.const 8))) (.seq (.seq (.arith 8) (.bind 5 8)) (.seq (.arith 8) (.ret 8))))),
  (.lv .num)⟩

/-- bermuda/utils/adjust.py:360  params: cell, last_date_start, decay_factor, fields, weighting_basis, <globals> -/
def f356 : Fn := ⟨"bermuda.utils.adjust:_reweight_cell", [0, 1, 2, 3, 4, 5], [],
  (.seq (.seq (.call 9 355 [0, 1, 2, 4]) (.bind 7 9)) (.seq (.loop [.any, .any, .any, .any, .any, .any, .scalar, (.lv .num), .any, .any, (.lv .num)] (.block (.seq (.seq (.seq (.const 9) (.bind 6 9)) (.seq (.alloc 9 .nums .dict) (.ite .skip (.loop [.any, .any, .any, .any, .any, .any, .scalar, (.lv .num), .any, (.lv .nums), (.lv .num)] (.block (.seq (.havoc 8) (.seq (.load 10 8 .dyn) (.arith 10)))))))) (.seq (.seq (.const 10) (.store 9 .dyn 10)) (.seq (.load 10 9 .dyn) (.seq (.ite (.call 9 24 [0, 10]) (.call 9 316 [0, 10])) (.bind 0 9))))))) (.ret 0))),
  .any⟩

/-- bermuda/utils/adjust.py:224  params: triangle, method, <globals> -/
def f357 : Fn := ⟨"bermuda.utils.adjust:_sev_trend_from_hist_tri", [0, 1, 2], [],
  (.seq (.seq (.seq (.seq (.const 1) (.const 16)) (.seq (.const 17) (.alloc 18 .nums (.lit [("", 16), ("", 17)])))) (.seq (.seq (.arith 16) (.ite (.seq (.const 16) (.seq (.const 16) .raise)) .skip)) (.seq (.ite .skip (.loop [.any, .scalar, .any, .scalar, .scalar, .scalar, .scalar, .scalar, .any, (.lv .num), .any, (.lv (.sh 2)), .any, .scalar, .scalar, .scalar, (.lv .num), (.lv .num), .any, .any] (.block (.seq (.seq (.seq (.seq (.havoc 8) (.ite .skip (.loop [.any, .scalar, .any, .scalar, .scalar, .scalar, .scalar, .scalar, .any, (.lv .num), .any, (.lv (.sh 2)), .any, .scalar, .scalar, .scalar, (.lv .num), (.lv .num), .any, .any] (.block (.seq (.seq (.seq (.havoc 12) (.call 16 26 [12])) (.seq (.call 16 26 [8]) (.arith 16))) (.seq (.seq (.ite (.seq (.load 17 12 .dyn) (.load 18 17 .dyn)) (.call 18 27 [12])) (.ite (.seq (.load 17 8 .dyn) (.load 18 17 .dyn)) (.call 18 27 [8]))) (.seq (.arith 17) (.ite (.bind 18 16) (.bind 18 17))))))))) (.seq (.const 16) (.call 17 327 [0, 16]))) (.seq (.seq (.bind 11 17) (.const 16)) (.seq (.ite (.seq (.const 16) (.seq (.load 16 11 .dyn) (.bind 17 16))) (.seq (.seq (.alloc 16 .nums .dict) (.const 18)) (.seq (.const 18) (.seq (.store 16 .dyn 18) (.bind 17 16))))) (.seq (.bind 10 17) (.const 16))))) (.seq (.seq (.seq (.const 16) (.arith 16)) (.seq (.ite (.seq (.const 16) (.bind 17 16)) (.seq (.seq (.load 16 8 .dyn) (.seq (.load 18 16 .dyn) (.load 16 10 .dyn))) (.seq (.load 19 16 .dyn) (.seq (.call 16 58 [18, 19]) (.bind 17 16))))) (.bind 9 17))) (.seq (.seq (.const 16) (.load 16 10 .dyn)) (.seq (.arith 16) (.seq (.ite (.seq (.const 16) (.bind 17 16)) (.seq (.seq (.seq (.const 16) (.load 16 10 .dyn)) (.seq (.const 16) (.seq (.load 16 8 .dyn) (.arith 16)))) (.seq (.seq (.const 16) (.seq (.arith 16) (.arith 16))) (.seq (.const 16) (.seq (.arith 16) (.bind 17 16)))))) .brk)))))))) (.const 7)))) (.seq (.seq (.seq (.ite (.call 16 24 [0, 7]) (.call 16 316 [0, 7])) (.ite .skip (.loop [.any, .scalar, .any, .scalar, .scalar, .scalar, .scalar, .scalar, .any, (.lv .num), .any, (.lv (.sh 2)), .any, .any, .scalar, .scalar, .any, (.lv .num), .any, .any] (.block (.seq (.seq (.havoc 13) (.const 17)) (.seq (.load 17 13 .dyn) (.seq (.arith 17) (.const 17)))))))) (.seq (.const 17) (.call 18 327 [16, 17]))) (.seq (.seq (.bind 3 18) (.const 16)) (.seq (.arith 16) (.ite (.seq (.seq (.alloc 16 (.sh 1) .dict) (.loop [.any, .scalar, .any, (.lv (.sh 2)), .scalar, .scalar, .scalar, .scalar, .any, (.lv .num), .any, (.lv (.sh 2)), .any, .any, (.lv (.sh 1)), .scalar, (.lv (.sh 1)), (.lv (.sh 0)), (.lv (.sh 2)), .any] (.seq (.seq (.load 17 3 .dyn) (.bind 14 17)) (.seq (.const 17) (.seq (.load 17 14 .dyn) (.store 16 .dyn 17)))))) (.seq (.arith 16) (.ret 16))) (.seq (.const 16) (.seq (.arith 16) (.ite (.seq (.seq (.alloc 16 (.sh 0) .dict) (.ite (.seq (.load 17 3 .dyn) (.load 18 17 .dyn)) (.call 18 347 [3]))) (.seq (.loop [.any, .scalar, .any, (.lv (.sh 2)), .scalar, .scalar, .scalar, .scalar, .any, (.lv .num), .any, (.lv (.sh 2)), .any, .any, .scalar, .any, (.lv (.sh 0)), .any, .any, .any] (.seq (.seq (.load 17 18 .dyn) (.bind 15 17)) (.seq (.const 17) (.seq (.load 17 15 .dyn) (.store 16 .dyn 17))))) (.seq (.arith 16) (.ret 16)))) .skip)))))))),
  (.lv .num)⟩

/-- bermuda/utils/adjust.py:18  params: triangle, triangle_ult_claim_counts, <globals> -/
def f358 : Fn := ⟨"bermuda.utils.adjust:paid_bs_adjustment", [0, 1, 2], [],
  (.seq (.seq (.seq (.seq (.const 25) (.seq (.ite (.seq (.load 25 1 .dyn) (.load 26 25 .dyn)) (.call 26 347 [1])) (.bind 11 26))) (.seq (.ite (.seq (.load 25 0 .dyn) (.load 26 25 .dyn)) (.call 26 333 [0])) (.seq (.ite (.seq (.ite (.call 25 372 [0]) (.bind 25 0)) (.bind 0 25)) .skip) (.const 25)))) (.seq (.seq (.call 26 413 [0, 11, 25]) (.seq (.ite .skip (.loop [.any, .any, .any, .scalar, .scalar, .scalar, .scalar, .scalar, .scalar, .scalar, .scalar, .any, .scalar, .scalar, .any, .scalar, .scalar, .scalar, .scalar, .scalar, .scalar, .scalar, .scalar, .scalar, .scalar, (.lv .num), (.lv (.sh 2))] (.block (.seq (.seq (.havoc 14) (.seq (.const 25) (.load 25 14 .dyn))) (.seq (.seq (.const 25) (.load 25 14 .dyn)) (.seq (.arith 25) (.arith 25))))))) (.const 25))) (.seq (.seq (.ite (.call 27 24 [26, 25]) (.call 27 316 [26, 25])) (.ite (.seq (.load 25 0 .dyn) (.load 26 25 .dyn)) (.call 26 326 [0]))) (.seq (.alloc 25 (.sh 0) (.union [26])) (.const 26))))) (.seq (.seq (.seq (.alloc 28 .nums (.lit [("", 26)])) (.seq (.ite (.arith 26) (.alloc 26 (.sh 0) (.union [25, 28]))) (.ite (.call 25 30 [27, 26]) (.call 25 348 [27, 26])))) (.seq (.seq (.bind 10 25) (.ite .skip (.loop [.any, .any, .any, .scalar, .scalar, .scalar, .scalar, .scalar, .scalar, .scalar, .any, .any, .scalar, .scalar, .any, .any, .any, .scalar, .scalar, .scalar, .scalar, .scalar, .scalar, .scalar, .scalar, .any, .any, .any, (.lv .nums)] (.block (.seq (.seq (.seq (.havoc 15) (.ite .skip (.loop [.any, .any, .any, .scalar, .scalar, .scalar, .scalar, .scalar, .scalar, .scalar, .any, .any, .scalar, .scalar, .any, .any, .any, .scalar, .scalar, .scalar, .scalar, .scalar, .scalar, .scalar, .scalar, .any, .any, .any, (.lv .nums)] (.block (.seq (.seq (.seq (.havoc 16) (.call 25 26 [16])) (.seq (.call 25 26 [15]) (.arith 25))) (.seq (.seq (.ite (.seq (.load 26 16 .dyn) (.load 27 26 .dyn)) (.call 27 339 [16])) (.ite (.seq (.load 26 15 .dyn) (.load 27 26 .dyn)) (.call 27 339 [15]))) (.seq (.arith 26) (.ite (.bind 27 25) (.bind 27 26))))))))) (.seq (.const 25) (.call 26 327 [10, 25]))) (.seq (.seq (.const 25) (.arith 25)) (.seq (.load 25 26 .dyn) .brk))))))) (.seq (.const 12) (.alloc 25 (.sh 0) .dict)))) (.seq (.seq (.ite (.seq (.load 26 10 .dyn) (.load 27 26 .dyn)) (.call 27 347 [10])) (.seq (.loop [.any, .any, .any, .scalar, .scalar, .scalar, .scalar, .scalar, .scalar, .scalar, .any, .any, .scalar, .scalar, .any, .any, .any, .any, .scalar, .scalar, .scalar, .scalar, .scalar, .scalar, .scalar, (.lv (.sh 0)), .any, .any, .any, .any] (.seq (.seq (.seq (.load 26 27 .dyn) (.bind 17 26)) (.seq (.call 26 26 [17]) (.ite (.seq (.load 28 17 .dyn) (.load 29 28 .dyn)) (.call 29 339 [17])))) (.seq (.seq (.alloc 28 (.sh 0) (.lit [("", 26), ("", 29)])) (.const 26)) (.seq (.load 26 17 .dyn) (.store 25 .dyn 26))))) (.bind 9 25))) (.seq (.seq (.ite .skip (.loop [.any, .any, .any, .scalar, .scalar, .scalar, .scalar, .scalar, .scalar, (.lv (.sh 0)), .any, .any, .scalar, .scalar, .any, .any, .any, .any, .any, .any, .any, .any, .any, .scalar, .any, .any, .any, .any, .any, .any] (.block (.seq (.seq (.seq (.havoc 18) (.«try» (.seq (.seq (.call 25 26 [18]) (.ite (.seq (.load 25 18 .dyn) (.load 26 25 .dyn)) (.call 26 339 [18]))) (.seq (.load 25 9 .dyn) (.bind 24 25))) (.seq (.seq (.const 25) (.havoc 25)) (.seq (.const 26) (.seq (.load 26 25 .dyn) (.bind 24 26)))))) (.seq (.ite (.seq (.load 25 10 .dyn) (.load 26 25 .dyn)) (.call 26 313 [10])) (.const 25))) (.seq (.seq (.bind 23 25) (.const 25)) (.seq (.load 25 18 .dyn) (.seq (.arith 25) (.ite (.seq (.const 25) (.seq (.load 25 18 .dyn) .brk)) (.seq (.seq (.const 25) (.load 25 18 .dyn)) (.seq (.arith 25) (.ite (.seq (.seq (.seq (.seq (.const 25) (.seq (.arith 25) (.const 26))) (.seq (.arith 26) (.seq (.load 26 10 .dyn) (.ite (.seq (.load 27 26 .dyn) (.load 28 27 .dyn)) (.call 28 339 [26]))))) (.seq (.seq (.ite (.seq (.load 26 18 .dyn) (.load 27 26 .dyn)) (.call 27 339 [18])) (.seq (.arith 26) (.ite (.bind 27 25) (.bind 27 26)))) (.seq (.ite (.seq (.seq (.const 25) (.arith 25)) (.seq (.load 25 10 .dyn) (.bind 26 25))) (.seq (.seq (.alloc 25 .nums .dict) (.const 27)) (.seq (.const 27) (.seq (.store 25 .dyn 27) (.bind 26 25))))) (.seq (.bind 22 26) (.const 25))))) (.seq (.seq (.seq (.const 25) (.seq (.arith 25) (.ite (.seq (.const 25) (.bind 21 25)) (.«try» (.seq (.seq (.call 25 26 [22]) (.ite (.seq (.load 25 22 .dyn) (.load 26 25 .dyn)) (.call 26 339 [22]))) (.seq (.load 25 9 .dyn) (.bind 21 25))) (.seq (.seq (.const 25) (.havoc 25)) (.seq (.const 26) (.seq (.load 26 25 .dyn) (.bind 21 26)))))))) (.seq (.const 25) (.seq (.load 25 18 .dyn) (.alloc 26 (.sh 0) (.lit [("", 21), ("", 25)]))))) (.seq (.seq (.const 25) (.seq (.load 25 22 .dyn) (.const 26))) (.seq (.seq (.load 26 18 .dyn) (.alloc 27 (.sh 0) (.lit [("", 25), ("", 26)]))) (.seq (.arith 25) .brk))))) (.seq (.seq (.seq (.seq (.const 25) (.seq (.const 25) (.arith 25))) (.seq (.arith 25) (.seq (.const 26) (.arith 26)))) (.seq (.seq (.load 26 10 .dyn) (.seq (.ite (.seq (.load 27 26 .dyn) (.load 28 27 .dyn)) (.call 28 339 [26])) (.ite (.seq (.load 26 18 .dyn) (.load 27 26 .dyn)) (.call 27 339 [18])))) (.seq (.arith 26) (.seq (.ite (.bind 27 25) (.bind 27 26)) (.ite (.seq (.seq (.const 25) (.arith 25)) (.seq (.load 25 10 .dyn) (.bind 26 25))) (.seq (.seq (.alloc 25 .nums .dict) (.const 27)) (.seq (.const 27) (.seq (.store 25 .dyn 27) (.bind 26 25))))))))) (.seq (.seq (.seq (.bind 20 26) (.seq (.«try» (.seq (.seq (.call 25 26 [20]) (.ite (.seq (.load 25 20 .dyn) (.load 26 25 .dyn)) (.call 26 339 [20]))) (.seq (.load 25 9 .dyn) (.bind 19 25))) (.seq (.seq (.const 25) (.havoc 25)) (.seq (.const 26) (.seq (.load 26 25 .dyn) (.bind 19 26))))) (.const 25))) (.seq (.load 25 18 .dyn) (.seq (.alloc 26 (.sh 0) (.lit [("", 25), ("", 19)])) (.const 25)))) (.seq (.seq (.load 25 18 .dyn) (.seq (.const 26) (.load 26 20 .dyn))) (.seq (.alloc 27 (.sh 0) (.lit [("", 25), ("", 26)])) (.seq (.arith 25) .brk)))))))))))))))) (.const 13)) (.seq (.ite (.call 25 24 [10, 13]) (.call 25 316 [10, 13])) (.ret 25)))))),
  .any⟩

/-- bermuda/utils/adjust.py:150  params: triangle, annual_severity_trend, sev_trend_method, <globals> -/
def f359 : Fn := ⟨"bermuda.utils.adjust:reported_bs_adjustment", [0, 1, 2, 3], [],
  (.seq (.seq (.seq (.seq (.const 1) (.seq (.const 2) (.const 15))) (.seq (.const 15) (.seq (.const 15) (.call 15 335 [0])))) (.seq (.seq (.const 15) (.seq (.ite (.seq (.load 16 0 .dyn) (.load 17 16 .dyn)) (.call 17 322 [0])) (.const 16))) (.seq (.seq (.ite (.bind 17 15) (.bind 17 16)) (.ite (.seq (.const 15) (.seq (.const 15) .raise)) .skip)) (.seq (.ite (.seq (.load 15 0 .dyn) (.load 16 15 .dyn)) (.call 16 333 [0])) (.ite (.seq (.ite (.call 15 372 [0]) (.bind 15 0)) (.bind 0 15)) .skip))))) (.seq (.seq (.seq (.ite .skip (.loop [.any, .scalar, .scalar, .any, .scalar, .scalar, .scalar, .scalar, .any, .scalar, .scalar, .scalar, .scalar, .scalar, .scalar, .any, .any] (.block (.seq (.seq (.seq (.havoc 8) (.const 15)) (.seq (.load 15 8 .dyn) (.const 15))) (.seq (.seq (.load 15 8 .dyn) (.arith 15)) (.seq (.const 15) (.seq (.load 15 8 .dyn) (.arith 15)))))))) (.seq (.const 15) (.ite .skip (.loop [.any, .scalar, .scalar, .any, .scalar, .scalar, .scalar, .scalar, .any, .any, .scalar, .scalar, .scalar, .scalar, .scalar, .scalar, .any] (.block (.seq (.seq (.havoc 9) (.seq (.const 16) (.load 16 9 .dyn))) (.seq (.const 16) (.seq (.load 16 9 .dyn) (.arith 16))))))))) (.seq (.const 16) (.seq (.ite (.call 17 24 [0, 15, 16]) (.call 17 316 [0, 15, 16])) (.bind 6 17)))) (.seq (.seq (.ite (.seq (.call 15 357 [6, 2]) (.bind 1 15)) .skip) (.seq (.ite .skip (.loop [.any, (.lv .num), .scalar, .any, .scalar, .scalar, .any, .scalar, .any, .any, .any, (.lv .num), (.lv (.sh 1)), .any, .scalar, (.lv .num), .any, .any, (.lv .num)] (.block (.seq (.seq (.seq (.seq (.havoc 10) (.seq (.ite (.seq (.load 15 6 .dyn) (.load 16 15 .dyn)) (.call 16 347 [6])) (.ite .skip (.loop [.any, (.lv .num), .scalar, .any, .scalar, .scalar, .any, .scalar, .any, .any, .any, (.lv .num), (.lv (.sh 1)), .any, .scalar, .any, .any, .any, (.lv .num)] (.block (.seq (.seq (.seq (.havoc 13) (.call 15 26 [13])) (.seq (.call 15 26 [10]) (.arith 15))) (.seq (.seq (.ite (.seq (.load 17 13 .dyn) (.load 18 17 .dyn)) (.call 18 339 [13])) (.ite (.seq (.load 17 10 .dyn) (.load 18 17 .dyn)) (.call 18 339 [10]))) (.seq (.arith 17) (.ite (.bind 18 15) (.bind 18 17)))))))))) (.seq (.const 15) (.seq (.call 17 327 [16, 15]) (.const 15)))) (.seq (.seq (.arith 15) (.seq (.load 15 17 .dyn) (.bind 12 15))) (.seq (.load 15 10 .dyn) (.seq (.load 16 15 .dyn) (.load 15 12 .dyn))))) (.seq (.seq (.seq (.load 17 15 .dyn) (.seq (.call 15 58 [16, 17]) (.bind 11 15))) (.seq (.const 15) (.seq (.load 15 12 .dyn) (.const 15)))) (.seq (.seq (.arith 15) (.seq (.const 15) (.arith 15))) (.seq (.arith 15) (.seq (.arith 15) .brk)))))))) (.const 7))) (.seq (.seq (.ite .skip (.loop [.any, (.lv .num), .scalar, .any, .scalar, .scalar, .any, .scalar, .any, .any, .any, (.lv .num), (.lv (.sh 1)), .any, .any, (.lv .num), .any, .any, (.lv .num)] (.block (.seq (.seq (.seq (.havoc 14) (.const 15)) (.seq (.load 15 14 .dyn) (.const 15))) (.seq (.seq (.load 15 14 .dyn) (.arith 15)) (.seq (.const 16) (.seq (.load 16 14 .dyn) (.ite (.arith 17) (.alloc 17 (.sh 0) (.union [15, 16])))))))))) (.const 15)) (.seq (.ite (.call 16 24 [6, 7, 15]) (.call 16 316 [6, 7, 15])) (.ret 16)))))),
  .any⟩

/-- bermuda/utils/adjust.py:269  params: triangle, annual_decay_factor, basis, tri_fields, weight_as_field, <globals> -/
def f360 : Fn := ⟨"bermuda.utils.adjust:weight_geometric_decay", [0, 1, 2, 3, 4, 5], [],
  (.seq (.seq (.seq (.const 1) (.seq (.const 2) (.const 4))) (.seq (.seq (.const 11) (.const 11)) (.seq (.const 11) (.ite (.seq (.seq (.const 11) (.seq (.arith 11) (.const 12))) (.seq (.arith 12) (.seq (.ite (.bind 13 11) (.bind 13 12)) (.ite (.seq (.const 11) (.seq (.const 11) .raise)) .skip)))) .skip)))) (.seq (.seq (.seq (.const 11) (.arith 11)) (.seq (.ite (.seq (.ite (.seq (.load 11 0 .dyn) (.load 12 11 .dyn)) (.call 12 326 [0])) (.bind 3 12)) (.seq (.const 11) (.seq (.const 11) (.ite (.seq (.ite (.seq (.load 11 0 .dyn) (.load 12 11 .dyn)) (.call 12 326 [0])) (.seq (.arith 11) (.ite (.seq (.const 11) (.seq (.const 11) .raise)) (.seq (.alloc 11 (.sh 0) (.lit [("", 3)])) (.bind 3 11))))) (.seq (.const 11) (.seq (.const 11) (.ite (.seq (.seq (.alloc 11 (.sh 0) (.union [3])) (.seq (.ite (.seq (.load 11 0 .dyn) (.load 12 11 .dyn)) (.call 12 326 [0])) (.alloc 11 (.sh 0) (.union [12])))) (.seq (.const 11) (.seq (.const 11) (.ite (.seq (.const 11) (.seq (.const 11) .raise)) .skip)))) .skip))))))) (.const 11))) (.seq (.seq (.arith 11) (.ite (.seq (.seq (.ite (.seq (.load 11 0 .dyn) (.load 12 11 .dyn)) (.call 12 321 [0])) (.const 11)) (.seq (.arith 11) (.seq (.load 11 12 .dyn) (.bind 12 11)))) (.seq (.seq (.ite (.seq (.load 11 0 .dyn) (.load 13 11 .dyn)) (.call 13 344 [0])) (.seq (.const 11) (.arith 11))) (.seq (.seq (.load 11 13 .dyn) (.const 13)) (.seq (.load 13 11 .dyn) (.bind 12 13)))))) (.seq (.bind 8 12) (.ite (.seq (.seq (.ite .skip (.loop [.any, .scalar, .scalar, .any, .scalar, .any, .scalar, .scalar, .any, .any, .scalar, .any, .any, .any] (.block (.seq (.havoc 9) (.call 11 355 [9, 8, 1, 2]))))) (.const 11)) (.seq (.ite (.call 12 24 [0, 11]) (.call 12 316 [0, 11])) (.seq (.bind 7 12) (.ret 7)))) (.seq (.seq (.alloc 11 (.sh 0) .dict) (.seq (.ite (.seq (.load 12 0 .dyn) (.load 13 12 .dyn)) (.call 13 313 [0])) (.loop [.any, .scalar, .scalar, .any, .scalar, .any, .scalar, .scalar, .any, .scalar, .any, (.lv (.sh 0)), .any, .any] (.seq (.seq (.load 12 13 .dyn) (.bind 10 12)) (.seq (.call 12 356 [10, 8, 1, 3, 2]) (.store 11 .dyn 12)))))) (.seq (.call 12 307 [11]) (.seq (.bind 6 12) (.ret 6))))))))),
  .any⟩

/-- bermuda/utils/aggregate.py:84  params: triangle, eval_resolution, eval_origin, <globals> -/
def f361 : Fn := ⟨"bermuda.utils.aggregate:_aggregate_eval", [0, 1, 2, 3], [],
  (.seq (.seq (.seq (.seq (.const 10) (.seq (.arith 10) (.ite (.seq (.const 10) (.ret 10)) .skip))) (.seq (.seq (.call 10 66 [1]) (.bind 8 10)) (.seq (.ite (.seq (.load 10 0 .dyn) (.load 11 10 .dyn)) (.call 11 321 [0])) (.const 10)))) (.seq (.seq (.seq (.load 10 11 .dyn) (.bind 7 10)) (.seq (.ite (.seq (.load 10 0 .dyn) (.load 11 10 .dyn)) (.call 11 321 [0])) (.const 10))) (.seq (.seq (.arith 10) (.load 10 11 .dyn)) (.seq (.bind 6 10) (.bind 4 2))))) (.seq (.seq (.seq (.seq (.loop [.any, .any, .any, .any, .any, .scalar, .any, .any, (.lv .nums), .scalar, .any, .any] (.block (.seq (.seq (.call 10 65 [4, 8]) (.arith 10)) (.seq (.call 10 65 [4, 8]) (.bind 4 10))))) (.call 10 65 [4, 8])) (.seq (.arith 10) (.loop [.any, .any, .any, .any, .any, .scalar, .any, .any, (.lv .nums), .scalar, (.lv .num), .any] (.block (.seq (.seq (.arith 10) (.const 10)) (.seq (.call 11 65 [4, 8, 10]) (.bind 4 11))))))) (.seq (.seq (.arith 10) (.alloc 10 .nums .dict)) (.seq (.bind 5 10) (.call 10 65 [4, 8])))) (.seq (.seq (.seq (.bind 4 10) (.loop [.any, .any, .any, .any, (.lv .num), (.lv .nums), .any, .any, (.lv .nums), .scalar, (.lv .num), .any] (.block (.seq (.seq (.arith 10) (.store 5 .dyn 4)) (.seq (.const 10) (.seq (.call 10 65 [4, 8]) (.bind 4 10))))))) (.seq (.arith 10) (.alloc 10 (.sh 0) .dict))) (.seq (.seq (.ite (.seq (.load 11 0 .dyn) (.load 12 11 .dyn)) (.call 12 313 [0])) (.loop [.any, .any, .any, .any, (.lv .num), (.lv .nums), .any, .any, (.lv .nums), .any, (.lv (.sh 0)), .any, .any, .any] (.seq (.seq (.load 11 12 .dyn) (.bind 9 11)) (.seq (.ite (.seq (.load 11 9 .dyn) (.load 13 11 .dyn)) (.call 13 320 [9])) (.seq (.arith 11) (.ite .skip (.store 10 .dyn 9))))))) (.seq (.call 11 307 [10]) (.ret 11)))))),
  (.lv (.sh 2))⟩

/-- bermuda/utils/aggregate.py:115  params: triangle, period_resolution, period_origin, summarize_premium, <globals> -/
def f362 : Fn := ⟨"bermuda.utils.aggregate:_aggregate_period", [0, 1, 2, 3, 4], [],
  (.seq (.seq (.seq (.seq (.seq (.const 17) (.arith 17)) (.seq (.ite (.seq (.const 17) (.ret 17)) .skip) (.call 17 66 [1]))) (.seq (.seq (.bind 14 17) (.ite (.seq (.load 17 0 .dyn) (.load 18 17 .dyn)) (.call 18 313 [0]))) (.seq (.ite .skip (.loop [.any, .any, .any, .any, .any, .scalar, .scalar, .scalar, .scalar, .scalar, .scalar, .scalar, .scalar, .scalar, (.lv .nums), .any, .scalar, .any, .any, .any] (.block (.seq (.havoc 15) (.ite (.seq (.load 17 15 .dyn) (.load 19 17 .dyn)) (.ite (.call 19 23 [15]) (.call 19 40 [15]))))))) (.seq (.const 17) (.alloc 17 (.sh 0) (.union [18])))))) (.seq (.seq (.seq (.bind 13 17) (.const 17)) (.seq (.load 17 13 .dyn) (.load 18 17 .dyn))) (.seq (.seq (.load 17 18 .dyn) (.bind 12 17)) (.seq (.bind 9 2) (.seq (.loop [.any, .any, .any, .any, .any, .scalar, .scalar, .scalar, .scalar, .any, .scalar, .scalar, .any, (.lv (.sh 0)), (.lv .nums), .any, .scalar, .any, .any, .any] (.block (.seq (.seq (.call 17 65 [9, 14]) (.arith 17)) (.seq (.call 17 65 [9, 14]) (.bind 9 17))))) (.call 17 65 [9, 14])))))) (.seq (.seq (.seq (.seq (.arith 17) (.loop [.any, .any, .any, .any, .any, .scalar, .scalar, .scalar, .scalar, .any, .scalar, .scalar, .any, (.lv (.sh 0)), (.lv .nums), .any, .scalar, (.lv .num), .any, .any] (.block (.seq (.seq (.arith 17) (.const 17)) (.seq (.call 18 65 [9, 14, 17]) (.bind 9 18)))))) (.seq (.arith 17) (.const 17))) (.seq (.seq (.alloc 17 (.sh 2) .dict) (.bind 11 17)) (.seq (.const 17) (.seq (.const 17) (.arith 17))))) (.seq (.seq (.seq (.bind 8 17) (.call 17 65 [9, 14])) (.seq (.bind 7 17) (.loop [.any, .any, .any, .any, .any, .scalar, (.lv (.sh 0)), (.lv .num), (.lv .num), .any, .any, (.lv (.sh 2)), .any, (.lv (.sh 0)), (.lv .nums), .any, .scalar, (.lv .num), .any, .any, (.lv (.sh 0)), (.lv (.sh 0)), .scalar, .any, .any, (.lv (.sh 0)), (.lv (.sh 0))] (.block (.seq (.seq (.seq (.seq (.seq (.load 17 13 .dyn) (.seq (.bind 10 17) (.loop [.any, .any, .any, .any, .any, .scalar, (.lv (.sh 0)), (.lv .num), (.lv .num), .any, .any, (.lv (.sh 2)), .any, (.lv (.sh 0)), (.lv .nums), .any, .scalar, .any, .any, .any, (.lv (.sh 0)), (.lv (.sh 0)), .scalar, .any, .any, (.lv (.sh 0)), (.lv (.sh 0))] (.block (.seq (.seq (.seq (.load 17 10 .dyn) (.load 18 17 .dyn)) (.seq (.arith 17) (.seq (.call 17 65 [9, 14]) (.bind 9 17)))) (.seq (.seq (.const 17) (.seq (.const 17) (.arith 17))) (.seq (.bind 8 17) (.seq (.call 17 65 [9, 14]) (.bind 7 17))))))))) (.seq (.load 17 10 .dyn) (.seq (.load 18 17 .dyn) (.arith 17)))) (.seq (.seq (.load 17 10 .dyn) (.seq (.load 18 17 .dyn) (.arith 17))) (.seq (.seq (.ite (.seq (.const 17) (.seq (.const 17) .raise)) .skip) (.ite (.seq (.load 17 10 .dyn) (.load 18 17 .dyn)) (.call 18 320 [10]))) (.seq (.load 17 10 .dyn) (.ite (.seq (.load 19 10 .dyn) (.load 20 19 .dyn)) (.call 20 339 [10])))))) (.seq (.seq (.seq (.const 19) (.seq (.load 19 8 .dyn) (.load 21 19 .dyn))) (.seq (.load 19 8 .dyn) (.seq (.load 21 19 .dyn) (.load 19 8 .dyn)))) (.seq (.seq (.load 21 19 .dyn) (.seq (.const 19) (.load 21 7 .dyn))) (.seq (.seq (.load 22 21 .dyn) (.load 21 7 .dyn)) (.seq (.load 22 21 .dyn) (.load 21 7 .dyn)))))) (.seq (.seq (.seq (.seq (.load 22 21 .dyn) (.seq (.const 21) (.load 22 18 .dyn))) (.seq (.load 23 22 .dyn) (.seq (.load 22 18 .dyn) (.load 23 22 .dyn)))) (.seq (.seq (.load 22 18 .dyn) (.seq (.load 23 22 .dyn) (.const 22))) (.seq (.seq (.const 23) (.arith 23)) (.seq (.ite (.bind 23 17) (.seq (.alloc 24 .nums .dict) (.bind 23 24))) (.const 24))))) (.seq (.seq (.seq (.arith 24) (.seq (.ite (.bind 24 20) (.seq (.seq (.alloc 25 (.sh 0) (.lit [])) (.call 26 45 [])) (.seq (.merge 25 26) (.bind 24 25)))) (.call 25 17 [8, 7, 18, 17, 20]))) (.seq (.alloc 17 .nums (.lit [("", 19)])) (.seq (.alloc 18 .nums (.lit [("", 21)])) (.alloc 19 .nums (.lit [("", 22)]))))) (.seq (.seq (.alloc 20 (.sh 0) (.lit [("", 24)])) (.seq (.alloc 21 (.sh 0) (.lit [("", 17), ("", 18), ("", 19), ("", 23), ("", 20)])) (.bind 6 21))) (.seq (.seq (.ite (.seq (.load 17 6 .dyn) (.load 18 17 .dyn)) (.ite (.call 18 23 [6]) (.call 18 40 [6]))) (.ite (.load 17 11 .dyn) (.seq (.alloc 17 (.sh 1) .dict) (.store 11 .dyn 17)))) (.seq (.store 17 .dyn 6) (.const 17))))))))))) (.seq (.seq (.alloc 17 (.sh 2) .dict) (.loop [.any, .any, .any, .any, .any, .scalar, (.lv (.sh 0)), (.lv .num), (.lv .num), .any, .any, (.lv (.sh 2)), .any, (.lv (.sh 0)), (.lv .nums), .any, (.lv (.sh 1)), (.lv (.sh 2)), .any, .any, (.lv (.sh 0)), (.lv (.sh 0)), (.lv (.sh 1)), .any, .any, (.lv (.sh 0)), (.lv (.sh 0)), .any, (.lv (.sh 0)), (.lv (.sh 0))] (.seq (.seq (.seq (.seq (.seq (.load 18 11 .dyn) (.seq (.bind 16 18) (.const 18))) (.seq (.load 18 16 .dyn) (.seq (.load 19 18 .dyn) (.load 18 19 .dyn)))) (.seq (.seq (.const 19) (.seq (.load 19 16 .dyn) (.load 20 19 .dyn))) (.seq (.seq (.load 19 20 .dyn) (.const 20)) (.seq (.load 20 16 .dyn) (.ite (.seq (.load 21 20 .dyn) (.load 22 21 .dyn)) (.call 22 320 [20])))))) (.seq (.seq (.seq (.call 20 458 [16, 3]) (.seq (.const 21) (.load 21 16 .dyn))) (.seq (.ite (.seq (.load 23 21 .dyn) (.load 24 23 .dyn)) (.call 24 339 [21])) (.seq (.const 21) (.load 21 18 .dyn)))) (.seq (.seq (.load 23 21 .dyn) (.seq (.load 21 18 .dyn) (.load 23 21 .dyn))) (.seq (.seq (.load 21 18 .dyn) (.load 23 21 .dyn)) (.seq (.const 21) (.load 23 19 .dyn)))))) (.seq (.seq (.seq (.seq (.load 25 23 .dyn) (.seq (.load 23 19 .dyn) (.load 25 23 .dyn))) (.seq (.load 23 19 .dyn) (.seq (.load 25 23 .dyn) (.const 23)))) (.seq (.seq (.load 25 22 .dyn) (.seq (.load 26 25 .dyn) (.load 25 22 .dyn))) (.seq (.seq (.load 26 25 .dyn) (.load 25 22 .dyn)) (.seq (.load 26 25 .dyn) (.const 25))))) (.seq (.seq (.seq (.const 26) (.seq (.arith 26) (.ite (.bind 26 20) (.seq (.alloc 27 (.sh 0) .dict) (.bind 26 27))))) (.seq (.const 27) (.seq (.arith 27) (.ite (.bind 27 24) (.seq (.seq (.alloc 28 (.sh 0) (.lit [])) (.call 29 45 [])) (.seq (.merge 28 29) (.bind 27 28))))))) (.seq (.seq (.call 28 17 [18, 19, 22, 20, 24]) (.seq (.alloc 18 (.sh 0) (.lit [("", 21)])) (.alloc 19 (.sh 0) (.lit [("", 23)])))) (.seq (.seq (.alloc 20 (.sh 0) (.lit [("", 25)])) (.alloc 21 (.sh 0) (.lit [("", 27)]))) (.seq (.alloc 22 (.sh 1) (.lit [("", 18), ("", 19), ("", 20), ("", 26), ("", 21)])) (.store 17 .dyn 22))))))))) (.seq (.bind 5 17) (.seq (.call 17 307 [5]) (.ret 17))))))),
  (.lv (.sh 2))⟩

/-- bermuda/utils/aggregate.py:16  params: triangle, period_resolution, eval_resolution, period_origin, eval_origin, summarize_premium, <globals> -/
def f363 : Fn := ⟨"bermuda.utils.aggregate:aggregate", [0, 1, 2, 3, 4, 5, 6], [],
  (.seq (.seq (.seq (.seq (.const 1) (.const 2)) (.seq (.const 3) (.const 4))) (.seq (.seq (.const 5) (.const 13)) (.seq (.ite (.seq (.load 13 0 .dyn) (.load 14 13 .dyn)) (.call 14 333 [0])) (.ite (.seq (.ite (.call 13 372 [0]) (.bind 13 0)) (.bind 14 13)) (.bind 14 0))))) (.seq (.seq (.seq (.bind 12 14) (.alloc 13 (.sh 0) .dict)) (.seq (.bind 11 13) (.ite (.seq (.load 13 12 .dyn) (.load 14 13 .dyn)) (.call 14 350 [12])))) (.seq (.seq (.loop [.any, .scalar, .scalar, .scalar, .scalar, .scalar, .any, .scalar, .any, .any, .any, (.lv (.sh 0)), .any, .any, .any] (.block (.seq (.seq (.seq (.load 13 14 .dyn) (.bind 10 13)) (.seq (.ite (.call 13 361 [10, 2, 4]) (.bind 13 10)) (.bind 9 13))) (.seq (.seq (.ite (.call 13 362 [9, 1, 3, 5]) (.bind 13 9)) (.bind 8 13)) (.seq (.store 11 .dyn 8) (.const 13)))))) (.ite (.seq (.load 13 0 .dyn) (.load 14 13 .dyn)) (.call 14 333 [0]))) (.seq (.ite (.seq (.arith 13) (.seq (.ite (.call 14 373 [13]) (.bind 14 13)) (.bind 13 14))) (.seq (.arith 14) (.bind 13 14))) (.seq (.bind 7 13) (.ret 7)))))),
  (.lv (.sh 2))⟩

/-- bermuda/utils/backfill.py:5  params: triangle, static_fields, eval_resolution, min_dev_lag, <globals> -/
def f364 : Fn := ⟨"bermuda.utils.backfill:backfill", [0, 1, 2, 3, 4], [],
  (.seq (.seq (.seq (.seq (.const 2) (.const 3)) (.seq (.const 15) (.ite (.seq (.load 15 0 .dyn) (.load 16 15 .dyn)) (.call 16 342 [0])))) (.seq (.seq (.arith 15) (.const 15)) (.seq (.arith 15) (.seq (.bind 12 15) (.const 15))))) (.seq (.seq (.seq (.arith 15) (.ite (.seq (.ite (.seq (.load 15 0 .dyn) (.load 16 15 .dyn)) (.call 16 319 [0])) (.bind 2 16)) .skip)) (.seq (.alloc 15 (.sh 0) .dict) (.bind 11 15))) (.seq (.seq (.ite (.seq (.load 15 0 .dyn) (.load 16 15 .dyn)) (.call 16 343 [0])) (.loop [.any, .any, .any, .scalar, .any, (.lv .num), .scalar, (.lv (.sh 0)), .any, .any, .any, (.lv (.sh 0)), (.lv .num), .any, .any, .any, .any, (.lv .num), (.lv .num)] (.block (.seq (.seq (.seq (.seq (.load 15 16 .dyn) (.load 17 15 .dyn)) (.seq (.bind 10 17) (.seq (.load 17 15 .dyn) (.bind 9 17)))) (.seq (.seq (.const 15) (.load 15 9 .dyn)) (.seq (.bind 8 15) (.seq (.alloc 15 (.sh 0) .dict) (.load 17 8 .dyn))))) (.seq (.seq (.seq (.loop [.any, .any, .any, .scalar, .any, (.lv .num), .scalar, (.lv (.sh 0)), .any, .any, .any, (.lv (.sh 0)), (.lv .num), .any, .any, (.lv (.sh 0)), .any, .any, (.lv .num)] (.seq (.seq (.havoc 17) (.bind 13 17)) (.seq (.const 17) (.store 15 .dyn 17)))) (.bind 7 15)) (.seq (.loop [.any, .any, .any, .scalar, .any, (.lv .num), .scalar, (.lv (.sh 0)), .any, .any, .any, (.lv (.sh 0)), (.lv .num), .any, .any, .any, .any, .any, (.lv .num)] (.block (.seq (.seq (.const 15) (.bind 6 15)) (.seq (.load 15 8 .dyn) (.seq (.load 17 15 .dyn) (.store 7 .dyn 17)))))) (.seq (.call 15 26 [8]) (.bind 5 15)))) (.seq (.seq (.loop [.any, .any, .any, .scalar, .any, (.lv .num), .scalar, (.lv (.sh 0)), .any, .any, .any, (.lv (.sh 0)), (.lv .num), .any, .any, (.lv .num), .any, .any, .any] (.block (.seq (.seq (.arith 15) (.seq (.arith 15) (.arith 17))) (.seq (.seq (.arith 17) (.ite (.bind 18 15) (.bind 18 17))) (.seq (.ite (.shrink 5) (.arith 5)) (.«try» (.seq (.seq (.ite .skip (.loop [.any, .any, .any, .scalar, .any, (.lv .num), .scalar, (.lv (.sh 0)), .any, .any, .any, (.lv (.sh 0)), (.lv .num), .any, .any, (.lv .num), .any, .any, (.lv .num)] (.block (.seq (.seq (.havoc 14) (.load 15 14 .dyn)) (.seq (.load 17 15 .dyn) (.call 15 56 [17, 5])))))) (.seq (.const 15) (.alloc 17 (.sh 0) (.union [7])))) (.seq (.ite (.call 18 29 [8, 15, 17]) (.ite (.call 18 346 [8, 15, 17]) (.const 18))) (.seq (.store 11 .dyn 18) (.const 15)))) (.seq (.const 15) .brk))))))) (.seq (.arith 15) (.arith 15))) (.seq (.arith 17) (.seq (.arith 17) (.ite (.bind 18 15) (.bind 18 17)))))))))) (.seq (.call 15 307 [11]) (.seq (.ite (.arith 16) (.alloc 16 (.sh 0) (.union [0, 15]))) (.ret 16)))))),
  (.lv (.sh 0))⟩

/-- bermuda/utils/basis.py:141  params: accident_quarter_tri_slice, policy_length_months, policy_year_origin, continuous_issuance, <globals> -/
def f365 : Fn := ⟨"bermuda.utils.basis:_accident_quarter_to_policy_year_slice", [0, 1, 2, 3, 4], [],
  (.seq (.seq (.seq (.seq (.seq (.const 1) (.const 2)) (.seq (.const 3) (.const 25))) (.seq (.seq (.ite (.seq (.load 25 0 .dyn) (.load 26 25 .dyn)) (.call 26 339 [0])) (.const 25)) (.seq (.const 25) (.arith 25)))) (.seq (.seq (.seq (.ite (.seq (.const 25) (.seq (.const 25) .raise)) .skip) (.ite (.seq (.load 25 0 .dyn) (.load 26 25 .dyn)) (.call 26 347 [0]))) (.seq (.ite (.seq (.load 25 26 .dyn) (.load 27 25 .dyn)) (.call 27 321 [26])) (.const 25))) (.seq (.seq (.const 25) (.arith 25)) (.seq (.ite (.seq (.const 25) (.seq (.const 25) .raise)) .skip) (.call 25 371 [0, 2]))))) (.seq (.seq (.seq (.seq (.bind 24 25) (.alloc 25 (.sh 0) .dict)) (.seq (.bind 23 25) (.loop [.any, .scalar, .scalar, .scalar, .any, .scalar, .scalar, .scalar, .scalar, .scalar, .scalar, .scalar, .scalar, .scalar, .scalar, .scalar, .scalar, .scalar, .scalar, .scalar, .scalar, .scalar, (.lv (.sh 1)), (.lv (.sh 0)), (.lv (.sh 2)), .any, .any, .any] (.block (.seq (.seq (.seq (.load 25 24 .dyn) (.bind 22 25)) (.seq (.const 25) (.load 25 22 .dyn))) (.seq (.seq (.const 26) (.load 26 22 .dyn)) (.seq (.call 27 366 [25, 26, 1, 3]) (.seq (.call 25 370 [27, 0]) (.store 23 .dyn 25))))))))) (.seq (.seq (.const 25) (.alloc 25 (.sh 1) .dict)) (.seq (.bind 21 25) (.loop [.any, .scalar, .scalar, .scalar, .any, .scalar, .scalar, .scalar, .scalar, .scalar, .scalar, .scalar, .scalar, .scalar, .any, .any, .scalar, .scalar, .scalar, .any, .any, (.lv (.sh 1)), (.lv (.sh 1)), (.lv (.sh 0)), (.lv (.sh 2)), .any, .any, .any] (.block (.seq (.seq (.havoc 25) (.bind 15 25)) (.seq (.load 25 23 .dyn) (.seq (.bind 20 25) (.loop [.any, .scalar, .scalar, .scalar, .any, .scalar, .scalar, .scalar, .scalar, .scalar, .scalar, .scalar, .scalar, .scalar, .any, .any, .scalar, .scalar, .scalar, .any, .any, (.lv (.sh 1)), (.lv (.sh 1)), (.lv (.sh 0)), (.lv (.sh 2)), .any, .any, .any] (.block (.seq (.seq (.seq (.havoc 25) (.bind 19 25)) (.seq (.load 25 20 .dyn) (.bind 14 25))) (.seq (.seq (.ite (.load 25 21 .dyn) (.seq (.alloc 25 (.sh 0) .dict) (.store 21 .dyn 25))) (.alloc 26 (.sh 0) .dict)) (.seq (.store 26 .dyn 14) (.seq (.merge 25 26) (.const 25))))))))))))))) (.seq (.seq (.seq (.loop [.any, .scalar, .scalar, .scalar, .any, .scalar, .scalar, .scalar, .scalar, .scalar, .scalar, .scalar, .scalar, .scalar, .any, .any, (.lv .num), (.lv (.sh 0)), .any, .any, .any, (.lv (.sh 1)), (.lv (.sh 1)), (.lv (.sh 0)), (.lv (.sh 2)), .any, .any, .any] (.block (.seq (.seq (.seq (.havoc 25) (.bind 18 25)) (.seq (.load 25 21 .dyn) (.bind 17 25))) (.seq (.seq (.alloc 25 (.sh 0) (.union [17])) (.arith 25)) (.seq (.bind 16 25) (.loop [.any, .scalar, .scalar, .scalar, .any, .scalar, .scalar, .scalar, .scalar, .scalar, .scalar, .scalar, .scalar, .scalar, .any, .any, (.lv .num), (.lv (.sh 0)), .any, .any, .any, (.lv (.sh 1)), (.lv (.sh 1)), (.lv (.sh 0)), (.lv (.sh 2)), (.lv .num), .any, .any] (.block (.seq (.seq (.havoc 25) (.seq (.bind 15 25) (.load 25 17 .dyn))) (.seq (.bind 14 25) (.seq (.arith 25) (.store 17 .dyn 25))))))))))) (.alloc 25 (.sh 1) .dict)) (.seq (.bind 13 25) (.loop [.any, .scalar, .scalar, .scalar, .any, .any, .any, (.lv (.sh 0)), .any, (.lv .nums), .any, .any, (.lv (.sh 1)), (.lv (.sh 1)), .any, .any, (.lv .num), (.lv (.sh 0)), .any, .any, .any, (.lv (.sh 1)), (.lv (.sh 1)), (.lv (.sh 0)), (.lv (.sh 2)), .any, .any, .any, (.lv .nums), (.lv (.sh 0)), (.lv (.sh 0)), .scalar, (.lv .nums), .any, (.lv (.sh 0)), (.lv (.sh 0))] (.block (.seq (.seq (.load 25 24 .dyn) (.bind 12 25)) (.seq (.ite (.seq (.load 25 0 .dyn) (.load 26 25 .dyn)) (.call 26 321 [0])) (.loop [.any, .scalar, .scalar, .scalar, .any, .any, .any, (.lv (.sh 0)), .any, (.lv .nums), .any, .any, (.lv (.sh 1)), (.lv (.sh 1)), .any, .any, (.lv .num), (.lv (.sh 0)), .any, .any, .any, (.lv (.sh 1)), (.lv (.sh 1)), (.lv (.sh 0)), (.lv (.sh 2)), .any, .any, .any, (.lv .nums), (.lv (.sh 0)), (.lv (.sh 0)), .scalar, (.lv .nums), .any, (.lv (.sh 0)), (.lv (.sh 0))] (.block (.seq (.seq (.seq (.load 25 26 .dyn) (.bind 11 25)) (.seq (.ite (.bind 25 0) (.alloc 25 (.sh 0) (.union [0]))) (.bind 10 25))) (.seq (.seq (.const 25) (.alloc 25 .nums .dict)) (.seq (.bind 9 25) (.seq (.loop [.any, .scalar, .scalar, .scalar, .any, .any, .any, (.lv (.sh 0)), .any, (.lv .nums), .any, .any, (.lv (.sh 1)), (.lv (.sh 1)), .any, .any, (.lv .num), (.lv (.sh 0)), .any, .any, .any, (.lv (.sh 1)), (.lv (.sh 1)), (.lv (.sh 0)), (.lv (.sh 2)), .any, .any, .any, (.lv .nums), (.lv (.sh 0)), (.lv (.sh 0)), .scalar, (.lv .nums), .any, (.lv (.sh 0)), (.lv (.sh 0))] (.block (.seq (.seq (.load 25 10 .dyn) (.seq (.bind 8 25) (.ite (.seq (.load 25 8 .dyn) (.load 27 25 .dyn)) (.call 27 27 [8])))) (.seq (.seq (.ite (.load 25 21 .dyn) (.seq (.alloc 25 (.sh 0) .dict) (.store 21 .dyn 25))) (.bind 7 25)) (.seq (.arith 25) (.ite (.seq (.load 25 8 .dyn) (.loop [.any, .scalar, .scalar, .scalar, .any, .any, .any, (.lv (.sh 0)), .any, (.lv .nums), .any, .any, (.lv (.sh 1)), (.lv (.sh 1)), .any, .any, (.lv .num), (.lv (.sh 0)), .any, .any, .any, (.lv (.sh 1)), (.lv (.sh 1)), (.lv (.sh 0)), (.lv (.sh 2)), .any, .any, .any, (.lv .nums), (.lv (.sh 0)), (.lv (.sh 0)), .scalar, (.lv .nums), .any, (.lv (.sh 0)), (.lv (.sh 0))] (.block (.seq (.seq (.seq (.havoc 27) (.bind 6 27)) (.seq (.load 27 25 .dyn) (.bind 5 27))) (.seq (.seq (.load 27 7 .dyn) (.arith 27)) (.seq (.ite (.load 28 9 .dyn) (.const 28)) (.seq (.aug 28 27) (.store 9 .dyn 28)))))))) .skip)))))) (.ite (.seq (.seq (.seq (.seq (.seq (.const 25) (.load 25 12 .dyn)) (.seq (.const 27) (.seq (.load 27 12 .dyn) (.ite (.seq (.load 28 8 .dyn) (.load 29 28 .dyn)) (.call 29 339 [8]))))) (.seq (.seq (.const 28) (.load 28 25 .dyn)) (.seq (.load 30 28 .dyn) (.seq (.load 28 25 .dyn) (.load 30 28 .dyn))))) (.seq (.seq (.seq (.load 28 25 .dyn) (.load 30 28 .dyn)) (.seq (.const 28) (.seq (.load 30 27 .dyn) (.load 31 30 .dyn)))) (.seq (.seq (.load 30 27 .dyn) (.load 31 30 .dyn)) (.seq (.load 30 27 .dyn) (.seq (.load 31 30 .dyn) (.const 30)))))) (.seq (.seq (.seq (.seq (.load 31 11 .dyn) (.load 32 31 .dyn)) (.seq (.load 31 11 .dyn) (.seq (.load 32 31 .dyn) (.load 31 11 .dyn)))) (.seq (.seq (.load 32 31 .dyn) (.const 31)) (.seq (.const 32) (.seq (.arith 32) (.ite (.bind 32 9) (.seq (.alloc 33 .nums .dict) (.bind 32 33))))))) (.seq (.seq (.seq (.const 33) (.arith 33)) (.seq (.ite (.bind 33 29) (.seq (.seq (.alloc 34 (.sh 0) (.lit [])) (.call 35 45 [])) (.seq (.merge 34 35) (.bind 33 34)))) (.seq (.call 34 17 [25, 27, 11, 9, 29]) (.alloc 25 .nums (.lit [("", 28)]))))) (.seq (.seq (.alloc 27 .nums (.lit [("", 30)])) (.seq (.alloc 28 .nums (.lit [("", 31)])) (.alloc 29 (.sh 0) (.lit [("", 33)])))) (.seq (.alloc 30 (.sh 0) (.lit [("", 25), ("", 27), ("", 28), ("", 32), ("", 29)])) (.seq (.store 13 .dyn 30) (.const 25))))))) .skip))))))))))))) (.seq (.seq (.call 25 307 [13]) (.const 26)) (.seq (.ite (.call 27 25 [25, 26]) (.call 27 317 [25, 26])) (.ret 27)))))),
  .any⟩

/-- bermuda/utils/basis.py:215  params: risk_start_date, risk_end_date, policy_length_months, continuous_issuance, monthly_earning_pattern, <globals> -/
def f366 : Fn := ⟨"bermuda.utils.basis:_policy_earned_premium_share_by_month", [0, 1, 2, 3, 4, 5], [],
  (.seq (.seq (.seq (.seq (.const 0) (.const 1)) (.seq (.const 2) (.const 3))) (.seq (.seq (.call 19 63 [0]) (.bind 13 19)) (.seq (.ite (.seq (.call 19 63 [1]) (.bind 12 19)) (.bind 12 13)) (.alloc 19 .nums .dict)))) (.seq (.seq (.seq (.ite (.arith 20) (.alloc 20 .nums (.union [12, 2]))) (.const 20)) (.seq (.arith 20) (.loop [.scalar, .scalar, .scalar, .scalar, .any, .any, .scalar, .scalar, .scalar, .scalar, .scalar, .scalar, (.lv .num), (.lv .num), .scalar, .scalar, .scalar, .scalar, .scalar, (.lv .nums), (.lv .num)] (.seq (.seq (.const 20) (.bind 14 20)) (.seq (.const 20) (.store 19 .dyn 20)))))) (.seq (.seq (.bind 11 19) (.ite (.loop [.scalar, .scalar, .scalar, .scalar, .any, .any, .scalar, .scalar, .scalar, .scalar, (.lv .num), (.lv .nums), (.lv .num), (.lv .num), .scalar, .scalar, .scalar, .scalar, .scalar, (.lv .nums), (.lv .num), (.lv .num)] (.block (.seq (.seq (.load 19 11 .dyn) (.seq (.bind 10 19) (.alloc 19 .nums .dict))) (.seq (.seq (.loop [.scalar, .scalar, .scalar, .scalar, .any, .any, .scalar, .scalar, .scalar, .scalar, (.lv .num), (.lv .nums), (.lv .num), (.lv .num), .scalar, .scalar, .scalar, .scalar, .scalar, (.lv .nums), (.lv .num), (.lv .num)] (.seq (.seq (.const 20) (.seq (.bind 15 20) (.const 20))) (.seq (.bind 16 20) (.seq (.call 20 63 [15]) (.store 19 .dyn 16))))) (.const 20)) (.seq (.ite (.const 21) (.ite (.load 21 19 .dyn) (.ite (.bind 21 10) (.bind 21 20)))) (.store 11 .dyn 21)))))) (.seq (.seq (.seq (.arith 19) (.const 19)) (.seq (.arith 19) (.seq (.bind 9 19) (.const 19)))) (.seq (.seq (.arith 19) (.seq (.arith 19) (.bind 8 19))) (.seq (.const 19) (.seq (.arith 19) (.loop [.scalar, .scalar, .scalar, .scalar, .any, .any, .scalar, .scalar, (.lv .num), (.lv .num), .scalar, (.lv .nums), (.lv .num), (.lv .num), .scalar, .scalar, .scalar, .scalar, .scalar, (.lv .num), (.lv .num)] (.block (.seq (.seq (.seq (.const 19) (.seq (.bind 7 19) (.const 19))) (.seq (.seq (.arith 19) (.load 20 11 .dyn)) (.seq (.aug 20 19) (.store 11 .dyn 20)))) (.seq (.seq (.seq (.const 19) (.loop [.scalar, .scalar, .scalar, .scalar, .any, .any, .scalar, .scalar, (.lv .num), (.lv .num), .scalar, (.lv .nums), (.lv .num), (.lv .num), .scalar, .scalar, .scalar, .scalar, .scalar, (.lv .num), (.lv .num)] (.block (.seq (.seq (.const 19) (.seq (.bind 6 19) (.ite (.arith 19) (.alloc 19 .nums (.union [7, 6]))))) (.seq (.load 19 11 .dyn) (.seq (.aug 19 8) (.store 11 .dyn 19))))))) (.seq (.const 19) (.arith 19))) (.seq (.seq (.ite (.arith 20) (.alloc 20 .nums (.union [7, 2]))) (.load 20 11 .dyn)) (.seq (.aug 20 19) (.store 11 .dyn 20))))))))))))) (.seq (.alloc 19 .nums .dict) (.seq (.loop [.scalar, .scalar, .scalar, .scalar, .any, .any, .scalar, .scalar, (.lv .num), (.lv .num), (.lv .num), (.lv .nums), (.lv .num), (.lv .num), .scalar, .scalar, .scalar, .any, (.lv .num), (.lv .nums), (.lv .num), (.lv .num)] (.seq (.seq (.havoc 20) (.seq (.bind 17 20) (.load 20 11 .dyn))) (.seq (.bind 18 20) (.seq (.call 20 61 [17]) (.store 19 .dyn 18))))) (.ret 19)))))),
  (.lv .nums)⟩

/-- bermuda/utils/basis.py:309  params: curr_values, next_values, <globals> -/
def f367 : Fn := ⟨"bermuda.utils.basis:_values_add", [0, 1, 2], [],
  (.seq (.seq (.seq (.alloc 6 (.sh 0) (.union [0])) (.alloc 7 (.sh 0) (.union [6]))) (.seq (.bind 4 7) (.seq (.alloc 6 (.sh 0) (.union [1])) (.alloc 7 (.sh 0) (.union [6]))))) (.seq (.seq (.bind 3 7) (.seq (.alloc 6 (.sh 0) (.union [4])) (.ite (.seq (.const 6) (.seq (.const 6) .raise)) .skip))) (.seq (.alloc 6 (.sh 0) .dict) (.seq (.loop [.any, .any, .any, (.lv (.sh 0)), (.lv (.sh 0)), .any, (.lv (.sh 0)), .any, .any, .any, (.lv (.sh 0))] (.seq (.seq (.load 7 4 .dyn) (.seq (.bind 5 7) (.const 7))) (.seq (.arith 7) (.seq (.ite (.seq (.load 7 1 .dyn) (.bind 8 7)) (.seq (.seq (.load 7 0 .dyn) (.load 9 1 .dyn)) (.seq (.ite (.arith 10) (.alloc 10 (.sh 0) (.union [7, 9]))) (.bind 8 10)))) (.store 6 .dyn 8))))) (.ret 6))))),
  (.lv (.sh 0))⟩

/-- bermuda/utils/basis.py:295  params: prev_values, next_values, <globals> -/
def f368 : Fn := ⟨"bermuda.utils.basis:_values_diff", [0, 1, 2], [],
  (.seq (.seq (.seq (.alloc 6 (.sh 0) (.union [0])) (.alloc 7 (.sh 0) (.union [6]))) (.seq (.bind 4 7) (.seq (.alloc 6 (.sh 0) (.union [1])) (.alloc 7 (.sh 0) (.union [6]))))) (.seq (.seq (.bind 3 7) (.seq (.alloc 6 (.sh 0) (.union [4])) (.ite (.seq (.const 6) (.seq (.const 6) .raise)) .skip))) (.seq (.alloc 6 (.sh 0) .dict) (.seq (.loop [.any, .any, .any, (.lv (.sh 0)), (.lv (.sh 0)), .any, (.lv (.sh 0)), .any, .any] (.seq (.seq (.load 7 4 .dyn) (.seq (.bind 5 7) (.const 7))) (.seq (.arith 7) (.seq (.ite (.seq (.load 7 1 .dyn) (.bind 8 7)) (.seq (.seq (.load 7 1 .dyn) (.load 7 0 .dyn)) (.seq (.arith 7) (.bind 8 7)))) (.store 6 .dyn 8))))) (.ret 6))))),
  (.lv (.sh 0))⟩

/-- bermuda/utils/basis.py:112  params: accident_quarter_tri, policy_length_months, policy_year_origin, continuous_issuance, <globals> -/
def f369 : Fn := ⟨"bermuda.utils.basis:accident_quarter_to_policy_year", [0, 1, 2, 3, 4], [],
  (.seq (.seq (.seq (.const 1) (.const 2)) (.seq (.const 3) (.seq (.const 8) (.alloc 8 .nums .dict)))) (.seq (.seq (.call 9 307 [8]) (.bind 5 9)) (.seq (.ite (.seq (.load 8 0 .dyn) (.load 9 8 .dyn)) (.call 9 350 [0])) (.seq (.loop [.any, .scalar, .scalar, .scalar, .any, .any, .any, .any, .any, .any, (.lv (.sh 0))] (.block (.seq (.seq (.havoc 8) (.seq (.bind 7 8) (.load 8 9 .dyn))) (.seq (.seq (.bind 6 8) (.call 8 365 [6, 1, 2, 3])) (.seq (.ite (.arith 10) (.alloc 10 (.sh 0) (.union [5, 8]))) (.bind 5 10)))))) (.ret 5))))),
  .any⟩

/-- bermuda/utils/basis.py:283  params: policy_month_ep_share, accident_tri, <globals> -/
def f370 : Fn := ⟨"bermuda.utils.basis:monthly_ep_to_quarterly_ep", [0, 1, 2], [],
  (.seq (.seq (.const 7) (.seq (.const 7) (.alloc 7 .nums .dict))) (.seq (.bind 6 7) (.seq (.loop [.any, .any, .any, .any, .scalar, .scalar, (.lv .nums), .any, .any, (.lv .num), (.lv .num)] (.block (.seq (.seq (.const 7) (.seq (.bind 5 7) (.const 7))) (.seq (.bind 4 7) (.seq (.ite (.seq (.load 7 1 .dyn) (.load 8 7 .dyn)) (.call 8 344 [1])) (.loop [.any, .any, .any, .any, .scalar, .scalar, (.lv .nums), .any, .any, (.lv .num), (.lv .num)] (.block (.seq (.seq (.seq (.load 7 8 .dyn) (.bind 3 7)) (.seq (.const 7) (.seq (.load 7 3 .dyn) (.arith 7)))) (.seq (.seq (.const 9) (.load 9 3 .dyn)) (.seq (.arith 9) (.seq (.ite (.bind 10 7) (.bind 10 9)) (.ite (.seq (.ite (.load 7 6 .dyn) (.const 7)) (.seq (.aug 7 4) (.store 6 .dyn 7))) .skip)))))))))))) (.ret 6)))),
  (.lv .nums)⟩

/-- bermuda/utils/basis.py:256  params: accident_basis_tri, policy_year_origin, <globals> -/
def f371 : Fn := ⟨"bermuda.utils.basis:policy_years_covered", [0, 1, 2], [],
  (.seq (.seq (.seq (.seq (.seq (.const 1) (.const 8)) (.seq (.ite (.seq (.load 8 0 .dyn) (.load 9 8 .dyn)) (.call 9 344 [0])) (.const 8))) (.seq (.seq (.load 8 9 .dyn) (.const 9)) (.seq (.load 9 8 .dyn) (.bind 6 9)))) (.seq (.seq (.seq (.ite (.seq (.load 8 0 .dyn) (.load 9 8 .dyn)) (.call 9 344 [0])) (.const 8)) (.seq (.arith 8) (.load 8 9 .dyn))) (.seq (.seq (.const 9) (.load 9 8 .dyn)) (.seq (.bind 5 9) (.load 8 6 .dyn))))) (.seq (.seq (.seq (.seq (.load 9 8 .dyn) (.load 8 1 .dyn)) (.seq (.load 9 8 .dyn) (.load 8 1 .dyn))) (.seq (.seq (.load 9 8 .dyn) (.const 8)) (.seq (.bind 3 8) (.arith 8)))) (.seq (.seq (.seq (.ite (.seq (.seq (.seq (.load 8 6 .dyn) (.load 9 8 .dyn)) (.seq (.const 8) (.seq (.arith 8) (.load 8 1 .dyn)))) (.seq (.seq (.load 9 8 .dyn) (.load 8 1 .dyn)) (.seq (.load 9 8 .dyn) (.seq (.const 8) (.bind 3 8))))) .skip) (.alloc 8 .nums (.lit [("", 3)]))) (.seq (.bind 4 8) (.loop [.any, .scalar, .any, (.lv .num), (.lv .nums), .any, .any, .scalar, (.lv .nums), (.lv .num)] (.block (.seq (.seq (.arith 8) (.seq (.const 8) (.call 9 56 [3, 8]))) (.seq (.bind 3 9) (.seq (.store 4 .dyn 3) (.const 8)))))))) (.seq (.seq (.arith 8) (.alloc 8 (.sh 2) .dict)) (.seq (.loop [.any, .scalar, .any, (.lv .num), (.lv .nums), .any, .any, (.lv .num), (.lv (.sh 2)), (.lv .num), (.lv (.sh 1))] (.seq (.seq (.seq (.load 9 4 .dyn) (.bind 7 9)) (.seq (.const 9) (.seq (.call 10 56 [7, 9]) (.const 9)))) (.seq (.seq (.arith 9) (.const 9)) (.seq (.arith 9) (.seq (.alloc 10 (.sh 1) (.lit [("", 7), ("", 9)])) (.store 8 .dyn 10)))))) (.ret 8)))))),
  (.lv (.sh 2))⟩

/-- bermuda/utils/basis.py:59  params: triangle, <globals> -/
def f372 : Fn := ⟨"bermuda.utils.basis:to_cumulative", [0, 1], [],
  (.seq (.seq (.seq (.seq (.const 13) (.ite (.seq (.load 13 0 .dyn) (.load 14 13 .dyn)) (.call 14 333 [0]))) (.seq (.const 13) (.seq (.ite (.seq (.const 13) (.ret 13)) .skip) (.ite .skip (.loop [.any, .any, .scalar, .scalar, .scalar, .scalar, .scalar, .scalar, .scalar, .scalar, .scalar, .scalar, .any, (.lv (.sh 0)), .any, .any] (.block (.seq (.seq (.havoc 12) (.ite (.seq (.load 13 12 .dyn) (.load 14 13 .dyn)) (.call 14 27 [12]))) (.seq (.ite (.seq (.load 13 12 .dyn) (.load 15 13 .dyn)) (.call 15 339 [12])) (.alloc 13 (.sh 0) (.lit [("", 14), ("", 15)])))))))))) (.seq (.seq (.const 13) (.ite (.seq (.load 13 0 .dyn) (.load 14 13 .dyn)) (.call 14 313 [0]))) (.seq (.alloc 13 (.sh 1) .dict) (.seq (.loop [.any, .any, .scalar, .scalar, .scalar, .scalar, .scalar, .scalar, .scalar, .scalar, .scalar, .scalar, .any, (.lv (.sh 1)), .any, .any] (.seq (.alloc 15 (.sh 0) (.union [14])) (.store 13 .dyn 15))) (.bind 11 13))))) (.seq (.seq (.seq (.const 13) (.alloc 13 (.sh 0) .dict)) (.seq (.havoc 14) (.seq (.store 13 .dyn 14) (.bind 10 13)))) (.seq (.seq (.alloc 13 (.sh 0) .dict) (.bind 9 13)) (.seq (.loop [.any, .any, .any, .any, .any, .any, .any, .any, .any, (.lv (.sh 0)), (.lv (.sh 0)), (.lv (.sh 1)), .any, .any, .any, .any, (.lv (.sh 0)), (.lv (.sh 0)), .any, .any, (.lv (.sh 0)), (.lv (.sh 0))] (.block (.seq (.seq (.seq (.seq (.seq (.seq (.havoc 13) (.load 14 13 .dyn)) (.seq (.load 15 14 .dyn) (.bind 8 15))) (.seq (.seq (.load 15 14 .dyn) (.bind 7 15)) (.seq (.load 14 13 .dyn) (.seq (.bind 6 14) (.load 13 10 .dyn))))) (.seq (.seq (.seq (.bind 5 13) (.const 13)) (.seq (.load 13 5 .dyn) (.seq (.load 14 13 .dyn) (.load 13 14 .dyn)))) (.seq (.seq (.const 14) (.const 15)) (.seq (.alloc 16 .nums (.lit [("", 14), ("", 15)])) (.seq (.call 14 65 [13, 16]) (.const 13)))))) (.seq (.seq (.seq (.seq (.load 13 5 .dyn) (.load 14 13 .dyn)) (.seq (.load 13 14 .dyn) (.arith 13))) (.seq (.seq (.ite (.seq (.const 13) (.seq (.const 13) .raise)) .skip) (.const 13)) (.seq (.load 13 5 .dyn) (.seq (.load 14 13 .dyn) (.alloc 13 .deep (.deep 14)))))) (.seq (.seq (.seq (.bind 2 13) (.const 13)) (.seq (.load 13 5 .dyn) (.seq (.ite (.seq (.load 14 13 .dyn) (.load 15 14 .dyn)) (.call 15 320 [13])) (.bind 3 15)))) (.seq (.seq (.const 13) (.load 13 5 .dyn)) (.seq (.ite (.seq (.load 14 13 .dyn) (.load 15 14 .dyn)) (.call 15 320 [13])) (.seq (.alloc 13 .deep (.deep 2)) (.const 14))))))) (.seq (.seq (.seq (.seq (.seq (.load 14 8 .dyn) (.load 16 14 .dyn)) (.seq (.load 14 8 .dyn) (.load 16 14 .dyn))) (.seq (.seq (.load 14 8 .dyn) (.load 16 14 .dyn)) (.seq (.const 14) (.seq (.load 16 7 .dyn) (.load 17 16 .dyn))))) (.seq (.seq (.seq (.load 16 7 .dyn) (.load 17 16 .dyn)) (.seq (.load 16 7 .dyn) (.seq (.load 17 16 .dyn) (.const 16)))) (.seq (.seq (.load 17 15 .dyn) (.load 18 17 .dyn)) (.seq (.load 17 15 .dyn) (.seq (.load 18 17 .dyn) (.load 17 15 .dyn)))))) (.seq (.seq (.seq (.seq (.load 18 17 .dyn) (.const 17)) (.seq (.const 18) (.arith 18))) (.seq (.seq (.ite (.bind 18 13) (.seq (.alloc 19 .nums .dict) (.bind 18 19))) (.const 19)) (.seq (.arith 19) (.seq (.ite (.bind 19 6) (.seq (.seq (.alloc 20 (.sh 0) (.lit [])) (.call 21 45 [])) (.seq (.merge 20 21) (.bind 19 20)))) (.call 20 17 [8, 7, 15, 6, 13]))))) (.seq (.seq (.seq (.alloc 13 .nums (.lit [("", 14)])) (.alloc 14 .nums (.lit [("", 16)]))) (.seq (.alloc 15 .nums (.lit [("", 17)])) (.seq (.alloc 16 (.sh 0) (.lit [("", 19)])) (.alloc 17 (.sh 0) (.lit [("", 13), ("", 14), ("", 15), ("", 18), ("", 16)]))))) (.seq (.seq (.store 9 .dyn 17) (.const 13)) (.seq (.const 13) (.seq (.ite (.bind 13 5) (.alloc 13 (.sh 0) (.union [5]))) (.loop [.any, .any, .any, .any, .any, .any, .any, .any, .any, (.lv (.sh 0)), (.lv (.sh 0)), (.lv (.sh 1)), .any, .any, (.lv .nums), .any, (.lv (.sh 0)), (.lv (.sh 0)), .any, .any, (.lv (.sh 0)), (.lv (.sh 0))] (.block (.seq (.seq (.seq (.seq (.seq (.load 14 13 .dyn) (.seq (.bind 4 14) (.load 14 4 .dyn))) (.seq (.load 15 14 .dyn) (.seq (.arith 14) (.ite (.seq (.const 14) (.seq (.const 14) .raise)) .skip)))) (.seq (.seq (.ite (.seq (.load 14 4 .dyn) (.load 15 14 .dyn)) (.call 15 320 [4])) (.seq (.bind 3 15) (.load 14 4 .dyn))) (.seq (.call 15 367 [2, 14]) (.seq (.bind 2 15) (.ite (.seq (.load 14 4 .dyn) (.load 15 14 .dyn)) (.call 15 320 [4])))))) (.seq (.seq (.seq (.const 14) (.seq (.load 14 8 .dyn) (.load 16 14 .dyn))) (.seq (.load 14 8 .dyn) (.seq (.load 16 14 .dyn) (.load 14 8 .dyn)))) (.seq (.seq (.load 16 14 .dyn) (.seq (.const 14) (.load 16 7 .dyn))) (.seq (.load 17 16 .dyn) (.seq (.load 16 7 .dyn) (.load 17 16 .dyn)))))) (.seq (.seq (.seq (.seq (.load 16 7 .dyn) (.seq (.load 17 16 .dyn) (.const 16))) (.seq (.load 17 15 .dyn) (.seq (.load 18 17 .dyn) (.load 17 15 .dyn)))) (.seq (.seq (.load 18 17 .dyn) (.seq (.load 17 15 .dyn) (.load 18 17 .dyn))) (.seq (.const 17) (.seq (.const 18) (.arith 18))))) (.seq (.seq (.seq (.ite (.bind 18 2) (.seq (.alloc 19 (.sh 0) .dict) (.bind 18 19))) (.seq (.const 19) (.arith 19))) (.seq (.ite (.bind 19 6) (.seq (.seq (.alloc 20 (.sh 0) (.lit [])) (.call 21 45 [])) (.seq (.merge 20 21) (.bind 19 20)))) (.seq (.call 20 17 [8, 7, 15, 6, 2]) (.alloc 15 (.sh 0) (.lit [("", 14)]))))) (.seq (.seq (.alloc 14 (.sh 0) (.lit [("", 16)])) (.seq (.alloc 16 (.sh 0) (.lit [("", 17)])) (.alloc 17 (.sh 0) (.lit [("", 19)])))) (.seq (.alloc 19 (.sh 1) (.lit [("", 15), ("", 14), ("", 16), ("", 18), ("", 17)])) (.seq (.store 9 .dyn 19) (.const 14)))))))))))))))))) (.seq (.call 13 307 [9]) (.ret 13)))))),
  (.lv (.sh 2))⟩

def chunk5 : List Fn := [f316, f317, f318, f319, f320, f321, f322, f323, f324, f325, f326, f327, f328, f329, f330, f331, f332, f333, f334, f335, f336, f337, f338, f339, f340, f341, f342, f343, f344, f345, f346, f347, f348, f349, f350, f351, f352, f353, f354, f355, f356, f357, f358, f359, f360, f361, f362, f363, f364, f365, f366, f367, f368, f369, f370, f371, f372]

/-- every function of this chunk respects the discipline (re-proved against today's source) -/
theorem chunk5_disciplined : chunk5.all (writesOnlyFresh sums) = true :=
  disciplined_of_fast (by decide +kernel)

end Bermuda.Generated.HeapIR
