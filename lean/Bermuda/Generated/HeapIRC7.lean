-- GENERATED by harness/translate_c03ir.py from /repo -- do not edit
import Bermuda.Generated.HeapIRSums
import Bermuda.Lemmas.HeapIRFast
namespace Bermuda.Generated.HeapIR
open Bermuda.HeapIR

/-- bermuda/utils/fields.py:44  params: slice, source_slice, statics, <globals> -/
def f400 : Fn := ⟨"bermuda.utils.fields:_add_statics_slice", [0, 1, 2, 3], [],
  (.seq (.seq (.seq (.ite .skip (.loop [.any, .any, .any, .any, .scalar, .scalar, .scalar, .scalar, .any, .any, .scalar, (.lv (.sh 0)), .any] (.block (.seq (.seq (.havoc 8) (.seq (.ite .skip (.loop [.any, .any, .any, .any, .scalar, .scalar, .scalar, .scalar, .any, .any, .scalar, .any, .any] (.block (.seq (.havoc 9) (.ite (.seq (.load 11 9 .dyn) (.load 12 11 .dyn)) (.call 12 320 [9])))))) (.const 11))) (.seq (.seq (.alloc 11 (.sh 0) (.union [8])) (.const 12)) (.seq (.arith 12) (.load 12 11 .dyn))))))) (.seq (.const 11) (.ite .skip (.loop [.any, .any, .any, .any, .scalar, .scalar, .scalar, .scalar, .any, .any, .any, .any, .any] (.block (.seq (.havoc 10) (.ite (.seq (.load 11 10 .dyn) (.load 12 11 .dyn)) (.call 12 27 [10])))))))) (.seq (.seq (.const 11) (.ite (.seq (.load 11 1 .dyn) (.load 12 11 .dyn)) (.call 12 313 [1]))) (.seq (.alloc 11 (.sh 1) .dict) (.loop [.any, .any, .any, .any, .scalar, .scalar, .scalar, .scalar, .any, .any, .any, (.lv (.sh 1)), .any, (.lv (.sh 0))] (.seq (.alloc 13 (.sh 0) (.union [12])) (.store 11 .dyn 13)))))) (.seq (.seq (.seq (.alloc 11 (.sh 0) .dict) (.havoc 12)) (.seq (.store 11 .dyn 12) (.bind 7 11))) (.seq (.seq (.alloc 11 (.sh 0) .dict) (.bind 4 11)) (.seq (.loop [.any, .any, .any, .any, (.lv (.sh 0)), .any, .any, (.lv (.sh 0)), .any, .any, .any, (.lv (.sh 0)), .any, .any] (.block (.seq (.seq (.seq (.load 11 0 .dyn) (.bind 6 11)) (.seq (.ite (.seq (.load 11 6 .dyn) (.load 12 11 .dyn)) (.call 12 27 [6])) (.const 11))) (.seq (.seq (.ite (.const 13) (.ite (.load 13 7 .dyn) (.ite (.bind 13 12) (.bind 13 11)))) (.bind 5 13)) (.seq (.const 11) (.seq (.arith 11) (.ite (.seq (.ite (.call 11 22 [6, 5, 2]) (.call 11 122 [6, 5, 2])) (.seq (.store 4 .dyn 11) (.const 11))) (.seq (.alloc 11 (.sh 0) (.lit [("", 6)])) (.aug 4 11))))))))) (.ret 4))))),
  (.lv (.sh 0))⟩

/-- bermuda/utils/fields.py:15  params: triangle, source, statics, <globals> -/
def f401 : Fn := ⟨"bermuda.utils.fields:add_statics", [0, 1, 2, 3], [],
  (.seq (.seq (.seq (.const 9) (.alloc 9 (.sh 0) .dict)) (.seq (.bind 4 9) (.ite (.seq (.load 9 1 .dyn) (.load 10 9 .dyn)) (.call 10 350 [1])))) (.seq (.seq (.bind 8 10) (.ite (.seq (.load 9 0 .dyn) (.load 10 9 .dyn)) (.call 10 350 [0]))) (.seq (.loop [.any, .any, .any, .any, (.lv (.sh 0)), .any, .any, .any, .any, .any, .any, .any] (.block (.seq (.seq (.seq (.havoc 9) (.bind 7 9)) (.seq (.load 9 10 .dyn) (.seq (.bind 6 9) (.const 9)))) (.seq (.seq (.ite (.const 11) (.ite (.load 11 8 .dyn) (.ite (.bind 11 7) (.bind 11 9)))) (.bind 5 11)) (.seq (.const 9) (.seq (.arith 9) (.ite (.seq (.call 9 400 [6, 5, 2]) (.aug 4 9)) (.seq (.ite (.seq (.load 9 6 .dyn) (.load 11 9 .dyn)) (.call 11 313 [6])) (.aug 4 11))))))))) (.seq (.call 9 307 [4]) (.ret 9))))),
  (.lv (.sh 2))⟩

/-- bermuda/utils/fields.py:61  params: triangle, field, <globals> -/
def f402 : Fn := ⟨"bermuda.utils.fields:array_from_field", [0, 1, 2], [],
  (.seq (.seq (.seq (.const 1) (.seq (.const 8) (.alloc 8 .nums .dict))) (.seq (.seq (.loop [.any, .scalar, .any, .scalar, .scalar, .scalar, .scalar, .any, (.lv .nums), (.lv .num)] (.seq (.seq (.load 9 0 .dyn) (.bind 7 9)) (.seq (.arith 9) (.store 8 .dyn 9)))) (.const 8)) (.seq (.const 8) (.ite (.seq (.const 8) (.seq (.const 8) .raise)) .skip)))) (.seq (.seq (.seq (.call 8 403 [0]) (.bind 6 8)) (.seq (.alloc 8 .nums .dict) (.bind 5 8))) (.seq (.seq (.ite (.seq (.load 8 0 .dyn) (.load 9 8 .dyn)) (.call 9 313 [0])) (.loop [.any, .scalar, .any, (.lv .num), .any, (.lv .nums), (.lv .num), .any, .any, .any] (.block (.seq (.seq (.seq (.load 8 9 .dyn) (.bind 4 8)) (.seq (.load 8 4 .dyn) (.seq (.arith 8) (.bind 3 8)))) (.seq (.seq (.load 8 3 .dyn) (.seq (.load 10 8 .dyn) (.arith 8))) (.seq (.ite (.seq (.alloc 8 .nums (.lit [("", 6)])) (.seq (.arith 8) (.bind 3 8))) .skip) (.seq (.store 5 .dyn 3) (.const 8)))))))) (.seq (.arith 8) (.ret 8))))),
  (.lv .num)⟩

/-- bermuda/utils/fields.py:100  params: triangle, <globals> -/
def f403 : Fn := ⟨"bermuda.utils.fields:array_size", [0, 1], [],
  (.seq (.seq (.const 3) (.call 3 404 [0])) (.seq (.bind 2 3) (.seq (.const 3) (.ite (.seq (.const 3) (.ret 3)) (.seq (.seq (.const 3) (.const 3)) (.seq (.arith 3) (.ite (.seq (.const 3) (.seq (.load 3 2 .dyn) (.ret 3))) (.seq (.const 3) (.seq (.const 3) .raise))))))))),
  (.lv .num)⟩

/-- bermuda/utils/fields.py:87  params: triangle, <globals> -/
def f404 : Fn := ⟨"bermuda.utils.fields:array_sizes", [0, 1], [],
  (.seq (.seq (.seq (.const 5) (.alloc 5 (.sh 0) (.union []))) (.seq (.bind 2 5) (.loop [.any, .any, (.lv (.sh 0)), .any, .any, .any, (.lv (.sh 0)), .any] (.block (.seq (.seq (.load 5 0 .dyn) (.bind 4 5)) (.seq (.load 5 4 .dyn) (.loop [.any, .any, (.lv (.sh 0)), .any, .any, .any, (.lv (.sh 0)), .any] (.block (.seq (.seq (.load 6 5 .dyn) (.bind 3 6)) (.seq (.const 6) (.seq (.const 6) (.ite (.seq (.seq (.load 6 3 .dyn) (.load 7 6 .dyn)) (.seq (.alloc 6 (.sh 0) (.lit [("", 7)])) (.aug 2 6))) .skip)))))))))))) (.seq (.seq (.const 5) (.alloc 6 .nums (.lit [("", 5)]))) (.seq (.arith 5) (.seq (.alloc 6 .nums (.union [5])) (.ret 6))))),
  (.lv .nums)⟩

/-- bermuda/utils/fill.py:5  params: triangle, eval_resolution, fill_with_none, <globals> -/
def f405 : Fn := ⟨"bermuda.utils.fill:fill_forward_gaps", [0, 1, 2, 3], [],
  (.seq (.seq (.seq (.const 1) (.seq (.const 2) (.const 15))) (.seq (.const 15) (.seq (.arith 15) (.ite (.seq (.ite (.seq (.load 15 0 .dyn) (.load 16 15 .dyn)) (.call 16 319 [0])) (.bind 1 16)) .skip)))) (.seq (.seq (.alloc 15 (.sh 0) .dict) (.seq (.bind 10 15) (.ite (.seq (.load 15 0 .dyn) (.load 16 15 .dyn)) (.call 16 349 [0])))) (.seq (.loop [.any, .any, .scalar, .any, .scalar, (.lv .num), (.lv .nums), (.lv (.sh 0)), .any, .any, (.lv (.sh 0)), .any, .scalar, .any, .any, .any, .any, .any, .any, .any] (.block (.seq (.seq (.seq (.seq (.load 15 16 .dyn) (.seq (.load 17 15 .dyn) (.bind 9 17))) (.seq (.seq (.load 17 15 .dyn) (.bind 8 17)) (.seq (.alloc 15 (.sh 0) .dict) (.loop [.any, .any, .scalar, .any, .scalar, (.lv .num), (.lv .nums), (.lv (.sh 0)), .any, .any, (.lv (.sh 0)), .any, .scalar, .any, .any, (.lv (.sh 0)), .any, .any, .any, .any] (.seq (.seq (.load 17 8 .dyn) (.bind 11 17)) (.seq (.call 17 26 [11]) (.store 15 .dyn 11))))))) (.seq (.seq (.bind 7 15) (.seq (.alloc 15 .nums .dict) (.const 17))) (.seq (.seq (.load 17 8 .dyn) (.call 18 26 [17])) (.seq (.const 17) (.const 17))))) (.seq (.seq (.seq (.arith 17) (.seq (.load 17 8 .dyn) (.call 18 26 [17]))) (.seq (.seq (.ite (.arith 17) (.alloc 17 (.sh 0) (.union [18, 1]))) (.const 17)) (.seq (.loop [.any, .any, .scalar, .any, .scalar, (.lv .num), (.lv .nums), (.lv (.sh 0)), .any, .any, (.lv (.sh 0)), .any, .scalar, .any, .any, (.lv .nums), .any, .scalar, (.lv .num), .any] (.seq (.const 17) (.seq (.bind 12 17) (.store 15 .dyn 12)))) (.bind 6 15)))) (.seq (.seq (.seq (.alloc 15 (.sh 0) (.union [7])) (.alloc 17 (.sh 0) (.union [15]))) (.seq (.arith 15) (.bind 5 15))) (.seq (.seq (.loop [.any, .any, .scalar, .any, .scalar, (.lv .num), (.lv .nums), (.lv (.sh 0)), .any, .any, (.lv (.sh 0)), .any, .scalar, .any, .any, .any, .any, .any, .any, .any] (.block (.seq (.seq (.seq (.load 15 5 .dyn) (.bind 4 15)) (.seq (.arith 15) (.load 15 7 .dyn))) (.seq (.seq (.ite .skip (.loop [.any, .any, .scalar, .any, .scalar, (.lv .num), (.lv .nums), (.lv (.sh 0)), .any, .any, (.lv (.sh 0)), .any, .scalar, .any, .any, .any, .any, .any, .any, .any] (.block (.seq (.seq (.havoc 13) (.load 17 13 .dyn)) (.seq (.load 18 17 .dyn) (.call 17 56 [18, 4])))))) (.const 17)) (.seq (.ite (.call 18 29 [15, 17]) (.ite (.call 18 346 [15, 17]) (.const 18))) (.seq (.store 7 .dyn 18) (.ite (.seq (.seq (.load 15 7 .dyn) (.seq (.alloc 17 .nums .dict) (.load 18 7 .dyn))) (.seq (.seq (.load 19 18 .dyn) (.loop [.any, .any, .scalar, .any, .scalar, (.lv .num), (.lv .nums), (.lv (.sh 0)), .any, .any, (.lv (.sh 0)), .any, .scalar, .any, .any, .any, .any, (.lv .nums), .any, .any] (.seq (.seq (.load 18 19 .dyn) (.bind 14 18)) (.seq (.const 18) (.store 17 .dyn 18))))) (.seq (.ite (.call 18 29 [15, 17]) (.ite (.call 18 346 [15, 17]) (.const 18))) (.store 7 .dyn 18)))) .skip))))))) (.alloc 15 (.sh 0) (.union [7]))) (.seq (.merge 10 15) (.const 15)))))))) (.seq (.call 15 307 [10]) (.ret 15))))),
  (.lv (.sh 2))⟩

/-- bermuda/utils/join.py:126  params: triangle, attributes_list, <globals> -/
def f406 : Fn := ⟨"bermuda.utils.join:_select_metadata", [0, 1, 2], [],
  (.seq (.seq (.ite .skip (.loop [.any, .any, .any, .scalar, .scalar, .scalar, .scalar, .any, (.lv (.sh 0)), (.lv (.sh 0)), .any, .any, .scalar, .any, .any, .any, .any, .any, .any, (.lv (.sh 0)), (.lv (.sh 0)), (.lv (.sh 0)), (.lv (.sh 0)), (.lv (.sh 0)), (.lv (.sh 0)), (.lv (.sh 1)), (.lv (.sh 1)), (.lv (.sh 0))] (.block (.seq (.seq (.seq (.seq (.seq (.havoc 7) (.ite .skip (.loop [.any, .any, .any, .scalar, .scalar, .scalar, .scalar, .any, (.lv (.sh 0)), (.lv (.sh 0)), .any, .any, .scalar, .any, .any, .any, .any, .any, .any, (.lv (.sh 0)), (.lv (.sh 0)), (.lv (.sh 0)), (.lv (.sh 0)), (.lv (.sh 0)), (.lv (.sh 0)), (.lv (.sh 1)), (.lv (.sh 1)), (.lv (.sh 0))] (.block (.seq (.havoc 10) (.arith 13)))))) (.seq (.const 13) (.seq (.ite (.seq (.load 14 7 .dyn) (.load 15 14 .dyn)) (.call 15 339 [7])) (.load 14 15 .dyn)))) (.seq (.seq (.load 15 14 .dyn) (.seq (.alloc 14 (.sh 0) (.union [13, 15])) (.bind 9 14))) (.seq (.ite .skip (.loop [.any, .any, .any, .scalar, .scalar, .scalar, .scalar, .any, (.lv (.sh 0)), (.lv (.sh 0)), .any, .any, .scalar, (.lv .num), (.lv (.sh 0)), .any, .any, .any, .any, (.lv (.sh 0)), (.lv (.sh 0)), (.lv (.sh 0)), (.lv (.sh 0)), (.lv (.sh 0)), (.lv (.sh 0)), (.lv (.sh 1)), (.lv (.sh 1)), (.lv (.sh 0))] (.block (.seq (.havoc 11) (.arith 13))))) (.seq (.const 13) (.ite (.seq (.load 14 7 .dyn) (.load 15 14 .dyn)) (.call 15 339 [7])))))) (.seq (.seq (.seq (.load 14 15 .dyn) (.load 15 14 .dyn)) (.seq (.alloc 14 (.sh 0) (.union [13, 15])) (.seq (.bind 8 14) (.const 13)))) (.seq (.seq (.arith 13) (.seq (.ite (.seq (.seq (.ite (.seq (.load 13 7 .dyn) (.load 14 13 .dyn)) (.call 14 339 [7])) (.load 13 14 .dyn)) (.seq (.load 14 13 .dyn) (.bind 13 14))) (.seq (.const 14) (.bind 13 14))) (.const 14))) (.seq (.arith 14) (.seq (.ite (.seq (.seq (.ite (.seq (.load 14 7 .dyn) (.load 15 14 .dyn)) (.call 15 339 [7])) (.load 14 15 .dyn)) (.seq (.load 15 14 .dyn) (.bind 14 15))) (.seq (.const 15) (.bind 14 15))) (.const 15)))))) (.seq (.seq (.seq (.seq (.arith 15) (.ite (.seq (.seq (.ite (.seq (.load 15 7 .dyn) (.load 16 15 .dyn)) (.call 16 339 [7])) (.load 15 16 .dyn)) (.seq (.load 16 15 .dyn) (.bind 15 16))) (.seq (.const 16) (.bind 15 16)))) (.seq (.const 16) (.seq (.arith 16) (.ite (.seq (.seq (.ite (.seq (.load 16 7 .dyn) (.load 17 16 .dyn)) (.call 17 339 [7])) (.load 16 17 .dyn)) (.seq (.load 17 16 .dyn) (.bind 16 17))) (.seq (.const 17) (.bind 16 17)))))) (.seq (.seq (.const 17) (.seq (.arith 17) (.ite (.seq (.seq (.ite (.seq (.load 17 7 .dyn) (.load 18 17 .dyn)) (.call 18 339 [7])) (.load 17 18 .dyn)) (.seq (.load 18 17 .dyn) (.bind 17 18))) (.seq (.const 18) (.bind 17 18))))) (.seq (.const 18) (.seq (.arith 18) (.ite (.seq (.seq (.ite (.seq (.load 18 7 .dyn) (.load 19 18 .dyn)) (.call 19 339 [7])) (.load 18 19 .dyn)) (.seq (.load 19 18 .dyn) (.bind 18 19))) (.seq (.const 19) (.bind 18 19))))))) (.seq (.seq (.seq (.alloc 19 (.sh 0) (.lit [("", 13)])) (.seq (.alloc 20 (.sh 0) (.lit [("", 14)])) (.alloc 21 (.sh 0) (.lit [("", 15)])))) (.seq (.alloc 22 (.sh 0) (.lit [("", 16)])) (.seq (.alloc 23 (.sh 0) (.lit [("", 17)])) (.alloc 24 (.sh 0) (.lit [("", 18)]))))) (.seq (.seq (.alloc 25 (.sh 1) (.lit [("", 9)])) (.seq (.alloc 26 (.sh 1) (.lit [("", 8)])) (.alloc 27 (.sh 0) (.lit [("", 19), ("", 20), ("", 21), ("", 22), ("", 23), ("", 24), ("", 25), ("", 26)])))) (.seq (.call 19 45 [13, 14, 15, 16, 17, 18, 9, 8]) (.seq (.merge 27 19) .brk))))))))) (.seq (.const 6) (.alloc 13 (.sh 0) .dict))) (.seq (.seq (.loop [.any, .any, .any, .scalar, .scalar, .scalar, .scalar, .any, (.lv (.sh 0)), (.lv (.sh 0)), .any, .any, .any, (.lv (.sh 0)), .any, .any, .any, .any, .any, (.lv (.sh 0)), (.lv (.sh 0)), (.lv (.sh 0)), (.lv (.sh 0)), (.lv (.sh 0)), (.lv (.sh 0)), (.lv (.sh 1)), (.lv (.sh 1)), (.lv (.sh 0))] (.seq (.seq (.load 14 0 .dyn) (.bind 12 14)) (.seq (.havoc 14) (.seq (.ite (.call 15 29 [12, 14]) (.ite (.call 15 346 [12, 14]) (.const 15))) (.store 13 .dyn 15))))) (.bind 3 13)) (.seq (.call 13 307 [3]) (.ret 13)))),
  (.lv (.sh 2))⟩

/-- bermuda/utils/join.py:13  params: tri1, tri2, join_type, on, <globals> -/
def f407 : Fn := ⟨"bermuda.utils.join:join", [0, 1, 2, 3, 4], [],
  (.seq (.seq (.seq (.seq (.seq (.const 2) (.const 24)) (.seq (.const 24) (.const 25))) (.seq (.seq (.ite (.const 26) (.ite (.load 26 24 .dyn) (.ite (.bind 26 24) (.bind 26 25)))) (.const 24)) (.seq (.arith 24) (.ite (.seq (.load 25 0 .dyn) (.load 26 25 .dyn)) (.call 26 313 [0]))))) (.seq (.seq (.seq (.const 25) (.load 25 26 .dyn)) (.seq (.const 25) (.ite (.seq (.load 25 1 .dyn) (.load 26 25 .dyn)) (.call 26 313 [1])))) (.seq (.seq (.const 25) (.load 25 26 .dyn)) (.seq (.const 25) (.arith 25))))) (.seq (.seq (.seq (.seq (.ite (.bind 26 24) (.bind 26 25)) (.ite (.seq (.const 24) (.seq (.const 24) .raise)) .skip)) (.seq (.ite (.seq (.seq (.call 24 406 [0, 3]) (.bind 0 24)) (.seq (.call 24 406 [1, 3]) (.bind 1 24))) .skip) (.ite (.seq (.load 24 0 .dyn) (.load 25 24 .dyn)) (.call 25 333 [0])))) (.seq (.seq (.ite (.seq (.seq (.alloc 24 (.sh 0) .dict) (.seq (.loop [.any, .any, .scalar, .any, .any, .scalar, .scalar, .scalar, .scalar, .any, .scalar, .scalar, .scalar, .scalar, .scalar, .scalar, .scalar, .scalar, .scalar, .scalar, .scalar, .scalar, .scalar, .scalar, (.lv (.sh 0)), .any, .any, .any, .any, .any, .any] (.seq (.seq (.seq (.load 25 0 .dyn) (.seq (.bind 9 25) (.ite (.seq (.load 25 9 .dyn) (.load 26 25 .dyn)) (.call 26 339 [9])))) (.seq (.load 25 9 .dyn) (.seq (.load 27 25 .dyn) (.load 25 9 .dyn)))) (.seq (.seq (.load 28 25 .dyn) (.seq (.ite (.seq (.load 25 9 .dyn) (.load 29 25 .dyn)) (.call 29 320 [9])) (.load 25 9 .dyn))) (.seq (.load 30 25 .dyn) (.seq (.alloc 25 (.sh 0) (.lit [("", 26), ("", 27), ("", 28), ("", 29), ("", 30)])) (.store 24 .dyn 9)))))) (.bind 8 24))) (.seq (.alloc 24 (.sh 0) .dict) (.seq (.loop [.any, .any, .scalar, .any, .any, .scalar, .scalar, .scalar, (.lv (.sh 0)), .any, .any, .scalar, .scalar, .scalar, .scalar, .scalar, .scalar, .scalar, .scalar, .scalar, .scalar, .scalar, .scalar, .scalar, (.lv (.sh 0)), .any, .any, .any, .any, .any, .any] (.seq (.seq (.seq (.load 25 1 .dyn) (.seq (.bind 10 25) (.ite (.seq (.load 25 10 .dyn) (.load 26 25 .dyn)) (.call 26 339 [10])))) (.seq (.load 25 10 .dyn) (.seq (.load 27 25 .dyn) (.load 25 10 .dyn)))) (.seq (.seq (.load 28 25 .dyn) (.seq (.ite (.seq (.load 25 10 .dyn) (.load 29 25 .dyn)) (.call 29 320 [10])) (.load 25 10 .dyn))) (.seq (.load 30 25 .dyn) (.seq (.alloc 25 (.sh 0) (.lit [("", 26), ("", 27), ("", 28), ("", 29), ("", 30)])) (.store 24 .dyn 10)))))) (.bind 7 24)))) (.seq (.seq (.alloc 24 (.sh 0) .dict) (.seq (.loop [.any, .any, .scalar, .any, .any, .scalar, .scalar, .scalar, .scalar, .scalar, .scalar, .any, .scalar, .scalar, .scalar, .scalar, .scalar, .scalar, .scalar, .scalar, .scalar, .scalar, .scalar, .scalar, (.lv (.sh 0)), .any, .any, .any, .any, .any] (.seq (.seq (.seq (.load 25 0 .dyn) (.bind 11 25)) (.seq (.ite (.seq (.load 25 11 .dyn) (.load 26 25 .dyn)) (.call 26 339 [11])) (.seq (.load 25 11 .dyn) (.load 27 25 .dyn)))) (.seq (.seq (.load 25 11 .dyn) (.load 28 25 .dyn)) (.seq (.ite (.seq (.load 25 11 .dyn) (.load 29 25 .dyn)) (.call 29 320 [11])) (.seq (.alloc 25 (.sh 0) (.lit [("", 26), ("", 27), ("", 28), ("", 29)])) (.store 24 .dyn 11)))))) (.bind 8 24))) (.seq (.alloc 24 (.sh 0) .dict) (.seq (.loop [.any, .any, .scalar, .any, .any, .scalar, .scalar, .scalar, (.lv (.sh 0)), .scalar, .scalar, .any, .any, .scalar, .scalar, .scalar, .scalar, .scalar, .scalar, .scalar, .scalar, .scalar, .scalar, .scalar, (.lv (.sh 0)), .any, .any, .any, .any, .any] (.seq (.seq (.seq (.load 25 1 .dyn) (.bind 12 25)) (.seq (.ite (.seq (.load 25 12 .dyn) (.load 26 25 .dyn)) (.call 26 339 [12])) (.seq (.load 25 12 .dyn) (.load 27 25 .dyn)))) (.seq (.seq (.load 25 12 .dyn) (.load 28 25 .dyn)) (.seq (.ite (.seq (.load 25 12 .dyn) (.load 29 25 .dyn)) (.call 29 320 [12])) (.seq (.alloc 25 (.sh 0) (.lit [("", 26), ("", 27), ("", 28), ("", 29)])) (.store 24 .dyn 12)))))) (.bind 7 24))))) (.alloc 24 (.sh 0) (.union [8]))) (.seq (.alloc 25 (.sh 0) (.union [24])) (.alloc 24 (.sh 0) (.union [7]))))) (.seq (.seq (.seq (.alloc 26 (.sh 0) (.union [24])) (.ite (.arith 24) (.alloc 24 (.sh 0) (.union [25, 26])))) (.seq (.bind 6 24) (.alloc 24 (.sh 1) .dict))) (.seq (.seq (.loop [.any, .any, .scalar, .any, .any, .scalar, (.lv (.sh 0)), (.lv (.sh 0)), (.lv (.sh 0)), .any, .any, .any, .any, .any, .scalar, .scalar, .scalar, .scalar, .scalar, .scalar, .scalar, .scalar, .scalar, .scalar, (.lv (.sh 1)), .any, .any, .any, .any, .any, .any] (.seq (.seq (.load 25 6 .dyn) (.seq (.bind 13 25) (.ite (.const 25) (.ite (.load 25 8 .dyn) (.bind 25 13))))) (.seq (.ite (.const 26) (.ite (.load 26 7 .dyn) (.bind 26 13))) (.seq (.alloc 27 (.sh 0) (.lit [("", 25), ("", 26)])) (.store 24 .dyn 27))))) (.bind 5 24)) (.seq (.const 24) (.seq (.arith 24) (.ite (.ret 5) (.seq (.const 24) (.seq (.arith 24) (.ite (.seq (.alloc 24 (.sh 1) .dict) (.seq (.loop [.any, .any, .scalar, .any, .any, (.lv (.sh 1)), (.lv (.sh 0)), (.lv (.sh 0)), (.lv (.sh 0)), .any, .any, .any, .any, .any, .any, .any, .scalar, .scalar, .scalar, .scalar, .scalar, .scalar, .scalar, .scalar, (.lv (.sh 1)), .any, .any, .any, .any, .any, .any] (.seq (.seq (.seq (.load 25 5 .dyn) (.load 26 25 .dyn)) (.seq (.bind 14 26) (.load 26 25 .dyn))) (.seq (.seq (.bind 15 26) (.const 25)) (.seq (.arith 25) (.ite .skip (.seq (.alloc 25 (.sh 0) (.lit [("", 14), ("", 15)])) (.store 24 .dyn 25))))))) (.ret 24))) (.seq (.const 24) (.seq (.arith 24) (.ite (.seq (.alloc 24 (.sh 1) .dict) (.seq (.loop [.any, .any, .scalar, .any, .any, (.lv (.sh 1)), (.lv (.sh 0)), (.lv (.sh 0)), (.lv (.sh 0)), .any, .any, .any, .any, .any, .scalar, .scalar, .any, .any, .scalar, .scalar, .scalar, .scalar, .scalar, .scalar, (.lv (.sh 1)), .any, .any, .any, .any, .any, .any] (.seq (.seq (.seq (.load 25 5 .dyn) (.load 26 25 .dyn)) (.seq (.bind 16 26) (.load 26 25 .dyn))) (.seq (.seq (.bind 17 26) (.const 25)) (.seq (.arith 25) (.ite .skip (.seq (.alloc 25 (.sh 0) (.lit [("", 16), ("", 17)])) (.store 24 .dyn 25))))))) (.ret 24))) (.seq (.const 24) (.seq (.arith 24) (.ite (.seq (.alloc 24 (.sh 1) .dict) (.seq (.loop [.any, .any, .scalar, .any, .any, (.lv (.sh 1)), (.lv (.sh 0)), (.lv (.sh 0)), (.lv (.sh 0)), .any, .any, .any, .any, .any, .scalar, .scalar, .scalar, .scalar, .any, .any, .scalar, .scalar, .scalar, .scalar, (.lv (.sh 1)), .any, .any, .any, .any, .any, .any] (.seq (.seq (.seq (.load 25 5 .dyn) (.load 26 25 .dyn)) (.seq (.bind 18 26) (.seq (.load 26 25 .dyn) (.bind 19 26)))) (.seq (.seq (.const 25) (.seq (.arith 25) (.const 26))) (.seq (.arith 26) (.seq (.ite (.bind 27 25) (.bind 27 26)) (.ite .skip (.seq (.alloc 25 (.sh 0) (.lit [("", 18), ("", 19)])) (.store 24 .dyn 25)))))))) (.ret 24))) (.seq (.const 24) (.seq (.arith 24) (.ite (.seq (.alloc 24 (.sh 1) .dict) (.seq (.loop [.any, .any, .scalar, .any, .any, (.lv (.sh 1)), (.lv (.sh 0)), (.lv (.sh 0)), (.lv (.sh 0)), .any, .any, .any, .any, .any, .scalar, .scalar, .scalar, .scalar, .scalar, .scalar, .any, .any, .scalar, .scalar, (.lv (.sh 1)), .any, .any, .any, .any, .any, .any] (.seq (.seq (.seq (.load 25 5 .dyn) (.load 26 25 .dyn)) (.seq (.bind 20 26) (.load 26 25 .dyn))) (.seq (.seq (.bind 21 26) (.const 25)) (.seq (.arith 25) (.ite .skip (.seq (.alloc 25 (.sh 0) (.lit [("", 20), ("", 21)])) (.store 24 .dyn 25))))))) (.ret 24))) (.seq (.const 24) (.seq (.arith 24) (.ite (.seq (.alloc 24 (.sh 1) .dict) (.seq (.loop [.any, .any, .scalar, .any, .any, (.lv (.sh 1)), (.lv (.sh 0)), (.lv (.sh 0)), (.lv (.sh 0)), .any, .any, .any, .any, .any, .scalar, .scalar, .scalar, .scalar, .scalar, .scalar, .scalar, .scalar, .any, .any, (.lv (.sh 1)), .any, .any, .any, .any, .any, .any] (.seq (.seq (.seq (.load 25 5 .dyn) (.load 26 25 .dyn)) (.seq (.bind 22 26) (.load 26 25 .dyn))) (.seq (.seq (.bind 23 26) (.const 25)) (.seq (.arith 25) (.ite .skip (.seq (.alloc 25 (.sh 0) (.lit [("", 22), ("", 23)])) (.store 24 .dyn 25))))))) (.ret 24))) (.seq (.const 24) (.seq (.const 24) .raise)))))))))))))))))))))))),
  (.lv (.sh 1))⟩

/-- bermuda/utils/merge.py:49  params: cell1, cell2, <globals> -/
def f408 : Fn := ⟨"bermuda.utils.merge:_merge_cell_pair", [0, 1, 2], [],
  (.seq (.const 3) (.seq (.arith 3) (.ite (.seq (.const 3) (.ret 3)) (.seq (.const 3) (.seq (.arith 3) (.ite (.seq (.const 3) (.ret 3)) (.seq (.seq (.load 3 0 .dyn) (.load 4 1 .dyn)) (.seq (.alloc 5 (.sh 0) (.union [3, 4])) (.seq (.ite (.call 3 29 [0, 5]) (.ite (.call 3 346 [0, 5]) (.const 3))) (.ret 3)))))))))),
  .any⟩

/-- bermuda/utils/merge.py:103  params: cell1, cell2, suffix, <globals> -/
def f409 : Fn := ⟨"bermuda.utils.merge:_overwrite_values", [0, 1, 2, 3], [],
  (.seq (.seq (.const 2) (.seq (.const 7) (.ite (.seq (.seq (.alloc 7 (.sh 0) .dict) (.load 8 1 .dyn)) (.seq (.loop [.any, .any, .scalar, .any, .scalar, .any, .any, (.lv (.sh 0)), .any] (.seq (.seq (.havoc 9) (.seq (.bind 5 9) (.load 9 8 .dyn))) (.seq (.bind 6 9) (.seq (.const 9) (.store 7 .dyn 6))))) (.bind 4 7))) (.seq (.load 7 1 .dyn) (.bind 4 7))))) (.seq (.seq (.load 7 0 .dyn) (.alloc 8 (.sh 0) (.union [7, 4]))) (.seq (.ite (.call 7 29 [0, 8]) (.ite (.call 7 346 [0, 8]) (.const 7))) (.ret 7)))),
  .any⟩

/-- bermuda/utils/merge.py:173  params: triangles, <globals> -/
def f410 : Fn := ⟨"bermuda.utils.merge:coalesce", [0, 1], [],
  (.seq (.seq (.seq (.seq (.const 7) (.const 7)) (.seq (.const 7) (.const 7))) (.seq (.seq (.ite (.seq (.const 7) (.seq (.const 7) .raise)) .skip) (.const 7)) (.seq (.alloc 7 (.sh 1) .dict) (.seq (.bind 4 7) (.loop [.any, .any, .any, .any, (.lv (.sh 1)), .scalar, .scalar, .any, .any] (.block (.seq (.load 7 0 .dyn) (.seq (.bind 3 7) (.loop [.any, .any, .any, .any, (.lv (.sh 1)), .scalar, .scalar, .any, .any] (.block (.seq (.seq (.seq (.load 7 3 .dyn) (.bind 2 7)) (.seq (.ite (.seq (.load 7 2 .dyn) (.load 8 7 .dyn)) (.call 8 339 [2])) (.ite (.seq (.load 7 2 .dyn) (.load 8 7 .dyn)) (.call 8 27 [2])))) (.seq (.seq (.ite (.seq (.load 7 2 .dyn) (.load 8 7 .dyn)) (.call 8 320 [2])) (.ite (.load 7 4 .dyn) (.seq (.alloc 7 (.sh 0) .dict) (.store 4 .dyn 7)))) (.seq (.store 7 .dyn 2) (.const 7)))))))))))))) (.seq (.seq (.seq (.alloc 7 .nums .dict) (.loop [.any, .any, .any, .any, (.lv (.sh 1)), (.lv (.sh 0)), .scalar, (.lv .nums), .any] (.seq (.seq (.load 8 4 .dyn) (.seq (.bind 5 8) (.const 8))) (.seq (.const 8) (.seq (.arith 8) (.store 7 .dyn 8)))))) (.seq (.const 7) (.const 7))) (.seq (.seq (.ite (.seq (.const 7) (.const 7)) .skip) (.alloc 7 (.sh 0) .dict)) (.seq (.loop [.any, .any, .any, .any, (.lv (.sh 1)), (.lv (.sh 0)), (.lv (.sh 0)), (.lv (.sh 0)), .any] (.seq (.seq (.load 8 4 .dyn) (.bind 6 8)) (.seq (.const 8) (.seq (.load 8 6 .dyn) (.store 7 .dyn 8))))) (.seq (.call 8 307 [7]) (.ret 8)))))),
  (.lv (.sh 2))⟩

/-- bermuda/utils/merge.py:113  params: tri1, tri2, suffix, <globals> -/
def f411 : Fn := ⟨"bermuda.utils.merge:loose_period_merge", [0, 1, 2, 3], [],
  (.seq (.seq (.seq (.seq (.seq (.const 2) (.seq (.const 16) (.const 16))) (.seq (.seq (.const 17) (.ite (.const 18) (.ite (.load 18 16 .dyn) (.ite (.bind 18 16) (.bind 18 17))))) (.seq (.const 16) (.arith 16)))) (.seq (.seq (.seq (.ite (.seq (.load 17 0 .dyn) (.load 18 17 .dyn)) (.call 18 313 [0])) (.const 17)) (.seq (.load 17 18 .dyn) (.ite (.seq (.load 17 1 .dyn) (.load 18 17 .dyn)) (.call 18 313 [1])))) (.seq (.seq (.const 17) (.load 17 18 .dyn)) (.seq (.const 17) (.const 17))))) (.seq (.seq (.seq (.const 17) (.seq (.ite (.bind 18 16) (.bind 18 17)) (.ite (.seq (.const 16) (.seq (.const 16) .raise)) .skip))) (.seq (.seq (.ite (.seq (.load 16 0 .dyn) (.load 17 16 .dyn)) (.call 17 313 [0])) (.const 16)) (.seq (.load 16 17 .dyn) (.ite (.seq (.load 17 16 .dyn) (.load 18 17 .dyn)) (.call 18 339 [16]))))) (.seq (.seq (.seq (.load 16 18 .dyn) (.load 17 16 .dyn)) (.seq (.alloc 16 (.sh 0) (.union [17])) (.ite (.seq (.load 16 1 .dyn) (.load 17 16 .dyn)) (.call 17 313 [1])))) (.seq (.seq (.const 16) (.load 16 17 .dyn)) (.seq (.ite (.seq (.load 17 16 .dyn) (.load 18 17 .dyn)) (.call 18 339 [16])) (.load 16 18 .dyn)))))) (.seq (.seq (.seq (.seq (.load 17 16 .dyn) (.seq (.alloc 16 (.sh 0) (.union [17])) (.arith 16))) (.seq (.seq (.ite (.seq (.const 16) (.seq (.const 16) .raise)) .skip) (.ite (.seq (.load 16 0 .dyn) (.load 17 16 .dyn)) (.call 17 339 [0]))) (.seq (.const 16) (.load 16 17 .dyn)))) (.seq (.seq (.seq (.load 17 16 .dyn) (.load 16 17 .dyn)) (.seq (.alloc 17 (.sh 0) (.union [16])) (.ite (.seq (.load 16 1 .dyn) (.load 18 16 .dyn)) (.call 18 339 [1])))) (.seq (.seq (.const 16) (.load 16 18 .dyn)) (.seq (.load 18 16 .dyn) (.load 16 18 .dyn))))) (.seq (.seq (.seq (.seq (.alloc 18 (.sh 0) (.union [16])) (.ite (.arith 16) (.alloc 16 (.sh 0) (.union [17, 18])))) (.seq (.bind 12 16) (.const 16))) (.seq (.seq (.alloc 16 (.sh 1) .dict) (.bind 11 16)) (.seq (.loop [.any, .any, .scalar, .any, .scalar, .scalar, .scalar, .scalar, .any, .scalar, .any, (.lv (.sh 1)), (.lv (.sh 0)), .any, .any, .scalar, .any, (.lv (.sh 0)), .any] (.block (.seq (.seq (.seq (.load 16 0 .dyn) (.seq (.bind 8 16) (.ite .skip (.loop [.any, .any, .scalar, .any, .scalar, .scalar, .scalar, .scalar, .any, .scalar, .any, (.lv (.sh 1)), (.lv (.sh 0)), .any, .any, .scalar, .any, .any, .any] (.block (.seq (.havoc 13) (.seq (.alloc 16 (.sh 0) .dict) (.loop [.any, .any, .scalar, .any, .scalar, .scalar, .scalar, .scalar, .any, .scalar, .any, (.lv (.sh 1)), (.lv (.sh 0)), .any, .any, .scalar, (.lv (.sh 0)), .any, .any] (.seq (.seq (.load 17 12 .dyn) (.seq (.bind 14 17) (.load 17 13 .dyn))) (.seq (.load 18 17 .dyn) (.seq (.load 17 18 .dyn) (.store 16 .dyn 17)))))))))))) (.seq (.seq (.const 16) (.ite (.call 17 25 [8, 16]) (.call 17 317 [8, 16]))) (.seq (.bind 10 17) (.alloc 16 (.sh 0) (.lit [("", 8)]))))) (.seq (.seq (.seq (.load 17 8 .dyn) (.load 18 17 .dyn)) (.seq (.load 17 8 .dyn) (.load 18 17 .dyn))) (.seq (.seq (.ite (.seq (.load 17 10 .dyn) (.load 18 17 .dyn)) (.call 18 339 [10])) (.ite (.load 17 11 .dyn) (.seq (.alloc 17 (.sh 0) .dict) (.store 11 .dyn 17)))) (.seq (.aug 17 16) (.store 11 .dyn 17))))))) (.const 16)))) (.seq (.seq (.seq (.alloc 16 (.sh 1) .dict) (.bind 9 16)) (.seq (.loop [.any, .any, .scalar, .any, .scalar, .scalar, .scalar, .scalar, .any, (.lv (.sh 1)), .any, (.lv (.sh 1)), (.lv (.sh 0)), .any, .any, .scalar, .any, (.lv (.sh 0)), .any] (.block (.seq (.seq (.seq (.load 16 1 .dyn) (.bind 8 16)) (.seq (.alloc 16 (.sh 0) (.lit [("", 8)])) (.seq (.load 17 8 .dyn) (.load 18 17 .dyn)))) (.seq (.seq (.load 17 8 .dyn) (.seq (.load 18 17 .dyn) (.ite (.seq (.load 17 8 .dyn) (.load 18 17 .dyn)) (.call 18 339 [8])))) (.seq (.ite (.load 17 9 .dyn) (.seq (.alloc 17 (.sh 0) .dict) (.store 9 .dyn 17))) (.seq (.aug 17 16) (.store 9 .dyn 17))))))) (.alloc 16 (.sh 0) .dict))) (.seq (.seq (.bind 4 16) (.loop [.any, .any, .scalar, .any, (.lv (.sh 0)), (.lv (.sh 0)), (.lv (.sh 0)), .any, .any, (.lv (.sh 1)), .any, (.lv (.sh 1)), (.lv (.sh 0)), .any, .any, .any, (.lv (.sh 0)), .any, .any] (.block (.seq (.seq (.seq (.havoc 16) (.bind 7 16)) (.seq (.load 16 11 .dyn) (.seq (.bind 6 16) (.ite (.load 16 9 .dyn) (.seq (.alloc 16 (.sh 0) .dict) (.store 9 .dyn 16)))))) (.seq (.seq (.bind 5 16) (.const 16)) (.seq (.const 16) (.seq (.arith 16) (.ite (.seq (.const 16) (.seq (.const 16) .raise)) (.seq (.seq (.const 16) (.const 16)) (.seq (.arith 16) (.ite (.aug 4 6) (.seq (.alloc 16 (.sh 0) .dict) (.seq (.loop [.any, .any, .scalar, .any, (.lv (.sh 0)), (.lv (.sh 0)), (.lv (.sh 0)), .any, .any, (.lv (.sh 1)), .any, (.lv (.sh 1)), (.lv (.sh 0)), .any, .any, .any, (.lv (.sh 0)), .any, .any] (.seq (.seq (.load 17 6 .dyn) (.seq (.bind 15 17) (.const 17))) (.seq (.load 17 5 .dyn) (.seq (.call 18 409 [15, 17, 2]) (.store 16 .dyn 18))))) (.aug 4 16)))))))))))))) (.seq (.call 16 307 [4]) (.ret 16))))))),
  (.lv (.sh 2))⟩

/-- bermuda/utils/merge.py:16  params: tri1, tri2, join_type, on, <globals> -/
def f412 : Fn := ⟨"bermuda.utils.merge:merge", [0, 1, 2, 3, 4], [],
  (.seq (.seq (.seq (.const 2) (.const 7)) (.seq (.call 7 407 [0, 1, 2, 3]) (.bind 5 7))) (.seq (.seq (.alloc 7 (.sh 0) .dict) (.loop [.any, .any, .scalar, .any, .any, (.lv (.sh 1)), (.lv (.sh 0)), (.lv (.sh 0)), .any, .any] (.seq (.seq (.load 8 5 .dyn) (.bind 6 8)) (.seq (.load 8 6 .dyn) (.seq (.ite (.call 9 408 [8]) (.bind 9 8)) (.store 7 .dyn 9)))))) (.seq (.call 8 307 [7]) (.ret 8)))),
  (.lv (.sh 2))⟩

/-- bermuda/utils/merge.py:59  params: tri1, tri2, suffix, <globals> -/
def f413 : Fn := ⟨"bermuda.utils.merge:period_merge", [0, 1, 2, 3], [],
  (.seq (.seq (.seq (.seq (.const 2) (.seq (.const 12) (.const 12))) (.seq (.seq (.const 13) (.ite (.const 14) (.ite (.load 14 12 .dyn) (.ite (.bind 14 12) (.bind 14 13))))) (.seq (.const 12) (.arith 12)))) (.seq (.seq (.seq (.ite (.seq (.load 13 0 .dyn) (.load 14 13 .dyn)) (.call 14 313 [0])) (.const 13)) (.seq (.load 13 14 .dyn) (.const 13))) (.seq (.seq (.ite (.seq (.load 13 1 .dyn) (.load 14 13 .dyn)) (.call 14 313 [1])) (.const 13)) (.seq (.load 13 14 .dyn) (.const 13))))) (.seq (.seq (.seq (.seq (.arith 13) (.ite (.bind 14 12) (.bind 14 13))) (.seq (.ite (.seq (.const 12) (.seq (.const 12) .raise)) .skip) (.const 12))) (.seq (.seq (.alloc 12 (.sh 1) .dict) (.bind 10 12)) (.seq (.loop [.any, .any, .scalar, .any, .scalar, .scalar, .scalar, .scalar, .any, .scalar, (.lv (.sh 1)), .scalar, .any, (.lv (.sh 0)), .any] (.block (.seq (.seq (.seq (.load 12 0 .dyn) (.bind 8 12)) (.seq (.alloc 12 (.sh 0) (.lit [("", 8)])) (.seq (.load 13 8 .dyn) (.load 14 13 .dyn)))) (.seq (.seq (.load 13 8 .dyn) (.seq (.load 14 13 .dyn) (.ite (.seq (.load 13 8 .dyn) (.load 14 13 .dyn)) (.call 14 339 [8])))) (.seq (.ite (.load 13 10 .dyn) (.seq (.alloc 13 (.sh 0) .dict) (.store 10 .dyn 13))) (.seq (.aug 13 12) (.store 10 .dyn 13))))))) (.const 12)))) (.seq (.seq (.seq (.alloc 12 (.sh 1) .dict) (.bind 9 12)) (.seq (.loop [.any, .any, .scalar, .any, .scalar, .scalar, .scalar, .scalar, .any, (.lv (.sh 1)), (.lv (.sh 1)), .scalar, .any, (.lv (.sh 0)), .any] (.block (.seq (.seq (.seq (.load 12 1 .dyn) (.bind 8 12)) (.seq (.alloc 12 (.sh 0) (.lit [("", 8)])) (.seq (.load 13 8 .dyn) (.load 14 13 .dyn)))) (.seq (.seq (.load 13 8 .dyn) (.seq (.load 14 13 .dyn) (.ite (.seq (.load 13 8 .dyn) (.load 14 13 .dyn)) (.call 14 339 [8])))) (.seq (.ite (.load 13 9 .dyn) (.seq (.alloc 13 (.sh 0) .dict) (.store 9 .dyn 13))) (.seq (.aug 13 12) (.store 9 .dyn 13))))))) (.alloc 12 (.sh 0) .dict))) (.seq (.seq (.bind 4 12) (.loop [.any, .any, .scalar, .any, (.lv (.sh 0)), (.lv (.sh 0)), (.lv (.sh 0)), .any, .any, (.lv (.sh 1)), (.lv (.sh 1)), .any, (.lv (.sh 0)), .any, .any] (.block (.seq (.seq (.seq (.havoc 12) (.bind 7 12)) (.seq (.load 12 10 .dyn) (.seq (.bind 6 12) (.ite (.load 12 9 .dyn) (.seq (.alloc 12 (.sh 0) .dict) (.store 9 .dyn 12)))))) (.seq (.seq (.bind 5 12) (.const 12)) (.seq (.const 12) (.seq (.arith 12) (.ite (.seq (.const 12) (.seq (.const 12) .raise)) (.seq (.seq (.const 12) (.const 12)) (.seq (.arith 12) (.ite (.aug 4 6) (.seq (.alloc 12 (.sh 0) .dict) (.seq (.loop [.any, .any, .scalar, .any, (.lv (.sh 0)), (.lv (.sh 0)), (.lv (.sh 0)), .any, .any, (.lv (.sh 1)), (.lv (.sh 1)), .any, (.lv (.sh 0)), .any, .any] (.seq (.seq (.load 13 6 .dyn) (.seq (.bind 11 13) (.const 13))) (.seq (.load 13 5 .dyn) (.seq (.call 14 409 [11, 13, 2]) (.store 12 .dyn 14))))) (.aug 4 12)))))))))))))) (.seq (.call 12 307 [4]) (.ret 12)))))),
  (.lv (.sh 2))⟩

/-- bermuda/utils/method_moments.py:46  params: samples, sample_fn, <globals> -/
def f414 : Fn := ⟨"bermuda.utils.method_moments:_generate_samples", [0, 1, 2], [],
  (.seq (.seq (.seq (.const 4) (.const 4)) (.seq (.arith 4) (.seq (.ite (.seq (.const 4) (.ret 4)) .skip) (.call 4 415 [0])))) (.seq (.seq (.bind 3 4) (.seq (.load 4 3 .dyn) (.havoc 4))) (.seq (.call 5 419 [4, 0]) (.seq (.arith 4) (.ret 4))))),
  (.lv .num)⟩

/-- bermuda/utils/method_moments.py:19  params: samples, <globals> -/
def f415 : Fn := ⟨"bermuda.utils.method_moments:_get_sample_moments", [0, 1], [],
  (.seq (.seq (.arith 2) (.arith 3)) (.seq (.const 4) (.seq (.alloc 5 .nums (.lit [("", 2), ("", 3), ("", 4)])) (.ret 5)))),
  (.lv .nums)⟩

/-- bermuda/utils/method_moments.py:33  params: mu, sigma2, n, <globals> -/
def f416 : Fn := ⟨"bermuda.utils.method_moments:_sample_gamma_dist", [0, 1, 2, 3], [],
  (.seq (.seq (.seq (.const 0) (.seq (.const 1) (.const 2))) (.seq (.const 6) (.seq (.arith 6) (.arith 6)))) (.seq (.seq (.bind 5 6) (.seq (.arith 6) (.bind 4 6))) (.seq (.seq (.const 6) (.arith 6)) (.seq (.arith 6) (.ret 6))))),
  (.lv .num)⟩

/-- bermuda/utils/method_moments.py:27  params: mu, sigma2, n, <globals> -/
def f417 : Fn := ⟨"bermuda.utils.method_moments:_sample_lognormal_dist", [0, 1, 2, 3], [],
  (.seq (.seq (.seq (.seq (.const 0) (.const 1)) (.seq (.const 2) (.seq (.const 6) (.arith 6)))) (.seq (.seq (.const 6) (.seq (.arith 6) (.arith 6))) (.seq (.arith 6) (.seq (.arith 6) (.bind 5 6))))) (.seq (.seq (.seq (.const 6) (.const 6)) (.seq (.arith 6) (.seq (.arith 6) (.arith 6)))) (.seq (.seq (.arith 6) (.seq (.bind 4 6) (.arith 6))) (.seq (.arith 6) (.seq (.arith 6) (.ret 6)))))),
  (.lv .num)⟩

/-- bermuda/utils/method_moments.py:23  params: mu, sigma2, n, <globals> -/
def f418 : Fn := ⟨"bermuda.utils.method_moments:_sample_normal_dist", [0, 1, 2, 3], [],
  (.seq (.seq (.const 0) (.seq (.const 1) (.const 2))) (.seq (.arith 4) (.seq (.arith 4) (.ret 4)))),
  (.lv .num)⟩

/-- bermuda/utils/method_moments.py:10  params: x, y, <globals> -/
def f419 : Fn := ⟨"bermuda.utils.method_moments:_sort_x_on_y_rank", [0, 1, 2], [],
  (.seq (.seq (.seq (.arith 5) (.bind 4 5)) (.seq (.arith 5) (.seq (.bind 3 5) (.const 5)))) (.seq (.seq (.arith 5) (.seq (.store 3 .dyn 5) (.alloc 5 (.sh 0) (.union [0])))) (.seq (.arith 5) (.seq (.load 6 5 .dyn) (.ret 6))))),
  .scalar⟩

/-- bermuda/utils/method_moments.py:58  params: triangle, field_names, distribution, <globals> -/
def f420 : Fn := ⟨"bermuda.utils.method_moments:moment_match", [0, 1, 2, 3], [],
  (.seq (.seq (.seq (.const 2) (.seq (.const 7) (.alloc 7 (.sh 0) (.union [1])))) (.seq (.seq (.ite (.seq (.load 7 0 .dyn) (.load 8 7 .dyn)) (.call 8 326 [0])) (.alloc 7 (.sh 0) (.union [8]))) (.seq (.arith 7) (.alloc 8 .nums (.union [7]))))) (.seq (.seq (.bind 5 8) (.seq (.const 7) (.const 7))) (.seq (.seq (.arith 7) (.ite (.seq (.const 7) (.seq (.const 7) .raise)) .skip)) (.seq (.loop [.any, .any, .scalar, .any, .scalar, (.lv .nums), .any, .any, (.lv .nums), .any, .any] (.block (.seq (.seq (.seq (.const 7) (.bind 4 7)) (.seq (.alloc 7 .nums .dict) (.ite .skip (.loop [.any, .any, .scalar, .any, .scalar, (.lv .nums), .any, (.lv .nums), .any, .any, .any] (.block (.seq (.seq (.havoc 6) (.load 8 6 .dyn)) (.seq (.load 9 3 .dyn) (.seq (.load 10 9 .dyn) (.ite (.call 9 414 [8, 10]) (.bind 9 8)))))))))) (.seq (.seq (.const 8) (.store 7 .dyn 8)) (.seq (.load 8 7 .dyn) (.seq (.ite (.call 7 24 [0, 8]) (.call 7 316 [0, 8])) (.bind 0 7))))))) (.ret 0))))),
  .any⟩

/-- bermuda/utils/premium_pattern.py:10  params: premium_volume, writing_pattern, writing_resolution, earning_pattern, earning_resolution, output_resolution, output_offset, continuous_writing, <globals> -/
def f421 : Fn := ⟨"bermuda.utils.premium_pattern:program_earned_premium", [0, 1, 2, 3, 4, 5, 6, 7, 8], [],
  (.seq (.seq (.seq (.seq (.seq (.const 0) (.seq (.const 2) (.const 4))) (.seq (.const 5) (.seq (.const 6) (.const 7)))) (.seq (.seq (.const 22) (.seq (.arith 22) (.arith 22))) (.seq (.bind 19 22) (.seq (.arith 22) (.arith 22))))) (.seq (.seq (.seq (.arith 22) (.seq (.bind 18 22) (.arith 22))) (.seq (.arith 22) (.seq (.bind 17 22) (.arith 22)))) (.seq (.seq (.arith 22) (.seq (.bind 16 22) (.ite (.seq (.seq (.seq (.seq (.const 22) (.arith 22)) (.seq (.const 23) (.alloc 24 (.sh 1) (.lit [("", 23)])))) (.seq (.seq (.alloc 23 (.sh 2) (.lit [("", 22), ("", 24)])) (.arith 22)) (.seq (.const 23) (.alloc 24 (.sh 1) (.lit [("", 23)]))))) (.seq (.seq (.seq (.const 23) (.arith 23)) (.seq (.alloc 25 (.sh 2) (.lit [("", 24), ("", 23)])) (.arith 23))) (.seq (.seq (.alloc 24 .nums (.lit [("", 22), ("", 23)])) (.const 22)) (.seq (.arith 22) (.bind 15 22))))) (.bind 15 16)))) (.seq (.const 22) (.seq (.bind 14 22) (.alloc 22 .nums .dict)))))) (.seq (.seq (.seq (.seq (.loop [.scalar, .any, .scalar, .any, .scalar, .scalar, .scalar, .scalar, .any, .scalar, .scalar, .scalar, .scalar, .scalar, .scalar, (.lv .num), (.lv .num), (.lv .num), (.lv .num), (.lv .num), .scalar, .scalar, (.lv .nums), (.lv .num), (.lv .nums), (.lv (.sh 2))] (.seq (.seq (.seq (.seq (.const 23) (.bind 20 23)) (.seq (.load 23 18 .dyn) (.bind 21 23))) (.seq (.seq (.const 23) (.alloc 24 (.sh 1) (.lit [("", 23)]))) (.seq (.ite (.arith 23) (.alloc 23 (.sh 1) (.union [24, 20]))) (.const 24)))) (.seq (.seq (.seq (.alloc 25 .nums (.lit [("", 24)])) (.arith 24)) (.seq (.const 24) (.arith 24))) (.seq (.seq (.arith 24) (.alloc 25 (.sh 2) (.lit [("", 23), ("", 15), ("", 24)]))) (.seq (.arith 23) (.seq (.arith 23) (.store 22 .dyn 23))))))) (.seq (.const 22) (.arith 22))) (.seq (.bind 13 22) (.seq (.const 22) (.alloc 23 .nums (.lit [("", 22)]))))) (.seq (.seq (.bind 12 23) (.seq (.const 22) (.alloc 23 .nums (.lit [("", 22)])))) (.seq (.bind 11 23) (.seq (.const 22) (.bind 10 22))))) (.seq (.seq (.seq (.const 22) (.seq (.arith 22) (.ite (.bind 22 6) (.bind 22 5)))) (.seq (.bind 9 22) (.seq (.loop [.scalar, .any, .scalar, .any, .scalar, .scalar, .scalar, .scalar, .any, (.lv (.sh 1)), (.lv (.sh 1)), (.lv .nums), (.lv .nums), (.lv .num), .scalar, (.lv .num), (.lv .num), (.lv .num), (.lv .num), (.lv .num), .scalar, .scalar, (.lv (.sh 1)), .any, (.lv .nums), (.lv (.sh 2))] (.block (.seq (.seq (.seq (.seq (.load 22 13 .dyn) (.load 23 22 .dyn)) (.seq (.arith 22) (.ite (.bind 22 18) (.alloc 22 .nums (.union [18]))))) (.seq (.seq (.arith 22) (.store 11 .dyn 22)) (.seq (.const 22) (.ite (.bind 22 13) (.alloc 22 .nums (.union [13])))))) (.seq (.seq (.seq (.arith 22) (.store 12 .dyn 22)) (.seq (.const 22) (.ite (.arith 22) (.alloc 22 (.sh 1) (.union [9, 5]))))) (.seq (.seq (.alloc 23 (.sh 2) (.lit [("", 9), ("", 22)])) (.load 22 23 .dyn)) (.seq (.bind 10 22) (.seq (.load 22 23 .dyn) (.bind 9 22)))))))) (.load 22 13 .dyn)))) (.seq (.seq (.load 23 22 .dyn) (.seq (.arith 22) (.arith 22))) (.seq (.arith 23) (.seq (.alloc 24 .nums (.lit [("", 22), ("", 23)])) (.ret 24))))))),
  (.lv .nums)⟩

/-- bermuda/utils/shift_origin.py:7  params: triangle, origin_match_triangle, <globals> -/
def f422 : Fn := ⟨"bermuda.utils.shift_origin:shift_origin", [0, 1, 2], [],
  (.seq (.seq (.seq (.seq (.seq (.const 12) (.call 12 64 [0])) (.seq (.bind 8 12) (.seq (.call 12 64 [1]) (.bind 7 12)))) (.seq (.seq (.arith 12) (.ite (.seq (.const 12) (.seq (.const 12) .raise)) .skip)) (.seq (.const 12) (.seq (.const 13) (.alloc 14 .nums (.lit [("", 12), ("", 13)])))))) (.seq (.seq (.seq (.arith 12) (.ite (.seq (.const 12) (.seq (.const 12) .raise)) .skip)) (.seq (.ite (.seq (.load 12 0 .dyn) (.load 13 12 .dyn)) (.call 13 344 [0])) (.seq (.const 12) (.load 12 13 .dyn)))) (.seq (.seq (.const 13) (.load 13 12 .dyn)) (.seq (.load 12 13 .dyn) (.seq (.load 13 12 .dyn) (.arith 12)))))) (.seq (.seq (.seq (.seq (.bind 6 12) (.ite (.seq (.load 12 1 .dyn) (.load 13 12 .dyn)) (.call 13 344 [1]))) (.seq (.const 12) (.seq (.load 12 13 .dyn) (.const 13)))) (.seq (.seq (.load 13 12 .dyn) (.load 12 13 .dyn)) (.seq (.load 13 12 .dyn) (.seq (.arith 12) (.bind 5 12))))) (.seq (.seq (.seq (.arith 12) (.bind 4 12)) (.seq (.ite .skip (.loop [.any, .any, .any, .scalar, (.lv .num), (.lv .num), (.lv .num), .any, .any, .any, .scalar, .scalar, (.lv .num), .any, (.lv .nums)] (.block (.seq (.seq (.havoc 9) (.load 12 9 .dyn)) (.seq (.load 13 12 .dyn) (.call 12 56 [13, 4])))))) (.seq (.const 12) (.ite .skip (.loop [.any, .any, .any, .scalar, (.lv .num), (.lv .num), (.lv .num), .any, .any, .any, .any, .scalar, .scalar, .any, .any] (.block (.seq (.seq (.havoc 10) (.load 13 10 .dyn)) (.seq (.load 14 13 .dyn) (.call 13 56 [14, 4]))))))))) (.seq (.seq (.const 13) (.seq (.ite .skip (.loop [.any, .any, .any, .scalar, (.lv .num), (.lv .num), (.lv .num), .any, .any, .any, .any, .any, .scalar, .scalar, .any, .any] (.block (.seq (.havoc 11) (.seq (.ite (.seq (.load 14 11 .dyn) (.load 15 14 .dyn)) (.call 15 320 [11])) (.call 14 56 [15, 4])))))) (.const 14))) (.seq (.ite (.call 15 29 [0, 12, 13, 14]) (.ite (.call 15 346 [0, 12, 13, 14]) (.const 15))) (.seq (.bind 3 15) (.ret 3))))))),
  .any⟩

/-- bermuda/utils/slice.py:9  params: triangle_slice, <globals> -/
def f423 : Fn := ⟨"bermuda.utils.slice:slice_to_triangle", [0, 1], [],
  (.seq (.ite (.seq (.load 2 0 .dyn) (.load 3 2 .dyn)) (.call 3 313 [0])) (.seq (.call 2 307 [3]) (.ret 2))),
  (.lv (.sh 2))⟩

/-- bermuda/utils/slice.py:13  params: triangle, <globals> -/
def f424 : Fn := ⟨"bermuda.utils.slice:triangle_to_slice", [0, 1], [],
  (.seq (.ite (.seq (.load 2 0 .dyn) (.load 3 2 .dyn)) (.call 3 313 [0])) (.seq (.call 2 353 [3]) (.ret 2))),
  (.lv (.sh 2))⟩

/-- bermuda/utils/summarize.py:35  params: vd, <globals> -/
def f425 : Fn := ⟨"bermuda.utils.summarize:<lambda@35:17>", [0, 1], [],
  (.seq (.seq (.const 2) (.load 2 0 .dyn)) (.seq (.call 3 445 [2]) (.ret 3))),
  (.lv .num)⟩

/-- bermuda/utils/summarize.py:36  params: vd, <globals> -/
def f426 : Fn := ⟨"bermuda.utils.summarize:<lambda@36:21>", [0, 1], [],
  (.seq (.seq (.const 2) (.load 2 0 .dyn)) (.seq (.call 3 445 [2]) (.ret 3))),
  (.lv .num)⟩

/-- bermuda/utils/summarize.py:37  params: vd, <globals> -/
def f427 : Fn := ⟨"bermuda.utils.summarize:<lambda@37:21>", [0, 1], [],
  (.seq (.seq (.const 2) (.load 2 0 .dyn)) (.seq (.call 3 445 [2]) (.ret 3))),
  (.lv .num)⟩

/-- bermuda/utils/summarize.py:38  params: vd, <globals> -/
def f428 : Fn := ⟨"bermuda.utils.summarize:<lambda@38:23>", [0, 1], [],
  (.seq (.seq (.const 2) (.load 2 0 .dyn)) (.seq (.call 3 445 [2]) (.ret 3))),
  (.lv .num)⟩

/-- bermuda/utils/summarize.py:39  params: vd, <globals> -/
def f429 : Fn := ⟨"bermuda.utils.summarize:<lambda@39:19>", [0, 1], [],
  (.seq (.seq (.const 2) (.load 2 0 .dyn)) (.seq (.call 3 445 [2]) (.ret 3))),
  (.lv .num)⟩

/-- bermuda/utils/summarize.py:40  params: vd, <globals> -/
def f430 : Fn := ⟨"bermuda.utils.summarize:<lambda@40:21>", [0, 1], [],
  (.seq (.seq (.const 2) (.load 2 0 .dyn)) (.seq (.call 3 445 [2]) (.ret 3))),
  (.lv .num)⟩

/-- bermuda/utils/summarize.py:41  params: vd, <globals> -/
def f431 : Fn := ⟨"bermuda.utils.summarize:<lambda@41:30>", [0, 1], [],
  (.seq (.seq (.const 2) (.load 2 0 .dyn)) (.seq (.call 3 445 [2]) (.ret 3))),
  (.lv .num)⟩

/-- bermuda/utils/summarize.py:42  params: vd, <globals> -/
def f432 : Fn := ⟨"bermuda.utils.summarize:<lambda@42:22>", [0, 1], [],
  (.seq (.seq (.const 2) (.load 2 0 .dyn)) (.seq (.call 3 445 [2]) (.ret 3))),
  (.lv .num)⟩

/-- bermuda/utils/summarize.py:43  params: vd, <globals> -/
def f433 : Fn := ⟨"bermuda.utils.summarize:<lambda@43:18>", [0, 1], [],
  (.seq (.seq (.const 2) (.load 2 0 .dyn)) (.seq (.call 3 445 [2]) (.ret 3))),
  (.lv .num)⟩

/-- bermuda/utils/summarize.py:44  params: vd, <globals> -/
def f434 : Fn := ⟨"bermuda.utils.summarize:<lambda@44:20>", [0, 1], [],
  (.seq (.seq (.const 2) (.load 2 0 .dyn)) (.seq (.call 3 445 [2]) (.ret 3))),
  (.lv .num)⟩

/-- bermuda/utils/summarize.py:45  params: vd, <globals> -/
def f435 : Fn := ⟨"bermuda.utils.summarize:<lambda@45:29>", [0, 1], [],
  (.seq (.seq (.const 2) (.load 2 0 .dyn)) (.seq (.call 3 445 [2]) (.ret 3))),
  (.lv .num)⟩

/-- bermuda/utils/summarize.py:46  params: vd, <globals> -/
def f436 : Fn := ⟨"bermuda.utils.summarize:<lambda@46:22>", [0, 1], [],
  (.seq (.seq (.const 2) (.load 2 0 .dyn)) (.seq (.call 3 445 [2]) (.ret 3))),
  (.lv .num)⟩

/-- bermuda/utils/summarize.py:47  params: vd, <globals> -/
def f437 : Fn := ⟨"bermuda.utils.summarize:<lambda@47:27>", [0, 1], [],
  (.seq (.seq (.const 2) (.load 2 0 .dyn)) (.seq (.call 3 445 [2]) (.ret 3))),
  (.lv .num)⟩

/-- bermuda/utils/summarize.py:48  params: vd, <globals> -/
def f438 : Fn := ⟨"bermuda.utils.summarize:<lambda@48:23>", [0, 1], [],
  (.seq (.seq (.const 2) (.load 2 0 .dyn)) (.seq (.call 3 445 [2]) (.ret 3))),
  (.lv .num)⟩

/-- bermuda/utils/summarize.py:49  params: vd, <globals> -/
def f439 : Fn := ⟨"bermuda.utils.summarize:<lambda@49:23>", [0, 1], [],
  (.seq (.seq (.const 2) (.load 2 0 .dyn)) (.seq (.call 3 445 [2]) (.ret 3))),
  (.lv .num)⟩

/-- bermuda/utils/summarize.py:50  params: vd, <globals> -/
def f440 : Fn := ⟨"bermuda.utils.summarize:<lambda@50:24>", [0, 1], [],
  (.seq (.seq (.const 2) (.load 2 0 .dyn)) (.seq (.call 3 445 [2]) (.ret 3))),
  (.lv .num)⟩

/-- bermuda/utils/summarize.py:51  params: vd, <globals> -/
def f441 : Fn := ⟨"bermuda.utils.summarize:<lambda@51:19>", [0, 1], [],
  (.seq (.seq (.const 2) (.seq (.load 2 0 .dyn) (.const 3))) (.seq (.load 3 0 .dyn) (.seq (.call 4 446 [2, 3]) (.ret 4)))),
  .any⟩

/-- bermuda/utils/summarize.py:54  params: vd, <globals> -/
def f442 : Fn := ⟨"bermuda.utils.summarize:<lambda@54:17>", [0, 1], [],
  (.seq (.seq (.const 2) (.seq (.load 2 0 .dyn) (.const 3))) (.seq (.load 3 0 .dyn) (.seq (.call 4 446 [2, 3]) (.ret 4)))),
  .any⟩

/-- bermuda/utils/summarize.py:57  params: vd, <globals> -/
def f443 : Fn := ⟨"bermuda.utils.summarize:<lambda@57:24>", [0, 1], [],
  (.seq (.seq (.const 2) (.seq (.load 2 0 .dyn) (.const 3))) (.seq (.load 3 0 .dyn) (.seq (.call 4 446 [2, 3]) (.ret 4)))),
  .any⟩

/-- bermuda/utils/summarize.py:60  params: vd, <globals> -/
def f444 : Fn := ⟨"bermuda.utils.summarize:<lambda@60:23>", [0, 1], [],
  (.seq (.seq (.seq (.const 2) (.load 2 0 .dyn)) (.seq (.arith 2) (.const 3))) (.seq (.seq (.load 3 0 .dyn) (.const 4)) (.seq (.call 5 446 [2, 3, 4]) (.ret 5)))),
  .any⟩

/-- bermuda/utils/summarize.py:156  params: values, <globals> -/
def f445 : Fn := ⟨"bermuda.utils.summarize:_conforming_sum", [0, 1], [],
  (.seq (.seq (.const 4) (.const 4)) (.seq (.bind 2 4) (.seq (.loop [.any, .any, (.lv .num), .any, (.lv .num), .scalar, (.lv .num), (.lv .num)] (.block (.seq (.seq (.seq (.seq (.load 4 0 .dyn) (.bind 3 4)) (.seq (.const 4) (.arith 4))) (.seq (.seq (.ite .brk .skip) (.const 4)) (.seq (.const 4) (.const 5)))) (.seq (.seq (.seq (.const 5) (.load 6 2 .dyn)) (.seq (.load 7 6 .dyn) (.load 6 3 .dyn))) (.seq (.seq (.load 7 6 .dyn) (.arith 6)) (.seq (.ite (.bind 7 4) (.ite (.bind 7 5) (.bind 7 6))) (.seq (.ite (.seq (.seq (.load 4 2 .dyn) (.seq (.load 5 4 .dyn) (.load 4 3 .dyn))) (.seq (.seq (.load 5 4 .dyn) (.const 4)) (.seq (.const 4) .raise))) .skip) (.aug 2 3)))))))) (.ret 2)))),
  (.lv .num)⟩

/-- bermuda/utils/summarize.py:171  params: values, weights, post_transform, <globals> -/
def f446 : Fn := ⟨"bermuda.utils.summarize:_conforming_weighted_average", [0, 1, 2, 3], [],
  (.seq (.seq (.seq (.const 8) (.const 8)) (.seq (.bind 4 8) (.seq (.loop [.any, .any, .any, .any, (.lv .num), .any, .any, .scalar, (.lv .num), .scalar, (.lv .num), (.lv .num)] (.block (.seq (.seq (.seq (.seq (.load 8 0 .dyn) (.bind 6 8)) (.seq (.load 8 1 .dyn) (.seq (.bind 5 8) (.const 8)))) (.seq (.seq (.arith 8) (.ite .brk .skip)) (.seq (.const 8) (.seq (.const 8) (.const 9))))) (.seq (.seq (.seq (.const 9) (.load 10 4 .dyn)) (.seq (.load 11 10 .dyn) (.seq (.load 10 6 .dyn) (.load 11 10 .dyn)))) (.seq (.seq (.arith 10) (.ite (.bind 11 8) (.ite (.bind 11 9) (.bind 11 10)))) (.seq (.ite (.seq (.seq (.load 8 4 .dyn) (.seq (.load 9 8 .dyn) (.load 8 6 .dyn))) (.seq (.seq (.load 9 8 .dyn) (.const 8)) (.seq (.const 8) .raise))) .skip) (.seq (.arith 8) (.aug 4 8)))))))) (.alloc 8 (.sh 0) .dict)))) (.seq (.seq (.loop [.any, .any, .any, .any, (.lv .num), .any, .any, .any, (.lv (.sh 0)), (.lv .num), (.lv .num), (.lv .num)] (.seq (.seq (.load 9 1 .dyn) (.bind 7 9)) (.seq (.const 9) (.seq (.arith 9) (.ite .skip (.store 8 .dyn 7)))))) (.arith 8)) (.seq (.arith 8) (.seq (.havoc 8) (.ret 8))))),
  .any⟩

/-- bermuda/utils/summarize.py:509  params: dicts, <globals> -/
def f447 : Fn := ⟨"bermuda.utils.summarize:_details_gcd", [0, 1], [],
  (.seq (.seq (.seq (.const 8) (.seq (.load 8 0 .dyn) (.alloc 9 (.sh 0) (.union [8])))) (.seq (.alloc 8 (.sh 0) (.union [9])) (.seq (.bind 7 8) (.const 8)))) (.seq (.seq (.ite (.bind 8 0) (.alloc 8 (.sh 0) (.union [0]))) (.seq (.loop [.any, .any, .scalar, .any, .scalar, .scalar, .scalar, (.lv (.sh 0)), .any, (.lv (.sh 0)), (.lv (.sh 0))] (.block (.seq (.seq (.load 9 8 .dyn) (.bind 3 9)) (.seq (.alloc 9 (.sh 0) (.union [3])) (.seq (.alloc 10 (.sh 0) (.union [9])) (.ite (.shrink 7) (.arith 7))))))) (.alloc 8 (.sh 0) .dict))) (.seq (.bind 6 8) (.seq (.loop [.any, .any, .scalar, .any, .any, .any, (.lv (.sh 0)), (.lv (.sh 0)), (.lv (.sh 0)), (.lv (.sh 0)), (.lv (.sh 0))] (.block (.seq (.seq (.seq (.load 8 7 .dyn) (.seq (.bind 5 8) (.const 8))) (.seq (.seq (.load 8 0 .dyn) (.load 9 8 .dyn)) (.seq (.bind 4 9) (.const 8)))) (.seq (.seq (.seq (.bind 2 8) (.const 8)) (.seq (.ite (.bind 8 0) (.alloc 8 (.sh 0) (.union [0]))) (.loop [.any, .any, .scalar, .any, .any, .any, (.lv (.sh 0)), (.lv (.sh 0)), .any, .any, (.lv (.sh 0))] (.block (.seq (.seq (.load 9 8 .dyn) (.bind 3 9)) (.seq (.load 9 3 .dyn) (.seq (.arith 9) (.ite (.seq (.const 9) (.seq (.bind 2 9) .brk)) .skip)))))))) (.seq (.seq (.const 8) (.arith 8)) (.seq (.ite (.bind 9 2) (.bind 9 8)) (.ite (.store 6 .dyn 4) .skip))))))) (.ret 6))))),
  (.lv (.sh 0))⟩

/-- bermuda/utils/summarize.py:216  params: values, weights, <globals> -/
def f448 : Fn := ⟨"bermuda.utils.summarize:_linear_blend", [0, 1, 2], [],
  (.seq (.seq (.seq (.seq (.const 11) (.alloc 11 (.sh 0) .dict)) (.seq (.loop [.any, .any, .any, .scalar, .scalar, .scalar, .scalar, .scalar, .scalar, .any, .scalar, (.lv (.sh 0)), (.lv (.sh 0)), .any, (.lv .nums)] (.seq (.seq (.seq (.load 12 0 .dyn) (.bind 9 12)) (.seq (.const 12) (.const 13))) (.seq (.seq (.alloc 14 .nums (.lit [("", 12), ("", 13)])) (.const 12)) (.seq (.ite (.seq (.alloc 12 (.sh 0) (.lit [("", 9)])) (.bind 13 12)) (.bind 13 9)) (.store 11 .dyn 13))))) (.seq (.bind 0 11) (.alloc 11 .nums .dict)))) (.seq (.seq (.loop [(.lv (.sh 0)), .any, .any, .scalar, .scalar, .scalar, .scalar, .scalar, .scalar, .any, .any, (.lv .nums), (.lv (.sh 0)), .any, (.lv .nums)] (.seq (.seq (.load 12 0 .dyn) (.bind 10 12)) (.seq (.const 12) (.store 11 .dyn 12)))) (.seq (.ite (.const 12) (.ite (.load 12 11 .dyn) (.bind 12 11))) (.bind 8 12))) (.seq (.const 11) (.seq (.bind 7 11) (.const 11))))) (.seq (.seq (.seq (.const 11) (.seq (.arith 11) (.ite (.seq (.seq (.arith 11) (.const 12)) (.seq (.alloc 13 .nums (.lit [("", 7), ("", 12)])) (.seq (.ite (.arith 12) (.ite (.load 12 11 .dyn) (.ite (.bind 12 11) (.bind 12 13)))) (.bind 1 12)))) .skip))) (.seq (.alloc 11 (.sh 0) (.lit [("", 8), ("", 7)])) (.seq (.arith 11) (.bind 6 11)))) (.seq (.seq (.loop [(.lv (.sh 0)), .any, .any, .scalar, .any, .scalar, (.lv .num), .scalar, (.lv .nums), .any, .any, (.lv .num), (.lv .nums), .any, (.lv .nums)] (.block (.seq (.seq (.seq (.const 11) (.seq (.bind 5 11) (.load 11 0 .dyn))) (.seq (.seq (.bind 4 11) (.const 11)) (.seq (.arith 11) (.const 12)))) (.seq (.seq (.seq (.const 12) (.arith 12)) (.seq (.ite (.bind 13 11) (.bind 13 12)) (.ite (.seq (.seq (.const 11) (.const 11)) (.seq (.const 11) .raise)) .skip))) (.seq (.seq (.const 11) (.const 11)) (.seq (.arith 11) (.ite (.seq (.arith 11) (.store 6 .dyn 11)) (.store 6 .dyn 4)))))))) (.seq (.arith 11) (.bind 3 11))) (.seq (.alloc 11 (.sh 0) (.lit [("", 8)])) (.seq (.ite (.arith 12) (.ite (.load 12 3 .dyn) (.ite (.bind 12 3) (.bind 12 11)))) (.ret 12)))))),
  (.lv (.sh 0))⟩

/-- bermuda/utils/summarize.py:530  params: triangle, attr_name, <globals> -/
def f449 : Fn := ⟨"bermuda.utils.summarize:_metadata_attr_gcd", [0, 1, 2], [],
  (.seq (.seq (.seq (.const 1) (.seq (.ite (.seq (.load 5 0 .dyn) (.load 6 5 .dyn)) (.call 6 313 [0])) (.const 5))) (.seq (.load 5 6 .dyn) (.seq (.ite (.seq (.load 6 5 .dyn) (.load 7 6 .dyn)) (.call 7 339 [5])) (.ite (.arith 5) (.ite (.load 5 7 .dyn) (.ite (.bind 5 7) (.bind 5 1))))))) (.seq (.seq (.bind 3 5) (.seq (.alloc 5 .nums .dict) (.loop [.any, .scalar, .any, .any, .any, (.lv .nums), .any, .any] (.seq (.seq (.load 6 0 .dyn) (.seq (.bind 4 6) (.ite (.seq (.load 6 4 .dyn) (.load 7 6 .dyn)) (.call 7 339 [4])))) (.seq (.ite (.arith 6) (.ite (.load 6 7 .dyn) (.ite (.bind 6 7) (.bind 6 1)))) (.seq (.arith 6) (.store 5 .dyn 6))))))) (.seq (.seq (.const 5) (.ite (.ret 3) .skip)) (.seq (.const 5) (.ret 5))))),
  .any⟩

/-- bermuda/utils/summarize.py:489  params: triangle, <globals> -/
def f450 : Fn := ⟨"bermuda.utils.summarize:_metadata_gcd", [0, 1], [],
  (.seq (.seq (.seq (.seq (.seq (.ite (.seq (.load 4 0 .dyn) (.load 5 4 .dyn)) (.call 5 329 [0])) (.const 4)) (.seq (.ite (.seq (.const 4) (.seq (.const 4) .raise)) .skip) (.seq (.ite (.seq (.load 4 0 .dyn) (.load 5 4 .dyn)) (.call 5 328 [0])) (.const 4)))) (.seq (.seq (.ite (.seq (.const 4) (.seq (.const 4) .raise)) .skip) (.seq (.ite (.seq (.load 4 0 .dyn) (.load 5 4 .dyn)) (.call 5 313 [0])) (.const 4))) (.seq (.load 4 5 .dyn) (.seq (.load 5 4 .dyn) (.load 4 5 .dyn))))) (.seq (.seq (.seq (.ite (.seq (.load 5 0 .dyn) (.load 6 5 .dyn)) (.call 6 313 [0])) (.const 5)) (.seq (.load 5 6 .dyn) (.seq (.load 6 5 .dyn) (.load 5 6 .dyn)))) (.seq (.seq (.const 6) (.seq (.call 7 449 [0, 6]) (.const 6))) (.seq (.call 8 449 [0, 6]) (.seq (.const 6) (.call 9 449 [0, 6])))))) (.seq (.seq (.seq (.seq (.const 6) (.call 10 449 [0, 6])) (.seq (.alloc 6 (.sh 0) .dict) (.seq (.ite (.seq (.load 11 0 .dyn) (.load 12 11 .dyn)) (.call 12 313 [0])) (.loop [.any, .any, .any, .scalar, .any, .any, (.lv (.sh 0)), .any, .any, .any, .any, .any, .any, .any] (.seq (.seq (.load 11 12 .dyn) (.seq (.bind 2 11) (.ite (.seq (.load 11 2 .dyn) (.load 13 11 .dyn)) (.call 13 339 [2])))) (.seq (.load 11 13 .dyn) (.seq (.load 13 11 .dyn) (.store 6 .dyn 13)))))))) (.seq (.seq (.call 11 447 [6]) (.seq (.alloc 6 (.sh 0) .dict) (.ite (.seq (.load 12 0 .dyn) (.load 13 12 .dyn)) (.call 13 313 [0])))) (.seq (.loop [.any, .any, .any, .any, .any, .any, (.lv (.sh 0)), .any, .any, .any, .any, (.lv (.sh 0)), .any, .any, .any] (.seq (.seq (.load 12 13 .dyn) (.seq (.bind 3 12) (.ite (.seq (.load 12 3 .dyn) (.load 14 12 .dyn)) (.call 14 339 [3])))) (.seq (.load 12 14 .dyn) (.seq (.load 14 12 .dyn) (.store 6 .dyn 14))))) (.seq (.call 12 447 [6]) (.alloc 6 (.sh 0) (.lit [("", 4)])))))) (.seq (.seq (.seq (.alloc 13 (.sh 0) (.lit [("", 5)])) (.alloc 14 (.sh 0) (.lit [("", 7)]))) (.seq (.alloc 15 (.sh 0) (.lit [("", 8)])) (.seq (.alloc 16 (.sh 0) (.lit [("", 9)])) (.alloc 17 (.sh 0) (.lit [("", 10)]))))) (.seq (.seq (.alloc 18 (.sh 1) (.lit [("", 11)])) (.seq (.alloc 19 (.sh 1) (.lit [("", 12)])) (.alloc 20 (.sh 0) (.lit [("", 6), ("", 13), ("", 14), ("", 15), ("", 16), ("", 17), ("", 18), ("", 19)])))) (.seq (.call 6 45 [4, 5, 7, 8, 9, 10, 11, 12]) (.seq (.merge 20 6) (.ret 20))))))),
  (.lv (.sh 0))⟩

/-- bermuda/utils/summarize.py:242  params: values, weights, seed, <globals> -/
def f451 : Fn := ⟨"bermuda.utils.summarize:_mixture_blend", [0, 1, 2, 3], [],
  (.seq (.seq (.seq (.seq (.const 2) (.seq (.const 10) (.arith 10))) (.seq (.const 10) (.seq (.const 10) (.const 10)))) (.seq (.seq (.arith 10) (.seq (.ite (.seq (.const 10) (.seq (.const 10) .raise)) .skip) (.const 10))) (.seq (.const 10) (.seq (.bind 9 10) (.const 10))))) (.seq (.seq (.seq (.load 10 0 .dyn) (.seq (.const 10) (.const 11))) (.seq (.load 11 10 .dyn) (.seq (.bind 8 11) (.const 10)))) (.seq (.seq (.arith 10) (.seq (.bind 7 10) (.alloc 10 .nums (.lit [("", 8)])))) (.seq (.seq (.arith 10) (.bind 6 10)) (.seq (.loop [.any, .any, .scalar, .any, .any, .scalar, (.lv .num), (.lv .num), .scalar, .scalar, .any, (.lv .num)] (.block (.seq (.seq (.seq (.const 10) (.bind 5 10)) (.seq (.load 10 0 .dyn) (.bind 4 10))) (.seq (.seq (.arith 10) (.load 10 4 .dyn)) (.seq (.arith 11) (.store 6 .dyn 10)))))) (.ret 6)))))),
  (.lv .num)⟩

/-- bermuda/utils/summarize.py:135  params: cells, <globals> -/
def f452 : Fn := ⟨"bermuda.utils.summarize:_non_loss_distinct_indices", [0, 1], [],
  (.seq (.seq (.seq (.alloc 11 (.sh 0) .dict) (.seq (.loop [.any, .any, .scalar, .scalar, .scalar, .scalar, .scalar, .scalar, .scalar, .any, .scalar, (.lv (.sh 0)), .any, .any] (.seq (.seq (.seq (.load 12 0 .dyn) (.bind 9 12)) (.seq (.ite (.seq (.load 12 9 .dyn) (.load 13 12 .dyn)) (.call 13 339 [9])) (.load 12 13 .dyn))) (.seq (.seq (.load 13 12 .dyn) (.const 12)) (.seq (.arith 12) (.ite .skip (.seq (.seq (.ite (.seq (.load 12 9 .dyn) (.load 13 12 .dyn)) (.call 13 339 [9])) (.load 12 13 .dyn)) (.seq (.load 13 12 .dyn) (.store 11 .dyn 13)))))))) (.bind 8 11))) (.seq (.seq (.ite (.seq (.ite (.const 11) (.ite (.load 11 8 .dyn) (.bind 11 8))) (.bind 12 11)) (.seq (.const 11) (.bind 12 11))) (.bind 7 12)) (.seq (.alloc 11 (.sh 1) .dict) (.loop [.any, .any, .scalar, .scalar, .scalar, .scalar, .scalar, .any, (.lv (.sh 0)), .any, .any, (.lv (.sh 1)), .any, .any, (.lv (.sh 0))] (.seq (.seq (.seq (.load 12 0 .dyn) (.bind 10 12)) (.seq (.ite (.seq (.load 12 10 .dyn) (.load 13 12 .dyn)) (.call 13 339 [10])) (.alloc 12 .nums .dict))) (.seq (.seq (.alloc 14 (.sh 0) (.union [13])) (.store 14 .dyn 12)) (.seq (.store 14 .dyn 7) (.store 11 .dyn 14)))))))) (.seq (.seq (.bind 6 11) (.seq (.alloc 11 (.sh 1) (.union [])) (.bind 2 11))) (.seq (.seq (.alloc 11 .nums .dict) (.bind 5 11)) (.seq (.loop [.any, .any, (.lv (.sh 1)), (.lv (.sh 0)), .scalar, (.lv .nums), (.lv (.sh 1)), .any, (.lv (.sh 0)), .any, .any, (.lv .nums), .any, .any, (.lv (.sh 0))] (.block (.seq (.seq (.const 11) (.seq (.bind 4 11) (.load 11 6 .dyn))) (.seq (.bind 3 11) (.seq (.arith 11) (.ite (.seq (.seq (.alloc 11 (.sh 1) (.lit [("", 3)])) (.aug 2 11)) (.seq (.store 5 .dyn 4) (.const 11))) .skip)))))) (.ret 5))))),
  (.lv .nums)⟩

/-- bermuda/utils/summarize.py:308  params: triangles, weights, method, seed, <globals> -/
def f453 : Fn := ⟨"bermuda.utils.summarize:blend", [0, 1, 2, 3, 4], [],
  (.seq (.seq (.seq (.seq (.seq (.const 3) (.seq (.const 23) (.const 23))) (.seq (.const 23) (.seq (.const 23) (.ite (.seq (.seq (.const 23) (.const 23)) (.seq (.const 23) .raise)) .skip)))) (.seq (.seq (.const 23) (.seq (.const 23) (.arith 23))) (.seq (.seq (.const 24) (.const 24)) (.seq (.const 25) (.load 25 1 .dyn))))) (.seq (.seq (.seq (.const 25) (.seq (.arith 25) (.ite (.bind 26 23) (.ite (.bind 26 24) (.bind 26 25))))) (.seq (.ite (.seq (.const 23) (.seq (.const 23) .raise)) .skip) (.seq (.const 23) (.load 23 4 .dyn)))) (.seq (.seq (.const 23) (.seq (.arith 23) (.ite (.seq (.seq (.load 23 4 .dyn) (.const 23)) (.seq (.const 23) (.seq (.const 23) .raise))) (.seq (.const 23) (.bind 2 23))))) (.seq (.seq (.const 23) (.load 23 0 .dyn)) (.seq (.const 23) (.bind 12 23)))))) (.seq (.seq (.seq (.seq (.alloc 23 .nums .dict) (.seq (.const 24) (.ite (.bind 24 0) (.alloc 24 (.sh 0) (.union [0]))))) (.seq (.loop [.any, .any, .scalar, .scalar, .any, .scalar, .scalar, .scalar, .scalar, .scalar, .scalar, .scalar, .scalar, .any, .scalar, .scalar, .scalar, .scalar, .scalar, .scalar, .scalar, .scalar, .scalar, (.lv .nums), .any, (.lv .num), (.lv .num)] (.seq (.seq (.load 25 24 .dyn) (.bind 13 25)) (.seq (.const 25) (.seq (.arith 25) (.store 23 .dyn 25))))) (.seq (.const 23) (.ite (.seq (.const 23) (.seq (.const 23) .raise)) .skip)))) (.seq (.seq (.alloc 23 .nums .dict) (.seq (.const 24) (.ite (.bind 24 0) (.alloc 24 (.sh 0) (.union [0]))))) (.seq (.seq (.loop [.any, .any, .scalar, .scalar, .any, .scalar, .scalar, .scalar, .scalar, .scalar, .scalar, .scalar, .scalar, .any, .any, .scalar, .scalar, .scalar, .scalar, .scalar, .scalar, .scalar, .scalar, (.lv .nums), .any, (.lv .num), .any, .any] (.seq (.seq (.seq (.load 25 24 .dyn) (.seq (.bind 14 25) (.ite (.seq (.load 25 14 .dyn) (.load 26 25 .dyn)) (.call 26 313 [14])))) (.seq (.seq (.const 25) (.load 25 26 .dyn)) (.seq (.const 25) (.const 25)))) (.seq (.seq (.load 25 0 .dyn) (.seq (.ite (.seq (.load 26 25 .dyn) (.load 27 26 .dyn)) (.call 27 313 [25])) (.const 25))) (.seq (.seq (.load 25 27 .dyn) (.const 25)) (.seq (.arith 25) (.store 23 .dyn 25)))))) (.const 23)) (.seq (.ite (.seq (.const 23) (.seq (.const 23) .raise)) .skip) (.const 23))))) (.seq (.seq (.seq (.load 23 0 .dyn) (.seq (.ite (.seq (.load 24 23 .dyn) (.load 25 24 .dyn)) (.call 25 333 [23])) (.ite (.seq (.alloc 23 (.sh 1) .dict) (.seq (.loop [.any, .any, .scalar, .scalar, .any, .scalar, .scalar, .scalar, .scalar, .scalar, .scalar, .scalar, .scalar, .any, .any, .any, .any, .scalar, .scalar, .scalar, .scalar, .scalar, .scalar, (.lv (.sh 1)), .any, .any, .any, .any, .any, .any] (.seq (.seq (.load 24 0 .dyn) (.bind 15 24)) (.seq (.alloc 24 (.sh 0) .dict) (.seq (.loop [.any, .any, .scalar, .scalar, .any, .scalar, .scalar, .scalar, .scalar, .scalar, .scalar, .scalar, .scalar, .any, .any, .any, .any, .scalar, .scalar, .scalar, .scalar, .scalar, .scalar, (.lv (.sh 1)), (.lv (.sh 0)), .any, .any, .any, .any, .any] (.seq (.seq (.seq (.load 25 15 .dyn) (.bind 16 25)) (.seq (.ite (.seq (.load 25 16 .dyn) (.load 26 25 .dyn)) (.call 26 339 [16])) (.ite (.seq (.load 25 16 .dyn) (.load 27 25 .dyn)) (.call 27 27 [16])))) (.seq (.seq (.ite (.seq (.load 25 16 .dyn) (.load 28 25 .dyn)) (.call 28 320 [16])) (.load 25 16 .dyn)) (.seq (.load 29 25 .dyn) (.seq (.alloc 25 (.sh 0) (.lit [("", 26), ("", 27), ("", 28), ("", 29)])) (.store 24 .dyn 16)))))) (.store 23 .dyn 24))))) (.bind 11 23))) (.seq (.alloc 23 (.sh 1) .dict) (.seq (.loop [.any, .any, .scalar, .scalar, .any, .scalar, .scalar, .scalar, .scalar, .scalar, .scalar, .scalar, .scalar, .any, .any, .scalar, .scalar, .any, .any, .scalar, .scalar, .scalar, .scalar, (.lv (.sh 1)), .any, .any, .any, .any, .any] (.seq (.seq (.load 24 0 .dyn) (.bind 17 24)) (.seq (.alloc 24 (.sh 0) .dict) (.seq (.loop [.any, .any, .scalar, .scalar, .any, .scalar, .scalar, .scalar, .scalar, .scalar, .scalar, .scalar, .scalar, .any, .any, .scalar, .scalar, .any, .any, .scalar, .scalar, .scalar, .scalar, (.lv (.sh 1)), (.lv (.sh 0)), .any, .any, .any, .any] (.seq (.seq (.load 25 17 .dyn) (.seq (.bind 18 25) (.ite (.seq (.load 25 18 .dyn) (.load 26 25 .dyn)) (.call 26 339 [18])))) (.seq (.seq (.ite (.seq (.load 25 18 .dyn) (.load 27 25 .dyn)) (.call 27 27 [18])) (.ite (.seq (.load 25 18 .dyn) (.load 28 25 .dyn)) (.call 28 320 [18]))) (.seq (.alloc 25 (.sh 0) (.lit [("", 26), ("", 27), ("", 28)])) (.store 24 .dyn 18))))) (.store 23 .dyn 24))))) (.bind 11 23)))))) (.seq (.const 23) (.seq (.arith 23) (.ite (.seq (.seq (.const 23) (.alloc 24 .nums (.lit [("", 23)]))) (.seq (.ite (.arith 23) (.alloc 23 .nums (.union [24, 12]))) (.bind 9 23))) (.seq (.const 23) (.seq (.const 23) (.ite (.seq (.seq (.seq (.seq (.alloc 23 (.sh 0) .dict) (.loop [.any, .any, .scalar, .scalar, .any, .scalar, .scalar, .scalar, .scalar, .scalar, .scalar, (.lv (.sh 1)), .scalar, .any, .any, .any, .any, .any, .any, .any, .any, .scalar, .scalar, (.lv (.sh 0)), .any, .any, .any, .any, .any, .any] (.seq (.seq (.havoc 24) (.seq (.bind 19 24) (.load 24 1 .dyn))) (.seq (.bind 20 24) (.seq (.ite (.arith 24) (.ite (.load 24 20 .dyn) (.bind 24 20))) (.store 23 .dyn 24)))))) (.seq (.bind 10 23) (.seq (.alloc 23 .nums .dict) (.alloc 24 (.sh 0) (.union [10]))))) (.seq (.seq (.alloc 25 (.sh 0) (.union [24])) (.seq (.arith 24) (.load 25 24 .dyn))) (.seq (.load 24 25 .dyn) (.seq (.loop [.any, .any, .scalar, .scalar, .any, .scalar, .scalar, .scalar, .scalar, .scalar, (.lv (.sh 0)), (.lv (.sh 1)), .scalar, .any, .any, .any, .any, .any, .any, .any, .any, .scalar, .scalar, (.lv .nums), .scalar, .scalar, .any, .any, .any, .any] (.seq (.load 25 24 .dyn) (.seq (.bind 21 25) (.store 23 .dyn 21)))) (.bind 9 23))))) (.seq (.seq (.seq (.const 23) (.const 23)) (.seq (.arith 23) (.seq (.const 24) (.arith 24)))) (.seq (.seq (.ite (.bind 25 23) (.bind 25 24)) (.seq (.ite (.seq (.const 23) (.seq (.const 23) .raise)) .skip) (.const 23))) (.seq (.const 23) (.seq (.arith 23) (.ite (.seq (.arith 23) (.bind 9 23)) .skip)))))) (.seq (.const 23) (.seq (.const 23) (.ite (.seq (.alloc 23 (.sh 0) (.lit [("", 1)])) (.seq (.ite (.arith 24) (.alloc 24 (.sh 0) (.union [23, 12]))) (.bind 9 24))) (.seq (.seq (.const 23) (.const 23)) (.seq (.const 23) .raise)))))))))))) (.seq (.seq (.alloc 23 (.sh 0) .dict) (.seq (.bind 8 23) (.const 23))) (.seq (.seq (.load 23 11 .dyn) (.loop [.any, .any, .scalar, .scalar, .any, (.lv (.sh 0)), .any, .any, (.lv (.sh 0)), .any, (.lv (.sh 0)), (.lv (.sh 1)), .scalar, .any, .any, .any, .any, .any, .any, .any, .any, .scalar, (.lv (.sh 0)), (.lv (.sh 0)), .any, .any, .any, .any, .any, .any] (.block (.seq (.seq (.seq (.load 24 23 .dyn) (.bind 7 24)) (.seq (.load 24 9 .dyn) (.bind 6 24))) (.seq (.seq (.«try» (.seq (.alloc 24 (.sh 0) .dict) (.seq (.loop [.any, .any, .scalar, .scalar, .any, (.lv (.sh 0)), .any, .any, (.lv (.sh 0)), .any, (.lv (.sh 0)), (.lv (.sh 1)), .scalar, .any, .any, .any, .any, .any, .any, .any, .any, .scalar, (.lv (.sh 0)), (.lv (.sh 0)), (.lv (.sh 0)), .any, .any, .any, .any, .any] (.seq (.seq (.load 25 11 .dyn) (.bind 22 25)) (.seq (.load 25 22 .dyn) (.store 24 .dyn 25)))) (.bind 5 24))) (.seq (.seq (.const 24) (.const 24)) (.seq (.const 24) .raise))) (.call 24 454 [5, 6, 2, 3])) (.seq (.store 8 .dyn 24) (.const 24))))))) (.seq (.call 23 307 [8]) (.ret 23))))))),
  (.lv (.sh 2))⟩

/-- bermuda/utils/summarize.py:264  params: cells, weights, method, seed, <globals> -/
def f454 : Fn := ⟨"bermuda.utils.summarize:blend_cells", [0, 1, 2, 3, 4], [],
  (.seq (.seq (.seq (.seq (.const 3) (.seq (.const 14) (.load 14 0 .dyn))) (.seq (.ite (.seq (.load 15 14 .dyn) (.load 16 15 .dyn)) (.call 16 27 [14])) (.seq (.const 14) (.load 14 0 .dyn)))) (.seq (.seq (.ite (.seq (.load 15 14 .dyn) (.load 16 15 .dyn)) (.call 16 320 [14])) (.seq (.const 14) (.bind 10 14))) (.seq (.const 14) (.seq (.load 14 0 .dyn) (.load 15 14 .dyn))))) (.seq (.seq (.seq (.alloc 14 (.sh 0) (.union [15])) (.seq (.alloc 15 (.sh 0) (.union [14])) (.bind 9 15))) (.seq (.const 14) (.seq (.ite (.bind 14 0) (.alloc 14 (.sh 0) (.union [0]))) (.loop [.any, .any, .any, .scalar, .any, .scalar, .scalar, .scalar, .any, (.lv (.sh 0)), .scalar, .scalar, .scalar, .scalar, .any, (.lv (.sh 0)), .any] (.block (.seq (.seq (.load 15 14 .dyn) (.seq (.bind 8 15) (.load 15 8 .dyn))) (.seq (.seq (.alloc 16 (.sh 0) (.union [15])) (.alloc 15 (.sh 0) (.union [16]))) (.seq (.arith 15) (.ite (.seq (.const 15) (.seq (.const 15) .raise)) .skip))))))))) (.seq (.seq (.alloc 14 (.sh 0) .dict) (.seq (.bind 7 14) (.loop [.any, .any, .any, .scalar, .any, (.lv (.sh 0)), .any, (.lv (.sh 0)), .any, (.lv (.sh 0)), .scalar, .any, .any, .any, .any, (.lv (.sh 0)), .any] (.block (.seq (.seq (.seq (.seq (.load 14 9 .dyn) (.bind 6 14)) (.seq (.alloc 14 (.sh 0) .dict) (.seq (.loop [.any, .any, .any, .scalar, .any, (.lv (.sh 0)), .any, (.lv (.sh 0)), .any, (.lv (.sh 0)), .scalar, .any, .any, .any, (.lv (.sh 0)), .any, .any] (.seq (.seq (.load 15 0 .dyn) (.bind 11 15)) (.seq (.load 15 11 .dyn) (.store 14 .dyn 15)))) (.bind 5 14)))) (.seq (.seq (.const 14) (.seq (.arith 14) (.alloc 15 .nums .dict))) (.seq (.const 16) (.seq (.ite (.bind 16 5) (.alloc 16 (.sh 0) (.union [5]))) (.loop [.any, .any, .any, .scalar, .any, (.lv (.sh 0)), .any, (.lv (.sh 0)), .any, (.lv (.sh 0)), .scalar, .any, .any, .any, (.lv .num), (.lv .nums), (.lv (.sh 0))] (.seq (.seq (.load 17 16 .dyn) (.seq (.bind 12 17) (.const 17))) (.seq (.seq (.load 17 5 .dyn) (.const 17)) (.seq (.const 17) (.store 15 .dyn 17))))))))) (.seq (.seq (.seq (.const 15) (.const 15)) (.seq (.ite (.bind 16 14) (.bind 16 15)) (.seq (.ite (.seq (.const 14) (.seq (.const 14) .raise)) .skip) (.const 14)))) (.seq (.seq (.arith 14) (.seq (.const 15) (.load 15 5 .dyn))) (.seq (.const 15) (.seq (.ite (.bind 16 14) (.bind 16 15)) (.ite (.seq (.seq (.seq (.alloc 14 .nums .dict) (.const 15)) (.seq (.ite (.bind 15 5) (.alloc 15 (.sh 0) (.union [5]))) (.loop [.any, .any, .any, .scalar, .any, (.lv (.sh 0)), .any, (.lv (.sh 0)), .any, (.lv (.sh 0)), .scalar, .any, .any, .any, (.lv .nums), (.lv (.sh 0)), (.lv .num)] (.seq (.seq (.load 16 15 .dyn) (.seq (.bind 13 16) (.const 16))) (.seq (.load 16 5 .dyn) (.seq (.arith 16) (.store 14 .dyn 16))))))) (.seq (.seq (.const 14) (.ite (.seq (.const 14) (.seq (.const 14) .raise)) .skip)) (.seq (.const 14) (.seq (.load 14 5 .dyn) (.store 7 .dyn 14))))) (.seq (.call 14 455 [5, 1, 2, 3]) (.store 7 .dyn 14)))))))))))) (.seq (.seq (.const 14) (.load 14 0 .dyn)) (.seq (.ite (.call 15 29 [14, 7]) (.ite (.call 15 346 [14, 7]) (.const 15))) (.ret 15)))))),
  .any⟩

/-- bermuda/utils/summarize.py:192  params: values, weights, method, seed, <globals> -/
def f455 : Fn := ⟨"bermuda.utils.summarize:blend_samples", [0, 1, 2, 3, 4], [],
  (.seq (.seq (.seq (.const 3) (.const 5)) (.seq (.arith 5) (.seq (.ite (.seq (.seq (.const 5) (.seq (.const 5) (.arith 5))) (.seq (.const 5) (.seq (.arith 5) (.bind 1 5)))) (.seq (.ite (.arith 5) (.ite (.load 5 1 .dyn) (.bind 5 1))) (.bind 1 5))) (.const 5)))) (.seq (.seq (.const 5) (.seq (.arith 5) (.ite (.seq (.const 5) (.seq (.const 5) .raise)) .skip))) (.seq (.const 5) (.seq (.arith 5) (.ite (.seq (.call 5 451 [0, 1, 3]) (.ret 5)) (.seq (.const 5) (.seq (.arith 5) (.ite (.seq (.call 5 448 [0, 1]) (.ret 5)) (.seq (.const 5) (.seq (.const 5) .raise)))))))))),
  (.lv (.sh 0))⟩

/-- bermuda/utils/summarize.py:418  params: triangle, detail_keys, <globals> -/
def f456 : Fn := ⟨"bermuda.utils.summarize:split", [0, 1, 2], [],
  (.seq (.seq (.seq (.const 9) (.seq (.ite .skip (.loop [.any, .any, .any, .scalar, .scalar, .scalar, .any, (.lv (.sh 0)), .scalar, (.lv (.sh 0)), .scalar, .any, .any] (.block (.seq (.seq (.havoc 6) (.seq (.alloc 9 (.sh 0) .dict) (.loop [.any, .any, .any, .scalar, .scalar, .scalar, .any, (.lv (.sh 0)), .scalar, (.lv (.sh 0)), .scalar, .any, .any] (.seq (.seq (.seq (.const 10) (.bind 8 10)) (.seq (.ite (.seq (.load 10 6 .dyn) (.load 11 10 .dyn)) (.call 11 339 [6])) (.load 10 11 .dyn))) (.seq (.seq (.load 11 10 .dyn) (.const 10)) (.seq (.ite (.const 12) (.ite (.load 12 11 .dyn) (.ite (.bind 12 8) (.bind 12 10)))) (.store 9 .dyn 12))))))) (.seq (.bind 7 9) (.seq (.alloc 9 (.sh 0) (.union [7])) .brk)))))) (.const 5))) (.seq (.ite (.seq (.load 9 0 .dyn) (.load 10 9 .dyn)) (.call 10 313 [0])) (.seq (.alloc 9 (.sh 1) .dict) (.loop [.any, .any, .any, .scalar, .scalar, .scalar, .any, (.lv (.sh 0)), .scalar, (.lv (.sh 1)), .any, .any, .any] (.seq (.alloc 11 (.sh 0) (.union [10])) (.store 9 .dyn 11)))))) (.seq (.seq (.bind 3 9) (.seq (.const 9) (.alloc 9 (.sh 0) .dict))) (.seq (.havoc 10) (.seq (.store 9 .dyn 10) (.ret 9))))),
  (.lv (.sh 0))⟩

/-- bermuda/utils/summarize.py:429  params: triangle, summary_fns, summarize_premium, <globals> -/
def f457 : Fn := ⟨"bermuda.utils.summarize:summarize", [0, 1, 2, 3], [],
  (.seq (.seq (.seq (.const 2) (.const 13)) (.seq (.call 13 450 [0]) (.seq (.bind 10 13) (.alloc 13 (.sh 1) .dict)))) (.seq (.seq (.bind 9 13) (.ite (.seq (.load 13 0 .dyn) (.load 14 13 .dyn)) (.call 14 333 [0]))) (.seq (.ite (.seq (.seq (.ite .skip (.loop [.any, .any, .scalar, .any, .scalar, .scalar, .scalar, .scalar, .scalar, (.lv (.sh 1)), (.lv (.sh 0)), .any, .scalar, .any, .any, .any, .any] (.block (.seq (.seq (.havoc 11) (.seq (.ite (.seq (.load 13 11 .dyn) (.load 14 13 .dyn)) (.call 14 27 [11])) (.ite (.seq (.load 13 11 .dyn) (.load 15 13 .dyn)) (.call 15 320 [11])))) (.seq (.load 13 11 .dyn) (.seq (.load 16 13 .dyn) (.alloc 13 (.sh 0) (.lit [("", 14), ("", 15), ("", 16)])))))))) (.seq (.const 13) (.ite (.seq (.load 13 0 .dyn) (.load 14 13 .dyn)) (.call 14 313 [0])))) (.seq (.seq (.alloc 13 (.sh 1) .dict) (.loop [.any, .any, .scalar, .any, .scalar, .scalar, .scalar, .scalar, .scalar, (.lv (.sh 1)), (.lv (.sh 0)), .any, .scalar, (.lv (.sh 1)), .any, .any, .any] (.seq (.alloc 15 (.sh 0) (.union [14])) (.store 13 .dyn 15)))) (.seq (.bind 7 13) (.loop [.any, .any, .scalar, .any, (.lv (.sh 0)), .any, .any, (.lv (.sh 1)), .any, (.lv (.sh 1)), (.lv (.sh 0)), .any, .scalar, (.lv (.sh 1)), .any, .any, .any, (.lv (.sh 0)), (.lv (.sh 0)), .any, (.lv (.sh 0)), (.lv (.sh 0)), (.lv (.sh 0))] (.block (.seq (.seq (.seq (.seq (.seq (.havoc 13) (.seq (.load 14 13 .dyn) (.bind 6 14))) (.seq (.load 14 13 .dyn) (.seq (.bind 5 14) (.load 14 13 .dyn)))) (.seq (.seq (.bind 8 14) (.seq (.load 13 7 .dyn) (.bind 4 13))) (.seq (.const 13) (.seq (.load 13 6 .dyn) (.const 14))))) (.seq (.seq (.seq (.load 14 6 .dyn) (.seq (.call 15 458 [4, 1]) (.const 16))) (.seq (.load 16 13 .dyn) (.seq (.load 17 16 .dyn) (.load 16 13 .dyn)))) (.seq (.seq (.load 17 16 .dyn) (.seq (.load 16 13 .dyn) (.load 17 16 .dyn))) (.seq (.seq (.const 16) (.load 17 14 .dyn)) (.seq (.load 18 17 .dyn) (.load 17 14 .dyn)))))) (.seq (.seq (.seq (.seq (.load 18 17 .dyn) (.seq (.load 17 14 .dyn) (.load 18 17 .dyn))) (.seq (.const 17) (.seq (.load 18 5 .dyn) (.load 19 18 .dyn)))) (.seq (.seq (.load 18 5 .dyn) (.seq (.load 19 18 .dyn) (.load 18 5 .dyn))) (.seq (.seq (.load 19 18 .dyn) (.const 18)) (.seq (.const 19) (.arith 19))))) (.seq (.seq (.seq (.ite (.bind 19 15) (.seq (.alloc 20 .nums .dict) (.bind 19 20))) (.seq (.const 20) (.arith 20))) (.seq (.ite (.bind 20 10) (.seq (.seq (.alloc 21 (.sh 0) (.lit [])) (.call 22 45 [])) (.seq (.merge 21 22) (.bind 20 21)))) (.seq (.call 21 37 [13, 14, 5, 8, 10, 15]) (.alloc 13 .nums (.lit [("", 16)]))))) (.seq (.seq (.alloc 14 .nums (.lit [("", 17)])) (.seq (.alloc 15 .nums (.lit [("", 18)])) (.alloc 16 (.sh 1) (.lit [("", 20)])))) (.seq (.seq (.alloc 17 (.sh 0) (.lit [("", 8)])) (.alloc 18 (.sh 0) (.lit [("", 13), ("", 14), ("", 15), ("", 19), ("", 16), ("", 17)]))) (.seq (.store 9 .dyn 18) (.const 13)))))))))))) (.seq (.seq (.ite .skip (.loop [.any, .any, .scalar, .any, .scalar, .scalar, .scalar, .scalar, .scalar, (.lv (.sh 1)), (.lv (.sh 0)), .scalar, .any, .any, .any, .any] (.block (.seq (.seq (.havoc 12) (.ite (.seq (.load 13 12 .dyn) (.load 14 13 .dyn)) (.call 14 27 [12]))) (.seq (.ite (.seq (.load 13 12 .dyn) (.load 15 13 .dyn)) (.call 15 320 [12])) (.alloc 13 (.sh 0) (.lit [("", 14), ("", 15)]))))))) (.seq (.const 13) (.ite (.seq (.load 13 0 .dyn) (.load 14 13 .dyn)) (.call 14 313 [0])))) (.seq (.seq (.alloc 13 (.sh 1) .dict) (.loop [.any, .any, .scalar, .any, .scalar, .scalar, .scalar, .scalar, .scalar, (.lv (.sh 1)), (.lv (.sh 0)), .scalar, .any, (.lv (.sh 1)), .any, .any] (.seq (.alloc 15 (.sh 0) (.union [14])) (.store 13 .dyn 15)))) (.seq (.bind 7 13) (.loop [.any, .any, .scalar, .any, (.lv (.sh 0)), .any, .any, (.lv (.sh 1)), .scalar, (.lv (.sh 1)), (.lv (.sh 0)), .scalar, .any, (.lv (.sh 1)), .any, .any, (.lv (.sh 1)), (.lv (.sh 0)), .scalar, .any, (.lv (.sh 0)), (.lv (.sh 0)), (.lv (.sh 0))] (.block (.seq (.seq (.seq (.seq (.seq (.havoc 13) (.seq (.load 14 13 .dyn) (.bind 6 14))) (.seq (.load 14 13 .dyn) (.seq (.bind 5 14) (.load 13 7 .dyn)))) (.seq (.seq (.bind 4 13) (.seq (.const 13) (.load 13 6 .dyn))) (.seq (.const 14) (.seq (.load 14 6 .dyn) (.call 15 458 [4, 1, 2]))))) (.seq (.seq (.seq (.const 16) (.seq (.load 16 13 .dyn) (.load 17 16 .dyn))) (.seq (.load 16 13 .dyn) (.seq (.load 17 16 .dyn) (.load 16 13 .dyn)))) (.seq (.seq (.load 17 16 .dyn) (.seq (.const 16) (.load 17 14 .dyn))) (.seq (.load 18 17 .dyn) (.seq (.load 17 14 .dyn) (.load 18 17 .dyn)))))) (.seq (.seq (.seq (.seq (.load 17 14 .dyn) (.seq (.load 18 17 .dyn) (.const 17))) (.seq (.load 18 5 .dyn) (.seq (.load 19 18 .dyn) (.load 18 5 .dyn)))) (.seq (.seq (.load 19 18 .dyn) (.seq (.load 18 5 .dyn) (.load 19 18 .dyn))) (.seq (.const 18) (.seq (.const 19) (.arith 19))))) (.seq (.seq (.seq (.ite (.bind 19 15) (.seq (.alloc 20 .nums .dict) (.bind 19 20))) (.seq (.const 20) (.arith 20))) (.seq (.ite (.bind 20 10) (.seq (.seq (.alloc 21 (.sh 0) (.lit [])) (.call 22 45 [])) (.seq (.merge 21 22) (.bind 20 21)))) (.seq (.call 21 17 [13, 14, 5, 10, 15]) (.alloc 13 .nums (.lit [("", 16)]))))) (.seq (.seq (.alloc 14 .nums (.lit [("", 17)])) (.seq (.alloc 15 .nums (.lit [("", 18)])) (.alloc 16 (.sh 1) (.lit [("", 20)])))) (.seq (.alloc 17 (.sh 0) (.lit [("", 13), ("", 14), ("", 15), ("", 19), ("", 16)])) (.seq (.store 9 .dyn 17) (.const 13))))))))))))) (.seq (.call 13 307 [9]) (.ret 13))))),
  (.lv (.sh 2))⟩

/-- bermuda/utils/summarize.py:82  params: cells, agg_fns, summarize_premium, <globals> -/
def f458 : Fn := ⟨"bermuda.utils.summarize:summarize_cell_values", [0, 1, 2, 3], [],
  (.seq (.seq (.seq (.seq (.const 2) (.const 25)) (.seq (.const 25) (.seq (.arith 25) (.ite (.seq (.load 25 3 .dyn) (.bind 26 25)) (.seq (.load 25 3 .dyn) (.seq (.ite (.arith 27) (.alloc 27 (.sh 0) (.union [25, 1]))) (.bind 26 27))))))) (.seq (.seq (.bind 1 26) (.alloc 25 (.sh 0) .dict)) (.seq (.loop [.any, .any, .scalar, .any, .scalar, .scalar, .scalar, .scalar, .scalar, .scalar, .scalar, .scalar, .scalar, .scalar, .any, .any, .scalar, .scalar, .scalar, .scalar, .scalar, .scalar, .scalar, .scalar, .scalar, (.lv (.sh 0)), .any, (.lv (.sh 0))] (.seq (.seq (.load 26 0 .dyn) (.bind 14 26)) (.seq (.load 26 14 .dyn) (.loop [.any, .any, .scalar, .any, .scalar, .scalar, .scalar, .scalar, .scalar, .scalar, .scalar, .scalar, .scalar, .scalar, .any, .any, .scalar, .scalar, .scalar, .scalar, .scalar, .scalar, .scalar, .scalar, .scalar, (.lv (.sh 0)), .any, (.lv (.sh 0))] (.seq (.havoc 26) (.seq (.bind 15 26) (.store 25 .dyn 15))))))) (.seq (.alloc 26 (.sh 0) (.union [25])) (.bind 13 26))))) (.seq (.seq (.seq (.loop [.any, .any, .scalar, .any, .scalar, .scalar, .scalar, .scalar, .scalar, .scalar, .scalar, .scalar, .any, (.lv (.sh 0)), .any, .any, .scalar, .scalar, .scalar, .scalar, .scalar, .scalar, .scalar, .scalar, .scalar, (.lv (.sh 0)), (.lv (.sh 0)), (.lv (.sh 0))] (.block (.seq (.seq (.load 25 13 .dyn) (.bind 12 25)) (.seq (.const 25) (.seq (.arith 25) (.ite (.seq (.const 25) (.seq (.const 25) .raise)) .skip)))))) (.load 25 3 .dyn)) (.seq (.arith 25) (.seq (.bind 11 25) (.load 25 3 .dyn)))) (.seq (.seq (.ite (.arith 26) (.alloc 26 (.sh 0) (.union [13, 25]))) (.seq (.bind 10 26) (.alloc 25 (.sh 1) .dict))) (.seq (.loop [.any, .any, .scalar, .any, .scalar, .scalar, .scalar, .scalar, .scalar, .scalar, (.lv (.sh 0)), (.lv .num), .any, (.lv (.sh 0)), .any, .any, .any, .any, .scalar, .scalar, .scalar, .scalar, .scalar, .scalar, .scalar, (.lv (.sh 1)), (.lv (.sh 0)), .any, .scalar, .any] (.seq (.seq (.load 26 13 .dyn) (.bind 16 26)) (.seq (.alloc 26 (.sh 0) .dict) (.seq (.loop [.any, .any, .scalar, .any, .scalar, .scalar, .scalar, .scalar, .scalar, .scalar, (.lv (.sh 0)), (.lv .num), .any, (.lv (.sh 0)), .any, .any, .any, .any, .scalar, .scalar, .scalar, .scalar, .scalar, .scalar, .scalar, (.lv (.sh 1)), (.lv (.sh 0)), .any, .scalar, .any] (.seq (.seq (.load 27 0 .dyn) (.seq (.bind 17 27) (.load 27 17 .dyn))) (.seq (.const 28) (.seq (.ite (.const 29) (.ite (.load 29 27 .dyn) (.ite (.bind 29 16) (.bind 29 28)))) (.store 26 .dyn 29))))) (.store 25 .dyn 26))))) (.seq (.bind 9 25) (.ite (.seq (.seq (.alloc 25 (.sh 0) .dict) (.loop [.any, .any, .scalar, .any, .scalar, .scalar, .scalar, .scalar, .scalar, (.lv (.sh 1)), (.lv (.sh 0)), (.lv .num), .any, (.lv (.sh 0)), .any, .any, .any, .any, .any, .scalar, .scalar, .scalar, .scalar, .scalar, .scalar, (.lv (.sh 0)), .any, .any, .scalar, .any] (.seq (.seq (.load 26 13 .dyn) (.seq (.bind 18 26) (.const 26))) (.seq (.load 26 1 .dyn) (.seq (.havoc 26) (.store 25 .dyn 26)))))) (.seq (.bind 8 25) (.ret 8))) (.seq (.seq (.seq (.call 25 452 [0]) (.seq (.bind 7 25) (.alloc 25 (.sh 1) .dict))) (.seq (.loop [.any, .any, .scalar, .any, .scalar, .scalar, .scalar, (.lv .nums), .scalar, (.lv (.sh 1)), (.lv (.sh 0)), (.lv .num), .any, (.lv (.sh 0)), .any, .any, .any, .any, .scalar, .any, (.lv (.sh 0)), .scalar, .any, .scalar, .scalar, (.lv (.sh 1)), (.lv (.sh 0)), .any, .scalar, .any] (.seq (.seq (.havoc 26) (.seq (.bind 19 26) (.load 26 9 .dyn))) (.seq (.seq (.bind 20 26) (.alloc 26 (.sh 0) .dict)) (.seq (.loop [.any, .any, .scalar, .any, .scalar, .scalar, .scalar, (.lv .nums), .scalar, (.lv (.sh 1)), (.lv (.sh 0)), (.lv .num), .any, (.lv (.sh 0)), .any, .any, .any, .any, .scalar, .any, (.lv (.sh 0)), .scalar, .any, .scalar, .scalar, (.lv (.sh 1)), (.lv (.sh 0)), .any, .scalar, .any] (.seq (.seq (.const 27) (.seq (.bind 21 27) (.load 27 20 .dyn))) (.seq (.bind 22 27) (.seq (.arith 27) (.ite .skip (.store 26 .dyn 22)))))) (.store 25 .dyn 26))))) (.seq (.bind 6 25) (.alloc 25 (.sh 0) .dict)))) (.seq (.seq (.loop [.any, .any, .scalar, .any, .scalar, .scalar, (.lv (.sh 1)), (.lv .nums), .scalar, (.lv (.sh 1)), (.lv (.sh 0)), (.lv .num), .any, (.lv (.sh 0)), .any, .any, .any, .any, .scalar, .any, (.lv (.sh 0)), .scalar, .any, .scalar, .scalar, (.lv (.sh 0)), .any, .any, .scalar, .any] (.seq (.seq (.load 26 11 .dyn) (.seq (.bind 23 26) (.const 26))) (.seq (.load 26 1 .dyn) (.seq (.havoc 26) (.store 25 .dyn 26))))) (.seq (.bind 5 25) (.alloc 25 (.sh 0) .dict))) (.seq (.seq (.loop [.any, .any, .scalar, .any, .scalar, (.lv (.sh 0)), (.lv (.sh 1)), (.lv .nums), .scalar, (.lv (.sh 1)), (.lv (.sh 0)), (.lv .num), .any, (.lv (.sh 0)), .any, .any, .any, .any, .scalar, .any, (.lv (.sh 0)), .scalar, .any, .scalar, .any, (.lv (.sh 0)), .any, .any, .scalar, .any] (.seq (.seq (.load 26 10 .dyn) (.seq (.bind 24 26) (.load 26 6 .dyn))) (.seq (.const 27) (.seq (.load 27 26 .dyn) (.store 25 .dyn 27))))) (.bind 4 25)) (.seq (.alloc 25 (.sh 0) (.union [5, 4])) (.ret 25))))))))))),
  (.lv (.sh 0))⟩

/-- bermuda/utils/thin.py:37  params: cell, ndxs, <globals> -/
def f459 : Fn := ⟨"bermuda.utils.thin:_thin_cell", [0, 1, 2], [],
  (.seq (.seq (.alloc 6 (.sh 0) .dict) (.seq (.load 7 0 .dyn) (.loop [.any, .any, .any, .scalar, .any, .any, (.lv (.sh 0)), .any, .any, .any, (.lv .num)] (.seq (.seq (.seq (.havoc 8) (.seq (.bind 4 8) (.load 8 7 .dyn))) (.seq (.bind 5 8) (.seq (.const 8) (.const 8)))) (.seq (.seq (.const 9) (.seq (.const 9) (.arith 9))) (.seq (.ite (.bind 10 8) (.bind 10 9)) (.seq (.ite (.seq (.load 8 5 .dyn) (.bind 9 8)) (.bind 9 5)) (.store 6 .dyn 9)))))))) (.seq (.bind 3 6) (.seq (.ite (.call 6 29 [0, 3]) (.ite (.call 6 346 [0, 3]) (.const 6))) (.ret 6)))),
  .any⟩

/-- bermuda/utils/thin.py:6  params: triangle, num_samples, seed, <globals> -/
def f460 : Fn := ⟨"bermuda.utils.thin:thin", [0, 1, 2, 3], [],
  (.seq (.seq (.const 1) (.seq (.const 2) (.const 7))) (.seq (.ite (.seq (.load 7 0 .dyn) (.load 8 7 .dyn)) (.call 8 341 [0])) (.seq (.arith 7) (.ite (.seq (.const 7) (.seq (.const 7) .raise)) (.seq (.ite (.seq (.load 7 0 .dyn) (.load 8 7 .dyn)) (.call 8 341 [0])) (.seq (.arith 7) (.ite (.seq (.const 7) (.ret 7)) (.seq (.seq (.seq (.alloc 7 (.sh 0) .dict) (.seq (.havoc 8) (.store 7 .dyn 8))) (.seq (.bind 5 7) (.seq (.ite (.seq (.load 7 0 .dyn) (.load 8 7 .dyn)) (.call 8 341 [0])) (.const 7)))) (.seq (.seq (.arith 7) (.seq (.bind 4 7) (.alloc 7 (.sh 0) .dict))) (.seq (.loop [.any, .scalar, .scalar, .any, (.lv .num), (.lv (.sh 0)), .any, (.lv (.sh 0)), .any] (.seq (.seq (.load 8 0 .dyn) (.bind 6 8)) (.seq (.call 8 459 [6, 4]) (.store 7 .dyn 8)))) (.seq (.call 8 307 [7]) (.ret 8)))))))))))),
  (.lv (.sh 2))⟩

def chunk7 : List Fn := [f400, f401, f402, f403, f404, f405, f406, f407, f408, f409, f410, f411, f412, f413, f414, f415, f416, f417, f418, f419, f420, f421, f422, f423, f424, f425, f426, f427, f428, f429, f430, f431, f432, f433, f434, f435, f436, f437, f438, f439, f440, f441, f442, f443, f444, f445, f446, f447, f448, f449, f450, f451, f452, f453, f454, f455, f456, f457, f458, f459, f460]

/-- every function of this chunk respects the discipline (re-proved against today's source) -/
theorem chunk7_disciplined : chunk7.all (writesOnlyFresh sums) = true :=
  disciplined_of_fast (by decide +kernel)

end Bermuda.Generated.HeapIR
