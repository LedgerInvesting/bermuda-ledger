-- GENERATED by harness/translate_c03ir.py from /repo -- do not edit
import Bermuda.Generated.HeapIRSums
import Bermuda.Lemmas.HeapIRFast
namespace Bermuda.Generated.HeapIR
open Bermuda.HeapIR

/-- bermuda/utils/basis.py:18  params: triangle, <globals> -/
def f373 : Fn := ⟨"bermuda.utils.basis:to_incremental", [0, 1], [],
  (.seq (.seq (.seq (.seq (.const 12) (.ite (.seq (.load 12 0 .dyn) (.load 13 12 .dyn)) (.call 13 333 [0]))) (.seq (.ite (.seq (.const 12) (.ret 12)) .skip) (.ite .skip (.loop [.any, .any, .scalar, .scalar, .scalar, .scalar, .scalar, .scalar, .scalar, .scalar, .scalar, .any, .any, .any, .any] (.block (.seq (.seq (.havoc 11) (.ite (.seq (.load 12 11 .dyn) (.load 13 12 .dyn)) (.call 13 27 [11]))) (.seq (.ite (.seq (.load 12 11 .dyn) (.load 14 12 .dyn)) (.call 14 339 [11])) (.alloc 12 (.sh 0) (.lit [("", 13), ("", 14)]))))))))) (.seq (.seq (.const 12) (.ite (.seq (.load 12 0 .dyn) (.load 13 12 .dyn)) (.call 13 313 [0]))) (.seq (.alloc 12 (.sh 1) .dict) (.seq (.loop [.any, .any, .scalar, .scalar, .scalar, .scalar, .scalar, .scalar, .scalar, .scalar, .scalar, .any, (.lv (.sh 1)), .any, .any] (.seq (.alloc 14 (.sh 0) (.union [13])) (.store 12 .dyn 14))) (.bind 10 12))))) (.seq (.seq (.seq (.const 12) (.alloc 12 (.sh 0) .dict)) (.seq (.havoc 13) (.seq (.store 12 .dyn 13) (.bind 9 12)))) (.seq (.seq (.alloc 12 (.sh 0) .dict) (.bind 8 12)) (.seq (.loop [.any, .any, .any, .any, .any, .any, .any, .any, (.lv (.sh 0)), (.lv (.sh 0)), (.lv (.sh 1)), .any, .any, .any, .any, .any, (.lv (.sh 0)), .any, .any, .any, (.lv (.sh 0)), .any, (.lv (.sh 0)), (.lv (.sh 0))] (.block (.seq (.seq (.seq (.seq (.seq (.seq (.havoc 12) (.load 13 12 .dyn)) (.seq (.load 14 13 .dyn) (.bind 7 14))) (.seq (.seq (.load 14 13 .dyn) (.bind 6 14)) (.seq (.load 13 12 .dyn) (.bind 5 13)))) (.seq (.seq (.seq (.load 12 9 .dyn) (.bind 4 12)) (.seq (.const 12) (.arith 12))) (.seq (.seq (.const 13) (.alloc 14 .nums (.lit [("", 12), ("", 13)]))) (.seq (.call 12 65 [7, 14]) (.const 13))))) (.seq (.seq (.seq (.seq (.load 13 4 .dyn) (.ite (.seq (.load 14 13 .dyn) (.load 15 14 .dyn)) (.call 15 320 [13]))) (.seq (.const 13) (.load 13 4 .dyn))) (.seq (.seq (.load 14 13 .dyn) (.alloc 13 .deep (.deep 14))) (.seq (.const 14) (.load 14 7 .dyn)))) (.seq (.seq (.seq (.load 16 14 .dyn) (.load 14 7 .dyn)) (.seq (.load 16 14 .dyn) (.load 14 7 .dyn))) (.seq (.seq (.load 16 14 .dyn) (.const 14)) (.seq (.load 16 6 .dyn) (.load 17 16 .dyn)))))) (.seq (.seq (.seq (.seq (.seq (.load 16 6 .dyn) (.load 17 16 .dyn)) (.seq (.load 16 6 .dyn) (.load 17 16 .dyn))) (.seq (.seq (.const 16) (.load 17 15 .dyn)) (.seq (.load 18 17 .dyn) (.load 17 15 .dyn)))) (.seq (.seq (.seq (.load 18 17 .dyn) (.load 17 15 .dyn)) (.seq (.load 18 17 .dyn) (.const 17))) (.seq (.seq (.const 18) (.arith 18)) (.seq (.ite (.bind 18 13) (.seq (.alloc 19 .nums .dict) (.bind 18 19))) (.const 19))))) (.seq (.seq (.seq (.seq (.arith 19) (.ite (.bind 19 5) (.seq (.seq (.alloc 20 (.sh 0) (.lit [])) (.call 21 45 [])) (.seq (.merge 20 21) (.bind 19 20))))) (.seq (.call 20 37 [7, 6, 12, 15, 5, 13]) (.alloc 13 .nums (.lit [("", 14)])))) (.seq (.seq (.alloc 14 .nums (.lit [("", 16)])) (.alloc 15 .nums (.lit [("", 17)]))) (.seq (.alloc 16 (.sh 0) (.lit [("", 19)])) (.alloc 17 .nums (.lit [("", 12)]))))) (.seq (.seq (.seq (.alloc 12 (.sh 0) (.lit [("", 13), ("", 14), ("", 15), ("", 18), ("", 16), ("", 17)])) (.store 8 .dyn 12)) (.seq (.const 12) (.const 12))) (.seq (.seq (.arith 12) (.ite (.bind 12 4) (.alloc 12 (.sh 0) (.union [4])))) (.seq (.const 13) (.seq (.ite (.bind 13 4) (.alloc 13 (.sh 0) (.union [4]))) (.loop [.any, .any, .any, .any, .any, .any, .any, .any, (.lv (.sh 0)), (.lv (.sh 0)), (.lv (.sh 1)), .any, .any, .any, (.lv .nums), .any, (.lv (.sh 0)), .any, .any, .any, (.lv (.sh 0)), .any, (.lv (.sh 0)), (.lv (.sh 0))] (.block (.seq (.seq (.seq (.seq (.seq (.load 14 12 .dyn) (.bind 3 14)) (.seq (.load 14 13 .dyn) (.seq (.bind 2 14) (.ite (.seq (.load 14 3 .dyn) (.load 15 14 .dyn)) (.call 15 320 [3]))))) (.seq (.seq (.ite (.seq (.load 14 2 .dyn) (.load 16 14 .dyn)) (.call 16 320 [2])) (.seq (.load 14 3 .dyn) (.load 17 2 .dyn))) (.seq (.call 18 368 [14, 17]) (.seq (.const 14) (.load 14 7 .dyn))))) (.seq (.seq (.seq (.load 17 14 .dyn) (.seq (.load 14 7 .dyn) (.load 17 14 .dyn))) (.seq (.load 14 7 .dyn) (.seq (.load 17 14 .dyn) (.const 14)))) (.seq (.seq (.load 17 6 .dyn) (.seq (.load 19 17 .dyn) (.load 17 6 .dyn))) (.seq (.load 19 17 .dyn) (.seq (.load 17 6 .dyn) (.load 19 17 .dyn)))))) (.seq (.seq (.seq (.seq (.const 17) (.load 19 16 .dyn)) (.seq (.load 20 19 .dyn) (.seq (.load 19 16 .dyn) (.load 20 19 .dyn)))) (.seq (.seq (.load 19 16 .dyn) (.seq (.load 20 19 .dyn) (.const 19))) (.seq (.const 20) (.seq (.arith 20) (.ite (.bind 20 18) (.seq (.alloc 21 (.sh 0) .dict) (.bind 20 21))))))) (.seq (.seq (.seq (.const 21) (.seq (.arith 21) (.ite (.bind 21 5) (.seq (.seq (.alloc 22 (.sh 0) (.lit [])) (.call 23 45 [])) (.seq (.merge 22 23) (.bind 21 22)))))) (.seq (.call 22 37 [7, 6, 15, 16, 5, 18]) (.seq (.alloc 16 (.sh 0) (.lit [("", 14)])) (.alloc 14 (.sh 0) (.lit [("", 17)]))))) (.seq (.seq (.alloc 17 (.sh 0) (.lit [("", 19)])) (.seq (.alloc 18 (.sh 0) (.lit [("", 21)])) (.alloc 19 (.sh 0) (.lit [("", 15)])))) (.seq (.alloc 15 (.sh 1) (.lit [("", 16), ("", 14), ("", 17), ("", 20), ("", 18), ("", 19)])) (.seq (.store 8 .dyn 15) (.const 14)))))))))))))))))) (.seq (.call 12 307 [8]) (.ret 12)))))),
  (.lv (.sh 2))⟩

/-- bermuda/utils/bootstrap.py:63  params: triangle, n, seed, field, <globals> -/
def f374 : Fn := ⟨"bermuda.utils.bootstrap:_bootstrap_slice", [0, 1, 2, 3, 4], [],
  (.seq (.seq (.seq (.seq (.const 1) (.seq (.const 2) (.const 42))) (.seq (.seq (.alloc 42 (.sh 0) .dict) (.havoc 43)) (.seq (.store 42 .dyn 43) (.bind 18 42)))) (.seq (.seq (.const 42) (.seq (.const 42) (.ite (.seq (.alloc 42 (.sh 0) (.lit [("", 3)])) (.bind 43 42)) (.seq (.seq (.const 42) (.const 42)) (.seq (.ite (.bind 42 3) (.seq (.ite (.seq (.load 44 0 .dyn) (.load 45 44 .dyn)) (.call 45 326 [0])) (.bind 42 45))) (.bind 43 42)))))) (.seq (.seq (.bind 17 43) (.call 42 318 [0])) (.seq (.const 42) (.const 42))))) (.seq (.seq (.seq (.arith 42) (.seq (.ite (.seq (.load 43 0 .dyn) (.load 44 43 .dyn)) (.call 44 344 [0])) (.const 43))) (.seq (.seq (.const 43) (.arith 43)) (.seq (.ite (.seq (.load 44 0 .dyn) (.load 45 44 .dyn)) (.call 45 321 [0])) (.const 44)))) (.seq (.seq (.seq (.const 44) (.arith 44)) (.seq (.ite (.bind 45 42) (.ite (.bind 45 43) (.bind 45 44))) (.ite (.seq (.const 42) (.bind 16 42)) (.seq (.const 42) (.bind 16 42))))) (.seq (.seq (.const 42) (.arith 42)) (.seq (.ite (.seq (.seq (.seq (.seq (.call 42 376 [0, 17]) (.load 43 42 .dyn)) (.seq (.bind 15 43) (.load 43 42 .dyn))) (.seq (.seq (.bind 14 43) (.alloc 42 (.sh 2) .dict)) (.seq (.loop [.any, .scalar, .scalar, .any, .any, .scalar, .scalar, .scalar, .scalar, .scalar, .scalar, .scalar, .scalar, .scalar, (.lv (.sh 2)), (.lv (.sh 2)), .scalar, .any, (.lv (.sh 0)), .any, (.lv (.sh 1)), .any, (.lv (.sh 0)), .scalar, .scalar, .scalar, .scalar, .scalar, .scalar, .scalar, .scalar, .scalar, .scalar, .scalar, .scalar, .scalar, .scalar, .scalar, .scalar, .scalar, .scalar, .scalar, (.lv (.sh 2)), .any, (.lv .num), (.lv .num)] (.seq (.seq (.havoc 43) (.seq (.bind 19 43) (.load 43 15 .dyn))) (.seq (.seq (.bind 20 43) (.alloc 43 (.sh 1) .dict)) (.seq (.loop [.any, .scalar, .scalar, .any, .any, .scalar, .scalar, .scalar, .scalar, .scalar, .scalar, .scalar, .scalar, .scalar, (.lv (.sh 2)), (.lv (.sh 2)), .scalar, .any, (.lv (.sh 0)), .any, (.lv (.sh 1)), .any, (.lv (.sh 0)), .scalar, .scalar, .scalar, .scalar, .scalar, .scalar, .scalar, .scalar, .scalar, .scalar, .scalar, .scalar, .scalar, .scalar, .scalar, .scalar, .scalar, .scalar, .scalar, (.lv (.sh 2)), (.lv (.sh 1)), (.lv .num), (.lv .num)] (.seq (.seq (.havoc 44) (.seq (.bind 21 44) (.load 44 20 .dyn))) (.seq (.bind 22 44) (.seq (.const 44) (.store 43 .dyn 44))))) (.store 42 .dyn 43))))) (.bind 13 42)))) (.seq (.seq (.seq (.alloc 42 (.sh 3) .dict) (.loop [.any, .scalar, .scalar, .any, .any, .scalar, .scalar, .scalar, .scalar, .scalar, .scalar, .scalar, .scalar, (.lv (.sh 2)), (.lv (.sh 2)), (.lv (.sh 2)), .scalar, .any, (.lv (.sh 0)), .any, (.lv (.sh 1)), .any, (.lv (.sh 0)), .scalar, .any, (.lv (.sh 1)), .any, (.lv (.sh 0)), .scalar, .scalar, .scalar, .scalar, .scalar, .scalar, .scalar, .scalar, .scalar, .scalar, .scalar, .scalar, .scalar, .scalar, (.lv (.sh 3)), .any, (.lv (.sh 1)), (.lv (.sh 1)), (.lv (.sh 0))] (.seq (.seq (.const 43) (.bind 23 43)) (.seq (.alloc 43 (.sh 2) .dict) (.seq (.loop [.any, .scalar, .scalar, .any, .any, .scalar, .scalar, .scalar, .scalar, .scalar, .scalar, .scalar, .scalar, (.lv (.sh 2)), (.lv (.sh 2)), (.lv (.sh 2)), .scalar, .any, (.lv (.sh 0)), .any, (.lv (.sh 1)), .any, (.lv (.sh 0)), .scalar, .any, (.lv (.sh 1)), .any, (.lv (.sh 0)), .scalar, .scalar, .scalar, .scalar, .scalar, .scalar, .scalar, .scalar, .scalar, .scalar, .scalar, .scalar, .scalar, .scalar, (.lv (.sh 3)), (.lv (.sh 2)), (.lv (.sh 1)), (.lv (.sh 1)), (.lv (.sh 0))] (.seq (.seq (.havoc 44) (.seq (.bind 24 44) (.load 44 13 .dyn))) (.seq (.seq (.bind 25 44) (.alloc 44 (.sh 1) .dict)) (.seq (.loop [.any, .scalar, .scalar, .any, .any, .scalar, .scalar, .scalar, .scalar, .scalar, .scalar, .scalar, .scalar, (.lv (.sh 2)), (.lv (.sh 2)), (.lv (.sh 2)), .scalar, .any, (.lv (.sh 0)), .any, (.lv (.sh 1)), .any, (.lv (.sh 0)), .scalar, .any, (.lv (.sh 1)), .any, (.lv (.sh 0)), .scalar, .scalar, .scalar, .scalar, .scalar, .scalar, .scalar, .scalar, .scalar, .scalar, .scalar, .scalar, .scalar, .scalar, (.lv (.sh 3)), (.lv (.sh 2)), (.lv (.sh 1)), (.lv (.sh 1)), (.lv (.sh 0))] (.seq (.seq (.havoc 45) (.seq (.bind 26 45) (.load 45 25 .dyn))) (.seq (.seq (.bind 27 45) (.load 45 14 .dyn)) (.seq (.load 46 45 .dyn) (.store 44 .dyn 46))))) (.store 43 .dyn 44))))) (.store 42 .dyn 43)))))) (.seq (.bind 12 42) (.alloc 42 (.sh 2) .dict))) (.seq (.seq (.loop [.any, .scalar, .scalar, .any, .any, .scalar, .scalar, .scalar, .scalar, .scalar, .scalar, .scalar, (.lv (.sh 3)), (.lv (.sh 2)), (.lv (.sh 2)), (.lv (.sh 2)), .scalar, .any, (.lv (.sh 0)), .any, (.lv (.sh 1)), .any, (.lv (.sh 0)), .scalar, .any, (.lv (.sh 1)), .any, (.lv (.sh 0)), .any, (.lv (.sh 2)), .any, (.lv (.sh 1)), .any, (.lv (.sh 0)), .scalar, .scalar, .scalar, .scalar, .scalar, .scalar, .scalar, .scalar, (.lv (.sh 2)), .any, .any, .any, (.lv (.sh 0))] (.seq (.seq (.havoc 43) (.seq (.bind 28 43) (.load 43 12 .dyn))) (.seq (.seq (.bind 29 43) (.alloc 43 (.sh 1) .dict)) (.seq (.loop [.any, .scalar, .scalar, .any, .any, .scalar, .scalar, .scalar, .scalar, .scalar, .scalar, .scalar, (.lv (.sh 3)), (.lv (.sh 2)), (.lv (.sh 2)), (.lv (.sh 2)), .scalar, .any, (.lv (.sh 0)), .any, (.lv (.sh 1)), .any, (.lv (.sh 0)), .scalar, .any, (.lv (.sh 1)), .any, (.lv (.sh 0)), .any, (.lv (.sh 2)), .any, (.lv (.sh 1)), .any, (.lv (.sh 0)), .scalar, .scalar, .scalar, .scalar, .scalar, .scalar, .scalar, .scalar, (.lv (.sh 2)), (.lv (.sh 1)), .any, .any, (.lv (.sh 0))] (.seq (.seq (.havoc 44) (.seq (.bind 30 44) (.load 44 29 .dyn))) (.seq (.seq (.bind 31 44) (.alloc 44 (.sh 0) .dict)) (.seq (.loop [.any, .scalar, .scalar, .any, .any, .scalar, .scalar, .scalar, .scalar, .scalar, .scalar, .scalar, (.lv (.sh 3)), (.lv (.sh 2)), (.lv (.sh 2)), (.lv (.sh 2)), .scalar, .any, (.lv (.sh 0)), .any, (.lv (.sh 1)), .any, (.lv (.sh 0)), .scalar, .any, (.lv (.sh 1)), .any, (.lv (.sh 0)), .any, (.lv (.sh 2)), .any, (.lv (.sh 1)), .any, (.lv (.sh 0)), .scalar, .scalar, .scalar, .scalar, .scalar, .scalar, .scalar, .scalar, (.lv (.sh 2)), (.lv (.sh 1)), (.lv (.sh 0)), .any, (.lv (.sh 0))] (.seq (.seq (.seq (.havoc 45) (.seq (.bind 32 45) (.load 45 31 .dyn))) (.seq (.bind 33 45) (.seq (.load 45 15 .dyn) (.load 46 45 .dyn)))) (.seq (.seq (.const 45) (.seq (.const 45) (.const 45))) (.seq (.seq (.const 45) (.arith 45)) (.seq (.load 45 46 .dyn) (.store 44 .dyn 45)))))) (.store 43 .dyn 44))))) (.store 42 .dyn 43))))) (.bind 11 42)) (.seq (.alloc 42 (.sh 0) .dict) (.seq (.loop [.any, .scalar, .scalar, .any, .any, .scalar, .scalar, .scalar, .scalar, .scalar, .scalar, (.lv (.sh 2)), (.lv (.sh 3)), (.lv (.sh 2)), (.lv (.sh 2)), (.lv (.sh 2)), .scalar, .any, (.lv (.sh 0)), .any, (.lv (.sh 1)), .any, (.lv (.sh 0)), .scalar, .any, (.lv (.sh 1)), .any, (.lv (.sh 0)), .any, (.lv (.sh 2)), .any, (.lv (.sh 1)), .any, (.lv (.sh 0)), .scalar, .any, .scalar, .scalar, .scalar, .scalar, .scalar, .scalar, (.lv (.sh 0)), .any, .any, .any, (.lv (.sh 0))] (.seq (.seq (.seq (.const 43) (.bind 34 43)) (.seq (.load 43 11 .dyn) (.call 44 375 [0, 43]))) (.seq (.seq (.ite .skip (.loop [.any, .scalar, .scalar, .any, .any, .scalar, .scalar, .scalar, .scalar, .scalar, .scalar, (.lv (.sh 2)), (.lv (.sh 3)), (.lv (.sh 2)), (.lv (.sh 2)), (.lv (.sh 2)), .scalar, .any, (.lv (.sh 0)), .any, (.lv (.sh 1)), .any, (.lv (.sh 0)), .scalar, .any, (.lv (.sh 1)), .any, (.lv (.sh 0)), .any, (.lv (.sh 2)), .any, (.lv (.sh 1)), .any, (.lv (.sh 0)), .scalar, .any, .scalar, .scalar, .scalar, .scalar, .scalar, .scalar, (.lv (.sh 0)), .any, (.lv (.sh 2)), .any, (.lv (.sh 0))] (.block (.seq (.seq (.seq (.havoc 35) (.ite (.seq (.load 43 35 .dyn) (.load 45 43 .dyn)) (.call 45 339 [35]))) (.seq (.load 43 45 .dyn) (.load 45 43 .dyn))) (.seq (.seq (.alloc 43 .nums .dict) (.const 46)) (.seq (.store 43 .dyn 34) (.alloc 46 (.sh 0) (.union [45, 43])))))))) (.const 43)) (.seq (.ite (.call 45 25 [44, 43]) (.call 45 317 [44, 43])) (.store 42 .dyn 45))))) (.bind 5 42)))))) (.seq (.const 42) (.seq (.arith 42) (.ite (.seq (.alloc 42 (.sh 0) .dict) (.seq (.bind 5 42) (.loop [.any, .scalar, .scalar, .any, .any, (.lv (.sh 0)), .any, .scalar, (.lv (.sh 0)), (.lv (.sh 0)), .scalar, .scalar, .scalar, .scalar, .scalar, .scalar, .scalar, .any, (.lv (.sh 0)), .scalar, .scalar, .scalar, .scalar, .scalar, .scalar, .scalar, .scalar, .scalar, .scalar, .scalar, .scalar, .scalar, .scalar, .scalar, .scalar, .scalar, .any, .any, .any, .any, .any, .any, (.lv (.sh 0)), (.lv .num), .any, .any, (.lv (.sh 0)), .any] (.block (.seq (.seq (.seq (.const 42) (.seq (.bind 10 42) (.alloc 42 (.sh 0) .dict))) (.seq (.seq (.loop [.any, .scalar, .scalar, .any, .any, (.lv (.sh 0)), .any, .scalar, (.lv (.sh 0)), (.lv (.sh 0)), .scalar, .scalar, .scalar, .scalar, .scalar, .scalar, .scalar, .any, (.lv (.sh 0)), .scalar, .scalar, .scalar, .scalar, .scalar, .scalar, .scalar, .scalar, .scalar, .scalar, .scalar, .scalar, .scalar, .scalar, .scalar, .scalar, .scalar, .any, .any, .any, .any, .any, .any, (.lv (.sh 0)), (.lv (.sh 0)), .any, .any, (.lv (.sh 0)), .any] (.seq (.seq (.seq (.load 43 17 .dyn) (.seq (.bind 36 43) (.alloc 43 (.sh 0) .dict))) (.seq (.loop [.any, .scalar, .scalar, .any, .any, (.lv (.sh 0)), .any, .scalar, (.lv (.sh 0)), (.lv (.sh 0)), .scalar, .scalar, .scalar, .scalar, .scalar, .scalar, .scalar, .any, (.lv (.sh 0)), .scalar, .scalar, .scalar, .scalar, .scalar, .scalar, .scalar, .scalar, .scalar, .scalar, .scalar, .scalar, .scalar, .scalar, .scalar, .scalar, .scalar, .any, .any, .any, .any, .any, .any, (.lv (.sh 0)), (.lv (.sh 0)), .any, .any, (.lv (.sh 0)), .any] (.seq (.seq (.load 44 0 .dyn) (.bind 37 44)) (.seq (.load 44 37 .dyn) (.store 43 .dyn 44)))) (.seq (.const 44) (.arith 44)))) (.seq (.seq (.const 45) (.seq (.alloc 46 (.sh 0) .dict) (.loop [.any, .scalar, .scalar, .any, .any, (.lv (.sh 0)), .any, .scalar, (.lv (.sh 0)), (.lv (.sh 0)), .scalar, .scalar, .scalar, .scalar, .scalar, .scalar, .scalar, .any, (.lv (.sh 0)), .scalar, .scalar, .scalar, .scalar, .scalar, .scalar, .scalar, .scalar, .scalar, .scalar, .scalar, .scalar, .scalar, .scalar, .scalar, .scalar, .scalar, .any, .any, .any, .any, .any, .any, (.lv (.sh 0)), (.lv (.sh 0)), (.lv .num), .scalar, (.lv (.sh 0)), .any] (.seq (.seq (.load 47 0 .dyn) (.bind 38 47)) (.seq (.load 47 38 .dyn) (.store 46 .dyn 47)))))) (.seq (.seq (.ite (.const 47) (.ite (.load 47 46 .dyn) (.bind 47 46))) (.alloc 46 (.sh 0) (.lit [("", 45), ("", 47)]))) (.seq (.ite (.call 45 379 [43, 44, 46]) (.bind 45 43)) (.store 42 .dyn 45)))))) (.bind 9 42)) (.seq (.alloc 42 (.sh 0) .dict) (.bind 8 42)))) (.seq (.seq (.loop [.any, .scalar, .scalar, .any, .any, (.lv (.sh 0)), .any, .scalar, (.lv (.sh 0)), (.lv (.sh 0)), .scalar, .scalar, .scalar, .scalar, .scalar, .scalar, .scalar, .any, (.lv (.sh 0)), .scalar, .scalar, .scalar, .scalar, .scalar, .scalar, .scalar, .scalar, .scalar, .scalar, .scalar, .scalar, .scalar, .scalar, .scalar, .scalar, .scalar, .any, .any, .any, .any, .any, .any, (.lv (.sh 0)), .any, .any, .any, (.lv (.sh 0)), .any] (.block (.seq (.seq (.seq (.const 42) (.bind 7 42)) (.seq (.load 42 0 .dyn) (.seq (.bind 6 42) (.alloc 42 (.sh 0) .dict)))) (.seq (.seq (.loop [.any, .scalar, .scalar, .any, .any, (.lv (.sh 0)), .any, .scalar, (.lv (.sh 0)), (.lv (.sh 0)), .scalar, .scalar, .scalar, .scalar, .scalar, .scalar, .scalar, .any, (.lv (.sh 0)), .scalar, .scalar, .scalar, .scalar, .scalar, .scalar, .scalar, .scalar, .scalar, .scalar, .scalar, .scalar, .scalar, .scalar, .scalar, .scalar, .scalar, .any, .any, .any, .any, .any, .any, (.lv (.sh 0)), .any, .any, .any, (.lv (.sh 0)), .any] (.seq (.seq (.havoc 43) (.seq (.bind 39 43) (.load 43 9 .dyn))) (.seq (.bind 40 43) (.seq (.load 43 40 .dyn) (.store 42 .dyn 43))))) (.load 43 42 .dyn)) (.seq (.ite (.call 42 24 [6, 43]) (.call 42 316 [6, 43])) (.seq (.store 8 .dyn 42) (.const 42))))))) (.seq (.call 42 307 [8]) (.ite .skip (.loop [.any, .scalar, .scalar, .any, .any, (.lv (.sh 0)), .any, .scalar, (.lv (.sh 0)), (.lv (.sh 0)), .scalar, .scalar, .scalar, .scalar, .scalar, .scalar, .scalar, .any, (.lv (.sh 0)), .scalar, .scalar, .scalar, .scalar, .scalar, .scalar, .scalar, .scalar, .scalar, .scalar, .scalar, .scalar, .scalar, .scalar, .scalar, .scalar, .scalar, .any, .any, .any, .any, .any, .any, (.lv (.sh 2)), .any, .any, .any, (.lv (.sh 0)), .any] (.block (.seq (.seq (.havoc 41) (.seq (.ite (.seq (.load 43 41 .dyn) (.load 44 43 .dyn)) (.call 44 339 [41])) (.load 43 44 .dyn))) (.seq (.seq (.load 44 43 .dyn) (.alloc 43 (.sh 0) (.union [44]))) (.seq (.const 44) (.store 43 .dyn 10))))))))) (.seq (.seq (.const 43) (.ite (.call 44 25 [42, 43]) (.call 44 317 [42, 43]))) (.seq (.alloc 42 (.sh 0) (.lit [("", 44)])) (.aug 5 42))))))))) .skip)))) (.ret 5)))))),
  (.lv (.sh 0))⟩

/-- bermuda/utils/bootstrap.py:147  params: triangle, resampled_atas, <globals> -/
def f375 : Fn := ⟨"bermuda.utils.bootstrap:_develop_triangle_by_atas", [0, 1, 2], [],
  (.seq (.seq (.seq (.alloc 15 (.sh 0) .dict) (.seq (.bind 8 15) (.alloc 15 .nums .dict))) (.seq (.ite (.seq (.load 16 0 .dyn) (.load 17 16 .dyn)) (.call 17 344 [0])) (.seq (.loop [.any, .any, .any, .scalar, .scalar, .scalar, .scalar, .scalar, (.lv (.sh 0)), .scalar, .any, .scalar, .scalar, .scalar, .scalar, (.lv .nums), .any, .any] (.seq (.seq (.const 16) (.bind 9 16)) (.seq (.load 16 17 .dyn) (.seq (.bind 10 16) (.store 15 .dyn 9))))) (.bind 7 15)))) (.seq (.seq (.alloc 15 (.sh 0) .dict) (.seq (.loop [.any, .any, .any, .scalar, .scalar, .scalar, .scalar, (.lv .nums), (.lv (.sh 0)), .scalar, .any, (.lv .num), .any, .scalar, .scalar, (.lv (.sh 0)), .any, .any] (.seq (.seq (.seq (.load 16 7 .dyn) (.bind 11 16)) (.seq (.ite .skip (.loop [.any, .any, .any, .scalar, .scalar, .scalar, .scalar, (.lv .nums), (.lv (.sh 0)), .scalar, .any, (.lv .num), .any, .scalar, .scalar, (.lv (.sh 0)), (.lv .num), .any] (.block (.seq (.havoc 12) (.seq (.ite (.seq (.load 16 12 .dyn) (.load 17 16 .dyn)) (.call 17 27 [12])) (.arith 16)))))) (.const 16))) (.seq (.seq (.call 17 327 [0, 16]) (.call 16 318 [17])) (.seq (.ite (.const 17) (.ite (.load 17 16 .dyn) (.bind 17 16))) (.store 15 .dyn 17))))) (.bind 6 15))) (.seq (.loop [.any, .any, .any, .any, (.lv .num), .any, (.lv (.sh 0)), (.lv .nums), (.lv (.sh 0)), .scalar, .any, (.lv .num), .any, .any, .any, .any, .any, .any, (.lv .num)] (.block (.seq (.seq (.load 15 0 .dyn) (.seq (.bind 5 15) (.call 15 26 [5]))) (.seq (.seq (.ite (.seq (.load 15 5 .dyn) (.load 16 15 .dyn)) (.call 16 27 [5])) (.load 15 6 .dyn)) (.seq (.arith 15) (.ite (.seq (.seq (.store 8 .dyn 5) (.seq (.const 15) (.const 15))) (.seq (.seq (.arith 15) (.load 15 8 .dyn)) (.seq (.load 16 15 .dyn) (.bind 3 16)))) (.seq (.seq (.seq (.ite (.seq (.load 15 5 .dyn) (.load 16 15 .dyn)) (.call 16 27 [5])) (.load 15 7 .dyn)) (.seq (.bind 4 15) (.seq (.load 15 5 .dyn) (.alloc 16 .nums .dict)))) (.seq (.seq (.loop [.any, .any, .any, .any, (.lv .num), .any, (.lv (.sh 0)), (.lv .nums), (.lv (.sh 0)), .scalar, .any, (.lv .num), .any, .any, .any, .any, (.lv .nums), .any, (.lv .num)] (.seq (.seq (.seq (.havoc 17) (.bind 13 17)) (.seq (.load 17 3 .dyn) (.bind 14 17))) (.seq (.seq (.call 17 26 [5]) (.load 17 1 .dyn)) (.seq (.arith 17) (.ite .skip (.seq (.seq (.load 17 5 .dyn) (.ite (.const 18) (.ite (.load 18 17 .dyn) (.bind 18 13)))) (.seq (.ite (.seq (.seq (.call 17 26 [5]) (.seq (.load 17 1 .dyn) (.load 18 17 .dyn))) (.seq (.load 17 18 .dyn) (.seq (.arith 17) (.bind 18 17)))) (.seq (.const 17) (.bind 18 17))) (.store 16 .dyn 18)))))))) (.seq (.alloc 17 (.sh 0) (.union [15, 16])) (.bind 3 17))) (.seq (.ite (.call 15 29 [5, 3]) (.ite (.call 15 346 [5, 3]) (.const 15))) (.seq (.store 8 .dyn 15) (.const 15))))))))))) (.seq (.call 15 307 [8]) (.ret 15))))),
  (.lv (.sh 2))⟩

/-- bermuda/utils/bootstrap.py:180  params: triangle, fields, <globals> -/
def f376 : Fn := ⟨"bermuda.utils.bootstrap:_empirical_atas", [0, 1, 2], [],
  (.seq (.seq (.seq (.seq (.alloc 30 (.sh 2) .dict) (.bind 12 30)) (.seq (.call 30 318 [0]) (.seq (.const 31) (.ite (.bind 31 30) (.alloc 31 .nums (.union [30])))))) (.seq (.seq (.call 30 318 [0]) (.const 32)) (.seq (.arith 32) (.seq (.ite (.bind 32 30) (.alloc 32 .nums (.union [30]))) (.alloc 30 .nums (.union [31, 32])))))) (.seq (.seq (.seq (.bind 11 30) (.call 30 60 [0])) (.seq (.bind 10 30) (.seq (.ite .skip (.loop [.any, .any, .any, .scalar, .scalar, .scalar, .scalar, .scalar, .scalar, .scalar, .any, (.lv .nums), (.lv (.sh 2)), .scalar, .any, .any, .any, .any, .scalar, .scalar, .scalar, .scalar, .scalar, .scalar, .scalar, .scalar, .scalar, .scalar, .scalar, .scalar, .any, .any, (.lv .nums)] (.block (.seq (.seq (.seq (.seq (.havoc 14) (.havoc 15)) (.seq (.const 30) (.arith 30))) (.seq (.seq (.const 31) (.ite (.bind 32 30) (.bind 32 31))) (.seq (.ite (.seq (.const 30) (.bind 31 30)) (.bind 31 14)) (.bind 17 31)))) (.seq (.seq (.seq (.const 30) (.arith 30)) (.seq (.const 31) (.ite (.bind 32 30) (.bind 32 31)))) (.seq (.seq (.ite (.seq (.const 30) (.bind 31 30)) (.bind 31 15)) (.bind 16 31)) (.seq (.arith 30) .brk))))))) (.const 13)))) (.seq (.seq (.loop [.any, .any, .any, .scalar, (.lv (.sh 3)), (.lv (.sh 2)), .scalar, .scalar, .scalar, .scalar, .any, (.lv .nums), (.lv (.sh 2)), .scalar, .any, .any, .any, .any, (.lv (.sh 1)), (.lv (.sh 1)), .scalar, (.lv (.sh 1)), (.lv (.sh 1)), .scalar, .scalar, .scalar, .scalar, .scalar, .scalar, .scalar, .any, .any, .any, .any, .any] (.block (.seq (.seq (.seq (.seq (.load 30 11 .dyn) (.load 31 30 .dyn)) (.seq (.bind 7 31) (.load 31 30 .dyn))) (.seq (.seq (.bind 6 31) (.call 30 314 [0, 6, 7])) (.seq (.bind 5 30) (.seq (.alloc 30 (.sh 3) .dict) (.const 31))))) (.seq (.seq (.seq (.ite (.bind 31 5) (.alloc 31 (.sh 2) (.union [5]))) (.const 32)) (.seq (.arith 32) (.ite (.bind 32 5) (.alloc 32 (.sh 2) (.union [5]))))) (.seq (.seq (.loop [.any, .any, .any, .scalar, (.lv (.sh 3)), (.lv (.sh 2)), .scalar, .scalar, .scalar, .scalar, .any, (.lv .nums), (.lv (.sh 2)), .scalar, .any, .any, .any, .any, (.lv (.sh 1)), (.lv (.sh 1)), .scalar, (.lv (.sh 1)), (.lv (.sh 1)), .scalar, .scalar, .scalar, .scalar, .scalar, .scalar, .scalar, (.lv (.sh 3)), (.lv (.sh 2)), (.lv (.sh 2)), .any, .any] (.seq (.seq (.seq (.load 33 31 .dyn) (.bind 18 33)) (.seq (.load 33 32 .dyn) (.bind 19 33))) (.seq (.seq (.ite (.seq (.load 33 18 .dyn) (.load 34 33 .dyn)) (.call 34 27 [18])) (.ite (.seq (.load 33 19 .dyn) (.load 34 33 .dyn)) (.call 34 27 [19]))) (.seq (.arith 33) (.ite .skip (.seq (.alloc 33 (.sh 2) (.lit [("", 18), ("", 19)])) (.store 30 .dyn 33))))))) (.bind 4 30)) (.seq (.alloc 30 (.sh 1) .dict) (.seq (.loop [.any, .any, .any, .scalar, (.lv (.sh 3)), (.lv (.sh 2)), .scalar, .scalar, .scalar, .scalar, .any, (.lv .nums), (.lv (.sh 2)), .scalar, .any, .any, .any, .any, (.lv (.sh 1)), (.lv (.sh 1)), .scalar, (.lv (.sh 1)), (.lv (.sh 1)), .scalar, .scalar, .scalar, .scalar, .scalar, .scalar, .scalar, (.lv (.sh 1)), (.lv (.sh 2)), .any, .any, .any] (.seq (.seq (.const 31) (.seq (.bind 20 31) (.alloc 31 (.sh 0) .dict))) (.seq (.loop [.any, .any, .any, .scalar, (.lv (.sh 3)), (.lv (.sh 2)), .scalar, .scalar, .scalar, .scalar, .any, (.lv .nums), (.lv (.sh 2)), .scalar, .any, .any, .any, .any, (.lv (.sh 1)), (.lv (.sh 1)), .scalar, (.lv (.sh 1)), (.lv (.sh 1)), .scalar, .scalar, .scalar, .scalar, .scalar, .scalar, .scalar, (.lv (.sh 1)), (.lv (.sh 0)), .any, .any, .any] (.seq (.seq (.seq (.load 32 4 .dyn) (.load 33 32 .dyn)) (.seq (.bind 21 33) (.seq (.load 33 32 .dyn) (.bind 22 33)))) (.seq (.seq (.load 32 21 .dyn) (.seq (.ite (.const 33) (.ite (.load 33 32 .dyn) (.bind 33 20))) (.load 32 22 .dyn))) (.seq (.ite (.const 33) (.ite (.load 33 32 .dyn) (.bind 33 20))) (.seq (.havoc 32) (.store 31 .dyn 32)))))) (.seq (.arith 31) (.store 30 .dyn 31))))) (.store 12 .dyn 30)))))))) (.seq (.alloc 30 (.sh 2) .dict) (.loop [.any, .any, .any, .scalar, (.lv (.sh 3)), (.lv (.sh 2)), .scalar, .scalar, .scalar, .scalar, .any, (.lv .nums), (.lv (.sh 2)), .scalar, .any, .any, .any, .any, (.lv (.sh 1)), (.lv (.sh 1)), .scalar, (.lv (.sh 1)), (.lv (.sh 1)), .any, (.lv (.sh 1)), .any, .any, (.lv (.sh 0)), .any, (.lv (.sh 1)), (.lv (.sh 2)), .any, .any, .any, .any, (.lv (.sh 2))] (.seq (.seq (.seq (.havoc 31) (.bind 23 31)) (.seq (.load 31 12 .dyn) (.bind 24 31))) (.seq (.seq (.alloc 31 (.sh 1) .dict) (.ite (.seq (.load 32 0 .dyn) (.load 33 32 .dyn)) (.call 33 344 [0]))) (.seq (.loop [.any, .any, .any, .scalar, (.lv (.sh 3)), (.lv (.sh 2)), .scalar, .scalar, .scalar, .scalar, .any, (.lv .nums), (.lv (.sh 2)), .scalar, .any, .any, .any, .any, (.lv (.sh 1)), (.lv (.sh 1)), .scalar, (.lv (.sh 1)), (.lv (.sh 1)), .any, (.lv (.sh 1)), .any, .any, (.lv (.sh 0)), .any, (.lv (.sh 1)), (.lv (.sh 2)), (.lv (.sh 1)), .any, .any, .any, (.lv (.sh 2))] (.seq (.load 32 33 .dyn) (.seq (.bind 25 32) (.loop [.any, .any, .any, .scalar, (.lv (.sh 3)), (.lv (.sh 2)), .scalar, .scalar, .scalar, .scalar, .any, (.lv .nums), (.lv (.sh 2)), .scalar, .any, .any, .any, .any, (.lv (.sh 1)), (.lv (.sh 1)), .scalar, (.lv (.sh 1)), (.lv (.sh 1)), .any, (.lv (.sh 1)), .any, .any, (.lv (.sh 0)), .any, (.lv (.sh 1)), (.lv (.sh 2)), (.lv (.sh 1)), .any, .any, .any, (.lv (.sh 2))] (.seq (.seq (.seq (.havoc 32) (.seq (.bind 26 32) (.load 32 24 .dyn))) (.seq (.seq (.bind 27 32) (.alloc 32 (.sh 1) .dict)) (.seq (.ite .skip (.loop [.any, .any, .any, .scalar, (.lv (.sh 3)), (.lv (.sh 2)), .scalar, .scalar, .scalar, .scalar, .any, (.lv .nums), (.lv (.sh 2)), .scalar, .any, .any, .any, .any, (.lv (.sh 1)), (.lv (.sh 1)), .scalar, (.lv (.sh 1)), (.lv (.sh 1)), .any, (.lv (.sh 1)), .any, .any, (.lv (.sh 0)), .any, (.lv (.sh 1)), (.lv (.sh 2)), (.lv (.sh 1)), (.lv (.sh 1)), .any, .any, (.lv (.sh 2))] (.block (.seq (.seq (.havoc 28) (.call 34 26 [28])) (.seq (.arith 34) (.arith 34)))))) (.const 34)))) (.seq (.seq (.call 35 327 [0, 34]) (.seq (.loop [.any, .any, .any, .scalar, (.lv (.sh 3)), (.lv (.sh 2)), .scalar, .scalar, .scalar, .scalar, .any, (.lv .nums), (.lv (.sh 2)), .scalar, .any, .any, .any, .any, (.lv (.sh 1)), (.lv (.sh 1)), .scalar, (.lv (.sh 1)), (.lv (.sh 1)), .any, (.lv (.sh 1)), .any, .any, (.lv (.sh 0)), .any, (.lv (.sh 1)), (.lv (.sh 2)), (.lv (.sh 1)), (.lv (.sh 1)), .any, (.lv (.sh 0)), (.lv (.sh 2))] (.seq (.seq (.load 34 35 .dyn) (.bind 29 34)) (.seq (.load 34 29 .dyn) (.store 32 .dyn 34)))) (.arith 32))) (.seq (.seq (.const 34) (.ite (.bind 34 32) (.alloc 34 .nums (.union [32])))) (.seq (.call 32 377 [34]) (.store 31 .dyn 32))))))))) (.store 30 .dyn 31))))))) (.seq (.bind 3 30) (.seq (.alloc 30 (.sh 3) (.lit [("", 12), ("", 3)])) (.ret 30)))))),
  (.lv (.sh 3))⟩

/-- bermuda/utils/bootstrap.py:228  params: x, <globals> -/
def f377 : Fn := ⟨"bermuda.utils.bootstrap:_normalize", [0, 1], [],
  (.seq (.seq (.arith 2) (.seq (.const 2) (.arith 2))) (.seq (.seq (.ite (.seq (.seq (.seq (.const 2) (.load 2 0 .dyn)) (.seq (.load 3 2 .dyn) (.arith 2))) (.seq (.seq (.load 2 0 .dyn) (.load 3 2 .dyn)) (.seq (.arith 2) (.ret 2)))) .skip) (.arith 2)) (.seq (.arith 2) (.ret 2)))),
  (.lv .num)⟩

/-- bermuda/utils/bootstrap.py:8  params: triangle, n, seed, field, <globals> -/
def f378 : Fn := ⟨"bermuda.utils.bootstrap:bootstrap", [0, 1, 2, 3, 4], [],
  (.seq (.seq (.seq (.seq (.const 1) (.const 2)) (.seq (.const 10) (.const 10))) (.seq (.seq (.arith 10) (.ite (.seq (.const 10) (.seq (.const 10) .raise)) .skip)) (.seq (.alloc 10 (.sh 1) .dict) (.ite (.seq (.load 11 0 .dyn) (.load 12 11 .dyn)) (.call 12 350 [0]))))) (.seq (.seq (.seq (.loop [.any, .scalar, .scalar, .any, .any, .scalar, .scalar, .any, .any, .scalar, (.lv (.sh 1)), .any, .any] (.seq (.seq (.havoc 11) (.seq (.bind 7 11) (.load 11 12 .dyn))) (.seq (.bind 8 11) (.seq (.call 11 374 [8, 1, 2, 3]) (.store 10 .dyn 11))))) (.bind 6 10)) (.seq (.load 10 6 .dyn) (.alloc 11 (.sh 0) (.union [10])))) (.seq (.seq (.bind 5 11) (.alloc 10 .nums .dict)) (.seq (.loop [.any, .scalar, .scalar, .any, .any, (.lv (.sh 0)), (.lv (.sh 1)), .any, .any, .any, (.lv .nums), (.lv (.sh 0)), .any] (.seq (.seq (.load 11 5 .dyn) (.bind 9 11)) (.seq (.arith 11) (.store 10 .dyn 11)))) (.ret 10))))),
  (.lv .nums)⟩

/-- bermuda/utils/bootstrap.py:234  params: x, U, L, <globals> -/
def f379 : Fn := ⟨"bermuda.utils.bootstrap:maximum_entropy_ensemble", [0, 1, 2, 3], [],
  (.seq (.seq (.seq (.seq (.seq (.seq (.const 2) (.seq (.const 29) (.const 29))) (.seq (.seq (.bind 16 29) (.const 29)) (.seq (.const 29) (.arith 29)))) (.seq (.seq (.seq (.ite (.seq (.const 29) (.ret 29)) .skip) (.alloc 29 .nums .dict)) (.seq (.const 30) (.ite (.bind 30 0) (.alloc 30 (.sh 0) (.union [0]))))) (.seq (.seq (.loop [.any, .any, .scalar, .any, .scalar, .scalar, .scalar, .scalar, .scalar, .scalar, .scalar, .scalar, .scalar, .scalar, .scalar, .scalar, .scalar, .any, .scalar, .scalar, .scalar, .scalar, .scalar, .scalar, .scalar, .scalar, .scalar, .scalar, .scalar, (.lv .nums), .any, (.lv .num)] (.seq (.seq (.load 31 30 .dyn) (.seq (.bind 17 31) (.const 31))) (.seq (.const 31) (.seq (.arith 31) (.store 29 .dyn 31))))) (.const 29)) (.seq (.ite (.seq (.const 29) (.ret 29)) .skip) (.alloc 29 .nums .dict))))) (.seq (.seq (.seq (.seq (.loop [.any, .any, .scalar, .any, .scalar, .scalar, .scalar, .scalar, .scalar, .scalar, .scalar, .scalar, .scalar, .scalar, .scalar, .scalar, .scalar, .any, .scalar, .scalar, .scalar, .scalar, .scalar, .scalar, .scalar, .scalar, .scalar, .scalar, .scalar, (.lv .nums), .any, (.lv .num)] (.seq (.seq (.const 30) (.bind 18 30)) (.seq (.const 30) (.seq (.arith 30) (.store 29 .dyn 30))))) (.const 29)) (.seq (.ite (.seq (.const 29) (.seq (.const 29) .raise)) .skip) (.alloc 29 .nums .dict))) (.seq (.seq (.loop [.any, .any, .scalar, .any, .scalar, .scalar, .scalar, .scalar, .scalar, .scalar, .scalar, .scalar, .scalar, .scalar, .scalar, .scalar, .scalar, .any, .scalar, .any, .scalar, .scalar, .scalar, .scalar, .scalar, .scalar, .scalar, .scalar, .scalar, (.lv .nums), .any, (.lv .num)] (.seq (.seq (.load 30 1 .dyn) (.seq (.bind 19 30) (.const 30))) (.seq (.const 30) (.seq (.arith 30) (.store 29 .dyn 30))))) (.const 29)) (.seq (.ite (.seq (.const 29) (.seq (.const 29) .raise)) .skip) (.const 29)))) (.seq (.seq (.seq (.alloc 29 (.sh 2) .dict) (.loop [.any, .any, .scalar, .any, .scalar, .scalar, .scalar, .scalar, .scalar, .scalar, .scalar, .scalar, .scalar, .scalar, .scalar, .scalar, .scalar, .any, .scalar, .any, .scalar, .scalar, .scalar, .scalar, .scalar, .scalar, .scalar, .scalar, .scalar, (.lv (.sh 2)), .any, (.lv .num)] (.seq (.seq (.const 30) (.seq (.bind 20 30) (.const 30))) (.seq (.bind 21 30) (.seq (.alloc 30 (.sh 1) (.lit [("", 21), ("", 20)])) (.store 29 .dyn 30)))))) (.seq (.alloc 30 (.sh 2) (.union [29])) (.load 29 30 .dyn))) (.seq (.seq (.alloc 30 (.sh 0) (.union [29])) (.alloc 29 (.sh 0) .dict)) (.seq (.havoc 30) (.store 29 .dyn 30)))))) (.seq (.seq (.seq (.seq (.load 30 29 .dyn) (.seq (.bind 15 30) (.load 30 29 .dyn))) (.seq (.seq (.bind 14 30) (.const 29)) (.seq (.arith 29) (.ite (.seq (.seq (.arith 29) (.const 29)) (.seq (.arith 29) (.bind 13 29))) .skip)))) (.seq (.seq (.seq (.ite (.seq (.const 29) (.seq (.load 29 2 .dyn) (.bind 30 29))) (.seq (.seq (.const 29) (.load 29 15 .dyn)) (.seq (.arith 29) (.bind 30 29)))) (.const 29)) (.seq (.arith 29) (.ite (.bind 29 15) (.alloc 29 (.sh 0) (.union [15]))))) (.seq (.seq (.const 31) (.ite (.bind 31 15) (.alloc 31 (.sh 0) (.union [15])))) (.seq (.ite (.arith 32) (.alloc 32 (.sh 0) (.union [29, 31]))) (.const 29))))) (.seq (.seq (.seq (.seq (.arith 29) (.ite (.seq (.const 31) (.seq (.load 31 2 .dyn) (.bind 32 31))) (.seq (.seq (.const 31) (.arith 31)) (.seq (.load 31 15 .dyn) (.seq (.ite (.arith 33) (.alloc 33 (.sh 0) (.union [31, 13]))) (.bind 32 33)))))) (.seq (.alloc 31 (.sh 1) (.lit [("", 30), ("", 32)])) (.merge 31 29))) (.seq (.seq (.bind 12 31) (.const 29)) (.seq (.const 29) (.load 29 15 .dyn)))) (.seq (.seq (.seq (.arith 29) (.const 29)) (.seq (.const 29) (.load 29 15 .dyn))) (.seq (.seq (.arith 29) (.arith 29)) (.seq (.const 30) (.const 30))))))) (.seq (.seq (.seq (.seq (.seq (.arith 30) (.seq (.ite (.bind 30 15) (.alloc 30 (.sh 0) (.union [15]))) (.arith 30))) (.seq (.seq (.const 30) (.const 30)) (.seq (.const 30) (.arith 30)))) (.seq (.seq (.seq (.ite (.bind 30 15) (.alloc 30 (.sh 0) (.union [15]))) (.arith 30)) (.seq (.arith 30) (.const 30))) (.seq (.seq (.const 30) (.ite (.bind 30 15) (.alloc 30 (.sh 0) (.union [15])))) (.seq (.arith 30) (.arith 30))))) (.seq (.seq (.seq (.seq (.const 31) (.const 31)) (.seq (.arith 31) (.load 31 15 .dyn))) (.seq (.seq (.arith 31) (.const 31)) (.seq (.const 31) (.arith 31)))) (.seq (.seq (.seq (.load 31 15 .dyn) (.arith 31)) (.seq (.arith 31) (.alloc 32 .nums (.lit [("", 29), ("", 31)])))) (.seq (.seq (.merge 32 30) (.bind 11 32)) (.seq (.const 29) (.const 29)))))) (.seq (.seq (.seq (.seq (.seq (.const 29) (.const 29)) (.seq (.arith 29) (.arith 29))) (.seq (.seq (.bind 10 29) (.alloc 29 (.sh 0) (.union [1]))) (.seq (.bind 1 29) (.const 29)))) (.seq (.seq (.seq (.arith 29) (.const 29)) (.seq (.arith 29) (.bind 9 29))) (.seq (.seq (.alloc 29 .nums .dict) (.loop [.any, (.lv (.sh 0)), .scalar, .any, .scalar, .scalar, .scalar, .scalar, .scalar, (.lv .num), (.lv .num), (.lv .nums), (.lv (.sh 1)), (.lv .num), .any, .any, .scalar, .any, .scalar, .any, .scalar, .scalar, .scalar, .scalar, .scalar, .scalar, .scalar, .scalar, .scalar, (.lv .nums), (.lv .num), (.lv (.sh 0)), .any, (.lv (.sh 0))] (.seq (.seq (.seq (.load 30 9 .dyn) (.seq (.bind 22 30) (.load 30 11 .dyn))) (.seq (.load 30 12 .dyn) (.seq (.const 31) (.arith 31)))) (.seq (.seq (.load 31 12 .dyn) (.seq (.ite (.arith 32) (.alloc 32 (.sh 0) (.union [30, 31]))) (.const 30))) (.seq (.arith 30) (.seq (.arith 30) (.store 29 .dyn 30))))))) (.seq (.bind 8 29) (.alloc 29 (.sh 2) .dict))))) (.seq (.seq (.seq (.seq (.const 30) (.loop [.any, (.lv (.sh 0)), .scalar, .any, .scalar, .scalar, .scalar, .scalar, (.lv .nums), (.lv .num), (.lv .num), (.lv .nums), (.lv (.sh 1)), (.lv .num), .any, .any, .scalar, .any, .scalar, .any, .scalar, .scalar, .scalar, .scalar, .scalar, .scalar, .scalar, .scalar, .scalar, (.lv (.sh 2)), (.lv (.sh 1)), (.lv (.sh 0)), .any, (.lv (.sh 0))] (.seq (.seq (.seq (.load 30 9 .dyn) (.seq (.bind 23 30) (.const 30))) (.seq (.seq (.bind 24 30) (.load 30 12 .dyn)) (.seq (.load 31 8 .dyn) (.ite (.arith 32) (.alloc 32 (.sh 0) (.union [30, 31])))))) (.seq (.seq (.const 30) (.seq (.arith 30) (.load 30 12 .dyn))) (.seq (.seq (.load 31 8 .dyn) (.ite (.arith 33) (.alloc 33 (.sh 0) (.union [30, 31])))) (.seq (.alloc 30 (.sh 1) (.lit [("", 32), ("", 33)])) (.store 29 .dyn 30))))))) (.seq (.load 30 29 .dyn) (.alloc 29 (.sh 1) (.union [30])))) (.seq (.seq (.load 30 29 .dyn) (.bind 7 30)) (.seq (.load 30 29 .dyn) (.bind 6 30)))) (.seq (.seq (.seq (.alloc 29 .nums .dict) (.const 30)) (.seq (.loop [.any, (.lv (.sh 0)), .scalar, .any, .scalar, .scalar, (.lv (.sh 0)), (.lv (.sh 0)), (.lv .nums), (.lv .num), (.lv .num), (.lv .nums), (.lv (.sh 1)), (.lv .num), .any, .any, .scalar, .any, .scalar, .any, .scalar, .scalar, .scalar, .scalar, .scalar, .scalar, .scalar, .scalar, .scalar, (.lv .nums), (.lv .num), (.lv (.sh 0)), .any, (.lv (.sh 0))] (.seq (.seq (.seq (.seq (.load 30 9 .dyn) (.bind 25 30)) (.seq (.const 30) (.seq (.bind 26 30) (.load 30 7 .dyn)))) (.seq (.seq (.load 30 1 .dyn) (.load 30 10 .dyn)) (.seq (.arith 30) (.seq (.load 30 6 .dyn) (.load 30 7 .dyn))))) (.seq (.seq (.seq (.arith 30) (.arith 30)) (.seq (.const 30) (.seq (.arith 30) (.load 30 10 .dyn)))) (.seq (.seq (.load 30 10 .dyn) (.arith 30)) (.seq (.arith 30) (.seq (.arith 30) (.store 29 .dyn 30))))))) (.bind 5 29))) (.seq (.seq (.alloc 29 .nums .dict) (.loop [.any, (.lv (.sh 0)), .scalar, .any, .scalar, (.lv .nums), (.lv (.sh 0)), (.lv (.sh 0)), (.lv .nums), (.lv .num), (.lv .num), (.lv .nums), (.lv (.sh 1)), (.lv .num), .any, .any, .scalar, .any, .scalar, .any, .scalar, .scalar, .scalar, .scalar, .scalar, .scalar, .scalar, .any, (.lv .num), (.lv .nums), (.lv .num), (.lv (.sh 0)), .any, (.lv (.sh 0))] (.seq (.seq (.load 30 14 .dyn) (.bind 27 30)) (.seq (.load 30 5 .dyn) (.seq (.bind 28 30) (.store 29 .dyn 28)))))) (.seq (.bind 4 29) (.ret 4)))))))),
  (.lv .nums)⟩

/-- bermuda/utils/currency.py:88  params: cell, exchange_rate, target_currency, <globals> -/
def f380 : Fn := ⟨"bermuda.utils.currency:_convert_cell_currency", [0, 1, 2, 3], [],
  (.seq (.seq (.seq (.const 1) (.const 2)) (.seq (.alloc 7 (.sh 0) .dict) (.seq (.load 8 0 .dyn) (.loop [.any, .scalar, .scalar, .any, .scalar, .any, .any, (.lv (.sh 0)), .any, (.lv .num), .any] (.seq (.seq (.seq (.havoc 9) (.bind 5 9)) (.seq (.load 9 8 .dyn) (.bind 6 9))) (.seq (.seq (.load 9 3 .dyn) (.arith 9)) (.seq (.ite (.seq (.arith 9) (.bind 10 9)) (.bind 10 6)) (.store 7 .dyn 10)))))))) (.seq (.seq (.bind 4 7) (.seq (.ite (.seq (.load 7 0 .dyn) (.load 8 7 .dyn)) (.call 8 339 [0])) (.alloc 7 (.sh 0) (.union [8])))) (.seq (.store 7 .dyn 2) (.seq (.ite (.call 8 29 [0, 4, 7]) (.ite (.call 8 346 [0, 4, 7]) (.const 8))) (.ret 8))))),
  .any⟩

/-- bermuda/utils/currency.py:49  params: triangle, target_currency, exchange_rates, <globals> -/
def f381 : Fn := ⟨"bermuda.utils.currency:convert_currency", [0, 1, 2, 3], [],
  (.seq (.seq (.seq (.const 1) (.const 9)) (.seq (.alloc 9 (.sh 0) .dict) (.bind 6 9))) (.seq (.seq (.ite (.seq (.load 9 0 .dyn) (.load 10 9 .dyn)) (.call 10 350 [0])) (.loop [.any, .scalar, .any, .any, .any, .scalar, (.lv (.sh 0)), .any, .any, .any, .any, .any] (.block (.seq (.seq (.seq (.havoc 9) (.bind 8 9)) (.seq (.load 9 10 .dyn) (.bind 7 9))) (.seq (.seq (.load 9 8 .dyn) (.load 11 9 .dyn)) (.seq (.const 9) (.seq (.arith 9) (.ite (.seq (.const 9) (.seq (.const 9) .raise)) (.seq (.seq (.load 9 8 .dyn) (.load 11 9 .dyn)) (.seq (.arith 9) (.ite (.seq (.ite (.seq (.load 9 7 .dyn) (.load 11 9 .dyn)) (.call 11 313 [7])) (.aug 6 11)) (.seq (.seq (.load 9 8 .dyn) (.load 11 9 .dyn)) (.seq (.arith 9) (.ite (.seq (.seq (.load 9 8 .dyn) (.load 11 9 .dyn)) (.seq (.const 9) (.seq (.const 9) .raise))) (.seq (.seq (.load 9 8 .dyn) (.load 11 9 .dyn)) (.seq (.const 9) (.seq (.bind 5 9) (.loop [.any, .scalar, .any, .any, .any, .scalar, (.lv (.sh 0)), .any, .any, .scalar, .any, .any] (.block (.seq (.seq (.load 9 7 .dyn) (.bind 4 9)) (.seq (.call 9 380 [4, 5, 1]) (.seq (.store 6 .dyn 9) (.const 9))))))))))))))))))))))) (.seq (.call 9 307 [6]) (.ret 9)))),
  (.lv (.sh 2))⟩

/-- bermuda/utils/currency.py:31  params: triangle, exchange_rates, <globals> -/
def f382 : Fn := ⟨"bermuda.utils.currency:convert_to_dollars", [0, 1, 2], [],
  (.seq (.seq (.const 3) (.seq (.const 3) (.arith 3))) (.seq (.seq (.ite (.seq (.load 3 2 .dyn) (.bind 1 3)) .skip) (.const 3)) (.seq (.call 4 381 [0, 3, 1]) (.ret 4)))),
  (.lv (.sh 2))⟩

/-- bermuda/utils/disaggregate.py:146  params: tri_slice, resolution_months, fields, interpolation_method, extrapolate_first_period, interpolation_kwargs, <globals> -/
def f383 : Fn := ⟨"bermuda.utils.disaggregate:_disaggregate_development_slice", [0, 1, 2, 3, 4, 5, 6], [],
  (.seq (.seq (.seq (.const 1) (.const 3)) (.seq (.const 4) (.seq (.call 45 60 [0]) (.bind 31 45)))) (.seq (.seq (.alloc 45 (.sh 0) .dict) (.bind 7 45)) (.seq (.ite (.seq (.load 45 0 .dyn) (.load 46 45 .dyn)) (.call 46 349 [0])) (.seq (.loop [.any, .scalar, .any, .scalar, .scalar, .any, .any, (.lv (.sh 0)), (.lv (.sh 0)), .any, (.lv .num), (.lv .num), (.lv .num), (.lv .num), .any, (.lv (.sh 0)), (.lv .num), (.lv .num), .any, .scalar, (.lv .nums), (.lv .num), (.lv .num), (.lv .num), (.lv .num), (.lv .num), (.lv .nums), (.lv (.sh 2)), .any, .any, .any, .any, (.lv (.sh 1)), (.lv (.sh 1)), (.lv (.sh 1)), .scalar, .scalar, .scalar, (.lv .num), .any, .any, .any, .scalar, .any, .scalar, .any, .any, .any, .any, .any, .any] (.block (.seq (.seq (.seq (.seq (.load 45 46 .dyn) (.load 47 45 .dyn)) (.seq (.bind 30 47) (.load 47 45 .dyn))) (.seq (.seq (.bind 29 47) (.const 45)) (.seq (.load 45 29 .dyn) (.bind 28 45)))) (.seq (.seq (.seq (.call 45 307 [29]) (.bind 27 45)) (.seq (.const 45) (.call 47 318 [27, 45]))) (.seq (.seq (.bind 26 47) (.const 45)) (.seq (.const 45) (.seq (.arith 45) (.ite (.seq (.seq (.seq (.seq (.const 45) (.seq (.load 45 26 .dyn) (.const 45))) (.seq (.seq (.load 45 26 .dyn) (.arith 45)) (.seq (.bind 25 45) (.const 45)))) (.seq (.seq (.seq (.const 45) (.arith 45)) (.seq (.ite (.bind 45 26) (.alloc 45 .nums (.union [26]))) (.const 47))) (.seq (.seq (.ite (.bind 47 26) (.alloc 47 .nums (.union [26]))) (.loop [.any, .scalar, .any, .scalar, .scalar, .any, .any, (.lv (.sh 0)), (.lv (.sh 0)), .any, (.lv .num), (.lv .num), (.lv .num), (.lv .num), .any, (.lv (.sh 0)), (.lv .num), (.lv .num), .any, .scalar, (.lv .nums), (.lv .num), (.lv .num), (.lv .num), (.lv .num), (.lv .num), (.lv .nums), (.lv (.sh 2)), .any, .any, .any, .any, (.lv (.sh 1)), (.lv (.sh 1)), (.lv (.sh 1)), .scalar, .scalar, .scalar, (.lv .num), .any, .any, .any, .scalar, .any, .scalar, (.lv .nums), .any, (.lv .nums), .any, .any, .any] (.block (.seq (.seq (.load 48 45 .dyn) (.seq (.bind 24 48) (.load 48 47 .dyn))) (.seq (.seq (.bind 23 48) (.arith 48)) (.seq (.arith 48) (.ite (.seq (.const 48) (.seq (.const 48) .raise)) .skip))))))) (.seq (.call 45 26 [28]) (.bind 22 45))))) (.seq (.seq (.seq (.ite (.seq (.seq (.const 45) (.arith 45)) (.seq (.arith 45) (.seq (.arith 45) (.bind 11 45)))) (.bind 11 22)) (.seq (.const 45) (.arith 45))) (.seq (.seq (.load 45 29 .dyn) (.call 47 26 [45])) (.seq (.bind 21 47) (.ite (.arith 45) (.alloc 45 .nums (.union [21, 1])))))) (.seq (.seq (.seq (.arith 45) (.bind 10 45)) (.seq (.alloc 45 .nums .dict) (.bind 20 45))) (.seq (.seq (.loop [.any, .scalar, .any, .scalar, .scalar, .any, .any, (.lv (.sh 0)), (.lv (.sh 0)), .any, (.lv .num), (.lv .num), (.lv .num), (.lv .num), .any, (.lv (.sh 0)), (.lv .num), (.lv .num), .any, .scalar, (.lv .nums), (.lv .num), (.lv .num), (.lv .num), (.lv .num), (.lv .num), (.lv .nums), (.lv (.sh 2)), .any, .any, .any, .any, (.lv (.sh 1)), (.lv (.sh 1)), (.lv (.sh 1)), .scalar, .scalar, .scalar, (.lv .num), .any, .any, .any, .scalar, .any, .scalar, (.lv .nums), .any, .any, .any, .any, .any] (.block (.seq (.seq (.seq (.seq (.seq (.const 45) (.bind 19 45)) (.seq (.ite (.seq (.load 45 27 .dyn) (.load 47 45 .dyn)) (.call 47 326 [27])) (.arith 45))) (.seq (.seq (.ite .brk .skip) (.alloc 45 .nums .dict)) (.seq (.loop [.any, .scalar, .any, .scalar, .scalar, .any, .any, (.lv (.sh 0)), (.lv (.sh 0)), .any, (.lv .num), (.lv .num), (.lv .num), (.lv .num), .any, (.lv (.sh 0)), (.lv .num), (.lv .num), .any, .scalar, (.lv .nums), (.lv .num), (.lv .num), (.lv .num), (.lv .num), (.lv .num), (.lv .nums), (.lv (.sh 2)), .any, .any, .any, .any, (.lv (.sh 1)), (.lv (.sh 1)), (.lv (.sh 1)), .scalar, .scalar, .scalar, (.lv .num), .any, .any, .any, .scalar, .any, .scalar, (.lv .nums), .any, .any, .any, .any, .any] (.seq (.seq (.load 47 27 .dyn) (.bind 32 47)) (.seq (.arith 47) (.ite .skip (.seq (.call 47 26 [32]) (.store 45 .dyn 47)))))) (.arith 45)))) (.seq (.seq (.seq (.bind 17 45) (.alloc 45 .nums (.lit [("", 19)]))) (.seq (.ite (.call 47 30 [27, 45]) (.call 47 348 [27, 45])) (.ite (.seq (.load 45 47 .dyn) (.load 48 45 .dyn)) (.call 48 341 [47])))) (.seq (.seq (.bind 18 48) (.const 45)) (.seq (.arith 45) (.seq (.ite (.seq (.seq (.alloc 45 (.sh 1) .dict) (.loop [.any, .scalar, .any, .scalar, .scalar, .any, .any, (.lv (.sh 0)), (.lv (.sh 0)), .any, (.lv .num), (.lv .num), (.lv .num), (.lv .num), .any, (.lv (.sh 0)), (.lv .num), (.lv .num), .any, .scalar, (.lv .nums), (.lv .num), (.lv .num), (.lv .num), (.lv .num), (.lv .num), (.lv .nums), (.lv (.sh 2)), .any, .any, .any, .any, (.lv (.sh 1)), (.lv (.sh 1)), (.lv (.sh 1)), .scalar, .scalar, .scalar, (.lv .num), .any, .any, .any, .scalar, .any, .scalar, (.lv (.sh 1)), .any, .any, .any, .any, .any] (.seq (.seq (.load 47 27 .dyn) (.bind 33 47)) (.seq (.arith 47) (.ite .skip (.seq (.load 47 33 .dyn) (.store 45 .dyn 47))))))) (.seq (.arith 45) (.bind 16 45))) (.seq (.seq (.alloc 45 (.sh 1) .dict) (.seq (.loop [.any, .scalar, .any, .scalar, .scalar, .any, .any, (.lv (.sh 0)), (.lv (.sh 0)), .any, (.lv .num), (.lv .num), (.lv .num), (.lv .num), .any, (.lv (.sh 0)), (.lv .num), (.lv .num), .any, .scalar, (.lv .nums), (.lv .num), (.lv .num), (.lv .num), (.lv .num), (.lv .num), (.lv .nums), (.lv (.sh 2)), .any, .any, .any, .any, (.lv (.sh 1)), (.lv (.sh 1)), (.lv (.sh 1)), .scalar, .scalar, .scalar, (.lv .num), .any, .any, .any, .scalar, .any, .scalar, (.lv (.sh 1)), .any, .any, .any, .any, .any] (.seq (.seq (.load 47 27 .dyn) (.bind 34 47)) (.seq (.arith 47) (.ite .skip (.seq (.seq (.seq (.load 47 34 .dyn) (.const 47)) (.seq (.const 47) (.seq (.load 48 34 .dyn) (.load 49 48 .dyn)))) (.seq (.seq (.load 48 49 .dyn) (.seq (.const 48) (.arith 48))) (.seq (.ite (.bind 49 47) (.bind 49 48)) (.seq (.ite (.seq (.load 47 34 .dyn) (.bind 48 47)) (.seq (.seq (.alloc 47 (.sh 0) (.lit [("", 18)])) (.load 47 34 .dyn)) (.seq (.arith 47) (.bind 48 47)))) (.store 45 .dyn 48))))))))) (.arith 45))) (.seq (.load 47 45 .dyn) (.seq (.load 45 47 .dyn) (.bind 16 45))))) (.ite (.seq (.seq (.seq (.arith 45) (.alloc 47 (.sh 1) (.lit [("", 45)]))) (.seq (.alloc 45 (.sh 2) (.lit [("", 47), ("", 17)])) (.arith 45))) (.seq (.seq (.bind 17 45) (.const 45)) (.seq (.arith 45) (.ite (.seq (.seq (.const 45) (.alloc 47 (.sh 1) (.lit [("", 45)]))) (.seq (.alloc 45 (.sh 2) (.lit [("", 47), ("", 16)])) (.seq (.arith 45) (.bind 16 45)))) (.seq (.seq (.seq (.arith 45) (.const 47)) (.seq (.arith 47) (.const 48))) (.seq (.seq (.ite (.arith 49) (.ite (.load 49 45 .dyn) (.ite (.bind 49 45) (.ite (.bind 49 47) (.bind 49 48))))) (.alloc 45 .nums (.lit [("", 49), ("", 16)]))) (.seq (.const 45) (.seq (.arith 45) (.bind 16 45))))))))) .skip)))))) (.seq (.seq (.seq (.seq (.ite (.seq (.const 45) (.bind 47 45)) (.seq (.const 45) (.bind 47 45))) (.load 45 5 .dyn)) (.seq (.alloc 45 (.sh 0) .dict) (.havoc 47))) (.seq (.seq (.store 45 .dyn 47) (.bind 15 45)) (.seq (.havoc 45) (.bind 14 45)))) (.seq (.seq (.seq (.alloc 45 (.sh 0) .dict) (.const 47)) (.seq (.loop [.any, .scalar, .any, .scalar, .scalar, .any, .any, (.lv (.sh 0)), (.lv (.sh 0)), .any, (.lv .num), (.lv .num), (.lv .num), (.lv .num), .any, (.lv (.sh 0)), (.lv .num), (.lv .num), .any, .scalar, (.lv .nums), (.lv .num), (.lv .num), (.lv .num), (.lv .num), (.lv .num), (.lv .nums), (.lv (.sh 2)), .any, .any, .any, .any, (.lv (.sh 1)), (.lv (.sh 1)), (.lv (.sh 1)), .scalar, .scalar, .scalar, (.lv .num), .any, .any, .any, .scalar, .any, .scalar, (.lv (.sh 0)), .any, .any, .any, .any, .any] (.seq (.seq (.const 47) (.bind 35 47)) (.seq (.const 47) (.seq (.ite (.bind 47 14) (.alloc 47 (.sh 0) (.union [14]))) (.store 45 .dyn 47))))) (.arith 45))) (.seq (.seq (.bind 13 45) (.const 45)) (.seq (.arith 45) (.seq (.arith 45) (.ite (.seq (.const 45) (.seq (.const 45) .raise)) (.store 20 .dyn 13)))))))))) (.alloc 45 (.sh 0) .dict)) (.seq (.loop [.any, .scalar, .any, .scalar, .scalar, .any, .any, (.lv (.sh 0)), (.lv (.sh 0)), .any, (.lv .num), (.lv .num), (.lv .num), (.lv .num), .any, (.lv (.sh 0)), (.lv .num), (.lv .num), .any, .scalar, (.lv .nums), (.lv .num), (.lv .num), (.lv .num), (.lv .num), (.lv .num), (.lv .nums), (.lv (.sh 2)), .any, .any, .any, .any, (.lv (.sh 1)), (.lv (.sh 1)), (.lv (.sh 1)), .scalar, .scalar, .scalar, (.lv .num), .any, .any, .any, .scalar, .any, .scalar, (.lv (.sh 0)), .any, .any, .any, .any, .any] (.seq (.seq (.seq (.const 47) (.bind 36 47)) (.seq (.load 47 10 .dyn) (.seq (.bind 37 47) (.load 47 28 .dyn)))) (.seq (.seq (.load 48 47 .dyn) (.seq (.call 47 56 [48, 37]) (.alloc 48 .nums .dict))) (.seq (.loop [.any, .scalar, .any, .scalar, .scalar, .any, .any, (.lv (.sh 0)), (.lv (.sh 0)), .any, (.lv .num), (.lv .num), (.lv .num), (.lv .num), .any, (.lv (.sh 0)), (.lv .num), (.lv .num), .any, .scalar, (.lv .nums), (.lv .num), (.lv .num), (.lv .num), (.lv .num), (.lv .num), (.lv .nums), (.lv (.sh 2)), .any, .any, .any, .any, (.lv (.sh 1)), (.lv (.sh 1)), (.lv (.sh 1)), .scalar, .scalar, .scalar, (.lv .num), .any, .any, .any, .scalar, .any, .scalar, (.lv (.sh 0)), .any, (.lv .num), (.lv .nums), .any, .any] (.seq (.seq (.load 49 20 .dyn) (.bind 38 49)) (.seq (.load 49 20 .dyn) (.seq (.load 50 49 .dyn) (.store 48 .dyn 50))))) (.seq (.ite (.call 49 29 [28, 47, 48]) (.ite (.call 49 346 [28, 47, 48]) (.const 49))) (.store 45 .dyn 49)))))) (.aug 7 45)))))) (.seq (.const 45) (.ite (.seq (.alloc 45 (.sh 0) (.lit [("", 28)])) (.aug 7 45)) (.seq (.seq (.seq (.seq (.const 45) (.seq (.ite .brk .skip) (.call 45 26 [28]))) (.seq (.seq (.bind 12 45) (.const 45)) (.seq (.arith 45) (.arith 45)))) (.seq (.seq (.seq (.arith 45) (.bind 11 45)) (.seq (.ite (.arith 45) (.alloc 45 .nums (.union [12, 1]))) (.arith 45))) (.seq (.seq (.bind 10 45) (.ite .skip (.loop [.any, .scalar, .any, .scalar, .scalar, .any, .any, (.lv (.sh 0)), (.lv (.sh 0)), .any, (.lv .num), (.lv .num), (.lv .num), (.lv .num), .any, (.lv (.sh 0)), (.lv .num), (.lv .num), .any, .scalar, (.lv .nums), (.lv .num), (.lv .num), (.lv .num), (.lv .num), (.lv .num), (.lv .nums), (.lv (.sh 2)), .any, .any, .any, .any, (.lv (.sh 1)), (.lv (.sh 1)), (.lv (.sh 1)), .scalar, .scalar, .scalar, (.lv .num), .any, .any, .any, .scalar, .any, .scalar, .any, .any, .any, .any, .any, .any] (.block (.seq (.havoc 39) (.ite (.seq (.load 45 39 .dyn) (.load 47 45 .dyn)) (.call 47 27 [39]))))))) (.seq (.const 45) (.alloc 45 (.sh 0) (.union [7])))))) (.seq (.seq (.seq (.seq (.const 47) (.arith 47)) (.seq (.load 47 45 .dyn) (.ite (.seq (.load 45 47 .dyn) (.load 48 45 .dyn)) (.call 48 27 [47])))) (.seq (.seq (.bind 9 48) (.alloc 45 (.sh 0) .dict)) (.seq (.loop [.any, .scalar, .any, .scalar, .scalar, .any, .any, (.lv (.sh 0)), (.lv (.sh 0)), .any, (.lv .num), (.lv .num), (.lv .num), (.lv .num), .any, (.lv (.sh 0)), (.lv .num), (.lv .num), .any, .scalar, (.lv .nums), (.lv .num), (.lv .num), (.lv .num), (.lv .num), (.lv .num), (.lv .nums), (.lv (.sh 2)), .any, .any, .any, .any, (.lv (.sh 1)), (.lv (.sh 1)), (.lv (.sh 1)), .scalar, .scalar, .scalar, (.lv .num), .any, .any, .any, .scalar, .any, .scalar, (.lv (.sh 0)), .any, .any, .any, .any, .any] (.seq (.seq (.load 47 7 .dyn) (.bind 40 47)) (.seq (.ite (.seq (.load 47 40 .dyn) (.load 48 47 .dyn)) (.call 48 27 [40])) (.seq (.arith 47) (.ite .skip (.store 45 .dyn 40)))))) (.ite .skip (.loop [.any, .scalar, .any, .scalar, .scalar, .any, .any, (.lv (.sh 0)), (.lv (.sh 0)), .any, (.lv .num), (.lv .num), (.lv .num), (.lv .num), .any, (.lv (.sh 0)), (.lv .num), (.lv .num), .any, .scalar, (.lv .nums), (.lv .num), (.lv .num), (.lv .num), (.lv .num), (.lv .num), (.lv .nums), (.lv (.sh 2)), .any, .any, .any, .any, (.lv (.sh 1)), (.lv (.sh 1)), (.lv (.sh 1)), .scalar, .scalar, .scalar, (.lv .num), .any, .any, .any, .scalar, .any, .scalar, (.lv (.sh 0)), .any, .any, .any, .any, .any] (.block (.seq (.havoc 41) (.call 47 26 [41])))))))) (.seq (.seq (.seq (.const 47) (.alloc 47 (.sh 0) (.union [45]))) (.seq (.const 45) (.ite (.bind 45 47) (.alloc 45 (.sh 0) (.union [47]))))) (.seq (.seq (.bind 8 45) (.alloc 45 (.sh 0) .dict)) (.seq (.loop [.any, .scalar, .any, .scalar, .scalar, .any, .any, (.lv (.sh 0)), (.lv (.sh 0)), .any, (.lv .num), (.lv .num), (.lv .num), (.lv .num), .any, (.lv (.sh 0)), (.lv .num), (.lv .num), .any, .scalar, (.lv .nums), (.lv .num), (.lv .num), (.lv .num), (.lv .num), (.lv .num), (.lv .nums), (.lv (.sh 2)), .any, .any, .any, .any, (.lv (.sh 1)), (.lv (.sh 1)), (.lv (.sh 1)), .scalar, .scalar, .scalar, (.lv .num), .any, .any, .any, .scalar, .any, .scalar, (.lv (.sh 0)), .any, (.lv (.sh 0)), .any, .any, .any] (.seq (.seq (.seq (.load 47 10 .dyn) (.bind 42 47)) (.seq (.load 47 8 .dyn) (.seq (.bind 43 47) (.load 47 28 .dyn)))) (.seq (.seq (.load 48 47 .dyn) (.seq (.call 47 56 [48, 42]) (.alloc 48 .nums .dict))) (.seq (.loop [.any, .scalar, .any, .scalar, .scalar, .any, .any, (.lv (.sh 0)), (.lv (.sh 0)), .any, (.lv .num), (.lv .num), (.lv .num), (.lv .num), .any, (.lv (.sh 0)), (.lv .num), (.lv .num), .any, .scalar, (.lv .nums), (.lv .num), (.lv .num), (.lv .num), (.lv .num), (.lv .num), (.lv .nums), (.lv (.sh 2)), .any, .any, .any, .any, (.lv (.sh 1)), (.lv (.sh 1)), (.lv (.sh 1)), .scalar, .scalar, .scalar, (.lv .num), .any, .any, .any, .scalar, .any, .scalar, (.lv (.sh 0)), .any, (.lv .num), (.lv .nums), .any, .any] (.seq (.seq (.const 49) (.bind 44 49)) (.seq (.load 49 43 .dyn) (.seq (.arith 49) (.ite .skip (.seq (.seq (.seq (.load 49 43 .dyn) (.load 49 28 .dyn)) (.seq (.arith 49) (.const 49))) (.seq (.seq (.arith 49) (.load 49 8 .dyn)) (.seq (.load 50 49 .dyn) (.seq (.arith 49) (.store 48 .dyn 49)))))))))) (.seq (.ite (.call 49 29 [28, 47, 48]) (.ite (.call 49 346 [28, 47, 48]) (.const 49))) (.store 45 .dyn 49)))))) (.aug 7 45)))))))))))))))) (.ret 7))))),
  (.lv (.sh 0))⟩

/-- bermuda/utils/disaggregate.py:357  params: tri_slice, resolution_months, period_weights, fields, <globals> -/
def f384 : Fn := ⟨"bermuda.utils.disaggregate:_disaggregate_experience_slice", [0, 1, 2, 3, 4], [],
  (.seq (.seq (.seq (.const 1) (.call 18 64 [0])) (.seq (.bind 12 18) (.seq (.arith 18) (.bind 11 18)))) (.seq (.seq (.alloc 18 (.sh 1) .dict) (.bind 5 18)) (.seq (.ite (.seq (.load 18 0 .dyn) (.load 19 18 .dyn)) (.call 19 313 [0])) (.seq (.loop [.any, .scalar, .any, .any, .any, (.lv (.sh 1)), (.lv (.sh 2)), (.lv .nums), (.lv .num), (.lv (.sh 2)), .any, (.lv .num), .any, .scalar, (.lv (.sh 1)), .any, (.lv (.sh 1)), .any, .any, .any, (.lv .nums), .any, (.lv .nums), (.lv (.sh 0)), (.lv (.sh 0)), .scalar, .scalar, .scalar, .any, .any, (.lv (.sh 0)), (.lv (.sh 0))] (.block (.seq (.seq (.seq (.seq (.load 18 19 .dyn) (.bind 10 18)) (.seq (.alloc 18 (.sh 2) .dict) (.seq (.const 20) (.loop [.any, .scalar, .any, .any, .any, (.lv (.sh 1)), (.lv (.sh 2)), (.lv .nums), (.lv .num), (.lv (.sh 2)), .any, (.lv .num), .any, .scalar, (.lv (.sh 1)), .any, (.lv (.sh 1)), .any, (.lv (.sh 2)), .any, (.lv .num), .any, (.lv .nums), (.lv (.sh 0)), (.lv (.sh 0)), .scalar, .scalar, .scalar, .any, .any, (.lv (.sh 0)), (.lv (.sh 0))] (.seq (.seq (.seq (.seq (.const 20) (.bind 13 20)) (.seq (.load 20 10 .dyn) (.load 21 20 .dyn))) (.seq (.seq (.arith 20) (.call 22 56 [21, 20])) (.seq (.load 20 10 .dyn) (.load 21 20 .dyn)))) (.seq (.seq (.seq (.const 20) (.arith 20)) (.seq (.arith 20) (.call 23 56 [21, 20]))) (.seq (.seq (.const 20) (.const 20)) (.seq (.arith 20) (.seq (.alloc 21 (.sh 1) (.lit [("", 22), ("", 20)])) (.store 18 .dyn 21)))))))))) (.seq (.seq (.bind 9 18) (.seq (.alloc 18 (.sh 2) .dict) (.loop [.any, .scalar, .any, .any, .any, (.lv (.sh 1)), (.lv (.sh 2)), (.lv .nums), (.lv .num), (.lv (.sh 2)), .any, (.lv .num), .any, .scalar, (.lv (.sh 1)), .any, (.lv (.sh 1)), .any, (.lv (.sh 2)), .any, (.lv .num), .any, (.lv .nums), (.lv (.sh 0)), (.lv (.sh 0)), .scalar, .scalar, .scalar, .any, .any, (.lv (.sh 0)), (.lv (.sh 0))] (.seq (.seq (.load 20 9 .dyn) (.seq (.bind 14 20) (.const 20))) (.seq (.seq (.load 20 14 .dyn) (.ite (.seq (.load 20 10 .dyn) (.load 21 20 .dyn)) (.call 21 320 [10]))) (.seq (.arith 20) (.ite .skip (.store 18 .dyn 14)))))))) (.seq (.bind 9 18) (.seq (.const 18) (.ite (.bind 18 2) (.alloc 18 (.sh 0) (.union [2]))))))) (.seq (.seq (.seq (.bind 7 18) (.arith 18)) (.seq (.bind 8 18) (.seq (.alloc 18 .nums .dict) (.loop [.any, .scalar, .any, .any, .any, (.lv (.sh 1)), (.lv (.sh 2)), .any, (.lv .num), (.lv (.sh 2)), .any, (.lv .num), .any, .scalar, (.lv (.sh 1)), .any, (.lv (.sh 1)), .any, (.lv .nums), .any, (.lv .num), .any, (.lv .nums), (.lv (.sh 0)), (.lv (.sh 0)), .scalar, .scalar, .scalar, .any, .any, (.lv (.sh 0)), (.lv (.sh 0))] (.seq (.seq (.load 20 7 .dyn) (.bind 15 20)) (.seq (.arith 20) (.store 18 .dyn 20))))))) (.seq (.seq (.bind 7 18) (.seq (.call 18 386 [10, 7, 9]) (.bind 6 18))) (.seq (.alloc 18 (.sh 1) .dict) (.seq (.loop [.any, .scalar, .any, .any, .any, (.lv (.sh 1)), (.lv (.sh 2)), (.lv .nums), (.lv .num), (.lv (.sh 2)), .any, (.lv .num), .any, .scalar, (.lv (.sh 1)), .any, (.lv (.sh 1)), .any, (.lv (.sh 1)), .any, (.lv .nums), .any, (.lv .nums), (.lv (.sh 0)), (.lv (.sh 0)), .scalar, .scalar, .scalar, .any, .any, (.lv (.sh 0)), (.lv (.sh 0))] (.seq (.seq (.load 20 9 .dyn) (.seq (.bind 16 20) (.const 20))) (.seq (.seq (.load 20 16 .dyn) (.ite (.seq (.load 20 10 .dyn) (.load 21 20 .dyn)) (.call 21 320 [10]))) (.seq (.arith 20) (.ite .skip (.seq (.seq (.seq (.seq (.seq (.const 20) (.load 20 16 .dyn)) (.seq (.const 21) (.seq (.load 21 16 .dyn) (.ite (.seq (.load 22 10 .dyn) (.load 23 22 .dyn)) (.call 23 320 [10]))))) (.seq (.seq (.ite (.seq (.load 22 10 .dyn) (.load 24 22 .dyn)) (.call 24 339 [10])) (.seq (.alloc 22 (.sh 1) .dict) (.load 25 10 .dyn))) (.seq (.loop [.any, .scalar, .any, .any, .any, (.lv (.sh 1)), (.lv (.sh 2)), (.lv .nums), (.lv .num), (.lv (.sh 2)), .any, (.lv .num), .any, .scalar, (.lv (.sh 1)), .any, (.lv (.sh 1)), .any, (.lv (.sh 1)), .any, (.lv (.sh 0)), (.lv (.sh 0)), (.lv (.sh 1)), .any, .any, .any, (.lv (.sh 1)), (.lv (.sh 0)), .any, .any, (.lv (.sh 0)), (.lv (.sh 0))] (.seq (.seq (.load 26 25 .dyn) (.bind 17 26)) (.seq (.arith 26) (.ite .skip (.seq (.load 26 6 .dyn) (.seq (.load 27 26 .dyn) (.store 22 .dyn 27))))))) (.seq (.const 25) (.load 25 20 .dyn))))) (.seq (.seq (.seq (.load 26 25 .dyn) (.load 25 20 .dyn)) (.seq (.load 26 25 .dyn) (.seq (.load 25 20 .dyn) (.load 26 25 .dyn)))) (.seq (.seq (.const 25) (.seq (.load 26 21 .dyn) (.load 27 26 .dyn))) (.seq (.load 26 21 .dyn) (.seq (.load 27 26 .dyn) (.load 26 21 .dyn)))))) (.seq (.seq (.seq (.seq (.load 27 26 .dyn) (.const 26)) (.seq (.load 27 23 .dyn) (.seq (.load 28 27 .dyn) (.load 27 23 .dyn)))) (.seq (.seq (.load 28 27 .dyn) (.seq (.load 27 23 .dyn) (.load 28 27 .dyn))) (.seq (.const 27) (.seq (.const 28) (.arith 28))))) (.seq (.seq (.seq (.ite (.bind 28 22) (.seq (.alloc 29 .nums .dict) (.bind 28 29))) (.const 29)) (.seq (.arith 29) (.seq (.ite (.bind 29 24) (.seq (.seq (.alloc 30 (.sh 0) (.lit [])) (.call 31 45 [])) (.seq (.merge 30 31) (.bind 29 30)))) (.call 30 17 [20, 21, 23, 24, 22])))) (.seq (.seq (.alloc 20 .nums (.lit [("", 25)])) (.seq (.alloc 21 .nums (.lit [("", 26)])) (.alloc 22 .nums (.lit [("", 27)])))) (.seq (.alloc 23 (.sh 0) (.lit [("", 29)])) (.seq (.alloc 24 (.sh 0) (.lit [("", 20), ("", 21), ("", 22), ("", 28), ("", 23)])) (.store 18 .dyn 24)))))))))))) (.aug 5 18)))))))) (.ret 5))))),
  (.lv (.sh 1))⟩

/-- bermuda/utils/disaggregate.py:431  params: period_weights, n_subperiods, tri_period_start, <globals> -/
def f385 : Fn := ⟨"bermuda.utils.disaggregate:_validate_period_weights", [0, 1, 2, 3], [],
  (.seq (.seq (.seq (.seq (.const 1) (.const 10)) (.seq (.const 10) (.seq (.ite (.seq (.alloc 10 (.sh 0) (.lit [("", 0)])) (.bind 4 10)) (.seq (.const 10) (.seq (.const 10) (.ite (.seq (.seq (.seq (.alloc 10 (.sh 0) (.union [0])) (.alloc 11 (.sh 0) (.union [10]))) (.seq (.bind 4 11) (.alloc 10 .nums .dict))) (.seq (.seq (.loop [.any, .scalar, .any, .any, (.lv (.sh 0)), .scalar, .scalar, .scalar, .scalar, .scalar, (.lv .nums), (.lv (.sh 0))] (.seq (.seq (.const 11) (.bind 5 11)) (.seq (.alloc 11 (.sh 0) (.union [0])) (.seq (.arith 11) (.store 10 .dyn 11))))) (.const 10)) (.seq (.const 10) (.ite (.seq (.const 10) (.seq (.const 10) .raise)) .skip)))) (.seq (.const 10) (.seq (.const 10) .raise)))))) (.alloc 10 .nums .dict)))) (.seq (.seq (.loop [.any, .scalar, .any, .any, (.lv (.sh 0)), .scalar, .any, .scalar, .scalar, .scalar, (.lv .nums), (.lv (.sh 0))] (.seq (.seq (.load 11 4 .dyn) (.bind 6 11)) (.seq (.const 11) (.seq (.arith 11) (.store 10 .dyn 11))))) (.const 10)) (.seq (.const 10) (.seq (.ite (.seq (.const 10) (.seq (.const 10) .raise)) .skip) (.alloc 10 .nums .dict))))) (.seq (.seq (.seq (.loop [.any, .scalar, .any, .any, (.lv (.sh 0)), .scalar, .any, .any, .any, .scalar, (.lv .nums), .any] (.seq (.load 11 4 .dyn) (.seq (.bind 7 11) (.loop [.any, .scalar, .any, .any, (.lv (.sh 0)), .scalar, .any, .any, .any, .scalar, (.lv .nums), .any] (.seq (.seq (.load 11 7 .dyn) (.seq (.bind 8 11) (.const 11))) (.seq (.const 11) (.seq (.arith 11) (.store 10 .dyn 11)))))))) (.const 10)) (.seq (.const 10) (.seq (.ite (.seq (.const 10) (.seq (.const 10) .raise)) .skip) (.alloc 10 .nums .dict)))) (.seq (.seq (.loop [.any, .scalar, .any, .any, (.lv (.sh 0)), .scalar, .any, .any, .any, .any, (.lv .nums), .any] (.seq (.seq (.load 11 4 .dyn) (.seq (.bind 9 11) (.arith 11))) (.seq (.const 11) (.seq (.arith 11) (.store 10 .dyn 11))))) (.seq (.const 10) (.const 10))) (.seq (.ite (.seq (.const 10) (.seq (.const 10) .raise)) .skip) (.seq (.const 10) (.ret 10)))))),
  .scalar⟩

/-- bermuda/utils/disaggregate.py:404  params: cell, period_weights, subperiods, <globals> -/
def f386 : Fn := ⟨"bermuda.utils.disaggregate:_weight_cell_values", [0, 1, 2, 3], [],
  (.seq (.seq (.alloc 15 (.sh 2) .dict) (.seq (.bind 9 15) (.load 15 0 .dyn))) (.seq (.seq (.loop [.any, .any, .any, .any, (.lv .num), (.lv .num), .any, .any, .any, (.lv (.sh 2)), .any, .scalar, .scalar, .scalar, .scalar, .any, (.lv (.sh 1)), .scalar, .scalar, .scalar, (.lv .nums)] (.block (.seq (.seq (.seq (.seq (.havoc 16) (.seq (.bind 8 16) (.load 16 15 .dyn))) (.seq (.bind 7 16) (.seq (.arith 16) (.load 17 16 .dyn)))) (.seq (.seq (.load 16 17 .dyn) (.seq (.const 16) (.arith 16))) (.seq (.ite (.seq (.alloc 16 (.sh 0) (.lit [("", 7)])) (.seq (.arith 16) (.bind 17 16))) (.bind 17 7)) (.seq (.bind 6 17) (.const 16))))) (.seq (.seq (.seq (.const 16) (.seq (.ite (.seq (.seq (.load 16 0 .dyn) (.load 17 16 .dyn)) (.seq (.load 16 1 .dyn) (.seq (.arith 16) (.bind 17 16)))) (.seq (.arith 16) (.bind 17 16))) (.bind 5 17))) (.seq (.alloc 16 .nums .dict) (.seq (.loop [.any, .any, .any, .any, (.lv .num), (.lv .num), .any, .any, .any, (.lv (.sh 2)), .any, .scalar, .scalar, .scalar, .scalar, .any, (.lv .nums), (.lv .num), .scalar, .scalar, (.lv .nums)] (.seq (.seq (.load 17 6 .dyn) (.bind 10 17)) (.seq (.arith 17) (.store 16 .dyn 17)))) (.arith 16)))) (.seq (.seq (.bind 4 16) (.seq (.alloc 16 (.sh 1) .dict) (.load 17 4 .dyn))) (.seq (.load 18 17 .dyn) (.seq (.loop [.any, .any, .any, .any, (.lv .num), (.lv .num), .any, .any, .any, (.lv (.sh 2)), .any, .scalar, .scalar, .scalar, .scalar, .any, (.lv (.sh 1)), .scalar, .scalar, .scalar, (.lv .nums)] (.seq (.seq (.seq (.const 17) (.bind 11 17)) (.seq (.load 17 18 .dyn) (.seq (.bind 12 17) (.const 17)))) (.seq (.seq (.const 19) (.alloc 20 .nums (.lit [("", 17), ("", 19)]))) (.seq (.const 17) (.seq (.ite (.seq (.const 17) (.seq (.load 17 12 .dyn) (.bind 19 17))) (.bind 19 12)) (.store 16 .dyn 19)))))) (.store 9 .dyn 16)))))))) (.alloc 15 (.sh 2) .dict)) (.seq (.loop [.any, .any, .any, .any, (.lv .num), (.lv .num), .any, .any, .any, (.lv (.sh 2)), .any, .scalar, .scalar, .scalar, (.lv (.sh 1)), (.lv (.sh 2)), (.lv (.sh 1)), (.lv (.sh 1)), (.lv (.sh 0)), .scalar, (.lv .nums)] (.seq (.seq (.const 16) (.bind 13 16)) (.seq (.alloc 16 (.sh 1) .dict) (.seq (.loop [.any, .any, .any, .any, (.lv .num), (.lv .num), .any, .any, .any, (.lv (.sh 2)), .any, .scalar, .scalar, .scalar, (.lv (.sh 1)), (.lv (.sh 2)), (.lv (.sh 1)), (.lv (.sh 1)), (.lv (.sh 0)), .scalar, (.lv .nums)] (.seq (.seq (.load 17 9 .dyn) (.bind 14 17)) (.seq (.load 17 9 .dyn) (.seq (.arith 17) (.ite .skip (.seq (.load 17 9 .dyn) (.seq (.load 18 17 .dyn) (.store 16 .dyn 18)))))))) (.store 15 .dyn 16))))) (.ret 15)))),
  (.lv (.sh 2))⟩

/-- bermuda/utils/disaggregate.py:29  params: triangle, resolution_exp_months, resolution_dev_months, fields, period_weights, interpolation_method, extrapolate_first_period, interpolation_kwargs, <globals> -/
def f387 : Fn := ⟨"bermuda.utils.disaggregate:disaggregate", [0, 1, 2, 3, 4, 5, 6, 7, 8], [],
  (.seq (.seq (.seq (.seq (.const 1) (.const 2)) (.seq (.const 5) (.const 6))) (.seq (.seq (.const 11) (.call 11 318 [0])) (.seq (.ite (.const 12) (.ite (.load 12 11 .dyn) (.bind 12 11))) (.const 11)))) (.seq (.seq (.seq (.arith 11) (.ite (.seq (.const 11) (.seq (.const 11) .raise)) .skip)) (.seq (.ite (.call 11 389 [0, 1, 4, 3]) (.bind 11 0)) (.bind 10 11))) (.seq (.seq (.load 11 7 .dyn) (.ite (.call 12 388 [10, 2, 3, 5, 6, 11]) (.bind 12 10))) (.seq (.bind 9 12) (.ret 9))))),
  .any⟩

/-- bermuda/utils/disaggregate.py:89  params: triangle, resolution_months, fields, interpolation_method, extrapolate_first_period, interpolation_kwargs, <globals> -/
def f388 : Fn := ⟨"bermuda.utils.disaggregate:disaggregate_development", [0, 1, 2, 3, 4, 5, 6], [],
  (.seq (.seq (.const 1) (.seq (.const 3) (.const 4))) (.seq (.seq (.const 13) (.call 13 60 [0])) (.seq (.arith 13) (.ite (.seq (.const 13) (.seq (.const 13) .raise)) (.seq (.call 13 60 [0]) (.seq (.arith 13) (.ite (.seq (.const 13) (.ret 13)) (.seq (.seq (.seq (.seq (.const 13) (.arith 13)) (.seq (.ite (.seq (.load 13 6 .dyn) (.bind 2 13)) .skip) (.seq (.alloc 13 .nums .dict) (.ite (.seq (.load 14 0 .dyn) (.load 15 14 .dyn)) (.call 15 326 [0]))))) (.seq (.seq (.loop [.any, .scalar, .any, .scalar, .scalar, .any, .any, .scalar, .scalar, .scalar, .scalar, .scalar, .any, (.lv .nums), .any, .any] (.seq (.seq (.load 14 15 .dyn) (.bind 12 14)) (.seq (.arith 14) (.store 13 .dyn 14)))) (.const 13)) (.seq (.const 13) (.seq (.ite (.seq (.const 13) (.seq (.const 13) .raise)) .skip) (.ite (.seq (.load 13 0 .dyn) (.load 14 13 .dyn)) (.call 14 333 [0])))))) (.seq (.seq (.seq (.ite (.seq (.ite (.call 13 372 [0]) (.bind 13 0)) (.bind 14 13)) (.bind 14 0)) (.bind 11 14)) (.seq (.alloc 13 (.sh 0) .dict) (.seq (.bind 8 13) (.ite (.seq (.load 13 11 .dyn) (.load 14 13 .dyn)) (.call 14 350 [11]))))) (.seq (.seq (.loop [.any, .scalar, .any, .scalar, .scalar, .any, .any, .scalar, (.lv (.sh 0)), .any, .any, .any, .any, .any, .any, .any] (.block (.seq (.seq (.havoc 13) (.seq (.bind 10 13) (.load 13 14 .dyn))) (.seq (.seq (.bind 9 13) (.load 13 5 .dyn)) (.seq (.call 15 383 [9, 1, 2, 3, 4, 13]) (.aug 8 15)))))) (.ite (.seq (.load 13 0 .dyn) (.load 14 13 .dyn)) (.call 14 333 [0]))) (.seq (.ite (.seq (.call 13 307 [8]) (.seq (.ite (.call 14 373 [13]) (.bind 14 13)) (.bind 13 14))) (.seq (.call 14 307 [8]) (.bind 13 14))) (.seq (.bind 7 13) (.ret 7))))))))))))),
  (.lv (.sh 2))⟩

/-- bermuda/utils/disaggregate.py:283  params: triangle, resolution_months, period_weights, fields, <globals> -/
def f389 : Fn := ⟨"bermuda.utils.disaggregate:disaggregate_experience", [0, 1, 2, 3, 4], [],
  (.seq (.seq (.seq (.const 1) (.const 15)) (.seq (.call 15 337 [0]) (.const 15))) (.seq (.seq (.ite (.seq (.const 15) (.seq (.const 15) .raise)) .skip) (.call 15 64 [0])) (.seq (.bind 11 15) (.seq (.arith 15) (.ite (.seq (.const 15) (.seq (.const 15) .raise)) (.seq (.arith 15) (.ite (.seq (.const 15) (.ret 15)) (.seq (.seq (.seq (.seq (.const 15) (.seq (.arith 15) (.ite (.seq (.load 15 4 .dyn) (.bind 3 15)) .skip))) (.seq (.alloc 15 .nums .dict) (.seq (.ite (.seq (.load 16 0 .dyn) (.load 17 16 .dyn)) (.call 17 326 [0])) (.loop [.any, .scalar, .any, .any, .any, .scalar, .scalar, .scalar, .scalar, .scalar, .scalar, .any, .any, .scalar, .scalar, (.lv .nums), .any, .any] (.seq (.seq (.load 16 17 .dyn) (.bind 12 16)) (.seq (.arith 16) (.store 15 .dyn 16))))))) (.seq (.seq (.const 15) (.seq (.const 15) (.ite (.seq (.const 15) (.seq (.const 15) .raise)) .skip))) (.seq (.arith 15) (.seq (.const 15) (.arith 15))))) (.seq (.seq (.seq (.ite (.seq (.const 15) (.seq (.const 15) .raise)) (.seq (.seq (.seq (.arith 15) (.bind 10 15)) (.seq (.const 15) (.arith 15))) (.seq (.seq (.ite (.seq (.seq (.alloc 15 .nums .dict) (.const 16)) (.seq (.loop [.any, .scalar, .any, .any, .any, .scalar, .scalar, .scalar, .scalar, .scalar, (.lv .num), .any, .any, .scalar, .scalar, (.lv .nums), (.lv .num), .any] (.seq (.seq (.const 16) (.bind 13 16)) (.seq (.const 16) (.seq (.arith 16) (.store 15 .dyn 16))))) (.bind 2 15))) .skip) (.alloc 15 (.sh 0) .dict)) (.seq (.ite (.seq (.load 16 0 .dyn) (.load 17 16 .dyn)) (.call 17 344 [0])) (.seq (.loop [.any, .scalar, .any, .any, .any, .scalar, .scalar, .scalar, .scalar, .scalar, (.lv .num), .any, .any, .scalar, .any, (.lv (.sh 0)), .any, .any] (.seq (.seq (.load 16 17 .dyn) (.bind 14 16)) (.seq (.const 16) (.seq (.load 16 14 .dyn) (.store 15 .dyn 16))))) (.call 16 385 [2, 10, 15])))))) (.seq (.ite (.seq (.load 15 0 .dyn) (.load 16 15 .dyn)) (.call 16 333 [0])) (.ite (.seq (.ite (.call 15 372 [0]) (.bind 15 0)) (.bind 16 15)) (.bind 16 0)))) (.seq (.bind 9 16) (.seq (.alloc 15 (.sh 1) .dict) (.bind 6 15)))) (.seq (.seq (.ite (.seq (.load 15 9 .dyn) (.load 16 15 .dyn)) (.call 16 350 [9])) (.seq (.loop [.any, .scalar, .any, .any, .any, .scalar, (.lv (.sh 1)), .any, .any, .any, (.lv .num), .any, .any, .scalar, .any, .any, .any, .any] (.block (.seq (.seq (.havoc 15) (.seq (.bind 8 15) (.load 15 16 .dyn))) (.seq (.bind 7 15) (.seq (.call 15 384 [7, 1, 2, 3]) (.aug 6 15)))))) (.ite (.seq (.load 15 0 .dyn) (.load 16 15 .dyn)) (.call 16 333 [0])))) (.seq (.ite (.seq (.call 15 307 [6]) (.seq (.ite (.call 16 373 [15]) (.bind 16 15)) (.bind 15 16))) (.seq (.call 16 307 [6]) (.bind 15 16))) (.seq (.bind 5 15) (.ret 5))))))))))))),
  (.lv (.sh 2))⟩

/-- bermuda/utils/extend.py:61  params: cell, dev_lag, unit, <globals> -/
def f390 : Fn := ⟨"bermuda.utils.extend:_add_dev_lag", [0, 1, 2, 3], [],
  (.seq (.seq (.const 5) (.bind 4 5)) (.seq (.const 5) (.seq (.arith 5) (.ite (.seq (.seq (.load 5 0 .dyn) (.load 6 5 .dyn)) (.seq (.call 5 56 [6, 1]) (.ret 5))) (.seq (.const 5) (.seq (.arith 5) (.ite (.seq (.seq (.load 5 0 .dyn) (.load 6 5 .dyn)) (.seq (.const 5) (.seq (.arith 5) (.ret 5)))) (.seq (.const 5) (.seq (.arith 5) (.ite (.seq (.seq (.load 5 0 .dyn) (.load 6 5 .dyn)) (.seq (.const 5) (.seq (.arith 5) (.ret 5)))) (.seq (.const 5) (.seq (.const 5) .raise)))))))))))),
  (.lv .num)⟩

/-- bermuda/utils/extend.py:112  params: triangle, right_tri, <globals> -/
def f391 : Fn := ⟨"bermuda.utils.extend:_fix_prev_evaluation_date", [0, 1, 2], [],
  (.seq (.seq (.seq (.alloc 11 (.sh 0) .dict) (.seq (.bind 8 11) (.ite (.seq (.load 11 1 .dyn) (.load 12 11 .dyn)) (.call 12 350 [1])))) (.seq (.loop [.any, .any, .any, .scalar, .scalar, .any, .any, .any, (.lv (.sh 0)), .scalar, .scalar, .any, .any, .any, .any] (.block (.seq (.seq (.load 11 12 .dyn) (.bind 7 11)) (.seq (.ite (.seq (.load 11 7 .dyn) (.load 13 11 .dyn)) (.call 13 343 [7])) (.loop [.any, .any, .any, .scalar, .scalar, .any, .any, .any, (.lv (.sh 0)), .scalar, .scalar, .any, .any, .any, .any] (.block (.seq (.seq (.seq (.load 11 13 .dyn) (.load 14 11 .dyn)) (.seq (.bind 6 14) (.load 14 11 .dyn))) (.seq (.seq (.bind 5 14) (.const 11)) (.seq (.load 11 5 .dyn) (.seq (.store 8 .dyn 11) (.const 11))))))))))) (.seq (.alloc 11 (.sh 0) .dict) (.bind 3 11)))) (.seq (.seq (.ite (.seq (.load 11 0 .dyn) (.load 12 11 .dyn)) (.call 12 347 [0])) (.seq (.loop [.any, .any, .any, (.lv (.sh 0)), .any, .any, .any, .any, (.lv (.sh 0)), .any, .scalar, .any, .any, .any, .any, (.lv .num)] (.block (.seq (.seq (.load 11 12 .dyn) (.bind 4 11)) (.seq (.alloc 11 (.sh 0) .dict) (.seq (.loop [.any, .any, .any, (.lv (.sh 0)), .any, .any, .any, .any, (.lv (.sh 0)), .any, .scalar, (.lv (.sh 0)), .any, .any, .any, (.lv .num)] (.seq (.seq (.seq (.load 13 8 .dyn) (.bind 9 13)) (.seq (.ite (.seq (.load 13 9 .dyn) (.load 14 13 .dyn)) (.call 14 27 [9])) (.seq (.ite (.seq (.load 13 4 .dyn) (.load 14 13 .dyn)) (.call 14 27 [4])) (.arith 13)))) (.seq (.seq (.ite (.seq (.load 14 9 .dyn) (.load 15 14 .dyn)) (.call 15 339 [9])) (.ite (.seq (.load 14 4 .dyn) (.load 15 14 .dyn)) (.call 15 339 [4]))) (.seq (.arith 14) (.seq (.ite (.bind 15 13) (.bind 15 14)) (.ite .skip (.seq (.ite (.seq (.load 13 4 .dyn) (.load 14 13 .dyn)) (.call 14 320 [4])) (.seq (.ite (.call 13 29 [9, 14]) (.ite (.call 13 346 [9, 14]) (.const 13))) (.store 11 .dyn 13))))))))) (.aug 3 11)))))) (.alloc 11 (.sh 0) .dict))) (.seq (.seq (.loop [.any, .any, .any, (.lv (.sh 0)), .any, .any, .any, .any, (.lv (.sh 0)), .any, .any, (.lv (.sh 0)), .any, .any, .any, (.lv .num)] (.seq (.seq (.load 12 1 .dyn) (.bind 10 12)) (.seq (.arith 12) (.ite .skip (.store 11 .dyn 10))))) (.ite (.arith 12) (.alloc 12 (.sh 0) (.union [11, 3])))) (.seq (.call 11 307 [12]) (.ret 11))))),
  (.lv (.sh 2))⟩

/-- bermuda/utils/extend.py:333  params: eval_resolution, max_dev_lag, <globals> -/
def f392 : Fn := ⟨"bermuda.utils.extend:_get_all_lag_months", [0, 1, 2], [],
  (.seq (.seq (.seq (.seq (.call 7 66 [0]) (.bind 6 7)) (.seq (.call 7 66 [1]) (.seq (.bind 5 7) (.const 7)))) (.seq (.seq (.load 7 6 .dyn) (.seq (.const 7) (.arith 7))) (.seq (.ite (.seq (.const 7) (.seq (.const 7) .raise)) .skip) (.seq (.const 7) (.load 7 5 .dyn))))) (.seq (.seq (.seq (.const 7) (.seq (.arith 7) (.ite (.seq (.const 7) (.seq (.const 7) .raise)) .skip))) (.seq (.alloc 7 .nums .dict) (.seq (.bind 4 7) (.const 7)))) (.seq (.seq (.bind 3 7) (.seq (.loop [.any, .any, .any, (.lv .num), (.lv .nums), (.lv .nums), (.lv .nums), (.lv .num)] (.block (.seq (.seq (.seq (.const 7) (.load 7 5 .dyn)) (.seq (.arith 7) (.store 4 .dyn 3))) (.seq (.seq (.const 7) (.const 7)) (.seq (.load 7 6 .dyn) (.aug 3 7)))))) (.const 7))) (.seq (.load 7 5 .dyn) (.seq (.arith 7) (.ret 4)))))),
  (.lv .nums)⟩

/-- bermuda/utils/extend.py:89  params: evaluation_dates, include_historic, slice_, <globals> -/
def f393 : Fn := ⟨"bermuda.utils.extend:_make_right_diagonal_slice", [0, 1, 2, 3], [],
  (.seq (.seq (.seq (.alloc 9 (.sh 0) .dict) (.loop [.any, .any, .any, .any, .scalar, .any, .scalar, .scalar, .scalar, (.lv (.sh 0)), .any, .any] (.seq (.seq (.load 10 2 .dyn) (.bind 5 10)) (.seq (.ite (.seq (.load 10 5 .dyn) (.load 11 10 .dyn)) (.call 11 320 [5])) (.store 9 .dyn 11))))) (.seq (.ite (.const 10) (.ite (.load 10 9 .dyn) (.bind 10 9))) (.seq (.bind 4 10) (.const 9)))) (.seq (.seq (.ite (.seq (.alloc 9 (.sh 0) .dict) (.seq (.loop [.any, .any, .any, .any, .any, .any, .any, .scalar, .scalar, (.lv (.sh 0)), .any, .any] (.seq (.seq (.load 10 0 .dyn) (.bind 6 10)) (.seq (.arith 10) (.ite .skip (.store 9 .dyn 6))))) (.bind 0 9))) .skip) (.seq (.alloc 9 (.sh 2) .dict) (.ite (.seq (.load 10 2 .dyn) (.load 11 10 .dyn)) (.call 11 347 [2])))) (.seq (.ite (.seq (.load 10 11 .dyn) (.load 12 10 .dyn)) (.call 12 313 [11])) (.seq (.loop [.any, .any, .any, .any, .any, .any, .any, .any, .any, (.lv (.sh 2)), .any, .any, .any, (.lv (.sh 0)), (.lv (.sh 0)), (.lv (.sh 1)), .scalar, .scalar, (.lv (.sh 0)), .any, (.lv (.sh 0)), (.lv (.sh 0))] (.seq (.load 10 12 .dyn) (.seq (.bind 7 10) (.loop [.any, .any, .any, .any, .any, .any, .any, .any, .any, (.lv (.sh 2)), .any, .any, .any, (.lv (.sh 0)), (.lv (.sh 0)), (.lv (.sh 1)), .scalar, .scalar, (.lv (.sh 0)), .any, (.lv (.sh 0)), (.lv (.sh 0))] (.seq (.seq (.load 10 0 .dyn) (.seq (.bind 8 10) (.load 10 7 .dyn))) (.seq (.load 11 10 .dyn) (.seq (.arith 10) (.ite .skip (.seq (.seq (.seq (.seq (.seq (.load 10 7 .dyn) (.load 11 10 .dyn)) (.seq (.load 10 7 .dyn) (.seq (.load 13 10 .dyn) (.ite (.seq (.load 10 7 .dyn) (.load 14 10 .dyn)) (.call 14 339 [7]))))) (.seq (.seq (.alloc 10 (.sh 0) .dict) (.const 15)) (.seq (.load 15 11 .dyn) (.seq (.load 16 15 .dyn) (.load 15 11 .dyn))))) (.seq (.seq (.seq (.load 16 15 .dyn) (.load 15 11 .dyn)) (.seq (.load 16 15 .dyn) (.seq (.const 15) (.load 16 13 .dyn)))) (.seq (.seq (.load 17 16 .dyn) (.load 16 13 .dyn)) (.seq (.load 17 16 .dyn) (.seq (.load 16 13 .dyn) (.load 17 16 .dyn)))))) (.seq (.seq (.seq (.seq (.const 16) (.load 17 8 .dyn)) (.seq (.load 18 17 .dyn) (.seq (.load 17 8 .dyn) (.load 18 17 .dyn)))) (.seq (.seq (.load 17 8 .dyn) (.load 18 17 .dyn)) (.seq (.const 17) (.seq (.const 18) (.arith 18))))) (.seq (.seq (.seq (.ite (.bind 18 10) (.seq (.alloc 19 (.sh 0) .dict) (.bind 18 19))) (.const 19)) (.seq (.arith 19) (.seq (.ite (.bind 19 14) (.seq (.seq (.alloc 20 (.sh 0) (.lit [])) (.call 21 45 [])) (.seq (.merge 20 21) (.bind 19 20)))) (.call 20 17 [11, 13, 8, 14, 10])))) (.seq (.seq (.alloc 10 (.sh 0) (.lit [("", 15)])) (.seq (.alloc 11 (.sh 0) (.lit [("", 16)])) (.alloc 13 (.sh 0) (.lit [("", 17)])))) (.seq (.alloc 14 (.sh 0) (.lit [("", 19)])) (.seq (.alloc 15 (.sh 1) (.lit [("", 10), ("", 11), ("", 13), ("", 18), ("", 14)])) (.store 9 .dyn 15))))))))))))))) (.ret 9))))),
  (.lv (.sh 2))⟩

/-- bermuda/utils/extend.py:43  params: dev_lags, unit, slice_, <globals> -/
def f394 : Fn := ⟨"bermuda.utils.extend:_make_right_triangle_slice", [0, 1, 2, 3], [],
  (.seq (.seq (.const 7) (.seq (.arith 7) (.ite (.seq (.alloc 7 .nums .dict) (.seq (.loop [.any, .any, .any, .any, .any, .scalar, .scalar, (.lv .nums), (.lv .num)] (.seq (.seq (.load 8 2 .dyn) (.bind 4 8)) (.seq (.call 8 26 [4, 1]) (.store 7 .dyn 8)))) (.bind 0 7))) .skip))) (.seq (.alloc 7 (.sh 2) .dict) (.seq (.loop [.any, .any, .any, .any, .any, .any, .any, (.lv (.sh 2)), .any, .any, (.lv (.sh 0)), (.lv (.sh 0)), (.lv (.sh 0)), (.lv (.sh 1)), .scalar, .scalar, .scalar, (.lv (.sh 0)), .any, (.lv (.sh 0)), (.lv (.sh 0))] (.seq (.seq (.load 8 0 .dyn) (.bind 5 8)) (.seq (.ite (.seq (.load 8 2 .dyn) (.load 9 8 .dyn)) (.call 9 347 [2])) (.loop [.any, .any, .any, .any, .any, .any, .any, (.lv (.sh 2)), .any, .any, (.lv (.sh 0)), (.lv (.sh 0)), (.lv (.sh 0)), (.lv (.sh 1)), .scalar, .scalar, .scalar, (.lv (.sh 0)), .any, (.lv (.sh 0)), (.lv (.sh 0))] (.seq (.seq (.load 8 9 .dyn) (.bind 6 8)) (.seq (.call 8 26 [6, 1]) (.seq (.arith 8) (.ite .skip (.seq (.seq (.seq (.seq (.seq (.load 8 6 .dyn) (.load 10 8 .dyn)) (.seq (.load 8 6 .dyn) (.seq (.load 11 8 .dyn) (.call 8 390 [6, 5, 1])))) (.seq (.seq (.ite (.seq (.load 12 6 .dyn) (.load 13 12 .dyn)) (.call 13 339 [6])) (.alloc 12 (.sh 0) .dict)) (.seq (.const 14) (.seq (.load 14 10 .dyn) (.load 15 14 .dyn))))) (.seq (.seq (.seq (.load 14 10 .dyn) (.load 15 14 .dyn)) (.seq (.load 14 10 .dyn) (.seq (.load 15 14 .dyn) (.const 14)))) (.seq (.seq (.load 15 11 .dyn) (.seq (.load 16 15 .dyn) (.load 15 11 .dyn))) (.seq (.load 16 15 .dyn) (.seq (.load 15 11 .dyn) (.load 16 15 .dyn)))))) (.seq (.seq (.seq (.seq (.const 15) (.load 16 8 .dyn)) (.seq (.load 17 16 .dyn) (.seq (.load 16 8 .dyn) (.load 17 16 .dyn)))) (.seq (.seq (.load 16 8 .dyn) (.load 17 16 .dyn)) (.seq (.const 16) (.seq (.const 17) (.arith 17))))) (.seq (.seq (.seq (.ite (.bind 17 12) (.seq (.alloc 18 (.sh 0) .dict) (.bind 17 18))) (.const 18)) (.seq (.arith 18) (.seq (.ite (.bind 18 13) (.seq (.seq (.alloc 19 (.sh 0) (.lit [])) (.call 20 45 [])) (.seq (.merge 19 20) (.bind 18 19)))) (.call 19 17 [10, 11, 8, 13, 12])))) (.seq (.seq (.alloc 8 (.sh 0) (.lit [("", 14)])) (.seq (.alloc 10 (.sh 0) (.lit [("", 15)])) (.alloc 11 (.sh 0) (.lit [("", 16)])))) (.seq (.alloc 12 (.sh 0) (.lit [("", 18)])) (.seq (.alloc 13 (.sh 1) (.lit [("", 8), ("", 10), ("", 11), ("", 17), ("", 12)])) (.store 7 .dyn 13))))))))))))))) (.ret 7)))),
  (.lv (.sh 2))⟩

/-- bermuda/utils/extend.py:134  params: metadata_sets, min_period, max_period, exp_resolution, eval_resolution, exp_origin, eval_origin, min_dev_lag, max_dev_lag, min_eval, max_eval, statics_fn, is_incremental, <globals> -/
def f395 : Fn := ⟨"bermuda.utils.extend:make_pred_triangle", [0, 1, 2, 3, 4, 5, 6, 7, 8, 9, 10, 11, 12, 13], [],
  (.seq (.seq (.seq (.seq (.seq (.seq (.const 1) (.const 2)) (.seq (.const 3) (.const 4))) (.seq (.seq (.const 5) (.const 6)) (.seq (.const 7) (.const 8)))) (.seq (.seq (.seq (.const 9) (.const 10)) (.seq (.const 12) (.const 38))) (.seq (.seq (.arith 38) (.ite (.seq (.seq (.const 38) (.arith 38)) (.seq (.const 38) (.seq (.arith 38) (.bind 5 38)))) .skip)) (.seq (.const 38) (.arith 38))))) (.seq (.seq (.seq (.seq (.ite (.bind 6 5) .skip) (.call 38 66 [3])) (.seq (.const 39) (.load 39 38 .dyn))) (.seq (.seq (.bind 26 39) (.bind 22 5)) (.seq (.alloc 38 (.sh 2) .dict) (.bind 25 38)))) (.seq (.seq (.seq (.loop [.any, .scalar, .scalar, .scalar, .scalar, (.lv .num), (.lv .num), .scalar, .scalar, .scalar, .scalar, .any, .scalar, .any, .scalar, .scalar, .scalar, .scalar, .scalar, .scalar, .scalar, .scalar, (.lv .num), (.lv .num), (.lv .num), (.lv (.sh 2)), (.lv .num), .scalar, .scalar, .scalar, .scalar, .scalar, .scalar, .scalar, .scalar, .scalar, .scalar, .scalar, (.lv (.sh 2)), (.lv .num)] (.block (.seq (.seq (.seq (.arith 38) (.const 38)) (.seq (.const 38) (.seq (.arith 38) (.bind 24 38)))) (.seq (.seq (.call 38 56 [22, 26]) (.bind 23 38)) (.seq (.arith 38) (.seq (.ite (.seq (.alloc 38 (.sh 1) (.lit [("", 24), ("", 23)])) (.seq (.store 25 .dyn 38) (.const 38))) .skip) (.bind 22 23))))))) (.arith 38)) (.seq (.call 38 66 [4]) (.const 39))) (.seq (.seq (.load 39 38 .dyn) (.bind 21 39)) (.seq (.const 38) (.arith 38)))))) (.seq (.seq (.seq (.seq (.seq (.const 39) (.arith 39)) (.seq (.ite (.bind 40 38) (.bind 40 39)) (.ite (.seq (.const 38) (.seq (.const 38) .raise)) .skip))) (.seq (.seq (.const 38) (.arith 38)) (.seq (.ite (.seq (.seq (.seq (.call 38 66 [8]) (.const 39)) (.seq (.load 39 38 .dyn) (.seq (.bind 20 39) (.const 38)))) (.seq (.seq (.arith 38) (.seq (.load 38 25 .dyn) (.const 39))) (.seq (.load 39 38 .dyn) (.seq (.call 38 56 [39, 20]) (.bind 10 38))))) .skip) (.const 38)))) (.seq (.seq (.seq (.arith 38) (.ite (.seq (.seq (.const 38) (.seq (.load 38 25 .dyn) (.const 39))) (.seq (.load 39 38 .dyn) (.seq (.call 38 58 [39, 10]) (.bind 20 38)))) (.seq (.seq (.call 38 66 [8]) (.const 39)) (.seq (.load 39 38 .dyn) (.bind 20 39))))) (.seq (.call 38 66 [7]) (.const 39))) (.seq (.seq (.load 39 38 .dyn) (.bind 19 39)) (.seq (.const 38) (.arith 38))))) (.seq (.seq (.seq (.seq (.ite (.seq (.seq (.const 38) (.seq (.load 38 25 .dyn) (.const 39))) (.seq (.load 39 38 .dyn) (.seq (.call 38 56 [39, 19]) (.bind 9 38)))) .skip) (.bind 17 9)) (.seq (.alloc 38 .nums .dict) (.bind 18 38))) (.seq (.seq (.loop [.any, .scalar, .scalar, .scalar, .scalar, (.lv .num), (.lv .num), .scalar, .scalar, (.lv .num), (.lv .num), .any, .scalar, .any, .scalar, .scalar, .scalar, (.lv .num), (.lv .nums), (.lv .num), (.lv .num), (.lv .num), (.lv .num), (.lv .num), (.lv .num), (.lv (.sh 2)), (.lv .num), .scalar, .scalar, .scalar, .scalar, .scalar, .scalar, .scalar, .scalar, .scalar, .scalar, .scalar, (.lv .nums), (.lv (.sh 0)), (.lv .num)] (.block (.seq (.seq (.arith 38) (.store 18 .dyn 17)) (.seq (.const 38) (.seq (.call 38 56 [17, 21]) (.bind 17 38)))))) (.arith 38)) (.seq (.ite .skip (.loop [.any, .scalar, .scalar, .scalar, .scalar, (.lv .num), (.lv .num), .scalar, .scalar, (.lv .num), (.lv .num), .any, .scalar, .any, .scalar, .scalar, .scalar, (.lv .num), (.lv .nums), (.lv .num), (.lv .num), (.lv .num), (.lv .num), (.lv .num), (.lv .num), (.lv (.sh 2)), (.lv .num), .scalar, .any, .any, .any, .any, (.lv (.sh 1)), .scalar, .scalar, .scalar, .scalar, .scalar, .any, .any, .any, (.lv (.sh 0)), (.lv (.sh 0)), (.lv (.sh 1)), (.lv (.sh 0)), (.lv (.sh 0))] (.block (.seq (.seq (.seq (.seq (.seq (.havoc 28) (.havoc 29)) (.seq (.havoc 30) (.seq (.havoc 31) (.alloc 38 (.sh 0) .dict)))) (.seq (.seq (.const 39) (.load 39 28 .dyn)) (.seq (.load 40 39 .dyn) (.seq (.load 39 28 .dyn) (.load 40 39 .dyn))))) (.seq (.seq (.seq (.load 39 28 .dyn) (.load 40 39 .dyn)) (.seq (.const 39) (.seq (.load 40 29 .dyn) (.load 41 40 .dyn)))) (.seq (.seq (.load 40 29 .dyn) (.load 41 40 .dyn)) (.seq (.load 40 29 .dyn) (.seq (.load 41 40 .dyn) (.const 40)))))) (.seq (.seq (.seq (.seq (.load 41 30 .dyn) (.load 42 41 .dyn)) (.seq (.load 41 30 .dyn) (.seq (.load 42 41 .dyn) (.load 41 30 .dyn)))) (.seq (.seq (.load 42 41 .dyn) (.const 41)) (.seq (.const 42) (.seq (.arith 42) (.ite (.bind 42 38) (.seq (.alloc 43 (.sh 0) .dict) (.bind 42 43))))))) (.seq (.seq (.seq (.const 43) (.arith 43)) (.seq (.ite (.bind 43 31) (.seq (.seq (.alloc 44 (.sh 0) (.lit [])) (.call 45 45 [])) (.seq (.merge 44 45) (.bind 43 44)))) (.seq (.call 44 17 [28, 29, 30, 31, 38]) (.alloc 38 (.sh 0) (.lit [("", 39)]))))) (.seq (.seq (.alloc 39 (.sh 0) (.lit [("", 40)])) (.seq (.alloc 40 (.sh 0) (.lit [("", 41)])) (.alloc 41 (.sh 0) (.lit [("", 43)])))) (.seq (.alloc 43 (.sh 1) (.lit [("", 38), ("", 39), ("", 40), ("", 42), ("", 41)])) (.seq (.bind 32 43) (.«try» (.seq (.havoc 38) (.seq (.ite (.call 39 29 [32, 38]) (.ite (.call 39 346 [32, 38]) (.const 39))) .brk)) (.seq (.seq (.const 38) (.const 39)) (.seq (.alloc 40 .nums (.lit [("", 38), ("", 39)])) (.seq (.const 38) .brk))))))))))))) (.const 27)))) (.seq (.seq (.seq (.alloc 38 (.sh 0) .dict) (.loop [.any, .scalar, .scalar, .scalar, .scalar, (.lv .num), (.lv .num), .scalar, .scalar, (.lv .num), (.lv .num), .any, .scalar, .any, .scalar, .scalar, .scalar, (.lv .num), (.lv .nums), (.lv .num), (.lv .num), (.lv .num), (.lv .num), (.lv .num), (.lv .num), (.lv (.sh 2)), (.lv .num), .scalar, .any, .any, .any, .any, (.lv (.sh 1)), (.lv (.sh 0)), (.lv (.sh 0)), (.lv .num), .any, .scalar, (.lv (.sh 0)), .any, .any, (.lv (.sh 0)), (.lv (.sh 0)), (.lv (.sh 1)), (.lv (.sh 0)), (.lv (.sh 0))] (.seq (.seq (.load 39 25 .dyn) (.seq (.load 40 39 .dyn) (.bind 33 40))) (.seq (.load 40 39 .dyn) (.seq (.bind 34 40) (.loop [.any, .scalar, .scalar, .scalar, .scalar, (.lv .num), (.lv .num), .scalar, .scalar, (.lv .num), (.lv .num), .any, .scalar, .any, .scalar, .scalar, .scalar, (.lv .num), (.lv .nums), (.lv .num), (.lv .num), (.lv .num), (.lv .num), (.lv .num), (.lv .num), (.lv (.sh 2)), (.lv .num), .scalar, .any, .any, .any, .any, (.lv (.sh 1)), (.lv (.sh 0)), (.lv (.sh 0)), (.lv .num), .any, .scalar, (.lv (.sh 0)), .any, (.lv (.sh 0)), (.lv (.sh 0)), (.lv (.sh 0)), (.lv (.sh 1)), (.lv (.sh 0)), (.lv (.sh 0))] (.seq (.load 39 18 .dyn) (.seq (.bind 35 39) (.loop [.any, .scalar, .scalar, .scalar, .scalar, (.lv .num), (.lv .num), .scalar, .scalar, (.lv .num), (.lv .num), .any, .scalar, .any, .scalar, .scalar, .scalar, (.lv .num), (.lv .nums), (.lv .num), (.lv .num), (.lv .num), (.lv .num), (.lv .num), (.lv .num), (.lv (.sh 2)), (.lv .num), .scalar, .any, .any, .any, .any, (.lv (.sh 1)), (.lv (.sh 0)), (.lv (.sh 0)), (.lv .num), .any, .scalar, (.lv (.sh 0)), .any, (.lv (.sh 0)), (.lv (.sh 0)), (.lv (.sh 0)), (.lv (.sh 1)), (.lv (.sh 0)), (.lv (.sh 0))] (.seq (.seq (.load 39 0 .dyn) (.bind 36 39)) (.seq (.call 39 58 [34, 35]) (.seq (.arith 39) (.ite .skip (.seq (.havoc 39) (.store 38 .dyn 39))))))))))))))) (.seq (.bind 15 38) (.alloc 38 (.sh 0) .dict))) (.seq (.seq (.loop [.any, .scalar, .scalar, .scalar, .scalar, (.lv .num), (.lv .num), .scalar, .scalar, (.lv .num), (.lv .num), .any, .scalar, .any, .scalar, (.lv (.sh 0)), .scalar, (.lv .num), (.lv .nums), (.lv .num), (.lv .num), (.lv .num), (.lv .num), (.lv .num), (.lv .num), (.lv (.sh 2)), (.lv .num), .scalar, .any, .any, .any, .any, (.lv (.sh 1)), (.lv (.sh 0)), (.lv (.sh 0)), (.lv .num), .any, .any, (.lv (.sh 0)), .any, .any, (.lv (.sh 0)), (.lv (.sh 0)), (.lv (.sh 1)), (.lv (.sh 0)), (.lv (.sh 0))] (.seq (.seq (.load 39 15 .dyn) (.bind 37 39)) (.seq (.const 39) (.seq (.arith 39) (.ite .skip (.store 38 .dyn 37)))))) (.call 39 307 [38])) (.seq (.bind 14 39) (.seq (.ite (.seq (.call 38 118 [14]) (.bind 14 38)) .skip) (.ret 14)))))))),
  .any⟩

/-- bermuda/utils/extend.py:216  params: init_triangle, static_fields, max_dev_lag, eval_date_resolution_override, <globals> -/
def f396 : Fn := ⟨"bermuda.utils.extend:make_pred_triangle_complement", [0, 1, 2, 3, 4], [],
  (.seq (.seq (.seq (.seq (.seq (.seq (.const 2) (.const 3)) (.seq (.const 21) (.arith 21))) (.seq (.seq (.ite (.seq (.call 21 60 [0]) (.bind 22 21)) (.bind 22 3)) (.bind 11 22)) (.seq (.const 21) (.seq (.arith 21) (.ite (.seq (.const 21) (.seq (.const 21) .raise)) .skip))))) (.seq (.seq (.seq (.ite (.bind 21 1) (.seq (.seq (.const 22) (.const 23)) (.seq (.alloc 24 .nums (.lit [("", 22), ("", 23)])) (.bind 21 24)))) (.bind 1 21)) (.seq (.ite .skip (.loop [.any, .any, .scalar, .scalar, .any, .scalar, .scalar, .scalar, .scalar, .scalar, .scalar, .any, .scalar, .any, .any, .any, .any, .any, .scalar, .scalar, .scalar, .any, .any, .any, .any, (.lv .num)] (.block (.seq (.seq (.seq (.havoc 13) (.seq (.alloc 21 (.sh 0) .dict) (.ite (.seq (.load 22 0 .dyn) (.load 23 22 .dyn)) (.call 23 347 [0])))) (.seq (.ite (.seq (.load 22 23 .dyn) (.load 24 22 .dyn)) (.call 24 313 [23])) (.seq (.loop [.any, .any, .scalar, .scalar, .any, .scalar, .scalar, .scalar, .scalar, .scalar, .scalar, .any, .scalar, .any, .any, .any, .any, .any, .scalar, .scalar, .scalar, (.lv (.sh 0)), .any, .any, .any, (.lv .num)] (.seq (.seq (.seq (.load 22 24 .dyn) (.seq (.bind 15 22) (.load 22 15 .dyn))) (.seq (.seq (.load 23 22 .dyn) (.load 22 13 .dyn)) (.seq (.load 23 22 .dyn) (.arith 22)))) (.seq (.seq (.load 23 15 .dyn) (.seq (.load 25 23 .dyn) (.load 23 13 .dyn))) (.seq (.seq (.load 25 23 .dyn) (.arith 23)) (.seq (.ite (.bind 25 22) (.bind 25 23)) (.ite .skip (.store 21 .dyn 15))))))) (.const 22)))) (.seq (.seq (.load 22 21 .dyn) (.seq (.bind 14 22) (.alloc 21 (.sh 0) .dict))) (.seq (.load 22 14 .dyn) (.seq (.loop [.any, .any, .scalar, .scalar, .any, .scalar, .scalar, .scalar, .scalar, .scalar, .scalar, .any, .scalar, .any, .any, .any, .any, .any, .scalar, .scalar, .scalar, (.lv (.sh 0)), .any, .any, .any, (.lv .num)] (.seq (.seq (.havoc 23) (.seq (.bind 16 23) (.load 23 22 .dyn))) (.seq (.bind 17 23) (.seq (.arith 23) (.ite .skip (.store 21 .dyn 17)))))) .brk))))))) (.const 12))) (.seq (.seq (.const 21) (.arith 21)) (.seq (.ite (.seq (.seq (.call 21 318 [0]) (.const 22)) (.seq (.arith 22) (.seq (.load 22 21 .dyn) (.bind 2 22)))) .skip) (.seq (.ite (.seq (.load 21 0 .dyn) (.load 22 21 .dyn)) (.call 22 339 [0])) (.ite (.seq (.load 21 0 .dyn) (.load 23 21 .dyn)) (.call 23 344 [0]))))))) (.seq (.seq (.seq (.seq (.const 21) (.load 21 23 .dyn)) (.seq (.const 23) (.load 23 21 .dyn))) (.seq (.seq (.ite (.seq (.load 21 0 .dyn) (.load 24 21 .dyn)) (.call 24 344 [0])) (.const 21)) (.seq (.arith 21) (.seq (.load 21 24 .dyn) (.const 24))))) (.seq (.seq (.seq (.arith 24) (.load 24 21 .dyn)) (.seq (.call 21 64 [0]) (.const 25))) (.seq (.seq (.alloc 26 (.sh 0) (.lit [("", 21), ("", 25)])) (.const 21)) (.seq (.alloc 25 (.sh 0) (.lit [("", 11), ("", 21)])) (.seq (.ite (.seq (.load 21 0 .dyn) (.load 27 21 .dyn)) (.call 27 344 [0])) (.const 21))))))) (.seq (.seq (.seq (.seq (.seq (.load 21 27 .dyn) (.const 27)) (.seq (.load 27 21 .dyn) (.const 21))) (.seq (.seq (.const 21) (.arith 21)) (.seq (.ite (.seq (.load 27 0 .dyn) (.load 28 27 .dyn)) (.call 28 321 [0])) (.seq (.const 27) (.load 27 28 .dyn))))) (.seq (.seq (.seq (.const 27) (.const 27)) (.seq (.arith 27) (.call 28 318 [0]))) (.seq (.seq (.const 29) (.load 29 28 .dyn)) (.seq (.const 28) (.seq (.alloc 30 .nums (.lit [("", 29), ("", 28)])) (.const 28)))))) (.seq (.seq (.seq (.seq (.alloc 29 .nums (.lit [("", 2), ("", 28)])) (.ite (.seq (.load 28 0 .dyn) (.load 31 28 .dyn)) (.call 31 321 [0]))) (.seq (.const 28) (.load 28 31 .dyn))) (.seq (.seq (.ite (.seq (.load 31 0 .dyn) (.load 32 31 .dyn)) (.call 32 333 [0])) (.call 31 395 [22, 23, 24, 26, 25, 21, 27, 30, 29, 28, 12, 32])) (.seq (.bind 9 31) (.seq (.alloc 21 (.sh 2) .dict) (.bind 8 21))))) (.seq (.seq (.seq (.loop [.any, .any, (.lv .num), .scalar, .any, .scalar, (.lv (.sh 0)), .any, (.lv (.sh 2)), .any, .scalar, .any, .scalar, .any, .any, .any, .any, .any, .scalar, .scalar, .scalar, (.lv (.sh 2)), .any, .any, .any, (.lv (.sh 0)), (.lv (.sh 0)), (.lv .num), .any, (.lv .nums), (.lv .nums), .any, .any] (.block (.seq (.seq (.seq (.seq (.load 21 0 .dyn) (.bind 7 21)) (.seq (.load 21 7 .dyn) (.load 22 21 .dyn))) (.seq (.seq (.alloc 21 (.sh 0) (.union [22])) (.alloc 22 (.sh 0) (.union [21]))) (.seq (.bind 6 22) (.arith 21)))) (.seq (.seq (.seq (.ite (.seq (.alloc 21 (.sh 1) .dict) (.store 8 .dyn 21)) .skip) (.load 21 8 .dyn)) (.seq (.load 22 7 .dyn) (.load 23 22 .dyn))) (.seq (.seq (.ite (.seq (.load 22 7 .dyn) (.load 24 22 .dyn)) (.call 24 320 [7])) (.alloc 22 (.sh 0) (.lit [("", 23), ("", 24)]))) (.seq (.store 21 .dyn 22) (.const 21))))))) (.alloc 21 (.sh 0) .dict)) (.seq (.ite (.seq (.load 22 0 .dyn) (.load 23 22 .dyn)) (.call 23 349 [0])) (.loop [.any, .any, (.lv .num), .scalar, .any, .scalar, (.lv (.sh 0)), .any, (.lv (.sh 2)), .any, .scalar, .any, .scalar, .any, .any, .any, .any, .any, .any, .any, .scalar, (.lv (.sh 0)), .any, .any, .any, .any, (.lv (.sh 0)), (.lv .num), .any, (.lv .nums), (.lv .nums), .any, .any] (.seq (.seq (.seq (.load 22 23 .dyn) (.load 24 22 .dyn)) (.seq (.bind 18 24) (.seq (.load 24 22 .dyn) (.bind 19 24)))) (.seq (.seq (.const 22) (.arith 22)) (.seq (.load 22 19 .dyn) (.seq (.ite (.seq (.load 24 22 .dyn) (.load 25 24 .dyn)) (.call 25 320 [22])) (.store 21 .dyn 25)))))))) (.seq (.seq (.bind 5 21) (.alloc 21 (.sh 0) .dict)) (.seq (.loop [.any, .any, (.lv .num), .scalar, .any, (.lv (.sh 0)), (.lv (.sh 0)), .any, (.lv (.sh 2)), .any, .scalar, .any, .scalar, .any, .any, .any, .any, .any, .any, .any, .any, (.lv (.sh 0)), .any, .any, .any, .any, (.lv (.sh 0)), (.lv .num), .any, (.lv .nums), (.lv .nums), .any, .any] (.seq (.seq (.seq (.seq (.load 22 9 .dyn) (.bind 20 22)) (.seq (.load 22 20 .dyn) (.seq (.load 23 22 .dyn) (.ite (.seq (.load 22 20 .dyn) (.load 24 22 .dyn)) (.call 24 320 [20]))))) (.seq (.seq (.alloc 22 (.sh 0) (.lit [("", 23), ("", 24)])) (.load 22 20 .dyn)) (.seq (.load 23 22 .dyn) (.seq (.alloc 22 (.sh 0) (.union [23])) (.alloc 23 (.sh 0) (.union [22])))))) (.seq (.seq (.seq (.load 22 8 .dyn) (.arith 22)) (.seq (.ite (.seq (.load 23 20 .dyn) (.load 24 23 .dyn)) (.call 24 320 [20])) (.seq (.ite (.seq (.load 23 20 .dyn) (.load 24 23 .dyn)) (.call 24 339 [20])) (.ite (.seq (.load 23 20 .dyn) (.load 25 23 .dyn)) (.call 25 27 [20]))))) (.seq (.seq (.alloc 23 (.sh 0) (.lit [("", 24), ("", 25)])) (.seq (.const 24) (.ite (.const 25) (.ite (.load 25 5 .dyn) (.ite (.bind 25 23) (.bind 25 24)))))) (.seq (.arith 23) (.seq (.ite (.bind 24 22) (.bind 24 23)) (.ite .skip (.store 21 .dyn 20)))))))) (.seq (.call 22 307 [21]) (.ret 22)))))))),
  (.lv (.sh 2))⟩

/-- bermuda/utils/extend.py:289  params: init_triangle, pred_triangle, max_dev_lag, eval_resolution, max_eval_date, <globals> -/
def f397 : Fn := ⟨"bermuda.utils.extend:make_pred_triangle_with_init", [0, 1, 2, 3, 4, 5], [],
  (.seq (.seq (.seq (.seq (.const 2) (.const 3)) (.seq (.const 4) (.seq (.const 9) (.arith 9)))) (.seq (.seq (.ite (.seq (.seq (.seq (.seq (.const 9) (.arith 9)) (.seq (.ite (.seq (.const 9) (.seq (.const 9) .raise)) .skip) (.seq (.const 9) (.arith 9)))) (.seq (.seq (.ite (.seq (.const 9) (.seq (.const 9) .raise)) .skip) (.const 9)) (.seq (.arith 9) (.seq (.ite (.seq (.const 9) (.seq (.const 9) .raise)) .skip) (.ite (.seq (.load 9 0 .dyn) (.load 10 9 .dyn)) (.call 10 313 [0])))))) (.seq (.seq (.seq (.const 9) (.load 9 10 .dyn)) (.seq (.const 9) (.seq (.ite (.seq (.load 9 1 .dyn) (.load 10 9 .dyn)) (.call 10 313 [1])) (.const 9)))) (.seq (.seq (.load 9 10 .dyn) (.seq (.const 9) (.arith 9))) (.seq (.ite (.seq (.const 9) (.seq (.const 9) .raise)) .skip) (.seq (.const 9) (.ret 9)))))) .skip) (.seq (.const 9) (.arith 9))) (.seq (.ite (.seq (.const 9) (.seq (.const 9) .raise)) .skip) (.seq (.const 9) (.arith 9))))) (.seq (.seq (.seq (.ite (.seq (.const 9) (.seq (.const 9) .raise)) .skip) (.seq (.const 9) (.arith 9))) (.seq (.ite (.seq (.const 9) (.bind 4 9)) .skip) (.seq (.call 9 392 [3, 2]) (.bind 7 9)))) (.seq (.seq (.call 9 124 [0, 7]) (.seq (.bind 6 9) (.ite .skip (.loop [.any, .any, .scalar, .scalar, .scalar, .any, (.lv (.sh 2)), (.lv .nums), .any, (.lv (.sh 2)), .any] (.block (.seq (.havoc 8) (.seq (.ite (.seq (.load 9 8 .dyn) (.load 10 9 .dyn)) (.call 10 320 [8])) (.arith 9)))))))) (.seq (.const 9) (.seq (.call 10 327 [6, 9]) (.ret 10)))))),
  (.lv (.sh 2))⟩

/-- bermuda/utils/extend.py:75  params: triangle, evaluation_dates, include_historic, <globals> -/
def f398 : Fn := ⟨"bermuda.utils.extend:make_right_diagonal", [0, 1, 2, 3], [],
  (.seq (.seq (.seq (.seq (.const 7) (.ite (.seq (.load 7 0 .dyn) (.load 8 7 .dyn)) (.call 8 333 [0]))) (.seq (.ite (.seq (.call 7 120 [0]) (.bind 8 7)) (.bind 8 0)) (.seq (.bind 6 8) (.const 7)))) (.seq (.seq (.alloc 7 (.sh 0) .dict) (.havoc 8)) (.seq (.store 7 .dyn 8) (.seq (.ite (.seq (.load 7 6 .dyn) (.load 8 7 .dyn)) (.call 8 350 [6])) (.alloc 7 (.sh 0) (.union [8])))))) (.seq (.seq (.seq (.alloc 7 (.sh 0) .dict) (.havoc 8)) (.seq (.store 7 .dyn 8) (.seq (.bind 5 7) (.alloc 7 (.sh 0) (.union [5]))))) (.seq (.seq (.call 8 307 [7]) (.bind 4 8)) (.seq (.ite (.seq (.load 7 0 .dyn) (.load 8 7 .dyn)) (.call 8 333 [0])) (.seq (.ite (.seq (.call 7 118 [4]) (.seq (.call 8 391 [0, 7]) (.bind 4 8))) .skip) (.ret 4)))))),
  (.lv (.sh 2))⟩

/-- bermuda/utils/extend.py:27  params: triangle, dev_lags, dev_lag_unit, <globals> -/
def f399 : Fn := ⟨"bermuda.utils.extend:make_right_triangle", [0, 1, 2, 3], [],
  (.seq (.seq (.seq (.seq (.const 7) (.ite (.seq (.load 7 0 .dyn) (.load 8 7 .dyn)) (.call 8 333 [0]))) (.seq (.ite (.seq (.ite (.call 7 372 [0]) (.bind 7 0)) (.bind 8 7)) (.bind 8 0)) (.seq (.bind 6 8) (.const 7)))) (.seq (.seq (.alloc 7 (.sh 0) .dict) (.havoc 8)) (.seq (.store 7 .dyn 8) (.seq (.ite (.seq (.load 7 6 .dyn) (.load 8 7 .dyn)) (.call 8 350 [6])) (.alloc 7 (.sh 0) (.union [8])))))) (.seq (.seq (.seq (.alloc 7 (.sh 0) .dict) (.havoc 8)) (.seq (.store 7 .dyn 8) (.seq (.bind 5 7) (.alloc 7 (.sh 0) (.union [5]))))) (.seq (.seq (.call 8 307 [7]) (.bind 4 8)) (.seq (.ite (.seq (.load 7 0 .dyn) (.load 8 7 .dyn)) (.call 8 333 [0])) (.seq (.ite (.seq (.call 7 118 [4]) (.seq (.call 8 391 [0, 7]) (.bind 4 8))) .skip) (.ret 4)))))),
  (.lv (.sh 2))⟩

def chunk6 : List Fn := [f373, f374, f375, f376, f377, f378, f379, f380, f381, f382, f383, f384, f385, f386, f387, f388, f389, f390, f391, f392, f393, f394, f395, f396, f397, f398, f399]

/-- every function of this chunk respects the discipline (re-proved against today's source) -/
theorem chunk6_disciplined : chunk6.all (writesOnlyFresh sums) = true :=
  disciplined_of_fast (by decide +kernel)

end Bermuda.Generated.HeapIR
