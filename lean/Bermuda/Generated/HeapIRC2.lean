-- GENERATED by harness/translate_c03ir.py from /repo -- do not edit
import Bermuda.Generated.HeapIRSums
import Bermuda.Lemmas.HeapIRFast
namespace Bermuda.Generated.HeapIR
open Bermuda.HeapIR

/-- bermuda/io/data_frame_input.py:288  params: df, loss_detail_cols, metadata, <globals> -/
def f182 : Fn := ⟨"bermuda.io.data_frame_input:long_data_frame_to_triangle@Triangle.from_long_data_frame", [0, 1, 2, 3], [0],
  (.seq (.seq (.seq (.seq (.seq (.seq (.const 27) (.call 27 174 [0])) (.seq (.const 27) (.seq (.arith 27) (.ite (.seq (.const 27) (.seq (.const 27) .raise)) .skip)))) (.seq (.seq (.load 27 0 .dyn) (.load 28 27 .dyn)) (.seq (.const 27) (.seq (.const 27) (.ite (.seq (.const 27) (.seq (.const 27) .raise)) .skip))))) (.seq (.seq (.seq (.const 27) (.arith 27)) (.seq (.ite (.seq (.const 27) (.seq (.const 27) .raise)) .skip) (.seq (.load 27 0 .dyn) (.load 28 27 .dyn)))) (.seq (.seq (.const 27) (.seq (.const 27) (.ite (.seq (.const 27) (.seq (.const 27) .raise)) .skip))) (.seq (.const 27) (.seq (.arith 27) (.ite (.seq (.alloc 27 .nums .dict) (.bind 1 27)) .skip)))))) (.seq (.seq (.seq (.seq (.load 27 0 .dyn) (.load 28 27 .dyn)) (.seq (.load 27 28 .dyn) (.seq (.alloc 28 (.sh 0) (.union [27])) (.load 27 3 .dyn)))) (.seq (.seq (.arith 27) (.seq (.const 27) (.const 28))) (.seq (.alloc 29 .nums (.lit [("", 27), ("", 28)])) (.seq (.arith 27) (.alloc 27 (.sh 0) (.union [1])))))) (.seq (.seq (.seq (.arith 27) (.alloc 28 .nums (.union [27]))) (.seq (.bind 24 28) (.seq (.const 27) (.arith 27)))) (.seq (.seq (.ite (.seq (.seq (.alloc 27 (.sh 0) (.lit [])) (.call 28 45 [])) (.seq (.merge 27 28) (.bind 2 27))) .skip) (.seq (.call 27 177 [0, 2, 24, 1]) (.bind 23 27))) (.seq (.load 27 0 .dyn) (.seq (.load 28 27 .dyn) (.load 27 28 .dyn))))))) (.seq (.seq (.seq (.seq (.seq (.load 28 27 .dyn) (.load 27 28 .dyn)) (.seq (.load 28 27 .dyn) (.seq (.alloc 27 (.sh 0) (.union [28])) (.bind 22 27)))) (.seq (.seq (.load 27 0 .dyn) (.seq (.load 28 27 .dyn) (.load 27 28 .dyn))) (.seq (.load 28 27 .dyn) (.seq (.load 27 28 .dyn) (.load 28 27 .dyn))))) (.seq (.seq (.seq (.alloc 27 (.sh 0) (.union [28])) (.bind 21 27)) (.seq (.ite (.seq (.load 27 0 .dyn) (.load 28 27 .dyn)) (.call 28 320 [0])) (.seq (.load 27 28 .dyn) (.load 28 27 .dyn)))) (.seq (.seq (.load 27 28 .dyn) (.seq (.load 28 27 .dyn) (.alloc 27 (.sh 0) (.union [28])))) (.seq (.bind 20 27) (.seq (.const 27) (.load 27 0 .dyn)))))) (.seq (.seq (.seq (.seq (.load 28 27 .dyn) (.arith 27)) (.seq (.ite (.seq (.seq (.seq (.load 27 0 .dyn) (.load 28 27 .dyn)) (.seq (.load 27 28 .dyn) (.load 28 27 .dyn))) (.seq (.seq (.load 27 28 .dyn) (.load 28 27 .dyn)) (.seq (.alloc 27 (.sh 0) (.union [28])) (.bind 19 27)))) .skip) (.seq (.load 27 0 .dyn) (.load 28 27 .dyn)))) (.seq (.seq (.alloc 27 (.sh 0) (.union [28])) (.seq (.bind 18 27) (.load 27 0 .dyn))) (.seq (.load 28 27 .dyn) (.seq (.alloc 27 (.sh 0) (.union [28])) (.bind 17 27))))) (.seq (.seq (.seq (.alloc 27 (.sh 2) .dict) (.bind 16 27)) (.seq (.const 27) (.seq (.load 27 0 .dyn) (.load 28 27 .dyn)))) (.seq (.seq (.arith 27) (.seq (.ite (.loop [(.lv .ext), .any, .any, .any, .any, .scalar, (.lv (.sh 0)), .scalar, .scalar, .any, .any, .any, .any, .scalar, .scalar, .any, (.lv (.sh 2)), (.lv (.sh 0)), (.lv (.sh 0)), (.lv (.sh 0)), (.lv (.sh 0)), (.lv (.sh 0)), (.lv (.sh 0)), (.lv (.sh 1)), (.lv .nums), .scalar, .scalar, (.lv (.sh 0)), .any, .any, (.lv (.sh 0)), (.lv (.sh 0)), (.lv (.sh 0)), (.lv (.sh 1)), (.lv (.sh 0))] (.block (.seq (.seq (.seq (.seq (.load 27 23 .dyn) (.bind 2 27)) (.seq (.load 27 22 .dyn) (.bind 12 27))) (.seq (.seq (.load 27 21 .dyn) (.bind 11 27)) (.seq (.load 27 20 .dyn) (.seq (.bind 10 27) (.load 27 19 .dyn))))) (.seq (.seq (.seq (.bind 15 27) (.load 27 18 .dyn)) (.seq (.bind 9 27) (.seq (.load 27 17 .dyn) (.bind 4 27)))) (.seq (.seq (.alloc 27 (.sh 0) (.lit [("", 12), ("", 11), ("", 10), ("", 15), ("", 2)])) (.bind 6 27)) (.seq (.const 27) (.seq (.arith 27) (.ite (.seq (.arith 27) (.ite (.seq (.seq (.seq (.load 27 16 .dyn) (.load 28 27 .dyn)) (.seq (.arith 27) (.ite (.seq (.const 27) (.seq (.const 27) .raise)) .skip))) (.seq (.seq (.arith 27) (.load 28 16 .dyn)) (.seq (.load 29 28 .dyn) (.store 29 .dyn 27)))) (.seq (.seq (.seq (.seq (.seq (.alloc 27 (.sh 0) .dict) (.arith 28)) (.seq (.store 27 .dyn 28) (.const 28))) (.seq (.seq (.load 28 12 .dyn) (.load 29 28 .dyn)) (.seq (.load 28 12 .dyn) (.seq (.load 29 28 .dyn) (.load 28 12 .dyn))))) (.seq (.seq (.seq (.load 29 28 .dyn) (.const 28)) (.seq (.load 29 11 .dyn) (.seq (.load 30 29 .dyn) (.load 29 11 .dyn)))) (.seq (.seq (.load 30 29 .dyn) (.load 29 11 .dyn)) (.seq (.load 30 29 .dyn) (.seq (.const 29) (.load 30 10 .dyn)))))) (.seq (.seq (.seq (.seq (.load 31 30 .dyn) (.load 30 10 .dyn)) (.seq (.load 31 30 .dyn) (.seq (.load 30 10 .dyn) (.load 31 30 .dyn)))) (.seq (.seq (.const 30) (.const 31)) (.seq (.arith 31) (.seq (.ite (.bind 31 27) (.seq (.alloc 32 (.sh 0) .dict) (.bind 31 32))) (.const 32))))) (.seq (.seq (.seq (.arith 32) (.ite (.bind 32 2) (.seq (.seq (.alloc 33 (.sh 0) (.lit [])) (.call 34 45 [])) (.seq (.merge 33 34) (.bind 32 33))))) (.seq (.call 33 37 [12, 11, 10, 15, 2, 27]) (.seq (.alloc 27 (.sh 0) (.lit [("", 28)])) (.alloc 28 (.sh 0) (.lit [("", 29)]))))) (.seq (.seq (.alloc 29 (.sh 0) (.lit [("", 30)])) (.alloc 30 (.sh 0) (.lit [("", 32)]))) (.seq (.alloc 32 (.sh 0) (.lit [("", 15)])) (.seq (.alloc 33 (.sh 1) (.lit [("", 27), ("", 28), ("", 29), ("", 31), ("", 30), ("", 32)])) (.store 16 .dyn 33))))))))) .skip)))))))) (.seq (.seq (.seq (.seq (.load 27 3 .dyn) (.loop [.any, .any, .any, .any, .scalar, .scalar, .scalar, .scalar, .scalar, .scalar, .scalar, .scalar, .scalar, .scalar, .any, .scalar, (.lv (.sh 2)), (.lv (.sh 0)), (.lv (.sh 0)), (.lv (.sh 0)), (.lv (.sh 0)), (.lv (.sh 0)), (.lv (.sh 0)), (.lv (.sh 1)), (.lv .nums), (.lv (.sh 0)), .scalar, .any, .any, .any, .any] (.block (.seq (.seq (.load 28 27 .dyn) (.seq (.bind 14 28) (.load 28 0 .dyn))) (.seq (.load 29 28 .dyn) (.seq (.arith 28) (.ite (.seq (.seq (.seq (.alloc 28 (.sh 1) .dict) (.alloc 29 (.sh 0) .dict)) (.seq (.loop [.any, .any, .any, .any, .scalar, .scalar, .scalar, .scalar, .scalar, .scalar, .scalar, .scalar, .scalar, .scalar, .any, .scalar, (.lv (.sh 2)), (.lv (.sh 0)), (.lv (.sh 0)), (.lv (.sh 0)), (.lv (.sh 0)), (.lv (.sh 0)), (.lv (.sh 0)), (.lv (.sh 1)), (.lv .nums), (.lv (.sh 0)), .scalar, .any, (.lv (.sh 1)), (.lv (.sh 0)), .any] (.seq (.seq (.load 30 23 .dyn) (.bind 25 30)) (.seq (.ite (.arith 30) (.ite (.load 30 25 .dyn) (.ite (.bind 30 25) (.bind 30 14)))) (.store 29 .dyn 30)))) (.store 28 .dyn 29))) (.seq (.seq (.load 29 28 .dyn) (.alloc 28 (.sh 0) .dict)) (.seq (.havoc 29) (.seq (.store 28 .dyn 29) (.bind 0 28))))) .skip))))))) (.seq (.const 27) (.const 28))) (.seq (.seq (.const 29) (.const 30)) (.seq (.alloc 31 .nums (.lit [("", 27), ("", 28), ("", 29), ("", 30)])) (.load 27 3 .dyn)))) (.seq (.seq (.seq (.ite (.arith 28) (.alloc 28 (.sh 0) (.union [31, 27]))) (.ite (.arith 27) (.alloc 27 (.sh 0) (.union [28, 24])))) (.seq (.ite (.arith 28) (.alloc 28 (.sh 0) (.union [27, 1]))) (.const 27))) (.seq (.seq (.alloc 27 (.sh 0) .dict) (.havoc 28)) (.seq (.store 27 .dyn 28) (.loop [.any, .any, .any, .any, .any, .any, (.lv (.sh 0)), (.lv (.sh 0)), (.lv (.sh 0)), .any, .any, .any, .any, .any, .any, .scalar, (.lv (.sh 2)), (.lv (.sh 0)), (.lv (.sh 0)), (.lv (.sh 0)), (.lv (.sh 0)), (.lv (.sh 0)), (.lv (.sh 0)), (.lv (.sh 1)), (.lv .nums), (.lv (.sh 0)), .scalar, (.lv (.sh 0)), .any, (.lv (.sh 0)), (.lv (.sh 0)), .any, (.lv (.sh 1)), .scalar, .scalar, (.lv (.sh 0)), (.lv (.sh 0)), (.lv (.sh 0)), (.lv (.sh 0))] (.block (.seq (.seq (.seq (.seq (.seq (.load 28 27 .dyn) (.load 29 28 .dyn)) (.seq (.bind 13 29) (.seq (.load 29 28 .dyn) (.bind 5 29)))) (.seq (.seq (.load 28 13 .dyn) (.seq (.bind 12 28) (.load 28 13 .dyn))) (.seq (.bind 11 28) (.seq (.load 28 13 .dyn) (.bind 10 28))))) (.seq (.seq (.seq (.load 28 13 .dyn) (.bind 9 28)) (.seq (.alloc 28 (.sh 0) (.union [13])) (.seq (.bind 8 28) (.call 28 177 [5, 2, 24, 1])))) (.seq (.seq (.const 29) (.seq (.load 29 28 .dyn) (.bind 7 29))) (.seq (.alloc 28 (.sh 0) (.lit [("", 12), ("", 11), ("", 10), ("", 7)])) (.seq (.bind 6 28) (.const 28)))))) (.seq (.seq (.seq (.seq (.const 28) (.arith 28)) (.seq (.ite (.«try» (.seq (.seq (.const 28) (.seq (.alloc 29 .nums (.lit [("", 28)])) (.alloc 28 (.sh 0) .dict))) (.seq (.havoc 29) (.seq (.store 28 .dyn 29) (.bind 5 28)))) (.seq (.seq (.const 28) (.const 28)) (.seq (.const 28) .raise))) .skip) (.seq (.const 28) (.load 28 5 .dyn)))) (.seq (.seq (.load 29 28 .dyn) (.seq (.bind 4 29) (.const 28))) (.seq (.const 28) (.seq (.arith 28) (.const 29))))) (.seq (.seq (.seq (.arith 29) (.const 30)) (.seq (.load 30 5 .dyn) (.seq (.const 30) (.const 30)))) (.seq (.seq (.ite (.bind 31 29) (.bind 31 30)) (.seq (.ite (.bind 29 28) (.bind 29 31)) (.ite (.seq (.const 28) (.seq (.load 28 4 .dyn) (.bind 4 28))) .skip))) (.seq (.const 28) (.seq (.arith 28) (.ite (.seq (.arith 28) (.ite (.seq (.seq (.load 28 16 .dyn) (.seq (.load 29 28 .dyn) (.arith 28))) (.seq (.seq (.ite (.seq (.const 28) (.seq (.const 28) .raise)) .skip) (.load 28 16 .dyn)) (.seq (.load 29 28 .dyn) (.store 29 .dyn 4)))) (.seq (.seq (.seq (.seq (.seq (.const 28) (.const 29)) (.seq (.const 30) (.seq (.alloc 31 (.sh 0) .dict) (.store 31 .dyn 4)))) (.seq (.seq (.const 32) (.load 32 28 .dyn)) (.seq (.load 33 32 .dyn) (.seq (.load 32 28 .dyn) (.load 33 32 .dyn))))) (.seq (.seq (.seq (.load 32 28 .dyn) (.load 33 32 .dyn)) (.seq (.const 32) (.seq (.load 33 29 .dyn) (.load 34 33 .dyn)))) (.seq (.seq (.load 33 29 .dyn) (.load 34 33 .dyn)) (.seq (.load 33 29 .dyn) (.seq (.load 34 33 .dyn) (.const 33)))))) (.seq (.seq (.seq (.seq (.load 34 30 .dyn) (.load 35 34 .dyn)) (.seq (.load 34 30 .dyn) (.seq (.load 35 34 .dyn) (.load 34 30 .dyn)))) (.seq (.seq (.load 35 34 .dyn) (.const 34)) (.seq (.const 35) (.seq (.arith 35) (.ite (.bind 35 31) (.seq (.alloc 36 (.sh 0) .dict) (.bind 35 36))))))) (.seq (.seq (.seq (.const 36) (.arith 36)) (.seq (.ite (.bind 36 7) (.seq (.seq (.alloc 37 (.sh 0) (.lit [])) (.call 38 45 [])) (.seq (.merge 37 38) (.bind 36 37)))) (.seq (.call 37 17 [28, 29, 30, 7, 31]) (.alloc 28 (.sh 0) (.lit [("", 32)]))))) (.seq (.seq (.alloc 29 (.sh 0) (.lit [("", 33)])) (.alloc 30 (.sh 0) (.lit [("", 34)]))) (.seq (.alloc 31 (.sh 0) (.lit [("", 36)])) (.seq (.alloc 32 (.sh 1) (.lit [("", 28), ("", 29), ("", 30), ("", 35), ("", 31)])) (.store 16 .dyn 32))))))))) .skip)))))))))))))) (.alloc 27 (.sh 2) .dict))) (.seq (.loop [.any, .any, .any, .any, .any, .any, (.lv (.sh 0)), (.lv (.sh 0)), (.lv (.sh 0)), .any, .any, .any, .any, .any, .any, .any, (.lv (.sh 2)), (.lv (.sh 0)), (.lv (.sh 0)), (.lv (.sh 0)), (.lv (.sh 0)), (.lv (.sh 0)), (.lv (.sh 0)), (.lv (.sh 1)), (.lv .nums), (.lv (.sh 0)), (.lv (.sh 1)), (.lv (.sh 2)), .any, .any, (.lv (.sh 0)), .any, .any, (.lv (.sh 1)), (.lv (.sh 0)), (.lv (.sh 0)), (.lv (.sh 0)), (.lv (.sh 0)), (.lv (.sh 0))] (.seq (.load 28 16 .dyn) (.seq (.bind 26 28) (.store 27 .dyn 26)))) (.seq (.call 28 307 [27]) (.ret 28)))))))),
  (.lv (.sh 2))⟩

/-- bermuda/io/data_frame_input.py:36  params: file_or_fname, field_cols, detail_cols, loss_detail_cols, metadata, collapse_fields, kwargs, <globals> -/
def f183 : Fn := ⟨"bermuda.io.data_frame_input:wide_csv_to_triangle", [0, 1, 2, 3, 4, 5, 6, 7], [],
  (.seq (.seq (.seq (.seq (.const 0) (.const 11)) (.seq (.const 11) (.const 11))) (.seq (.seq (.ite (.seq (.seq (.const 11) (.alloc 11 (.sh 0) .dict)) (.seq (.havoc 12) (.seq (.store 11 .dyn 12) (.bind 10 11)))) (.seq (.seq (.const 11) (.alloc 11 (.sh 0) .dict)) (.seq (.havoc 12) (.seq (.store 11 .dyn 12) (.bind 10 11))))) (.const 11)) (.seq (.load 11 10 .dyn) (.load 12 11 .dyn)))) (.seq (.seq (.seq (.arith 11) (.ite (.seq (.load 11 7 .dyn) (.bind 12 11)) (.seq (.load 11 7 .dyn) (.bind 12 11)))) (.seq (.bind 9 12) (.const 11))) (.seq (.seq (.const 11) (.ite (.seq (.seq (.load 11 6 .dyn) (.alloc 11 (.sh 0) .dict)) (.seq (.havoc 12) (.seq (.store 11 .dyn 12) (.bind 8 11)))) (.seq (.seq (.load 11 6 .dyn) (.alloc 11 (.sh 0) .dict)) (.seq (.havoc 12) (.seq (.store 11 .dyn 12) (.bind 8 11)))))) (.seq (.call 11 185 [8, 1, 2, 3, 4, 5]) (.ret 11))))),
  (.lv (.sh 2))⟩

/-- bermuda/io/data_frame_input.py:36  params: file_or_fname, field_cols, detail_cols, loss_detail_cols, metadata, collapse_fields, kwargs, <globals> -/
def f184 : Fn := ⟨"bermuda.io.data_frame_input:wide_csv_to_triangle@Triangle.from_wide_csv", [0, 1, 2, 3, 4, 5, 6, 7], [],
  (.seq (.seq (.seq (.seq (.const 0) (.const 11)) (.seq (.const 11) (.const 11))) (.seq (.seq (.ite (.seq (.seq (.const 11) (.alloc 11 (.sh 0) .dict)) (.seq (.havoc 12) (.seq (.store 11 .dyn 12) (.bind 10 11)))) (.seq (.seq (.const 11) (.alloc 11 (.sh 0) .dict)) (.seq (.havoc 12) (.seq (.store 11 .dyn 12) (.bind 10 11))))) (.const 11)) (.seq (.load 11 10 .dyn) (.load 12 11 .dyn)))) (.seq (.seq (.seq (.arith 11) (.ite (.seq (.load 11 7 .dyn) (.bind 12 11)) (.seq (.load 11 7 .dyn) (.bind 12 11)))) (.seq (.bind 9 12) (.const 11))) (.seq (.seq (.const 11) (.ite (.seq (.seq (.load 11 6 .dyn) (.alloc 11 (.sh 0) .dict)) (.seq (.havoc 12) (.seq (.store 11 .dyn 12) (.bind 8 11)))) (.seq (.seq (.load 11 6 .dyn) (.alloc 11 (.sh 0) .dict)) (.seq (.havoc 12) (.seq (.store 11 .dyn 12) (.bind 8 11)))))) (.seq (.call 11 185 [8, 1, 2, 3, 4, 5]) (.ret 11))))),
  (.lv (.sh 2))⟩

/-- bermuda/io/data_frame_input.py:118  params: df, field_cols, detail_cols, loss_detail_cols, metadata, collapse_fields, <globals> -/
def f185 : Fn := ⟨"bermuda.io.data_frame_input:wide_data_frame_to_triangle", [0, 1, 2, 3, 4, 5, 6], [0],
  (.seq (.seq (.seq (.seq (.seq (.seq (.const 41) (.call 41 174 [0])) (.seq (.const 41) (.seq (.arith 41) (.const 42)))) (.seq (.seq (.arith 42) (.ite (.bind 43 41) (.bind 43 42))) (.seq (.ite (.seq (.const 41) (.seq (.const 41) .raise)) .skip) (.seq (.const 41) (.arith 41))))) (.seq (.seq (.seq (.const 42) (.arith 42)) (.seq (.ite (.bind 43 41) (.bind 43 42)) (.seq (.ite (.seq (.seq (.alloc 41 (.sh 0) (.union [1])) (.alloc 42 (.sh 0) (.union [2]))) (.seq (.ite (.arith 43) (.alloc 43 (.sh 0) (.union [41, 42]))) (.seq (.const 41) (.ite (.seq (.const 41) (.seq (.const 41) .raise)) .skip)))) .skip) (.const 41)))) (.seq (.seq (.arith 41) (.ite (.seq (.seq (.seq (.load 41 0 .dyn) (.load 42 41 .dyn)) (.seq (.load 41 42 .dyn) (.seq (.alloc 42 (.sh 0) (.union [41])) (.load 41 6 .dyn)))) (.seq (.seq (.arith 41) (.alloc 41 (.sh 0) (.union [2]))) (.seq (.arith 41) (.seq (.alloc 42 .nums (.union [41])) (.bind 1 42))))) .skip)) (.seq (.const 41) (.seq (.arith 41) (.ite (.seq (.seq (.seq (.load 41 0 .dyn) (.load 42 41 .dyn)) (.seq (.load 41 42 .dyn) (.seq (.alloc 42 (.sh 0) (.union [41])) (.load 41 6 .dyn)))) (.seq (.seq (.arith 41) (.alloc 41 (.sh 0) (.union [1]))) (.seq (.arith 41) (.seq (.alloc 42 .nums (.union [41])) (.bind 2 42))))) .skip)))))) (.seq (.seq (.seq (.seq (.const 41) (.arith 41)) (.seq (.ite (.seq (.alloc 41 .nums .dict) (.bind 3 41)) .skip) (.seq (.alloc 41 .nums .dict) (.loop [(.lv .ext), .any, .any, .any, .any, .any, .any, .scalar, .scalar, .scalar, .scalar, .scalar, .scalar, .scalar, .scalar, .scalar, .scalar, .scalar, .scalar, .scalar, .scalar, .scalar, .scalar, .scalar, .scalar, .any, .scalar, .scalar, .scalar, .scalar, .scalar, .scalar, .scalar, .scalar, .scalar, .scalar, .scalar, .scalar, .scalar, .scalar, .scalar, (.lv .nums), .any, (.lv (.sh 0))] (.seq (.seq (.load 42 3 .dyn) (.bind 25 42)) (.seq (.arith 42) (.store 41 .dyn 42))))))) (.seq (.seq (.const 41) (.const 41)) (.seq (.ite (.seq (.const 41) (.seq (.const 41) .raise)) .skip) (.seq (.const 41) (.arith 41))))) (.seq (.seq (.seq (.ite (.seq (.alloc 41 .nums .dict) (.bind 5 41)) .skip) (.const 41)) (.seq (.arith 41) (.seq (.ite (.seq (.seq (.alloc 41 (.sh 0) (.lit [])) (.call 42 45 [])) (.seq (.merge 41 42) (.bind 4 41))) .skip) (.call 41 177 [0, 4, 2, 3])))) (.seq (.seq (.bind 24 41) (.load 41 0 .dyn)) (.seq (.load 42 41 .dyn) (.seq (.load 41 42 .dyn) (.load 42 41 .dyn))))))) (.seq (.seq (.seq (.seq (.seq (.load 41 42 .dyn) (.load 42 41 .dyn)) (.seq (.alloc 41 (.sh 0) (.union [42])) (.seq (.bind 23 41) (.load 41 0 .dyn)))) (.seq (.seq (.load 42 41 .dyn) (.load 41 42 .dyn)) (.seq (.load 42 41 .dyn) (.seq (.load 41 42 .dyn) (.load 42 41 .dyn))))) (.seq (.seq (.seq (.alloc 41 (.sh 0) (.union [42])) (.bind 22 41)) (.seq (.ite (.seq (.load 41 0 .dyn) (.load 42 41 .dyn)) (.call 42 320 [0])) (.seq (.load 41 42 .dyn) (.load 42 41 .dyn)))) (.seq (.seq (.load 41 42 .dyn) (.load 42 41 .dyn)) (.seq (.alloc 41 (.sh 0) (.union [42])) (.seq (.bind 21 41) (.const 41)))))) (.seq (.seq (.seq (.seq (.load 41 0 .dyn) (.load 42 41 .dyn)) (.seq (.arith 41) (.seq (.ite (.seq (.seq (.seq (.load 41 0 .dyn) (.load 42 41 .dyn)) (.seq (.load 41 42 .dyn) (.load 42 41 .dyn))) (.seq (.seq (.load 41 42 .dyn) (.load 42 41 .dyn)) (.seq (.alloc 41 (.sh 0) (.union [42])) (.bind 20 41)))) .skip) (.alloc 41 (.sh 1) .dict)))) (.seq (.seq (.loop [(.lv .ext), .any, .any, .any, .any, .any, .any, .scalar, .scalar, .scalar, .scalar, .scalar, .scalar, .scalar, .scalar, .scalar, .scalar, .scalar, .scalar, .scalar, (.lv (.sh 0)), (.lv (.sh 0)), (.lv (.sh 0)), (.lv (.sh 0)), (.lv (.sh 1)), .any, .any, .scalar, .scalar, .scalar, .scalar, .scalar, .scalar, .scalar, .scalar, .scalar, .scalar, .scalar, .scalar, .scalar, .scalar, (.lv (.sh 1)), .any, (.lv (.sh 0))] (.seq (.seq (.load 42 1 .dyn) (.bind 26 42)) (.seq (.load 42 0 .dyn) (.seq (.call 43 175 [42]) (.store 41 .dyn 43))))) (.bind 19 41)) (.seq (.alloc 41 (.sh 2) .dict) (.seq (.load 42 0 .dyn) (.load 43 42 .dyn))))) (.seq (.seq (.seq (.const 42) (.load 42 43 .dyn)) (.seq (.loop [(.lv .ext), .any, .any, .any, .any, .any, .any, .scalar, .scalar, .scalar, .scalar, .scalar, .scalar, .scalar, .scalar, .scalar, .scalar, .scalar, .scalar, (.lv (.sh 1)), (.lv (.sh 0)), (.lv (.sh 0)), (.lv (.sh 0)), (.lv (.sh 0)), (.lv (.sh 1)), .any, .any, .scalar, .any, (.lv (.sh 0)), .scalar, .scalar, .scalar, .scalar, .scalar, .scalar, .scalar, .scalar, .scalar, .scalar, .scalar, (.lv (.sh 2)), .any, .any] (.seq (.seq (.const 42) (.bind 27 42)) (.seq (.alloc 42 (.sh 1) .dict) (.seq (.loop [(.lv .ext), .any, .any, .any, .any, .any, .any, .scalar, .scalar, .scalar, .scalar, .scalar, .scalar, .scalar, .scalar, .scalar, .scalar, .scalar, .scalar, (.lv (.sh 1)), (.lv (.sh 0)), (.lv (.sh 0)), (.lv (.sh 0)), (.lv (.sh 0)), (.lv (.sh 1)), .any, .any, .scalar, .any, (.lv (.sh 0)), .scalar, .scalar, .scalar, .scalar, .scalar, .scalar, .scalar, .scalar, .scalar, .scalar, .scalar, (.lv (.sh 2)), (.lv (.sh 1)), .any] (.seq (.seq (.seq (.havoc 43) (.bind 28 43)) (.seq (.load 43 19 .dyn) (.bind 29 43))) (.seq (.seq (.load 43 29 .dyn) (.const 43)) (.seq (.arith 43) (.ite .skip (.seq (.load 43 29 .dyn) (.seq (.arith 43) (.store 42 .dyn 43)))))))) (.store 41 .dyn 42))))) (.seq (.bind 7 41) (.const 41)))) (.seq (.seq (.load 41 0 .dyn) (.seq (.load 42 41 .dyn) (.arith 41))) (.seq (.ite (.seq (.alloc 41 (.sh 1) .dict) (.seq (.loop [(.lv .ext), .any, .any, .any, .any, .any, .any, (.lv (.sh 2)), .scalar, .scalar, .scalar, .scalar, .scalar, .scalar, .scalar, .scalar, .scalar, .scalar, .scalar, (.lv (.sh 1)), (.lv (.sh 0)), (.lv (.sh 0)), (.lv (.sh 0)), (.lv (.sh 0)), (.lv (.sh 1)), .any, .any, .scalar, .any, (.lv (.sh 0)), (.lv (.sh 0)), .any, .any, .any, .any, (.lv (.sh 1)), .scalar, .scalar, .scalar, .scalar, .scalar, (.lv (.sh 1)), .any, .any, (.lv (.sh 1)), .any, (.lv (.sh 0)), (.lv .nums), (.lv (.sh 0))] (.seq (.seq (.seq (.seq (.seq (.load 42 24 .dyn) (.seq (.bind 30 42) (.load 42 23 .dyn))) (.seq (.bind 31 42) (.seq (.load 42 22 .dyn) (.bind 32 42)))) (.seq (.seq (.load 42 21 .dyn) (.seq (.bind 33 42) (.load 42 20 .dyn))) (.seq (.bind 34 42) (.seq (.load 42 7 .dyn) (.bind 35 42))))) (.seq (.seq (.seq (.const 42) (.seq (.load 42 31 .dyn) (.load 43 42 .dyn))) (.seq (.load 42 31 .dyn) (.seq (.load 43 42 .dyn) (.load 42 31 .dyn)))) (.seq (.seq (.load 43 42 .dyn) (.seq (.const 42) (.load 43 32 .dyn))) (.seq (.load 44 43 .dyn) (.seq (.load 43 32 .dyn) (.load 44 43 .dyn)))))) (.seq (.seq (.seq (.seq (.load 43 32 .dyn) (.seq (.load 44 43 .dyn) (.const 43))) (.seq (.load 44 33 .dyn) (.seq (.load 45 44 .dyn) (.load 44 33 .dyn)))) (.seq (.seq (.load 45 44 .dyn) (.seq (.load 44 33 .dyn) (.load 45 44 .dyn))) (.seq (.const 44) (.seq (.const 45) (.arith 45))))) (.seq (.seq (.seq (.ite (.bind 45 35) (.seq (.alloc 46 .nums .dict) (.bind 45 46))) (.seq (.const 46) (.arith 46))) (.seq (.ite (.bind 46 30) (.seq (.seq (.alloc 47 (.sh 0) (.lit [])) (.call 48 45 [])) (.seq (.merge 47 48) (.bind 46 47)))) (.seq (.call 47 37 [31, 32, 33, 34, 30, 35]) (.alloc 47 .nums (.lit [("", 42)]))))) (.seq (.seq (.alloc 42 .nums (.lit [("", 43)])) (.seq (.alloc 43 .nums (.lit [("", 44)])) (.alloc 44 (.sh 1) (.lit [("", 46)])))) (.seq (.alloc 46 (.sh 0) (.lit [("", 34)])) (.seq (.alloc 48 (.sh 0) (.lit [("", 47), ("", 42), ("", 43), ("", 45), ("", 44), ("", 46)])) (.store 41 .dyn 48)))))))) (.bind 17 41))) (.seq (.seq (.seq (.seq (.load 41 6 .dyn) (.loop [.any, .any, .any, .any, .any, .any, .any, (.lv (.sh 2)), .scalar, .scalar, .scalar, .scalar, .scalar, .scalar, .scalar, .scalar, .scalar, .scalar, .any, (.lv (.sh 1)), (.lv (.sh 0)), (.lv (.sh 0)), (.lv (.sh 0)), (.lv (.sh 0)), (.lv (.sh 1)), .any, .any, .scalar, .any, (.lv (.sh 0)), .scalar, .scalar, .scalar, .scalar, .scalar, .scalar, (.lv (.sh 0)), .scalar, .scalar, .scalar, .scalar, .any, .any, .any, .any] (.block (.seq (.seq (.load 42 41 .dyn) (.seq (.bind 18 42) (.load 42 0 .dyn))) (.seq (.load 43 42 .dyn) (.seq (.arith 42) (.ite (.seq (.seq (.seq (.alloc 42 (.sh 1) .dict) (.alloc 43 (.sh 0) .dict)) (.seq (.loop [.any, .any, .any, .any, .any, .any, .any, (.lv (.sh 2)), .scalar, .scalar, .scalar, .scalar, .scalar, .scalar, .scalar, .scalar, .scalar, .scalar, .any, (.lv (.sh 1)), (.lv (.sh 0)), (.lv (.sh 0)), (.lv (.sh 0)), (.lv (.sh 0)), (.lv (.sh 1)), .any, .any, .scalar, .any, (.lv (.sh 0)), .scalar, .scalar, .scalar, .scalar, .scalar, .scalar, (.lv (.sh 0)), .scalar, .scalar, .scalar, .scalar, .any, (.lv (.sh 1)), (.lv (.sh 0)), .any] (.seq (.seq (.load 44 24 .dyn) (.bind 36 44)) (.seq (.ite (.arith 44) (.ite (.load 44 36 .dyn) (.ite (.bind 44 36) (.bind 44 18)))) (.store 43 .dyn 44)))) (.store 42 .dyn 43))) (.seq (.seq (.load 43 42 .dyn) (.alloc 42 (.sh 0) .dict)) (.seq (.havoc 43) (.seq (.store 42 .dyn 43) (.bind 0 42))))) .skip))))))) (.seq (.alloc 41 (.sh 1) .dict) (.bind 17 41))) (.seq (.seq (.const 41) (.const 42)) (.seq (.const 43) (.alloc 44 .nums (.lit [("", 41), ("", 42), ("", 43)]))))) (.seq (.seq (.seq (.load 41 6 .dyn) (.ite (.arith 42) (.alloc 42 (.sh 0) (.union [44, 41])))) (.seq (.ite (.arith 41) (.alloc 41 (.sh 0) (.union [42, 2]))) (.ite (.arith 42) (.alloc 42 (.sh 0) (.union [41, 3]))))) (.seq (.seq (.const 41) (.alloc 41 (.sh 0) .dict)) (.seq (.havoc 42) (.seq (.store 41 .dyn 42) (.loop [.any, .any, .any, .any, .any, .any, .any, .any, .any, .any, .any, (.lv (.sh 0)), (.lv (.sh 0)), .any, .any, .any, .any, (.lv (.sh 1)), .any, (.lv (.sh 1)), (.lv (.sh 0)), (.lv (.sh 0)), (.lv (.sh 0)), (.lv (.sh 0)), (.lv (.sh 1)), .any, .any, .scalar, .any, (.lv (.sh 0)), .scalar, .scalar, .scalar, .scalar, .scalar, .scalar, (.lv (.sh 0)), .any, .any, .any, .any, (.lv (.sh 0)), .any, (.lv .nums), (.lv .nums), (.lv (.sh 1)), (.lv (.sh 0)), .scalar, .any, (.lv (.sh 0)), (.lv (.sh 0)), (.lv (.sh 0))] (.block (.seq (.seq (.seq (.seq (.seq (.seq (.load 42 41 .dyn) (.load 43 42 .dyn)) (.seq (.bind 16 43) (.load 43 42 .dyn))) (.seq (.seq (.bind 10 43) (.load 42 16 .dyn)) (.seq (.bind 15 42) (.load 42 16 .dyn)))) (.seq (.seq (.seq (.bind 14 42) (.load 42 16 .dyn)) (.seq (.bind 13 42) (.alloc 42 (.sh 0) (.union [16])))) (.seq (.seq (.bind 12 42) (.call 42 177 [10, 4, 2, 3])) (.seq (.const 43) (.seq (.load 43 42 .dyn) (.bind 11 43)))))) (.seq (.seq (.seq (.seq (.const 42) (.const 42)) (.seq (.arith 42) (.ite (.«try» (.seq (.seq (.const 42) (.seq (.alloc 43 .nums (.lit [("", 42)])) (.alloc 42 (.sh 0) .dict))) (.seq (.havoc 43) (.seq (.store 42 .dyn 43) (.bind 10 42)))) (.seq (.seq (.const 42) (.const 42)) (.seq (.const 42) .raise))) .skip))) (.seq (.seq (.alloc 42 (.sh 0) .dict) (.loop [.any, .any, .any, .any, .any, .any, .any, .any, .any, .any, .any, (.lv (.sh 0)), (.lv (.sh 0)), .any, .any, .any, .any, (.lv (.sh 1)), .any, (.lv (.sh 1)), (.lv (.sh 0)), (.lv (.sh 0)), (.lv (.sh 0)), (.lv (.sh 0)), (.lv (.sh 1)), .any, .any, .scalar, .any, (.lv (.sh 0)), .scalar, .scalar, .scalar, .scalar, .scalar, .scalar, (.lv (.sh 0)), .any, .any, .any, .any, (.lv (.sh 0)), (.lv (.sh 0)), .any, .any, (.lv (.sh 1)), (.lv (.sh 0)), .scalar, .any, (.lv (.sh 0)), (.lv (.sh 0)), (.lv (.sh 0))] (.seq (.seq (.load 43 1 .dyn) (.bind 37 43)) (.seq (.load 43 10 .dyn) (.seq (.call 44 175 [43]) (.store 42 .dyn 44)))))) (.seq (.bind 7 42) (.loop [.any, .any, .any, .any, .any, .any, .any, (.lv (.sh 0)), .any, .any, .any, (.lv (.sh 0)), (.lv (.sh 0)), .any, .any, .any, .any, (.lv (.sh 1)), .any, (.lv (.sh 1)), (.lv (.sh 0)), (.lv (.sh 0)), (.lv (.sh 0)), (.lv (.sh 0)), (.lv (.sh 1)), .any, .any, .scalar, .any, (.lv (.sh 0)), .scalar, .scalar, .scalar, .scalar, .scalar, .scalar, (.lv (.sh 0)), .any, .any, .any, .any, (.lv (.sh 0)), .any, .any, .any, .any, (.lv (.sh 0)), .scalar, .any, (.lv (.sh 0)), (.lv (.sh 0)), (.lv (.sh 0))] (.block (.seq (.seq (.load 42 5 .dyn) (.seq (.bind 9 42) (.alloc 42 .nums .dict))) (.seq (.seq (.load 43 7 .dyn) (.loop [.any, .any, .any, .any, .any, .any, .any, (.lv (.sh 0)), .any, .any, .any, (.lv (.sh 0)), (.lv (.sh 0)), .any, .any, .any, .any, (.lv (.sh 1)), .any, (.lv (.sh 1)), (.lv (.sh 0)), (.lv (.sh 0)), (.lv (.sh 0)), (.lv (.sh 0)), (.lv (.sh 1)), .any, .any, .scalar, .any, (.lv (.sh 0)), .scalar, .scalar, .scalar, .scalar, .scalar, .scalar, (.lv (.sh 0)), .any, .any, .any, .any, (.lv (.sh 0)), (.lv .nums), .any, .any, .any, (.lv (.sh 0)), .scalar, .any, (.lv (.sh 0)), (.lv (.sh 0)), (.lv (.sh 0))] (.seq (.seq (.load 44 43 .dyn) (.seq (.bind 38 44) (.load 44 7 .dyn))) (.seq (.seq (.const 45) (.load 45 44 .dyn)) (.seq (.arith 44) (.store 42 .dyn 44)))))) (.seq (.const 42) (.ite (.seq (.seq (.load 42 7 .dyn) (.const 43)) (.seq (.load 43 42 .dyn) (.store 7 .dyn 43))) (.seq (.const 42) (.seq (.const 42) .raise))))))))))) (.seq (.seq (.seq (.loop [.any, .any, .any, .any, .any, .any, .any, (.lv (.sh 0)), .any, .any, .any, (.lv (.sh 0)), (.lv (.sh 0)), .any, .any, .any, .any, (.lv (.sh 1)), .any, (.lv (.sh 1)), (.lv (.sh 0)), (.lv (.sh 0)), (.lv (.sh 0)), (.lv (.sh 0)), (.lv (.sh 1)), .any, .any, .scalar, .any, (.lv (.sh 0)), .scalar, .scalar, .scalar, .scalar, .scalar, .scalar, (.lv (.sh 0)), .any, .any, .any, .any, (.lv (.sh 0)), .any, .any, .any, .any, (.lv (.sh 0)), .scalar, .any, (.lv (.sh 0)), (.lv (.sh 0)), (.lv (.sh 0))] (.block (.seq (.seq (.seq (.seq (.havoc 42) (.bind 9 42)) (.seq (.load 42 7 .dyn) (.bind 8 42))) (.seq (.seq (.const 42) (.const 42)) (.seq (.const 43) (.seq (.const 43) (.arith 43))))) (.seq (.seq (.seq (.ite (.bind 44 42) (.bind 44 43)) (.ite (.seq (.seq (.alloc 42 .nums .dict) (.loop [.any, .any, .any, .any, .any, .any, .any, (.lv (.sh 0)), .any, .any, .any, (.lv (.sh 0)), (.lv (.sh 0)), .any, .any, .any, .any, (.lv (.sh 1)), .any, (.lv (.sh 1)), (.lv (.sh 0)), (.lv (.sh 0)), (.lv (.sh 0)), (.lv (.sh 0)), (.lv (.sh 1)), .any, .any, .scalar, .any, (.lv (.sh 0)), .scalar, .scalar, .scalar, .scalar, .scalar, .scalar, (.lv (.sh 0)), .any, .any, .any, .any, (.lv (.sh 0)), (.lv .nums), (.lv .num), (.lv .num), .any, (.lv (.sh 0)), .scalar, .any, (.lv (.sh 0)), (.lv (.sh 0)), (.lv (.sh 0))] (.seq (.seq (.load 43 8 .dyn) (.bind 39 43)) (.seq (.const 43) (.seq (.arith 43) (.store 42 .dyn 43)))))) (.seq (.const 42) (.seq (.ite (.seq (.const 42) (.bind 43 42)) (.seq (.arith 42) (.bind 43 42))) (.store 7 .dyn 43)))) .skip)) (.seq (.const 42) (.const 42))) (.seq (.seq (.const 43) (.const 43)) (.seq (.arith 43) (.seq (.ite (.bind 44 42) (.bind 44 43)) (.ite (.seq (.const 42) (.seq (.load 42 8 .dyn) (.store 7 .dyn 42))) .skip)))))))) (.ite .skip (.loop [.any, .any, .any, .any, .any, .any, .any, (.lv (.sh 0)), .any, .any, .any, (.lv (.sh 0)), (.lv (.sh 0)), .any, .any, .any, .any, (.lv (.sh 1)), .any, (.lv (.sh 1)), (.lv (.sh 0)), (.lv (.sh 0)), (.lv (.sh 0)), (.lv (.sh 0)), (.lv (.sh 1)), .any, .any, .scalar, .any, (.lv (.sh 0)), .scalar, .scalar, .scalar, .scalar, .scalar, .scalar, (.lv (.sh 0)), .any, .any, .any, .any, (.lv (.sh 0)), .any, .any, .any, .any, (.lv (.sh 0)), .scalar, .any, (.lv (.sh 0)), (.lv (.sh 0)), (.lv (.sh 0))] (.block (.seq (.havoc 40) (.seq (.const 42) (.arith 42))))))) (.seq (.const 42) (.alloc 43 (.sh 0) (.union [42, 7])))) (.seq (.seq (.bind 7 43) (.const 42)) (.seq (.const 43) (.seq (.const 44) (.const 45))))))) (.seq (.seq (.seq (.seq (.seq (.load 45 42 .dyn) (.load 46 45 .dyn)) (.seq (.load 45 42 .dyn) (.load 46 45 .dyn))) (.seq (.seq (.load 45 42 .dyn) (.load 46 45 .dyn)) (.seq (.const 45) (.load 46 43 .dyn)))) (.seq (.seq (.seq (.load 47 46 .dyn) (.load 46 43 .dyn)) (.seq (.load 47 46 .dyn) (.load 46 43 .dyn))) (.seq (.seq (.load 47 46 .dyn) (.const 46)) (.seq (.load 47 44 .dyn) (.seq (.load 48 47 .dyn) (.load 47 44 .dyn)))))) (.seq (.seq (.seq (.seq (.load 48 47 .dyn) (.load 47 44 .dyn)) (.seq (.load 48 47 .dyn) (.const 47))) (.seq (.seq (.const 48) (.arith 48)) (.seq (.ite (.bind 48 7) (.seq (.alloc 49 .nums .dict) (.bind 48 49))) (.seq (.const 49) (.arith 49))))) (.seq (.seq (.seq (.ite (.bind 49 11) (.seq (.seq (.alloc 50 (.sh 0) (.lit [])) (.call 51 45 [])) (.seq (.merge 50 51) (.bind 49 50)))) (.call 50 17 [42, 43, 44, 11, 7])) (.seq (.alloc 42 .nums (.lit [("", 45)])) (.alloc 43 .nums (.lit [("", 46)])))) (.seq (.seq (.alloc 44 .nums (.lit [("", 47)])) (.alloc 45 (.sh 1) (.lit [("", 49)]))) (.seq (.alloc 46 (.sh 0) (.lit [("", 42), ("", 43), ("", 44), ("", 48), ("", 45)])) (.seq (.store 17 .dyn 46) (.const 42)))))))))))))))) (.seq (.call 41 307 [17]) (.ret 41)))))))),
  (.lv (.sh 2))⟩

/-- bermuda/io/data_frame_input.py:118  params: df, field_cols, detail_cols, loss_detail_cols, metadata, collapse_fields, <globals> -/
def f186 : Fn := ⟨"bermuda.io.data_frame_input:wide_data_frame_to_triangle@Triangle.from_wide_data_frame", [0, 1, 2, 3, 4, 5, 6], [0],
  (.seq (.seq (.seq (.seq (.seq (.seq (.const 41) (.call 41 174 [0])) (.seq (.const 41) (.seq (.arith 41) (.const 42)))) (.seq (.seq (.arith 42) (.ite (.bind 43 41) (.bind 43 42))) (.seq (.ite (.seq (.const 41) (.seq (.const 41) .raise)) .skip) (.seq (.const 41) (.arith 41))))) (.seq (.seq (.seq (.const 42) (.arith 42)) (.seq (.ite (.bind 43 41) (.bind 43 42)) (.seq (.ite (.seq (.seq (.alloc 41 (.sh 0) (.union [1])) (.alloc 42 (.sh 0) (.union [2]))) (.seq (.ite (.arith 43) (.alloc 43 (.sh 0) (.union [41, 42]))) (.seq (.const 41) (.ite (.seq (.const 41) (.seq (.const 41) .raise)) .skip)))) .skip) (.const 41)))) (.seq (.seq (.arith 41) (.ite (.seq (.seq (.seq (.load 41 0 .dyn) (.load 42 41 .dyn)) (.seq (.load 41 42 .dyn) (.seq (.alloc 42 (.sh 0) (.union [41])) (.load 41 6 .dyn)))) (.seq (.seq (.arith 41) (.alloc 41 (.sh 0) (.union [2]))) (.seq (.arith 41) (.seq (.alloc 42 .nums (.union [41])) (.bind 1 42))))) .skip)) (.seq (.const 41) (.seq (.arith 41) (.ite (.seq (.seq (.seq (.load 41 0 .dyn) (.load 42 41 .dyn)) (.seq (.load 41 42 .dyn) (.seq (.alloc 42 (.sh 0) (.union [41])) (.load 41 6 .dyn)))) (.seq (.seq (.arith 41) (.alloc 41 (.sh 0) (.union [1]))) (.seq (.arith 41) (.seq (.alloc 42 .nums (.union [41])) (.bind 2 42))))) .skip)))))) (.seq (.seq (.seq (.seq (.const 41) (.arith 41)) (.seq (.ite (.seq (.alloc 41 .nums .dict) (.bind 3 41)) .skip) (.seq (.alloc 41 .nums .dict) (.loop [(.lv .ext), .any, .any, .any, .any, .any, .any, .scalar, .scalar, .scalar, .scalar, .scalar, .scalar, .scalar, .scalar, .scalar, .scalar, .scalar, .scalar, .scalar, .scalar, .scalar, .scalar, .scalar, .scalar, .any, .scalar, .scalar, .scalar, .scalar, .scalar, .scalar, .scalar, .scalar, .scalar, .scalar, .scalar, .scalar, .scalar, .scalar, .scalar, (.lv .nums), .any, (.lv (.sh 0))] (.seq (.seq (.load 42 3 .dyn) (.bind 25 42)) (.seq (.arith 42) (.store 41 .dyn 42))))))) (.seq (.seq (.const 41) (.const 41)) (.seq (.ite (.seq (.const 41) (.seq (.const 41) .raise)) .skip) (.seq (.const 41) (.arith 41))))) (.seq (.seq (.seq (.ite (.seq (.alloc 41 .nums .dict) (.bind 5 41)) .skip) (.const 41)) (.seq (.arith 41) (.seq (.ite (.seq (.seq (.alloc 41 (.sh 0) (.lit [])) (.call 42 45 [])) (.seq (.merge 41 42) (.bind 4 41))) .skip) (.call 41 177 [0, 4, 2, 3])))) (.seq (.seq (.bind 24 41) (.load 41 0 .dyn)) (.seq (.load 42 41 .dyn) (.seq (.load 41 42 .dyn) (.load 42 41 .dyn))))))) (.seq (.seq (.seq (.seq (.seq (.load 41 42 .dyn) (.load 42 41 .dyn)) (.seq (.alloc 41 (.sh 0) (.union [42])) (.seq (.bind 23 41) (.load 41 0 .dyn)))) (.seq (.seq (.load 42 41 .dyn) (.load 41 42 .dyn)) (.seq (.load 42 41 .dyn) (.seq (.load 41 42 .dyn) (.load 42 41 .dyn))))) (.seq (.seq (.seq (.alloc 41 (.sh 0) (.union [42])) (.bind 22 41)) (.seq (.ite (.seq (.load 41 0 .dyn) (.load 42 41 .dyn)) (.call 42 320 [0])) (.seq (.load 41 42 .dyn) (.load 42 41 .dyn)))) (.seq (.seq (.load 41 42 .dyn) (.load 42 41 .dyn)) (.seq (.alloc 41 (.sh 0) (.union [42])) (.seq (.bind 21 41) (.const 41)))))) (.seq (.seq (.seq (.seq (.load 41 0 .dyn) (.load 42 41 .dyn)) (.seq (.arith 41) (.seq (.ite (.seq (.seq (.seq (.load 41 0 .dyn) (.load 42 41 .dyn)) (.seq (.load 41 42 .dyn) (.load 42 41 .dyn))) (.seq (.seq (.load 41 42 .dyn) (.load 42 41 .dyn)) (.seq (.alloc 41 (.sh 0) (.union [42])) (.bind 20 41)))) .skip) (.alloc 41 (.sh 1) .dict)))) (.seq (.seq (.loop [(.lv .ext), .any, .any, .any, .any, .any, .any, .scalar, .scalar, .scalar, .scalar, .scalar, .scalar, .scalar, .scalar, .scalar, .scalar, .scalar, .scalar, .scalar, (.lv (.sh 0)), (.lv (.sh 0)), (.lv (.sh 0)), (.lv (.sh 0)), (.lv (.sh 1)), .any, .any, .scalar, .scalar, .scalar, .scalar, .scalar, .scalar, .scalar, .scalar, .scalar, .scalar, .scalar, .scalar, .scalar, .scalar, (.lv (.sh 1)), .any, (.lv (.sh 0))] (.seq (.seq (.load 42 1 .dyn) (.bind 26 42)) (.seq (.load 42 0 .dyn) (.seq (.call 43 175 [42]) (.store 41 .dyn 43))))) (.bind 19 41)) (.seq (.alloc 41 (.sh 2) .dict) (.seq (.load 42 0 .dyn) (.load 43 42 .dyn))))) (.seq (.seq (.seq (.const 42) (.load 42 43 .dyn)) (.seq (.loop [(.lv .ext), .any, .any, .any, .any, .any, .any, .scalar, .scalar, .scalar, .scalar, .scalar, .scalar, .scalar, .scalar, .scalar, .scalar, .scalar, .scalar, (.lv (.sh 1)), (.lv (.sh 0)), (.lv (.sh 0)), (.lv (.sh 0)), (.lv (.sh 0)), (.lv (.sh 1)), .any, .any, .scalar, .any, (.lv (.sh 0)), .scalar, .scalar, .scalar, .scalar, .scalar, .scalar, .scalar, .scalar, .scalar, .scalar, .scalar, (.lv (.sh 2)), .any, .any] (.seq (.seq (.const 42) (.bind 27 42)) (.seq (.alloc 42 (.sh 1) .dict) (.seq (.loop [(.lv .ext), .any, .any, .any, .any, .any, .any, .scalar, .scalar, .scalar, .scalar, .scalar, .scalar, .scalar, .scalar, .scalar, .scalar, .scalar, .scalar, (.lv (.sh 1)), (.lv (.sh 0)), (.lv (.sh 0)), (.lv (.sh 0)), (.lv (.sh 0)), (.lv (.sh 1)), .any, .any, .scalar, .any, (.lv (.sh 0)), .scalar, .scalar, .scalar, .scalar, .scalar, .scalar, .scalar, .scalar, .scalar, .scalar, .scalar, (.lv (.sh 2)), (.lv (.sh 1)), .any] (.seq (.seq (.seq (.havoc 43) (.bind 28 43)) (.seq (.load 43 19 .dyn) (.bind 29 43))) (.seq (.seq (.load 43 29 .dyn) (.const 43)) (.seq (.arith 43) (.ite .skip (.seq (.load 43 29 .dyn) (.seq (.arith 43) (.store 42 .dyn 43)))))))) (.store 41 .dyn 42))))) (.seq (.bind 7 41) (.const 41)))) (.seq (.seq (.load 41 0 .dyn) (.seq (.load 42 41 .dyn) (.arith 41))) (.seq (.ite (.seq (.alloc 41 (.sh 1) .dict) (.seq (.loop [(.lv .ext), .any, .any, .any, .any, .any, .any, (.lv (.sh 2)), .scalar, .scalar, .scalar, .scalar, .scalar, .scalar, .scalar, .scalar, .scalar, .scalar, .scalar, (.lv (.sh 1)), (.lv (.sh 0)), (.lv (.sh 0)), (.lv (.sh 0)), (.lv (.sh 0)), (.lv (.sh 1)), .any, .any, .scalar, .any, (.lv (.sh 0)), (.lv (.sh 0)), .any, .any, .any, .any, (.lv (.sh 1)), .scalar, .scalar, .scalar, .scalar, .scalar, (.lv (.sh 1)), .any, .any, (.lv (.sh 1)), .any, (.lv (.sh 0)), (.lv .nums), (.lv (.sh 0))] (.seq (.seq (.seq (.seq (.seq (.load 42 24 .dyn) (.seq (.bind 30 42) (.load 42 23 .dyn))) (.seq (.bind 31 42) (.seq (.load 42 22 .dyn) (.bind 32 42)))) (.seq (.seq (.load 42 21 .dyn) (.seq (.bind 33 42) (.load 42 20 .dyn))) (.seq (.bind 34 42) (.seq (.load 42 7 .dyn) (.bind 35 42))))) (.seq (.seq (.seq (.const 42) (.seq (.load 42 31 .dyn) (.load 43 42 .dyn))) (.seq (.load 42 31 .dyn) (.seq (.load 43 42 .dyn) (.load 42 31 .dyn)))) (.seq (.seq (.load 43 42 .dyn) (.seq (.const 42) (.load 43 32 .dyn))) (.seq (.load 44 43 .dyn) (.seq (.load 43 32 .dyn) (.load 44 43 .dyn)))))) (.seq (.seq (.seq (.seq (.load 43 32 .dyn) (.seq (.load 44 43 .dyn) (.const 43))) (.seq (.load 44 33 .dyn) (.seq (.load 45 44 .dyn) (.load 44 33 .dyn)))) (.seq (.seq (.load 45 44 .dyn) (.seq (.load 44 33 .dyn) (.load 45 44 .dyn))) (.seq (.const 44) (.seq (.const 45) (.arith 45))))) (.seq (.seq (.seq (.ite (.bind 45 35) (.seq (.alloc 46 .nums .dict) (.bind 45 46))) (.seq (.const 46) (.arith 46))) (.seq (.ite (.bind 46 30) (.seq (.seq (.alloc 47 (.sh 0) (.lit [])) (.call 48 45 [])) (.seq (.merge 47 48) (.bind 46 47)))) (.seq (.call 47 37 [31, 32, 33, 34, 30, 35]) (.alloc 47 .nums (.lit [("", 42)]))))) (.seq (.seq (.alloc 42 .nums (.lit [("", 43)])) (.seq (.alloc 43 .nums (.lit [("", 44)])) (.alloc 44 (.sh 1) (.lit [("", 46)])))) (.seq (.alloc 46 (.sh 0) (.lit [("", 34)])) (.seq (.alloc 48 (.sh 0) (.lit [("", 47), ("", 42), ("", 43), ("", 45), ("", 44), ("", 46)])) (.store 41 .dyn 48)))))))) (.bind 17 41))) (.seq (.seq (.seq (.seq (.load 41 6 .dyn) (.loop [.any, .any, .any, .any, .any, .any, .any, (.lv (.sh 2)), .scalar, .scalar, .scalar, .scalar, .scalar, .scalar, .scalar, .scalar, .scalar, .scalar, .any, (.lv (.sh 1)), (.lv (.sh 0)), (.lv (.sh 0)), (.lv (.sh 0)), (.lv (.sh 0)), (.lv (.sh 1)), .any, .any, .scalar, .any, (.lv (.sh 0)), .scalar, .scalar, .scalar, .scalar, .scalar, .scalar, (.lv (.sh 0)), .scalar, .scalar, .scalar, .scalar, .any, .any, .any, .any] (.block (.seq (.seq (.load 42 41 .dyn) (.seq (.bind 18 42) (.load 42 0 .dyn))) (.seq (.load 43 42 .dyn) (.seq (.arith 42) (.ite (.seq (.seq (.seq (.alloc 42 (.sh 1) .dict) (.alloc 43 (.sh 0) .dict)) (.seq (.loop [.any, .any, .any, .any, .any, .any, .any, (.lv (.sh 2)), .scalar, .scalar, .scalar, .scalar, .scalar, .scalar, .scalar, .scalar, .scalar, .scalar, .any, (.lv (.sh 1)), (.lv (.sh 0)), (.lv (.sh 0)), (.lv (.sh 0)), (.lv (.sh 0)), (.lv (.sh 1)), .any, .any, .scalar, .any, (.lv (.sh 0)), .scalar, .scalar, .scalar, .scalar, .scalar, .scalar, (.lv (.sh 0)), .scalar, .scalar, .scalar, .scalar, .any, (.lv (.sh 1)), (.lv (.sh 0)), .any] (.seq (.seq (.load 44 24 .dyn) (.bind 36 44)) (.seq (.ite (.arith 44) (.ite (.load 44 36 .dyn) (.ite (.bind 44 36) (.bind 44 18)))) (.store 43 .dyn 44)))) (.store 42 .dyn 43))) (.seq (.seq (.load 43 42 .dyn) (.alloc 42 (.sh 0) .dict)) (.seq (.havoc 43) (.seq (.store 42 .dyn 43) (.bind 0 42))))) .skip))))))) (.seq (.alloc 41 (.sh 1) .dict) (.bind 17 41))) (.seq (.seq (.const 41) (.const 42)) (.seq (.const 43) (.alloc 44 .nums (.lit [("", 41), ("", 42), ("", 43)]))))) (.seq (.seq (.seq (.load 41 6 .dyn) (.ite (.arith 42) (.alloc 42 (.sh 0) (.union [44, 41])))) (.seq (.ite (.arith 41) (.alloc 41 (.sh 0) (.union [42, 2]))) (.ite (.arith 42) (.alloc 42 (.sh 0) (.union [41, 3]))))) (.seq (.seq (.const 41) (.alloc 41 (.sh 0) .dict)) (.seq (.havoc 42) (.seq (.store 41 .dyn 42) (.loop [.any, .any, .any, .any, .any, .any, .any, .any, .any, .any, .any, (.lv (.sh 0)), (.lv (.sh 0)), .any, .any, .any, .any, (.lv (.sh 1)), .any, (.lv (.sh 1)), (.lv (.sh 0)), (.lv (.sh 0)), (.lv (.sh 0)), (.lv (.sh 0)), (.lv (.sh 1)), .any, .any, .scalar, .any, (.lv (.sh 0)), .scalar, .scalar, .scalar, .scalar, .scalar, .scalar, (.lv (.sh 0)), .any, .any, .any, .any, (.lv (.sh 0)), .any, (.lv .nums), (.lv .nums), (.lv (.sh 1)), (.lv (.sh 0)), .scalar, .any, (.lv (.sh 0)), (.lv (.sh 0)), (.lv (.sh 0))] (.block (.seq (.seq (.seq (.seq (.seq (.seq (.load 42 41 .dyn) (.load 43 42 .dyn)) (.seq (.bind 16 43) (.load 43 42 .dyn))) (.seq (.seq (.bind 10 43) (.load 42 16 .dyn)) (.seq (.bind 15 42) (.load 42 16 .dyn)))) (.seq (.seq (.seq (.bind 14 42) (.load 42 16 .dyn)) (.seq (.bind 13 42) (.alloc 42 (.sh 0) (.union [16])))) (.seq (.seq (.bind 12 42) (.call 42 177 [10, 4, 2, 3])) (.seq (.const 43) (.seq (.load 43 42 .dyn) (.bind 11 43)))))) (.seq (.seq (.seq (.seq (.const 42) (.const 42)) (.seq (.arith 42) (.ite (.«try» (.seq (.seq (.const 42) (.seq (.alloc 43 .nums (.lit [("", 42)])) (.alloc 42 (.sh 0) .dict))) (.seq (.havoc 43) (.seq (.store 42 .dyn 43) (.bind 10 42)))) (.seq (.seq (.const 42) (.const 42)) (.seq (.const 42) .raise))) .skip))) (.seq (.seq (.alloc 42 (.sh 0) .dict) (.loop [.any, .any, .any, .any, .any, .any, .any, .any, .any, .any, .any, (.lv (.sh 0)), (.lv (.sh 0)), .any, .any, .any, .any, (.lv (.sh 1)), .any, (.lv (.sh 1)), (.lv (.sh 0)), (.lv (.sh 0)), (.lv (.sh 0)), (.lv (.sh 0)), (.lv (.sh 1)), .any, .any, .scalar, .any, (.lv (.sh 0)), .scalar, .scalar, .scalar, .scalar, .scalar, .scalar, (.lv (.sh 0)), .any, .any, .any, .any, (.lv (.sh 0)), (.lv (.sh 0)), .any, .any, (.lv (.sh 1)), (.lv (.sh 0)), .scalar, .any, (.lv (.sh 0)), (.lv (.sh 0)), (.lv (.sh 0))] (.seq (.seq (.load 43 1 .dyn) (.bind 37 43)) (.seq (.load 43 10 .dyn) (.seq (.call 44 175 [43]) (.store 42 .dyn 44)))))) (.seq (.bind 7 42) (.loop [.any, .any, .any, .any, .any, .any, .any, (.lv (.sh 0)), .any, .any, .any, (.lv (.sh 0)), (.lv (.sh 0)), .any, .any, .any, .any, (.lv (.sh 1)), .any, (.lv (.sh 1)), (.lv (.sh 0)), (.lv (.sh 0)), (.lv (.sh 0)), (.lv (.sh 0)), (.lv (.sh 1)), .any, .any, .scalar, .any, (.lv (.sh 0)), .scalar, .scalar, .scalar, .scalar, .scalar, .scalar, (.lv (.sh 0)), .any, .any, .any, .any, (.lv (.sh 0)), .any, .any, .any, .any, (.lv (.sh 0)), .scalar, .any, (.lv (.sh 0)), (.lv (.sh 0)), (.lv (.sh 0))] (.block (.seq (.seq (.load 42 5 .dyn) (.seq (.bind 9 42) (.alloc 42 .nums .dict))) (.seq (.seq (.load 43 7 .dyn) (.loop [.any, .any, .any, .any, .any, .any, .any, (.lv (.sh 0)), .any, .any, .any, (.lv (.sh 0)), (.lv (.sh 0)), .any, .any, .any, .any, (.lv (.sh 1)), .any, (.lv (.sh 1)), (.lv (.sh 0)), (.lv (.sh 0)), (.lv (.sh 0)), (.lv (.sh 0)), (.lv (.sh 1)), .any, .any, .scalar, .any, (.lv (.sh 0)), .scalar, .scalar, .scalar, .scalar, .scalar, .scalar, (.lv (.sh 0)), .any, .any, .any, .any, (.lv (.sh 0)), (.lv .nums), .any, .any, .any, (.lv (.sh 0)), .scalar, .any, (.lv (.sh 0)), (.lv (.sh 0)), (.lv (.sh 0))] (.seq (.seq (.load 44 43 .dyn) (.seq (.bind 38 44) (.load 44 7 .dyn))) (.seq (.seq (.const 45) (.load 45 44 .dyn)) (.seq (.arith 44) (.store 42 .dyn 44)))))) (.seq (.const 42) (.ite (.seq (.seq (.load 42 7 .dyn) (.const 43)) (.seq (.load 43 42 .dyn) (.store 7 .dyn 43))) (.seq (.const 42) (.seq (.const 42) .raise))))))))))) (.seq (.seq (.seq (.loop [.any, .any, .any, .any, .any, .any, .any, (.lv (.sh 0)), .any, .any, .any, (.lv (.sh 0)), (.lv (.sh 0)), .any, .any, .any, .any, (.lv (.sh 1)), .any, (.lv (.sh 1)), (.lv (.sh 0)), (.lv (.sh 0)), (.lv (.sh 0)), (.lv (.sh 0)), (.lv (.sh 1)), .any, .any, .scalar, .any, (.lv (.sh 0)), .scalar, .scalar, .scalar, .scalar, .scalar, .scalar, (.lv (.sh 0)), .any, .any, .any, .any, (.lv (.sh 0)), .any, .any, .any, .any, (.lv (.sh 0)), .scalar, .any, (.lv (.sh 0)), (.lv (.sh 0)), (.lv (.sh 0))] (.block (.seq (.seq (.seq (.seq (.havoc 42) (.bind 9 42)) (.seq (.load 42 7 .dyn) (.bind 8 42))) (.seq (.seq (.const 42) (.const 42)) (.seq (.const 43) (.seq (.const 43) (.arith 43))))) (.seq (.seq (.seq (.ite (.bind 44 42) (.bind 44 43)) (.ite (.seq (.seq (.alloc 42 .nums .dict) (.loop [.any, .any, .any, .any, .any, .any, .any, (.lv (.sh 0)), .any, .any, .any, (.lv (.sh 0)), (.lv (.sh 0)), .any, .any, .any, .any, (.lv (.sh 1)), .any, (.lv (.sh 1)), (.lv (.sh 0)), (.lv (.sh 0)), (.lv (.sh 0)), (.lv (.sh 0)), (.lv (.sh 1)), .any, .any, .scalar, .any, (.lv (.sh 0)), .scalar, .scalar, .scalar, .scalar, .scalar, .scalar, (.lv (.sh 0)), .any, .any, .any, .any, (.lv (.sh 0)), (.lv .nums), (.lv .num), (.lv .num), .any, (.lv (.sh 0)), .scalar, .any, (.lv (.sh 0)), (.lv (.sh 0)), (.lv (.sh 0))] (.seq (.seq (.load 43 8 .dyn) (.bind 39 43)) (.seq (.const 43) (.seq (.arith 43) (.store 42 .dyn 43)))))) (.seq (.const 42) (.seq (.ite (.seq (.const 42) (.bind 43 42)) (.seq (.arith 42) (.bind 43 42))) (.store 7 .dyn 43)))) .skip)) (.seq (.const 42) (.const 42))) (.seq (.seq (.const 43) (.const 43)) (.seq (.arith 43) (.seq (.ite (.bind 44 42) (.bind 44 43)) (.ite (.seq (.const 42) (.seq (.load 42 8 .dyn) (.store 7 .dyn 42))) .skip)))))))) (.ite .skip (.loop [.any, .any, .any, .any, .any, .any, .any, (.lv (.sh 0)), .any, .any, .any, (.lv (.sh 0)), (.lv (.sh 0)), .any, .any, .any, .any, (.lv (.sh 1)), .any, (.lv (.sh 1)), (.lv (.sh 0)), (.lv (.sh 0)), (.lv (.sh 0)), (.lv (.sh 0)), (.lv (.sh 1)), .any, .any, .scalar, .any, (.lv (.sh 0)), .scalar, .scalar, .scalar, .scalar, .scalar, .scalar, (.lv (.sh 0)), .any, .any, .any, .any, (.lv (.sh 0)), .any, .any, .any, .any, (.lv (.sh 0)), .scalar, .any, (.lv (.sh 0)), (.lv (.sh 0)), (.lv (.sh 0))] (.block (.seq (.havoc 40) (.seq (.const 42) (.arith 42))))))) (.seq (.const 42) (.alloc 43 (.sh 0) (.union [42, 7])))) (.seq (.seq (.bind 7 43) (.const 42)) (.seq (.const 43) (.seq (.const 44) (.const 45))))))) (.seq (.seq (.seq (.seq (.seq (.load 45 42 .dyn) (.load 46 45 .dyn)) (.seq (.load 45 42 .dyn) (.load 46 45 .dyn))) (.seq (.seq (.load 45 42 .dyn) (.load 46 45 .dyn)) (.seq (.const 45) (.load 46 43 .dyn)))) (.seq (.seq (.seq (.load 47 46 .dyn) (.load 46 43 .dyn)) (.seq (.load 47 46 .dyn) (.load 46 43 .dyn))) (.seq (.seq (.load 47 46 .dyn) (.const 46)) (.seq (.load 47 44 .dyn) (.seq (.load 48 47 .dyn) (.load 47 44 .dyn)))))) (.seq (.seq (.seq (.seq (.load 48 47 .dyn) (.load 47 44 .dyn)) (.seq (.load 48 47 .dyn) (.const 47))) (.seq (.seq (.const 48) (.arith 48)) (.seq (.ite (.bind 48 7) (.seq (.alloc 49 .nums .dict) (.bind 48 49))) (.seq (.const 49) (.arith 49))))) (.seq (.seq (.seq (.ite (.bind 49 11) (.seq (.seq (.alloc 50 (.sh 0) (.lit [])) (.call 51 45 [])) (.seq (.merge 50 51) (.bind 49 50)))) (.call 50 17 [42, 43, 44, 11, 7])) (.seq (.alloc 42 .nums (.lit [("", 45)])) (.alloc 43 .nums (.lit [("", 46)])))) (.seq (.seq (.alloc 44 .nums (.lit [("", 47)])) (.alloc 45 (.sh 1) (.lit [("", 49)]))) (.seq (.alloc 46 (.sh 0) (.lit [("", 42), ("", 43), ("", 44), ("", 48), ("", 45)])) (.seq (.store 17 .dyn 46) (.const 42)))))))))))))))) (.seq (.call 41 307 [17]) (.ret 41)))))))),
  (.lv (.sh 2))⟩

/-- bermuda/io/data_frame_output.py:202  params: tri, <globals> -/
def f187 : Fn := ⟨"bermuda.io.data_frame_output:_all_fields", [0, 1], [],
  (.seq (.seq (.alloc 5 (.sh 0) (.union [])) (.bind 2 5)) (.seq (.loop [.any, .any, (.lv (.sh 0)), (.lv (.sh 0)), .any, (.lv (.sh 0)), (.lv (.sh 0))] (.block (.seq (.seq (.load 5 0 .dyn) (.seq (.bind 4 5) (.load 5 4 .dyn))) (.seq (.seq (.alloc 6 (.sh 0) (.union [5])) (.alloc 5 (.sh 0) (.union [6]))) (.seq (.bind 3 5) (.aug 2 3)))))) (.seq (.alloc 5 (.sh 0) (.union [2])) (.ret 5)))),
  (.lv (.sh 0))⟩

/-- bermuda/io/data_frame_output.py:212  params: tri, <globals> -/
def f188 : Fn := ⟨"bermuda.io.data_frame_output:_all_metadata_names", [0, 1], [],
  (.seq (.seq (.alloc 8 (.sh 0) (.union [])) (.seq (.bind 2 8) (.ite (.seq (.load 8 0 .dyn) (.load 9 8 .dyn)) (.call 9 339 [0])))) (.seq (.seq (.bind 5 9) (.loop [.any, .any, (.lv (.sh 0)), (.lv (.sh 0)), .any, .any, .any, .any, .any, .any, (.lv .num)] (.block (.seq (.seq (.load 8 5 .dyn) (.seq (.bind 4 8) (.alloc 8 (.sh 0) .dict))) (.seq (.seq (.call 9 47 [4]) (.loop [.any, .any, (.lv (.sh 0)), (.lv (.sh 0)), .any, .any, .any, .any, (.lv (.sh 0)), (.lv (.sh 0)), (.lv .num)] (.seq (.seq (.havoc 10) (.seq (.bind 6 10) (.load 10 9 .dyn))) (.seq (.seq (.bind 7 10) (.const 10)) (.seq (.arith 10) (.ite .skip (.store 8 .dyn 6))))))) (.seq (.bind 3 8) (.aug 2 3))))))) (.seq (.alloc 8 (.sh 0) (.union [2])) (.ret 8)))),
  (.lv (.sh 0))⟩

/-- bermuda/io/data_frame_output.py:106  params: cell, metadata_names, <globals> -/
def f189 : Fn := ⟨"bermuda.io.data_frame_output:_cell_to_long_dict", [0, 1, 2], [],
  (.seq (.seq (.seq (.seq (.seq (.ite (.seq (.load 14 0 .dyn) (.load 15 14 .dyn)) (.call 15 339 [0])) (.call 14 47 [15])) (.seq (.bind 7 14) (.alloc 14 (.sh 0) .dict))) (.seq (.seq (.loop [.any, .any, .any, .scalar, .scalar, .scalar, .scalar, (.lv (.sh 0)), .scalar, .scalar, .scalar, .scalar, .scalar, .scalar, (.lv (.sh 0)), .any] (.seq (.seq (.const 15) (.bind 8 15)) (.seq (.ite (.const 15) (.ite (.load 15 7 .dyn) (.bind 15 8))) (.store 14 .dyn 15)))) (.bind 6 14)) (.seq (.alloc 14 (.sh 0) .dict) (.const 15)))) (.seq (.seq (.seq (.load 15 0 .dyn) (.load 16 15 .dyn)) (.seq (.store 14 .dyn 16) (.const 15))) (.seq (.seq (.load 15 0 .dyn) (.load 16 15 .dyn)) (.seq (.store 14 .dyn 16) (.const 15))))) (.seq (.seq (.seq (.seq (.ite (.seq (.load 15 0 .dyn) (.load 16 15 .dyn)) (.call 16 320 [0])) (.store 14 .dyn 16)) (.seq (.bind 5 14) (.const 14))) (.seq (.seq (.const 14) (.ite (.seq (.seq (.alloc 14 (.sh 0) .dict) (.seq (.const 15) (.load 15 0 .dyn))) (.seq (.seq (.load 16 15 .dyn) (.store 14 .dyn 16)) (.seq (.merge 5 14) (.const 14)))) .skip)) (.seq (.call 14 191 [0]) (.bind 4 14)))) (.seq (.seq (.seq (.ite .skip (.loop [.any, .any, .any, .scalar, (.lv (.sh 1)), (.lv (.sh 0)), (.lv (.sh 0)), (.lv (.sh 0)), .scalar, .any, .scalar, .scalar, .scalar, .scalar, (.lv (.sh 1)), .any, .any] (.block (.seq (.seq (.havoc 9) (.const 14)) (.seq (.const 15) (.seq (.alloc 16 .nums (.lit [("", 14), ("", 15)])) (.const 14))))))) (.const 14)) (.seq (.load 15 0 .dyn) (.alloc 16 (.sh 0) (.union [14, 15])))) (.seq (.seq (.bind 3 16) (.alloc 14 (.sh 1) .dict)) (.seq (.loop [.any, .any, .any, (.lv (.sh 0)), (.lv (.sh 1)), (.lv (.sh 0)), (.lv (.sh 0)), (.lv (.sh 0)), .scalar, .any, .scalar, (.lv (.sh 0)), .any, .any, (.lv (.sh 1)), .any, (.lv (.sh 0)), (.lv .num)] (.seq (.seq (.const 15) (.bind 10 15)) (.seq (.load 15 4 .dyn) (.seq (.bind 11 15) (.loop [.any, .any, .any, (.lv (.sh 0)), (.lv (.sh 1)), (.lv (.sh 0)), (.lv (.sh 0)), (.lv (.sh 0)), .scalar, .any, .scalar, (.lv (.sh 0)), .any, .any, (.lv (.sh 1)), (.lv (.sh 0)), (.lv (.sh 0)), (.lv .num)] (.seq (.seq (.seq (.havoc 15) (.seq (.bind 12 15) (.load 15 11 .dyn))) (.seq (.seq (.bind 13 15) (.alloc 15 (.sh 0) (.union [5, 6]))) (.seq (.const 16) (.arith 16)))) (.seq (.seq (.seq (.ite (.seq (.const 16) (.bind 17 16)) (.seq (.const 16) (.seq (.arith 16) (.bind 17 16)))) (.store 15 .dyn 17)) (.seq (.const 16) (.store 15 .dyn 12))) (.seq (.seq (.const 16) (.const 16)) (.seq (.store 15 .dyn 16) (.store 14 .dyn 15)))))))))) (.ret 14)))))),
  (.lv (.sh 1))⟩

/-- bermuda/io/data_frame_output.py:135  params: cell, metadata_names, field_names, <globals> -/
def f190 : Fn := ⟨"bermuda.io.data_frame_output:_cell_to_wide_dict", [0, 1, 2, 3], [],
  (.seq (.seq (.seq (.seq (.ite (.seq (.load 11 0 .dyn) (.load 12 11 .dyn)) (.call 12 339 [0])) (.seq (.call 11 47 [12]) (.bind 7 11))) (.seq (.alloc 11 (.sh 0) .dict) (.seq (.loop [.any, .any, .any, .any, .scalar, .scalar, .scalar, (.lv (.sh 0)), .scalar, .scalar, .scalar, (.lv (.sh 0)), .any] (.seq (.seq (.const 12) (.bind 8 12)) (.seq (.ite (.const 12) (.ite (.load 12 7 .dyn) (.bind 12 8))) (.store 11 .dyn 12)))) (.bind 6 11)))) (.seq (.seq (.call 11 191 [0, 2]) (.seq (.bind 5 11) (.alloc 11 (.sh 0) .dict))) (.seq (.seq (.const 12) (.load 12 0 .dyn)) (.seq (.load 13 12 .dyn) (.store 11 .dyn 13))))) (.seq (.seq (.seq (.const 12) (.seq (.load 12 0 .dyn) (.load 13 12 .dyn))) (.seq (.seq (.store 11 .dyn 13) (.const 12)) (.seq (.ite (.seq (.load 12 0 .dyn) (.load 13 12 .dyn)) (.call 13 320 [0])) (.store 11 .dyn 13)))) (.seq (.seq (.bind 4 11) (.seq (.const 11) (.const 11))) (.seq (.seq (.ite (.seq (.seq (.alloc 11 (.sh 0) .dict) (.seq (.const 12) (.load 12 0 .dyn))) (.seq (.seq (.load 13 12 .dyn) (.store 11 .dyn 13)) (.seq (.merge 4 11) (.const 11)))) .skip) (.alloc 11 (.sh 1) .dict)) (.seq (.loop [.any, .any, .any, .any, (.lv (.sh 0)), (.lv (.sh 1)), (.lv (.sh 0)), (.lv (.sh 0)), .scalar, .scalar, (.lv (.sh 0)), (.lv (.sh 1)), .any, .any] (.seq (.seq (.seq (.const 12) (.bind 9 12)) (.seq (.load 12 5 .dyn) (.seq (.bind 10 12) (.alloc 12 (.sh 0) (.union [4, 10, 6]))))) (.seq (.seq (.const 13) (.const 13)) (.seq (.arith 13) (.seq (.store 12 .dyn 13) (.store 11 .dyn 12)))))) (.ret 11)))))),
  (.lv (.sh 1))⟩

/-- bermuda/io/data_frame_output.py:160  params: cell, field_names, <globals> -/
def f191 : Fn := ⟨"bermuda.io.data_frame_output:_clean_field_dicts", [0, 1, 2], [],
  (.seq (.seq (.seq (.const 9) (.arith 9)) (.seq (.ite (.seq (.seq (.load 9 0 .dyn) (.alloc 10 (.sh 0) (.union [9]))) (.seq (.alloc 9 (.sh 0) (.union [10])) (.bind 1 9))) .skip) (.call 9 192 [0, 1]))) (.seq (.seq (.bind 8 9) (.alloc 9 (.sh 1) .dict)) (.seq (.bind 7 9) (.seq (.loop [.any, .any, .any, .any, .any, (.lv (.sh 0)), .scalar, (.lv (.sh 1)), (.lv .num), (.lv (.sh 1)), (.lv (.sh 0)), (.lv .num)] (.block (.seq (.seq (.const 9) (.seq (.bind 6 9) (.alloc 9 (.sh 0) .dict))) (.seq (.seq (.bind 5 9) (.loop [.any, .any, .any, .any, .any, (.lv (.sh 0)), .scalar, (.lv (.sh 1)), (.lv .num), .any, (.lv (.sh 0)), (.lv .num)] (.block (.seq (.seq (.seq (.load 9 1 .dyn) (.seq (.bind 4 9) (.load 9 0 .dyn))) (.seq (.ite (.const 10) (.ite (.load 10 9 .dyn) (.bind 10 4))) (.seq (.bind 3 10) (.const 9)))) (.seq (.seq (.const 9) (.seq (.load 10 3 .dyn) (.load 11 10 .dyn))) (.seq (.seq (.const 10) (.arith 10)) (.seq (.ite (.bind 11 9) (.bind 11 10)) (.ite (.seq (.load 9 3 .dyn) (.store 5 .dyn 9)) (.seq (.const 9) (.seq (.arith 9) (.ite (.seq (.const 9) (.store 5 .dyn 9)) .skip))))))))))) (.seq (.store 7 .dyn 5) (.const 9)))))) (.ret 7))))),
  (.lv (.sh 1))⟩

/-- bermuda/io/data_frame_output.py:181  params: cell, field_names, <globals> -/
def f192 : Fn := ⟨"bermuda.io.data_frame_output:_common_field_length", [0, 1, 2], [],
  (.seq (.seq (.seq (.seq (.alloc 7 (.sh 0) (.union [])) (.bind 4 7)) (.seq (.loop [.any, .any, .any, .scalar, (.lv (.sh 0)), .any, .scalar, (.lv (.sh 0)), .any] (.block (.seq (.seq (.seq (.const 7) (.bind 6 7)) (.seq (.load 7 0 .dyn) (.ite (.const 8) (.ite (.load 8 7 .dyn) (.bind 8 6))))) (.seq (.seq (.bind 5 8) (.const 7)) (.seq (.const 7) (.ite (.seq (.seq (.seq (.load 7 5 .dyn) (.load 8 7 .dyn)) (.seq (.const 7) (.seq (.const 7) (.arith 7)))) (.seq (.seq (.ite (.seq (.const 7) (.seq (.const 7) .raise)) .skip) (.load 7 5 .dyn)) (.seq (.load 8 7 .dyn) (.seq (.alloc 7 (.sh 0) (.lit [("", 8)])) (.aug 4 7))))) (.seq (.const 7) (.seq (.alloc 8 .nums (.lit [("", 7)])) (.aug 4 8))))))))) (.const 7))) (.seq (.seq (.alloc 8 .nums (.lit [("", 7)])) (.arith 7)) (.seq (.ite (.seq (.const 7) (.ret 7)) .skip) (.const 7)))) (.seq (.seq (.seq (.alloc 8 .nums (.lit [("", 7)])) (.arith 7)) (.seq (.bind 3 7) (.const 7))) (.seq (.seq (.const 7) (.arith 7)) (.seq (.ite (.seq (.const 7) (.seq (.const 7) .raise)) .skip) (.seq (.ite (.const 7) (.ite (.load 7 3 .dyn) (.bind 7 3))) (.ret 7)))))),
  (.lv .num)⟩

/-- bermuda/io/data_frame_output.py:223  params: dates, <globals> -/
def f193 : Fn := ⟨"bermuda.io.data_frame_output:_date_to_period_index", [0, 1], [],
  (.seq (.alloc 3 .nums .dict) (.seq (.loop [.any, .any, .any, (.lv .nums), .scalar, .any] (.seq (.seq (.seq (.load 4 0 .dyn) (.bind 2 4)) (.seq (.load 4 2 .dyn) (.seq (.load 5 4 .dyn) (.load 4 2 .dyn)))) (.seq (.seq (.load 5 4 .dyn) (.seq (.load 4 2 .dyn) (.load 5 4 .dyn))) (.seq (.const 4) (.seq (.const 4) (.store 3 .dyn 4)))))) (.ret 3))),
  (.lv .nums)⟩

/-- bermuda/io/data_frame_output.py:227  params: df, <globals> -/
def f194 : Fn := ⟨"bermuda.io.data_frame_output:_drop_constant_scenario", [0, 1], [],
  (.seq (.seq (.seq (.const 3) (.seq (.load 3 0 .dyn) (.ite (.arith 4) (.ite (.load 4 3 .dyn) (.bind 4 3))))) (.seq (.bind 2 4) (.seq (.const 3) (.load 3 2 .dyn)))) (.seq (.seq (.arith 3) (.seq (.arith 3) (.const 4))) (.seq (.arith 4) (.seq (.ite (.bind 5 3) (.bind 5 4)) (.ite (.seq (.seq (.const 3) (.seq (.alloc 4 .nums (.lit [("", 3)])) (.alloc 3 (.sh 0) .dict))) (.seq (.havoc 4) (.seq (.store 3 .dyn 4) (.ret 3)))) (.seq (.const 3) (.ret 3))))))),
  (.lv (.sh 0))⟩

/-- bermuda/io/data_frame_output.py:36  params: tri, filename, <globals> -/
def f195 : Fn := ⟨"bermuda.io.data_frame_output:triangle_to_long_csv", [0, 1, 2], [],
  (.seq (.seq (.const 1) (.seq (.const 4) (.call 4 196 [0]))) (.seq (.seq (.bind 3 4) (.const 4)) (.seq (.const 4) (.ite (.seq (.const 4) (.const 4)) (.seq (.seq (.const 4) (.alloc 4 (.sh 0) .dict)) (.seq (.havoc 5) (.store 4 .dyn 5))))))),
  .scalar⟩

/-- bermuda/io/data_frame_output.py:83  params: tri, <globals> -/
def f196 : Fn := ⟨"bermuda.io.data_frame_output:triangle_to_long_data_frame", [0, 1], [],
  (.seq (.seq (.seq (.seq (.seq (.const 7) (.call 7 188 [0])) (.seq (.bind 4 7) (.alloc 7 (.sh 1) .dict))) (.seq (.seq (.loop [.any, .any, .scalar, .scalar, (.lv (.sh 0)), .any, (.lv (.sh 0)), (.lv (.sh 1)), (.lv (.sh 1)), (.lv (.sh 0))] (.seq (.seq (.load 8 0 .dyn) (.bind 5 8)) (.seq (.call 8 189 [5, 4]) (.loop [.any, .any, .scalar, .scalar, (.lv (.sh 0)), .any, (.lv (.sh 0)), (.lv (.sh 1)), (.lv (.sh 1)), (.lv (.sh 0))] (.seq (.load 9 8 .dyn) (.seq (.bind 6 9) (.store 7 .dyn 6))))))) (.bind 3 7)) (.seq (.alloc 7 (.sh 0) .dict) (.seq (.havoc 8) (.store 7 .dyn 8))))) (.seq (.seq (.seq (.bind 2 7) (.ite (.call 7 194 [2]) (.bind 7 2))) (.seq (.bind 2 7) (.load 7 2 .dyn))) (.seq (.seq (.load 8 7 .dyn) (.alloc 7 (.sh 0) .dict)) (.seq (.havoc 8) (.seq (.store 7 .dyn 8) (.alloc 8 (.sh 1) (.lit [("", 7)]))))))) (.seq (.seq (.seq (.seq (.store 2 .dyn 8) (.load 7 2 .dyn)) (.seq (.load 8 7 .dyn) (.alloc 7 (.sh 0) .dict))) (.seq (.seq (.havoc 8) (.store 7 .dyn 8)) (.seq (.alloc 8 (.sh 1) (.lit [("", 7)])) (.seq (.store 2 .dyn 8) (.ite (.seq (.load 7 2 .dyn) (.load 8 7 .dyn)) (.call 8 320 [2])))))) (.seq (.seq (.seq (.call 7 193 [8]) (.alloc 7 (.sh 0) .dict)) (.seq (.havoc 8) (.store 7 .dyn 8))) (.seq (.seq (.alloc 8 (.sh 1) (.lit [("", 7)])) (.store 2 .dyn 8)) (.seq (.ite (.seq (.load 7 0 .dyn) (.load 8 7 .dyn)) (.call 8 333 [0])) (.seq (.ite (.seq (.seq (.seq (.load 7 2 .dyn) (.load 8 7 .dyn)) (.seq (.call 7 193 [8]) (.alloc 7 (.sh 0) .dict))) (.seq (.seq (.havoc 8) (.store 7 .dyn 8)) (.seq (.alloc 8 (.sh 1) (.lit [("", 7)])) (.store 2 .dyn 8)))) .skip) (.ret 2))))))),
  (.lv (.sh 0))⟩

/-- bermuda/io/data_frame_output.py:19  params: tri, filename, <globals> -/
def f197 : Fn := ⟨"bermuda.io.data_frame_output:triangle_to_wide_csv", [0, 1, 2], [],
  (.seq (.seq (.const 1) (.seq (.const 4) (.call 4 198 [0]))) (.seq (.seq (.bind 3 4) (.const 4)) (.seq (.const 4) (.ite (.seq (.const 4) (.const 4)) (.seq (.seq (.const 4) (.alloc 4 (.sh 0) .dict)) (.seq (.havoc 5) (.store 4 .dyn 5))))))),
  .scalar⟩

/-- bermuda/io/data_frame_output.py:53  params: tri, <globals> -/
def f198 : Fn := ⟨"bermuda.io.data_frame_output:triangle_to_wide_data_frame", [0, 1], [],
  (.seq (.seq (.seq (.seq (.seq (.const 8) (.call 8 188 [0])) (.seq (.bind 5 8) (.call 8 187 [0]))) (.seq (.seq (.bind 4 8) (.alloc 8 (.sh 1) .dict)) (.seq (.loop [.any, .any, .scalar, .scalar, (.lv (.sh 0)), (.lv (.sh 0)), .any, (.lv (.sh 0)), (.lv (.sh 1)), (.lv (.sh 1)), (.lv (.sh 0))] (.seq (.seq (.load 9 0 .dyn) (.bind 6 9)) (.seq (.call 9 190 [6, 5, 4]) (.loop [.any, .any, .scalar, .scalar, (.lv (.sh 0)), (.lv (.sh 0)), .any, (.lv (.sh 0)), (.lv (.sh 1)), (.lv (.sh 1)), (.lv (.sh 0))] (.seq (.load 10 9 .dyn) (.seq (.bind 7 10) (.store 8 .dyn 7))))))) (.seq (.bind 3 8) (.alloc 8 (.sh 0) .dict))))) (.seq (.seq (.seq (.havoc 9) (.store 8 .dyn 9)) (.seq (.bind 2 8) (.seq (.ite (.call 8 194 [2]) (.bind 8 2)) (.bind 2 8)))) (.seq (.seq (.load 8 2 .dyn) (.load 9 8 .dyn)) (.seq (.alloc 8 (.sh 0) .dict) (.seq (.havoc 9) (.store 8 .dyn 9)))))) (.seq (.seq (.seq (.seq (.alloc 9 (.sh 1) (.lit [("", 8)])) (.store 2 .dyn 9)) (.seq (.load 8 2 .dyn) (.seq (.load 9 8 .dyn) (.alloc 8 (.sh 0) .dict)))) (.seq (.seq (.havoc 9) (.store 8 .dyn 9)) (.seq (.alloc 9 (.sh 1) (.lit [("", 8)])) (.seq (.store 2 .dyn 9) (.ite (.seq (.load 8 2 .dyn) (.load 9 8 .dyn)) (.call 9 320 [2])))))) (.seq (.seq (.seq (.call 8 193 [9]) (.alloc 8 (.sh 0) .dict)) (.seq (.havoc 9) (.seq (.store 8 .dyn 9) (.const 8)))) (.seq (.seq (.alloc 9 .nums (.lit [("", 8)])) (.store 2 .dyn 9)) (.seq (.ite (.seq (.load 8 0 .dyn) (.load 9 8 .dyn)) (.call 9 333 [0])) (.seq (.ite (.seq (.seq (.seq (.load 8 2 .dyn) (.load 9 8 .dyn)) (.seq (.call 8 193 [9]) (.alloc 8 (.sh 0) .dict))) (.seq (.seq (.havoc 9) (.store 8 .dyn 9)) (.seq (.alloc 9 (.sh 1) (.lit [("", 8)])) (.store 2 .dyn 9)))) .skip) (.ret 2))))))),
  (.lv (.sh 0))⟩

/-- bermuda/io/json.py:81  params: date_format, args, kwargs, <globals> -/
def f199 : Fn := ⟨"bermuda.io.json:TriangleDecoder.__init__", [1, 2, 3, 4], [],
  (.seq (.seq (.seq (.alloc 0 (.sh 1) .dict) (.alloc 5 (.sh 0) (.lit [("", 1)]))) (.seq (.store 0 .dyn 5) (.load 5 2 .dyn))) (.seq (.seq (.load 5 0 .dyn) (.load 6 5 .dyn)) (.seq (.load 5 3 .dyn) (.seq (.const 5) (.ret 0))))),
  (.lv (.sh 1))⟩

/-- bermuda/io/json.py:95  params: obj, <globals> -/
def f200 : Fn := ⟨"bermuda.io.json:TriangleDecoder._parse_cell_set", [0, 1], [],
  (.seq (.seq (.seq (.seq (.seq (.const 4) (.const 5)) (.seq (.ite (.const 6) (.ite (.load 6 0 .dyn) (.ite (.bind 6 4) (.bind 6 5)))) (.const 4))) (.seq (.seq (.ite (.const 5) (.ite (.load 5 0 .dyn) (.bind 5 4))) (.const 4)) (.seq (.ite (.const 7) (.ite (.load 7 0 .dyn) (.bind 7 4))) (.seq (.const 4) (.ite (.const 8) (.ite (.load 8 0 .dyn) (.bind 8 4))))))) (.seq (.seq (.seq (.const 4) (.ite (.const 9) (.ite (.load 9 0 .dyn) (.bind 9 4)))) (.seq (.const 4) (.ite (.const 10) (.ite (.load 10 0 .dyn) (.bind 10 4))))) (.seq (.seq (.const 4) (.alloc 11 .nums .dict)) (.seq (.ite (.const 12) (.ite (.load 12 0 .dyn) (.ite (.bind 12 4) (.bind 12 11)))) (.seq (.const 4) (.alloc 11 .nums .dict)))))) (.seq (.seq (.seq (.seq (.ite (.const 13) (.ite (.load 13 0 .dyn) (.ite (.bind 13 4) (.bind 13 11)))) (.alloc 4 (.sh 0) (.lit [("", 6)]))) (.seq (.alloc 11 (.sh 0) (.lit [("", 5)])) (.alloc 14 (.sh 0) (.lit [("", 7)])))) (.seq (.seq (.alloc 15 (.sh 0) (.lit [("", 8)])) (.alloc 16 (.sh 0) (.lit [("", 9)]))) (.seq (.alloc 17 (.sh 0) (.lit [("", 10)])) (.seq (.alloc 18 (.sh 0) (.lit [("", 12)])) (.alloc 19 (.sh 0) (.lit [("", 13)])))))) (.seq (.seq (.seq (.alloc 20 (.sh 0) (.lit [("", 4), ("", 11), ("", 14), ("", 15), ("", 16), ("", 17), ("", 18), ("", 19)])) (.call 4 45 [6, 5, 7, 8, 9, 10, 12, 13])) (.seq (.merge 20 4) (.bind 2 20))) (.seq (.seq (.alloc 4 (.sh 0) .dict) (.const 5)) (.seq (.load 5 0 .dyn) (.seq (.loop [.any, .any, (.lv (.sh 0)), .any, (.lv (.sh 0)), .any, .any, .any, .any, .any, .any, (.lv (.sh 0)), .any, .any, (.lv (.sh 0)), (.lv (.sh 0)), (.lv (.sh 0)), (.lv (.sh 0)), (.lv (.sh 0)), (.lv (.sh 0)), (.lv (.sh 0))] (.seq (.seq (.load 6 5 .dyn) (.bind 3 6)) (.seq (.ite (.call 6 29 [3, 2]) (.ite (.call 6 346 [3, 2]) (.const 6))) (.store 4 .dyn 6)))) (.ret 4))))))),
  (.lv (.sh 0))⟩

/-- bermuda/io/json.py:109  params: self, obj, <globals> -/
def f201 : Fn := ⟨"bermuda.io.json:TriangleDecoder._parse_observation", [0, 1, 2], [],
  (.seq (.seq (.seq (.alloc 7 (.sh 0) .dict) (.const 8)) (.seq (.load 8 1 .dyn) (.seq (.loop [.any, .any, .any, .scalar, .scalar, .any, .any, (.lv (.sh 0)), .any, (.lv .num), .any] (.seq (.seq (.seq (.havoc 9) (.bind 5 9)) (.seq (.load 9 8 .dyn) (.bind 6 9))) (.seq (.seq (.const 9) (.const 9)) (.seq (.ite (.seq (.arith 9) (.bind 10 9)) (.bind 10 6)) (.store 7 .dyn 10))))) (.bind 4 7)))) (.seq (.seq (.const 7) (.alloc 7 (.sh 0) (.union [1]))) (.seq (.arith 7) (.seq (.ite (.seq (.seq (.seq (.seq (.seq (.const 7) (.seq (.load 7 1 .dyn) (.load 7 0 .dyn))) (.seq (.seq (.load 8 7 .dyn) (.const 7)) (.seq (.const 7) (.const 8)))) (.seq (.seq (.seq (.load 8 1 .dyn) (.load 8 0 .dyn)) (.seq (.load 9 8 .dyn) (.const 8))) (.seq (.seq (.const 8) (.const 9)) (.seq (.load 9 1 .dyn) (.load 9 0 .dyn))))) (.seq (.seq (.seq (.load 10 9 .dyn) (.seq (.const 9) (.const 9))) (.seq (.seq (.const 10) (.load 10 1 .dyn)) (.seq (.load 10 0 .dyn) (.load 11 10 .dyn)))) (.seq (.seq (.seq (.const 10) (.const 10)) (.seq (.const 11) (.const 12))) (.seq (.seq (.load 12 7 .dyn) (.load 13 12 .dyn)) (.seq (.load 12 7 .dyn) (.load 13 12 .dyn)))))) (.seq (.seq (.seq (.seq (.load 12 7 .dyn) (.seq (.load 13 12 .dyn) (.const 12))) (.seq (.seq (.load 13 8 .dyn) (.load 14 13 .dyn)) (.seq (.load 13 8 .dyn) (.load 14 13 .dyn)))) (.seq (.seq (.seq (.load 13 8 .dyn) (.load 14 13 .dyn)) (.seq (.const 13) (.load 14 9 .dyn))) (.seq (.seq (.load 15 14 .dyn) (.load 14 9 .dyn)) (.seq (.load 15 14 .dyn) (.load 14 9 .dyn))))) (.seq (.seq (.seq (.seq (.load 15 14 .dyn) (.const 14)) (.seq (.const 15) (.arith 15))) (.seq (.seq (.ite (.bind 15 4) (.seq (.alloc 16 .nums .dict) (.bind 15 16))) (.const 16)) (.seq (.arith 16) (.ite (.bind 16 11) (.seq (.seq (.alloc 11 (.sh 0) (.lit [])) (.call 17 45 [])) (.seq (.merge 11 17) (.bind 16 11))))))) (.seq (.seq (.seq (.call 11 37 [7, 8, 9, 10, 4]) (.alloc 7 .nums (.lit [("", 12)]))) (.seq (.alloc 8 .nums (.lit [("", 13)])) (.alloc 9 .nums (.lit [("", 14)])))) (.seq (.seq (.alloc 11 (.sh 1) (.lit [("", 16)])) (.alloc 12 .nums (.lit [("", 10)]))) (.seq (.alloc 10 (.sh 0) (.lit [("", 7), ("", 8), ("", 9), ("", 15), ("", 11), ("", 12)])) (.bind 3 10))))))) (.seq (.seq (.seq (.seq (.seq (.const 7) (.seq (.load 7 1 .dyn) (.load 7 0 .dyn))) (.seq (.load 8 7 .dyn) (.seq (.const 7) (.const 7)))) (.seq (.seq (.const 8) (.seq (.load 8 1 .dyn) (.load 8 0 .dyn))) (.seq (.seq (.load 9 8 .dyn) (.const 8)) (.seq (.const 8) (.const 9))))) (.seq (.seq (.seq (.load 9 1 .dyn) (.seq (.load 9 0 .dyn) (.load 10 9 .dyn))) (.seq (.seq (.const 9) (.const 9)) (.seq (.const 10) (.const 11)))) (.seq (.seq (.load 11 7 .dyn) (.seq (.load 12 11 .dyn) (.load 11 7 .dyn))) (.seq (.seq (.load 12 11 .dyn) (.load 11 7 .dyn)) (.seq (.load 12 11 .dyn) (.const 11)))))) (.seq (.seq (.seq (.seq (.load 12 8 .dyn) (.seq (.load 13 12 .dyn) (.load 12 8 .dyn))) (.seq (.load 13 12 .dyn) (.seq (.load 12 8 .dyn) (.load 13 12 .dyn)))) (.seq (.seq (.const 12) (.seq (.load 13 9 .dyn) (.load 14 13 .dyn))) (.seq (.seq (.load 13 9 .dyn) (.load 14 13 .dyn)) (.seq (.load 13 9 .dyn) (.load 14 13 .dyn))))) (.seq (.seq (.seq (.const 13) (.seq (.const 14) (.arith 14))) (.seq (.seq (.ite (.bind 14 4) (.seq (.alloc 15 .nums .dict) (.bind 14 15))) (.const 15)) (.seq (.arith 15) (.ite (.bind 15 10) (.seq (.seq (.alloc 10 (.sh 0) (.lit [])) (.call 16 45 [])) (.seq (.merge 10 16) (.bind 15 10))))))) (.seq (.seq (.call 10 17 [7, 8, 9, 4]) (.seq (.alloc 7 .nums (.lit [("", 11)])) (.alloc 8 .nums (.lit [("", 12)])))) (.seq (.seq (.alloc 9 .nums (.lit [("", 13)])) (.alloc 10 (.sh 1) (.lit [("", 15)]))) (.seq (.alloc 11 (.sh 0) (.lit [("", 7), ("", 8), ("", 9), ("", 14), ("", 10)])) (.bind 3 11)))))))) (.ret 3))))),
  (.lv (.sh 0))⟩

/-- bermuda/io/json.py:85  params: self, obj, <globals> -/
def f202 : Fn := ⟨"bermuda.io.json:TriangleDecoder.object_hook", [0, 1, 2], [],
  (.seq (.seq (.seq (.seq (.const 3) (.arith 3)) (.seq (.ite (.seq (.seq (.const 3) (.seq (.load 3 1 .dyn) (.alloc 3 .nums .dict))) (.seq (.seq (.alloc 3 (.sh 0) (.union [])) (.havoc 4)) (.seq (.store 3 .dyn 4) (.ret 3)))) .skip) (.const 3))) (.seq (.seq (.arith 3) (.ite (.seq (.call 3 200 [1]) (.ret 3)) .skip)) (.seq (.const 3) (.arith 3)))) (.seq (.seq (.seq (.const 4) (.arith 4)) (.seq (.const 5) (.arith 5))) (.seq (.seq (.ite (.bind 6 3) (.ite (.bind 6 4) (.bind 6 5))) (.ite (.seq (.call 3 201 [0, 1]) (.ret 3)) .skip)) (.seq (.const 3) (.ret 3))))),
  (.lv (.sh 0))⟩

/-- bermuda/io/json.py:155  params: self, obj, <globals> -/
def f203 : Fn := ⟨"bermuda.io.json:TriangleEncoder.default", [0, 1, 2], [],
  (.seq (.call 3 213 [1]) (.ret 3)),
  (.lv (.sh 2))⟩

/-- bermuda/io/json.py:170  params: cell, <globals> -/
def f204 : Fn := ⟨"bermuda.io.json:_cell_to_dict", [0, 1], [],
  (.seq (.seq (.seq (.seq (.alloc 6 (.sh 1) .dict) (.seq (.const 7) (.load 7 0 .dyn))) (.seq (.seq (.load 8 7 .dyn) (.const 7)) (.seq (.const 7) (.store 6 .dyn 7)))) (.seq (.seq (.seq (.const 7) (.load 7 0 .dyn)) (.seq (.load 8 7 .dyn) (.const 7))) (.seq (.seq (.const 7) (.store 6 .dyn 7)) (.seq (.const 7) (.ite (.seq (.load 7 0 .dyn) (.load 8 7 .dyn)) (.call 8 320 [0])))))) (.seq (.seq (.seq (.seq (.const 7) (.const 7)) (.seq (.store 6 .dyn 7) (.bind 3 6))) (.seq (.seq (.alloc 6 (.sh 1) .dict) (.const 7)) (.seq (.alloc 7 (.sh 0) .dict) (.load 8 0 .dyn)))) (.seq (.seq (.seq (.loop [.any, .any, .scalar, (.lv (.sh 1)), .any, .any, (.lv (.sh 1)), (.lv (.sh 0)), .any, (.lv .num), .any] (.seq (.seq (.seq (.havoc 9) (.bind 4 9)) (.seq (.load 9 8 .dyn) (.bind 5 9))) (.seq (.seq (.const 9) (.const 9)) (.seq (.ite (.seq (.arith 9) (.bind 10 9)) (.bind 10 5)) (.store 7 .dyn 10))))) (.store 6 .dyn 7)) (.seq (.bind 2 6) (.const 6))) (.seq (.seq (.const 6) (.ite (.seq (.seq (.seq (.alloc 6 (.sh 1) .dict) (.const 7)) (.seq (.load 7 0 .dyn) (.load 8 7 .dyn))) (.seq (.seq (.const 7) (.const 7)) (.seq (.store 6 .dyn 7) (.seq (.merge 3 6) (.const 6))))) .skip)) (.seq (.alloc 6 (.sh 1) (.union [3, 2])) (.ret 6)))))),
  (.lv (.sh 1))⟩

/-- bermuda/io/json.py:159  params: slice_, <globals> -/
def f205 : Fn := ⟨"bermuda.io.json:_slice_to_dict", [0, 1], [],
  (.seq (.seq (.seq (.alloc 5 (.sh 0) .dict) (.seq (.ite (.seq (.load 6 0 .dyn) (.load 7 6 .dyn)) (.call 7 313 [0])) (.const 6))) (.seq (.seq (.load 6 7 .dyn) (.ite (.seq (.load 7 6 .dyn) (.load 8 7 .dyn)) (.call 8 339 [6]))) (.seq (.call 6 46 [8]) (.loop [.any, .any, .any, .any, .scalar, (.lv (.sh 0)), (.lv (.sh 0)), .any, .any, (.lv .num)] (.seq (.seq (.seq (.havoc 7) (.bind 2 7)) (.seq (.load 7 6 .dyn) (.seq (.bind 3 7) (.const 7)))) (.seq (.seq (.arith 7) (.alloc 8 .nums .dict)) (.seq (.arith 8) (.seq (.ite (.bind 9 7) (.bind 9 8)) (.ite .skip (.store 5 .dyn 3)))))))))) (.seq (.seq (.alloc 6 (.sh 0) (.union [5])) (.seq (.const 5) (.alloc 5 (.sh 2) .dict))) (.seq (.seq (.ite (.seq (.load 7 0 .dyn) (.load 8 7 .dyn)) (.call 8 313 [0])) (.loop [.any, .any, .any, .any, .any, (.lv (.sh 2)), (.lv (.sh 0)), .any, .any, (.lv .num)] (.seq (.seq (.load 7 8 .dyn) (.bind 4 7)) (.seq (.call 7 204 [4]) (.store 5 .dyn 7))))) (.seq (.store 6 .dyn 5) (.ret 6))))),
  (.lv (.sh 0))⟩

/-- bermuda/io/json.py:150  params: obj, <globals> -/
def f206 : Fn := ⟨"bermuda.io.json:dict_to_triangle", [0, 1], [],
  (.seq (.const 2) (.seq (.call 3 208 [2]) (.ret 3))),
  (.lv (.sh 2))⟩

/-- bermuda/io/json.py:150  params: obj, <globals> -/
def f207 : Fn := ⟨"bermuda.io.json:dict_to_triangle@Triangle.from_dict", [0, 1], [],
  (.seq (.const 2) (.seq (.call 3 208 [2]) (.ret 3))),
  (.lv (.sh 2))⟩

/-- bermuda/io/json.py:31  params: string, date_format, <globals> -/
def f208 : Fn := ⟨"bermuda.io.json:json_string_to_triangle", [0, 1, 2], [],
  (.seq (.seq (.seq (.const 0) (.const 1)) (.seq (.const 4) (.alloc 4 (.sh 0) .dict))) (.seq (.seq (.havoc 5) (.store 4 .dyn 5)) (.seq (.bind 3 4) (.seq (.call 4 307 [3]) (.ret 4))))),
  (.lv (.sh 2))⟩

/-- bermuda/io/json.py:20  params: file_or_fname, date_format, <globals> -/
def f209 : Fn := ⟨"bermuda.io.json:json_to_triangle", [0, 1, 2], [],
  (.seq (.seq (.const 1) (.seq (.const 5) (.const 5))) (.seq (.ite (.seq (.seq (.seq (.const 5) (.const 5)) (.seq (.bind 4 5) (.const 5))) (.seq (.seq (.alloc 5 (.sh 0) .dict) (.havoc 6)) (.seq (.store 5 .dyn 6) (.bind 3 5)))) (.seq (.seq (.const 5) (.alloc 5 (.sh 0) .dict)) (.seq (.havoc 6) (.seq (.store 5 .dyn 6) (.bind 3 5))))) (.seq (.call 5 307 [3]) (.ret 5)))),
  (.lv (.sh 2))⟩

/-- bermuda/io/json.py:20  params: file_or_fname, date_format, <globals> -/
def f210 : Fn := ⟨"bermuda.io.json:json_to_triangle@Triangle.from_json", [0, 1, 2], [],
  (.seq (.seq (.const 1) (.seq (.const 5) (.const 5))) (.seq (.ite (.seq (.seq (.seq (.const 5) (.const 5)) (.seq (.bind 4 5) (.const 5))) (.seq (.seq (.alloc 5 (.sh 0) .dict) (.havoc 6)) (.seq (.store 5 .dyn 6) (.bind 3 5)))) (.seq (.seq (.const 5) (.alloc 5 (.sh 0) .dict)) (.seq (.havoc 6) (.seq (.store 5 .dyn 6) (.bind 3 5))))) (.seq (.call 5 307 [3]) (.ret 5)))),
  (.lv (.sh 2))⟩

/-- bermuda/io/json.py:45  params: file, date_format, <globals> -/
def f211 : Fn := ⟨"bermuda.io.json:triangle_json_load", [0, 1, 2], [],
  (.seq (.seq (.const 1) (.seq (.const 3) (.const 3))) (.seq (.seq (.const 3) (.const 3)) (.seq (.call 3 209 [0, 1]) (.ret 3)))),
  (.lv (.sh 2))⟩

/-- bermuda/io/json.py:36  params: string, date_format, <globals> -/
def f212 : Fn := ⟨"bermuda.io.json:triangle_json_loads", [0, 1, 2], [],
  (.seq (.seq (.seq (.const 0) (.const 1)) (.seq (.const 3) (.const 3))) (.seq (.seq (.const 3) (.const 3)) (.seq (.call 3 208 [0, 1]) (.ret 3)))),
  (.lv (.sh 2))⟩

/-- bermuda/io/json.py:146  params: tri, <globals> -/
def f213 : Fn := ⟨"bermuda.io.json:triangle_to_dict", [0, 1], [],
  (.seq (.seq (.alloc 3 (.sh 2) .dict) (.seq (.const 4) (.alloc 4 (.sh 1) .dict))) (.seq (.seq (.ite (.seq (.load 5 0 .dyn) (.load 6 5 .dyn)) (.call 6 350 [0])) (.loop [.any, .any, .any, (.lv (.sh 2)), (.lv (.sh 1)), .any, .any] (.seq (.seq (.load 5 6 .dyn) (.bind 2 5)) (.seq (.call 5 205 [2]) (.store 4 .dyn 5))))) (.seq (.store 3 .dyn 4) (.ret 3)))),
  (.lv (.sh 2))⟩

/-- bermuda/io/json.py:146  params: tri, <globals> -/
def f214 : Fn := ⟨"bermuda.io.json:triangle_to_dict@Triangle.to_dict", [0, 1], [],
  (.seq (.seq (.alloc 3 (.sh 2) .dict) (.seq (.const 4) (.alloc 4 (.sh 1) .dict))) (.seq (.seq (.ite (.seq (.load 5 0 .dyn) (.load 6 5 .dyn)) (.call 6 350 [0])) (.loop [.any, .any, .any, (.lv (.sh 2)), (.lv (.sh 1)), .any, .any] (.seq (.seq (.load 5 6 .dyn) (.bind 2 5)) (.seq (.call 5 205 [2]) (.store 4 .dyn 5))))) (.seq (.store 3 .dyn 4) (.ret 3)))),
  (.lv (.sh 2))⟩

/-- bermuda/io/json.py:54  params: tri, file_or_fname, <globals> -/
def f215 : Fn := ⟨"bermuda.io.json:triangle_to_json", [0, 1, 2], [],
  (.seq (.const 4) (.ite (.seq (.const 4) (.seq (.const 4) (.ite (.seq (.seq (.const 4) (.const 4)) (.seq (.bind 3 4) (.seq (.const 4) (.const 4)))) (.seq (.const 4) (.const 4))))) (.seq (.const 4) (.seq (.const 4) (.ret 4))))),
  .scalar⟩

/-- bermuda/io/json.py:54  params: tri, file_or_fname, <globals> -/
def f216 : Fn := ⟨"bermuda.io.json:triangle_to_json@Triangle.to_json", [0, 1, 2], [],
  (.seq (.const 4) (.ite (.seq (.const 4) (.seq (.const 4) (.ite (.seq (.seq (.const 4) (.const 4)) (.seq (.bind 3 4) (.seq (.const 4) (.const 4)))) (.seq (.const 4) (.const 4))))) (.seq (.const 4) (.seq (.const 4) (.ret 4))))),
  .scalar⟩

/-- bermuda/io/matrix.py:61  params: mat, <globals> -/
def f217 : Fn := ⟨"bermuda.io.matrix:matrix_to_triangle", [0, 1], [],
  (.seq (.seq (.seq (.seq (.seq (.alloc 23 .nums .dict) (.load 24 0 .dyn)) (.seq (.load 25 24 .dyn) (.seq (.load 24 25 .dyn) (.load 25 24 .dyn)))) (.seq (.seq (.const 24) (.seq (.load 24 25 .dyn) (.loop [.any, .any, .scalar, .scalar, .scalar, .scalar, .scalar, .scalar, .scalar, .scalar, .scalar, .scalar, .scalar, .scalar, .scalar, .scalar, .scalar, .scalar, .scalar, .scalar, .scalar, .scalar, .scalar, (.lv .nums), .any, .any, (.lv (.sh 0))] (.seq (.seq (.seq (.const 24) (.seq (.bind 18 24) (.load 24 0 .dyn))) (.seq (.seq (.load 25 24 .dyn) (.load 24 25 .dyn)) (.seq (.load 25 24 .dyn) (.load 24 0 .dyn)))) (.seq (.seq (.load 26 24 .dyn) (.seq (.load 24 26 .dyn) (.load 26 24 .dyn))) (.seq (.seq (.arith 24) (.ite (.arith 26) (.alloc 26 (.sh 0) (.union [25, 24])))) (.seq (.call 24 61 [26]) (.store 23 .dyn 24)))))))) (.seq (.bind 17 23) (.seq (.alloc 23 .nums .dict) (.load 24 0 .dyn))))) (.seq (.seq (.seq (.load 25 24 .dyn) (.seq (.load 24 25 .dyn) (.load 25 24 .dyn))) (.seq (.const 24) (.seq (.load 24 25 .dyn) (.loop [.any, .any, .scalar, .scalar, .scalar, .scalar, .scalar, .scalar, .scalar, .scalar, .scalar, .scalar, .scalar, .scalar, .scalar, .scalar, .scalar, (.lv .nums), .scalar, .scalar, .scalar, .scalar, .scalar, (.lv .nums), .any, .any, (.lv (.sh 0))] (.seq (.seq (.seq (.seq (.const 24) (.bind 19 24)) (.seq (.load 24 0 .dyn) (.load 25 24 .dyn))) (.seq (.seq (.load 24 25 .dyn) (.load 25 24 .dyn)) (.seq (.const 24) (.seq (.arith 24) (.load 24 0 .dyn))))) (.seq (.seq (.seq (.load 25 24 .dyn) (.load 24 25 .dyn)) (.seq (.load 25 24 .dyn) (.seq (.arith 24) (.arith 24)))) (.seq (.seq (.const 24) (.arith 24)) (.seq (.const 25) (.seq (.call 26 61 [24, 25]) (.store 23 .dyn 26)))))))))) (.seq (.seq (.bind 16 23) (.seq (.load 23 0 .dyn) (.load 24 23 .dyn))) (.seq (.load 23 24 .dyn) (.seq (.load 24 23 .dyn) (.load 23 0 .dyn)))))) (.seq (.seq (.seq (.seq (.load 25 23 .dyn) (.load 23 25 .dyn)) (.seq (.load 25 23 .dyn) (.seq (.ite (.const 23) (.ite (.load 23 24 .dyn) (.ite (.bind 23 24) (.bind 23 25)))) (.bind 15 23)))) (.seq (.seq (.alloc 23 .nums .dict) (.seq (.load 24 0 .dyn) (.load 25 24 .dyn))) (.seq (.load 24 25 .dyn) (.seq (.load 25 24 .dyn) (.const 24))))) (.seq (.seq (.seq (.load 24 25 .dyn) (.seq (.loop [.any, .any, .scalar, .scalar, .scalar, .scalar, .scalar, .scalar, .scalar, .scalar, .scalar, .scalar, .scalar, .scalar, .scalar, .any, (.lv .nums), (.lv .nums), .scalar, .scalar, .scalar, .scalar, .scalar, (.lv .nums), .any, .any, (.lv (.sh 0))] (.seq (.seq (.seq (.const 24) (.bind 20 24)) (.seq (.load 24 0 .dyn) (.seq (.load 25 24 .dyn) (.load 24 25 .dyn)))) (.seq (.seq (.load 25 24 .dyn) (.arith 24)) (.seq (.ite (.arith 26) (.alloc 26 (.sh 0) (.union [25, 24]))) (.seq (.const 24) (.store 23 .dyn 24)))))) (.bind 14 23))) (.seq (.alloc 23 (.sh 2) .dict) (.seq (.bind 13 23) (.load 23 0 .dyn)))) (.seq (.seq (.load 24 23 .dyn) (.seq (.load 23 24 .dyn) (.load 24 23 .dyn))) (.seq (.loop [.any, .any, (.lv (.sh 1)), (.lv .num), (.lv (.sh 0)), .any, (.lv .num), .scalar, (.lv .num), (.lv .num), .scalar, .any, .scalar, (.lv (.sh 2)), (.lv .nums), .any, (.lv .nums), (.lv .nums), .scalar, .scalar, .scalar, .any, .any, .any, .any, .any, .any, (.lv (.sh 0)), (.lv (.sh 0)), .any, .any, (.lv (.sh 0))] (.block (.seq (.seq (.const 23) (.bind 12 23)) (.seq (.load 23 24 .dyn) (.seq (.bind 11 23) (.loop [.any, .any, (.lv (.sh 1)), (.lv .num), (.lv (.sh 0)), .any, (.lv .num), .scalar, (.lv .num), (.lv .num), .scalar, .any, .scalar, (.lv (.sh 2)), (.lv .nums), .any, (.lv .nums), (.lv .nums), .scalar, .scalar, .scalar, .any, .any, .any, .any, .any, .any, (.lv (.sh 0)), (.lv (.sh 0)), .any, .any, (.lv (.sh 0))] (.block (.seq (.seq (.const 23) (.seq (.bind 10 23) (.load 23 17 .dyn))) (.seq (.seq (.bind 9 23) (.load 23 16 .dyn)) (.seq (.bind 8 23) (.loop [.any, .any, (.lv (.sh 1)), (.lv .num), (.lv (.sh 0)), .any, (.lv .num), .scalar, (.lv .num), (.lv .num), .scalar, .any, .scalar, (.lv (.sh 2)), (.lv .nums), .any, (.lv .nums), (.lv .nums), .scalar, .scalar, .scalar, .any, .any, (.lv (.sh 0)), .any, .any, .any, (.lv (.sh 0)), (.lv (.sh 0)), .any, .any, (.lv (.sh 0))] (.block (.seq (.seq (.seq (.seq (.const 23) (.bind 7 23)) (.seq (.load 23 14 .dyn) (.bind 6 23))) (.seq (.seq (.load 23 0 .dyn) (.load 25 23 .dyn)) (.seq (.ite (.bind 23 25) (.alloc 23 (.sh 0) (.union [25]))) (.bind 5 23)))) (.seq (.seq (.seq (.alloc 23 (.sh 0) .dict) (.load 25 0 .dyn)) (.seq (.load 26 25 .dyn) (.load 25 26 .dyn))) (.seq (.seq (.load 26 25 .dyn) (.loop [.any, .any, (.lv (.sh 1)), (.lv .num), (.lv (.sh 0)), .any, (.lv .num), .scalar, (.lv .num), (.lv .num), .scalar, .any, .scalar, (.lv (.sh 2)), (.lv .nums), .any, (.lv .nums), (.lv .nums), .scalar, .scalar, .scalar, .any, .any, (.lv (.sh 0)), .any, .any, .any, (.lv (.sh 0)), (.lv (.sh 0)), .any, .any, (.lv (.sh 0))] (.seq (.seq (.load 25 26 .dyn) (.seq (.bind 21 25) (.load 25 5 .dyn))) (.seq (.seq (.bind 22 25) (.arith 25)) (.seq (.const 25) (.ite .skip (.store 23 .dyn 22))))))) (.seq (.bind 4 23) (.ite (.seq (.seq (.load 23 0 .dyn) (.seq (.load 25 23 .dyn) (.const 23))) (.seq (.ite (.seq (.seq (.seq (.seq (.seq (.call 23 56 [8, 6]) (.const 25)) (.seq (.load 25 9 .dyn) (.load 26 25 .dyn))) (.seq (.seq (.load 25 9 .dyn) (.load 26 25 .dyn)) (.seq (.load 25 9 .dyn) (.seq (.load 26 25 .dyn) (.const 25))))) (.seq (.seq (.seq (.load 26 8 .dyn) (.load 27 26 .dyn)) (.seq (.load 26 8 .dyn) (.load 27 26 .dyn))) (.seq (.seq (.load 26 8 .dyn) (.load 27 26 .dyn)) (.seq (.const 26) (.seq (.load 27 23 .dyn) (.load 28 27 .dyn)))))) (.seq (.seq (.seq (.seq (.load 27 23 .dyn) (.load 28 27 .dyn)) (.seq (.load 27 23 .dyn) (.load 28 27 .dyn))) (.seq (.seq (.const 27) (.const 28)) (.seq (.arith 28) (.seq (.ite (.bind 28 4) (.seq (.alloc 29 (.sh 0) .dict) (.bind 28 29))) (.const 29))))) (.seq (.seq (.seq (.arith 29) (.ite (.bind 29 11) (.seq (.seq (.alloc 30 (.sh 0) (.lit [])) (.call 31 45 [])) (.seq (.merge 30 31) (.bind 29 30))))) (.seq (.call 30 17 [9, 8, 23, 11, 4]) (.alloc 23 (.sh 0) (.lit [("", 25)])))) (.seq (.seq (.alloc 25 (.sh 0) (.lit [("", 26)])) (.alloc 26 (.sh 0) (.lit [("", 27)]))) (.seq (.alloc 27 (.sh 0) (.lit [("", 29)])) (.seq (.alloc 29 (.sh 1) (.lit [("", 23), ("", 25), ("", 26), ("", 28), ("", 27)])) (.bind 2 29))))))) (.seq (.seq (.seq (.seq (.seq (.const 23) (.ite (.seq (.seq (.const 23) (.seq (.arith 23) (.const 25))) (.seq (.alloc 26 .nums (.lit [("", 23), ("", 25)])) (.seq (.call 23 65 [9, 26]) (.bind 25 23)))) (.seq (.seq (.const 23) (.arith 23)) (.seq (.load 23 14 .dyn) (.seq (.call 26 56 [8, 23]) (.bind 25 26)))))) (.seq (.bind 3 25) (.seq (.call 23 56 [8, 6]) (.const 25)))) (.seq (.seq (.load 25 9 .dyn) (.load 26 25 .dyn)) (.seq (.load 25 9 .dyn) (.seq (.load 26 25 .dyn) (.load 25 9 .dyn))))) (.seq (.seq (.seq (.load 26 25 .dyn) (.const 25)) (.seq (.load 26 8 .dyn) (.seq (.load 27 26 .dyn) (.load 26 8 .dyn)))) (.seq (.seq (.load 27 26 .dyn) (.load 26 8 .dyn)) (.seq (.load 27 26 .dyn) (.seq (.const 26) (.load 27 23 .dyn)))))) (.seq (.seq (.seq (.seq (.load 28 27 .dyn) (.load 27 23 .dyn)) (.seq (.load 28 27 .dyn) (.seq (.load 27 23 .dyn) (.load 28 27 .dyn)))) (.seq (.seq (.const 27) (.const 28)) (.seq (.arith 28) (.seq (.ite (.bind 28 4) (.seq (.alloc 29 (.sh 0) .dict) (.bind 28 29))) (.const 29))))) (.seq (.seq (.seq (.arith 29) (.ite (.bind 29 11) (.seq (.seq (.alloc 30 (.sh 0) (.lit [])) (.call 31 45 [])) (.seq (.merge 30 31) (.bind 29 30))))) (.seq (.call 30 37 [9, 8, 23, 3, 11, 4]) (.seq (.alloc 23 (.sh 0) (.lit [("", 25)])) (.alloc 25 (.sh 0) (.lit [("", 26)]))))) (.seq (.seq (.alloc 26 (.sh 0) (.lit [("", 27)])) (.alloc 27 (.sh 0) (.lit [("", 29)]))) (.seq (.alloc 29 (.sh 0) (.lit [("", 3)])) (.seq (.alloc 30 (.sh 1) (.lit [("", 23), ("", 25), ("", 26), ("", 28), ("", 27), ("", 29)])) (.bind 2 30)))))))) (.seq (.store 13 .dyn 2) (.const 23)))) .skip))))))))))))))))) (.seq (.call 23 307 [13]) (.ret 23))))))),
  (.lv (.sh 2))⟩

/-- bermuda/io/matrix.py:14  params: tri, eval_resolution, fields, <globals> -/
def f218 : Fn := ⟨"bermuda.io.matrix:triangle_to_matrix", [0, 1, 2, 3], [],
  (.seq (.seq (.seq (.seq (.seq (.const 1) (.seq (.const 13) (.call 13 62 [0]))) (.seq (.seq (.const 13) (.ite (.seq (.const 13) (.seq (.const 13) .raise)) .skip)) (.seq (.call 13 337 [0]) (.const 13)))) (.seq (.seq (.ite (.seq (.const 13) (.seq (.const 13) .raise)) .skip) (.seq (.const 13) (.arith 13))) (.seq (.seq (.ite (.seq (.seq (.ite (.seq (.load 13 0 .dyn) (.load 14 13 .dyn)) (.call 14 326 [0])) (.const 13)) (.seq (.ite (.seq (.const 13) (.seq (.const 13) .raise)) .skip) (.seq (.ite (.seq (.load 13 0 .dyn) (.load 14 13 .dyn)) (.call 14 326 [0])) (.bind 2 14)))) .skip) (.call 13 235 [0, 1, 2])) (.seq (.bind 12 13) (.ite (.seq (.load 13 0 .dyn) (.load 14 13 .dyn)) (.call 14 339 [0])))))) (.seq (.seq (.seq (.const 13) (.seq (.load 13 14 .dyn) (.const 14))) (.seq (.seq (.load 14 2 .dyn) (.ite (.seq (.load 15 0 .dyn) (.load 16 15 .dyn)) (.call 16 344 [0]))) (.seq (.const 15) (.arith 15)))) (.seq (.seq (.load 15 16 .dyn) (.seq (.const 16) (.load 16 15 .dyn))) (.seq (.seq (.call 15 318 [0]) (.const 17)) (.seq (.arith 17) (.load 17 15 .dyn)))))) (.seq (.seq (.seq (.seq (.ite (.call 15 236 [12, 13, 14, 16, 17]) (.seq (.alloc 15 (.sh 0) .dict) (.seq (.havoc 13) (.store 15 .dyn 13)))) (.seq (.load 13 15 .dyn) (.bind 11 13))) (.seq (.seq (.load 13 15 .dyn) (.bind 11 13)) (.seq (.load 13 15 .dyn) (.bind 10 13)))) (.seq (.seq (.load 13 15 .dyn) (.seq (.bind 9 13) (.ite (.seq (.load 13 0 .dyn) (.load 14 13 .dyn)) (.call 14 339 [0])))) (.seq (.seq (.const 13) (.const 14)) (.seq (.const 15) (.arith 15))))) (.seq (.seq (.seq (.const 16) (.seq (.arith 16) (.alloc 17 .nums (.lit [("", 13), ("", 14), ("", 15), ("", 16)])))) (.seq (.seq (.bind 8 17) (.const 13)) (.seq (.arith 13) (.bind 7 13)))) (.seq (.seq (.seq (.loop [.any, .scalar, .any, .any, .any, .any, .any, (.lv .num), (.lv .nums), .any, .any, .any, (.lv (.sh 1)), .any, (.lv .num), .any, .any, .any, (.lv (.sh 0))] (.block (.seq (.seq (.load 13 0 .dyn) (.bind 6 13)) (.seq (.load 13 6 .dyn) (.loop [.any, .scalar, .any, .any, .any, .any, .any, (.lv .num), (.lv .nums), .any, .any, .any, (.lv (.sh 1)), .any, (.lv .num), .any, .any, .any, (.lv (.sh 0))] (.block (.seq (.seq (.havoc 14) (.seq (.bind 5 14) (.load 14 13 .dyn))) (.seq (.bind 4 14) (.seq (.arith 14) (.ite (.seq (.seq (.const 14) (.seq (.ite (.seq (.load 15 6 .dyn) (.load 16 15 .dyn)) (.call 16 339 [6])) (.load 15 6 .dyn))) (.seq (.seq (.load 17 15 .dyn) (.call 15 26 [6])) (.seq (.ite (.call 18 236 [12, 16, 5, 17, 15]) (.seq (.alloc 18 (.sh 0) .dict) (.seq (.havoc 15) (.store 18 .dyn 15)))) (.store 7 .dyn 14)))) .skip)))))))))) (.ite (.seq (.load 13 0 .dyn) (.load 14 13 .dyn)) (.call 14 333 [0]))) (.seq (.call 13 239 [7, 12, 14]) (.alloc 13 .nums (.lit [("", 7)])))) (.seq (.seq (.alloc 15 (.sh 2) (.lit [("", 12)])) (.alloc 16 (.sh 0) (.lit [("", 14)]))) (.seq (.alloc 14 (.sh 0) (.lit [("", 13), ("", 15), ("", 16)])) (.ret 14))))))),
  (.lv (.sh 0))⟩

/-- bermuda/io/rich_matrix.py:116  params: mat, <globals> -/
def f219 : Fn := ⟨"bermuda.io.rich_matrix:rich_matrix_to_triangle", [0, 1], [],
  (.seq (.seq (.seq (.seq (.seq (.alloc 23 .nums .dict) (.load 24 0 .dyn)) (.seq (.load 25 24 .dyn) (.seq (.load 24 25 .dyn) (.load 25 24 .dyn)))) (.seq (.seq (.const 24) (.seq (.load 24 25 .dyn) (.loop [.any, .any, .scalar, .scalar, .scalar, .scalar, .scalar, .scalar, .scalar, .scalar, .scalar, .scalar, .scalar, .scalar, .scalar, .scalar, .scalar, .scalar, .scalar, .scalar, .scalar, .scalar, .scalar, (.lv .nums), .any, .any, (.lv (.sh 0))] (.seq (.seq (.seq (.const 24) (.seq (.bind 18 24) (.load 24 0 .dyn))) (.seq (.seq (.load 25 24 .dyn) (.load 24 25 .dyn)) (.seq (.load 25 24 .dyn) (.load 24 0 .dyn)))) (.seq (.seq (.load 26 24 .dyn) (.seq (.load 24 26 .dyn) (.load 26 24 .dyn))) (.seq (.seq (.arith 24) (.ite (.arith 26) (.alloc 26 (.sh 0) (.union [25, 24])))) (.seq (.call 24 61 [26]) (.store 23 .dyn 24)))))))) (.seq (.bind 17 23) (.seq (.alloc 23 .nums .dict) (.load 24 0 .dyn))))) (.seq (.seq (.seq (.load 25 24 .dyn) (.seq (.load 24 25 .dyn) (.load 25 24 .dyn))) (.seq (.const 24) (.seq (.load 24 25 .dyn) (.loop [.any, .any, .scalar, .scalar, .scalar, .scalar, .scalar, .scalar, .scalar, .scalar, .scalar, .scalar, .scalar, .scalar, .scalar, .scalar, .scalar, (.lv .nums), .scalar, .scalar, .scalar, .scalar, .scalar, (.lv .nums), .any, .any, (.lv (.sh 0))] (.seq (.seq (.seq (.seq (.const 24) (.bind 19 24)) (.seq (.load 24 0 .dyn) (.load 25 24 .dyn))) (.seq (.seq (.load 24 25 .dyn) (.load 25 24 .dyn)) (.seq (.const 24) (.seq (.arith 24) (.load 24 0 .dyn))))) (.seq (.seq (.seq (.load 25 24 .dyn) (.load 24 25 .dyn)) (.seq (.load 25 24 .dyn) (.seq (.arith 24) (.arith 24)))) (.seq (.seq (.const 24) (.arith 24)) (.seq (.const 25) (.seq (.call 26 61 [24, 25]) (.store 23 .dyn 26)))))))))) (.seq (.seq (.bind 16 23) (.seq (.load 23 0 .dyn) (.load 24 23 .dyn))) (.seq (.load 23 24 .dyn) (.seq (.load 24 23 .dyn) (.load 23 0 .dyn)))))) (.seq (.seq (.seq (.seq (.load 25 23 .dyn) (.load 23 25 .dyn)) (.seq (.load 25 23 .dyn) (.seq (.ite (.const 23) (.ite (.load 23 24 .dyn) (.ite (.bind 23 24) (.bind 23 25)))) (.bind 15 23)))) (.seq (.seq (.alloc 23 .nums .dict) (.seq (.load 24 0 .dyn) (.load 25 24 .dyn))) (.seq (.load 24 25 .dyn) (.seq (.load 25 24 .dyn) (.const 24))))) (.seq (.seq (.seq (.load 24 25 .dyn) (.seq (.loop [.any, .any, .scalar, .scalar, .scalar, .scalar, .scalar, .scalar, .scalar, .scalar, .scalar, .scalar, .scalar, .scalar, .scalar, .any, (.lv .nums), (.lv .nums), .scalar, .scalar, .scalar, .scalar, .scalar, (.lv .nums), .any, .any, (.lv (.sh 0))] (.seq (.seq (.seq (.const 24) (.bind 20 24)) (.seq (.load 24 0 .dyn) (.seq (.load 25 24 .dyn) (.load 24 25 .dyn)))) (.seq (.seq (.load 25 24 .dyn) (.arith 24)) (.seq (.ite (.arith 26) (.alloc 26 (.sh 0) (.union [25, 24]))) (.seq (.const 24) (.store 23 .dyn 24)))))) (.bind 14 23))) (.seq (.alloc 23 (.sh 2) .dict) (.seq (.bind 13 23) (.load 23 0 .dyn)))) (.seq (.seq (.load 24 23 .dyn) (.seq (.load 23 24 .dyn) (.load 24 23 .dyn))) (.seq (.loop [.any, .any, (.lv (.sh 1)), (.lv .num), (.lv (.sh 0)), .any, (.lv .num), .scalar, (.lv .num), (.lv .num), .scalar, .any, .scalar, (.lv (.sh 2)), (.lv .nums), .any, (.lv .nums), (.lv .nums), .scalar, .scalar, .scalar, .any, .any, .any, .any, .any, .any, .any, (.lv (.sh 0)), .any, .any, (.lv (.sh 0))] (.block (.seq (.seq (.const 23) (.bind 12 23)) (.seq (.load 23 24 .dyn) (.seq (.bind 11 23) (.loop [.any, .any, (.lv (.sh 1)), (.lv .num), (.lv (.sh 0)), .any, (.lv .num), .scalar, (.lv .num), (.lv .num), .scalar, .any, .scalar, (.lv (.sh 2)), (.lv .nums), .any, (.lv .nums), (.lv .nums), .scalar, .scalar, .scalar, .any, .any, .any, .any, .any, .any, .any, (.lv (.sh 0)), .any, .any, (.lv (.sh 0))] (.block (.seq (.seq (.const 23) (.seq (.bind 10 23) (.load 23 17 .dyn))) (.seq (.seq (.bind 9 23) (.load 23 16 .dyn)) (.seq (.bind 8 23) (.loop [.any, .any, (.lv (.sh 1)), (.lv .num), (.lv (.sh 0)), .any, (.lv .num), .scalar, (.lv .num), (.lv .num), .scalar, .any, .scalar, (.lv (.sh 2)), (.lv .nums), .any, (.lv .nums), (.lv .nums), .scalar, .scalar, .scalar, .any, .any, (.lv (.sh 0)), .any, .any, .any, .any, (.lv (.sh 0)), .any, .any, (.lv (.sh 0))] (.block (.seq (.seq (.seq (.seq (.const 23) (.bind 7 23)) (.seq (.load 23 14 .dyn) (.bind 6 23))) (.seq (.seq (.load 23 0 .dyn) (.load 25 23 .dyn)) (.seq (.ite (.bind 23 25) (.alloc 23 (.sh 0) (.union [25]))) (.bind 5 23)))) (.seq (.seq (.seq (.alloc 23 (.sh 0) .dict) (.load 25 0 .dyn)) (.seq (.load 26 25 .dyn) (.load 25 26 .dyn))) (.seq (.seq (.load 26 25 .dyn) (.loop [.any, .any, (.lv (.sh 1)), (.lv .num), (.lv (.sh 0)), .any, (.lv .num), .scalar, (.lv .num), (.lv .num), .scalar, .any, .scalar, (.lv (.sh 2)), (.lv .nums), .any, (.lv .nums), (.lv .nums), .scalar, .scalar, .scalar, .any, .any, (.lv (.sh 0)), .any, .any, .any, .any, (.lv (.sh 0)), .any, .any, (.lv (.sh 0))] (.seq (.seq (.seq (.load 25 26 .dyn) (.seq (.bind 21 25) (.load 25 5 .dyn))) (.seq (.seq (.bind 22 25) (.const 25)) (.seq (.arith 25) (.const 27)))) (.seq (.seq (.const 28) (.seq (.const 29) (.alloc 30 .nums (.lit [("", 27), ("", 28), ("", 29)])))) (.seq (.seq (.const 27) (.const 27)) (.seq (.ite (.bind 28 25) (.bind 28 27)) (.ite .skip (.seq (.seq (.const 25) (.const 25)) (.seq (.ite (.seq (.load 25 22 .dyn) (.seq (.load 27 25 .dyn) (.bind 25 27))) (.bind 25 22)) (.store 23 .dyn 25)))))))))) (.seq (.bind 4 23) (.ite (.seq (.seq (.load 23 0 .dyn) (.seq (.load 25 23 .dyn) (.const 23))) (.seq (.ite (.seq (.seq (.seq (.seq (.seq (.call 23 56 [8, 6]) (.const 25)) (.seq (.load 25 9 .dyn) (.load 26 25 .dyn))) (.seq (.seq (.load 25 9 .dyn) (.load 26 25 .dyn)) (.seq (.load 25 9 .dyn) (.seq (.load 26 25 .dyn) (.const 25))))) (.seq (.seq (.seq (.load 26 8 .dyn) (.load 27 26 .dyn)) (.seq (.load 26 8 .dyn) (.load 27 26 .dyn))) (.seq (.seq (.load 26 8 .dyn) (.load 27 26 .dyn)) (.seq (.const 26) (.seq (.load 27 23 .dyn) (.load 28 27 .dyn)))))) (.seq (.seq (.seq (.seq (.load 27 23 .dyn) (.load 28 27 .dyn)) (.seq (.load 27 23 .dyn) (.load 28 27 .dyn))) (.seq (.seq (.const 27) (.const 28)) (.seq (.arith 28) (.seq (.ite (.bind 28 4) (.seq (.alloc 29 (.sh 0) .dict) (.bind 28 29))) (.const 29))))) (.seq (.seq (.seq (.arith 29) (.ite (.bind 29 11) (.seq (.seq (.alloc 30 (.sh 0) (.lit [])) (.call 31 45 [])) (.seq (.merge 30 31) (.bind 29 30))))) (.seq (.call 30 17 [9, 8, 23, 11, 4]) (.alloc 23 (.sh 0) (.lit [("", 25)])))) (.seq (.seq (.alloc 25 (.sh 0) (.lit [("", 26)])) (.alloc 26 (.sh 0) (.lit [("", 27)]))) (.seq (.alloc 27 (.sh 0) (.lit [("", 29)])) (.seq (.alloc 29 (.sh 1) (.lit [("", 23), ("", 25), ("", 26), ("", 28), ("", 27)])) (.bind 2 29))))))) (.seq (.seq (.seq (.seq (.seq (.const 23) (.ite (.seq (.seq (.const 23) (.seq (.arith 23) (.const 25))) (.seq (.alloc 26 .nums (.lit [("", 23), ("", 25)])) (.seq (.call 23 65 [9, 26]) (.bind 25 23)))) (.seq (.seq (.const 23) (.arith 23)) (.seq (.load 23 14 .dyn) (.seq (.call 26 56 [8, 23]) (.bind 25 26)))))) (.seq (.bind 3 25) (.seq (.call 23 56 [8, 6]) (.const 25)))) (.seq (.seq (.load 25 9 .dyn) (.load 26 25 .dyn)) (.seq (.load 25 9 .dyn) (.seq (.load 26 25 .dyn) (.load 25 9 .dyn))))) (.seq (.seq (.seq (.load 26 25 .dyn) (.const 25)) (.seq (.load 26 8 .dyn) (.seq (.load 27 26 .dyn) (.load 26 8 .dyn)))) (.seq (.seq (.load 27 26 .dyn) (.load 26 8 .dyn)) (.seq (.load 27 26 .dyn) (.seq (.const 26) (.load 27 23 .dyn)))))) (.seq (.seq (.seq (.seq (.load 28 27 .dyn) (.load 27 23 .dyn)) (.seq (.load 28 27 .dyn) (.seq (.load 27 23 .dyn) (.load 28 27 .dyn)))) (.seq (.seq (.const 27) (.const 28)) (.seq (.arith 28) (.seq (.ite (.bind 28 4) (.seq (.alloc 29 (.sh 0) .dict) (.bind 28 29))) (.const 29))))) (.seq (.seq (.seq (.arith 29) (.ite (.bind 29 11) (.seq (.seq (.alloc 30 (.sh 0) (.lit [])) (.call 31 45 [])) (.seq (.merge 30 31) (.bind 29 30))))) (.seq (.call 30 37 [9, 8, 23, 3, 11, 4]) (.seq (.alloc 23 (.sh 0) (.lit [("", 25)])) (.alloc 25 (.sh 0) (.lit [("", 26)]))))) (.seq (.seq (.alloc 26 (.sh 0) (.lit [("", 27)])) (.alloc 27 (.sh 0) (.lit [("", 29)]))) (.seq (.alloc 29 (.sh 0) (.lit [("", 3)])) (.seq (.alloc 30 (.sh 1) (.lit [("", 23), ("", 25), ("", 26), ("", 28), ("", 27), ("", 29)])) (.bind 2 30)))))))) (.seq (.store 13 .dyn 2) (.const 23)))) .skip))))))))))))))))) (.seq (.call 23 307 [13]) (.ret 23))))))),
  (.lv (.sh 2))⟩

def chunk2 : List Fn := [f182, f183, f184, f185, f186, f187, f188, f189, f190, f191, f192, f193, f194, f195, f196, f197, f198, f199, f200, f201, f202, f203, f204, f205, f206, f207, f208, f209, f210, f211, f212, f213, f214, f215, f216, f217, f218, f219]

/-- every function of this chunk respects the discipline (re-proved against today's source) -/
theorem chunk2_disciplined : chunk2.all (writesOnlyFresh sums) = true :=
  disciplined_of_fast (by decide +kernel)

end Bermuda.Generated.HeapIR
