-- GENERATED by harness/translate_c03ir.py from /repo -- do not edit
import Bermuda.Generated.HeapIRSums
import Bermuda.Lemmas.HeapIRFast
namespace Bermuda.Generated.HeapIR
open Bermuda.HeapIR

/-- bermuda/io/rich_matrix.py:21  params: tri, eval_resolution, fields, <globals> -/
def f220 : Fn := ⟨"bermuda.io.rich_matrix:triangle_to_rich_matrix", [0, 1, 2, 3], [],
  (.seq (.seq (.seq (.seq (.seq (.seq (.const 1) (.const 26)) (.seq (.call 26 62 [0]) (.const 26))) (.seq (.seq (.ite (.seq (.seq (.const 26) (.arith 26)) (.seq (.const 26) .raise)) .skip) (.call 26 235 [0, 1, 2])) (.seq (.bind 25 26) (.seq (.const 26) (.bind 10 26))))) (.seq (.seq (.seq (.const 26) (.arith 26)) (.seq (.ite (.seq (.seq (.ite (.seq (.load 26 0 .dyn) (.load 27 26 .dyn)) (.call 27 326 [0])) (.const 26)) (.seq (.ite (.seq (.const 26) (.seq (.const 26) .raise)) .skip) (.seq (.ite (.seq (.load 26 0 .dyn) (.load 27 26 .dyn)) (.call 27 326 [0])) (.bind 2 27)))) .skip) (.ite (.seq (.load 26 0 .dyn) (.load 27 26 .dyn)) (.call 27 339 [0])))) (.seq (.seq (.const 26) (.load 26 27 .dyn)) (.seq (.const 27) (.seq (.load 27 2 .dyn) (.ite (.seq (.load 28 0 .dyn) (.load 29 28 .dyn)) (.call 29 344 [0]))))))) (.seq (.seq (.seq (.seq (.const 28) (.arith 28)) (.seq (.load 28 29 .dyn) (.const 29))) (.seq (.seq (.load 29 28 .dyn) (.call 28 318 [0])) (.seq (.const 30) (.seq (.arith 30) (.load 30 28 .dyn))))) (.seq (.seq (.seq (.ite (.call 28 236 [25, 26, 27, 29, 30]) (.seq (.alloc 28 (.sh 0) .dict) (.seq (.havoc 26) (.store 28 .dyn 26)))) (.load 26 28 .dyn)) (.seq (.bind 13 26) (.seq (.load 26 28 .dyn) (.bind 13 26)))) (.seq (.seq (.load 26 28 .dyn) (.bind 24 26)) (.seq (.load 26 28 .dyn) (.seq (.bind 23 26) (.ite (.seq (.load 26 0 .dyn) (.load 27 26 .dyn)) (.call 27 339 [0])))))))) (.seq (.seq (.seq (.seq (.seq (.const 26) (.const 27)) (.seq (.const 28) (.arith 28))) (.seq (.seq (.const 29) (.arith 29)) (.seq (.alloc 30 .nums (.lit [("", 26), ("", 27), ("", 28), ("", 29)])) (.seq (.bind 22 30) (.ite (.seq (.load 26 0 .dyn) (.load 27 26 .dyn)) (.call 27 339 [0])))))) (.seq (.seq (.seq (.const 26) (.const 27)) (.seq (.arith 27) (.seq (.const 28) (.arith 28)))) (.seq (.seq (.alloc 29 .nums (.lit [("", 26), ("", 27), ("", 28)])) (.bind 21 29)) (.seq (.const 26) (.seq (.const 26) (.arith 26)))))) (.seq (.seq (.seq (.seq (.bind 20 26) (.const 26)) (.seq (.arith 26) (.bind 19 26))) (.seq (.seq (.loop [.any, .scalar, .any, .any, .scalar, .any, .any, .scalar, .any, .scalar, (.lv .num), (.lv (.sh 1)), .any, .any, .any, .any, .any, .any, .any, (.lv .num), (.lv .num), (.lv .nums), (.lv .nums), .any, .any, (.lv (.sh 1)), .any, (.lv (.sh 0)), .any, .any, .any] (.block (.seq (.seq (.load 26 0 .dyn) (.bind 18 26)) (.seq (.load 26 18 .dyn) (.loop [.any, .scalar, .any, .any, .scalar, .any, .any, .scalar, .any, .scalar, (.lv .num), (.lv (.sh 1)), .any, .any, .any, .any, .any, .any, .any, (.lv .num), (.lv .num), (.lv .nums), (.lv .nums), .any, .any, (.lv (.sh 1)), .any, (.lv (.sh 0)), .any, .any, .any] (.block (.seq (.seq (.havoc 27) (.seq (.bind 17 27) (.load 27 26 .dyn))) (.seq (.bind 16 27) (.seq (.arith 27) (.ite (.seq (.seq (.seq (.seq (.seq (.ite (.seq (.load 27 18 .dyn) (.load 28 27 .dyn)) (.call 28 339 [18])) (.load 27 18 .dyn)) (.seq (.load 29 27 .dyn) (.call 27 26 [18]))) (.seq (.seq (.ite (.call 30 236 [25, 28, 17, 29, 27]) (.seq (.alloc 30 (.sh 0) .dict) (.seq (.havoc 27) (.store 30 .dyn 27)))) (.load 27 30 .dyn)) (.seq (.bind 8 27) (.seq (.load 27 30 .dyn) (.bind 5 27))))) (.seq (.seq (.seq (.load 27 30 .dyn) (.bind 15 27)) (.seq (.load 27 30 .dyn) (.bind 6 27))) (.seq (.seq (.ite (.seq (.load 27 18 .dyn) (.load 28 27 .dyn)) (.call 28 339 [18])) (.load 27 18 .dyn)) (.seq (.load 29 27 .dyn) (.seq (.call 27 26 [18]) (.ite (.call 30 236 [25, 28, 17, 29, 27]) (.seq (.alloc 30 (.sh 0) .dict) (.seq (.havoc 27) (.store 30 .dyn 27))))))))) (.seq (.seq (.seq (.seq (.load 27 30 .dyn) (.bind 13 27)) (.seq (.load 27 30 .dyn) (.bind 13 27))) (.seq (.seq (.load 27 30 .dyn) (.bind 14 27)) (.seq (.load 27 30 .dyn) (.seq (.bind 13 27) (.const 27))))) (.seq (.seq (.seq (.arith 27) (.const 27)) (.seq (.arith 27) (.loop [.any, .scalar, .any, .any, .scalar, .any, .any, .scalar, .any, .scalar, (.lv .num), (.lv (.sh 1)), .any, .any, .any, .any, .any, .any, .any, (.lv .num), (.lv .num), (.lv .nums), (.lv .nums), .any, .any, (.lv (.sh 1)), .any, (.lv .num), .any, .any, (.lv (.sh 0))] (.block (.seq (.seq (.const 27) (.seq (.bind 9 27) (.const 27))) (.seq (.seq (.bind 7 27) (.const 27)) (.seq (.ite (.arith 28) (.alloc 28 (.sh 0) (.union [6, 9]))) (.store 19 .dyn 27)))))))) (.seq (.seq (.const 27) (.const 27)) (.seq (.ite (.seq (.seq (.load 27 16 .dyn) (.seq (.load 28 27 .dyn) (.const 27))) (.seq (.arith 27) (.seq (.ite (.seq (.const 27) (.bind 28 27)) (.seq (.alloc 27 (.sh 0) (.lit [("", 16)])) (.seq (.alloc 29 (.sh 1) (.lit [("", 27)])) (.bind 28 29)))) (.bind 12 28)))) (.bind 12 16)) (.seq (.arith 27) (.ite (.store 20 .dyn 12) (.seq (.seq (.seq (.const 27) (.const 27)) (.seq (.ite (.seq (.seq (.load 27 12 .dyn) (.seq (.load 28 27 .dyn) (.alloc 27 (.sh 0) (.lit [("", 10)])))) (.seq (.alloc 29 (.sh 0) (.lit [("", 28)])) (.seq (.alloc 28 (.sh 1) (.lit [("", 27), ("", 29)])) (.bind 27 28)))) (.seq (.seq (.alloc 28 (.sh 0) (.lit [("", 10)])) (.alloc 29 (.sh 0) (.lit [("", 12)]))) (.seq (.alloc 30 (.sh 1) (.lit [("", 28), ("", 29)])) (.bind 27 30)))) (.seq (.bind 11 27) (.const 27)))) (.seq (.seq (.aug 10 27) (.seq (.const 27) (.arith 27))) (.seq (.const 27) (.seq (.arith 27) (.loop [.any, .scalar, .any, .any, .scalar, .any, .any, .scalar, .any, .scalar, (.lv .num), (.lv (.sh 1)), .any, .any, .any, .any, .any, .any, .any, (.lv .num), (.lv .num), (.lv .nums), (.lv .nums), .any, .any, (.lv (.sh 1)), .any, (.lv (.sh 0)), .any, (.lv (.sh 0)), .any] (.block (.seq (.seq (.const 27) (.seq (.bind 9 27) (.const 27))) (.seq (.bind 7 27) (.seq (.ite (.arith 27) (.alloc 27 (.sh 0) (.union [6, 9]))) (.store 20 .dyn 11))))))))))))))))) .skip)))))))))) (.const 26)) (.seq (.bind 4 26) (.seq (.load 26 20 .dyn) (.load 27 26 .dyn))))) (.seq (.seq (.seq (.const 26) (.load 26 27 .dyn)) (.seq (.loop [.any, .scalar, .any, .any, (.lv .num), .any, .any, .scalar, .any, .scalar, (.lv .num), (.lv (.sh 1)), .any, .any, .any, .any, .any, .any, .any, (.lv .num), (.lv .num), (.lv .nums), (.lv .nums), .any, .any, (.lv (.sh 1)), (.lv .num), (.lv (.sh 2)), .any, .any, .any] (.block (.seq (.seq (.const 26) (.seq (.bind 8 26) (.load 26 20 .dyn))) (.seq (.seq (.load 27 26 .dyn) (.const 26)) (.seq (.load 26 27 .dyn) (.loop [.any, .scalar, .any, .any, (.lv .num), .any, .any, .scalar, .scalar, .scalar, (.lv .num), (.lv (.sh 1)), .any, .any, .any, .any, .any, .any, .any, (.lv .num), (.lv .num), (.lv .nums), (.lv .nums), .any, .any, (.lv (.sh 1)), (.lv .num), (.lv (.sh 2)), .any, .any, .any] (.block (.seq (.seq (.const 26) (.seq (.bind 7 26) (.load 26 20 .dyn))) (.seq (.seq (.load 27 26 .dyn) (.const 26)) (.seq (.load 26 27 .dyn) (.loop [.any, .scalar, .any, .any, (.lv .num), .any, .any, .scalar, .scalar, .scalar, (.lv .num), (.lv (.sh 1)), .any, .any, .any, .any, .any, .any, .any, (.lv .num), (.lv .num), (.lv .nums), (.lv .nums), .any, .any, (.lv (.sh 1)), (.lv .num), (.lv (.sh 2)), .any, .any, .any] (.block (.seq (.seq (.const 26) (.bind 6 26)) (.seq (.load 26 19 .dyn) (.ite (.seq (.seq (.load 26 20 .dyn) (.load 27 26 .dyn)) (.seq (.const 26) (.seq (.load 26 27 .dyn) (.loop [.any, .scalar, .any, .any, (.lv .num), .any, .scalar, .scalar, .scalar, .scalar, (.lv .num), (.lv (.sh 1)), .any, .any, .any, .any, .any, .any, .any, (.lv .num), (.lv .num), (.lv .nums), (.lv .nums), .any, .any, (.lv (.sh 1)), (.lv .num), (.lv (.sh 2)), .any, .any, .any] (.block (.seq (.seq (.const 26) (.seq (.bind 5 26) (.load 26 20 .dyn))) (.seq (.const 26) (.seq (.arith 26) (.ite (.seq (.seq (.alloc 26 (.sh 1) (.lit [("", 4)])) (.alloc 27 (.sh 2) (.lit [("", 26)]))) (.seq (.store 20 .dyn 27) (.seq (.const 26) (.aug 4 26)))) .skip))))))))) .skip))))))))))))))) (.seq (.ite (.seq (.load 26 0 .dyn) (.load 27 26 .dyn)) (.call 27 333 [0])) (.call 26 239 [20, 25, 27])))) (.seq (.seq (.alloc 26 .nums (.lit [("", 20)])) (.alloc 28 (.sh 2) (.lit [("", 25)]))) (.seq (.alloc 29 (.sh 0) (.lit [("", 27)])) (.seq (.alloc 27 (.sh 0) (.lit [("", 26), ("", 28), ("", 29)])) (.ret 27)))))))),
  (.lv (.sh 0))⟩

/-- bermuda/matrix/index.py:36  params: self, <globals> -/
def f221 : Fn := ⟨"bermuda.matrix.index:MatrixIndex.<lambda@36:22>", [0, 1], [],
  (.seq (.load 2 0 .dyn) (.seq (.load 3 2 .dyn) (.ret 3))),
  .any⟩

/-- bermuda/matrix/index.py:37  params: self, <globals> -/
def f222 : Fn := ⟨"bermuda.matrix.index:MatrixIndex.<lambda@37:28>", [0, 1], [],
  (.seq (.load 2 0 .dyn) (.seq (.load 3 2 .dyn) (.ret 3))),
  .any⟩

/-- bermuda/matrix/index.py:38  params: self, <globals> -/
def f223 : Fn := ⟨"bermuda.matrix.index:MatrixIndex.<lambda@38:22>", [0, 1], [],
  (.seq (.load 2 0 .dyn) (.seq (.load 3 2 .dyn) (.ret 3))),
  .any⟩

/-- bermuda/matrix/index.py:39  params: self, <globals> -/
def f224 : Fn := ⟨"bermuda.matrix.index:MatrixIndex.<lambda@39:28>", [0, 1], [],
  (.seq (.load 2 0 .dyn) (.seq (.load 3 2 .dyn) (.ret 3))),
  .any⟩

/-- bermuda/matrix/index.py:40  params: self, <globals> -/
def f225 : Fn := ⟨"bermuda.matrix.index:MatrixIndex.<lambda@40:26>", [0, 1], [],
  (.seq (.load 2 0 .dyn) (.seq (.load 3 2 .dyn) (.ret 3))),
  .any⟩

/-- bermuda/matrix/index.py:41  params: self, <globals> -/
def f226 : Fn := ⟨"bermuda.matrix.index:MatrixIndex.<lambda@41:30>", [0, 1], [],
  (.seq (.load 2 0 .dyn) (.seq (.load 3 2 .dyn) (.ret 3))),
  .any⟩

/-- bermuda/matrix/index.py:42  params: self, <globals> -/
def f227 : Fn := ⟨"bermuda.matrix.index:MatrixIndex.<lambda@42:26>", [0, 1], [],
  (.seq (.load 2 0 .dyn) (.seq (.load 3 2 .dyn) (.ret 3))),
  .any⟩

/-- bermuda/matrix/index.py:43  params: self, <globals> -/
def f228 : Fn := ⟨"bermuda.matrix.index:MatrixIndex.<lambda@43:30>", [0, 1], [],
  (.seq (.load 2 0 .dyn) (.seq (.load 3 2 .dyn) (.ret 3))),
  .any⟩

/-- bermuda/matrix/index.py:18  params: slices, fields, exp_origin, dev_origin, exp_resolution, dev_resolution, <globals> -/
def f229 : Fn := ⟨"bermuda.matrix.index:MatrixIndex.__init__", [1, 2, 3, 4, 5, 6, 7], [],
  (.seq (.seq (.seq (.seq (.const 3) (.seq (.const 4) (.const 5))) (.seq (.seq (.const 6) (.alloc 0 (.sh 1) .dict)) (.seq (.alloc 12 (.sh 0) (.lit [("", 1)])) (.store 0 .dyn 12)))) (.seq (.seq (.seq (.alloc 12 .nums .dict) (.load 13 0 .dyn)) (.seq (.load 14 13 .dyn) (.loop [(.lv (.sh 1)), .any, .any, .scalar, .scalar, .scalar, .scalar, .any, .scalar, .any, .scalar, .scalar, (.lv .nums), .any, .any] (.seq (.seq (.const 13) (.bind 8 13)) (.seq (.load 13 14 .dyn) (.seq (.bind 9 13) (.store 12 .dyn 8))))))) (.seq (.seq (.alloc 13 (.sh 0) (.lit [("", 12)])) (.store 0 .dyn 13)) (.seq (.alloc 12 (.sh 0) (.lit [("", 2)])) (.store 0 .dyn 12))))) (.seq (.seq (.seq (.alloc 12 .nums .dict) (.seq (.load 13 0 .dyn) (.load 14 13 .dyn))) (.seq (.seq (.loop [(.lv (.sh 1)), .any, .any, .scalar, .scalar, .scalar, .scalar, .any, .scalar, .any, .scalar, .any, (.lv .nums), .any, .any] (.seq (.seq (.const 13) (.bind 10 13)) (.seq (.load 13 14 .dyn) (.seq (.bind 11 13) (.store 12 .dyn 10))))) (.alloc 13 (.sh 0) (.lit [("", 12)]))) (.seq (.store 0 .dyn 13) (.alloc 12 (.sh 0) (.lit [("", 3)]))))) (.seq (.seq (.seq (.store 0 .dyn 12) (.alloc 12 (.sh 0) (.lit [("", 5)]))) (.seq (.store 0 .dyn 12) (.alloc 12 (.sh 0) (.lit [("", 4)])))) (.seq (.seq (.store 0 .dyn 12) (.alloc 12 (.sh 0) (.lit [("", 6)]))) (.seq (.store 0 .dyn 12) (.ret 0)))))),
  (.lv (.sh 1))⟩

/-- bermuda/matrix/index.py:183  params: self, arg, <globals> -/
def f230 : Fn := ⟨"bermuda.matrix.index:MatrixIndex._resolve_dev_ndx", [0, 1, 2], [],
  (.seq (.const 5) (.seq (.arith 5) (.ite (.seq (.const 5) (.ret 5)) (.seq (.const 5) (.seq (.const 5) (.ite (.seq (.seq (.seq (.seq (.load 5 0 .dyn) (.load 6 5 .dyn)) (.seq (.load 5 0 .dyn) (.load 7 5 .dyn))) (.seq (.seq (.ite (.const 5) (.ite (.load 5 6 .dyn) (.ite (.bind 5 6) (.bind 5 7)))) (.bind 4 5)) (.seq (.load 5 0 .dyn) (.load 6 5 .dyn)))) (.seq (.seq (.seq (.arith 5) (.arith 5)) (.seq (.const 5) (.bind 3 5))) (.seq (.seq (.const 5) (.arith 5)) (.seq (.ite (.seq (.const 5) (.seq (.const 5) .raise)) .skip) (.ret 3))))) (.seq (.const 5) (.seq (.const 5) (.ite (.seq (.seq (.const 5) (.arith 5)) (.seq (.ite (.seq (.const 5) (.seq (.const 5) .raise)) .skip) (.seq (.const 5) (.ret 5)))) (.seq (.seq (.load 5 1 .dyn) (.seq (.load 6 5 .dyn) (.load 5 6 .dyn))) (.seq (.seq (.load 6 5 .dyn) (.const 5)) (.seq (.const 5) .raise)))))))))))),
  .scalar⟩

/-- bermuda/matrix/index.py:165  params: self, arg, <globals> -/
def f231 : Fn := ⟨"bermuda.matrix.index:MatrixIndex._resolve_exp_ndx", [0, 1, 2], [],
  (.seq (.const 5) (.seq (.arith 5) (.ite (.seq (.const 5) (.ret 5)) (.seq (.const 5) (.seq (.const 5) (.ite (.seq (.seq (.const 5) (.arith 5)) (.seq (.ite (.seq (.const 5) (.seq (.const 5) .raise)) .skip) (.seq (.const 5) (.ret 5)))) (.seq (.const 5) (.seq (.const 5) (.ite (.seq (.seq (.seq (.call 5 63 [1]) (.seq (.bind 4 5) (.load 5 0 .dyn))) (.seq (.load 6 5 .dyn) (.seq (.arith 5) (.load 5 0 .dyn)))) (.seq (.seq (.load 6 5 .dyn) (.seq (.arith 5) (.bind 3 5))) (.seq (.seq (.const 5) (.arith 5)) (.seq (.ite (.seq (.const 5) (.seq (.const 5) .raise)) .skip) (.ret 3))))) (.seq (.seq (.load 5 1 .dyn) (.seq (.load 6 5 .dyn) (.load 5 6 .dyn))) (.seq (.seq (.load 6 5 .dyn) (.const 5)) (.seq (.const 5) .raise)))))))))))),
  (.lv .num)⟩

/-- bermuda/matrix/index.py:153  params: self, arg, <globals> -/
def f232 : Fn := ⟨"bermuda.matrix.index:MatrixIndex._resolve_field_ndx", [0, 1, 2], [],
  (.seq (.const 3) (.seq (.arith 3) (.ite (.seq (.const 3) (.ret 3)) (.seq (.const 3) (.seq (.const 3) (.ite (.seq (.seq (.const 3) (.arith 3)) (.seq (.ite (.seq (.const 3) (.seq (.const 3) .raise)) .skip) (.seq (.const 3) (.ret 3)))) (.seq (.const 3) (.seq (.const 3) (.ite (.seq (.seq (.load 3 0 .dyn) (.load 4 3 .dyn)) (.seq (.load 3 4 .dyn) (.ret 3))) (.seq (.seq (.load 3 1 .dyn) (.seq (.load 4 3 .dyn) (.load 3 4 .dyn))) (.seq (.seq (.load 4 3 .dyn) (.const 3)) (.seq (.const 3) .raise)))))))))))),
  .any⟩

/-- bermuda/matrix/index.py:128  params: arg, ndx_fn, allow_iterable, <globals> -/
def f233 : Fn := ⟨"bermuda.matrix.index:MatrixIndex._resolve_index", [0, 1, 2, 3], [],
  (.seq (.seq (.const 5) (.const 6)) (.seq (.alloc 7 .nums (.lit [("", 5), ("", 6)])) (.seq (.const 5) (.ite (.ite (.seq (.alloc 5 (.sh 0) .dict) (.seq (.loop [.any, .any, .any, .any, .any, (.lv (.sh 0)), .any, (.lv .nums)] (.seq (.seq (.load 6 0 .dyn) (.bind 4 6)) (.seq (.havoc 6) (.store 5 .dyn 6)))) (.ret 5))) (.seq (.const 5) (.seq (.const 5) .raise))) (.seq (.const 5) (.seq (.const 5) (.ite (.seq (.seq (.seq (.load 5 0 .dyn) (.load 6 5 .dyn)) (.seq (.havoc 5) (.seq (.load 5 0 .dyn) (.load 6 5 .dyn)))) (.seq (.seq (.havoc 5) (.load 5 0 .dyn)) (.seq (.load 6 5 .dyn) (.seq (.const 5) (.ret 5))))) (.seq (.havoc 5) (.ret 5))))))))),
  .any⟩

/-- bermuda/matrix/index.py:141  params: self, arg, <globals> -/
def f234 : Fn := ⟨"bermuda.matrix.index:MatrixIndex._resolve_slice_ndx", [0, 1, 2], [],
  (.seq (.seq (.const 3) (.seq (.arith 3) (.ite (.seq (.const 3) (.ret 3)) .skip))) (.seq (.const 3) (.seq (.const 3) (.ite (.seq (.seq (.const 3) (.arith 3)) (.seq (.ite (.seq (.const 3) (.seq (.const 3) .raise)) .skip) (.seq (.const 3) (.ret 3)))) (.seq (.const 3) (.seq (.const 3) (.ite (.seq (.seq (.load 3 0 .dyn) (.load 4 3 .dyn)) (.seq (.load 3 4 .dyn) (.ret 3))) (.seq (.seq (.load 3 1 .dyn) (.seq (.load 4 3 .dyn) (.load 3 4 .dyn))) (.seq (.seq (.load 4 3 .dyn) (.const 3)) (.seq (.const 3) .raise)))))))))),
  .any⟩

/-- bermuda/matrix/index.py:46  params: cls, tri, eval_resolution, fields, <globals> -/
def f235 : Fn := ⟨"bermuda.matrix.index:MatrixIndex.from_triangle", [0, 1, 2, 3, 4], [],
  (.seq (.seq (.seq (.seq (.seq (.const 2) (.alloc 17 (.sh 0) .dict)) (.seq (.ite (.seq (.load 18 1 .dyn) (.load 19 18 .dyn)) (.call 19 344 [1])) (.seq (.loop [.any, .any, .scalar, .any, .any, .scalar, .scalar, .scalar, .scalar, .scalar, .any, .any, .scalar, .scalar, .scalar, .scalar, .scalar, (.lv (.sh 0)), .any, .any, .any] (.seq (.seq (.load 18 19 .dyn) (.seq (.load 20 18 .dyn) (.bind 10 20))) (.seq (.load 20 18 .dyn) (.seq (.bind 11 20) (.store 17 .dyn 10))))) (.ite (.const 18) (.ite (.load 18 17 .dyn) (.bind 18 17)))))) (.seq (.seq (.call 17 63 [18]) (.bind 9 17)) (.seq (.call 17 64 [1]) (.seq (.bind 8 17) (.alloc 17 .nums .dict))))) (.seq (.seq (.seq (.call 18 318 [1]) (.loop [.any, .any, .scalar, .any, .any, .scalar, .scalar, .scalar, .any, (.lv .num), .any, .any, (.lv .num), .scalar, .scalar, .scalar, .scalar, (.lv .nums), (.lv .nums), .any, .any] (.seq (.seq (.load 19 18 .dyn) (.bind 12 19)) (.seq (.const 19) (.store 17 .dyn 19))))) (.seq (.bind 7 17) (.seq (.ite (.const 17) (.ite (.load 17 7 .dyn) (.bind 17 7))) (.bind 6 17)))) (.seq (.seq (.call 17 60 [1]) (.seq (.bind 5 17) (.const 17))) (.seq (.ite (.seq (.seq (.ite (.seq (.load 17 1 .dyn) (.load 18 17 .dyn)) (.call 18 326 [1])) (.bind 3 18)) (.seq (.const 17) (.ite (.seq (.const 17) (.seq (.const 17) .raise)) .skip))) .skip) (.seq (.const 17) (.ite (.seq (.const 17) (.seq (.ite (.seq (.const 17) (.seq (.const 17) .raise)) .skip) (.bind 2 5))) (.seq (.arith 17) (.seq (.ite (.bind 18 5) (.bind 18 17)) (.ite (.seq (.const 17) (.const 17)) .skip))))))))) (.seq (.seq (.seq (.seq (.ite (.seq (.load 17 1 .dyn) (.load 18 17 .dyn)) (.call 18 339 [1])) (.alloc 17 .nums .dict)) (.seq (.const 19) (.seq (.load 20 19 .dyn) (.load 19 20 .dyn)))) (.seq (.seq (.loop [.any, .any, .any, .any, .any, .any, (.lv .nums), (.lv .nums), .any, (.lv .num), .any, .any, (.lv .num), .scalar, .scalar, .scalar, .scalar, (.lv .nums), .any] (.seq (.seq (.const 20) (.bind 13 20)) (.seq (.load 20 19 .dyn) (.seq (.bind 14 20) (.store 17 .dyn 13))))) (.seq (.alloc 19 .nums .dict) (.const 20))) (.seq (.load 21 20 .dyn) (.seq (.load 20 21 .dyn) (.loop [.any, .any, .any, .any, .any, .any, (.lv .nums), (.lv .nums), .any, (.lv .num), .any, .any, (.lv .num), .scalar, .scalar, .scalar, .scalar, (.lv .nums), .any, (.lv .nums)] (.seq (.seq (.const 21) (.bind 15 21)) (.seq (.load 21 20 .dyn) (.seq (.bind 16 21) (.store 19 .dyn 15))))))))) (.seq (.seq (.seq (.call 20 229 [18, 3, 9, 8, 6, 2]) (.alloc 20 (.sh 0) (.lit [("", 18)]))) (.seq (.alloc 18 (.sh 0) (.lit [("", 17)])) (.seq (.alloc 17 (.sh 0) (.lit [("", 3)])) (.alloc 21 (.sh 0) (.lit [("", 19)]))))) (.seq (.seq (.alloc 19 (.sh 0) (.lit [("", 9)])) (.seq (.alloc 22 (.sh 0) (.lit [("", 8)])) (.alloc 23 (.sh 0) (.lit [("", 6)])))) (.seq (.alloc 24 (.sh 0) (.lit [("", 2)])) (.seq (.alloc 25 (.sh 1) (.lit [("", 20), ("", 18), ("", 17), ("", 21), ("", 19), ("", 22), ("", 23), ("", 24)])) (.ret 25))))))),
  (.lv (.sh 1))⟩

/-- bermuda/matrix/index.py:116  params: self, args, <globals> -/
def f236 : Fn := ⟨"bermuda.matrix.index:MatrixIndex.resolve_indices", [0, 1, 2], [],
  (.seq (.seq (.seq (.seq (.const 7) (.seq (.const 7) (.arith 7))) (.seq (.seq (.ite (.seq (.const 7) (.seq (.const 7) .raise)) .skip) (.load 7 1 .dyn)) (.seq (.bind 6 7) (.load 7 1 .dyn)))) (.seq (.seq (.bind 5 7) (.seq (.load 7 1 .dyn) (.bind 4 7))) (.seq (.seq (.load 7 1 .dyn) (.bind 3 7)) (.seq (.load 7 0 .dyn) (.load 8 7 .dyn))))) (.seq (.seq (.seq (.call 7 233 [6, 8]) (.seq (.load 8 0 .dyn) (.load 9 8 .dyn))) (.seq (.seq (.call 8 233 [5, 9]) (.load 9 0 .dyn)) (.seq (.load 10 9 .dyn) (.const 9)))) (.seq (.seq (.call 11 233 [4, 10, 9]) (.seq (.load 9 0 .dyn) (.load 10 9 .dyn))) (.seq (.seq (.const 9) (.call 12 233 [3, 10, 9])) (.seq (.alloc 9 (.sh 0) (.lit [("", 7), ("", 8), ("", 11), ("", 12)])) (.ret 9)))))),
  (.lv (.sh 0))⟩

/-- bermuda/matrix/index.py:85  params: self, shape, args, <globals> -/
def f237 : Fn := ⟨"bermuda.matrix.index:MatrixIndex.subset", [0, 1, 2, 3], [],
  (.seq (.seq (.seq (.seq (.seq (.seq (.const 19) (.const 19)) (.seq (.arith 19) (.ite (.seq (.const 19) (.seq (.const 19) .raise)) .skip))) (.seq (.seq (.load 19 2 .dyn) (.bind 10 19)) (.seq (.load 19 2 .dyn) (.seq (.bind 9 19) (.load 19 2 .dyn))))) (.seq (.seq (.seq (.bind 12 19) (.load 19 2 .dyn)) (.seq (.bind 11 19) (.seq (.const 19) (.const 19)))) (.seq (.seq (.ite (.seq (.alloc 19 (.sh 0) (.lit [("", 10)])) (.bind 20 19)) (.bind 20 10)) (.bind 10 20)) (.seq (.const 19) (.seq (.const 19) (.ite (.seq (.alloc 19 (.sh 0) (.lit [("", 9)])) (.bind 20 19)) (.bind 20 9))))))) (.seq (.seq (.seq (.seq (.bind 9 20) (.const 19)) (.seq (.const 19) (.seq (.ite (.seq (.seq (.load 19 12 .dyn) (.seq (.load 20 19 .dyn) (.const 19))) (.seq (.arith 19) (.seq (.ite (.seq (.const 19) (.bind 20 19)) (.seq (.load 19 12 .dyn) (.seq (.load 21 19 .dyn) (.bind 20 21)))) (.bind 5 20)))) (.bind 5 12)) (.const 19)))) (.seq (.seq (.const 19) (.ite (.seq (.seq (.load 19 11 .dyn) (.seq (.load 20 19 .dyn) (.const 19))) (.seq (.arith 19) (.seq (.ite (.seq (.const 19) (.bind 20 19)) (.seq (.load 19 11 .dyn) (.seq (.load 21 19 .dyn) (.bind 20 21)))) (.bind 4 20)))) (.bind 4 11))) (.seq (.load 19 1 .dyn) (.seq (.bind 8 19) (.load 19 1 .dyn))))) (.seq (.seq (.seq (.bind 8 19) (.load 19 1 .dyn)) (.seq (.bind 7 19) (.seq (.load 19 1 .dyn) (.bind 6 19)))) (.seq (.seq (.const 19) (.arith 19)) (.seq (.ite (.seq (.arith 19) (.bind 5 19)) .skip) (.seq (.const 19) (.arith 19))))))) (.seq (.seq (.seq (.seq (.seq (.ite (.seq (.arith 19) (.bind 4 19)) .skip) (.alloc 19 (.sh 0) .dict)) (.seq (.loop [.any, .any, .any, .any, .any, .any, .any, .any, .any, .any, .any, .any, .any, .any, .scalar, .scalar, .scalar, .scalar, .scalar, (.lv (.sh 0)), .any, .any] (.seq (.seq (.load 20 10 .dyn) (.seq (.bind 13 20) (.load 20 0 .dyn))) (.seq (.load 21 20 .dyn) (.seq (.load 20 21 .dyn) (.store 19 .dyn 20))))) (.seq (.alloc 20 (.sh 0) .dict) (.loop [.any, .any, .any, .any, .any, .any, .any, .any, .any, .any, .any, .any, .any, .any, .any, .scalar, .scalar, .scalar, .scalar, (.lv (.sh 0)), (.lv (.sh 0)), .any, .any] (.seq (.seq (.load 21 9 .dyn) (.seq (.bind 14 21) (.load 21 0 .dyn))) (.seq (.load 22 21 .dyn) (.seq (.load 21 22 .dyn) (.store 20 .dyn 21)))))))) (.seq (.seq (.load 21 0 .dyn) (.load 22 21 .dyn)) (.seq (.load 21 0 .dyn) (.seq (.load 23 21 .dyn) (.arith 21))))) (.seq (.seq (.seq (.ite (.arith 23) (.alloc 23 (.sh 0) (.union [22, 21]))) (.load 21 0 .dyn)) (.seq (.load 22 21 .dyn) (.seq (.load 21 0 .dyn) (.load 24 21 .dyn)))) (.seq (.seq (.load 21 0 .dyn) (.load 25 21 .dyn)) (.seq (.arith 21) (.seq (.ite (.arith 25) (.alloc 25 (.sh 0) (.union [24, 21]))) (.load 21 0 .dyn)))))) (.seq (.seq (.seq (.seq (.load 24 21 .dyn) (.alloc 21 (.sh 1) .dict)) (.seq (.load 26 0 .dyn) (.seq (.load 27 26 .dyn) (.loop [.any, .any, .any, .any, .any, .any, .any, .any, .any, .any, .any, .any, .any, .any, .any, .scalar, .any, .scalar, .scalar, (.lv (.sh 0)), (.lv (.sh 0)), (.lv (.sh 1)), .any, (.lv (.sh 0)), .any, (.lv (.sh 0)), .any, .any] (.seq (.seq (.const 26) (.bind 15 26)) (.seq (.load 26 27 .dyn) (.seq (.bind 16 26) (.store 21 .dyn 15)))))))) (.seq (.seq (.alloc 26 (.sh 1) .dict) (.load 27 0 .dyn)) (.seq (.load 28 27 .dyn) (.seq (.loop [.any, .any, .any, .any, .any, .any, .any, .any, .any, .any, .any, .any, .any, .any, .any, .scalar, .any, .scalar, .any, (.lv (.sh 0)), (.lv (.sh 0)), (.lv (.sh 1)), .any, (.lv (.sh 0)), .any, (.lv (.sh 0)), (.lv (.sh 1)), .any, .any] (.seq (.seq (.const 27) (.bind 17 27)) (.seq (.load 27 28 .dyn) (.seq (.bind 18 27) (.store 26 .dyn 17))))) (.call 27 229 [19, 20, 23, 22, 25, 24]))))) (.seq (.seq (.seq (.alloc 27 (.sh 1) (.lit [("", 19)])) (.alloc 19 (.sh 2) (.lit [("", 21)]))) (.seq (.alloc 21 (.sh 1) (.lit [("", 20)])) (.seq (.alloc 20 (.sh 2) (.lit [("", 26)])) (.alloc 26 (.sh 1) (.lit [("", 23)]))))) (.seq (.seq (.alloc 23 (.sh 0) (.lit [("", 22)])) (.alloc 22 (.sh 1) (.lit [("", 25)]))) (.seq (.alloc 25 (.sh 0) (.lit [("", 24)])) (.seq (.alloc 24 (.sh 0) (.lit [("", 27), ("", 19), ("", 21), ("", 20), ("", 26), ("", 23), ("", 22), ("", 25)])) (.ret 24)))))))),
  (.lv (.sh 0))⟩

/-- bermuda/matrix/matrix.py:54  params: self, args, <globals> -/
def f238 : Fn := ⟨"bermuda.matrix.matrix:Matrix.__getitem__", [0, 1, 2], [],
  (.seq (.seq (.seq (.seq (.load 7 0 .dyn) (.load 8 7 .dyn)) (.seq (.load 7 1 .dyn) (.ite (.call 9 236 [8, 7]) (.seq (.alloc 9 (.sh 0) .dict) (.seq (.havoc 7) (.store 9 .dyn 7)))))) (.seq (.seq (.load 7 9 .dyn) (.bind 6 7)) (.seq (.load 7 9 .dyn) (.bind 5 7)))) (.seq (.seq (.seq (.load 7 9 .dyn) (.bind 4 7)) (.seq (.load 7 9 .dyn) (.bind 3 7))) (.seq (.seq (.load 7 0 .dyn) (.load 8 7 .dyn)) (.seq (.load 7 8 .dyn) (.ret 7))))),
  .any⟩

/-- bermuda/matrix/matrix.py:40  params: data, index, incremental, <globals> -/
def f239 : Fn := ⟨"bermuda.matrix.matrix:Matrix.__init__", [1, 2, 3, 4], [],
  (.seq (.seq (.seq (.const 3) (.alloc 0 (.sh 1) .dict)) (.seq (.alloc 5 (.sh 0) (.lit [("", 1)])) (.store 0 .dyn 5))) (.seq (.seq (.alloc 5 (.sh 0) (.lit [("", 2)])) (.store 0 .dyn 5)) (.seq (.alloc 5 (.sh 0) (.lit [("", 3)])) (.seq (.store 0 .dyn 5) (.ret 0))))),
  (.lv (.sh 1))⟩

/-- bermuda/matrix/matrix.py:45  params: self, args, <globals> -/
def f240 : Fn := ⟨"bermuda.matrix.matrix:Matrix.subset", [0, 1, 2], [],
  (.seq (.seq (.seq (.seq (.load 7 0 .dyn) (.seq (.load 8 7 .dyn) (.load 7 1 .dyn))) (.seq (.seq (.ite (.call 9 236 [8, 7]) (.seq (.alloc 9 (.sh 0) .dict) (.seq (.havoc 7) (.store 9 .dyn 7)))) (.load 7 9 .dyn)) (.seq (.bind 6 7) (.load 7 9 .dyn)))) (.seq (.seq (.bind 5 7) (.seq (.load 7 9 .dyn) (.bind 4 7))) (.seq (.seq (.load 7 9 .dyn) (.bind 3 7)) (.seq (.load 7 0 .dyn) (.load 8 7 .dyn))))) (.seq (.seq (.seq (.load 7 8 .dyn) (.seq (.load 8 0 .dyn) (.load 9 8 .dyn))) (.seq (.seq (.load 8 0 .dyn) (.load 10 8 .dyn)) (.seq (.load 8 10 .dyn) (.load 10 8 .dyn)))) (.seq (.seq (.seq (.ite (.call 8 237 [9, 10, 6, 5, 4, 3]) (.call 8 240 [9, 10, 6, 5, 4, 3])) (.const 9)) (.seq (.call 10 239 [7, 8]) (.alloc 10 (.sh 0) (.lit [("", 7)])))) (.seq (.seq (.alloc 7 (.sh 1) (.lit [("", 8)])) (.alloc 8 .nums (.lit [("", 9)]))) (.seq (.alloc 9 (.sh 0) (.lit [("", 10), ("", 7), ("", 8)])) (.ret 9)))))),
  (.lv (.sh 0))⟩

/-- bermuda/plot.py:41  params: cell, <globals> -/
def f241 : Fn := ⟨"bermuda.plot:<lambda@41:23>", [0, 1], [],
  (.seq (.seq (.seq (.const 2) (.const 2)) (.seq (.load 2 0 .dyn) (.arith 2))) (.seq (.seq (.const 2) (.load 2 0 .dyn)) (.seq (.arith 2) (.ret 2)))),
  (.lv .num)⟩

/-- bermuda/plot.py:42  params: cell, <globals> -/
def f242 : Fn := ⟨"bermuda.plot:<lambda@42:27>", [0, 1], [],
  (.seq (.seq (.seq (.const 2) (.const 2)) (.seq (.load 2 0 .dyn) (.arith 2))) (.seq (.seq (.const 2) (.load 2 0 .dyn)) (.seq (.arith 2) (.ret 2)))),
  (.lv .num)⟩

/-- bermuda/plot.py:45  params: cell, <globals> -/
def f243 : Fn := ⟨"bermuda.plot:<lambda@45:27>", [0, 1], [],
  (.seq (.seq (.seq (.const 2) (.const 2)) (.seq (.load 2 0 .dyn) (.arith 2))) (.seq (.seq (.const 2) (.load 2 0 .dyn)) (.seq (.arith 2) (.ret 2)))),
  (.lv .num)⟩

/-- bermuda/plot.py:48  params: cell, <globals> -/
def f244 : Fn := ⟨"bermuda.plot:<lambda@48:17>", [0, 1], [],
  (.seq (.const 2) (.seq (.load 2 0 .dyn) (.ret 2))),
  .any⟩

/-- bermuda/plot.py:49  params: cell, <globals> -/
def f245 : Fn := ⟨"bermuda.plot:<lambda@49:21>", [0, 1], [],
  (.seq (.const 2) (.seq (.load 2 0 .dyn) (.ret 2))),
  .any⟩

/-- bermuda/plot.py:50  params: cell, <globals> -/
def f246 : Fn := ⟨"bermuda.plot:<lambda@50:21>", [0, 1], [],
  (.seq (.const 2) (.seq (.load 2 0 .dyn) (.ret 2))),
  .any⟩

/-- bermuda/plot.py:51  params: cell, <globals> -/
def f247 : Fn := ⟨"bermuda.plot:<lambda@51:22>", [0, 1], [],
  (.seq (.const 2) (.seq (.load 2 0 .dyn) (.ret 2))),
  .any⟩

/-- bermuda/plot.py:52  params: cell, <globals> -/
def f248 : Fn := ⟨"bermuda.plot:<lambda@52:23>", [0, 1], [],
  (.seq (.const 2) (.seq (.load 2 0 .dyn) (.ret 2))),
  .any⟩

/-- bermuda/plot.py:53  params: cell, _, next_cell, <globals> -/
def f249 : Fn := ⟨"bermuda.plot:<lambda@53:16>", [0, 1, 2, 3], [],
  (.seq (.seq (.const 4) (.seq (.load 4 2 .dyn) (.const 4))) (.seq (.load 4 0 .dyn) (.seq (.arith 4) (.ret 4)))),
  (.lv .num)⟩

/-- bermuda/plot.py:54  params: cell, _, next_cell, <globals> -/
def f250 : Fn := ⟨"bermuda.plot:<lambda@54:20>", [0, 1, 2, 3], [],
  (.seq (.seq (.const 4) (.seq (.load 4 2 .dyn) (.const 4))) (.seq (.load 4 0 .dyn) (.seq (.arith 4) (.ret 4)))),
  (.lv .num)⟩

/-- bermuda/plot.py:55  params: cell, _, next_cell, <globals> -/
def f251 : Fn := ⟨"bermuda.plot:<lambda@55:28>", [0, 1, 2, 3], [],
  (.seq (.seq (.seq (.const 4) (.load 4 2 .dyn)) (.seq (.const 4) (.load 4 0 .dyn))) (.seq (.seq (.arith 4) (.const 4)) (.seq (.arith 4) (.ret 4)))),
  (.lv .num)⟩

/-- bermuda/plot.py:56  params: cell, _, next_cell, <globals> -/
def f252 : Fn := ⟨"bermuda.plot:<lambda@56:32>", [0, 1, 2, 3], [],
  (.seq (.seq (.seq (.const 4) (.load 4 2 .dyn)) (.seq (.const 4) (.load 4 0 .dyn))) (.seq (.seq (.arith 4) (.const 4)) (.seq (.arith 4) (.ret 4)))),
  (.lv .num)⟩

/-- bermuda/plot.py:83  params: <globals> -/
def f253 : Fn := ⟨"bermuda.plot:FieldSummary.__post_init__", [1], [],
  (.seq (.seq (.seq (.alloc 0 (.sh 0) .dict) (.seq (.havoc 4) (.store 0 .dyn 4))) (.seq (.load 4 0 .dyn) (.seq (.load 5 4 .dyn) (.const 4)))) (.seq (.seq (.arith 4) (.seq (.ite (.seq (.seq (.seq (.load 4 0 .dyn) (.load 5 4 .dyn)) (.seq (.ite (.seq (.seq (.alloc 4 (.sh 0) .dict) (.seq (.load 5 0 .dyn) (.load 6 5 .dyn))) (.seq (.loop [(.lv (.sh 0)), .any, .scalar, .any, (.lv (.sh 0)), .any, .any] (.seq (.seq (.const 5) (.bind 2 5)) (.seq (.load 5 6 .dyn) (.seq (.bind 3 5) (.store 4 .dyn 3))))) (.seq (.alloc 5 (.sh 1) (.lit [("", 4)])) (.store 0 .dyn 5)))) (.seq (.seq (.load 4 0 .dyn) (.load 5 4 .dyn)) (.seq (.arith 4) (.seq (.alloc 5 .nums (.lit [("", 4)])) (.store 0 .dyn 5))))) (.load 4 0 .dyn))) (.seq (.seq (.load 5 4 .dyn) (.const 4)) (.seq (.arith 4) (.ite (.seq (.seq (.load 4 0 .dyn) (.load 5 4 .dyn)) (.seq (.arith 4) (.seq (.alloc 5 .nums (.lit [("", 4)])) (.store 0 .dyn 5)))) .skip)))) .skip) (.load 4 0 .dyn))) (.seq (.load 5 4 .dyn) (.seq (.ite (.seq (.const 4) (.seq (.alloc 5 .nums (.lit [("", 4)])) (.store 0 .dyn 5))) .skip) (.ret 0))))),
  (.lv (.sh 0))⟩

/-- bermuda/plot.py:130  params: self, return_empty, unit, <globals> -/
def f254 : Fn := ⟨"bermuda.plot:FieldSummary.dict", [0, 1, 2, 3], [],
  (.seq (.seq (.seq (.seq (.const 1) (.seq (.const 2) (.load 4 0 .dyn))) (.seq (.load 5 4 .dyn) (.seq (.const 4) (.arith 4)))) (.seq (.seq (.ite (.seq (.alloc 4 .nums .dict) (.ret 4)) .skip) (.seq (.alloc 4 (.sh 0) .dict) (.load 5 0 .dyn))) (.seq (.seq (.store 4 .dyn 5) (.load 6 5 .dyn)) (.seq (.store 4 .dyn 6) (.alloc 5 (.sh 0) (.union [4])))))) (.seq (.seq (.seq (.const 4) (.seq (.ite (.call 4 260 [0, 2]) (.seq (.alloc 4 (.sh 0) .dict) (.seq (.havoc 6) (.store 4 .dyn 6)))) (.store 5 .dyn 4))) (.seq (.const 4) (.seq (.ite (.seq (.load 4 0 .dyn) (.load 6 4 .dyn)) (.call 6 259 [0])) (.store 5 .dyn 6)))) (.seq (.seq (.const 4) (.seq (.store 5 .dyn 2) (.const 4))) (.seq (.seq (.load 4 0 .dyn) (.load 6 4 .dyn)) (.seq (.store 5 .dyn 6) (.ret 5)))))),
  .any⟩

/-- bermuda/plot.py:115  params: cls, name, metric, keep_samples, <globals> -/
def f255 : Fn := ⟨"bermuda.plot:FieldSummary.from_metric", [0, 1, 2, 3, 4], [],
  (.seq (.seq (.seq (.seq (.const 1) (.const 3)) (.seq (.arith 5) (.seq (.arith 6) (.arith 7)))) (.seq (.seq (.arith 8) (.seq (.arith 9) (.call 10 258 []))) (.seq (.arith 10) (.seq (.load 11 10 .dyn) (.alloc 10 .nums (.lit [("", 1)])))))) (.seq (.seq (.seq (.alloc 12 (.sh 0) (.lit [("", 2)])) (.seq (.alloc 13 .nums (.lit [("", 5)])) (.alloc 14 .nums (.lit [("", 6)])))) (.seq (.alloc 15 .nums (.lit [("", 7)])) (.seq (.alloc 16 .nums (.lit [("", 8)])) (.alloc 17 .nums (.lit [("", 9)]))))) (.seq (.seq (.alloc 18 .nums (.lit [("", 11)])) (.seq (.alloc 19 .nums (.lit [("", 3)])) (.alloc 20 (.sh 0) (.lit [("", 10), ("", 12), ("", 13), ("", 14), ("", 15), ("", 16), ("", 17), ("", 18), ("", 19)])))) (.seq (.call 10 253 [1, 2, 5, 6, 7, 8, 9, 11, 3]) (.seq (.merge 20 10) (.ret 20)))))),
  (.lv (.sh 0))⟩

/-- bermuda/plot.py:141  params: self, return_empty, unit, <globals> -/
def f256 : Fn := ⟨"bermuda.plot:FieldSummary.json", [0, 1, 2, 3], [],
  (.seq (.seq (.const 1) (.seq (.const 2) (.alloc 6 (.sh 0) .dict))) (.seq (.seq (.call 7 254 [0, 1, 2]) (.loop [.any, .scalar, .scalar, .any, .any, .any, (.lv (.sh 0)), .any, (.lv .num), .any] (.seq (.seq (.seq (.havoc 8) (.bind 4 8)) (.seq (.load 8 7 .dyn) (.bind 5 8))) (.seq (.seq (.const 8) (.arith 8)) (.seq (.ite (.seq (.const 8) (.bind 9 8)) (.bind 9 5)) (.store 6 .dyn 9)))))) (.seq (.const 6) (.ret 6)))),
  .scalar⟩

/-- bermuda/plot.py:103  params: self, <globals> -/
def f257 : Fn := ⟨"bermuda.plot:FieldSummary.precision", [0, 1], [],
  (.seq (.seq (.load 2 0 .dyn) (.seq (.load 3 2 .dyn) (.const 2))) (.seq (.arith 2) (.seq (.ite (.seq (.const 2) (.bind 3 2)) (.seq (.const 2) (.bind 3 2))) (.ret 3)))),
  .scalar⟩

/-- bermuda/plot.py:111  params: <globals> -/
def f258 : Fn := ⟨"bermuda.plot:FieldSummary.quantiles", [0], [],
  (.seq (.seq (.seq (.const 1) (.const 2)) (.seq (.const 3) (.seq (.const 4) (.const 5)))) (.seq (.seq (.const 6) (.seq (.const 7) (.const 8))) (.seq (.const 9) (.seq (.alloc 10 .nums (.lit [("", 1), ("", 2), ("", 3), ("", 4), ("", 5), ("", 6), ("", 7), ("", 8), ("", 9)])) (.ret 10))))),
  (.lv .nums)⟩

/-- bermuda/plot.py:107  params: self, <globals> -/
def f259 : Fn := ⟨"bermuda.plot:FieldSummary.snake_case_field", [0, 1], [],
  (.seq (.seq (.load 2 0 .dyn) (.load 3 2 .dyn)) (.seq (.call 2 286 [3]) (.ret 2))),
  .scalar⟩

/-- bermuda/plot.py:95  params: self, unit, <globals> -/
def f260 : Fn := ⟨"bermuda.plot:FieldSummary.tooltip", [0, 1, 2], [],
  (.seq (.seq (.seq (.seq (.const 1) (.load 5 0 .dyn)) (.seq (.load 6 5 .dyn) (.const 5))) (.seq (.seq (.bind 4 5) (.load 5 0 .dyn)) (.seq (.load 6 5 .dyn) (.const 5)))) (.seq (.seq (.seq (.arith 5) (.ite (.seq (.const 5) (.bind 6 5)) (.seq (.seq (.load 5 0 .dyn) (.load 7 5 .dyn)) (.seq (.const 5) (.bind 6 5))))) (.seq (.bind 3 6) (.ite (.seq (.seq (.load 5 0 .dyn) (.load 6 5 .dyn)) (.seq (.const 5) (.ret 5))) .skip))) (.seq (.seq (.load 5 0 .dyn) (.load 6 5 .dyn)) (.seq (.const 5) (.ret 5))))),
  .scalar⟩

/-- bermuda/plot.py:1692  params: triangle, plot_func, title, facet_titles, width, height, ncols, plot_kwargs, <globals> -/
def f261 : Fn := ⟨"bermuda.plot:_build_metric_slice_charts", [0, 1, 2, 3, 4, 5, 6, 7, 8], [],
  (.seq (.seq (.seq (.seq (.alloc 21 (.sh 1) .dict) (.seq (.bind 18 21) (.ite (.seq (.load 21 0 .dyn) (.load 22 21 .dyn)) (.call 22 350 [0])))) (.seq (.const 21) (.seq (.bind 17 21) (.ite (.seq (.load 21 0 .dyn) (.load 22 21 .dyn)) (.call 22 350 [0]))))) (.seq (.seq (.loop [.any, .any, .any, .any, .any, .any, .any, .any, .any, .scalar, .any, .any, .any, .any, .any, .any, .scalar, .scalar, (.lv (.sh 1)), .any, .any, .any, .any, .any, .any] (.block (.seq (.seq (.seq (.const 21) (.seq (.bind 16 21) (.havoc 21))) (.seq (.seq (.bind 15 21) (.load 21 22 .dyn)) (.seq (.bind 14 21) (.const 21)))) (.seq (.seq (.arith 21) (.seq (.ite (.seq (.call 21 284 [14, 0]) (.bind 13 21)) (.seq (.load 21 3 .dyn) (.bind 13 21))) (.const 21))) (.seq (.seq (.ite (.const 23) (.ite (.load 23 7 .dyn) (.bind 23 21))) (.const 21)) (.seq (.arith 21) (.ite (.seq (.const 21) (.seq (.load 21 7 .dyn) (.loop [.any, .any, .any, .any, .any, .any, .any, .any, .any, .scalar, .any, .any, .any, .any, .any, .any, .scalar, .scalar, (.lv (.sh 1)), .any, .any, .any, .any, .any, .any] (.block (.seq (.seq (.seq (.seq (.havoc 23) (.bind 12 23)) (.seq (.load 23 21 .dyn) (.seq (.bind 11 23) (.const 23)))) (.seq (.seq (.arith 23) (.seq (.ite (.seq (.seq (.const 23) (.seq (.arith 23) (.const 23))) (.seq (.seq (.const 23) (.arith 23)) (.seq (.ite (.arith 24) (.alloc 24 (.sh 0) (.union [23, 12]))) (.bind 23 24)))) (.bind 23 13)) (.bind 10 23))) (.seq (.load 23 8 .dyn) (.seq (.load 24 23 .dyn) (.alloc 23 (.sh 0) .dict))))) (.seq (.seq (.seq (.havoc 24) (.store 23 .dyn 24)) (.seq (.alloc 23 (.sh 0) .dict) (.seq (.loop [.any, .any, .any, .any, .any, .any, .any, .any, .any, .scalar, .any, .any, .any, .any, .any, .any, .scalar, .scalar, (.lv (.sh 1)), .any, .any, .any, .any, (.lv (.sh 0)), .any] (.seq (.seq (.havoc 24) (.seq (.bind 19 24) (.load 24 7 .dyn))) (.seq (.seq (.bind 20 24) (.const 24)) (.seq (.arith 24) (.ite .skip (.store 23 .dyn 20)))))) (.load 24 23 .dyn)))) (.seq (.seq (.havoc 23) (.seq (.alloc 23 (.sh 0) .dict) (.havoc 24))) (.seq (.store 23 .dyn 24) (.seq (.store 18 .dyn 23) (.const 23)))))))))) (.seq (.seq (.seq (.load 21 8 .dyn) (.seq (.load 23 21 .dyn) (.alloc 21 (.sh 0) .dict))) (.seq (.havoc 23) (.seq (.store 21 .dyn 23) (.load 21 7 .dyn)))) (.seq (.seq (.havoc 21) (.seq (.alloc 21 (.sh 0) .dict) (.havoc 23))) (.seq (.store 21 .dyn 23) (.seq (.store 18 .dyn 21) (.const 21)))))))))))) (.seq (.call 21 264 [18, 2, 6]) (.call 21 263 [6]))) (.seq (.load 22 21 .dyn) (.seq (.alloc 21 (.sh 0) .dict) (.havoc 22))))) (.seq (.seq (.seq (.store 21 .dyn 22) (.seq (.call 21 263 [6]) (.load 22 21 .dyn))) (.seq (.alloc 21 (.sh 0) .dict) (.seq (.havoc 22) (.store 21 .dyn 22)))) (.seq (.seq (.const 21) (.seq (.alloc 21 (.sh 0) .dict) (.havoc 22))) (.seq (.store 21 .dyn 22) (.seq (.bind 9 21) (.ret 9)))))),
  (.lv (.sh 0))⟩

/-- bermuda/plot.py:1744  params: cell, prev_cell, next_cell, func, name, keep_samples, <globals> -/
def f262 : Fn := ⟨"bermuda.plot:_calculate_field_summary", [0, 1, 2, 3, 4, 5, 6], [],
  (.seq (.seq (.seq (.const 4) (.seq (.const 5) (.call 8 282 [0, 1, 2, 3]))) (.seq (.seq (.bind 7 8) (.const 8)) (.seq (.arith 8) (.const 9)))) (.seq (.seq (.const 10) (.seq (.const 10) (.arith 10))) (.seq (.seq (.ite (.bind 11 8) (.ite (.bind 11 9) (.bind 11 10))) (.ite (.seq (.seq (.alloc 8 .nums (.lit [("", 4)])) (.seq (.alloc 9 (.sh 0) (.lit [("", 7)])) (.alloc 10 (.sh 0) (.lit [("", 8), ("", 9)])))) (.seq (.call 8 253 [4, 7]) (.seq (.merge 10 8) (.ret 10)))) .skip)) (.seq (.call 8 255 [4, 7, 5]) (.ret 8))))),
  (.lv (.sh 0))⟩

/-- bermuda/plot.py:1770  params: mark_scaler, <globals> -/
def f263 : Fn := ⟨"bermuda.plot:_compute_font_sizes", [0, 1], [],
  (.seq (.seq (.seq (.seq (.const 0) (.alloc 2 .nums .dict)) (.seq (.const 3) (.seq (.load 3 1 .dyn) (.load 3 1 .dyn)))) (.seq (.seq (.arith 3) (.seq (.const 3) (.arith 3))) (.seq (.arith 3) (.seq (.arith 3) (.arith 3))))) (.seq (.seq (.seq (.store 2 .dyn 3) (.seq (.const 3) (.load 3 1 .dyn))) (.seq (.load 3 1 .dyn) (.seq (.arith 3) (.const 3)))) (.seq (.seq (.arith 3) (.seq (.arith 3) (.arith 3))) (.seq (.arith 3) (.seq (.store 2 .dyn 3) (.ret 2)))))),
  (.lv .nums)⟩

/-- bermuda/plot.py:1784  params: charts, ncols, kwargs, <globals> -/
def f264 : Fn := ⟨"bermuda.plot:_concat_charts", [0, 1, 2, 3], [],
  (.seq (.seq (.seq (.const 1) (.seq (.const 5) (.const 5))) (.seq (.arith 5) (.seq (.ite (.seq (.seq (.const 5) (.seq (.load 5 0 .dyn) (.load 5 2 .dyn))) (.seq (.seq (.alloc 5 (.sh 0) .dict) (.havoc 6)) (.seq (.store 5 .dyn 6) (.ret 5)))) .skip) (.load 5 0 .dyn)))) (.seq (.seq (.load 5 2 .dyn) (.seq (.alloc 5 (.sh 0) .dict) (.havoc 6))) (.seq (.store 5 .dyn 6) (.seq (.bind 4 5) (.ret 4))))),
  (.lv (.sh 0))⟩

/-- bermuda/plot.py:1735  params: cell, <globals> -/
def f265 : Fn := ⟨"bermuda.plot:_core_plot_data", [0, 1], [],
  (.seq (.seq (.seq (.seq (.alloc 2 (.sh 1) .dict) (.seq (.const 3) (.load 3 0 .dyn))) (.seq (.load 4 3 .dyn) (.seq (.alloc 3 (.sh 0) .dict) (.havoc 4)))) (.seq (.seq (.store 3 .dyn 4) (.seq (.store 2 .dyn 3) (.const 3))) (.seq (.load 3 0 .dyn) (.seq (.load 4 3 .dyn) (.alloc 3 (.sh 0) .dict))))) (.seq (.seq (.seq (.havoc 4) (.seq (.store 3 .dyn 4) (.store 2 .dyn 3))) (.seq (.const 3) (.seq (.ite (.seq (.load 3 0 .dyn) (.load 4 3 .dyn)) (.call 4 320 [0])) (.alloc 3 (.sh 0) .dict)))) (.seq (.seq (.havoc 4) (.seq (.store 3 .dyn 4) (.store 2 .dyn 3))) (.seq (.seq (.const 3) (.call 3 26 [0])) (.seq (.store 2 .dyn 3) (.ret 2)))))),
  (.lv (.sh 1))⟩

/-- bermuda/plot.py:1779  params: triangle, <globals> -/
def f266 : Fn := ⟨"bermuda.plot:_currency_symbol", [0, 1], [],
  (.seq (.seq (.seq (.ite (.seq (.load 3 0 .dyn) (.load 4 3 .dyn)) (.call 4 339 [0])) (.const 3)) (.seq (.load 3 4 .dyn) (.seq (.load 4 3 .dyn) (.load 3 4 .dyn)))) (.seq (.seq (.bind 2 3) (.seq (.const 3) (.const 3))) (.seq (.const 4) (.seq (.ite (.bind 5 3) (.bind 5 4)) (.ret 5))))),
  .scalar⟩

/-- bermuda/plot.py:1792  params: n, <globals> -/
def f267 : Fn := ⟨"bermuda.plot:_determine_facet_cols", [0, 1], [],
  (.seq (.seq (.seq (.const 0) (.const 2)) (.seq (.arith 2) (.arith 2))) (.seq (.seq (.arith 2) (.ite (.const 3) (.ite (.load 3 0 .dyn) (.ite (.bind 3 0) (.bind 3 2))))) (.seq (.const 2) (.ret 2)))),
  .scalar⟩

/-- bermuda/plot.py:184  params: x, prepend, <globals> -/
def f268 : Fn := ⟨"bermuda.plot:_flatten_dict", [0, 1, 2], [],
  (.seq (.seq (.const 1) (.alloc 6 (.sh 0) .dict)) (.seq (.bind 3 6) (.seq (.loop [.any, .scalar, .any, (.lv (.sh 0)), .any, .any, (.lv (.sh 0)), .any] (.block (.seq (.seq (.havoc 6) (.seq (.bind 5 6) (.load 6 0 .dyn))) (.seq (.seq (.bind 4 6) (.const 6)) (.seq (.const 6) (.ite (.seq (.seq (.const 6) (.const 6)) (.seq (.const 6) (.seq (.call 7 268 [4, 6]) (.aug 3 7)))) (.seq (.const 6) (.seq (.ite (.arith 7) (.alloc 7 .nums (.union [1, 6]))) (.store 3 .dyn 4))))))))) (.ret 3)))),
  (.lv (.sh 0))⟩

/-- bermuda/plot.py:716  params: triangle, metric, name, title, <globals> -/
def f269 : Fn := ⟨"bermuda.plot:_plot_atas", [0, 1, 2, 3, 4], [],
  (.seq (.seq (.seq (.seq (.seq (.seq (.const 2) (.seq (.alloc 12 (.sh 0) .dict) (.store 12 .dyn 1))) (.seq (.seq (.const 13) (.call 14 288 [0, 12, 13])) (.seq (.alloc 12 (.sh 0) .dict) (.havoc 13)))) (.seq (.seq (.seq (.store 12 .dyn 13) (.bind 11 12)) (.seq (.call 12 286 [2]) (.bind 10 12))) (.seq (.seq (.const 12) (.const 12)) (.seq (.alloc 12 (.sh 0) .dict) (.havoc 13))))) (.seq (.seq (.seq (.store 12 .dyn 13) (.seq (.const 13) (.const 13))) (.seq (.seq (.alloc 13 (.sh 0) .dict) (.havoc 14)) (.seq (.store 13 .dyn 14) (.const 14)))) (.seq (.seq (.seq (.const 14) (.alloc 14 (.sh 0) .dict)) (.seq (.havoc 15) (.store 14 .dyn 15))) (.seq (.seq (.const 15) (.const 15)) (.seq (.alloc 15 (.sh 0) .dict) (.havoc 16)))))) (.seq (.seq (.seq (.seq (.store 15 .dyn 16) (.seq (.const 16) (.const 16))) (.seq (.seq (.alloc 16 (.sh 0) .dict) (.havoc 17)) (.seq (.store 16 .dyn 17) (.alloc 17 (.sh 1) (.lit [("", 12), ("", 13), ("", 14), ("", 15), ("", 16)]))))) (.seq (.seq (.seq (.bind 9 17) (.alloc 12 (.sh 0) .dict)) (.seq (.havoc 13) (.store 12 .dyn 13))) (.seq (.seq (.const 12) (.alloc 12 (.sh 0) .dict)) (.seq (.havoc 13) (.store 12 .dyn 13))))) (.seq (.seq (.seq (.seq (.const 12) (.const 12)) (.seq (.const 12) (.alloc 12 (.sh 0) .dict))) (.seq (.seq (.havoc 13) (.store 12 .dyn 13)) (.seq (.const 12) (.alloc 12 (.sh 0) .dict)))) (.seq (.seq (.seq (.havoc 13) (.store 12 .dyn 13)) (.seq (.const 12) (.const 12))) (.seq (.seq (.const 12) (.alloc 12 (.sh 0) .dict)) (.seq (.havoc 13) (.store 12 .dyn 13))))))) (.seq (.seq (.seq (.seq (.seq (.alloc 12 (.sh 0) .dict) (.seq (.havoc 13) (.store 12 .dyn 13))) (.seq (.seq (.bind 8 12) (.const 12)) (.seq (.const 12) (.alloc 12 (.sh 0) .dict)))) (.seq (.seq (.seq (.havoc 13) (.store 12 .dyn 13)) (.seq (.bind 7 12) (.const 12))) (.seq (.seq (.const 12) (.const 12)) (.seq (.alloc 12 (.sh 0) .dict) (.havoc 13))))) (.seq (.seq (.seq (.store 12 .dyn 13) (.seq (.const 12) (.alloc 12 (.sh 0) .dict))) (.seq (.seq (.havoc 13) (.store 12 .dyn 13)) (.seq (.const 12) (.alloc 12 (.sh 0) .dict)))) (.seq (.seq (.seq (.havoc 13) (.store 12 .dyn 13)) (.seq (.alloc 12 (.sh 0) .dict) (.havoc 13))) (.seq (.seq (.store 12 .dyn 13) (.bind 6 12)) (.seq (.const 12) (.alloc 12 (.sh 0) .dict)))))) (.seq (.seq (.seq (.seq (.havoc 13) (.seq (.store 12 .dyn 13) (.const 12))) (.seq (.seq (.alloc 12 (.sh 0) .dict) (.havoc 13)) (.seq (.store 12 .dyn 13) (.alloc 12 (.sh 0) .dict)))) (.seq (.seq (.seq (.havoc 13) (.store 12 .dyn 13)) (.seq (.const 12) (.alloc 12 (.sh 0) .dict))) (.seq (.seq (.havoc 13) (.store 12 .dyn 13)) (.seq (.const 12) (.alloc 12 (.sh 0) .dict))))) (.seq (.seq (.seq (.seq (.havoc 13) (.store 12 .dyn 13)) (.seq (.const 12) (.alloc 12 (.sh 0) .dict))) (.seq (.seq (.havoc 13) (.store 12 .dyn 13)) (.seq (.alloc 12 (.sh 0) .dict) (.havoc 13)))) (.seq (.seq (.seq (.store 12 .dyn 13) (.bind 5 12)) (.seq (.ite (.arith 12) (.alloc 12 (.sh 0) (.union [7, 5]))) (.ite (.arith 13) (.alloc 13 (.sh 0) (.union [12, 6]))))) (.seq (.seq (.alloc 12 (.sh 0) .dict) (.havoc 13)) (.seq (.store 12 .dyn 13) (.ret 12)))))))),
  (.lv (.sh 0))⟩

/-- bermuda/plot.py:1244  params: triangle, axis_metrics, title, mark_scaler, uncertainty, show_points, <globals> -/
def f270 : Fn := ⟨"bermuda.plot:_plot_ballistic", [0, 1, 2, 3, 4, 5, 6], [],
  (.seq (.seq (.seq (.seq (.seq (.seq (.seq (.const 3) (.seq (.const 4) (.const 5))) (.seq (.alloc 29 (.sh 0) (.union [1])) (.seq (.load 30 29 .dyn) (.alloc 29 (.sh 0) (.union [30]))))) (.seq (.seq (.load 30 29 .dyn) (.seq (.load 31 30 .dyn) (.bind 28 31))) (.seq (.seq (.load 31 30 .dyn) (.bind 27 31)) (.seq (.load 30 29 .dyn) (.load 29 30 .dyn))))) (.seq (.seq (.seq (.bind 26 29) (.seq (.load 29 30 .dyn) (.bind 25 29))) (.seq (.call 29 286 [28]) (.seq (.bind 24 29) (.call 29 286 [27])))) (.seq (.seq (.bind 23 29) (.seq (.call 29 288 [0, 1]) (.alloc 29 (.sh 0) .dict))) (.seq (.seq (.havoc 30) (.store 29 .dyn 30)) (.seq (.bind 22 29) (.ite (.seq (.const 29) (.bind 30 29)) (.seq (.const 29) (.bind 30 29)))))))) (.seq (.seq (.seq (.seq (.bind 21 30) (.seq (.ite (.seq (.const 29) (.bind 30 29)) (.seq (.const 29) (.bind 30 29))) (.bind 20 30))) (.seq (.ite (.seq (.seq (.call 29 318 [0]) (.seq (.const 29) (.const 29))) (.seq (.arith 29) (.seq (.ite (.seq (.const 29) (.bind 30 29)) (.seq (.const 29) (.bind 30 29))) (.bind 19 30)))) (.seq (.seq (.ite (.seq (.load 29 0 .dyn) (.load 30 29 .dyn)) (.call 30 344 [0])) (.seq (.const 29) (.const 29))) (.seq (.arith 29) (.seq (.ite (.seq (.const 29) (.bind 30 29)) (.seq (.const 29) (.bind 30 29))) (.bind 19 30))))) (.seq (.const 29) (.alloc 29 (.sh 0) .dict)))) (.seq (.seq (.havoc 30) (.seq (.store 29 .dyn 30) (.alloc 29 (.sh 0) .dict))) (.seq (.seq (.havoc 30) (.store 29 .dyn 30)) (.seq (.bind 18 29) (.const 29))))) (.seq (.seq (.seq (.alloc 29 (.sh 0) .dict) (.seq (.havoc 30) (.store 29 .dyn 30))) (.seq (.seq (.bind 17 29) (.const 29)) (.seq (.alloc 30 .nums (.lit [("", 29)])) (.alloc 29 (.sh 0) .dict)))) (.seq (.seq (.havoc 30) (.seq (.store 29 .dyn 30) (.bind 16 29))) (.seq (.seq (.alloc 29 (.sh 0) .dict) (.havoc 30)) (.seq (.store 29 .dyn 30) (.const 29))))))) (.seq (.seq (.seq (.seq (.seq (.alloc 29 (.sh 0) .dict) (.seq (.havoc 30) (.store 29 .dyn 30))) (.seq (.alloc 29 (.sh 0) .dict) (.seq (.havoc 30) (.store 29 .dyn 30)))) (.seq (.seq (.const 29) (.seq (.alloc 29 (.sh 0) .dict) (.havoc 30))) (.seq (.seq (.store 29 .dyn 30) (.alloc 29 (.sh 0) .dict)) (.seq (.havoc 30) (.store 29 .dyn 30))))) (.seq (.seq (.seq (.bind 15 29) (.seq (.alloc 29 (.sh 0) .dict) (.havoc 30))) (.seq (.store 29 .dyn 30) (.seq (.alloc 29 (.sh 0) .dict) (.havoc 30)))) (.seq (.seq (.store 29 .dyn 30) (.seq (.const 29) (.alloc 29 (.sh 0) .dict))) (.seq (.seq (.havoc 30) (.store 29 .dyn 30)) (.seq (.alloc 29 (.sh 0) .dict) (.havoc 30)))))) (.seq (.seq (.seq (.seq (.store 29 .dyn 30) (.seq (.bind 14 29) (.alloc 29 (.sh 0) .dict))) (.seq (.havoc 30) (.seq (.store 29 .dyn 30) (.alloc 29 (.sh 0) .dict)))) (.seq (.seq (.havoc 30) (.seq (.store 29 .dyn 30) (.const 29))) (.seq (.seq (.alloc 29 (.sh 0) .dict) (.havoc 30)) (.seq (.store 29 .dyn 30) (.alloc 29 (.sh 0) .dict))))) (.seq (.seq (.seq (.havoc 30) (.seq (.store 29 .dyn 30) (.bind 13 29))) (.seq (.seq (.alloc 29 (.sh 0) .dict) (.havoc 30)) (.seq (.store 29 .dyn 30) (.const 29)))) (.seq (.seq (.alloc 29 (.sh 0) .dict) (.seq (.havoc 30) (.store 29 .dyn 30))) (.seq (.seq (.const 29) (.const 29)) (.seq (.alloc 29 (.sh 0) .dict) (.havoc 30)))))))) (.seq (.seq (.seq (.seq (.seq (.seq (.store 29 .dyn 30) (.seq (.const 29) (.alloc 29 (.sh 0) .dict))) (.seq (.havoc 30) (.seq (.store 29 .dyn 30) (.const 29)))) (.seq (.seq (.const 29) (.seq (.alloc 29 (.sh 0) .dict) (.havoc 30))) (.seq (.seq (.store 29 .dyn 30) (.const 29)) (.seq (.const 29) (.alloc 29 (.sh 0) .dict))))) (.seq (.seq (.seq (.havoc 30) (.seq (.store 29 .dyn 30) (.const 30))) (.seq (.const 30) (.seq (.alloc 30 (.sh 0) .dict) (.havoc 31)))) (.seq (.seq (.store 30 .dyn 31) (.seq (.const 31) (.const 31))) (.seq (.seq (.alloc 31 (.sh 0) .dict) (.havoc 32)) (.seq (.store 31 .dyn 32) (.const 32)))))) (.seq (.seq (.seq (.seq (.const 32) (.seq (.alloc 32 (.sh 0) .dict) (.havoc 33))) (.seq (.store 32 .dyn 33) (.seq (.const 33) (.const 33)))) (.seq (.seq (.alloc 33 (.sh 0) .dict) (.seq (.havoc 34) (.store 33 .dyn 34))) (.seq (.seq (.const 34) (.const 34)) (.seq (.alloc 34 (.sh 0) .dict) (.havoc 35))))) (.seq (.seq (.seq (.store 34 .dyn 35) (.seq (.alloc 35 (.sh 1) (.lit [("", 29), ("", 30), ("", 31), ("", 32), ("", 33), ("", 34)])) (.alloc 29 (.sh 0) .dict))) (.seq (.seq (.havoc 30) (.store 29 .dyn 30)) (.seq (.bind 12 29) (.alloc 29 (.sh 0) .dict)))) (.seq (.seq (.havoc 30) (.seq (.store 29 .dyn 30) (.const 29))) (.seq (.seq (.const 29) (.const 30)) (.seq (.alloc 31 .nums (.lit [("", 29), ("", 30)])) (.alloc 29 (.sh 0) .dict))))))) (.seq (.seq (.seq (.seq (.seq (.havoc 30) (.seq (.store 29 .dyn 30) (.const 29))) (.seq (.const 29) (.seq (.alloc 29 (.sh 0) .dict) (.havoc 30)))) (.seq (.seq (.store 29 .dyn 30) (.seq (.bind 11 29) (.const 29))) (.seq (.seq (.const 29) (.alloc 29 (.sh 0) .dict)) (.seq (.havoc 30) (.store 29 .dyn 30))))) (.seq (.seq (.seq (.const 29) (.seq (.alloc 29 (.sh 0) .dict) (.havoc 30))) (.seq (.store 29 .dyn 30) (.seq (.bind 10 29) (.ite (.seq (.seq (.seq (.const 29) (.const 29)) (.seq (.arith 29) (.seq (.const 29) (.alloc 29 (.sh 0) .dict)))) (.seq (.seq (.havoc 30) (.seq (.store 29 .dyn 30) (.alloc 29 (.sh 0) .dict))) (.seq (.havoc 30) (.seq (.store 29 .dyn 30) (.bind 9 29))))) (.seq (.seq (.alloc 29 (.sh 0) .dict) (.havoc 30)) (.seq (.store 29 .dyn 30) (.bind 9 29))))))) (.seq (.seq (.const 29) (.seq (.arith 29) (.const 29))) (.seq (.seq (.const 29) (.alloc 29 (.sh 0) .dict)) (.seq (.havoc 30) (.store 29 .dyn 30)))))) (.seq (.seq (.seq (.seq (.alloc 29 (.sh 0) .dict) (.seq (.havoc 30) (.store 29 .dyn 30))) (.seq (.const 29) (.seq (.const 29) (.arith 29)))) (.seq (.seq (.alloc 29 (.sh 0) .dict) (.seq (.havoc 30) (.store 29 .dyn 30))) (.seq (.seq (.bind 8 29) (.ite (.seq (.seq (.seq (.seq (.const 29) (.seq (.alloc 29 (.sh 0) .dict) (.havoc 30))) (.seq (.seq (.store 29 .dyn 30) (.const 29)) (.seq (.alloc 29 (.sh 0) .dict) (.havoc 30)))) (.seq (.seq (.store 29 .dyn 30) (.seq (.alloc 29 (.sh 0) .dict) (.havoc 30))) (.seq (.seq (.store 29 .dyn 30) (.const 29)) (.seq (.alloc 29 (.sh 0) .dict) (.havoc 30))))) (.seq (.seq (.seq (.store 29 .dyn 30) (.seq (.const 29) (.alloc 29 (.sh 0) .dict))) (.seq (.seq (.havoc 30) (.store 29 .dyn 30)) (.seq (.alloc 29 (.sh 0) .dict) (.havoc 30)))) (.seq (.seq (.seq (.store 29 .dyn 30) (.const 29)) (.seq (.const 29) (.arith 29))) (.seq (.seq (.alloc 29 (.sh 0) .dict) (.havoc 30)) (.seq (.store 29 .dyn 30) (.bind 7 29)))))) (.seq (.seq (.alloc 29 (.sh 0) .dict) (.havoc 30)) (.seq (.store 29 .dyn 30) (.bind 7 29))))) (.seq (.ite (.arith 29) (.alloc 29 (.sh 0) (.union [7, 10]))) (.ite (.arith 29) (.alloc 29 (.sh 0) (.union [9, 8]))))))) (.seq (.seq (.seq (.alloc 29 (.sh 0) .dict) (.seq (.havoc 30) (.store 29 .dyn 30))) (.seq (.seq (.alloc 29 (.sh 0) .dict) (.havoc 30)) (.seq (.store 29 .dyn 30) (.const 29)))) (.seq (.seq (.alloc 29 (.sh 0) .dict) (.seq (.havoc 30) (.store 29 .dyn 30))) (.seq (.seq (.alloc 29 (.sh 0) .dict) (.havoc 30)) (.seq (.store 29 .dyn 30) (.ret 29))))))))),
  (.lv (.sh 0))⟩

/-- bermuda/plot.py:1375  params: triangle, axis_metrics, title, mark_scaler, uncertainty, rule, show_points, <globals> -/
def f271 : Fn := ⟨"bermuda.plot:_plot_broom", [0, 1, 2, 3, 4, 5, 6, 7], [],
  (.seq (.seq (.seq (.seq (.seq (.seq (.seq (.const 3) (.seq (.const 4) (.const 5))) (.seq (.const 6) (.seq (.alloc 30 (.sh 0) (.union [1])) (.load 31 30 .dyn)))) (.seq (.seq (.alloc 30 (.sh 0) (.union [31])) (.seq (.load 31 30 .dyn) (.load 32 31 .dyn))) (.seq (.seq (.bind 29 32) (.load 32 31 .dyn)) (.seq (.bind 28 32) (.load 31 30 .dyn))))) (.seq (.seq (.seq (.load 30 31 .dyn) (.seq (.bind 27 30) (.load 30 31 .dyn))) (.seq (.bind 26 30) (.seq (.call 30 286 [29]) (.bind 25 30)))) (.seq (.seq (.call 30 286 [28]) (.seq (.bind 24 30) (.call 30 288 [0, 1]))) (.seq (.seq (.alloc 30 (.sh 0) .dict) (.havoc 31)) (.seq (.store 30 .dyn 31) (.bind 23 30)))))) (.seq (.seq (.seq (.seq (.ite (.seq (.const 30) (.bind 31 30)) (.seq (.const 30) (.bind 31 30))) (.seq (.bind 22 31) (.ite (.seq (.const 30) (.bind 31 30)) (.seq (.const 30) (.bind 31 30))))) (.seq (.bind 21 31) (.seq (.ite (.seq (.seq (.call 30 318 [0]) (.seq (.const 30) (.const 30))) (.seq (.arith 30) (.seq (.ite (.seq (.const 30) (.bind 31 30)) (.seq (.const 30) (.bind 31 30))) (.bind 20 31)))) (.seq (.seq (.ite (.seq (.load 30 0 .dyn) (.load 31 30 .dyn)) (.call 31 344 [0])) (.seq (.const 30) (.const 30))) (.seq (.arith 30) (.seq (.ite (.seq (.const 30) (.bind 31 30)) (.seq (.const 30) (.bind 31 30))) (.bind 20 31))))) (.const 30)))) (.seq (.seq (.alloc 30 (.sh 0) .dict) (.seq (.havoc 31) (.store 30 .dyn 31))) (.seq (.seq (.alloc 30 (.sh 0) .dict) (.havoc 31)) (.seq (.store 30 .dyn 31) (.bind 19 30))))) (.seq (.seq (.seq (.const 30) (.seq (.alloc 30 (.sh 0) .dict) (.havoc 31))) (.seq (.store 30 .dyn 31) (.seq (.bind 18 30) (.const 30)))) (.seq (.seq (.alloc 31 .nums (.lit [("", 30)])) (.seq (.alloc 30 (.sh 0) .dict) (.havoc 31))) (.seq (.seq (.store 30 .dyn 31) (.bind 17 30)) (.seq (.alloc 30 (.sh 0) .dict) (.havoc 31))))))) (.seq (.seq (.seq (.seq (.seq (.store 30 .dyn 31) (.seq (.const 30) (.alloc 30 (.sh 0) .dict))) (.seq (.havoc 31) (.seq (.store 30 .dyn 31) (.alloc 30 (.sh 0) .dict)))) (.seq (.seq (.havoc 31) (.seq (.store 30 .dyn 31) (.const 30))) (.seq (.seq (.alloc 30 (.sh 0) .dict) (.havoc 31)) (.seq (.store 30 .dyn 31) (.alloc 30 (.sh 0) .dict))))) (.seq (.seq (.seq (.havoc 31) (.seq (.store 30 .dyn 31) (.bind 16 30))) (.seq (.alloc 30 (.sh 0) .dict) (.seq (.havoc 31) (.store 30 .dyn 31)))) (.seq (.seq (.alloc 30 (.sh 0) .dict) (.seq (.havoc 31) (.store 30 .dyn 31))) (.seq (.seq (.const 30) (.alloc 30 (.sh 0) .dict)) (.seq (.havoc 31) (.store 30 .dyn 31)))))) (.seq (.seq (.seq (.seq (.alloc 30 (.sh 0) .dict) (.seq (.havoc 31) (.store 30 .dyn 31))) (.seq (.bind 15 30) (.seq (.alloc 30 (.sh 0) .dict) (.havoc 31)))) (.seq (.seq (.store 30 .dyn 31) (.seq (.alloc 30 (.sh 0) .dict) (.havoc 31))) (.seq (.seq (.store 30 .dyn 31) (.const 30)) (.seq (.alloc 30 (.sh 0) .dict) (.havoc 31))))) (.seq (.seq (.seq (.store 30 .dyn 31) (.seq (.alloc 30 (.sh 0) .dict) (.havoc 31))) (.seq (.seq (.store 30 .dyn 31) (.bind 14 30)) (.seq (.alloc 30 (.sh 0) .dict) (.havoc 31)))) (.seq (.seq (.store 30 .dyn 31) (.seq (.const 30) (.alloc 30 (.sh 0) .dict))) (.seq (.seq (.havoc 31) (.store 30 .dyn 31)) (.seq (.const 30) (.const 30)))))))) (.seq (.seq (.seq (.seq (.seq (.seq (.alloc 30 (.sh 0) .dict) (.seq (.havoc 31) (.store 30 .dyn 31))) (.seq (.const 30) (.seq (.const 30) (.alloc 30 (.sh 0) .dict)))) (.seq (.seq (.havoc 31) (.seq (.store 30 .dyn 31) (.const 30))) (.seq (.seq (.const 30) (.const 30)) (.seq (.alloc 30 (.sh 0) .dict) (.havoc 31))))) (.seq (.seq (.seq (.store 30 .dyn 31) (.seq (.const 31) (.const 31))) (.seq (.alloc 31 (.sh 0) .dict) (.seq (.havoc 32) (.store 31 .dyn 32)))) (.seq (.seq (.const 32) (.seq (.const 32) (.alloc 32 (.sh 0) .dict))) (.seq (.seq (.havoc 33) (.store 32 .dyn 33)) (.seq (.const 33) (.const 33)))))) (.seq (.seq (.seq (.seq (.alloc 33 (.sh 0) .dict) (.seq (.havoc 34) (.store 33 .dyn 34))) (.seq (.const 34) (.seq (.const 34) (.alloc 34 (.sh 0) .dict)))) (.seq (.seq (.havoc 35) (.seq (.store 34 .dyn 35) (.const 35))) (.seq (.seq (.const 35) (.alloc 35 (.sh 0) .dict)) (.seq (.havoc 36) (.store 35 .dyn 36))))) (.seq (.seq (.seq (.alloc 36 (.sh 1) (.lit [("", 30), ("", 31), ("", 32), ("", 33), ("", 34), ("", 35)])) (.seq (.alloc 30 (.sh 0) .dict) (.havoc 31))) (.seq (.store 30 .dyn 31) (.seq (.bind 13 30) (.alloc 30 (.sh 0) .dict)))) (.seq (.seq (.havoc 31) (.seq (.store 30 .dyn 31) (.const 30))) (.seq (.seq (.const 31) (.alloc 32 .nums (.lit [("", 30), ("", 31)]))) (.seq (.const 30) (.const 30))))))) (.seq (.seq (.seq (.seq (.seq (.alloc 30 (.sh 0) .dict) (.seq (.havoc 31) (.store 30 .dyn 31))) (.seq (.alloc 30 (.sh 0) .dict) (.seq (.havoc 31) (.store 30 .dyn 31)))) (.seq (.seq (.bind 12 30) (.seq (.const 30) (.arith 30))) (.seq (.seq (.ite (.seq (.seq (.alloc 30 (.sh 0) .dict) (.seq (.havoc 31) (.store 30 .dyn 31))) (.seq (.seq (.alloc 30 (.sh 0) .dict) (.havoc 31)) (.seq (.store 30 .dyn 31) (.bind 12 30)))) .skip) (.const 30)) (.seq (.const 30) (.alloc 30 (.sh 0) .dict))))) (.seq (.seq (.seq (.havoc 31) (.seq (.store 30 .dyn 31) (.const 30))) (.seq (.alloc 30 (.sh 0) .dict) (.seq (.havoc 31) (.store 30 .dyn 31)))) (.seq (.seq (.bind 11 30) (.seq (.ite (.seq (.seq (.seq (.const 30) (.const 30)) (.seq (.arith 30) (.seq (.const 30) (.alloc 30 (.sh 0) .dict)))) (.seq (.seq (.havoc 31) (.seq (.store 30 .dyn 31) (.alloc 30 (.sh 0) .dict))) (.seq (.havoc 31) (.seq (.store 30 .dyn 31) (.bind 10 30))))) (.seq (.seq (.alloc 30 (.sh 0) .dict) (.havoc 31)) (.seq (.store 30 .dyn 31) (.bind 10 30)))) (.const 30))) (.seq (.seq (.arith 30) (.const 30)) (.seq (.const 30) (.alloc 30 (.sh 0) .dict)))))) (.seq (.seq (.seq (.seq (.havoc 31) (.seq (.store 30 .dyn 31) (.alloc 30 (.sh 0) .dict))) (.seq (.havoc 31) (.seq (.store 30 .dyn 31) (.const 30)))) (.seq (.seq (.const 30) (.seq (.arith 30) (.alloc 30 (.sh 0) .dict))) (.seq (.seq (.havoc 31) (.store 30 .dyn 31)) (.seq (.bind 9 30) (.ite (.seq (.seq (.seq (.seq (.const 30) (.seq (.alloc 30 (.sh 0) .dict) (.havoc 31))) (.seq (.seq (.store 30 .dyn 31) (.const 30)) (.seq (.alloc 30 (.sh 0) .dict) (.havoc 31)))) (.seq (.seq (.store 30 .dyn 31) (.seq (.alloc 30 (.sh 0) .dict) (.havoc 31))) (.seq (.seq (.store 30 .dyn 31) (.const 30)) (.seq (.alloc 30 (.sh 0) .dict) (.havoc 31))))) (.seq (.seq (.seq (.store 30 .dyn 31) (.seq (.const 30) (.alloc 30 (.sh 0) .dict))) (.seq (.seq (.havoc 31) (.store 30 .dyn 31)) (.seq (.alloc 30 (.sh 0) .dict) (.havoc 31)))) (.seq (.seq (.seq (.store 30 .dyn 31) (.const 30)) (.seq (.const 30) (.arith 30))) (.seq (.seq (.alloc 30 (.sh 0) .dict) (.havoc 31)) (.seq (.store 30 .dyn 31) (.bind 8 30)))))) (.seq (.seq (.alloc 30 (.sh 0) .dict) (.havoc 31)) (.seq (.store 30 .dyn 31) (.bind 8 30)))))))) (.seq (.seq (.seq (.ite (.arith 30) (.alloc 30 (.sh 0) (.union [8, 11]))) (.seq (.ite (.arith 31) (.alloc 31 (.sh 0) (.union [30, 12]))) (.ite (.arith 30) (.alloc 30 (.sh 0) (.union [10, 9]))))) (.seq (.seq (.alloc 30 (.sh 0) .dict) (.havoc 31)) (.seq (.store 30 .dyn 31) (.alloc 30 (.sh 0) .dict)))) (.seq (.seq (.havoc 31) (.seq (.store 30 .dyn 31) (.const 30))) (.seq (.seq (.alloc 30 (.sh 0) .dict) (.havoc 31)) (.seq (.store 30 .dyn 31) (.ret 30))))))))),
  (.lv (.sh 0))⟩

/-- bermuda/plot.py:538  params: triangle, title, mark_scaler, <globals> -/
def f272 : Fn := ⟨"bermuda.plot:_plot_data_completeness", [0, 1, 2, 3], [],
  (.seq (.seq (.seq (.seq (.seq (.seq (.const 2) (.seq (.ite (.seq (.load 8 0 .dyn) (.load 9 8 .dyn)) (.call 9 331 [0])) (.const 8))) (.seq (.seq (.ite (.seq (.const 8) (.seq (.const 8) .raise)) .skip) (.load 8 0 .dyn)) (.seq (.load 9 8 .dyn) (.const 8)))) (.seq (.seq (.ite (.seq (.const 8) (.seq (.const 8) .raise)) .skip) (.seq (.call 8 266 [0]) (.bind 7 8))) (.seq (.seq (.alloc 8 (.sh 0) .dict) (.havoc 9)) (.seq (.store 8 .dyn 9) (.bind 6 8))))) (.seq (.seq (.seq (.call 8 288 [0]) (.seq (.alloc 8 (.sh 0) .dict) (.havoc 9))) (.seq (.seq (.store 8 .dyn 9) (.bind 5 8)) (.seq (.alloc 8 (.sh 0) .dict) (.havoc 9)))) (.seq (.seq (.seq (.store 8 .dyn 9) (.const 8)) (.seq (.alloc 8 (.sh 0) .dict) (.havoc 9))) (.seq (.seq (.store 8 .dyn 9) (.alloc 8 (.sh 0) .dict)) (.seq (.havoc 9) (.store 8 .dyn 9)))))) (.seq (.seq (.seq (.seq (.const 8) (.seq (.const 8) (.arith 8))) (.seq (.seq (.arith 8) (.const 8)) (.seq (.alloc 8 (.sh 0) .dict) (.havoc 9)))) (.seq (.seq (.store 8 .dyn 9) (.seq (.const 8) (.const 8))) (.seq (.seq (.alloc 8 (.sh 0) .dict) (.havoc 9)) (.seq (.store 8 .dyn 9) (.const 8))))) (.seq (.seq (.seq (.alloc 8 (.sh 0) .dict) (.seq (.havoc 9) (.store 8 .dyn 9))) (.seq (.seq (.alloc 8 (.sh 0) .dict) (.havoc 9)) (.seq (.store 8 .dyn 9) (.const 8)))) (.seq (.seq (.seq (.const 8) (.const 8)) (.seq (.const 8) (.const 8))) (.seq (.seq (.alloc 8 (.sh 0) .dict) (.havoc 9)) (.seq (.store 8 .dyn 9) (.alloc 8 (.sh 0) .dict))))))) (.seq (.seq (.seq (.seq (.seq (.havoc 9) (.seq (.store 8 .dyn 9) (.const 8))) (.seq (.seq (.const 8) (.const 8)) (.seq (.alloc 8 (.sh 0) .dict) (.havoc 9)))) (.seq (.seq (.store 8 .dyn 9) (.seq (.const 8) (.alloc 8 (.sh 0) .dict))) (.seq (.seq (.havoc 9) (.store 8 .dyn 9)) (.seq (.const 8) (.const 8))))) (.seq (.seq (.seq (.const 8) (.seq (.alloc 8 (.sh 0) .dict) (.havoc 9))) (.seq (.seq (.store 8 .dyn 9) (.alloc 8 (.sh 0) .dict)) (.seq (.havoc 9) (.store 8 .dyn 9)))) (.seq (.seq (.seq (.const 8) (.const 8)) (.seq (.alloc 8 (.sh 0) .dict) (.havoc 9))) (.seq (.seq (.store 8 .dyn 9) (.const 9)) (.seq (.const 9) (.alloc 9 (.sh 0) .dict)))))) (.seq (.seq (.seq (.seq (.havoc 10) (.seq (.store 9 .dyn 10) (.const 10))) (.seq (.seq (.const 10) (.alloc 10 (.sh 0) .dict)) (.seq (.havoc 11) (.store 10 .dyn 11)))) (.seq (.seq (.const 11) (.seq (.const 11) (.alloc 11 (.sh 0) .dict))) (.seq (.seq (.havoc 12) (.store 11 .dyn 12)) (.seq (.const 12) (.const 12))))) (.seq (.seq (.seq (.alloc 12 (.sh 0) .dict) (.seq (.havoc 13) (.store 12 .dyn 13))) (.seq (.seq (.alloc 13 (.sh 1) (.lit [("", 8), ("", 9), ("", 10), ("", 11), ("", 12)])) (.alloc 8 (.sh 0) .dict)) (.seq (.havoc 9) (.store 8 .dyn 9)))) (.seq (.seq (.seq (.alloc 8 (.sh 0) .dict) (.havoc 9)) (.seq (.store 8 .dyn 9) (.bind 4 8))) (.seq (.seq (.alloc 8 (.sh 0) .dict) (.havoc 9)) (.seq (.store 8 .dyn 9) (.ret 8)))))))),
  (.lv (.sh 0))⟩

/-- bermuda/plot.py:1514  params: triangle, axis_metrics, title, uncertainty, mark_scaler, show_points, <globals> -/
def f273 : Fn := ⟨"bermuda.plot:_plot_drip", [0, 1, 2, 3, 4, 5, 6], [],
  (.seq (.seq (.seq (.seq (.seq (.seq (.seq (.const 3) (.const 4)) (.seq (.const 5) (.seq (.alloc 28 (.sh 0) (.union [1])) (.load 29 28 .dyn)))) (.seq (.seq (.alloc 28 (.sh 0) (.union [29])) (.seq (.load 29 28 .dyn) (.load 30 29 .dyn))) (.seq (.bind 27 30) (.seq (.load 30 29 .dyn) (.bind 26 30))))) (.seq (.seq (.seq (.load 29 28 .dyn) (.seq (.load 28 29 .dyn) (.bind 25 28))) (.seq (.load 28 29 .dyn) (.seq (.bind 24 28) (.call 28 286 [27])))) (.seq (.seq (.bind 23 28) (.seq (.call 28 286 [26]) (.bind 22 28))) (.seq (.call 28 288 [0, 1]) (.seq (.alloc 28 (.sh 0) .dict) (.havoc 29)))))) (.seq (.seq (.seq (.seq (.store 28 .dyn 29) (.seq (.bind 21 28) (.ite (.seq (.const 28) (.bind 29 28)) (.seq (.const 28) (.bind 29 28))))) (.seq (.bind 20 29) (.seq (.ite (.seq (.const 28) (.bind 29 28)) (.seq (.const 28) (.bind 29 28))) (.bind 19 29)))) (.seq (.seq (.ite (.seq (.seq (.call 28 318 [0]) (.seq (.const 28) (.const 28))) (.seq (.arith 28) (.seq (.ite (.seq (.const 28) (.bind 29 28)) (.seq (.const 28) (.bind 29 28))) (.bind 18 29)))) (.seq (.seq (.ite (.seq (.load 28 0 .dyn) (.load 29 28 .dyn)) (.call 29 344 [0])) (.seq (.const 28) (.const 28))) (.seq (.arith 28) (.seq (.ite (.seq (.const 28) (.bind 29 28)) (.seq (.const 28) (.bind 29 28))) (.bind 18 29))))) (.seq (.const 28) (.alloc 28 (.sh 0) .dict))) (.seq (.havoc 29) (.seq (.store 28 .dyn 29) (.alloc 28 (.sh 0) .dict))))) (.seq (.seq (.seq (.havoc 29) (.seq (.store 28 .dyn 29) (.bind 17 28))) (.seq (.const 28) (.seq (.alloc 28 (.sh 0) .dict) (.havoc 29)))) (.seq (.seq (.store 28 .dyn 29) (.seq (.bind 16 28) (.const 28))) (.seq (.alloc 29 .nums (.lit [("", 28)])) (.seq (.alloc 28 (.sh 0) .dict) (.havoc 29))))))) (.seq (.seq (.seq (.seq (.seq (.store 28 .dyn 29) (.seq (.bind 15 28) (.alloc 28 (.sh 0) .dict))) (.seq (.havoc 29) (.seq (.store 28 .dyn 29) (.const 28)))) (.seq (.seq (.alloc 28 (.sh 0) .dict) (.seq (.havoc 29) (.store 28 .dyn 29))) (.seq (.alloc 28 (.sh 0) .dict) (.seq (.havoc 29) (.store 28 .dyn 29))))) (.seq (.seq (.seq (.const 28) (.seq (.alloc 28 (.sh 0) .dict) (.havoc 29))) (.seq (.store 28 .dyn 29) (.seq (.alloc 28 (.sh 0) .dict) (.havoc 29)))) (.seq (.seq (.store 28 .dyn 29) (.seq (.bind 14 28) (.alloc 28 (.sh 0) .dict))) (.seq (.havoc 29) (.seq (.store 28 .dyn 29) (.alloc 28 (.sh 0) .dict)))))) (.seq (.seq (.seq (.seq (.havoc 29) (.seq (.store 28 .dyn 29) (.const 28))) (.seq (.alloc 28 (.sh 0) .dict) (.seq (.havoc 29) (.store 28 .dyn 29)))) (.seq (.seq (.alloc 28 (.sh 0) .dict) (.seq (.havoc 29) (.store 28 .dyn 29))) (.seq (.bind 13 28) (.seq (.alloc 28 (.sh 0) .dict) (.havoc 29))))) (.seq (.seq (.seq (.store 28 .dyn 29) (.seq (.alloc 28 (.sh 0) .dict) (.havoc 29))) (.seq (.store 28 .dyn 29) (.seq (.const 28) (.alloc 28 (.sh 0) .dict)))) (.seq (.seq (.havoc 29) (.seq (.store 28 .dyn 29) (.alloc 28 (.sh 0) .dict))) (.seq (.havoc 29) (.seq (.store 28 .dyn 29) (.bind 12 28)))))))) (.seq (.seq (.seq (.seq (.seq (.seq (.alloc 28 (.sh 0) .dict) (.seq (.havoc 29) (.store 28 .dyn 29))) (.seq (.const 28) (.seq (.alloc 28 (.sh 0) .dict) (.havoc 29)))) (.seq (.seq (.store 28 .dyn 29) (.seq (.const 28) (.const 28))) (.seq (.const 28) (.seq (.alloc 28 (.sh 0) .dict) (.havoc 29))))) (.seq (.seq (.seq (.store 28 .dyn 29) (.seq (.const 28) (.const 28))) (.seq (.const 28) (.seq (.alloc 28 (.sh 0) .dict) (.havoc 29)))) (.seq (.seq (.store 28 .dyn 29) (.seq (.const 28) (.const 28))) (.seq (.alloc 28 (.sh 0) .dict) (.seq (.havoc 29) (.store 28 .dyn 29)))))) (.seq (.seq (.seq (.seq (.const 29) (.seq (.const 29) (.alloc 29 (.sh 0) .dict))) (.seq (.havoc 30) (.seq (.store 29 .dyn 30) (.const 30)))) (.seq (.seq (.const 30) (.seq (.alloc 30 (.sh 0) .dict) (.havoc 31))) (.seq (.store 30 .dyn 31) (.seq (.const 31) (.const 31))))) (.seq (.seq (.seq (.alloc 31 (.sh 0) .dict) (.seq (.havoc 32) (.store 31 .dyn 32))) (.seq (.const 32) (.seq (.const 32) (.alloc 32 (.sh 0) .dict)))) (.seq (.seq (.havoc 33) (.seq (.store 32 .dyn 33) (.const 33))) (.seq (.const 33) (.seq (.alloc 33 (.sh 0) .dict) (.havoc 34))))))) (.seq (.seq (.seq (.seq (.seq (.store 33 .dyn 34) (.seq (.alloc 34 (.sh 1) (.lit [("", 28), ("", 29), ("", 30), ("", 31), ("", 32), ("", 33)])) (.alloc 28 (.sh 0) .dict))) (.seq (.havoc 29) (.seq (.store 28 .dyn 29) (.bind 11 28)))) (.seq (.seq (.const 28) (.seq (.const 28) (.alloc 28 (.sh 0) .dict))) (.seq (.havoc 29) (.seq (.store 28 .dyn 29) (.const 28))))) (.seq (.seq (.seq (.alloc 28 (.sh 0) .dict) (.seq (.havoc 29) (.store 28 .dyn 29))) (.seq (.bind 10 28) (.seq (.ite (.seq (.seq (.seq (.const 28) (.const 28)) (.seq (.arith 28) (.seq (.const 28) (.alloc 28 (.sh 0) .dict)))) (.seq (.seq (.havoc 29) (.seq (.store 28 .dyn 29) (.alloc 28 (.sh 0) .dict))) (.seq (.havoc 29) (.seq (.store 28 .dyn 29) (.bind 9 28))))) (.seq (.seq (.alloc 28 (.sh 0) .dict) (.havoc 29)) (.seq (.store 28 .dyn 29) (.bind 9 28)))) (.const 28)))) (.seq (.seq (.arith 28) (.seq (.const 28) (.const 28))) (.seq (.alloc 28 (.sh 0) .dict) (.seq (.havoc 29) (.store 28 .dyn 29)))))) (.seq (.seq (.seq (.seq (.alloc 28 (.sh 0) .dict) (.seq (.havoc 29) (.store 28 .dyn 29))) (.seq (.const 28) (.seq (.const 28) (.arith 28)))) (.seq (.seq (.alloc 28 (.sh 0) .dict) (.seq (.havoc 29) (.store 28 .dyn 29))) (.seq (.bind 8 28) (.seq (.ite (.seq (.seq (.seq (.seq (.const 28) (.seq (.alloc 28 (.sh 0) .dict) (.havoc 29))) (.seq (.store 28 .dyn 29) (.seq (.const 28) (.alloc 28 (.sh 0) .dict)))) (.seq (.seq (.havoc 29) (.seq (.store 28 .dyn 29) (.const 28))) (.seq (.seq (.const 28) (.alloc 28 (.sh 0) .dict)) (.seq (.havoc 29) (.store 28 .dyn 29))))) (.seq (.seq (.seq (.const 28) (.seq (.alloc 28 (.sh 0) .dict) (.havoc 29))) (.seq (.seq (.store 28 .dyn 29) (.alloc 28 (.sh 0) .dict)) (.seq (.havoc 29) (.store 28 .dyn 29)))) (.seq (.seq (.const 28) (.seq (.const 28) (.arith 28))) (.seq (.seq (.alloc 28 (.sh 0) .dict) (.havoc 29)) (.seq (.store 28 .dyn 29) (.bind 7 28)))))) (.seq (.seq (.alloc 28 (.sh 0) .dict) (.havoc 29)) (.seq (.store 28 .dyn 29) (.bind 7 28)))) (.ite (.arith 28) (.alloc 28 (.sh 0) (.union [7, 10]))))))) (.seq (.seq (.seq (.ite (.arith 28) (.alloc 28 (.sh 0) (.union [9, 8]))) (.seq (.alloc 28 (.sh 0) .dict) (.havoc 29))) (.seq (.store 28 .dyn 29) (.seq (.alloc 28 (.sh 0) .dict) (.havoc 29)))) (.seq (.seq (.store 28 .dyn 29) (.seq (.const 28) (.alloc 28 (.sh 0) .dict))) (.seq (.havoc 29) (.seq (.store 28 .dyn 29) (.ret 28))))))))),
  (.lv (.sh 0))⟩

/-- bermuda/plot.py:797  params: triangle, metric, name, title, uncertainty, uncertainty_type, mark_scaler, n_lines, seed, <globals> -/
def f274 : Fn := ⟨"bermuda.plot:_plot_growth_curve", [0, 1, 2, 3, 4, 5, 6, 7, 8, 9], [],
  (.seq (.seq (.seq (.seq (.seq (.seq (.seq (.const 2) (.seq (.const 4) (.const 5))) (.seq (.const 6) (.seq (.const 7) (.const 8)))) (.seq (.seq (.call 28 286 [2]) (.seq (.bind 27 28) (.const 28))) (.seq (.arith 28) (.seq (.ite (.seq (.seq (.seq (.call 28 128 [0, 7]) (.bind 26 28)) (.seq (.alloc 28 (.sh 0) .dict) (.seq (.store 28 .dyn 1) (.const 29)))) (.seq (.seq (.call 30 288 [26, 28, 29]) (.alloc 28 (.sh 0) .dict)) (.seq (.havoc 29) (.seq (.store 28 .dyn 29) (.bind 25 28))))) (.seq (.seq (.alloc 28 (.sh 0) .dict) (.seq (.store 28 .dyn 1) (.call 29 288 [0, 28]))) (.seq (.seq (.alloc 28 (.sh 0) .dict) (.havoc 29)) (.seq (.store 28 .dyn 29) (.bind 25 28))))) (.ite (.seq (.load 28 0 .dyn) (.load 29 28 .dyn)) (.call 29 344 [0])))))) (.seq (.seq (.seq (.const 28) (.seq (.const 28) (.arith 28))) (.seq (.ite (.seq (.const 28) (.bind 29 28)) (.seq (.const 28) (.bind 29 28))) (.seq (.bind 24 29) (.const 28)))) (.seq (.seq (.alloc 28 (.sh 0) .dict) (.seq (.havoc 29) (.store 28 .dyn 29))) (.seq (.seq (.const 28) (.const 28)) (.seq (.alloc 28 (.sh 0) .dict) (.havoc 29)))))) (.seq (.seq (.seq (.seq (.store 28 .dyn 29) (.seq (.const 28) (.alloc 28 (.sh 0) .dict))) (.seq (.havoc 29) (.seq (.store 28 .dyn 29) (.bind 23 28)))) (.seq (.seq (.const 28) (.seq (.alloc 28 (.sh 0) .dict) (.havoc 29))) (.seq (.store 28 .dyn 29) (.seq (.bind 22 28) (.const 28))))) (.seq (.seq (.seq (.alloc 29 .nums (.lit [("", 28)])) (.seq (.alloc 28 (.sh 0) .dict) (.havoc 29))) (.seq (.store 28 .dyn 29) (.seq (.bind 21 28) (.alloc 28 (.sh 0) .dict)))) (.seq (.seq (.havoc 29) (.seq (.store 28 .dyn 29) (.alloc 28 (.sh 0) .dict))) (.seq (.seq (.havoc 29) (.store 28 .dyn 29)) (.seq (.const 28) (.alloc 28 (.sh 0) .dict))))))) (.seq (.seq (.seq (.seq (.seq (.havoc 29) (.seq (.store 28 .dyn 29) (.alloc 28 (.sh 0) .dict))) (.seq (.havoc 29) (.seq (.store 28 .dyn 29) (.bind 20 28)))) (.seq (.seq (.alloc 28 (.sh 0) .dict) (.seq (.havoc 29) (.store 28 .dyn 29))) (.seq (.alloc 28 (.sh 0) .dict) (.seq (.havoc 29) (.store 28 .dyn 29))))) (.seq (.seq (.seq (.const 28) (.seq (.alloc 28 (.sh 0) .dict) (.havoc 29))) (.seq (.store 28 .dyn 29) (.seq (.alloc 28 (.sh 0) .dict) (.havoc 29)))) (.seq (.seq (.store 28 .dyn 29) (.seq (.bind 19 28) (.alloc 28 (.sh 0) .dict))) (.seq (.seq (.havoc 29) (.store 28 .dyn 29)) (.seq (.const 28) (.alloc 28 (.sh 0) .dict)))))) (.seq (.seq (.seq (.seq (.havoc 29) (.seq (.store 28 .dyn 29) (.alloc 28 (.sh 0) .dict))) (.seq (.havoc 29) (.seq (.store 28 .dyn 29) (.const 28)))) (.seq (.seq (.alloc 28 (.sh 0) .dict) (.seq (.havoc 29) (.store 28 .dyn 29))) (.seq (.seq (.alloc 28 (.sh 0) .dict) (.havoc 29)) (.seq (.store 28 .dyn 29) (.bind 18 28))))) (.seq (.seq (.seq (.alloc 28 (.sh 0) .dict) (.seq (.havoc 29) (.store 28 .dyn 29))) (.seq (.const 28) (.seq (.const 28) (.const 28)))) (.seq (.seq (.alloc 28 (.sh 0) .dict) (.seq (.havoc 29) (.store 28 .dyn 29))) (.seq (.seq (.const 28) (.alloc 28 (.sh 0) .dict)) (.seq (.havoc 29) (.store 28 .dyn 29)))))))) (.seq (.seq (.seq (.seq (.seq (.seq (.alloc 28 (.sh 0) .dict) (.seq (.havoc 29) (.store 28 .dyn 29))) (.seq (.const 28) (.seq (.const 28) (.const 28)))) (.seq (.seq (.const 28) (.seq (.alloc 28 (.sh 0) .dict) (.havoc 29))) (.seq (.store 28 .dyn 29) (.seq (.alloc 28 (.sh 0) .dict) (.havoc 29))))) (.seq (.seq (.seq (.store 28 .dyn 29) (.seq (.const 28) (.const 28))) (.seq (.const 28) (.seq (.alloc 28 (.sh 0) .dict) (.havoc 29)))) (.seq (.seq (.store 28 .dyn 29) (.seq (.const 29) (.const 29))) (.seq (.seq (.alloc 29 (.sh 0) .dict) (.havoc 30)) (.seq (.store 29 .dyn 30) (.const 30)))))) (.seq (.seq (.seq (.seq (.const 30) (.seq (.alloc 30 (.sh 0) .dict) (.havoc 31))) (.seq (.store 30 .dyn 31) (.seq (.const 31) (.const 31)))) (.seq (.seq (.alloc 31 (.sh 0) .dict) (.seq (.havoc 32) (.store 31 .dyn 32))) (.seq (.seq (.const 32) (.const 32)) (.seq (.alloc 32 (.sh 0) .dict) (.havoc 33))))) (.seq (.seq (.seq (.store 32 .dyn 33) (.seq (.alloc 33 (.sh 1) (.lit [("", 28), ("", 29), ("", 30), ("", 31), ("", 32)])) (.alloc 28 (.sh 0) .dict))) (.seq (.havoc 29) (.seq (.store 28 .dyn 29) (.bind 17 28)))) (.seq (.seq (.const 28) (.seq (.alloc 28 (.sh 0) .dict) (.havoc 29))) (.seq (.seq (.store 28 .dyn 29) (.alloc 28 (.sh 0) .dict)) (.seq (.havoc 29) (.store 28 .dyn 29))))))) (.seq (.seq (.seq (.seq (.seq (.bind 16 28) (.seq (.const 28) (.const 28))) (.seq (.alloc 28 (.sh 0) .dict) (.seq (.havoc 29) (.store 28 .dyn 29)))) (.seq (.seq (.alloc 28 (.sh 0) .dict) (.seq (.havoc 29) (.store 28 .dyn 29))) (.seq (.bind 15 28) (.seq (.const 28) (.arith 28))))) (.seq (.seq (.seq (.const 28) (.seq (.const 28) (.alloc 28 (.sh 0) .dict))) (.seq (.havoc 29) (.seq (.store 28 .dyn 29) (.alloc 28 (.sh 0) .dict)))) (.seq (.seq (.havoc 29) (.seq (.store 28 .dyn 29) (.const 28))) (.seq (.seq (.const 28) (.arith 28)) (.seq (.alloc 28 (.sh 0) .dict) (.havoc 29)))))) (.seq (.seq (.seq (.seq (.store 28 .dyn 29) (.seq (.bind 14 28) (.const 28))) (.seq (.arith 28) (.seq (.ite (.bind 29 4) (.bind 29 28)) (.ite (.seq (.seq (.seq (.seq (.seq (.alloc 28 (.sh 0) .dict) (.havoc 29)) (.seq (.store 28 .dyn 29) (.const 28))) (.seq (.seq (.alloc 28 (.sh 0) .dict) (.havoc 29)) (.seq (.store 28 .dyn 29) (.alloc 28 (.sh 0) .dict)))) (.seq (.seq (.seq (.havoc 29) (.store 28 .dyn 29)) (.seq (.const 28) (.alloc 28 (.sh 0) .dict))) (.seq (.seq (.havoc 29) (.store 28 .dyn 29)) (.seq (.alloc 28 (.sh 0) .dict) (.seq (.havoc 29) (.store 28 .dyn 29)))))) (.seq (.seq (.seq (.seq (.bind 13 28) (.const 28)) (.seq (.alloc 28 (.sh 0) .dict) (.havoc 29))) (.seq (.seq (.store 28 .dyn 29) (.const 28)) (.seq (.alloc 28 (.sh 0) .dict) (.havoc 29)))) (.seq (.seq (.seq (.store 28 .dyn 29) (.const 28)) (.seq (.alloc 28 (.sh 0) .dict) (.havoc 29))) (.seq (.seq (.store 28 .dyn 29) (.alloc 28 (.sh 0) .dict)) (.seq (.havoc 29) (.seq (.store 28 .dyn 29) (.bind 11 28))))))) (.seq (.seq (.const 28) (.arith 28)) (.seq (.ite (.bind 29 4) (.bind 29 28)) (.ite (.seq (.seq (.seq (.seq (.const 28) (.alloc 28 (.sh 0) .dict)) (.seq (.havoc 29) (.store 28 .dyn 29))) (.seq (.seq (.const 28) (.alloc 28 (.sh 0) .dict)) (.seq (.havoc 29) (.store 28 .dyn 29)))) (.seq (.seq (.seq (.const 28) (.const 28)) (.seq (.alloc 28 (.sh 0) .dict) (.havoc 29))) (.seq (.seq (.store 28 .dyn 29) (.alloc 28 (.sh 0) .dict)) (.seq (.havoc 29) (.seq (.store 28 .dyn 29) (.bind 11 28)))))) (.seq (.seq (.const 28) (.arith 28)) (.seq (.ite (.bind 29 4) (.bind 29 28)) (.ite (.seq (.seq (.alloc 28 (.sh 0) .dict) (.havoc 29)) (.seq (.store 28 .dyn 29) (.seq (.bind 11 28) (.loop [.any, .any, .scalar, .any, .scalar, .scalar, .scalar, .scalar, .scalar, .any, .scalar, (.lv (.sh 0)), .scalar, .scalar, (.lv (.sh 0)), (.lv (.sh 0)), (.lv (.sh 0)), (.lv (.sh 0)), (.lv (.sh 0)), (.lv (.sh 0)), (.lv (.sh 0)), (.lv (.sh 0)), (.lv (.sh 0)), (.lv (.sh 0)), .scalar, (.lv (.sh 0)), .any, .scalar, (.lv (.sh 0)), .any, (.lv (.sh 0)), (.lv (.sh 0)), (.lv (.sh 0)), (.lv (.sh 1))] (.block (.seq (.seq (.seq (.seq (.const 28) (.bind 12 28)) (.seq (.alloc 28 (.sh 0) .dict) (.seq (.havoc 29) (.store 28 .dyn 29)))) (.seq (.seq (.const 28) (.seq (.alloc 28 (.sh 0) .dict) (.havoc 29))) (.seq (.store 28 .dyn 29) (.seq (.const 28) (.alloc 28 (.sh 0) .dict))))) (.seq (.seq (.seq (.havoc 29) (.store 28 .dyn 29)) (.seq (.const 28) (.seq (.alloc 28 (.sh 0) .dict) (.havoc 29)))) (.seq (.seq (.store 28 .dyn 29) (.seq (.const 28) (.alloc 28 (.sh 0) .dict))) (.seq (.havoc 29) (.seq (.store 28 .dyn 29) (.aug 11 28))))))))))) (.seq (.seq (.alloc 28 (.sh 0) .dict) (.havoc 29)) (.seq (.store 28 .dyn 29) (.bind 11 28))))))))))))) (.seq (.seq (.ite (.seq (.load 28 0 .dyn) (.load 29 28 .dyn)) (.call 29 344 [0])) (.seq (.const 28) (.const 28))) (.seq (.seq (.arith 28) (.ite (.seq (.const 28) (.bind 10 28)) (.seq (.const 28) (.bind 10 28)))) (.seq (.ite (.arith 28) (.alloc 28 (.sh 0) (.union [11, 16]))) (.ite (.arith 29) (.alloc 29 (.sh 0) (.union [28, 15]))))))) (.seq (.seq (.seq (.alloc 28 (.sh 0) .dict) (.seq (.havoc 29) (.store 28 .dyn 29))) (.seq (.alloc 28 (.sh 0) .dict) (.seq (.havoc 29) (.store 28 .dyn 29)))) (.seq (.seq (.alloc 28 (.sh 0) .dict) (.seq (.havoc 29) (.store 28 .dyn 29))) (.seq (.seq (.alloc 28 (.sh 0) .dict) (.havoc 29)) (.seq (.store 28 .dyn 29) (.ret 28))))))))),
  (.lv (.sh 0))⟩

def chunk3 : List Fn := [f220, f221, f222, f223, f224, f225, f226, f227, f228, f229, f230, f231, f232, f233, f234, f235, f236, f237, f238, f239, f240, f241, f242, f243, f244, f245, f246, f247, f248, f249, f250, f251, f252, f253, f254, f255, f256, f257, f258, f259, f260, f261, f262, f263, f264, f265, f266, f267, f268, f269, f270, f271, f272, f273, f274]

/-- every function of this chunk respects the discipline (re-proved against today's source) -/
theorem chunk3_disciplined : chunk3.all (writesOnlyFresh sums) = true :=
  disciplined_of_fast (by decide +kernel)

end Bermuda.Generated.HeapIR
