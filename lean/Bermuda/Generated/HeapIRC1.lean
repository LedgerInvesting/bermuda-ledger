-- GENERATED by harness/translate_c03ir.py from /repo -- do not edit
import Bermuda.Generated.HeapIRSums
import Bermuda.Lemmas.HeapIRFast
namespace Bermuda.Generated.HeapIR
open Bermuda.HeapIR

/-- bermuda/io/array.py:34  params: df, field, period_resolution, eval_resolution, dev_lag_from_period_end, metadata, <globals> -/
def f134 : Fn := ⟨"bermuda.io.array:array_data_frame_to_triangle@Triangle.from_array_data_frame", [0, 1, 2, 3, 4, 5, 6], [],
  (.seq (.seq (.seq (.seq (.seq (.const 1) (.const 2)) (.seq (.const 3) (.seq (.const 4) (.const 17)))) (.seq (.seq (.alloc 17 .nums .dict) (.load 18 0 .dyn)) (.seq (.load 19 18 .dyn) (.seq (.const 18) (.load 18 19 .dyn))))) (.seq (.seq (.seq (.const 18) (.store 17 .dyn 18)) (.seq (.alloc 17 (.sh 0) .dict) (.seq (.havoc 18) (.store 17 .dyn 18)))) (.seq (.seq (.bind 0 17) (.const 17)) (.seq (.load 17 0 .dyn) (.seq (.const 17) (.alloc 17 (.sh 0) .dict)))))) (.seq (.seq (.seq (.seq (.havoc 18) (.store 17 .dyn 18)) (.seq (.const 18) (.seq (.store 0 .dyn 17) (.const 17)))) (.seq (.seq (.arith 17) (.ite (.seq (.seq (.seq (.seq (.load 17 0 .dyn) (.load 18 17 .dyn)) (.seq (.const 17) (.seq (.load 17 18 .dyn) (.const 17)))) (.seq (.seq (.arith 17) (.seq (.ite (.seq (.const 17) (.seq (.const 17) .raise)) .skip) (.const 17))) (.seq (.load 17 0 .dyn) (.seq (.load 18 17 .dyn) (.load 17 18 .dyn))))) (.seq (.seq (.seq (.const 18) (.seq (.load 18 17 .dyn) (.const 17))) (.seq (.load 17 0 .dyn) (.seq (.load 19 17 .dyn) (.load 17 19 .dyn)))) (.seq (.seq (.const 19) (.seq (.load 19 17 .dyn) (.call 17 57 [18, 19]))) (.seq (.const 17) (.seq (.const 17) (.bind 2 17)))))) .skip)) (.seq (.const 17) (.seq (.arith 17) (.ite (.«try» (.seq (.seq (.alloc 17 .nums .dict) (.seq (.load 18 0 .dyn) (.load 19 18 .dyn))) (.seq (.const 18) (.seq (.ite (.bind 18 19) (.alloc 18 (.sh 0) (.union [19]))) (.loop [(.lv (.sh 0)), .scalar, .scalar, .scalar, .scalar, .any, .any, .scalar, .scalar, .scalar, .scalar, .scalar, .scalar, .scalar, .scalar, .scalar, .any, (.lv .nums), .any, .any] (.seq (.seq (.load 19 18 .dyn) (.bind 16 19)) (.seq (.const 19) (.store 17 .dyn 19))))))) (.seq (.seq (.const 17) (.const 17)) (.seq (.const 17) (.bind 3 2)))) .skip))))) (.seq (.seq (.seq (.const 17) (.arith 17)) (.seq (.ite (.seq (.seq (.alloc 17 (.sh 0) (.lit [])) (.call 18 45 [])) (.seq (.merge 17 18) (.bind 5 17))) .skip) (.seq (.alloc 17 (.sh 2) .dict) (.bind 15 17)))) (.seq (.seq (.alloc 17 (.sh 0) .dict) (.seq (.havoc 18) (.store 17 .dyn 18))) (.seq (.loop [(.lv (.sh 0)), .scalar, .scalar, .scalar, .scalar, .any, .any, (.lv .num), (.lv .num), .any, .any, (.lv .num), .any, .any, .any, (.lv (.sh 2)), .any, (.lv (.sh 0)), .any, .any, (.lv (.sh 0)), (.lv (.sh 0)), (.lv (.sh 0)), (.lv (.sh 0)), (.lv (.sh 1)), (.lv (.sh 0)), (.lv (.sh 0))] (.block (.seq (.seq (.seq (.seq (.load 18 17 .dyn) (.load 19 18 .dyn)) (.seq (.bind 14 19) (.seq (.load 19 18 .dyn) (.bind 13 19)))) (.seq (.seq (.const 18) (.seq (.load 18 13 .dyn) (.bind 12 18))) (.seq (.const 18) (.seq (.load 18 13 .dyn) (.call 19 56 [18, 2]))))) (.seq (.seq (.seq (.const 18) (.const 18)) (.seq (.arith 18) (.seq (.bind 11 18) (.const 18)))) (.seq (.seq (.bind 7 18) (.seq (.load 18 0 .dyn) (.load 19 18 .dyn))) (.seq (.const 18) (.seq (.ite (.bind 18 19) (.alloc 18 (.sh 0) (.union [19]))) (.loop [(.lv (.sh 0)), .scalar, .scalar, .scalar, .scalar, .any, .any, (.lv .num), (.lv .num), .any, .any, (.lv .num), .any, .any, .any, (.lv (.sh 2)), .any, (.lv (.sh 0)), .any, .any, (.lv (.sh 0)), (.lv (.sh 0)), (.lv (.sh 0)), (.lv (.sh 0)), (.lv (.sh 1)), (.lv (.sh 0)), (.lv (.sh 0))] (.block (.seq (.seq (.seq (.seq (.load 19 18 .dyn) (.bind 10 19)) (.seq (.const 19) (.arith 19))) (.seq (.seq (.ite (.seq (.const 19) (.bind 7 19)) .skip) (.load 19 13 .dyn)) (.seq (.bind 9 19) (.const 19)))) (.seq (.seq (.seq (.arith 19) (.ite (.bind 20 4) (.bind 20 19))) (.seq (.ite (.seq (.call 19 56 [11, 7]) (.bind 8 19)) (.seq (.seq (.call 19 56 [12, 7]) (.const 19)) (.seq (.const 19) (.seq (.arith 19) (.bind 8 19))))) (.const 19))) (.seq (.seq (.const 19) (.ite (.seq (.seq (.seq (.seq (.seq (.alloc 19 (.sh 0) .dict) (.load 20 13 .dyn)) (.seq (.store 19 .dyn 20) (.const 20))) (.seq (.seq (.load 20 12 .dyn) (.load 21 20 .dyn)) (.seq (.load 20 12 .dyn) (.seq (.load 21 20 .dyn) (.load 20 12 .dyn))))) (.seq (.seq (.seq (.load 21 20 .dyn) (.const 20)) (.seq (.load 21 11 .dyn) (.seq (.load 22 21 .dyn) (.load 21 11 .dyn)))) (.seq (.seq (.load 22 21 .dyn) (.load 21 11 .dyn)) (.seq (.load 22 21 .dyn) (.seq (.const 21) (.load 22 8 .dyn)))))) (.seq (.seq (.seq (.seq (.load 23 22 .dyn) (.load 22 8 .dyn)) (.seq (.load 23 22 .dyn) (.seq (.load 22 8 .dyn) (.load 23 22 .dyn)))) (.seq (.seq (.const 22) (.const 23)) (.seq (.arith 23) (.seq (.ite (.bind 23 19) (.seq (.alloc 24 (.sh 0) .dict) (.bind 23 24))) (.const 24))))) (.seq (.seq (.seq (.arith 24) (.ite (.bind 24 5) (.seq (.seq (.alloc 25 (.sh 0) (.lit [])) (.call 26 45 [])) (.seq (.merge 25 26) (.bind 24 25))))) (.seq (.call 25 17 [12, 11, 8, 19, 5]) (.seq (.alloc 19 (.sh 0) (.lit [("", 20)])) (.alloc 20 (.sh 0) (.lit [("", 21)]))))) (.seq (.seq (.alloc 21 (.sh 0) (.lit [("", 22)])) (.alloc 22 (.sh 0) (.lit [("", 24)]))) (.seq (.alloc 24 (.sh 1) (.lit [("", 19), ("", 20), ("", 21), ("", 23), ("", 22)])) (.seq (.store 15 .dyn 24) (.const 19))))))) .skip)) (.seq (.const 19) (.seq (.arith 19) (.ite (.aug 7 3) .skip))))))))))))))) (.seq (.call 17 307 [15]) (.ret 17))))))),
  (.lv (.sh 2))⟩

/-- bermuda/io/array.py:13  params: dfs, fields, kwargs, <globals> -/
def f135 : Fn := ⟨"bermuda.io.array:array_triangle_builder", [0, 1, 2, 3], [],
  (.seq (.seq (.seq (.seq (.const 7) (.const 7)) (.seq (.const 7) (.arith 7))) (.seq (.seq (.const 7) (.ite (.seq (.const 7) (.seq (.const 7) .raise)) .skip)) (.seq (.const 7) (.seq (.load 7 0 .dyn) (.const 8))))) (.seq (.seq (.seq (.const 8) (.load 9 2 .dyn)) (.seq (.call 10 133 [7, 8, 9]) (.seq (.bind 4 10) (.const 7)))) (.seq (.seq (.ite (.bind 7 0) (.alloc 7 (.sh 0) (.union [0]))) (.const 8)) (.seq (.ite (.bind 8 1) (.alloc 8 (.sh 0) (.union [1]))) (.seq (.loop [.any, .any, .any, .any, (.lv (.sh 2)), .any, .any, .any, .any, .any, (.lv (.sh 2))] (.block (.seq (.seq (.seq (.load 9 7 .dyn) (.bind 6 9)) (.seq (.load 9 8 .dyn) (.bind 5 9))) (.seq (.seq (.load 9 2 .dyn) (.call 10 133 [6, 5, 9])) (.seq (.call 9 412 [4, 10]) (.bind 4 9)))))) (.ret 4)))))),
  (.lv (.sh 2))⟩

/-- bermuda/io/array.py:187  params: value, <globals> -/
def f136 : Fn := ⟨"bermuda.io.array:parse_date", [0, 1], [],
  (.seq (.seq (.seq (.seq (.const 7) (.const 7)) (.seq (.ite (.seq (.const 7) (.ret 7)) .skip) (.seq (.const 7) (.const 7)))) (.seq (.seq (.bind 0 7) (.«try» (.seq (.seq (.alloc 7 (.sh 0) .dict) (.havoc 8)) (.seq (.store 7 .dyn 8) (.seq (.const 7) (.ret 7)))) (.seq (.const 7) (.seq (.const 8) (.alloc 9 .nums (.lit [("", 7), ("", 8)])))))) (.seq (.const 7) (.seq (.const 7) (.ite (.seq (.seq (.const 7) (.const 7)) (.seq (.const 7) (.seq (.const 7) (.ret 7)))) .skip))))) (.seq (.seq (.seq (.const 7) (.const 7)) (.seq (.bind 5 7) (.seq (.ite (.seq (.seq (.seq (.seq (.const 7) (.const 7)) (.seq (.const 7) (.seq (.const 8) (.const 8)))) (.seq (.seq (.const 8) (.alloc 9 .nums (.lit [("", 7), ("", 8)]))) (.seq (.load 7 9 .dyn) (.seq (.bind 4 7) (.load 7 9 .dyn))))) (.seq (.seq (.seq (.bind 6 7) (.const 7)) (.seq (.arith 7) (.seq (.const 7) (.arith 7)))) (.seq (.seq (.const 7) (.seq (.arith 7) (.bind 2 7))) (.seq (.const 7) (.seq (.const 7) (.ret 7)))))) .skip) (.const 7)))) (.seq (.seq (.const 7) (.seq (.bind 5 7) (.ite (.seq (.seq (.seq (.seq (.const 7) (.const 7)) (.seq (.const 7) (.const 8))) (.seq (.seq (.const 8) (.const 8)) (.seq (.alloc 9 .nums (.lit [("", 7), ("", 8)])) (.seq (.load 7 9 .dyn) (.bind 4 7))))) (.seq (.seq (.seq (.load 7 9 .dyn) (.bind 3 7)) (.seq (.const 7) (.arith 7))) (.seq (.seq (.ite (.seq (.const 7) (.bind 8 7)) (.seq (.const 7) (.bind 8 7))) (.bind 2 8)) (.seq (.const 7) (.seq (.const 7) (.ret 7)))))) .skip))) (.seq (.const 7) (.seq (.const 7) .raise))))),
  .scalar⟩

/-- bermuda/io/array.py:126  params: df, evaluation_date, period_resolution, metadata, <globals> -/
def f137 : Fn := ⟨"bermuda.io.array:statics_data_frame_to_triangle", [0, 1, 2, 3, 4], [],
  (.seq (.seq (.seq (.seq (.seq (.const 1) (.const 2)) (.seq (.const 10) (.alloc 10 .nums .dict))) (.seq (.seq (.load 11 0 .dyn) (.load 12 11 .dyn)) (.seq (.const 11) (.seq (.load 11 12 .dyn) (.const 11))))) (.seq (.seq (.seq (.store 10 .dyn 11) (.alloc 10 (.sh 0) .dict)) (.seq (.havoc 11) (.seq (.store 10 .dyn 11) (.bind 0 10)))) (.seq (.seq (.const 10) (.load 10 0 .dyn)) (.seq (.const 10) (.seq (.alloc 10 (.sh 0) .dict) (.havoc 11)))))) (.seq (.seq (.seq (.seq (.store 10 .dyn 11) (.const 11)) (.seq (.store 0 .dyn 10) (.seq (.const 10) (.arith 10)))) (.seq (.seq (.ite (.seq (.seq (.seq (.seq (.load 10 0 .dyn) (.seq (.load 11 10 .dyn) (.const 10))) (.seq (.load 10 11 .dyn) (.seq (.const 10) (.arith 10)))) (.seq (.seq (.ite (.seq (.const 10) (.seq (.const 10) .raise)) .skip) (.seq (.const 10) (.load 10 0 .dyn))) (.seq (.load 11 10 .dyn) (.seq (.load 10 11 .dyn) (.const 11))))) (.seq (.seq (.seq (.load 11 10 .dyn) (.seq (.const 10) (.load 10 0 .dyn))) (.seq (.load 11 10 .dyn) (.seq (.load 10 11 .dyn) (.const 11)))) (.seq (.seq (.load 11 10 .dyn) (.seq (.arith 10) (.load 11 10 .dyn))) (.seq (.seq (.load 10 11 .dyn) (.const 10)) (.seq (.arith 10) (.bind 2 10)))))) .skip) (.const 10)) (.seq (.arith 10) (.seq (.ite (.seq (.seq (.seq (.const 10) (.load 10 0 .dyn)) (.seq (.arith 10) (.call 11 56 [10, 2]))) (.seq (.seq (.const 10) (.const 10)) (.seq (.arith 10) (.bind 1 10)))) .skip) (.const 10))))) (.seq (.seq (.seq (.arith 10) (.ite (.seq (.seq (.alloc 10 (.sh 0) (.lit [])) (.call 11 45 [])) (.seq (.merge 10 11) (.bind 3 10))) .skip)) (.seq (.alloc 10 (.sh 1) .dict) (.seq (.bind 9 10) (.alloc 10 (.sh 0) .dict)))) (.seq (.seq (.havoc 11) (.store 10 .dyn 11)) (.seq (.loop [(.lv (.sh 0)), (.lv .num), (.lv .num), .any, .any, (.lv .num), .any, .any, .any, (.lv (.sh 1)), (.lv (.sh 0)), .any, .any, (.lv .nums), (.lv (.sh 0)), .any, (.lv (.sh 0)), (.lv (.sh 0)), (.lv (.sh 0))] (.block (.seq (.seq (.seq (.seq (.seq (.load 11 10 .dyn) (.seq (.load 12 11 .dyn) (.bind 8 12))) (.seq (.load 12 11 .dyn) (.seq (.bind 7 12) (.const 11)))) (.seq (.seq (.load 11 7 .dyn) (.seq (.bind 6 11) (.const 11))) (.seq (.seq (.load 11 7 .dyn) (.call 12 56 [11, 2])) (.seq (.const 11) (.const 11))))) (.seq (.seq (.seq (.arith 11) (.seq (.bind 5 11) (.const 11))) (.seq (.seq (.ite (.bind 11 7) (.alloc 11 (.sh 0) (.union [7]))) (.ite (.call 12 214 [11]) (.seq (.alloc 12 (.sh 0) .dict) (.seq (.havoc 11) (.store 12 .dyn 11))))) (.seq (.const 11) (.load 11 6 .dyn)))) (.seq (.seq (.load 13 11 .dyn) (.seq (.load 11 6 .dyn) (.load 13 11 .dyn))) (.seq (.seq (.load 11 6 .dyn) (.load 13 11 .dyn)) (.seq (.const 11) (.load 13 5 .dyn)))))) (.seq (.seq (.seq (.seq (.load 14 13 .dyn) (.seq (.load 13 5 .dyn) (.load 14 13 .dyn))) (.seq (.load 13 5 .dyn) (.seq (.load 14 13 .dyn) (.const 13)))) (.seq (.seq (.load 14 1 .dyn) (.seq (.load 15 14 .dyn) (.load 14 1 .dyn))) (.seq (.seq (.load 15 14 .dyn) (.load 14 1 .dyn)) (.seq (.load 15 14 .dyn) (.const 14))))) (.seq (.seq (.seq (.const 15) (.seq (.arith 15) (.ite (.bind 15 12) (.seq (.alloc 16 .nums .dict) (.bind 15 16))))) (.seq (.seq (.const 16) (.arith 16)) (.seq (.ite (.bind 16 3) (.seq (.seq (.alloc 17 (.sh 0) (.lit [])) (.call 18 45 [])) (.seq (.merge 17 18) (.bind 16 17)))) (.call 17 17 [6, 5, 1, 12, 3])))) (.seq (.seq (.alloc 12 .nums (.lit [("", 11)])) (.seq (.alloc 11 .nums (.lit [("", 13)])) (.alloc 13 .nums (.lit [("", 14)])))) (.seq (.seq (.alloc 14 (.sh 0) (.lit [("", 16)])) (.alloc 16 (.sh 0) (.lit [("", 12), ("", 11), ("", 13), ("", 15), ("", 14)]))) (.seq (.store 9 .dyn 16) (.const 11))))))))) (.seq (.call 10 307 [9]) (.ret 10))))))),
  (.lv (.sh 2))⟩

/-- bermuda/io/array.py:126  params: df, evaluation_date, period_resolution, metadata, <globals> -/
def f138 : Fn := ⟨"bermuda.io.array:statics_data_frame_to_triangle@Triangle.from_statics_data_frame", [0, 1, 2, 3, 4], [],
  (.seq (.seq (.seq (.seq (.seq (.const 1) (.const 2)) (.seq (.const 10) (.alloc 10 .nums .dict))) (.seq (.seq (.load 11 0 .dyn) (.load 12 11 .dyn)) (.seq (.const 11) (.seq (.load 11 12 .dyn) (.const 11))))) (.seq (.seq (.seq (.store 10 .dyn 11) (.alloc 10 (.sh 0) .dict)) (.seq (.havoc 11) (.seq (.store 10 .dyn 11) (.bind 0 10)))) (.seq (.seq (.const 10) (.load 10 0 .dyn)) (.seq (.const 10) (.seq (.alloc 10 (.sh 0) .dict) (.havoc 11)))))) (.seq (.seq (.seq (.seq (.store 10 .dyn 11) (.const 11)) (.seq (.store 0 .dyn 10) (.seq (.const 10) (.arith 10)))) (.seq (.seq (.ite (.seq (.seq (.seq (.seq (.load 10 0 .dyn) (.seq (.load 11 10 .dyn) (.const 10))) (.seq (.load 10 11 .dyn) (.seq (.const 10) (.arith 10)))) (.seq (.seq (.ite (.seq (.const 10) (.seq (.const 10) .raise)) .skip) (.seq (.const 10) (.load 10 0 .dyn))) (.seq (.load 11 10 .dyn) (.seq (.load 10 11 .dyn) (.const 11))))) (.seq (.seq (.seq (.load 11 10 .dyn) (.seq (.const 10) (.load 10 0 .dyn))) (.seq (.load 11 10 .dyn) (.seq (.load 10 11 .dyn) (.const 11)))) (.seq (.seq (.load 11 10 .dyn) (.seq (.arith 10) (.load 11 10 .dyn))) (.seq (.seq (.load 10 11 .dyn) (.const 10)) (.seq (.arith 10) (.bind 2 10)))))) .skip) (.const 10)) (.seq (.arith 10) (.seq (.ite (.seq (.seq (.seq (.const 10) (.load 10 0 .dyn)) (.seq (.arith 10) (.call 11 56 [10, 2]))) (.seq (.seq (.const 10) (.const 10)) (.seq (.arith 10) (.bind 1 10)))) .skip) (.const 10))))) (.seq (.seq (.seq (.arith 10) (.ite (.seq (.seq (.alloc 10 (.sh 0) (.lit [])) (.call 11 45 [])) (.seq (.merge 10 11) (.bind 3 10))) .skip)) (.seq (.alloc 10 (.sh 1) .dict) (.seq (.bind 9 10) (.alloc 10 (.sh 0) .dict)))) (.seq (.seq (.havoc 11) (.store 10 .dyn 11)) (.seq (.loop [(.lv (.sh 0)), (.lv .num), (.lv .num), .any, .any, (.lv .num), .any, .any, .any, (.lv (.sh 1)), (.lv (.sh 0)), .any, .any, (.lv .nums), (.lv (.sh 0)), .any, (.lv (.sh 0)), (.lv (.sh 0)), (.lv (.sh 0))] (.block (.seq (.seq (.seq (.seq (.seq (.load 11 10 .dyn) (.seq (.load 12 11 .dyn) (.bind 8 12))) (.seq (.load 12 11 .dyn) (.seq (.bind 7 12) (.const 11)))) (.seq (.seq (.load 11 7 .dyn) (.seq (.bind 6 11) (.const 11))) (.seq (.seq (.load 11 7 .dyn) (.call 12 56 [11, 2])) (.seq (.const 11) (.const 11))))) (.seq (.seq (.seq (.arith 11) (.seq (.bind 5 11) (.const 11))) (.seq (.seq (.ite (.bind 11 7) (.alloc 11 (.sh 0) (.union [7]))) (.ite (.call 12 214 [11]) (.seq (.alloc 12 (.sh 0) .dict) (.seq (.havoc 11) (.store 12 .dyn 11))))) (.seq (.const 11) (.load 11 6 .dyn)))) (.seq (.seq (.load 13 11 .dyn) (.seq (.load 11 6 .dyn) (.load 13 11 .dyn))) (.seq (.seq (.load 11 6 .dyn) (.load 13 11 .dyn)) (.seq (.const 11) (.load 13 5 .dyn)))))) (.seq (.seq (.seq (.seq (.load 14 13 .dyn) (.seq (.load 13 5 .dyn) (.load 14 13 .dyn))) (.seq (.load 13 5 .dyn) (.seq (.load 14 13 .dyn) (.const 13)))) (.seq (.seq (.load 14 1 .dyn) (.seq (.load 15 14 .dyn) (.load 14 1 .dyn))) (.seq (.seq (.load 15 14 .dyn) (.load 14 1 .dyn)) (.seq (.load 15 14 .dyn) (.const 14))))) (.seq (.seq (.seq (.const 15) (.seq (.arith 15) (.ite (.bind 15 12) (.seq (.alloc 16 .nums .dict) (.bind 15 16))))) (.seq (.seq (.const 16) (.arith 16)) (.seq (.ite (.bind 16 3) (.seq (.seq (.alloc 17 (.sh 0) (.lit [])) (.call 18 45 [])) (.seq (.merge 17 18) (.bind 16 17)))) (.call 17 17 [6, 5, 1, 12, 3])))) (.seq (.seq (.alloc 12 .nums (.lit [("", 11)])) (.seq (.alloc 11 .nums (.lit [("", 13)])) (.alloc 13 .nums (.lit [("", 14)])))) (.seq (.seq (.alloc 14 (.sh 0) (.lit [("", 16)])) (.alloc 16 (.sh 0) (.lit [("", 12), ("", 11), ("", 13), ("", 15), ("", 14)]))) (.seq (.store 9 .dyn 16) (.const 11))))))))) (.seq (.call 10 307 [9]) (.ret 10))))))),
  (.lv (.sh 2))⟩

/-- bermuda/io/array.py:216  params: triangle, field, <globals> -/
def f139 : Fn := ⟨"bermuda.io.array:triangle_to_array_data_frame", [0, 1, 2], [],
  (.seq (.seq (.seq (.seq (.const 1) (.const 11)) (.seq (.ite .skip (.loop [.any, .scalar, .any, .scalar, .scalar, .scalar, .scalar, .scalar, .scalar, .scalar, .any, (.lv .num)] (.block (.seq (.havoc 10) (.seq (.load 11 10 .dyn) (.arith 11)))))) (.seq (.const 11) (.call 12 327 [0, 11])))) (.seq (.seq (.bind 9 12) (.seq (.ite (.seq (.load 11 0 .dyn) (.load 12 11 .dyn)) (.call 12 350 [0])) (.const 11))) (.seq (.const 11) (.seq (.arith 11) (.ite (.seq (.const 11) (.seq (.const 11) .raise)) .skip))))) (.seq (.seq (.seq (.ite (.seq (.load 11 0 .dyn) (.load 12 11 .dyn)) (.call 12 333 [0])) (.ite (.seq (.const 11) (.seq (.const 11) .raise)) .skip)) (.seq (.alloc 11 (.sh 1) .dict) (.seq (.bind 8 11) (.ite (.seq (.load 11 9 .dyn) (.load 12 11 .dyn)) (.call 12 343 [9]))))) (.seq (.seq (.loop [.any, .scalar, .any, .scalar, .any, (.lv (.sh 0)), .any, .any, (.lv (.sh 1)), (.lv (.sh 2)), .any, (.lv (.sh 1)), .any, .any] (.block (.seq (.seq (.seq (.load 11 12 .dyn) (.seq (.load 13 11 .dyn) (.bind 7 13))) (.seq (.seq (.load 13 11 .dyn) (.bind 6 13)) (.seq (.alloc 11 (.sh 0) .dict) (.const 13)))) (.seq (.seq (.const 13) (.seq (.load 13 7 .dyn) (.store 11 .dyn 13))) (.seq (.seq (.bind 5 11) (.loop [.any, .scalar, .any, .scalar, .any, (.lv (.sh 0)), .any, .any, (.lv (.sh 1)), (.lv (.sh 2)), .any, .any, .any, .any] (.block (.seq (.seq (.load 11 6 .dyn) (.seq (.bind 4 11) (.load 11 4 .dyn))) (.seq (.seq (.call 13 26 [4]) (.const 13)) (.seq (.const 13) (.store 5 .dyn 11))))))) (.seq (.store 8 .dyn 5) (.const 11))))))) (.seq (.alloc 11 (.sh 0) .dict) (.havoc 12))) (.seq (.store 11 .dyn 12) (.seq (.bind 3 11) (.ret 3)))))),
  (.lv (.sh 0))⟩

/-- bermuda/io/array.py:239  params: triangle, <globals> -/
def f140 : Fn := ⟨"bermuda.io.array:triangle_to_right_edge_data_frame", [0, 1], [],
  (.seq (.seq (.seq (.seq (.const 4) (.ite (.seq (.load 4 0 .dyn) (.load 5 4 .dyn)) (.call 5 350 [0]))) (.seq (.const 4) (.const 4))) (.seq (.seq (.arith 4) (.ite (.seq (.const 4) (.seq (.const 4) .raise)) .skip)) (.seq (.ite (.seq (.load 4 0 .dyn) (.load 5 4 .dyn)) (.call 5 333 [0])) (.ite (.seq (.const 4) (.seq (.const 4) .raise)) .skip)))) (.seq (.seq (.seq (.alloc 4 (.sh 1) .dict) (.ite (.seq (.load 5 0 .dyn) (.load 6 5 .dyn)) (.call 6 347 [0]))) (.seq (.loop [.any, .any, .scalar, .any, (.lv (.sh 1)), .any, .any, (.lv (.sh 0)), .any] (.seq (.seq (.seq (.load 5 6 .dyn) (.seq (.bind 3 5) (.load 5 3 .dyn))) (.seq (.alloc 7 (.sh 0) (.union [5])) (.seq (.const 5) (.load 5 3 .dyn)))) (.seq (.seq (.load 8 5 .dyn) (.seq (.store 7 .dyn 8) (.const 5))) (.seq (.ite (.seq (.load 5 3 .dyn) (.load 8 5 .dyn)) (.call 8 320 [3])) (.seq (.store 7 .dyn 8) (.store 4 .dyn 7)))))) (.bind 2 4))) (.seq (.seq (.alloc 4 (.sh 0) .dict) (.havoc 5)) (.seq (.store 4 .dyn 5) (.ret 4))))),
  (.lv (.sh 0))⟩

/-- bermuda/io/binary_input.py:80  params: body, <globals> -/
def f141 : Fn := ⟨"bermuda.io.binary_input:_BodyRawIO.__init__", [1, 2], [],
  (.seq (.seq (.alloc 0 (.sh 1) .dict) (.alloc 3 (.sh 0) (.lit [("", 1)]))) (.seq (.store 0 .dyn 3) (.ret 0))),
  (.lv (.sh 1))⟩

/-- bermuda/io/binary_input.py:99  params: self, <globals> -/
def f142 : Fn := ⟨"bermuda.io.binary_input:_BodyRawIO.close", [0, 1], [],
  (.seq (.«try» (.«try» (.seq (.load 2 0 .dyn) (.seq (.load 3 2 .dyn) (.ite (.call 2 142 [3]) (.const 2)))) .raise) (.seq (.const 2) .raise)) (.const 2)),
  .scalar⟩

/-- bermuda/io/binary_input.py:95  params: self, n, <globals> -/
def f143 : Fn := ⟨"bermuda.io.binary_input:_BodyRawIO.read", [0, 1, 2], [],
  (.seq (.seq (.seq (.const 1) (.load 3 0 .dyn)) (.seq (.load 4 3 .dyn) (.seq (.const 3) (.arith 3)))) (.seq (.seq (.const 5) (.seq (.arith 5) (.ite (.bind 6 3) (.bind 6 5)))) (.seq (.ite (.seq (.const 3) (.bind 5 3)) (.bind 5 1)) (.seq (.ite (.call 3 143 [4, 5]) (.const 3)) (.ret 3))))),
  .scalar⟩

/-- bermuda/io/binary_input.py:83  params: self, <globals> -/
def f144 : Fn := ⟨"bermuda.io.binary_input:_BodyRawIO.readable", [0, 1], [],
  (.seq (.const 2) (.ret 2)),
  .scalar⟩

/-- bermuda/io/binary_input.py:106  params: uri, <globals> -/
def f145 : Fn := ⟨"bermuda.io.binary_input:_parse_s3_uri", [0, 1], [],
  (.seq (.seq (.seq (.seq (.const 0) (.seq (.const 7) (.const 8))) (.seq (.const 9) (.seq (.ite (.call 10 29 [0, 7, 8, 9]) (.ite (.call 10 346 [0, 7, 8, 9]) (.const 10))) (.bind 6 10)))) (.seq (.seq (.const 7) (.seq (.const 8) (.ite (.call 9 110 [6, 7, 8]) (.const 9)))) (.seq (.load 7 9 .dyn) (.seq (.bind 5 7) (.load 7 9 .dyn))))) (.seq (.seq (.seq (.bind 4 7) (.seq (.const 7) (.const 7))) (.seq (.const 8) (.seq (.const 9) (.ite (.call 10 110 [7, 8, 9]) (.const 10))))) (.seq (.seq (.load 7 10 .dyn) (.seq (.bind 3 7) (.load 7 10 .dyn))) (.seq (.bind 2 7) (.seq (.alloc 7 (.sh 0) (.lit [("", 3), ("", 2)])) (.ret 7)))))),
  (.lv (.sh 0))⟩

/-- bermuda/io/binary_input.py:247  params: stream, dtype, <globals> -/
def f146 : Fn := ⟨"bermuda.io.binary_input:_read_array", [0, 1, 2], [],
  (.seq (.seq (.seq (.seq (.const 9) (.const 9)) (.seq (.ite (.call 10 143 [0, 9]) (.const 10)) (.seq (.const 9) (.const 10)))) (.seq (.seq (.load 10 9 .dyn) (.bind 7 10)) (.seq (.alloc 9 .nums .dict) (.seq (.loop [.any, .any, .any, .scalar, .scalar, .scalar, .scalar, .scalar, .scalar, (.lv .nums)] (.seq (.seq (.seq (.const 10) (.bind 8 10)) (.seq (.const 10) (.const 10))) (.seq (.seq (.ite (.call 11 143 [0, 10]) (.const 11)) (.const 10)) (.seq (.const 11) (.seq (.load 11 10 .dyn) (.store 9 .dyn 11)))))) (.alloc 10 .nums (.union [9])))))) (.seq (.seq (.seq (.bind 6 10) (.const 9)) (.seq (.bind 4 9) (.seq (.loop [.any, .any, .any, .scalar, (.lv .num), (.lv .num), (.lv .nums), .scalar, .scalar, (.lv .num), (.lv .nums)] (.block (.seq (.load 9 6 .dyn) (.seq (.bind 5 9) (.ite (.shrink 4) (.arith 4)))))) (.const 9)))) (.seq (.seq (.arith 9) (.seq (.ite (.call 10 143 [0, 9]) (.const 10)) (.bind 3 10))) (.seq (.ite (.arith 9) (.ite (.load 9 3 .dyn) (.ite (.bind 9 3) (.bind 9 1)))) (.seq (.ite (.arith 10) (.ite (.load 10 9 .dyn) (.ite (.bind 10 9) (.bind 10 6)))) (.ret 10)))))),
  .any⟩

/-- bermuda/io/binary_input.py:135  params: filepath, compress, <globals> -/
def f147 : Fn := ⟨"bermuda.io.binary_input:_read_binary", [0, 1, 2], [],
  (.ite (.seq (.seq (.const 4) (.seq (.const 4) (.const 4))) (.seq (.bind 3 4) (.seq (.call 4 156 [3]) (.ret 4)))) (.seq (.seq (.const 4) (.const 4)) (.seq (.bind 3 4) (.seq (.call 4 156 [3]) (.ret 4))))),
  (.lv (.sh 2))⟩

/-- bermuda/io/binary_input.py:180  params: stream, marker, metadata, string_pool, <globals> -/
def f148 : Fn := ⟨"bermuda.io.binary_input:_read_cell", [0, 1, 2, 3, 4], [],
  (.seq (.seq (.const 1) (.const 5)) (.seq (.arith 5) (.ite (.seq (.seq (.seq (.seq (.seq (.call 5 149 [0]) (.call 6 149 [0])) (.seq (.call 7 149 [0]) (.call 8 150 [0, 3]))) (.seq (.seq (.const 9) (.load 9 5 .dyn)) (.seq (.load 10 9 .dyn) (.seq (.load 9 5 .dyn) (.load 10 9 .dyn))))) (.seq (.seq (.seq (.load 9 5 .dyn) (.load 10 9 .dyn)) (.seq (.const 9) (.seq (.load 10 6 .dyn) (.load 11 10 .dyn)))) (.seq (.seq (.load 10 6 .dyn) (.load 11 10 .dyn)) (.seq (.load 10 6 .dyn) (.seq (.load 11 10 .dyn) (.const 10)))))) (.seq (.seq (.seq (.seq (.load 11 7 .dyn) (.load 12 11 .dyn)) (.seq (.load 11 7 .dyn) (.seq (.load 12 11 .dyn) (.load 11 7 .dyn)))) (.seq (.seq (.load 12 11 .dyn) (.const 11)) (.seq (.const 12) (.seq (.arith 12) (.ite (.bind 12 8) (.seq (.alloc 13 (.sh 0) .dict) (.bind 12 13))))))) (.seq (.seq (.seq (.const 13) (.arith 13)) (.seq (.ite (.bind 13 2) (.seq (.seq (.alloc 14 (.sh 0) (.lit [])) (.call 15 45 [])) (.seq (.merge 14 15) (.bind 13 14)))) (.seq (.call 14 17 [5, 6, 7, 8, 2]) (.alloc 5 (.sh 0) (.lit [("", 9)]))))) (.seq (.seq (.alloc 6 (.sh 0) (.lit [("", 10)])) (.alloc 7 (.sh 0) (.lit [("", 11)]))) (.seq (.alloc 8 (.sh 0) (.lit [("", 13)])) (.seq (.alloc 9 (.sh 1) (.lit [("", 5), ("", 6), ("", 7), ("", 12), ("", 8)])) (.ret 9))))))) (.seq (.const 5) (.seq (.arith 5) (.ite (.seq (.seq (.seq (.seq (.seq (.call 5 149 [0]) (.call 6 149 [0])) (.seq (.call 7 149 [0]) (.seq (.call 8 150 [0, 3]) (.call 9 149 [0])))) (.seq (.seq (.const 10) (.load 10 5 .dyn)) (.seq (.load 11 10 .dyn) (.seq (.load 10 5 .dyn) (.load 11 10 .dyn))))) (.seq (.seq (.seq (.load 10 5 .dyn) (.load 11 10 .dyn)) (.seq (.const 10) (.seq (.load 11 6 .dyn) (.load 12 11 .dyn)))) (.seq (.seq (.load 11 6 .dyn) (.load 12 11 .dyn)) (.seq (.load 11 6 .dyn) (.seq (.load 12 11 .dyn) (.const 11)))))) (.seq (.seq (.seq (.seq (.load 12 7 .dyn) (.load 13 12 .dyn)) (.seq (.load 12 7 .dyn) (.seq (.load 13 12 .dyn) (.load 12 7 .dyn)))) (.seq (.seq (.load 13 12 .dyn) (.const 12)) (.seq (.const 13) (.seq (.arith 13) (.ite (.bind 13 8) (.seq (.alloc 14 (.sh 0) .dict) (.bind 13 14))))))) (.seq (.seq (.seq (.const 14) (.arith 14)) (.seq (.ite (.bind 14 2) (.seq (.seq (.alloc 15 (.sh 0) (.lit [])) (.call 16 45 [])) (.seq (.merge 15 16) (.bind 14 15)))) (.seq (.call 15 37 [5, 6, 7, 8, 9, 2]) (.alloc 5 (.sh 0) (.lit [("", 10)]))))) (.seq (.seq (.alloc 6 (.sh 0) (.lit [("", 11)])) (.seq (.alloc 7 (.sh 0) (.lit [("", 12)])) (.alloc 8 (.sh 0) (.lit [("", 14)])))) (.seq (.alloc 10 (.sh 0) (.lit [("", 9)])) (.seq (.alloc 9 (.sh 1) (.lit [("", 5), ("", 6), ("", 7), ("", 13), ("", 8), ("", 10)])) (.ret 9))))))) (.seq (.seq (.seq (.seq (.seq (.call 5 149 [0]) (.call 6 149 [0])) (.seq (.call 7 149 [0]) (.call 8 150 [0, 3]))) (.seq (.seq (.const 9) (.load 9 5 .dyn)) (.seq (.load 10 9 .dyn) (.seq (.load 9 5 .dyn) (.load 10 9 .dyn))))) (.seq (.seq (.seq (.load 9 5 .dyn) (.load 10 9 .dyn)) (.seq (.const 9) (.seq (.load 10 6 .dyn) (.load 11 10 .dyn)))) (.seq (.seq (.load 10 6 .dyn) (.load 11 10 .dyn)) (.seq (.load 10 6 .dyn) (.seq (.load 11 10 .dyn) (.const 10)))))) (.seq (.seq (.seq (.seq (.load 11 7 .dyn) (.load 12 11 .dyn)) (.seq (.load 11 7 .dyn) (.seq (.load 12 11 .dyn) (.load 11 7 .dyn)))) (.seq (.seq (.load 12 11 .dyn) (.const 11)) (.seq (.const 12) (.seq (.arith 12) (.ite (.bind 12 8) (.seq (.alloc 13 (.sh 0) .dict) (.bind 12 13))))))) (.seq (.seq (.seq (.const 13) (.arith 13)) (.seq (.ite (.bind 13 2) (.seq (.seq (.alloc 14 (.sh 0) (.lit [])) (.call 15 45 [])) (.seq (.merge 14 15) (.bind 13 14)))) (.seq (.call 14 17 [5, 6, 7, 8, 2]) (.alloc 5 (.sh 0) (.lit [("", 9)]))))) (.seq (.seq (.alloc 6 (.sh 0) (.lit [("", 10)])) (.alloc 7 (.sh 0) (.lit [("", 11)]))) (.seq (.alloc 8 (.sh 0) (.lit [("", 13)])) (.seq (.alloc 9 (.sh 1) (.lit [("", 5), ("", 6), ("", 7), ("", 12), ("", 8)])) (.ret 9))))))))))))),
  (.lv (.sh 1))⟩

/-- bermuda/io/binary_input.py:234  params: stream, <globals> -/
def f149 : Fn := ⟨"bermuda.io.binary_input:_read_date", [0, 1], [],
  (.seq (.seq (.seq (.const 5) (.seq (.const 5) (.ite (.call 6 143 [0, 5]) (.const 6)))) (.seq (.const 5) (.seq (.load 6 5 .dyn) (.bind 4 6)))) (.seq (.seq (.load 6 5 .dyn) (.seq (.bind 3 6) (.load 6 5 .dyn))) (.seq (.bind 2 6) (.seq (.const 5) (.ret 5))))),
  .scalar⟩

/-- bermuda/io/binary_input.py:265  params: stream, string_pool, <globals> -/
def f150 : Fn := ⟨"bermuda.io.binary_input:_read_dict", [0, 1, 2], [],
  (.seq (.seq (.seq (.alloc 6 (.sh 0) .dict) (.seq (.bind 5 6) (.loop [.any, .any, .any, .scalar, .scalar, (.lv (.sh 0)), .any] (.block (.seq (.seq (.seq (.seq (.const 6) (.const 6)) (.seq (.const 7) (.ite (.bind 7 6) (.alloc 7 .nums (.union [6]))))) (.seq (.seq (.const 6) (.arith 6)) (.seq (.const 6) (.const 6)))) (.seq (.seq (.seq (.ite (.call 7 143 [0, 6]) (.const 7)) (.const 6)) (.seq (.const 7) (.load 7 6 .dyn))) (.seq (.seq (.bind 4 7) (.const 6)) (.seq (.bind 3 6) (.seq (.call 6 152 [0]) (.store 5 .dyn 6)))))))))) (.seq (.const 6) (.seq (.const 6) (.const 7)))) (.seq (.seq (.ite (.bind 7 6) (.alloc 7 .nums (.union [6]))) (.seq (.const 6) (.arith 6))) (.seq (.const 6) (.seq (.ite (.call 7 143 [0, 6]) (.const 7)) (.ret 5))))),
  (.lv (.sh 0))⟩

/-- bermuda/io/binary_input.py:239  params: stream, <globals> -/
def f151 : Fn := ⟨"bermuda.io.binary_input:_read_float", [0, 1], [],
  (.seq (.seq (.seq (.const 3) (.const 3)) (.seq (.ite (.call 4 143 [0, 3]) (.const 4)) (.seq (.const 3) (.const 4)))) (.seq (.seq (.load 4 3 .dyn) (.bind 2 4)) (.seq (.const 3) (.seq (.ite (.seq (.const 3) (.ret 3)) .skip) (.ret 2))))),
  .scalar⟩

/-- bermuda/io/binary_input.py:279  params: stream, <globals> -/
def f152 : Fn := ⟨"bermuda.io.binary_input:_read_generic_value", [0, 1], [],
  (.seq (.seq (.const 3) (.seq (.ite (.call 4 143 [0, 3]) (.const 4)) (.bind 2 4))) (.seq (.const 3) (.seq (.arith 3) (.ite (.seq (.call 3 154 [0]) (.ret 3)) (.seq (.const 3) (.seq (.arith 3) (.ite (.seq (.seq (.const 3) (.seq (.const 3) (.ite (.call 4 143 [0, 3]) (.const 4)))) (.seq (.seq (.const 3) (.const 4)) (.seq (.load 4 3 .dyn) (.ret 4)))) (.seq (.const 3) (.seq (.arith 3) (.ite (.seq (.seq (.const 3) (.seq (.const 3) (.ite (.call 4 143 [0, 3]) (.const 4)))) (.seq (.seq (.const 3) (.const 4)) (.seq (.load 4 3 .dyn) (.ret 4)))) (.seq (.const 3) (.seq (.arith 3) (.ite (.seq (.seq (.const 3) (.seq (.const 3) (.ite (.call 4 143 [0, 3]) (.const 4)))) (.seq (.seq (.const 3) (.const 4)) (.seq (.load 4 3 .dyn) (.ret 4)))) (.seq (.const 3) (.seq (.arith 3) (.ite (.seq (.seq (.const 3) (.const 3)) (.seq (.call 4 146 [0, 3]) (.ret 4))) (.seq (.const 3) (.seq (.arith 3) (.ite (.seq (.seq (.const 3) (.const 3)) (.seq (.call 4 146 [0, 3]) (.ret 4))) (.seq (.const 3) (.seq (.arith 3) (.ite (.seq (.call 3 149 [0]) (.ret 3)) (.seq (.const 3) (.seq (.arith 3) (.ite (.seq (.const 3) (.ret 3)) .skip))))))))))))))))))))))))),
  .any⟩

/-- bermuda/io/binary_input.py:211  params: stream, string_pool, <globals> -/
def f153 : Fn := ⟨"bermuda.io.binary_input:_read_metadata", [0, 1, 2], [],
  (.seq (.seq (.seq (.seq (.call 3 154 [0]) (.call 4 154 [0])) (.seq (.call 5 154 [0]) (.seq (.call 6 154 [0]) (.call 7 154 [0])))) (.seq (.seq (.call 8 151 [0]) (.call 9 150 [0, 1])) (.seq (.call 10 150 [0, 1]) (.seq (.alloc 11 .nums (.lit [("", 3)])) (.alloc 12 .nums (.lit [("", 4)])))))) (.seq (.seq (.seq (.alloc 13 .nums (.lit [("", 5)])) (.alloc 14 .nums (.lit [("", 6)]))) (.seq (.alloc 15 .nums (.lit [("", 7)])) (.seq (.alloc 16 .nums (.lit [("", 8)])) (.alloc 17 (.sh 1) (.lit [("", 9)]))))) (.seq (.seq (.alloc 18 (.sh 1) (.lit [("", 10)])) (.alloc 19 (.sh 0) (.lit [("", 11), ("", 12), ("", 13), ("", 14), ("", 15), ("", 16), ("", 17), ("", 18)]))) (.seq (.call 11 45 [3, 4, 5, 6, 7, 8, 9, 10]) (.seq (.merge 19 11) (.ret 19)))))),
  (.lv (.sh 0))⟩

/-- bermuda/io/binary_input.py:225  params: stream, <globals> -/
def f154 : Fn := ⟨"bermuda.io.binary_input:_read_string", [0, 1], [],
  (.seq (.seq (.seq (.const 3) (.seq (.const 3) (.ite (.call 4 143 [0, 3]) (.const 4)))) (.seq (.seq (.const 3) (.const 4)) (.seq (.load 4 3 .dyn) (.bind 2 4)))) (.seq (.seq (.seq (.const 3) (.arith 3)) (.seq (.arith 3) (.ite (.seq (.const 3) (.ret 3)) .skip))) (.seq (.seq (.ite (.call 3 143 [0, 2]) (.const 3)) (.const 3)) (.seq (.const 3) (.ret 3))))),
  .scalar⟩

/-- bermuda/io/binary_input.py:173  params: stream, <globals> -/
def f155 : Fn := ⟨"bermuda.io.binary_input:_read_string_pool", [0, 1], [],
  (.seq (.seq (.seq (.const 4) (.const 4)) (.seq (.ite (.call 5 143 [0, 4]) (.const 5)) (.seq (.const 4) (.const 5)))) (.seq (.seq (.load 5 4 .dyn) (.bind 2 5)) (.seq (.alloc 4 .nums .dict) (.seq (.loop [.any, .any, .scalar, .scalar, (.lv .nums)] (.seq (.seq (.const 5) (.bind 3 5)) (.seq (.call 5 154 [0]) (.store 4 .dyn 5)))) (.ret 4))))),
  (.lv .nums)⟩

/-- bermuda/io/binary_input.py:144  params: stream, <globals> -/
def f156 : Fn := ⟨"bermuda.io.binary_input:_read_triangle", [0, 1], [],
  (.seq (.seq (.seq (.seq (.const 6) (.ite (.call 7 143 [0, 6]) (.const 7))) (.seq (.const 6) (.seq (.arith 6) (.ite (.seq (.const 6) (.seq (.const 6) .raise)) .skip)))) (.seq (.seq (.const 6) (.ite (.call 7 143 [0, 6]) (.const 7))) (.seq (.const 6) (.seq (.arith 6) (.ite (.seq (.const 6) (.seq (.const 6) .raise)) .skip))))) (.seq (.seq (.seq (.call 6 155 [0]) (.bind 5 6)) (.seq (.const 6) (.seq (.bind 2 6) (.alloc 6 (.sh 2) .dict)))) (.seq (.seq (.bind 4 6) (.loop [.any, .any, (.lv (.sh 0)), .scalar, (.lv (.sh 2)), (.lv .nums), .any, (.lv .num), (.lv .num), (.lv .num)] (.block (.seq (.seq (.const 6) (.seq (.const 6) (.ite (.call 7 143 [0, 6]) (.const 7)))) (.seq (.seq (.bind 3 7) (.const 6)) (.seq (.arith 6) (.ite (.seq (.call 6 153 [0, 5]) (.bind 2 6)) (.seq (.seq (.seq (.const 6) (.arith 6)) (.seq (.const 7) (.arith 7))) (.seq (.seq (.const 8) (.arith 8)) (.seq (.ite (.bind 9 6) (.ite (.bind 9 7) (.bind 9 8))) (.ite (.seq (.call 6 148 [0, 3, 2, 5]) (.seq (.store 4 .dyn 6) (.const 6))) .brk))))))))))) (.seq (.const 6) (.seq (.call 6 307 [4]) (.ret 6)))))),
  (.lv (.sh 2))⟩

/-- bermuda/io/binary_input.py:27  params: filename, compress, <globals> -/
def f157 : Fn := ⟨"bermuda.io.binary_input:binary_to_triangle", [0, 1, 2], [],
  (.seq (.seq (.seq (.const 0) (.seq (.const 1) (.const 8))) (.seq (.seq (.const 8) (.const 8)) (.seq (.bind 7 8) (.load 8 7 .dyn)))) (.seq (.seq (.load 9 8 .dyn) (.seq (.bind 6 9) (.const 8))) (.seq (.seq (.ite (.seq (.const 8) (.seq (.arith 8) (.ite (.seq (.const 8) (.bind 1 8)) (.seq (.const 8) (.seq (.arith 8) (.ite (.seq (.const 8) (.bind 1 8)) (.seq (.const 8) (.seq (.const 8) .raise)))))))) (.seq (.seq (.const 8) (.arith 8)) (.seq (.ite (.bind 9 1) (.bind 9 8)) (.ite (.seq (.const 8) (.const 8)) (.seq (.seq (.const 8) (.const 9)) (.seq (.arith 9) (.seq (.ite (.bind 10 8) (.bind 10 9)) (.ite (.seq (.const 8) (.const 8)) .skip)))))))) (.const 8)) (.seq (.const 8) (.ite (.seq (.seq (.seq (.unknown [0]) (.havoc 8)) (.bind 5 8)) (.seq (.«try» (.«try» (.ite (.seq (.seq (.seq (.const 8) (.const 8)) (.seq (.bind 4 8) (.seq (.const 8) (.const 8)))) (.seq (.seq (.arith 8) (.const 8)) (.seq (.bind 3 8) (.seq (.call 8 156 [3]) (.ret 8))))) (.seq (.call 8 156 [5]) (.ret 8))) .raise) (.seq (.ite (.call 8 142 [5]) (.const 8)) .raise)) (.ite (.call 8 142 [5]) (.const 8)))) (.seq (.call 8 147 [7, 1]) (.ret 8))))))),
  (.lv (.sh 2))⟩

/-- bermuda/io/binary_input.py:27  params: filename, compress, <globals> -/
def f158 : Fn := ⟨"bermuda.io.binary_input:binary_to_triangle@Triangle.from_binary", [0, 1, 2], [],
  (.seq (.seq (.seq (.const 0) (.seq (.const 1) (.const 8))) (.seq (.seq (.const 8) (.const 8)) (.seq (.bind 7 8) (.load 8 7 .dyn)))) (.seq (.seq (.load 9 8 .dyn) (.seq (.bind 6 9) (.const 8))) (.seq (.seq (.ite (.seq (.const 8) (.seq (.arith 8) (.ite (.seq (.const 8) (.bind 1 8)) (.seq (.const 8) (.seq (.arith 8) (.ite (.seq (.const 8) (.bind 1 8)) (.seq (.const 8) (.seq (.const 8) .raise)))))))) (.seq (.seq (.const 8) (.arith 8)) (.seq (.ite (.bind 9 1) (.bind 9 8)) (.ite (.seq (.const 8) (.const 8)) (.seq (.seq (.const 8) (.const 9)) (.seq (.arith 9) (.seq (.ite (.bind 10 8) (.bind 10 9)) (.ite (.seq (.const 8) (.const 8)) .skip)))))))) (.const 8)) (.seq (.const 8) (.ite (.seq (.seq (.seq (.unknown [0]) (.havoc 8)) (.bind 5 8)) (.seq (.«try» (.«try» (.ite (.seq (.seq (.seq (.const 8) (.const 8)) (.seq (.bind 4 8) (.seq (.const 8) (.const 8)))) (.seq (.seq (.arith 8) (.const 8)) (.seq (.bind 3 8) (.seq (.call 8 156 [3]) (.ret 8))))) (.seq (.call 8 156 [5]) (.ret 8))) .raise) (.seq (.ite (.call 8 142 [5]) (.const 8)) .raise)) (.ite (.call 8 142 [5]) (.const 8)))) (.seq (.call 8 147 [7, 1]) (.ret 8))))))),
  (.lv (.sh 2))⟩

/-- bermuda/io/binary_output.py:224  params: array, stream, <globals> -/
def f159 : Fn := ⟨"bermuda.io.binary_output:_write_array", [0, 1, 2], [],
  (.seq (.seq (.seq (.seq (.load 5 0 .dyn) (.load 6 5 .dyn)) (.seq (.const 5) (.arith 5))) (.seq (.seq (.ite (.seq (.const 5) (.const 5)) (.seq (.seq (.load 5 0 .dyn) (.load 6 5 .dyn)) (.seq (.const 5) (.seq (.arith 5) (.ite (.seq (.const 5) (.const 5)) (.seq (.seq (.load 5 0 .dyn) (.load 6 5 .dyn)) (.seq (.const 5) (.seq (.const 5) .raise)))))))) (.load 5 0 .dyn)) (.seq (.load 6 5 .dyn) (.const 5)))) (.seq (.seq (.seq (.bind 4 5) (.const 5)) (.seq (.const 5) (.const 5))) (.seq (.seq (.load 5 0 .dyn) (.load 6 5 .dyn)) (.seq (.loop [.any, .any, .any, .any, .scalar, .any, .any] (.block (.seq (.seq (.load 5 6 .dyn) (.bind 3 5)) (.seq (.const 5) (.seq (.const 5) (.const 5)))))) (.seq (.const 5) (.const 5)))))),
  .scalar⟩

/-- bermuda/io/binary_output.py:109  params: triangle, filepath, compress, <globals> -/
def f160 : Fn := ⟨"bermuda.io.binary_output:_write_binary", [0, 1, 2, 3], [],
  (.ite (.seq (.seq (.const 5) (.const 5)) (.seq (.const 5) (.seq (.bind 4 5) (.call 5 169 [0, 4])))) (.seq (.seq (.const 5) (.const 5)) (.seq (.bind 4 5) (.call 5 169 [0, 4])))),
  .scalar⟩

/-- bermuda/io/binary_output.py:165  params: cell, stream, pool_lookup, <globals> -/
def f161 : Fn := ⟨"bermuda.io.binary_output:_write_cell", [0, 1, 2, 3], [],
  (.seq (.seq (.seq (.seq (.const 4) (.const 4)) (.seq (.ite (.seq (.const 4) (.const 4)) (.seq (.const 4) (.seq (.const 4) (.ite (.seq (.const 4) (.const 4)) (.seq (.const 4) (.const 4)))))) (.load 4 0 .dyn))) (.seq (.seq (.load 5 4 .dyn) (.call 4 162 [5, 1])) (.seq (.load 4 0 .dyn) (.load 5 4 .dyn)))) (.seq (.seq (.seq (.call 4 162 [5, 1]) (.ite (.seq (.load 4 0 .dyn) (.load 5 4 .dyn)) (.call 5 320 [0]))) (.seq (.call 4 162 [5, 1]) (.load 4 0 .dyn))) (.seq (.seq (.call 5 163 [4, 1, 2]) (.const 4)) (.seq (.const 4) (.ite (.seq (.load 4 0 .dyn) (.seq (.load 5 4 .dyn) (.call 4 162 [5, 1]))) .skip))))),
  .scalar⟩

/-- bermuda/io/binary_output.py:211  params: date, stream, <globals> -/
def f162 : Fn := ⟨"bermuda.io.binary_output:_write_date", [0, 1, 2], [],
  (.seq (.seq (.seq (.const 0) (.const 3)) (.seq (.load 3 0 .dyn) (.seq (.load 4 3 .dyn) (.load 3 0 .dyn)))) (.seq (.seq (.load 4 3 .dyn) (.load 3 0 .dyn)) (.seq (.load 4 3 .dyn) (.seq (.const 3) (.const 3))))),
  .scalar⟩

/-- bermuda/io/binary_output.py:245  params: dct, stream, pool_lookup, <globals> -/
def f163 : Fn := ⟨"bermuda.io.binary_output:_write_dict", [0, 1, 2, 3], [],
  (.seq (.loop [.any, .any, .any, .any, .any, .any] (.block (.seq (.seq (.seq (.havoc 6) (.bind 5 6)) (.seq (.load 6 0 .dyn) (.bind 4 6))) (.seq (.seq (.const 6) (.const 6)) (.seq (.const 6) (.seq (.const 6) (.call 6 165 [4, 1]))))))) (.seq (.const 6) (.const 6))),
  .scalar⟩

/-- bermuda/io/binary_output.py:216  params: num, stream, <globals> -/
def f164 : Fn := ⟨"bermuda.io.binary_output:_write_float", [0, 1, 2], [],
  (.seq (.seq (.const 0) (.const 3)) (.seq (.arith 3) (.ite (.seq (.seq (.const 3) (.const 3)) (.seq (.const 3) (.const 3))) (.seq (.const 3) (.seq (.const 3) (.const 3)))))),
  .scalar⟩

/-- bermuda/io/binary_output.py:256  params: val, stream, <globals> -/
def f165 : Fn := ⟨"bermuda.io.binary_output:_write_generic_value", [0, 1, 2], [],
  (.seq (.const 3) (.seq (.const 3) (.ite (.seq (.const 3) (.seq (.const 3) (.call 3 167 [0, 1]))) (.seq (.const 3) (.seq (.const 3) (.ite (.seq (.seq (.const 3) (.const 3)) (.seq (.const 3) (.seq (.const 3) (.const 3)))) (.seq (.seq (.const 3) (.const 4)) (.seq (.alloc 5 .nums (.lit [("", 3), ("", 4)])) (.seq (.const 3) (.ite (.seq (.seq (.const 3) (.const 3)) (.seq (.const 3) (.seq (.const 3) (.const 3)))) (.seq (.const 3) (.seq (.const 3) (.ite (.seq (.seq (.const 3) (.const 3)) (.seq (.const 3) (.seq (.const 3) (.const 3)))) (.seq (.const 3) (.seq (.const 3) (.ite (.call 3 159 [0, 1]) (.seq (.const 3) (.seq (.const 3) (.ite (.seq (.const 3) (.seq (.const 3) (.call 3 162 [0, 1]))) (.seq (.const 3) (.const 3))))))))))))))))))))),
  .scalar⟩

/-- bermuda/io/binary_output.py:183  params: metadata, stream, pool_lookup, <globals> -/
def f166 : Fn := ⟨"bermuda.io.binary_output:_write_metadata", [0, 1, 2, 3], [],
  (.seq (.seq (.seq (.seq (.const 4) (.seq (.const 4) (.load 4 0 .dyn))) (.seq (.load 5 4 .dyn) (.seq (.call 4 167 [5, 1]) (.load 4 0 .dyn)))) (.seq (.seq (.load 5 4 .dyn) (.seq (.call 4 167 [5, 1]) (.load 4 0 .dyn))) (.seq (.seq (.load 5 4 .dyn) (.call 4 167 [5, 1])) (.seq (.load 4 0 .dyn) (.load 5 4 .dyn))))) (.seq (.seq (.seq (.call 4 167 [5, 1]) (.seq (.load 4 0 .dyn) (.load 5 4 .dyn))) (.seq (.call 4 167 [5, 1]) (.seq (.load 4 0 .dyn) (.load 5 4 .dyn)))) (.seq (.seq (.call 4 164 [5, 1]) (.seq (.load 4 0 .dyn) (.load 5 4 .dyn))) (.seq (.seq (.call 4 163 [5, 1, 2]) (.load 4 0 .dyn)) (.seq (.load 5 4 .dyn) (.call 4 163 [5, 1, 2])))))),
  .scalar⟩

/-- bermuda/io/binary_output.py:198  params: string, stream, <globals> -/
def f167 : Fn := ⟨"bermuda.io.binary_output:_write_string", [0, 1, 2], [],
  (.seq (.seq (.const 0) (.const 4)) (.seq (.arith 4) (.ite (.seq (.seq (.const 4) (.const 4)) (.seq (.arith 4) (.seq (.const 4) (.const 4)))) (.seq (.seq (.seq (.alloc 4 (.sh 0) .dict) (.havoc 5)) (.seq (.store 4 .dyn 5) (.bind 3 4))) (.seq (.seq (.const 4) (.const 4)) (.seq (.const 4) (.seq (.const 4) (.const 4)))))))),
  .scalar⟩

/-- bermuda/io/binary_output.py:136  params: triangle, stream, <globals> -/
def f168 : Fn := ⟨"bermuda.io.binary_output:_write_string_pool", [0, 1, 2], [],
  (.seq (.seq (.seq (.seq (.ite (.seq (.load 9 0 .dyn) (.load 10 9 .dyn)) (.call 10 326 [0])) (.alloc 9 (.sh 0) (.union [10]))) (.seq (.bind 7 9) (.ite (.seq (.load 9 0 .dyn) (.load 10 9 .dyn)) (.call 10 339 [0])))) (.seq (.seq (.loop [.any, .any, .any, .scalar, .scalar, .scalar, .scalar, (.lv (.sh 0)), .any, .any, .any, (.lv (.sh 0)), (.lv (.sh 0))] (.block (.seq (.seq (.seq (.load 9 10 .dyn) (.seq (.bind 8 9) (.load 9 8 .dyn))) (.seq (.load 11 9 .dyn) (.seq (.alloc 9 (.sh 0) (.union [11])) (.alloc 11 (.sh 0) (.union [9]))))) (.seq (.seq (.load 9 8 .dyn) (.seq (.load 12 9 .dyn) (.alloc 9 (.sh 0) (.union [12])))) (.seq (.alloc 12 (.sh 0) (.union [9])) (.seq (.ite (.arith 9) (.alloc 9 (.sh 0) (.union [11, 12]))) (.aug 7 9))))))) (.alloc 9 (.sh 0) .dict)) (.seq (.bind 6 9) (.loop [.any, .any, .any, .any, .scalar, .scalar, (.lv (.sh 0)), (.lv (.sh 0)), .any, (.lv (.sh 0)), .any, (.lv (.sh 0)), (.lv (.sh 0))] (.block (.seq (.seq (.seq (.load 9 7 .dyn) (.seq (.bind 3 9) (.const 9))) (.seq (.const 9) (.seq (.arith 9) (.const 9)))) (.seq (.seq (.const 10) (.seq (.load 10 9 .dyn) (.arith 9))) (.seq (.ite (.seq (.const 9) (.seq (.store 6 .dyn 9) (.const 9))) .skip) (.seq (.store 6 .dyn 3) (.const 9)))))))))) (.seq (.seq (.seq (.const 9) (.const 9)) (.seq (.const 9) (.const 9))) (.seq (.seq (.alloc 9 .nums .dict) (.bind 5 9)) (.seq (.loop [.any, .any, .any, .any, .scalar, (.lv .nums), (.lv (.sh 0)), (.lv (.sh 0)), .any, (.lv .nums), .any, (.lv (.sh 0)), (.lv (.sh 0))] (.block (.seq (.seq (.seq (.const 9) (.seq (.bind 4 9) (.load 9 6 .dyn))) (.seq (.bind 3 9) (.seq (.call 9 167 [3, 1]) (.const 9)))) (.seq (.seq (.arith 9) (.seq (.const 9) (.const 10))) (.seq (.load 10 9 .dyn) (.seq (.arith 9) (.ite (.store 5 .dyn 4) .skip))))))) (.ret 5))))),
  (.lv .nums)⟩

/-- bermuda/io/binary_output.py:118  params: triangle, stream, <globals> -/
def f169 : Fn := ⟨"bermuda.io.binary_output:_write_triangle", [0, 1, 2], [],
  (.seq (.seq (.seq (.const 6) (.const 6)) (.seq (.const 6) (.const 6))) (.seq (.seq (.call 6 168 [0, 1]) (.bind 5 6)) (.seq (.const 6) (.seq (.bind 3 6) (.loop [.any, .any, .any, .any, .any, (.lv .nums), .any, .any] (.block (.seq (.seq (.seq (.load 6 0 .dyn) (.bind 4 6)) (.seq (.ite (.seq (.load 6 4 .dyn) (.load 7 6 .dyn)) (.call 7 339 [4])) (.arith 6))) (.seq (.seq (.ite (.seq (.ite (.seq (.load 6 4 .dyn) (.load 7 6 .dyn)) (.call 7 339 [4])) (.call 6 166 [7, 1, 5])) .skip) (.call 6 161 [4, 1, 5])) (.seq (.ite (.seq (.load 6 4 .dyn) (.load 7 6 .dyn)) (.call 7 339 [4])) (.bind 3 7)))))))))),
  .scalar⟩

/-- bermuda/io/binary_output.py:77  params: triangle, filename, compress, <globals> -/
def f170 : Fn := ⟨"bermuda.io.binary_output:triangle_to_binary", [0, 1, 2, 3], [],
  (.seq (.seq (.seq (.seq (.const 1) (.const 2)) (.seq (.const 7) (.const 7))) (.seq (.seq (.const 7) (.bind 6 7)) (.seq (.load 7 6 .dyn) (.load 8 7 .dyn)))) (.seq (.seq (.seq (.bind 5 8) (.const 7)) (.seq (.arith 7) (.ite (.bind 8 2) (.bind 8 7)))) (.seq (.seq (.ite (.seq (.const 7) (.const 7)) (.seq (.seq (.const 7) (.const 8)) (.seq (.arith 8) (.seq (.ite (.bind 9 7) (.bind 9 8)) (.ite (.seq (.const 7) (.const 7)) .skip))))) (.const 7)) (.seq (.const 7) (.ite (.seq (.seq (.seq (.const 7) (.bind 4 7)) (.seq (.load 7 4 .dyn) (.load 8 7 .dyn))) (.seq (.seq (.call 7 160 [0, 8, 2]) (.load 7 4 .dyn)) (.seq (.load 8 7 .dyn) (.seq (.const 7) (.const 7))))) (.call 7 160 [0, 6, 2])))))),
  .scalar⟩

/-- bermuda/io/chain_ladder.py:45  params: chain_ladder, base_metadata, <globals> -/
def f171 : Fn := ⟨"bermuda.io.chain_ladder:chain_ladder_to_triangle", [0, 1, 2], [],
  (.seq (.seq (.seq (.seq (.seq (.const 18) (.seq (.const 18) (.arith 18))) (.seq (.ite (.seq (.seq (.alloc 18 (.sh 0) (.lit [])) (.call 19 45 [])) (.seq (.merge 18 19) (.bind 1 18))) .skip) (.seq (.load 18 0 .dyn) (.load 19 18 .dyn)))) (.seq (.seq (.const 18) (.seq (.ite (.seq (.const 18) (.seq (.const 18) .raise)) .skip) (.alloc 18 (.sh 0) .dict))) (.seq (.havoc 19) (.seq (.store 18 .dyn 19) (.alloc 18 (.sh 0) .dict))))) (.seq (.seq (.seq (.havoc 19) (.seq (.store 18 .dyn 19) (.bind 15 18))) (.seq (.alloc 18 .nums .dict) (.seq (.const 19) (.const 19)))) (.seq (.seq (.store 18 .dyn 19) (.seq (.const 19) (.const 19))) (.seq (.store 18 .dyn 19) (.seq (.const 19) (.const 19)))))) (.seq (.seq (.seq (.seq (.store 18 .dyn 19) (.seq (.load 19 0 .dyn) (.load 20 19 .dyn))) (.seq (.load 19 18 .dyn) (.seq (.bind 14 19) (.load 18 0 .dyn)))) (.seq (.seq (.load 19 18 .dyn) (.seq (.const 18) (.load 18 19 .dyn))) (.seq (.const 18) (.seq (.arith 18) (.ite (.seq (.seq (.seq (.seq (.alloc 18 (.sh 0) .dict) (.havoc 19)) (.seq (.store 18 .dyn 19) (.seq (.const 18) (.const 18)))) (.seq (.seq (.const 18) (.seq (.alloc 18 (.sh 0) .dict) (.havoc 19))) (.seq (.store 18 .dyn 19) (.seq (.bind 13 18) (.alloc 18 (.sh 2) .dict))))) (.seq (.seq (.seq (.bind 11 18) (.seq (.const 18) (.alloc 19 .nums (.lit [("", 18)])))) (.seq (.alloc 18 (.sh 0) .dict) (.seq (.havoc 19) (.store 18 .dyn 19)))) (.seq (.seq (.alloc 18 (.sh 0) .dict) (.seq (.havoc 19) (.store 18 .dyn 19))) (.seq (.loop [.any, .any, .any, (.lv (.sh 1)), (.lv (.sh 0)), (.lv .num), .any, .any, .scalar, .scalar, .scalar, (.lv (.sh 2)), .scalar, (.lv (.sh 0)), (.lv .num), (.lv (.sh 0)), .scalar, .scalar, (.lv (.sh 0)), .any, .any, (.lv (.sh 0)), (.lv (.sh 0)), (.lv (.sh 1)), (.lv (.sh 0)), .any, (.lv (.sh 0)), (.lv (.sh 0))] (.block (.seq (.seq (.seq (.seq (.seq (.seq (.load 19 18 .dyn) (.load 20 19 .dyn)) (.seq (.bind 7 20) (.load 20 19 .dyn))) (.seq (.seq (.bind 6 20) (.const 19)) (.seq (.load 19 6 .dyn) (.call 20 56 [19, 14])))) (.seq (.seq (.seq (.const 19) (.const 19)) (.seq (.arith 19) (.bind 5 19))) (.seq (.seq (.alloc 19 (.sh 0) .dict) (.load 20 0 .dyn)) (.seq (.load 21 20 .dyn) (.const 20))))) (.seq (.seq (.seq (.seq (.load 20 21 .dyn) (.const 20)) (.seq (.load 20 6 .dyn) (.store 19 .dyn 20))) (.seq (.seq (.bind 4 19) (.const 19)) (.seq (.load 19 6 .dyn) (.const 19)))) (.seq (.seq (.seq (.const 20) (.load 20 6 .dyn)) (.seq (.arith 20) (.call 21 56 [5, 20]))) (.seq (.seq (.const 20) (.load 20 19 .dyn)) (.seq (.load 22 20 .dyn) (.load 20 19 .dyn)))))) (.seq (.seq (.seq (.seq (.seq (.load 22 20 .dyn) (.load 20 19 .dyn)) (.seq (.load 22 20 .dyn) (.const 20))) (.seq (.seq (.load 22 5 .dyn) (.load 23 22 .dyn)) (.seq (.load 22 5 .dyn) (.load 23 22 .dyn)))) (.seq (.seq (.seq (.load 22 5 .dyn) (.load 23 22 .dyn)) (.seq (.const 22) (.load 23 21 .dyn))) (.seq (.seq (.load 24 23 .dyn) (.load 23 21 .dyn)) (.seq (.load 24 23 .dyn) (.load 23 21 .dyn))))) (.seq (.seq (.seq (.seq (.load 24 23 .dyn) (.const 23)) (.seq (.const 24) (.arith 24))) (.seq (.seq (.ite (.bind 24 4) (.seq (.alloc 25 (.sh 0) .dict) (.bind 24 25))) (.const 25)) (.seq (.arith 25) (.ite (.bind 25 1) (.seq (.seq (.alloc 26 (.sh 0) (.lit [])) (.call 27 45 [])) (.seq (.merge 26 27) (.bind 25 26))))))) (.seq (.seq (.seq (.call 26 17 [19, 5, 21, 4, 1]) (.alloc 19 (.sh 0) (.lit [("", 20)]))) (.seq (.alloc 20 (.sh 0) (.lit [("", 22)])) (.alloc 21 (.sh 0) (.lit [("", 23)])))) (.seq (.seq (.alloc 22 (.sh 0) (.lit [("", 25)])) (.alloc 23 (.sh 1) (.lit [("", 19), ("", 20), ("", 21), ("", 24), ("", 22)]))) (.seq (.bind 3 23) (.seq (.store 11 .dyn 3) (.const 19)))))))))) (.seq (.call 18 307 [11]) (.ret 18)))))) .skip))))) (.seq (.seq (.seq (.load 18 0 .dyn) (.seq (.load 19 18 .dyn) (.bind 12 19))) (.seq (.alloc 18 (.sh 1) .dict) (.seq (.bind 11 18) (.alloc 18 (.sh 0) .dict)))) (.seq (.seq (.havoc 19) (.seq (.store 18 .dyn 19) (.loop [.any, .any, .any, (.lv (.sh 0)), .any, (.lv .num), .any, .any, (.lv (.sh 0)), .any, .any, (.lv (.sh 1)), .any, .scalar, (.lv .num), (.lv (.sh 0)), .any, .any, (.lv (.sh 0)), .any, .any, (.lv .nums), (.lv .nums), (.lv (.sh 1)), (.lv (.sh 0)), .scalar, .any, (.lv (.sh 0)), (.lv (.sh 0)), (.lv (.sh 0))] (.block (.seq (.seq (.seq (.load 19 18 .dyn) (.seq (.load 20 19 .dyn) (.bind 10 20))) (.seq (.load 20 19 .dyn) (.seq (.bind 9 20) (.alloc 19 (.sh 0) .dict)))) (.seq (.seq (.loop [.any, .any, .any, (.lv (.sh 0)), .any, (.lv .num), .any, .any, (.lv (.sh 0)), .any, .any, (.lv (.sh 1)), .any, .scalar, (.lv .num), (.lv (.sh 0)), .any, .any, (.lv (.sh 0)), (.lv (.sh 0)), .any, (.lv .nums), (.lv .nums), (.lv (.sh 1)), (.lv (.sh 0)), .scalar, .any, (.lv (.sh 0)), (.lv (.sh 0)), (.lv (.sh 0))] (.seq (.seq (.load 20 12 .dyn) (.bind 16 20)) (.seq (.load 20 10 .dyn) (.seq (.bind 17 20) (.store 19 .dyn 17))))) (.seq (.bind 8 19) (.alloc 19 (.sh 0) .dict))) (.seq (.havoc 20) (.seq (.store 19 .dyn 20) (.loop [.any, .any, .any, (.lv (.sh 0)), .any, (.lv .num), .any, .any, (.lv (.sh 0)), .any, .any, (.lv (.sh 1)), .any, .scalar, (.lv .num), (.lv (.sh 0)), .any, .any, (.lv (.sh 0)), (.lv (.sh 0)), .any, (.lv .nums), (.lv .nums), (.lv (.sh 1)), (.lv (.sh 0)), .scalar, .any, (.lv (.sh 0)), (.lv (.sh 0)), (.lv (.sh 0))] (.block (.seq (.seq (.seq (.seq (.seq (.seq (.load 20 19 .dyn) (.load 21 20 .dyn)) (.seq (.bind 7 21) (.load 21 20 .dyn))) (.seq (.seq (.bind 6 21) (.const 20)) (.seq (.load 20 6 .dyn) (.seq (.call 21 56 [20, 14]) (.const 20))))) (.seq (.seq (.seq (.const 20) (.arith 20)) (.seq (.bind 5 20) (.const 20))) (.seq (.seq (.const 21) (.alloc 22 .nums (.lit [("", 20), ("", 21)]))) (.seq (.alloc 20 (.sh 0) .dict) (.seq (.havoc 21) (.store 20 .dyn 21)))))) (.seq (.seq (.seq (.seq (.ite (.call 21 214 [20]) (.seq (.alloc 21 (.sh 0) .dict) (.seq (.havoc 20) (.store 21 .dyn 20)))) (.bind 4 21)) (.seq (.const 20) (.load 20 6 .dyn))) (.seq (.seq (.const 20) (.const 21)) (.seq (.load 21 6 .dyn) (.seq (.arith 21) (.call 22 56 [5, 21]))))) (.seq (.seq (.seq (.call 21 46 [1]) (.alloc 23 (.sh 0) (.union [21]))) (.seq (.const 21) (.store 23 .dyn 8))) (.seq (.seq (.load 21 23 .dyn) (.alloc 23 (.sh 0) (.lit [("", 21)]))) (.seq (.alloc 24 (.sh 0) (.lit [("", 23)])) (.seq (.call 23 45 [21]) (.merge 24 23))))))) (.seq (.seq (.seq (.seq (.seq (.const 21) (.load 21 20 .dyn)) (.seq (.load 23 21 .dyn) (.load 21 20 .dyn))) (.seq (.seq (.load 23 21 .dyn) (.load 21 20 .dyn)) (.seq (.load 23 21 .dyn) (.seq (.const 21) (.load 23 5 .dyn))))) (.seq (.seq (.seq (.load 25 23 .dyn) (.load 23 5 .dyn)) (.seq (.load 25 23 .dyn) (.load 23 5 .dyn))) (.seq (.seq (.load 25 23 .dyn) (.const 23)) (.seq (.load 25 22 .dyn) (.seq (.load 26 25 .dyn) (.load 25 22 .dyn)))))) (.seq (.seq (.seq (.seq (.load 26 25 .dyn) (.load 25 22 .dyn)) (.seq (.load 26 25 .dyn) (.const 25))) (.seq (.seq (.const 26) (.arith 26)) (.seq (.ite (.bind 26 4) (.seq (.alloc 27 .nums .dict) (.bind 26 27))) (.seq (.const 27) (.arith 27))))) (.seq (.seq (.seq (.ite (.bind 27 24) (.seq (.seq (.alloc 28 (.sh 0) (.lit [])) (.call 29 45 [])) (.seq (.merge 28 29) (.bind 27 28)))) (.call 28 17 [20, 5, 22, 4, 24])) (.seq (.alloc 20 .nums (.lit [("", 21)])) (.seq (.alloc 21 .nums (.lit [("", 23)])) (.alloc 22 .nums (.lit [("", 25)]))))) (.seq (.seq (.alloc 23 (.sh 1) (.lit [("", 27)])) (.alloc 24 (.sh 0) (.lit [("", 20), ("", 21), ("", 22), ("", 26), ("", 23)]))) (.seq (.bind 3 24) (.seq (.store 11 .dyn 3) (.const 20)))))))))))))))))) (.seq (.alloc 18 (.sh 1) (.union [11])) (.seq (.call 19 307 [18]) (.ret 19))))))),
  (.lv (.sh 2))⟩

/-- bermuda/io/chain_ladder.py:45  params: chain_ladder, base_metadata, <globals> -/
def f172 : Fn := ⟨"bermuda.io.chain_ladder:chain_ladder_to_triangle@Triangle.from_chain_ladder", [0, 1, 2], [],
  (.seq (.seq (.seq (.seq (.seq (.const 18) (.seq (.const 18) (.arith 18))) (.seq (.ite (.seq (.seq (.alloc 18 (.sh 0) (.lit [])) (.call 19 45 [])) (.seq (.merge 18 19) (.bind 1 18))) .skip) (.seq (.load 18 0 .dyn) (.load 19 18 .dyn)))) (.seq (.seq (.const 18) (.seq (.ite (.seq (.const 18) (.seq (.const 18) .raise)) .skip) (.alloc 18 (.sh 0) .dict))) (.seq (.havoc 19) (.seq (.store 18 .dyn 19) (.alloc 18 (.sh 0) .dict))))) (.seq (.seq (.seq (.havoc 19) (.seq (.store 18 .dyn 19) (.bind 15 18))) (.seq (.alloc 18 .nums .dict) (.seq (.const 19) (.const 19)))) (.seq (.seq (.store 18 .dyn 19) (.seq (.const 19) (.const 19))) (.seq (.store 18 .dyn 19) (.seq (.const 19) (.const 19)))))) (.seq (.seq (.seq (.seq (.store 18 .dyn 19) (.seq (.load 19 0 .dyn) (.load 20 19 .dyn))) (.seq (.load 19 18 .dyn) (.seq (.bind 14 19) (.load 18 0 .dyn)))) (.seq (.seq (.load 19 18 .dyn) (.seq (.const 18) (.load 18 19 .dyn))) (.seq (.const 18) (.seq (.arith 18) (.ite (.seq (.seq (.seq (.seq (.alloc 18 (.sh 0) .dict) (.havoc 19)) (.seq (.store 18 .dyn 19) (.seq (.const 18) (.const 18)))) (.seq (.seq (.const 18) (.seq (.alloc 18 (.sh 0) .dict) (.havoc 19))) (.seq (.store 18 .dyn 19) (.seq (.bind 13 18) (.alloc 18 (.sh 2) .dict))))) (.seq (.seq (.seq (.bind 11 18) (.seq (.const 18) (.alloc 19 .nums (.lit [("", 18)])))) (.seq (.alloc 18 (.sh 0) .dict) (.seq (.havoc 19) (.store 18 .dyn 19)))) (.seq (.seq (.alloc 18 (.sh 0) .dict) (.seq (.havoc 19) (.store 18 .dyn 19))) (.seq (.loop [.any, .any, .any, (.lv (.sh 1)), (.lv (.sh 0)), (.lv .num), .any, .any, .scalar, .scalar, .scalar, (.lv (.sh 2)), .scalar, (.lv (.sh 0)), (.lv .num), (.lv (.sh 0)), .scalar, .scalar, (.lv (.sh 0)), .any, .any, (.lv (.sh 0)), (.lv (.sh 0)), (.lv (.sh 1)), (.lv (.sh 0)), .any, (.lv (.sh 0)), (.lv (.sh 0))] (.block (.seq (.seq (.seq (.seq (.seq (.seq (.load 19 18 .dyn) (.load 20 19 .dyn)) (.seq (.bind 7 20) (.load 20 19 .dyn))) (.seq (.seq (.bind 6 20) (.const 19)) (.seq (.load 19 6 .dyn) (.call 20 56 [19, 14])))) (.seq (.seq (.seq (.const 19) (.const 19)) (.seq (.arith 19) (.bind 5 19))) (.seq (.seq (.alloc 19 (.sh 0) .dict) (.load 20 0 .dyn)) (.seq (.load 21 20 .dyn) (.const 20))))) (.seq (.seq (.seq (.seq (.load 20 21 .dyn) (.const 20)) (.seq (.load 20 6 .dyn) (.store 19 .dyn 20))) (.seq (.seq (.bind 4 19) (.const 19)) (.seq (.load 19 6 .dyn) (.const 19)))) (.seq (.seq (.seq (.const 20) (.load 20 6 .dyn)) (.seq (.arith 20) (.call 21 56 [5, 20]))) (.seq (.seq (.const 20) (.load 20 19 .dyn)) (.seq (.load 22 20 .dyn) (.load 20 19 .dyn)))))) (.seq (.seq (.seq (.seq (.seq (.load 22 20 .dyn) (.load 20 19 .dyn)) (.seq (.load 22 20 .dyn) (.const 20))) (.seq (.seq (.load 22 5 .dyn) (.load 23 22 .dyn)) (.seq (.load 22 5 .dyn) (.load 23 22 .dyn)))) (.seq (.seq (.seq (.load 22 5 .dyn) (.load 23 22 .dyn)) (.seq (.const 22) (.load 23 21 .dyn))) (.seq (.seq (.load 24 23 .dyn) (.load 23 21 .dyn)) (.seq (.load 24 23 .dyn) (.load 23 21 .dyn))))) (.seq (.seq (.seq (.seq (.load 24 23 .dyn) (.const 23)) (.seq (.const 24) (.arith 24))) (.seq (.seq (.ite (.bind 24 4) (.seq (.alloc 25 (.sh 0) .dict) (.bind 24 25))) (.const 25)) (.seq (.arith 25) (.ite (.bind 25 1) (.seq (.seq (.alloc 26 (.sh 0) (.lit [])) (.call 27 45 [])) (.seq (.merge 26 27) (.bind 25 26))))))) (.seq (.seq (.seq (.call 26 17 [19, 5, 21, 4, 1]) (.alloc 19 (.sh 0) (.lit [("", 20)]))) (.seq (.alloc 20 (.sh 0) (.lit [("", 22)])) (.alloc 21 (.sh 0) (.lit [("", 23)])))) (.seq (.seq (.alloc 22 (.sh 0) (.lit [("", 25)])) (.alloc 23 (.sh 1) (.lit [("", 19), ("", 20), ("", 21), ("", 24), ("", 22)]))) (.seq (.bind 3 23) (.seq (.store 11 .dyn 3) (.const 19)))))))))) (.seq (.call 18 307 [11]) (.ret 18)))))) .skip))))) (.seq (.seq (.seq (.load 18 0 .dyn) (.seq (.load 19 18 .dyn) (.bind 12 19))) (.seq (.alloc 18 (.sh 1) .dict) (.seq (.bind 11 18) (.alloc 18 (.sh 0) .dict)))) (.seq (.seq (.havoc 19) (.seq (.store 18 .dyn 19) (.loop [.any, .any, .any, (.lv (.sh 0)), .any, (.lv .num), .any, .any, (.lv (.sh 0)), .any, .any, (.lv (.sh 1)), .any, .scalar, (.lv .num), (.lv (.sh 0)), .any, .any, (.lv (.sh 0)), .any, .any, (.lv .nums), (.lv .nums), (.lv (.sh 1)), (.lv (.sh 0)), .scalar, .any, (.lv (.sh 0)), (.lv (.sh 0)), (.lv (.sh 0))] (.block (.seq (.seq (.seq (.load 19 18 .dyn) (.seq (.load 20 19 .dyn) (.bind 10 20))) (.seq (.load 20 19 .dyn) (.seq (.bind 9 20) (.alloc 19 (.sh 0) .dict)))) (.seq (.seq (.loop [.any, .any, .any, (.lv (.sh 0)), .any, (.lv .num), .any, .any, (.lv (.sh 0)), .any, .any, (.lv (.sh 1)), .any, .scalar, (.lv .num), (.lv (.sh 0)), .any, .any, (.lv (.sh 0)), (.lv (.sh 0)), .any, (.lv .nums), (.lv .nums), (.lv (.sh 1)), (.lv (.sh 0)), .scalar, .any, (.lv (.sh 0)), (.lv (.sh 0)), (.lv (.sh 0))] (.seq (.seq (.load 20 12 .dyn) (.bind 16 20)) (.seq (.load 20 10 .dyn) (.seq (.bind 17 20) (.store 19 .dyn 17))))) (.seq (.bind 8 19) (.alloc 19 (.sh 0) .dict))) (.seq (.havoc 20) (.seq (.store 19 .dyn 20) (.loop [.any, .any, .any, (.lv (.sh 0)), .any, (.lv .num), .any, .any, (.lv (.sh 0)), .any, .any, (.lv (.sh 1)), .any, .scalar, (.lv .num), (.lv (.sh 0)), .any, .any, (.lv (.sh 0)), (.lv (.sh 0)), .any, (.lv .nums), (.lv .nums), (.lv (.sh 1)), (.lv (.sh 0)), .scalar, .any, (.lv (.sh 0)), (.lv (.sh 0)), (.lv (.sh 0))] (.block (.seq (.seq (.seq (.seq (.seq (.seq (.load 20 19 .dyn) (.load 21 20 .dyn)) (.seq (.bind 7 21) (.load 21 20 .dyn))) (.seq (.seq (.bind 6 21) (.const 20)) (.seq (.load 20 6 .dyn) (.seq (.call 21 56 [20, 14]) (.const 20))))) (.seq (.seq (.seq (.const 20) (.arith 20)) (.seq (.bind 5 20) (.const 20))) (.seq (.seq (.const 21) (.alloc 22 .nums (.lit [("", 20), ("", 21)]))) (.seq (.alloc 20 (.sh 0) .dict) (.seq (.havoc 21) (.store 20 .dyn 21)))))) (.seq (.seq (.seq (.seq (.ite (.call 21 214 [20]) (.seq (.alloc 21 (.sh 0) .dict) (.seq (.havoc 20) (.store 21 .dyn 20)))) (.bind 4 21)) (.seq (.const 20) (.load 20 6 .dyn))) (.seq (.seq (.const 20) (.const 21)) (.seq (.load 21 6 .dyn) (.seq (.arith 21) (.call 22 56 [5, 21]))))) (.seq (.seq (.seq (.call 21 46 [1]) (.alloc 23 (.sh 0) (.union [21]))) (.seq (.const 21) (.store 23 .dyn 8))) (.seq (.seq (.load 21 23 .dyn) (.alloc 23 (.sh 0) (.lit [("", 21)]))) (.seq (.alloc 24 (.sh 0) (.lit [("", 23)])) (.seq (.call 23 45 [21]) (.merge 24 23))))))) (.seq (.seq (.seq (.seq (.seq (.const 21) (.load 21 20 .dyn)) (.seq (.load 23 21 .dyn) (.load 21 20 .dyn))) (.seq (.seq (.load 23 21 .dyn) (.load 21 20 .dyn)) (.seq (.load 23 21 .dyn) (.seq (.const 21) (.load 23 5 .dyn))))) (.seq (.seq (.seq (.load 25 23 .dyn) (.load 23 5 .dyn)) (.seq (.load 25 23 .dyn) (.load 23 5 .dyn))) (.seq (.seq (.load 25 23 .dyn) (.const 23)) (.seq (.load 25 22 .dyn) (.seq (.load 26 25 .dyn) (.load 25 22 .dyn)))))) (.seq (.seq (.seq (.seq (.load 26 25 .dyn) (.load 25 22 .dyn)) (.seq (.load 26 25 .dyn) (.const 25))) (.seq (.seq (.const 26) (.arith 26)) (.seq (.ite (.bind 26 4) (.seq (.alloc 27 .nums .dict) (.bind 26 27))) (.seq (.const 27) (.arith 27))))) (.seq (.seq (.seq (.ite (.bind 27 24) (.seq (.seq (.alloc 28 (.sh 0) (.lit [])) (.call 29 45 [])) (.seq (.merge 28 29) (.bind 27 28)))) (.call 28 17 [20, 5, 22, 4, 24])) (.seq (.alloc 20 .nums (.lit [("", 21)])) (.seq (.alloc 21 .nums (.lit [("", 23)])) (.alloc 22 .nums (.lit [("", 25)]))))) (.seq (.seq (.alloc 23 (.sh 1) (.lit [("", 27)])) (.alloc 24 (.sh 0) (.lit [("", 20), ("", 21), ("", 22), ("", 26), ("", 23)]))) (.seq (.bind 3 24) (.seq (.store 11 .dyn 3) (.const 20)))))))))))))))))) (.seq (.alloc 18 (.sh 1) (.union [11])) (.seq (.call 19 307 [18]) (.ret 19))))))),
  (.lv (.sh 2))⟩

/-- bermuda/io/chain_ladder.py:11  params: triangle, <globals> -/
def f173 : Fn := ⟨"bermuda.io.chain_ladder:triangle_to_chain_ladder", [0, 1], [],
  (.seq (.seq (.seq (.seq (.const 5) (.seq (.«try» .skip (.seq (.seq (.const 5) (.const 5)) (.seq (.const 5) .raise))) (.call 5 198 [0]))) (.seq (.seq (.bind 4 5) (.load 5 4 .dyn)) (.seq (.load 6 5 .dyn) (.alloc 5 (.sh 0) (.union [6]))))) (.seq (.seq (.ite (.seq (.load 5 0 .dyn) (.load 6 5 .dyn)) (.call 6 326 [0])) (.seq (.const 5) (.const 7))) (.seq (.seq (.const 8) (.alloc 9 .nums (.lit [("", 5), ("", 7), ("", 8)]))) (.seq (.ite (.arith 5) (.alloc 5 (.sh 0) (.union [6, 9]))) (.alloc 6 (.sh 0) (.union [5])))))) (.seq (.seq (.seq (.arith 5) (.seq (.bind 3 5) (.const 5))) (.seq (.seq (.const 5) (.ite (.seq (.load 5 0 .dyn) (.load 6 5 .dyn)) (.call 6 326 [0]))) (.seq (.const 5) (.const 5)))) (.seq (.seq (.seq (.ite (.seq (.load 5 0 .dyn) (.load 6 5 .dyn)) (.call 6 333 [0])) (.const 5)) (.seq (.alloc 5 .nums (.union [3])) (.alloc 5 (.sh 0) .dict))) (.seq (.seq (.havoc 6) (.store 5 .dyn 6)) (.seq (.bind 2 5) (.ret 2)))))),
  (.lv (.sh 0))⟩

/-- bermuda/io/data_frame_input.py:450  params: df, <globals> -/
def f174 : Fn := ⟨"bermuda.io.data_frame_input:_check_index_columns", [0, 1], [0],
  (.seq (.seq (.load 4 1 .dyn) (.seq (.loop [(.lv .ext), .any, .any, .any, .any, (.lv (.sh 0)), .any] (.block (.seq (.seq (.seq (.load 5 4 .dyn) (.bind 2 5)) (.seq (.arith 5) (.ite (.seq (.const 5) (.seq (.const 5) .raise)) .skip))) (.seq (.seq (.load 5 0 .dyn) (.const 5)) (.seq (.const 5) (.ite (.seq (.seq (.seq (.load 5 0 .dyn) (.ite .skip (.loop [(.lv .ext), .any, .any, .any, .any, .any, .any] (.block (.seq (.havoc 3) (.seq (.const 5) (.const 5))))))) (.seq (.const 5) (.alloc 5 (.sh 0) .dict))) (.seq (.seq (.havoc 6) (.store 5 .dyn 6)) (.seq (.arith 5) (.ite (.seq (.seq (.load 5 0 .dyn) (.alloc 5 (.sh 0) .dict)) (.seq (.havoc 6) (.seq (.store 5 .dyn 6) (.store 0 .dyn 5)))) (.seq (.const 5) (.seq (.const 5) .raise)))))) .skip)))))) (.const 4))) (.seq (.seq (.load 4 0 .dyn) (.load 5 4 .dyn)) (.seq (.arith 4) (.ite (.seq (.seq (.const 4) (.load 4 0 .dyn)) (.seq (.const 4) (.seq (.const 4) (.ite (.seq (.const 4) (.seq (.const 4) .raise)) .skip)))) .skip)))),
  .scalar⟩

/-- bermuda/io/data_frame_input.py:556  params: column, default, <globals> -/
def f175 : Fn := ⟨"bermuda.io.data_frame_input:_clean_list_column", [0, 1, 2], [],
  (.seq (.seq (.alloc 5 (.sh 0) .dict) (.arith 6)) (.seq (.loop [.any, .any, .any, .any, .scalar, (.lv (.sh 0)), (.lv .num), .any] (.seq (.seq (.load 7 0 .dyn) (.seq (.bind 3 7) (.load 7 6 .dyn))) (.seq (.bind 4 7) (.seq (.ite (.bind 7 1) (.bind 7 3)) (.store 5 .dyn 7))))) (.ret 5))),
  (.lv (.sh 0))⟩

/-- bermuda/io/data_frame_input.py:549  params: df, colname, default, <globals> -/
def f176 : Fn := ⟨"bermuda.io.data_frame_input:_clean_metadata_column", [0, 1, 2, 3], [],
  (.seq (.const 1) (.seq (.arith 5) (.ite (.seq (.load 5 0 .dyn) (.seq (.call 6 175 [5, 2]) (.ret 6))) (.seq (.seq (.alloc 5 (.sh 0) .dict) (.seq (.load 6 0 .dyn) (.load 7 6 .dyn))) (.seq (.seq (.const 6) (.load 6 7 .dyn)) (.seq (.loop [.any, .scalar, .any, .any, .scalar, (.lv (.sh 0)), .any, .any] (.seq (.const 6) (.seq (.bind 4 6) (.store 5 .dyn 2)))) (.ret 5))))))),
  (.lv (.sh 0))⟩

/-- bermuda/io/data_frame_input.py:468  params: df, metadata, detail_columns, loss_detail_columns, <globals> -/
def f177 : Fn := ⟨"bermuda.io.data_frame_input:_create_metadata", [0, 1, 2, 3, 4], [],
  (.seq (.seq (.seq (.seq (.seq (.const 22) (.load 23 1 .dyn)) (.seq (.load 24 23 .dyn) (.seq (.call 23 176 [0, 22, 24]) (.bind 13 23)))) (.seq (.seq (.const 22) (.seq (.load 23 1 .dyn) (.load 24 23 .dyn))) (.seq (.call 23 176 [0, 22, 24]) (.seq (.bind 12 23) (.const 22))))) (.seq (.seq (.seq (.load 23 1 .dyn) (.seq (.load 24 23 .dyn) (.call 23 176 [0, 22, 24]))) (.seq (.bind 11 23) (.seq (.const 22) (.load 23 1 .dyn)))) (.seq (.seq (.load 24 23 .dyn) (.seq (.call 23 176 [0, 22, 24]) (.bind 10 23))) (.seq (.const 22) (.seq (.load 23 1 .dyn) (.load 24 23 .dyn)))))) (.seq (.seq (.seq (.seq (.call 23 176 [0, 22, 24]) (.bind 9 23)) (.seq (.const 22) (.seq (.load 23 1 .dyn) (.load 24 23 .dyn)))) (.seq (.seq (.call 23 176 [0, 22, 24]) (.seq (.bind 8 23) (.alloc 22 (.sh 0) (.union [2])))) (.seq (.alloc 22 (.sh 0) (.union [3])) (.seq (.arith 22) (.alloc 23 .nums (.union [22])))))) (.seq (.seq (.seq (.bind 7 23) (.seq (.load 22 1 .dyn) (.load 23 22 .dyn))) (.seq (.call 22 178 [0, 7, 23]) (.seq (.bind 6 22) (.load 22 1 .dyn)))) (.seq (.seq (.load 23 22 .dyn) (.seq (.call 22 178 [0, 3, 23]) (.bind 5 22))) (.seq (.alloc 22 (.sh 1) .dict) (.seq (.loop [.any, .any, .any, .any, .any, (.lv (.sh 1)), (.lv (.sh 1)), (.lv .nums), (.lv (.sh 0)), (.lv (.sh 0)), (.lv (.sh 0)), (.lv (.sh 0)), (.lv (.sh 0)), (.lv (.sh 0)), .any, .any, .any, .any, .any, .any, (.lv (.sh 0)), (.lv (.sh 0)), (.lv (.sh 1)), .any, .any, (.lv (.sh 0)), (.lv (.sh 0)), (.lv (.sh 0)), (.lv (.sh 0)), (.lv (.sh 1)), (.lv (.sh 1)), (.lv (.sh 0))] (.seq (.seq (.seq (.seq (.load 23 13 .dyn) (.seq (.bind 14 23) (.load 23 12 .dyn))) (.seq (.seq (.bind 15 23) (.load 23 11 .dyn)) (.seq (.bind 16 23) (.load 23 10 .dyn)))) (.seq (.seq (.bind 17 23) (.seq (.load 23 9 .dyn) (.bind 18 23))) (.seq (.seq (.load 23 8 .dyn) (.bind 19 23)) (.seq (.load 23 6 .dyn) (.bind 20 23))))) (.seq (.seq (.seq (.load 23 5 .dyn) (.seq (.bind 21 23) (.alloc 23 (.sh 0) (.lit [("", 14)])))) (.seq (.seq (.alloc 24 (.sh 0) (.lit [("", 15)])) (.alloc 25 (.sh 0) (.lit [("", 16)]))) (.seq (.alloc 26 (.sh 0) (.lit [("", 17)])) (.alloc 27 (.sh 0) (.lit [("", 18)]))))) (.seq (.seq (.alloc 28 (.sh 0) (.lit [("", 19)])) (.seq (.alloc 29 (.sh 1) (.lit [("", 20)])) (.alloc 30 (.sh 1) (.lit [("", 21)])))) (.seq (.seq (.alloc 31 (.sh 0) (.lit [("", 23), ("", 24), ("", 25), ("", 26), ("", 27), ("", 28), ("", 29), ("", 30)])) (.call 23 45 [14, 15, 16, 17, 18, 19, 20, 21])) (.seq (.merge 31 23) (.store 22 .dyn 31))))))) (.ret 22))))))),
  (.lv (.sh 1))⟩

/-- bermuda/io/data_frame_input.py:527  params: df, detail_columns, default_details, <globals> -/
def f178 : Fn := ⟨"bermuda.io.data_frame_input:_create_metadata_details", [0, 1, 2, 3], [],
  (.seq (.seq (.seq (.alloc 12 (.sh 1) .dict) (.seq (.load 13 0 .dyn) (.load 14 13 .dyn))) (.seq (.const 13) (.seq (.load 13 14 .dyn) (.loop [.any, .any, .any, .any, .scalar, .scalar, .scalar, .scalar, .scalar, .scalar, .scalar, .scalar, (.lv (.sh 1)), .any, .any] (.seq (.seq (.const 13) (.bind 10 13)) (.seq (.alloc 13 (.sh 0) .dict) (.store 12 .dyn 13))))))) (.seq (.seq (.bind 9 12) (.seq (.loop [.any, .any, .any, .any, .scalar, .scalar, .scalar, .any, (.lv (.sh 0)), (.lv (.sh 1)), .scalar, .scalar, .any, .any, .any] (.block (.seq (.seq (.const 12) (.seq (.bind 5 12) (.load 12 0 .dyn))) (.seq (.seq (.ite (.const 13) (.ite (.load 13 2 .dyn) (.bind 13 5))) (.call 14 175 [12, 13])) (.seq (.bind 8 14) (.loop [.any, .any, .any, .any, .scalar, .scalar, .scalar, .any, (.lv (.sh 0)), (.lv (.sh 1)), .scalar, .scalar, .any, .any, (.lv (.sh 0))] (.block (.seq (.seq (.const 12) (.seq (.bind 4 12) (.load 12 8 .dyn))) (.seq (.seq (.bind 7 12) (.const 12)) (.seq (.arith 12) (.ite (.seq (.load 12 9 .dyn) (.store 12 .dyn 7)) .skip))))))))))) (.alloc 12 (.sh 0) .dict))) (.seq (.seq (.loop [.any, .any, .any, .any, .scalar, .scalar, .scalar, .any, (.lv (.sh 0)), (.lv (.sh 1)), .scalar, .any, (.lv (.sh 0)), .any, .any] (.seq (.seq (.load 13 2 .dyn) (.bind 11 13)) (.seq (.arith 13) (.ite .skip (.store 12 .dyn 11))))) (.bind 6 12)) (.seq (.loop [.any, .any, .any, .any, .scalar, .any, (.lv (.sh 0)), .any, (.lv (.sh 0)), (.lv (.sh 1)), .scalar, .any, .any, .any, .any] (.block (.seq (.seq (.load 12 6 .dyn) (.bind 5 12)) (.seq (.const 12) (.loop [.any, .any, .any, .any, .scalar, .any, (.lv (.sh 0)), .any, (.lv (.sh 0)), (.lv (.sh 1)), .scalar, .any, .any, .any, .any] (.block (.seq (.seq (.const 12) (.bind 4 12)) (.seq (.load 12 2 .dyn) (.seq (.load 13 9 .dyn) (.store 13 .dyn 12)))))))))) (.ret 9))))),
  (.lv (.sh 1))⟩

/-- bermuda/io/data_frame_input.py:84  params: file_or_fname, metadata, kwargs, <globals> -/
def f179 : Fn := ⟨"bermuda.io.data_frame_input:long_csv_to_triangle", [0, 1, 2, 3], [],
  (.seq (.seq (.seq (.seq (.const 0) (.const 7)) (.seq (.const 7) (.const 7))) (.seq (.seq (.ite (.seq (.seq (.const 7) (.alloc 7 (.sh 0) .dict)) (.seq (.havoc 8) (.seq (.store 7 .dyn 8) (.bind 6 7)))) (.seq (.seq (.const 7) (.alloc 7 (.sh 0) .dict)) (.seq (.havoc 8) (.seq (.store 7 .dyn 8) (.bind 6 7))))) (.const 7)) (.seq (.load 7 6 .dyn) (.load 8 7 .dyn)))) (.seq (.seq (.seq (.arith 7) (.ite (.seq (.load 7 3 .dyn) (.bind 8 7)) (.seq (.load 7 3 .dyn) (.bind 8 7)))) (.seq (.bind 5 8) (.const 7))) (.seq (.seq (.const 7) (.ite (.seq (.seq (.load 7 2 .dyn) (.alloc 7 (.sh 0) .dict)) (.seq (.havoc 8) (.seq (.store 7 .dyn 8) (.bind 4 7)))) (.seq (.seq (.load 7 2 .dyn) (.alloc 7 (.sh 0) .dict)) (.seq (.havoc 8) (.seq (.store 7 .dyn 8) (.bind 4 7)))))) (.seq (.const 7) (.seq (.call 8 181 [4, 7, 1]) (.ret 8)))))),
  (.lv (.sh 2))⟩

/-- bermuda/io/data_frame_input.py:84  params: file_or_fname, metadata, kwargs, <globals> -/
def f180 : Fn := ⟨"bermuda.io.data_frame_input:long_csv_to_triangle@Triangle.from_long_csv", [0, 1, 2, 3], [],
  (.seq (.seq (.seq (.seq (.const 0) (.const 7)) (.seq (.const 7) (.const 7))) (.seq (.seq (.ite (.seq (.seq (.const 7) (.alloc 7 (.sh 0) .dict)) (.seq (.havoc 8) (.seq (.store 7 .dyn 8) (.bind 6 7)))) (.seq (.seq (.const 7) (.alloc 7 (.sh 0) .dict)) (.seq (.havoc 8) (.seq (.store 7 .dyn 8) (.bind 6 7))))) (.const 7)) (.seq (.load 7 6 .dyn) (.load 8 7 .dyn)))) (.seq (.seq (.seq (.arith 7) (.ite (.seq (.load 7 3 .dyn) (.bind 8 7)) (.seq (.load 7 3 .dyn) (.bind 8 7)))) (.seq (.bind 5 8) (.const 7))) (.seq (.seq (.const 7) (.ite (.seq (.seq (.load 7 2 .dyn) (.alloc 7 (.sh 0) .dict)) (.seq (.havoc 8) (.seq (.store 7 .dyn 8) (.bind 4 7)))) (.seq (.seq (.load 7 2 .dyn) (.alloc 7 (.sh 0) .dict)) (.seq (.havoc 8) (.seq (.store 7 .dyn 8) (.bind 4 7)))))) (.seq (.const 7) (.seq (.call 8 181 [4, 7, 1]) (.ret 8)))))),
  (.lv (.sh 2))⟩

/-- bermuda/io/data_frame_input.py:288  params: df, loss_detail_cols, metadata, <globals> -/
def f181 : Fn := ⟨"bermuda.io.data_frame_input:long_data_frame_to_triangle", [0, 1, 2, 3], [0],
  (.seq (.seq (.seq (.seq (.seq (.seq (.const 27) (.call 27 174 [0])) (.seq (.const 27) (.seq (.arith 27) (.ite (.seq (.const 27) (.seq (.const 27) .raise)) .skip)))) (.seq (.seq (.load 27 0 .dyn) (.load 28 27 .dyn)) (.seq (.const 27) (.seq (.const 27) (.ite (.seq (.const 27) (.seq (.const 27) .raise)) .skip))))) (.seq (.seq (.seq (.const 27) (.arith 27)) (.seq (.ite (.seq (.const 27) (.seq (.const 27) .raise)) .skip) (.seq (.load 27 0 .dyn) (.load 28 27 .dyn)))) (.seq (.seq (.const 27) (.seq (.const 27) (.ite (.seq (.const 27) (.seq (.const 27) .raise)) .skip))) (.seq (.const 27) (.seq (.arith 27) (.ite (.seq (.alloc 27 .nums .dict) (.bind 1 27)) .skip)))))) (.seq (.seq (.seq (.seq (.load 27 0 .dyn) (.load 28 27 .dyn)) (.seq (.load 27 28 .dyn) (.seq (.alloc 28 (.sh 0) (.union [27])) (.load 27 3 .dyn)))) (.seq (.seq (.arith 27) (.seq (.const 27) (.const 28))) (.seq (.alloc 29 .nums (.lit [("", 27), ("", 28)])) (.seq (.arith 27) (.alloc 27 (.sh 0) (.union [1])))))) (.seq (.seq (.seq (.arith 27) (.alloc 28 .nums (.union [27]))) (.seq (.bind 24 28) (.seq (.const 27) (.arith 27)))) (.seq (.seq (.ite (.seq (.seq (.alloc 27 (.sh 0) (.lit [])) (.call 28 45 [])) (.seq (.merge 27 28) (.bind 2 27))) .skip) (.seq (.call 27 177 [0, 2, 24, 1]) (.bind 23 27))) (.seq (.load 27 0 .dyn) (.seq (.load 28 27 .dyn) (.load 27 28 .dyn))))))) (.seq (.seq (.seq (.seq (.seq (.load 28 27 .dyn) (.load 27 28 .dyn)) (.seq (.load 28 27 .dyn) (.seq (.alloc 27 (.sh 0) (.union [28])) (.bind 22 27)))) (.seq (.seq (.load 27 0 .dyn) (.seq (.load 28 27 .dyn) (.load 27 28 .dyn))) (.seq (.load 28 27 .dyn) (.seq (.load 27 28 .dyn) (.load 28 27 .dyn))))) (.seq (.seq (.seq (.alloc 27 (.sh 0) (.union [28])) (.bind 21 27)) (.seq (.ite (.seq (.load 27 0 .dyn) (.load 28 27 .dyn)) (.call 28 320 [0])) (.seq (.load 27 28 .dyn) (.load 28 27 .dyn)))) (.seq (.seq (.load 27 28 .dyn) (.seq (.load 28 27 .dyn) (.alloc 27 (.sh 0) (.union [28])))) (.seq (.bind 20 27) (.seq (.const 27) (.load 27 0 .dyn)))))) (.seq (.seq (.seq (.seq (.load 28 27 .dyn) (.arith 27)) (.seq (.ite (.seq (.seq (.seq (.load 27 0 .dyn) (.load 28 27 .dyn)) (.seq (.load 27 28 .dyn) (.load 28 27 .dyn))) (.seq (.seq (.load 27 28 .dyn) (.load 28 27 .dyn)) (.seq (.alloc 27 (.sh 0) (.union [28])) (.bind 19 27)))) .skip) (.seq (.load 27 0 .dyn) (.load 28 27 .dyn)))) (.seq (.seq (.alloc 27 (.sh 0) (.union [28])) (.seq (.bind 18 27) (.load 27 0 .dyn))) (.seq (.load 28 27 .dyn) (.seq (.alloc 27 (.sh 0) (.union [28])) (.bind 17 27))))) (.seq (.seq (.seq (.alloc 27 (.sh 2) .dict) (.bind 16 27)) (.seq (.const 27) (.seq (.load 27 0 .dyn) (.load 28 27 .dyn)))) (.seq (.seq (.arith 27) (.seq (.ite (.loop [(.lv .ext), .any, .any, .any, .any, .scalar, (.lv (.sh 0)), .scalar, .scalar, .any, .any, .any, .any, .scalar, .scalar, .any, (.lv (.sh 2)), (.lv (.sh 0)), (.lv (.sh 0)), (.lv (.sh 0)), (.lv (.sh 0)), (.lv (.sh 0)), (.lv (.sh 0)), (.lv (.sh 1)), (.lv .nums), .scalar, .scalar, (.lv (.sh 0)), .any, .any, (.lv (.sh 0)), (.lv (.sh 0)), (.lv (.sh 0)), (.lv (.sh 1)), (.lv (.sh 0))] (.block (.seq (.seq (.seq (.seq (.load 27 23 .dyn) (.bind 2 27)) (.seq (.load 27 22 .dyn) (.bind 12 27))) (.seq (.seq (.load 27 21 .dyn) (.bind 11 27)) (.seq (.load 27 20 .dyn) (.seq (.bind 10 27) (.load 27 19 .dyn))))) (.seq (.seq (.seq (.bind 15 27) (.load 27 18 .dyn)) (.seq (.bind 9 27) (.seq (.load 27 17 .dyn) (.bind 4 27)))) (.seq (.seq (.alloc 27 (.sh 0) (.lit [("", 12), ("", 11), ("", 10), ("", 15), ("", 2)])) (.bind 6 27)) (.seq (.const 27) (.seq (.arith 27) (.ite (.seq (.arith 27) (.ite (.seq (.seq (.seq (.load 27 16 .dyn) (.load 28 27 .dyn)) (.seq (.arith 27) (.ite (.seq (.const 27) (.seq (.const 27) .raise)) .skip))) (.seq (.seq (.arith 27) (.load 28 16 .dyn)) (.seq (.load 29 28 .dyn) (.store 29 .dyn 27)))) (.seq (.seq (.seq (.seq (.seq (.alloc 27 (.sh 0) .dict) (.arith 28)) (.seq (.store 27 .dyn 28) (.const 28))) (.seq (.seq (.load 28 12 .dyn) (.load 29 28 .dyn)) (.seq (.load 28 12 .dyn) (.seq (.load 29 28 .dyn) (.load 28 12 .dyn))))) (.seq (.seq (.seq (.load 29 28 .dyn) (.const 28)) (.seq (.load 29 11 .dyn) (.seq (.load 30 29 .dyn) (.load 29 11 .dyn)))) (.seq (.seq (.load 30 29 .dyn) (.load 29 11 .dyn)) (.seq (.load 30 29 .dyn) (.seq (.const 29) (.load 30 10 .dyn)))))) (.seq (.seq (.seq (.seq (.load 31 30 .dyn) (.load 30 10 .dyn)) (.seq (.load 31 30 .dyn) (.seq (.load 30 10 .dyn) (.load 31 30 .dyn)))) (.seq (.seq (.const 30) (.const 31)) (.seq (.arith 31) (.seq (.ite (.bind 31 27) (.seq (.alloc 32 (.sh 0) .dict) (.bind 31 32))) (.const 32))))) (.seq (.seq (.seq (.arith 32) (.ite (.bind 32 2) (.seq (.seq (.alloc 33 (.sh 0) (.lit [])) (.call 34 45 [])) (.seq (.merge 33 34) (.bind 32 33))))) (.seq (.call 33 37 [12, 11, 10, 15, 2, 27]) (.seq (.alloc 27 (.sh 0) (.lit [("", 28)])) (.alloc 28 (.sh 0) (.lit [("", 29)]))))) (.seq (.seq (.alloc 29 (.sh 0) (.lit [("", 30)])) (.alloc 30 (.sh 0) (.lit [("", 32)]))) (.seq (.alloc 32 (.sh 0) (.lit [("", 15)])) (.seq (.alloc 33 (.sh 1) (.lit [("", 27), ("", 28), ("", 29), ("", 31), ("", 30), ("", 32)])) (.store 16 .dyn 33))))))))) .skip)))))))) (.seq (.seq (.seq (.seq (.load 27 3 .dyn) (.loop [.any, .any, .any, .any, .scalar, .scalar, .scalar, .scalar, .scalar, .scalar, .scalar, .scalar, .scalar, .scalar, .any, .scalar, (.lv (.sh 2)), (.lv (.sh 0)), (.lv (.sh 0)), (.lv (.sh 0)), (.lv (.sh 0)), (.lv (.sh 0)), (.lv (.sh 0)), (.lv (.sh 1)), (.lv .nums), (.lv (.sh 0)), .scalar, .any, .any, .any, .any] (.block (.seq (.seq (.load 28 27 .dyn) (.seq (.bind 14 28) (.load 28 0 .dyn))) (.seq (.load 29 28 .dyn) (.seq (.arith 28) (.ite (.seq (.seq (.seq (.alloc 28 (.sh 1) .dict) (.alloc 29 (.sh 0) .dict)) (.seq (.loop [.any, .any, .any, .any, .scalar, .scalar, .scalar, .scalar, .scalar, .scalar, .scalar, .scalar, .scalar, .scalar, .any, .scalar, (.lv (.sh 2)), (.lv (.sh 0)), (.lv (.sh 0)), (.lv (.sh 0)), (.lv (.sh 0)), (.lv (.sh 0)), (.lv (.sh 0)), (.lv (.sh 1)), (.lv .nums), (.lv (.sh 0)), .scalar, .any, (.lv (.sh 1)), (.lv (.sh 0)), .any] (.seq (.seq (.load 30 23 .dyn) (.bind 25 30)) (.seq (.ite (.arith 30) (.ite (.load 30 25 .dyn) (.ite (.bind 30 25) (.bind 30 14)))) (.store 29 .dyn 30)))) (.store 28 .dyn 29))) (.seq (.seq (.load 29 28 .dyn) (.alloc 28 (.sh 0) .dict)) (.seq (.havoc 29) (.seq (.store 28 .dyn 29) (.bind 0 28))))) .skip))))))) (.seq (.const 27) (.const 28))) (.seq (.seq (.const 29) (.const 30)) (.seq (.alloc 31 .nums (.lit [("", 27), ("", 28), ("", 29), ("", 30)])) (.load 27 3 .dyn)))) (.seq (.seq (.seq (.ite (.arith 28) (.alloc 28 (.sh 0) (.union [31, 27]))) (.ite (.arith 27) (.alloc 27 (.sh 0) (.union [28, 24])))) (.seq (.ite (.arith 28) (.alloc 28 (.sh 0) (.union [27, 1]))) (.const 27))) (.seq (.seq (.alloc 27 (.sh 0) .dict) (.havoc 28)) (.seq (.store 27 .dyn 28) (.loop [.any, .any, .any, .any, .any, .any, (.lv (.sh 0)), (.lv (.sh 0)), (.lv (.sh 0)), .any, .any, .any, .any, .any, .any, .scalar, (.lv (.sh 2)), (.lv (.sh 0)), (.lv (.sh 0)), (.lv (.sh 0)), (.lv (.sh 0)), (.lv (.sh 0)), (.lv (.sh 0)), (.lv (.sh 1)), (.lv .nums), (.lv (.sh 0)), .scalar, (.lv (.sh 0)), .any, (.lv (.sh 0)), (.lv (.sh 0)), .any, (.lv (.sh 1)), .scalar, .scalar, (.lv (.sh 0)), (.lv (.sh 0)), (.lv (.sh 0)), (.lv (.sh 0))] (.block (.seq (.seq (.seq (.seq (.seq (.load 28 27 .dyn) (.load 29 28 .dyn)) (.seq (.bind 13 29) (.seq (.load 29 28 .dyn) (.bind 5 29)))) (.seq (.seq (.load 28 13 .dyn) (.seq (.bind 12 28) (.load 28 13 .dyn))) (.seq (.bind 11 28) (.seq (.load 28 13 .dyn) (.bind 10 28))))) (.seq (.seq (.seq (.load 28 13 .dyn) (.bind 9 28)) (.seq (.alloc 28 (.sh 0) (.union [13])) (.seq (.bind 8 28) (.call 28 177 [5, 2, 24, 1])))) (.seq (.seq (.const 29) (.seq (.load 29 28 .dyn) (.bind 7 29))) (.seq (.alloc 28 (.sh 0) (.lit [("", 12), ("", 11), ("", 10), ("", 7)])) (.seq (.bind 6 28) (.const 28)))))) (.seq (.seq (.seq (.seq (.const 28) (.arith 28)) (.seq (.ite (.«try» (.seq (.seq (.const 28) (.seq (.alloc 29 .nums (.lit [("", 28)])) (.alloc 28 (.sh 0) .dict))) (.seq (.havoc 29) (.seq (.store 28 .dyn 29) (.bind 5 28)))) (.seq (.seq (.const 28) (.const 28)) (.seq (.const 28) .raise))) .skip) (.seq (.const 28) (.load 28 5 .dyn)))) (.seq (.seq (.load 29 28 .dyn) (.seq (.bind 4 29) (.const 28))) (.seq (.const 28) (.seq (.arith 28) (.const 29))))) (.seq (.seq (.seq (.arith 29) (.const 30)) (.seq (.load 30 5 .dyn) (.seq (.const 30) (.const 30)))) (.seq (.seq (.ite (.bind 31 29) (.bind 31 30)) (.seq (.ite (.bind 29 28) (.bind 29 31)) (.ite (.seq (.const 28) (.seq (.load 28 4 .dyn) (.bind 4 28))) .skip))) (.seq (.const 28) (.seq (.arith 28) (.ite (.seq (.arith 28) (.ite (.seq (.seq (.load 28 16 .dyn) (.seq (.load 29 28 .dyn) (.arith 28))) (.seq (.seq (.ite (.seq (.const 28) (.seq (.const 28) .raise)) .skip) (.load 28 16 .dyn)) (.seq (.load 29 28 .dyn) (.store 29 .dyn 4)))) (.seq (.seq (.seq (.seq (.seq (.const 28) (.const 29)) (.seq (.const 30) (.seq (.alloc 31 (.sh 0) .dict) (.store 31 .dyn 4)))) (.seq (.seq (.const 32) (.load 32 28 .dyn)) (.seq (.load 33 32 .dyn) (.seq (.load 32 28 .dyn) (.load 33 32 .dyn))))) (.seq (.seq (.seq (.load 32 28 .dyn) (.load 33 32 .dyn)) (.seq (.const 32) (.seq (.load 33 29 .dyn) (.load 34 33 .dyn)))) (.seq (.seq (.load 33 29 .dyn) (.load 34 33 .dyn)) (.seq (.load 33 29 .dyn) (.seq (.load 34 33 .dyn) (.const 33)))))) (.seq (.seq (.seq (.seq (.load 34 30 .dyn) (.load 35 34 .dyn)) (.seq (.load 34 30 .dyn) (.seq (.load 35 34 .dyn) (.load 34 30 .dyn)))) (.seq (.seq (.load 35 34 .dyn) (.const 34)) (.seq (.const 35) (.seq (.arith 35) (.ite (.bind 35 31) (.seq (.alloc 36 (.sh 0) .dict) (.bind 35 36))))))) (.seq (.seq (.seq (.const 36) (.arith 36)) (.seq (.ite (.bind 36 7) (.seq (.seq (.alloc 37 (.sh 0) (.lit [])) (.call 38 45 [])) (.seq (.merge 37 38) (.bind 36 37)))) (.seq (.call 37 17 [28, 29, 30, 7, 31]) (.alloc 28 (.sh 0) (.lit [("", 32)]))))) (.seq (.seq (.alloc 29 (.sh 0) (.lit [("", 33)])) (.alloc 30 (.sh 0) (.lit [("", 34)]))) (.seq (.alloc 31 (.sh 0) (.lit [("", 36)])) (.seq (.alloc 32 (.sh 1) (.lit [("", 28), ("", 29), ("", 30), ("", 35), ("", 31)])) (.store 16 .dyn 32))))))))) .skip)))))))))))))) (.alloc 27 (.sh 2) .dict))) (.seq (.loop [.any, .any, .any, .any, .any, .any, (.lv (.sh 0)), (.lv (.sh 0)), (.lv (.sh 0)), .any, .any, .any, .any, .any, .any, .any, (.lv (.sh 2)), (.lv (.sh 0)), (.lv (.sh 0)), (.lv (.sh 0)), (.lv (.sh 0)), (.lv (.sh 0)), (.lv (.sh 0)), (.lv (.sh 1)), (.lv .nums), (.lv (.sh 0)), (.lv (.sh 1)), (.lv (.sh 2)), .any, .any, (.lv (.sh 0)), .any, .any, (.lv (.sh 1)), (.lv (.sh 0)), (.lv (.sh 0)), (.lv (.sh 0)), (.lv (.sh 0)), (.lv (.sh 0))] (.seq (.load 28 16 .dyn) (.seq (.bind 26 28) (.store 27 .dyn 26)))) (.seq (.call 28 307 [27]) (.ret 28)))))))),
  (.lv (.sh 2))⟩

def chunk1 : List Fn := [f134, f135, f136, f137, f138, f139, f140, f141, f142, f143, f144, f145, f146, f147, f148, f149, f150, f151, f152, f153, f154, f155, f156, f157, f158, f159, f160, f161, f162, f163, f164, f165, f166, f167, f168, f169, f170, f171, f172, f173, f174, f175, f176, f177, f178, f179, f180, f181]

/-- every function of this chunk respects the discipline (re-proved against today's source) -/
theorem chunk1_disciplined : chunk1.all (writesOnlyFresh sums) = true :=
  disciplined_of_fast (by decide +kernel)

end Bermuda.Generated.HeapIR
