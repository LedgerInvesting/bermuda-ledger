-- GENERATED by harness/translate_c03ir.py from /repo -- do not edit
import Bermuda.Generated.HeapIRSums
import Bermuda.Lemmas.HeapIRFast
namespace Bermuda.Generated.HeapIR
open Bermuda.HeapIR

/-- bermuda/base/cell.py:109  params: self, <globals> -/
def f0 : Fn := ⟨"bermuda.base.cell:Cell.<lambda@109:28>", [0, 1], [],
  (.seq (.load 2 0 .dyn) (.seq (.load 3 2 .dyn) (.ret 3))),
  .any⟩

/-- bermuda/base/cell.py:110  params: self, <globals> -/
def f1 : Fn := ⟨"bermuda.base.cell:Cell.<lambda@110:26>", [0, 1], [],
  (.seq (.load 2 0 .dyn) (.seq (.load 3 2 .dyn) (.ret 3))),
  .any⟩

/-- bermuda/base/cell.py:111  params: self, <globals> -/
def f2 : Fn := ⟨"bermuda.base.cell:Cell.<lambda@111:31>", [0, 1], [],
  (.seq (.load 2 0 .dyn) (.seq (.load 3 2 .dyn) (.ret 3))),
  .any⟩

/-- bermuda/base/cell.py:112  params: self, <globals> -/
def f3 : Fn := ⟨"bermuda.base.cell:Cell.<lambda@112:22>", [0, 1], [],
  (.seq (.load 2 0 .dyn) (.ret 2)),
  .any⟩

/-- bermuda/base/cell.py:113  params: self, <globals> -/
def f4 : Fn := ⟨"bermuda.base.cell:Cell.<lambda@113:24>", [0, 1], [],
  (.seq (.load 2 0 .dyn) (.seq (.load 3 2 .dyn) (.ret 3))),
  .any⟩

/-- bermuda/base/cell.py:114  params: self, <globals> -/
def f5 : Fn := ⟨"bermuda.base.cell:Cell.<lambda@114:26>", [0, 1], [],
  (.seq (.seq (.load 2 0 .dyn) (.load 3 2 .dyn)) (.seq (.load 2 3 .dyn) (.seq (.load 3 2 .dyn) (.ret 3)))),
  .any⟩

/-- bermuda/base/cell.py:115  params: self, <globals> -/
def f6 : Fn := ⟨"bermuda.base.cell:Cell.<lambda@115:23>", [0, 1], [],
  (.seq (.seq (.load 2 0 .dyn) (.load 3 2 .dyn)) (.seq (.load 2 3 .dyn) (.seq (.load 3 2 .dyn) (.ret 3)))),
  .any⟩

/-- bermuda/base/cell.py:116  params: self, <globals> -/
def f7 : Fn := ⟨"bermuda.base.cell:Cell.<lambda@116:24>", [0, 1], [],
  (.seq (.seq (.load 2 0 .dyn) (.load 3 2 .dyn)) (.seq (.load 2 3 .dyn) (.seq (.load 3 2 .dyn) (.ret 3)))),
  .any⟩

/-- bermuda/base/cell.py:117  params: self, <globals> -/
def f8 : Fn := ⟨"bermuda.base.cell:Cell.<lambda@117:33>", [0, 1], [],
  (.seq (.seq (.load 2 0 .dyn) (.load 3 2 .dyn)) (.seq (.load 2 3 .dyn) (.seq (.load 3 2 .dyn) (.ret 3)))),
  .any⟩

/-- bermuda/base/cell.py:118  params: self, <globals> -/
def f9 : Fn := ⟨"bermuda.base.cell:Cell.<lambda@118:31>", [0, 1], [],
  (.seq (.seq (.load 2 0 .dyn) (.load 3 2 .dyn)) (.seq (.load 2 3 .dyn) (.seq (.load 3 2 .dyn) (.ret 3)))),
  .any⟩

/-- bermuda/base/cell.py:119  params: self, <globals> -/
def f10 : Fn := ⟨"bermuda.base.cell:Cell.<lambda@119:36>", [0, 1], [],
  (.seq (.seq (.load 2 0 .dyn) (.load 3 2 .dyn)) (.seq (.load 2 3 .dyn) (.seq (.load 3 2 .dyn) (.ret 3)))),
  .any⟩

/-- bermuda/base/cell.py:120  params: self, <globals> -/
def f11 : Fn := ⟨"bermuda.base.cell:Cell.<lambda@120:23>", [0, 1], [],
  (.seq (.seq (.load 2 0 .dyn) (.load 3 2 .dyn)) (.seq (.load 2 3 .dyn) (.seq (.load 3 2 .dyn) (.ret 3)))),
  .any⟩

/-- bermuda/base/cell.py:121  params: self, <globals> -/
def f12 : Fn := ⟨"bermuda.base.cell:Cell.<lambda@121:28>", [0, 1], [],
  (.seq (.seq (.load 2 0 .dyn) (.load 3 2 .dyn)) (.seq (.load 2 3 .dyn) (.seq (.load 3 2 .dyn) (.ret 3)))),
  .any⟩

/-- bermuda/base/cell.py:188  params: self, key, <globals> -/
def f13 : Fn := ⟨"bermuda.base.cell:Cell.__contains__", [0, 1, 2], [],
  (.seq (.seq (.const 1) (.load 3 0 .dyn)) (.seq (.arith 3) (.ret 3))),
  (.lv .num)⟩

/-- bermuda/base/cell.py:191  params: self, other, <globals> -/
def f14 : Fn := ⟨"bermuda.base.cell:Cell.__eq__", [0, 1, 2], [],
  (.seq (.seq (.seq (.seq (.seq (.load 3 1 .dyn) (.load 4 3 .dyn)) (.seq (.const 3) (.load 4 0 .dyn))) (.seq (.seq (.load 5 4 .dyn) (.const 4)) (.seq (.ite (.bind 5 3) (.bind 5 4)) (.load 3 0 .dyn)))) (.seq (.seq (.seq (.load 4 3 .dyn) (.load 3 1 .dyn)) (.seq (.load 4 3 .dyn) (.arith 3))) (.seq (.seq (.load 4 0 .dyn) (.load 6 4 .dyn)) (.seq (.load 4 1 .dyn) (.load 6 4 .dyn))))) (.seq (.seq (.seq (.seq (.arith 4) (.load 6 0 .dyn)) (.seq (.load 7 6 .dyn) (.load 6 1 .dyn))) (.seq (.seq (.load 7 6 .dyn) (.arith 6)) (.seq (.load 7 0 .dyn) (.load 8 7 .dyn)))) (.seq (.seq (.seq (.load 7 1 .dyn) (.load 8 7 .dyn)) (.seq (.arith 7) (.load 8 0 .dyn))) (.seq (.seq (.load 9 1 .dyn) (.call 10 33 [8, 9])) (.seq (.ite (.bind 8 5) (.ite (.bind 8 3) (.ite (.bind 8 4) (.ite (.bind 8 6) (.ite (.bind 8 7) (.bind 8 10)))))) (.ret 8)))))),
  (.lv .num)⟩

/-- bermuda/base/cell.py:180  params: self, key, <globals> -/
def f15 : Fn := ⟨"bermuda.base.cell:Cell.__getitem__", [0, 1, 2], [],
  (.seq (.const 1) (.«try» (.seq (.load 3 0 .dyn) (.seq (.load 4 3 .dyn) (.ret 4))) (.seq (.seq (.seq (.const 3) (.load 3 0 .dyn)) (.seq (.load 4 3 .dyn) (.load 3 4 .dyn))) (.seq (.seq (.load 4 3 .dyn) (.const 3)) (.seq (.const 3) .raise))))),
  .any⟩

/-- bermuda/base/cell.py:151  params: self, <globals> -/
def f16 : Fn := ⟨"bermuda.base.cell:Cell.__hash__", [0, 1], [],
  (.seq (.seq (.seq (.seq (.alloc 6 .nums .dict) (.seq (.bind 5 6) (.load 6 0 .dyn))) (.seq (.loop [.any, .any, .scalar, .any, .any, (.lv .nums), .any, .scalar, (.lv (.sh 0))] (.block (.seq (.seq (.seq (.havoc 7) (.bind 4 7)) (.seq (.load 7 6 .dyn) (.bind 3 7))) (.seq (.seq (.const 7) (.const 7)) (.seq (.ite (.seq (.seq (.alloc 7 (.sh 0) (.union [3])) (.alloc 8 (.sh 0) (.lit [("", 4), ("", 7)]))) (.seq (.const 7) (.bind 2 7))) (.seq (.alloc 7 (.sh 0) (.lit [("", 4), ("", 3)])) (.seq (.const 7) (.bind 2 7)))) (.seq (.store 5 .dyn 2) (.const 7))))))) (.seq (.load 6 0 .dyn) (.load 7 6 .dyn)))) (.seq (.seq (.load 6 7 .dyn) (.seq (.load 7 6 .dyn) (.const 6))) (.seq (.arith 6) (.seq (.ite (.seq (.const 6) (.bind 7 6)) (.seq (.seq (.load 6 0 .dyn) (.load 8 6 .dyn)) (.seq (.load 6 8 .dyn) (.seq (.load 8 6 .dyn) (.bind 7 8))))) (.load 6 0 .dyn))))) (.seq (.seq (.seq (.load 8 6 .dyn) (.seq (.load 6 0 .dyn) (.load 9 6 .dyn))) (.seq (.load 6 0 .dyn) (.seq (.load 10 6 .dyn) (.load 6 0 .dyn)))) (.seq (.seq (.load 11 6 .dyn) (.seq (.alloc 6 .nums (.union [5])) (.alloc 12 .nums (.union [6])))) (.seq (.alloc 6 (.sh 0) (.lit [("", 7), ("", 8), ("", 9), ("", 10), ("", 11), ("", 12)])) (.seq (.const 6) (.ret 6)))))),
  .scalar⟩

/-- bermuda/base/cell.py:39  params: period_start, period_end, evaluation_date, values, metadata, _skip_validation, <globals> -/
def f17 : Fn := ⟨"bermuda.base.cell:Cell.__init__", [1, 2, 3, 4, 5, 6, 7], [],
  (.seq (.seq (.seq (.seq (.seq (.const 1) (.const 2)) (.seq (.const 3) (.seq (.const 6) (.alloc 0 (.sh 0) .dict)))) (.seq (.seq (.const 11) (.seq (.ite (.seq (.seq (.seq (.seq (.const 11) (.seq (.const 11) (.const 11))) (.seq (.seq (.ite (.seq (.const 11) (.seq (.const 11) .raise)) .skip) (.const 11)) (.seq (.const 11) (.const 11)))) (.seq (.seq (.seq (.ite (.seq (.const 11) (.seq (.const 11) .raise)) .skip) (.const 11)) (.seq (.const 11) (.const 11))) (.seq (.seq (.ite (.seq (.const 11) (.seq (.const 11) .raise)) .skip) (.const 11)) (.seq (.const 12) (.const 12))))) (.seq (.seq (.seq (.seq (.alloc 13 .nums (.lit [("", 11), ("", 12)])) (.const 11)) (.seq (.const 11) (.ite (.seq (.const 11) (.seq (.const 11) .raise)) .skip))) (.seq (.seq (.const 11) (.const 11)) (.seq (.const 11) (.ite (.seq (.const 11) (.seq (.const 11) .raise)) .skip)))) (.seq (.seq (.seq (.loop [(.lv (.sh 0)), .scalar, .scalar, .scalar, .any, .any, .scalar, .any, .scalar, .any, .any, (.lv .num), .scalar, (.lv .nums)] (.block (.seq (.seq (.seq (.havoc 11) (.seq (.bind 10 11) (.load 11 4 .dyn))) (.seq (.bind 9 11) (.seq (.load 11 7 .dyn) (.const 11)))) (.seq (.seq (.const 11) (.seq (.const 11) (.ite (.seq (.seq (.load 11 9 .dyn) (.seq (.load 12 11 .dyn) (.load 11 12 .dyn))) (.seq (.seq (.load 12 11 .dyn) (.const 11)) (.seq (.const 11) .raise))) .skip))) (.seq (.const 11) (.seq (.const 11) (.ite (.seq (.seq (.seq (.load 11 9 .dyn) (.load 12 11 .dyn)) (.seq (.const 11) (.const 12))) (.seq (.seq (.alloc 13 .nums (.lit [("", 11), ("", 12)])) (.const 11)) (.seq (.const 11) (.ite (.«try» (.seq (.const 11) (.seq (.arith 11) (.bind 9 11))) (.seq (.seq (.const 11) (.const 8)) (.seq (.const 11) (.seq (.const 11) .raise)))) .skip)))) .skip))))))) (.arith 11)) (.seq (.ite (.seq (.const 11) (.seq (.const 11) .raise)) .skip) (.arith 11))) (.seq (.seq (.ite (.seq (.const 11) (.seq (.const 11) .raise)) .skip) (.const 11)) (.seq (.arith 11) (.ite (.seq (.const 11) (.seq (.const 11) .raise)) .skip)))))) .skip) (.load 11 1 .dyn))) (.seq (.load 12 11 .dyn) (.seq (.load 11 1 .dyn) (.load 12 11 .dyn))))) (.seq (.seq (.seq (.load 11 1 .dyn) (.load 12 11 .dyn)) (.seq (.const 11) (.seq (.alloc 12 .nums (.lit [("", 11)])) (.store 0 .dyn 12)))) (.seq (.seq (.load 11 2 .dyn) (.seq (.load 12 11 .dyn) (.load 11 2 .dyn))) (.seq (.load 12 11 .dyn) (.seq (.load 11 2 .dyn) (.load 12 11 .dyn)))))) (.seq (.seq (.seq (.seq (.const 11) (.alloc 12 .nums (.lit [("", 11)]))) (.seq (.store 0 .dyn 12) (.seq (.load 11 3 .dyn) (.load 12 11 .dyn)))) (.seq (.seq (.load 11 3 .dyn) (.seq (.load 12 11 .dyn) (.load 11 3 .dyn))) (.seq (.load 12 11 .dyn) (.seq (.const 11) (.alloc 12 .nums (.lit [("", 11)])))))) (.seq (.seq (.seq (.store 0 .dyn 12) (.const 11)) (.seq (.arith 11) (.seq (.ite (.bind 11 4) (.seq (.alloc 12 .nums .dict) (.bind 11 12))) (.store 0 .dyn 11)))) (.seq (.seq (.const 11) (.seq (.arith 11) (.ite (.bind 11 5) (.seq (.seq (.alloc 12 (.sh 0) (.lit [])) (.call 13 45 [])) (.seq (.merge 12 13) (.bind 11 12)))))) (.seq (.alloc 12 (.sh 0) (.lit [("", 11)])) (.seq (.store 0 .dyn 12) (.ret 0))))))),
  (.lv (.sh 0))⟩

/-- bermuda/base/cell.py:203  params: self, other, <globals> -/
def f18 : Fn := ⟨"bermuda.base.cell:Cell.__lt__", [0, 1, 2], [],
  (.seq (.seq (.seq (.seq (.const 3) (.load 3 0 .dyn)) (.seq (.load 4 3 .dyn) (.seq (.load 3 0 .dyn) (.load 5 3 .dyn)))) (.seq (.seq (.load 3 0 .dyn) (.load 6 3 .dyn)) (.seq (.load 3 0 .dyn) (.seq (.load 7 3 .dyn) (.alloc 3 (.sh 0) (.lit [("", 4), ("", 5), ("", 6), ("", 7)])))))) (.seq (.seq (.seq (.load 3 1 .dyn) (.load 4 3 .dyn)) (.seq (.load 3 1 .dyn) (.seq (.load 5 3 .dyn) (.load 3 1 .dyn)))) (.seq (.seq (.load 6 3 .dyn) (.seq (.load 3 1 .dyn) (.load 7 3 .dyn))) (.seq (.alloc 3 (.sh 0) (.lit [("", 4), ("", 5), ("", 6), ("", 7)])) (.seq (.arith 3) (.ret 3)))))),
  (.lv .num)⟩

/-- bermuda/base/cell.py:219  params: self, <globals> -/
def f19 : Fn := ⟨"bermuda.base.cell:Cell.__repr__", [0, 1], [],
  (.seq (.seq (.seq (.seq (.alloc 6 .nums .dict) (.bind 5 6)) (.seq (.alloc 6 (.sh 0) .dict) (.seq (.load 7 0 .dyn) (.store 6 .dyn 7)))) (.seq (.seq (.load 8 7 .dyn) (.store 6 .dyn 8)) (.seq (.loop [.any, .any, .any, .any, .any, (.lv .nums), (.lv (.sh 0)), .any, .any] (.block (.seq (.seq (.seq (.havoc 7) (.seq (.bind 4 7) (.load 7 6 .dyn))) (.seq (.seq (.bind 3 7) (.const 7)) (.seq (.load 7 4 .dyn) (.const 7)))) (.seq (.seq (.arith 7) (.seq (.ite (.seq (.const 7) (.seq (.ite (.bind 7 4) (.alloc 7 (.sh 0) (.union [4]))) (.bind 8 7))) (.bind 8 4)) (.bind 2 8))) (.seq (.seq (.const 7) (.const 7)) (.seq (.store 5 .dyn 7) (.const 7))))))) (.seq (.load 6 0 .dyn) (.load 7 6 .dyn))))) (.seq (.seq (.seq (.load 6 7 .dyn) (.load 7 6 .dyn)) (.seq (.const 6) (.seq (.const 6) (.const 7)))) (.seq (.seq (.const 7) (.ite (.arith 8) (.alloc 8 .nums (.union [6, 7])))) (.seq (.const 6) (.seq (.const 6) (.ret 6)))))),
  .scalar⟩

/-- bermuda/base/cell.py:261  params: self, definitions, <globals> -/
def f20 : Fn := ⟨"bermuda.base.cell:Cell._base_replace", [0, 1, 2], [],
  (.seq (.seq (.seq (.const 6) (.seq (.alloc 6 (.sh 0) .dict) (.alloc 7 (.sh 0) .dict))) (.seq (.seq (.load 8 0 .dyn) (.store 7 .dyn 8)) (.seq (.load 9 8 .dyn) (.store 7 .dyn 9)))) (.seq (.seq (.loop [.any, .any, .any, .scalar, .any, .any, (.lv (.sh 0)), (.lv (.sh 0)), .any, .any] (.seq (.seq (.havoc 8) (.seq (.bind 4 8) (.load 8 7 .dyn))) (.seq (.seq (.bind 5 8) (.const 8)) (.seq (.ite (.bind 8 4) (.alloc 8 (.sh 0) (.union [4]))) (.store 6 .dyn 5))))) (.seq (.bind 3 6) (.merge 3 1))) (.seq (.seq (.const 6) (.load 6 3 .dyn)) (.seq (.ite (.call 7 17 [6]) (.ite (.call 7 17 [6]) (.call 7 37 [6]))) (.ret 7))))),
  (.lv (.sh 0))⟩

/-- bermuda/base/cell.py:226  params: self, <globals> -/
def f21 : Fn := ⟨"bermuda.base.cell:Cell._repr_html_", [0, 1], [],
  (.seq (.seq (.seq (.seq (.seq (.alloc 8 .nums .dict) (.bind 7 8)) (.seq (.ite (.seq (.load 8 0 .dyn) (.load 9 8 .dyn)) (.call 9 339 [0])) (.call 8 47 [9]))) (.seq (.seq (.loop [.any, .any, .scalar, .scalar, .any, .any, .scalar, (.lv .nums), (.lv (.sh 0)), .any] (.block (.seq (.seq (.havoc 9) (.seq (.bind 5 9) (.load 9 8 .dyn))) (.seq (.seq (.bind 4 9) (.const 9)) (.seq (.arith 9) (.ite (.seq (.const 9) (.seq (.store 7 .dyn 9) (.const 9))) .skip)))))) (.alloc 8 .nums .dict)) (.seq (.bind 6 8) (.seq (.load 8 0 .dyn) (.loop [.any, .any, .scalar, (.lv .nums), .any, .any, (.lv .nums), (.lv .nums), .any, .any, .any] (.block (.seq (.seq (.seq (.havoc 9) (.bind 5 9)) (.seq (.load 9 8 .dyn) (.seq (.bind 4 9) (.const 9)))) (.seq (.seq (.const 9) (.ite (.seq (.seq (.arith 9) (.seq (.call 10 32 [9]) (.load 9 4 .dyn))) (.seq (.load 10 9 .dyn) (.seq (.const 9) (.bind 3 9)))) (.seq (.call 9 32 [4]) (.bind 3 9)))) (.seq (.const 9) (.seq (.store 6 .dyn 9) (.const 9))))))))))) (.seq (.seq (.seq (.const 8) (.const 9)) (.seq (.load 10 0 .dyn) (.seq (.load 11 10 .dyn) (.load 10 11 .dyn)))) (.seq (.seq (.load 11 10 .dyn) (.const 10)) (.seq (.const 11) (.seq (.const 12) (.load 13 0 .dyn)))))) (.seq (.seq (.seq (.seq (.load 14 13 .dyn) (.const 13)) (.seq (.load 14 0 .dyn) (.load 15 14 .dyn))) (.seq (.seq (.const 14) (.ite (.seq (.load 15 0 .dyn) (.load 16 15 .dyn)) (.call 16 320 [0]))) (.seq (.const 15) (.seq (.call 16 26 [0]) (.const 16))))) (.seq (.seq (.seq (.const 17) (.const 18)) (.seq (.const 19) (.seq (.alloc 20 .nums (.lit [("", 8), ("", 9), ("", 10), ("", 11), ("", 12), ("", 13), ("", 14), ("", 15), ("", 16), ("", 17), ("", 18), ("", 19)])) (.merge 20 6)))) (.seq (.seq (.merge 20 7) (.bind 2 20)) (.seq (.const 8) (.seq (.const 8) (.ret 8))))))),
  .scalar⟩

/-- bermuda/base/cell.py:347  params: self, source_cell, fields, <globals> -/
def f22 : Fn := ⟨"bermuda.base.cell:Cell.add_statics", [0, 1, 2, 3], [],
  (.seq (.seq (.seq (.const 7) (.alloc 7 (.sh 0) .dict)) (.seq (.load 8 1 .dyn) (.loop [.any, .any, .any, .any, .scalar, .any, .any, (.lv (.sh 0)), .any, (.lv .num)] (.seq (.seq (.havoc 9) (.seq (.bind 5 9) (.load 9 8 .dyn))) (.seq (.bind 6 9) (.seq (.arith 9) (.ite .skip (.store 7 .dyn 6)))))))) (.seq (.seq (.bind 4 7) (.load 7 0 .dyn)) (.seq (.alloc 8 (.sh 0) (.union [7, 4])) (.seq (.ite (.call 7 29 [0, 8]) (.ite (.call 7 346 [0, 8]) (.const 7))) (.ret 7))))),
  .any⟩

/-- bermuda/base/cell.py:133  params: self, <globals> -/
def f23 : Fn := ⟨"bermuda.base.cell:Cell.coordinates", [0, 1], [],
  (.seq (.seq (.seq (.const 2) (.load 2 0 .dyn)) (.seq (.load 3 2 .dyn) (.load 2 0 .dyn))) (.seq (.seq (.load 3 2 .dyn) (.load 2 0 .dyn)) (.seq (.load 3 2 .dyn) (.seq (.havoc 2) (.ret 2))))),
  .any⟩

/-- bermuda/base/cell.py:284  params: self, definitions, <globals> -/
def f24 : Fn := ⟨"bermuda.base.cell:Cell.derive_fields", [0, 1, 2], [],
  (.seq (.seq (.const 7) (.bind 3 0)) (.seq (.loop [.any, .any, .any, .any, .any, .any, .any, .any, (.lv (.sh 0))] (.block (.seq (.seq (.seq (.havoc 7) (.seq (.bind 6 7) (.load 7 1 .dyn))) (.seq (.seq (.bind 5 7) (.const 7)) (.seq (.ite (.seq (.havoc 7) (.bind 8 7)) (.bind 8 5)) (.bind 4 8)))) (.seq (.seq (.alloc 7 (.sh 0) .dict) (.seq (.store 7 .dyn 4) (.bind 1 7))) (.seq (.seq (.load 7 3 .dyn) (.alloc 8 (.sh 0) (.union [7, 1]))) (.seq (.ite (.call 7 29 [3, 8]) (.ite (.call 7 346 [3, 8]) (.const 7))) (.bind 3 7))))))) (.ret 3))),
  .any⟩

/-- bermuda/base/cell.py:315  params: self, definitions, <globals> -/
def f25 : Fn := ⟨"bermuda.base.cell:Cell.derive_metadata", [0, 1, 2], [],
  (.seq (.seq (.const 9) (.bind 3 0)) (.seq (.loop [.any, .any, .any, .any, (.lv (.sh 0)), (.lv (.sh 0)), .any, .any, .any, (.lv (.sh 0)), .any, .any] (.block (.seq (.seq (.seq (.havoc 9) (.seq (.bind 8 9) (.load 9 1 .dyn))) (.seq (.bind 7 9) (.seq (.const 9) (.ite (.seq (.havoc 9) (.bind 10 9)) (.bind 10 7))))) (.seq (.seq (.bind 6 10) (.seq (.load 9 2 .dyn) (.arith 9))) (.seq (.ite (.seq (.seq (.ite (.seq (.load 9 3 .dyn) (.load 10 9 .dyn)) (.call 10 339 [3])) (.seq (.alloc 9 (.sh 0) .dict) (.store 9 .dyn 6))) (.seq (.load 11 9 .dyn) (.seq (.alloc 9 (.sh 0) (.union [10])) (.bind 4 9)))) (.seq (.seq (.seq (.ite (.seq (.load 9 3 .dyn) (.load 10 9 .dyn)) (.call 10 339 [3])) (.load 9 10 .dyn)) (.seq (.load 10 9 .dyn) (.seq (.alloc 9 (.sh 0) (.union [10])) (.store 9 .dyn 6)))) (.seq (.seq (.bind 5 9) (.ite (.seq (.load 9 3 .dyn) (.load 10 9 .dyn)) (.call 10 339 [3]))) (.seq (.alloc 9 (.sh 0) (.union [10])) (.seq (.store 9 .dyn 5) (.bind 4 9)))))) (.seq (.call 9 20 [3, 4]) (.bind 3 9))))))) (.ret 3))),
  .any⟩

/-- bermuda/base/cell.py:139  params: self, unit, <globals> -/
def f26 : Fn := ⟨"bermuda.base.cell:Cell.dev_lag", [0, 1, 2], [],
  (.seq (.seq (.seq (.const 1) (.const 3)) (.seq (.load 3 0 .dyn) (.load 4 3 .dyn))) (.seq (.seq (.load 3 0 .dyn) (.load 5 3 .dyn)) (.seq (.call 3 57 [4, 5, 1]) (.ret 3)))),
  (.lv .num)⟩

/-- bermuda/base/cell.py:124  params: self, <globals> -/
def f27 : Fn := ⟨"bermuda.base.cell:Cell.period", [0, 1], [],
  (.seq (.seq (.load 2 0 .dyn) (.seq (.load 3 2 .dyn) (.load 2 0 .dyn))) (.seq (.load 4 2 .dyn) (.seq (.alloc 2 (.sh 0) (.lit [("", 3), ("", 4)])) (.ret 2)))),
  (.lv (.sh 0))⟩

/-- bermuda/base/cell.py:128  params: self, <globals> -/
def f28 : Fn := ⟨"bermuda.base.cell:Cell.period_length", [0, 1], [],
  (.seq (.seq (.seq (.const 2) (.load 2 0 .dyn)) (.seq (.load 3 2 .dyn) (.seq (.call 2 63 [3]) (.load 2 0 .dyn)))) (.seq (.seq (.load 3 2 .dyn) (.seq (.call 2 63 [3]) (.arith 2))) (.seq (.const 2) (.seq (.arith 2) (.ret 2))))),
  (.lv .num)⟩

/-- bermuda/base/cell.py:267  params: self, definitions, <globals> -/
def f29 : Fn := ⟨"bermuda.base.cell:Cell.replace", [0, 1, 2], [],
  (.seq (.seq (.const 7) (.seq (.bind 3 0) (.loop [.any, .any, .any, .any, .any, .any, .any, .any, .scalar, (.lv (.sh 0))] (.block (.seq (.seq (.seq (.havoc 7) (.seq (.bind 6 7) (.load 7 1 .dyn))) (.seq (.seq (.bind 5 7) (.const 7)) (.seq (.ite (.seq (.havoc 7) (.bind 8 7)) (.bind 8 5)) (.bind 4 8)))) (.seq (.seq (.alloc 7 (.sh 0) .dict) (.seq (.store 7 .dyn 4) (.bind 1 7))) (.seq (.seq (.load 7 1 .dyn) (.const 8)) (.seq (.call 9 20 [3, 8, 7]) (.bind 3 9))))))))) (.seq (.const 7) (.seq (.call 8 20 [3, 7]) (.ret 8)))),
  (.lv (.sh 0))⟩

/-- bermuda/base/cell.py:279  params: self, keys, <globals> -/
def f30 : Fn := ⟨"bermuda.base.cell:Cell.select", [0, 1, 2], [],
  (.seq (.seq (.const 6) (.seq (.alloc 6 (.sh 0) .dict) (.load 7 0 .dyn))) (.seq (.seq (.loop [.any, .any, .any, .scalar, .any, .any, (.lv (.sh 0)), .any, (.lv .num)] (.seq (.seq (.havoc 8) (.seq (.bind 4 8) (.load 8 7 .dyn))) (.seq (.bind 5 8) (.seq (.arith 8) (.ite .skip (.store 6 .dyn 5)))))) (.bind 3 6)) (.seq (.ite (.call 6 29 [0, 3]) (.ite (.call 6 346 [0, 3]) (.const 6))) (.ret 6)))),
  .any⟩

/-- bermuda/base/cell.py:336  params: self, dev_lag_unit, <globals> -/
def f31 : Fn := ⟨"bermuda.base.cell:Cell.to_record", [0, 1, 2], [],
  (.seq (.seq (.seq (.seq (.const 3) (.load 3 0 .dyn)) (.seq (.load 4 3 .dyn) (.seq (.call 3 47 [4]) (.load 4 0 .dyn)))) (.seq (.seq (.alloc 5 (.sh 0) (.union [3, 4])) (.seq (.const 3) (.load 3 0 .dyn))) (.seq (.load 4 3 .dyn) (.seq (.store 5 .dyn 4) (.const 3))))) (.seq (.seq (.seq (.load 3 0 .dyn) (.load 4 3 .dyn)) (.seq (.store 5 .dyn 4) (.seq (.const 3) (.load 3 0 .dyn)))) (.seq (.seq (.load 4 3 .dyn) (.seq (.store 5 .dyn 4) (.const 3))) (.seq (.call 3 26 [0, 1]) (.seq (.store 5 .dyn 3) (.ret 5)))))),
  (.lv (.sh 0))⟩

/-- bermuda/base/cell.py:363  params: val, sig_figs, <globals> -/
def f32 : Fn := ⟨"bermuda.base.cell:format_value", [0, 1, 2], [],
  (.seq (.seq (.seq (.seq (.seq (.const 0) (.seq (.const 1) (.const 12))) (.seq (.arith 12) (.seq (.ite (.seq (.const 12) (.seq (.const 12) .raise)) .skip) (.const 12)))) (.seq (.seq (.arith 12) (.seq (.ite (.seq (.const 12) (.bind 13 12)) (.seq (.const 12) (.bind 13 12))) (.bind 11 13))) (.seq (.const 12) (.seq (.bind 10 12) (.const 12))))) (.seq (.seq (.seq (.arith 12) (.seq (.ite (.seq (.const 12) (.seq (.arith 12) (.bind 13 12))) (.seq (.arith 12) (.seq (.arith 12) (.bind 13 12)))) (.bind 9 13))) (.seq (.const 12) (.seq (.const 12) (.arith 12)))) (.seq (.seq (.arith 12) (.seq (.bind 8 12) (.const 12))) (.seq (.const 12) (.seq (.const 13) (.arith 13)))))) (.seq (.seq (.seq (.seq (.ite (.bind 14 12) (.bind 14 13)) (.seq (.arith 12) (.ite (.bind 13 14) (.bind 13 12)))) (.seq (.ite (.seq (.const 12) (.ret 12)) .skip) (.seq (.const 12) (.arith 12)))) (.seq (.seq (.ite (.seq (.seq (.seq (.seq (.arith 12) (.const 12)) (.seq (.const 12) (.seq (.const 12) (.arith 12)))) (.seq (.seq (.bind 7 12) (.const 12)) (.seq (.ite (.arith 12) (.alloc 12 .nums (.union [7, 1]))) (.seq (.arith 12) (.arith 12))))) (.seq (.seq (.seq (.const 12) (.const 12)) (.seq (.bind 6 12) (.seq (.const 12) (.const 12)))) (.seq (.seq (.const 13) (.seq (.arith 13) (.ite (.arith 14) (.alloc 14 .nums (.union [12, 13]))))) (.seq (.const 12) (.seq (.ite (.arith 13) (.alloc 13 .nums (.union [14, 12]))) (.ret 13)))))) .skip) (.seq (.const 12) (.arith 12))) (.seq (.ite (.seq (.const 12) (.bind 5 12)) (.seq (.const 12) (.seq (.arith 12) (.ite (.seq (.const 12) (.bind 5 12)) (.seq (.const 12) (.seq (.arith 12) (.ite (.seq (.const 12) (.bind 5 12)) (.seq (.const 12) (.seq (.arith 12) (.ite (.seq (.const 12) (.bind 5 12)) (.seq (.const 12) (.seq (.arith 12) (.ite (.seq (.const 12) (.bind 5 12)) (.seq (.seq (.const 12) (.const 12)) (.seq (.const 12) (.seq (.const 12) (.bind 5 12))))))))))))))))) (.seq (.const 12) (.arith 12))))) (.seq (.seq (.seq (.arith 12) (.seq (.bind 4 12) (.arith 12))) (.seq (.const 12) (.seq (.arith 12) (.arith 12)))) (.seq (.seq (.const 12) (.seq (.bind 3 12) (.const 12))) (.seq (.seq (.const 12) (.ite (.arith 13) (.alloc 13 .nums (.union [11, 12])))) (.seq (.ite (.arith 12) (.alloc 12 .nums (.union [13, 5]))) (.ret 12))))))),
  (.lv .nums)⟩

/-- bermuda/base/cell.py:353  params: val1, val2, <globals> -/
def f33 : Fn := ⟨"bermuda.base.cell:values_eq", [0, 1, 2], [],
  (.seq (.seq (.seq (.alloc 4 (.sh 0) (.union [0])) (.alloc 5 (.sh 0) (.union [4]))) (.seq (.alloc 4 (.sh 0) (.union [1])) (.seq (.alloc 5 (.sh 0) (.union [4])) (.arith 4)))) (.seq (.seq (.const 4) (.ite (.seq (.const 4) (.ret 4)) .skip)) (.seq (.loop [.any, .any, .any, .any, .scalar, (.lv (.sh 0))] (.block (.seq (.seq (.havoc 4) (.seq (.bind 3 4) (.load 4 0 .dyn))) (.seq (.seq (.load 4 1 .dyn) (.const 4)) (.seq (.const 4) (.ite (.seq (.const 4) (.ret 4)) .skip)))))) (.seq (.const 4) (.ret 4))))),
  .scalar⟩

/-- bermuda/base/incremental.py:59  params: self, <globals> -/
def f34 : Fn := ⟨"bermuda.base.incremental:IncrementalCell.<lambda@59:36>", [0, 1], [],
  (.seq (.load 2 0 .dyn) (.seq (.load 3 2 .dyn) (.ret 3))),
  .any⟩

/-- bermuda/base/incremental.py:61  params: self, other, <globals> -/
def f35 : Fn := ⟨"bermuda.base.incremental:IncrementalCell.__eq__", [0, 1, 2], [],
  (.seq (.seq (.seq (.call 3 14 [0, 1]) (.load 4 0 .dyn)) (.seq (.load 5 4 .dyn) (.load 4 1 .dyn))) (.seq (.seq (.load 5 4 .dyn) (.arith 4)) (.seq (.ite (.bind 5 3) (.bind 5 4)) (.ret 5)))),
  (.lv .num)⟩

/-- bermuda/base/incremental.py:67  params: self, <globals> -/
def f36 : Fn := ⟨"bermuda.base.incremental:IncrementalCell.__hash__", [0, 1], [],
  (.seq (.seq (.call 2 16 [0]) (.seq (.load 3 0 .dyn) (.load 4 3 .dyn))) (.seq (.alloc 3 (.sh 0) (.lit [("", 2), ("", 4)])) (.seq (.const 2) (.ret 2)))),
  .scalar⟩

/-- bermuda/base/incremental.py:35  params: period_start, period_end, prev_evaluation_date, evaluation_date, values, metadata, _skip_validation, <globals> -/
def f37 : Fn := ⟨"bermuda.base.incremental:IncrementalCell.__init__", [1, 2, 3, 4, 5, 6, 7, 8], [],
  (.seq (.seq (.seq (.const 1) (.seq (.const 2) (.const 3))) (.seq (.seq (.const 4) (.const 7)) (.seq (.alloc 0 (.sh 0) .dict) (.call 9 17 [1, 2, 4, 5, 6, 7])))) (.seq (.seq (.seq (.merge 0 9) (.arith 9)) (.seq (.const 10) (.ite (.bind 11 9) (.bind 11 10)))) (.seq (.seq (.ite (.seq (.const 9) (.seq (.const 9) .raise)) .skip) (.alloc 9 .nums (.lit [("", 3)]))) (.seq (.store 0 .dyn 9) (.ret 0))))),
  (.lv (.sh 0))⟩

/-- bermuda/base/incremental.py:70  params: self, other, <globals> -/
def f38 : Fn := ⟨"bermuda.base.incremental:IncrementalCell.__lt__", [0, 1, 2], [],
  (.seq (.seq (.seq (.seq (.const 3) (.seq (.load 3 0 .dyn) (.load 4 3 .dyn))) (.seq (.load 3 0 .dyn) (.seq (.load 5 3 .dyn) (.load 3 0 .dyn)))) (.seq (.seq (.load 6 3 .dyn) (.seq (.load 3 0 .dyn) (.load 7 3 .dyn))) (.seq (.load 3 0 .dyn) (.seq (.load 8 3 .dyn) (.alloc 3 (.sh 0) (.lit [("", 4), ("", 5), ("", 6), ("", 7), ("", 8)])))))) (.seq (.seq (.seq (.load 3 1 .dyn) (.seq (.load 4 3 .dyn) (.load 3 1 .dyn))) (.seq (.load 5 3 .dyn) (.seq (.load 3 1 .dyn) (.load 6 3 .dyn)))) (.seq (.seq (.load 3 1 .dyn) (.seq (.load 7 3 .dyn) (.load 3 1 .dyn))) (.seq (.seq (.load 8 3 .dyn) (.alloc 3 (.sh 0) (.lit [("", 4), ("", 5), ("", 6), ("", 7), ("", 8)]))) (.seq (.arith 3) (.ret 3)))))),
  (.lv .num)⟩

/-- bermuda/base/incremental.py:124  params: self, <globals> -/
def f39 : Fn := ⟨"bermuda.base.incremental:IncrementalCell._repr_html_", [0, 1], [],
  (.seq (.seq (.seq (.seq (.seq (.alloc 8 .nums .dict) (.bind 7 8)) (.seq (.ite (.seq (.load 8 0 .dyn) (.load 9 8 .dyn)) (.call 9 339 [0])) (.seq (.call 8 47 [9]) (.loop [.any, .any, .scalar, .scalar, .any, .any, .scalar, (.lv .nums), (.lv (.sh 0)), .any] (.block (.seq (.seq (.havoc 9) (.seq (.bind 5 9) (.load 9 8 .dyn))) (.seq (.seq (.bind 4 9) (.const 9)) (.seq (.arith 9) (.ite (.seq (.const 9) (.seq (.store 7 .dyn 9) (.const 9))) .skip))))))))) (.seq (.seq (.alloc 8 .nums .dict) (.bind 6 8)) (.seq (.load 8 0 .dyn) (.seq (.loop [.any, .any, .scalar, (.lv .nums), .any, .any, (.lv .nums), (.lv .nums), .any, .any, .any] (.block (.seq (.seq (.seq (.havoc 9) (.bind 5 9)) (.seq (.load 9 8 .dyn) (.seq (.bind 4 9) (.const 9)))) (.seq (.seq (.const 9) (.ite (.seq (.seq (.arith 9) (.seq (.call 10 32 [9]) (.load 9 4 .dyn))) (.seq (.load 10 9 .dyn) (.seq (.const 9) (.bind 3 9)))) (.seq (.call 9 32 [4]) (.bind 3 9)))) (.seq (.const 9) (.seq (.store 6 .dyn 9) (.const 9))))))) (.const 8))))) (.seq (.seq (.seq (.const 9) (.load 10 0 .dyn)) (.seq (.load 11 10 .dyn) (.seq (.load 10 11 .dyn) (.load 11 10 .dyn)))) (.seq (.seq (.const 10) (.const 11)) (.seq (.const 12) (.seq (.load 13 0 .dyn) (.load 14 13 .dyn)))))) (.seq (.seq (.seq (.seq (.const 13) (.load 14 0 .dyn)) (.seq (.load 15 14 .dyn) (.seq (.const 14) (.ite (.seq (.load 15 0 .dyn) (.load 16 15 .dyn)) (.call 16 320 [0]))))) (.seq (.seq (.const 15) (.load 16 0 .dyn)) (.seq (.load 17 16 .dyn) (.seq (.const 16) (.call 17 26 [0]))))) (.seq (.seq (.seq (.const 17) (.const 18)) (.seq (.const 19) (.seq (.const 20) (.alloc 21 .nums (.lit [("", 8), ("", 9), ("", 10), ("", 11), ("", 12), ("", 13), ("", 14), ("", 15), ("", 16), ("", 17), ("", 18), ("", 19), ("", 20)]))))) (.seq (.seq (.merge 21 6) (.seq (.merge 21 7) (.bind 2 21))) (.seq (.const 8) (.seq (.const 8) (.ret 8))))))),
  .scalar⟩

/-- bermuda/base/incremental.py:89  params: self, <globals> -/
def f40 : Fn := ⟨"bermuda.base.incremental:IncrementalCell.coordinates", [0, 1], [],
  (.seq (.seq (.seq (.const 2) (.load 2 0 .dyn)) (.seq (.load 3 2 .dyn) (.seq (.load 2 0 .dyn) (.load 3 2 .dyn)))) (.seq (.seq (.load 2 0 .dyn) (.seq (.load 3 2 .dyn) (.load 2 0 .dyn))) (.seq (.load 3 2 .dyn) (.seq (.havoc 2) (.ret 2))))),
  .any⟩

/-- bermuda/base/incremental.py:100  params: self, unit, <globals> -/
def f41 : Fn := ⟨"bermuda.base.incremental:IncrementalCell.eval_lag", [0, 1, 2], [],
  (.seq (.seq (.seq (.const 1) (.const 3)) (.seq (.load 3 0 .dyn) (.load 4 3 .dyn))) (.seq (.seq (.load 3 0 .dyn) (.load 5 3 .dyn)) (.seq (.call 3 57 [4, 5, 1]) (.ret 3)))),
  (.lv .num)⟩

/-- bermuda/base/incremental.py:112  params: self, dev_lag_unit, <globals> -/
def f42 : Fn := ⟨"bermuda.base.incremental:IncrementalCell.to_record", [0, 1, 2], [],
  (.seq (.seq (.seq (.seq (.const 3) (.seq (.load 3 0 .dyn) (.load 4 3 .dyn))) (.seq (.call 3 47 [4]) (.seq (.load 4 0 .dyn) (.alloc 5 (.sh 0) (.union [3, 4]))))) (.seq (.seq (.const 3) (.seq (.load 3 0 .dyn) (.load 4 3 .dyn))) (.seq (.seq (.store 5 .dyn 4) (.const 3)) (.seq (.load 3 0 .dyn) (.load 4 3 .dyn))))) (.seq (.seq (.seq (.store 5 .dyn 4) (.seq (.const 3) (.load 3 0 .dyn))) (.seq (.load 4 3 .dyn) (.seq (.store 5 .dyn 4) (.const 3)))) (.seq (.seq (.load 3 0 .dyn) (.seq (.load 4 3 .dyn) (.store 5 .dyn 4))) (.seq (.seq (.const 3) (.call 3 26 [0, 1])) (.seq (.store 5 .dyn 3) (.ret 5)))))),
  (.lv (.sh 0))⟩

/-- bermuda/base/metadata.py:121  params: self, <globals> -/
def f43 : Fn := ⟨"bermuda.base.metadata:Metadata.__hash__", [0, 1], [],
  (.seq (.seq (.seq (.seq (.load 2 0 .dyn) (.load 3 2 .dyn)) (.seq (.load 2 0 .dyn) (.seq (.load 4 2 .dyn) (.load 2 0 .dyn)))) (.seq (.seq (.load 5 2 .dyn) (.seq (.load 2 0 .dyn) (.load 6 2 .dyn))) (.seq (.load 2 0 .dyn) (.seq (.load 7 2 .dyn) (.load 2 0 .dyn))))) (.seq (.seq (.seq (.load 8 2 .dyn) (.seq (.load 2 0 .dyn) (.load 9 2 .dyn))) (.seq (.alloc 2 (.sh 0) (.union [9])) (.seq (.alloc 9 (.sh 0) (.union [2])) (.load 2 0 .dyn)))) (.seq (.seq (.load 10 2 .dyn) (.seq (.alloc 2 (.sh 0) (.union [10])) (.alloc 10 (.sh 0) (.union [2])))) (.seq (.alloc 2 (.sh 0) (.lit [("", 3), ("", 4), ("", 5), ("", 6), ("", 7), ("", 8), ("", 9), ("", 10)])) (.seq (.const 2) (.ret 2)))))),
  .scalar⟩

/-- bermuda/base/metadata.py:135  params: self, other, <globals> -/
def f44 : Fn := ⟨"bermuda.base.metadata:Metadata.__lt__", [0, 1, 2], [],
  (.seq (.seq (.seq (.seq (.seq (.seq (.seq (.const 3) (.load 3 0 .dyn)) (.seq (.load 4 3 .dyn) (.const 3))) (.seq (.seq (.arith 3) (.load 4 0 .dyn)) (.seq (.load 5 4 .dyn) (.const 4)))) (.seq (.seq (.seq (.ite (.bind 6 5) (.bind 6 4)) (.alloc 4 (.sh 0) (.lit [("", 3), ("", 6)]))) (.seq (.load 3 0 .dyn) (.load 5 3 .dyn))) (.seq (.seq (.const 3) (.arith 3)) (.seq (.load 5 0 .dyn) (.load 6 5 .dyn))))) (.seq (.seq (.seq (.seq (.const 5) (.ite (.bind 7 6) (.bind 7 5))) (.seq (.alloc 5 (.sh 0) (.lit [("", 3), ("", 7)])) (.load 3 0 .dyn))) (.seq (.seq (.load 6 3 .dyn) (.const 3)) (.seq (.arith 3) (.load 6 0 .dyn)))) (.seq (.seq (.seq (.load 7 6 .dyn) (.const 6)) (.seq (.ite (.bind 8 7) (.bind 8 6)) (.alloc 6 (.sh 0) (.lit [("", 3), ("", 8)])))) (.seq (.seq (.load 3 0 .dyn) (.load 7 3 .dyn)) (.seq (.const 3) (.seq (.arith 3) (.load 7 0 .dyn))))))) (.seq (.seq (.seq (.seq (.seq (.load 8 7 .dyn) (.const 7)) (.seq (.ite (.bind 9 8) (.bind 9 7)) (.alloc 7 (.sh 0) (.lit [("", 3), ("", 9)])))) (.seq (.seq (.load 3 0 .dyn) (.load 8 3 .dyn)) (.seq (.const 3) (.arith 3)))) (.seq (.seq (.seq (.load 8 0 .dyn) (.load 9 8 .dyn)) (.seq (.const 8) (.ite (.bind 10 9) (.bind 10 8)))) (.seq (.seq (.alloc 8 (.sh 0) (.lit [("", 3), ("", 10)])) (.load 3 0 .dyn)) (.seq (.load 9 3 .dyn) (.const 3))))) (.seq (.seq (.seq (.seq (.arith 3) (.load 9 0 .dyn)) (.seq (.load 10 9 .dyn) (.const 9))) (.seq (.seq (.ite (.bind 11 10) (.bind 11 9)) (.alloc 9 (.sh 0) (.lit [("", 3), ("", 11)]))) (.seq (.load 3 0 .dyn) (.load 10 3 .dyn)))) (.seq (.seq (.seq (.alloc 3 (.sh 0) (.union [10])) (.alloc 10 (.sh 0) (.union [3]))) (.seq (.alloc 3 (.sh 0) (.union [10])) (.load 10 0 .dyn))) (.seq (.seq (.load 11 10 .dyn) (.alloc 10 (.sh 0) (.union [11]))) (.seq (.alloc 11 (.sh 0) (.union [10])) (.seq (.alloc 10 (.sh 0) (.union [11])) (.alloc 11 (.sh 1) (.lit [("", 4), ("", 5), ("", 6), ("", 7), ("", 8), ("", 9), ("", 3), ("", 10)]))))))))) (.seq (.seq (.seq (.seq (.seq (.seq (.load 3 1 .dyn) (.load 4 3 .dyn)) (.seq (.const 3) (.arith 3))) (.seq (.seq (.load 4 1 .dyn) (.load 5 4 .dyn)) (.seq (.const 4) (.ite (.bind 6 5) (.bind 6 4))))) (.seq (.seq (.seq (.alloc 4 (.sh 0) (.lit [("", 3), ("", 6)])) (.load 3 1 .dyn)) (.seq (.load 5 3 .dyn) (.const 3))) (.seq (.seq (.arith 3) (.load 5 1 .dyn)) (.seq (.load 6 5 .dyn) (.const 5))))) (.seq (.seq (.seq (.seq (.ite (.bind 7 6) (.bind 7 5)) (.alloc 5 (.sh 0) (.lit [("", 3), ("", 7)]))) (.seq (.load 3 1 .dyn) (.load 6 3 .dyn))) (.seq (.seq (.const 3) (.arith 3)) (.seq (.load 6 1 .dyn) (.load 7 6 .dyn)))) (.seq (.seq (.seq (.const 6) (.ite (.bind 8 7) (.bind 8 6))) (.seq (.alloc 6 (.sh 0) (.lit [("", 3), ("", 8)])) (.load 3 1 .dyn))) (.seq (.seq (.load 7 3 .dyn) (.const 3)) (.seq (.arith 3) (.seq (.load 7 1 .dyn) (.load 8 7 .dyn))))))) (.seq (.seq (.seq (.seq (.seq (.const 7) (.ite (.bind 9 8) (.bind 9 7))) (.seq (.alloc 7 (.sh 0) (.lit [("", 3), ("", 9)])) (.load 3 1 .dyn))) (.seq (.seq (.load 8 3 .dyn) (.const 3)) (.seq (.arith 3) (.load 8 1 .dyn)))) (.seq (.seq (.seq (.load 9 8 .dyn) (.const 8)) (.seq (.ite (.bind 10 9) (.bind 10 8)) (.alloc 8 (.sh 0) (.lit [("", 3), ("", 10)])))) (.seq (.seq (.load 3 1 .dyn) (.load 9 3 .dyn)) (.seq (.const 3) (.seq (.arith 3) (.load 9 1 .dyn)))))) (.seq (.seq (.seq (.seq (.load 10 9 .dyn) (.const 9)) (.seq (.ite (.bind 11 10) (.bind 11 9)) (.alloc 9 (.sh 0) (.lit [("", 3), ("", 11)])))) (.seq (.seq (.load 3 1 .dyn) (.load 10 3 .dyn)) (.seq (.alloc 3 (.sh 0) (.union [10])) (.alloc 10 (.sh 0) (.union [3]))))) (.seq (.seq (.seq (.alloc 3 (.sh 0) (.union [10])) (.load 10 1 .dyn)) (.seq (.load 11 10 .dyn) (.alloc 10 (.sh 0) (.union [11])))) (.seq (.seq (.alloc 11 (.sh 0) (.union [10])) (.alloc 10 (.sh 0) (.union [11]))) (.seq (.alloc 11 (.sh 1) (.lit [("", 4), ("", 5), ("", 6), ("", 7), ("", 8), ("", 9), ("", 3), ("", 10)])) (.seq (.arith 3) (.ret 3))))))))),
  (.lv .num)⟩

/-- bermuda/base/metadata.py:65  params: <globals> -/
def f45 : Fn := ⟨"bermuda.base.metadata:Metadata.__post_init__", [1], [],
  (.seq (.seq (.seq (.seq (.alloc 0 (.sh 0) .dict) (.seq (.havoc 6) (.store 0 .dyn 6))) (.seq (.const 6) (.seq (.const 7) (.const 8)))) (.seq (.seq (.const 9) (.seq (.const 10) (.alloc 11 .nums (.lit [("", 6), ("", 7), ("", 8), ("", 9), ("", 10)])))) (.seq (.loop [(.lv (.sh 0)), .any, .scalar, .scalar, .scalar, (.lv .num), .scalar, .scalar, (.lv .nums), .scalar, .scalar, (.lv .nums)] (.block (.seq (.seq (.seq (.load 6 11 .dyn) (.bind 5 6)) (.seq (.ite (.arith 6) (.ite (.load 6 0 .dyn) (.ite (.bind 6 0) (.bind 6 5)))) (.seq (.const 6) (.const 7)))) (.seq (.seq (.const 7) (.alloc 8 .nums (.lit [("", 6), ("", 7)]))) (.seq (.const 6) (.seq (.const 6) (.ite (.seq (.const 6) (.seq (.const 6) .raise)) .skip))))))) (.seq (.load 6 0 .dyn) (.load 7 6 .dyn))))) (.seq (.seq (.seq (.const 6) (.seq (.const 7) (.const 8))) (.seq (.const 8) (.seq (.alloc 9 .nums (.lit [("", 6), ("", 7), ("", 8)])) (.const 6)))) (.seq (.seq (.const 6) (.seq (.ite (.seq (.const 6) (.seq (.const 6) .raise)) .skip) (.const 6))) (.seq (.seq (.const 7) (.alloc 8 .nums (.lit [("", 6), ("", 7)]))) (.seq (.loop [(.lv (.sh 0)), .any, .any, .any, .any, (.lv .num), .scalar, .scalar, (.lv .nums), (.lv .nums), .scalar, (.lv .nums)] (.block (.seq (.seq (.seq (.load 6 8 .dyn) (.bind 5 6)) (.seq (.ite (.arith 6) (.ite (.load 6 0 .dyn) (.ite (.bind 6 0) (.bind 6 5)))) (.bind 4 6))) (.seq (.seq (.const 6) (.const 6)) (.seq (.const 6) (.seq (.ite (.seq (.const 6) (.seq (.const 6) .raise)) .skip) (.loop [(.lv (.sh 0)), .any, .any, .any, .any, (.lv .num), .scalar, .scalar, (.lv .nums), (.lv .nums), .scalar, (.lv .nums)] (.block (.seq (.seq (.seq (.havoc 6) (.seq (.bind 3 6) (.load 6 4 .dyn))) (.seq (.bind 2 6) (.seq (.const 6) (.const 6)))) (.seq (.seq (.const 6) (.seq (.ite (.seq (.const 6) (.seq (.const 6) .raise)) .skip) (.load 6 1 .dyn))) (.seq (.seq (.const 6) (.const 6)) (.seq (.const 6) (.ite (.seq (.const 6) (.seq (.const 6) .raise)) .skip))))))))))))) (.ret 0)))))),
  (.lv (.sh 0))⟩

/-- bermuda/base/metadata.py:96  params: self, <globals> -/
def f46 : Fn := ⟨"bermuda.base.metadata:Metadata.as_dict", [0, 1], [],
  (.seq (.seq (.seq (.seq (.seq (.alloc 2 (.sh 0) .dict) (.const 3)) (.seq (.load 3 0 .dyn) (.load 4 3 .dyn))) (.seq (.seq (.store 2 .dyn 4) (.const 3)) (.seq (.load 3 0 .dyn) (.seq (.load 4 3 .dyn) (.store 2 .dyn 4))))) (.seq (.seq (.seq (.const 3) (.load 3 0 .dyn)) (.seq (.load 4 3 .dyn) (.store 2 .dyn 4))) (.seq (.seq (.const 3) (.load 3 0 .dyn)) (.seq (.load 4 3 .dyn) (.seq (.store 2 .dyn 4) (.const 3)))))) (.seq (.seq (.seq (.seq (.load 3 0 .dyn) (.load 4 3 .dyn)) (.seq (.store 2 .dyn 4) (.const 3))) (.seq (.seq (.load 3 0 .dyn) (.load 4 3 .dyn)) (.seq (.store 2 .dyn 4) (.seq (.const 3) (.load 3 0 .dyn))))) (.seq (.seq (.seq (.load 4 3 .dyn) (.alloc 3 .deep (.deep 4))) (.seq (.store 2 .dyn 3) (.const 3))) (.seq (.seq (.load 3 0 .dyn) (.load 4 3 .dyn)) (.seq (.alloc 3 .deep (.deep 4)) (.seq (.store 2 .dyn 3) (.ret 2))))))),
  (.lv (.sh 0))⟩

/-- bermuda/base/metadata.py:108  params: self, <globals> -/
def f47 : Fn := ⟨"bermuda.base.metadata:Metadata.as_flat_dict", [0, 1], [],
  (.seq (.seq (.seq (.seq (.const 2) (.seq (.load 2 0 .dyn) (.load 3 2 .dyn))) (.seq (.seq (.load 2 0 .dyn) (.load 4 2 .dyn)) (.seq (.alloc 2 (.sh 0) (.union [3, 4])) (.const 3)))) (.seq (.seq (.seq (.load 3 0 .dyn) (.load 4 3 .dyn)) (.seq (.store 2 .dyn 4) (.const 3))) (.seq (.seq (.load 3 0 .dyn) (.load 4 3 .dyn)) (.seq (.store 2 .dyn 4) (.const 3))))) (.seq (.seq (.seq (.seq (.load 3 0 .dyn) (.load 4 3 .dyn)) (.seq (.store 2 .dyn 4) (.const 3))) (.seq (.seq (.load 3 0 .dyn) (.load 4 3 .dyn)) (.seq (.store 2 .dyn 4) (.const 3)))) (.seq (.seq (.seq (.load 3 0 .dyn) (.load 4 3 .dyn)) (.seq (.store 2 .dyn 4) (.const 3))) (.seq (.seq (.load 3 0 .dyn) (.load 4 3 .dyn)) (.seq (.store 2 .dyn 4) (.ret 2)))))),
  (.lv (.sh 0))⟩

/-- bermuda/base/metadata.py:210  params: arg1, arg2, <globals> -/
def f48 : Fn := ⟨"bermuda.base.metadata:_first_if_equal", [0, 1, 2], [],
  (.seq (.const 3) (.seq (.arith 3) (.ite (.seq (.const 3) (.ret 3)) (.seq (.const 3) (.ret 3))))),
  .scalar⟩

/-- bermuda/base/metadata.py:170  params: meta1, meta2, <globals> -/
def f49 : Fn := ⟨"bermuda.base.metadata:common_metadata", [0, 1, 2], [],
  (.seq (.seq (.seq (.seq (.seq (.seq (.const 15) (.load 15 0 .dyn)) (.seq (.load 16 15 .dyn) (.load 15 1 .dyn))) (.seq (.seq (.load 17 15 .dyn) (.ite (.call 15 48 [16, 17]) (.bind 15 16))) (.seq (.bind 12 15) (.seq (.load 15 0 .dyn) (.load 16 15 .dyn))))) (.seq (.seq (.seq (.load 15 1 .dyn) (.load 17 15 .dyn)) (.seq (.ite (.call 15 48 [16, 17]) (.bind 15 16)) (.bind 11 15))) (.seq (.seq (.load 15 0 .dyn) (.load 16 15 .dyn)) (.seq (.load 15 1 .dyn) (.seq (.load 17 15 .dyn) (.ite (.call 15 48 [16, 17]) (.bind 15 16))))))) (.seq (.seq (.seq (.seq (.bind 10 15) (.load 15 0 .dyn)) (.seq (.load 16 15 .dyn) (.load 15 1 .dyn))) (.seq (.seq (.load 17 15 .dyn) (.ite (.call 15 48 [16, 17]) (.bind 15 16))) (.seq (.bind 9 15) (.seq (.load 15 0 .dyn) (.load 16 15 .dyn))))) (.seq (.seq (.seq (.load 15 1 .dyn) (.load 17 15 .dyn)) (.seq (.ite (.call 15 48 [16, 17]) (.bind 15 16)) (.seq (.bind 8 15) (.load 15 0 .dyn)))) (.seq (.seq (.load 16 15 .dyn) (.load 15 1 .dyn)) (.seq (.load 17 15 .dyn) (.seq (.ite (.call 15 48 [16, 17]) (.bind 15 16)) (.bind 7 15))))))) (.seq (.seq (.seq (.seq (.seq (.load 15 0 .dyn) (.load 16 15 .dyn)) (.seq (.alloc 15 (.sh 0) (.union [16])) (.alloc 16 (.sh 0) (.union [15])))) (.seq (.seq (.load 15 1 .dyn) (.load 17 15 .dyn)) (.seq (.alloc 15 (.sh 0) (.union [17])) (.seq (.alloc 17 (.sh 0) (.union [15])) (.ite (.arith 15) (.alloc 15 (.sh 0) (.union [16, 17]))))))) (.seq (.seq (.seq (.bind 6 15) (.alloc 15 (.sh 0) .dict)) (.seq (.loop [.any, .any, .any, .scalar, .scalar, .scalar, (.lv (.sh 0)), .any, .any, .any, .any, .any, .any, .any, .scalar, (.lv (.sh 0)), .any, .any] (.seq (.seq (.seq (.load 16 6 .dyn) (.bind 13 16)) (.seq (.load 16 0 .dyn) (.seq (.load 17 16 .dyn) (.load 16 17 .dyn)))) (.seq (.seq (.load 16 1 .dyn) (.load 17 16 .dyn)) (.seq (.load 16 17 .dyn) (.seq (.arith 16) (.ite .skip (.seq (.seq (.load 16 0 .dyn) (.load 17 16 .dyn)) (.seq (.load 16 17 .dyn) (.store 15 .dyn 16))))))))) (.seq (.bind 5 15) (.load 15 0 .dyn)))) (.seq (.seq (.load 16 15 .dyn) (.alloc 15 (.sh 0) (.union [16]))) (.seq (.alloc 16 (.sh 0) (.union [15])) (.seq (.load 15 1 .dyn) (.load 17 15 .dyn)))))) (.seq (.seq (.seq (.seq (.alloc 15 (.sh 0) (.union [17])) (.alloc 17 (.sh 0) (.union [15]))) (.seq (.ite (.arith 15) (.alloc 15 (.sh 0) (.union [16, 17]))) (.bind 4 15))) (.seq (.seq (.alloc 15 (.sh 0) .dict) (.loop [.any, .any, .any, .scalar, (.lv (.sh 0)), (.lv (.sh 0)), (.lv (.sh 0)), .any, .any, .any, .any, .any, .any, .any, .any, (.lv (.sh 0)), .any, .any] (.seq (.seq (.seq (.load 16 4 .dyn) (.bind 14 16)) (.seq (.load 16 0 .dyn) (.seq (.load 17 16 .dyn) (.load 16 17 .dyn)))) (.seq (.seq (.load 16 1 .dyn) (.load 17 16 .dyn)) (.seq (.load 16 17 .dyn) (.seq (.arith 16) (.ite .skip (.seq (.seq (.load 16 1 .dyn) (.load 17 16 .dyn)) (.seq (.load 16 17 .dyn) (.store 15 .dyn 16)))))))))) (.seq (.bind 3 15) (.seq (.alloc 15 (.sh 0) (.lit [("", 12)])) (.alloc 16 (.sh 0) (.lit [("", 11)])))))) (.seq (.seq (.seq (.alloc 17 (.sh 0) (.lit [("", 10)])) (.alloc 18 (.sh 0) (.lit [("", 9)]))) (.seq (.alloc 19 (.sh 0) (.lit [("", 8)])) (.seq (.alloc 20 (.sh 0) (.lit [("", 7)])) (.alloc 21 (.sh 1) (.lit [("", 5)]))))) (.seq (.seq (.alloc 22 (.sh 1) (.lit [("", 3)])) (.alloc 23 (.sh 0) (.lit [("", 15), ("", 16), ("", 17), ("", 18), ("", 19), ("", 20), ("", 21), ("", 22)]))) (.seq (.call 15 45 [12, 11, 10, 9, 8, 7, 5, 3]) (.seq (.merge 23 15) (.ret 23)))))))),
  (.lv (.sh 0))⟩

/-- bermuda/base/metadata.py:218  params: meta_core, meta_diff, <globals> -/
def f50 : Fn := ⟨"bermuda.base.metadata:metadata_diff", [0, 1, 2], [],
  (.seq (.seq (.seq (.seq (.seq (.const 15) (.seq (.load 15 0 .dyn) (.load 16 15 .dyn))) (.seq (.seq (.const 15) (.arith 15)) (.seq (.ite (.seq (.load 15 1 .dyn) (.seq (.load 16 15 .dyn) (.bind 15 16))) (.seq (.const 16) (.bind 15 16))) (.bind 10 15)))) (.seq (.seq (.load 15 0 .dyn) (.seq (.load 16 15 .dyn) (.const 15))) (.seq (.seq (.arith 15) (.ite (.seq (.load 15 1 .dyn) (.seq (.load 16 15 .dyn) (.bind 15 16))) (.seq (.const 16) (.bind 15 16)))) (.seq (.bind 9 15) (.load 15 0 .dyn))))) (.seq (.seq (.seq (.load 16 15 .dyn) (.seq (.const 15) (.arith 15))) (.seq (.seq (.ite (.seq (.load 15 1 .dyn) (.seq (.load 16 15 .dyn) (.bind 15 16))) (.seq (.const 16) (.bind 15 16))) (.bind 8 15)) (.seq (.load 15 0 .dyn) (.load 16 15 .dyn)))) (.seq (.seq (.seq (.const 15) (.arith 15)) (.seq (.ite (.seq (.load 15 1 .dyn) (.seq (.load 16 15 .dyn) (.bind 15 16))) (.seq (.const 16) (.bind 15 16))) (.bind 7 15))) (.seq (.seq (.load 15 0 .dyn) (.load 16 15 .dyn)) (.seq (.const 15) (.arith 15)))))) (.seq (.seq (.seq (.seq (.ite (.seq (.load 15 1 .dyn) (.seq (.load 16 15 .dyn) (.bind 15 16))) (.seq (.const 16) (.bind 15 16))) (.seq (.bind 6 15) (.load 15 0 .dyn))) (.seq (.seq (.load 16 15 .dyn) (.const 15)) (.seq (.arith 15) (.ite (.seq (.load 15 1 .dyn) (.seq (.load 16 15 .dyn) (.bind 15 16))) (.seq (.const 16) (.bind 15 16)))))) (.seq (.seq (.seq (.bind 5 15) (.alloc 15 (.sh 0) .dict)) (.seq (.load 16 1 .dyn) (.load 17 16 .dyn))) (.seq (.seq (.loop [.any, .any, .any, .scalar, .scalar, .any, .any, .any, .any, .any, .any, .any, .any, .scalar, .scalar, (.lv (.sh 0)), .any, .any, .any] (.seq (.seq (.seq (.havoc 16) (.bind 11 16)) (.seq (.load 16 17 .dyn) (.bind 12 16))) (.seq (.seq (.load 16 0 .dyn) (.load 18 16 .dyn)) (.seq (.arith 16) (.ite .skip (.store 15 .dyn 12)))))) (.bind 4 15)) (.seq (.alloc 15 (.sh 0) .dict) (.load 16 1 .dyn))))) (.seq (.seq (.seq (.load 17 16 .dyn) (.seq (.loop [.any, .any, .any, .scalar, (.lv (.sh 0)), .any, .any, .any, .any, .any, .any, .any, .any, .any, .any, (.lv (.sh 0)), .any, .any, .any] (.seq (.seq (.seq (.havoc 16) (.bind 13 16)) (.seq (.load 16 17 .dyn) (.bind 14 16))) (.seq (.seq (.load 16 0 .dyn) (.load 18 16 .dyn)) (.seq (.arith 16) (.ite .skip (.store 15 .dyn 14)))))) (.bind 3 15))) (.seq (.seq (.alloc 15 (.sh 0) (.lit [("", 10)])) (.alloc 16 (.sh 0) (.lit [("", 9)]))) (.seq (.alloc 17 (.sh 0) (.lit [("", 8)])) (.alloc 18 (.sh 0) (.lit [("", 7)]))))) (.seq (.seq (.seq (.alloc 19 (.sh 0) (.lit [("", 6)])) (.alloc 20 (.sh 0) (.lit [("", 5)]))) (.seq (.alloc 21 (.sh 1) (.lit [("", 4)])) (.alloc 22 (.sh 1) (.lit [("", 3)])))) (.seq (.seq (.alloc 23 (.sh 0) (.lit [("", 15), ("", 16), ("", 17), ("", 18), ("", 19), ("", 20), ("", 21), ("", 22)])) (.call 15 45 [10, 9, 8, 7, 6, 5, 4, 3])) (.seq (.merge 23 15) (.ret 23))))))),
  (.lv (.sh 0))⟩

/-- bermuda/date_utils.py:235  params: xs, <globals> -/
def f51 : Fn := ⟨"bermuda.date_utils:_diff", [0, 1], [],
  (.seq (.seq (.seq (.const 4) (.alloc 4 .nums .dict)) (.seq (.const 5) (.arith 5))) (.seq (.seq (.ite (.bind 5 0) (.alloc 5 (.sh 0) (.union [0]))) (.const 6)) (.seq (.ite (.bind 6 0) (.alloc 6 (.sh 0) (.union [0]))) (.seq (.loop [.any, .any, .any, .any, (.lv .nums), .any, .any, (.lv .num)] (.seq (.seq (.load 7 5 .dyn) (.seq (.bind 2 7) (.load 7 6 .dyn))) (.seq (.bind 3 7) (.seq (.arith 7) (.store 4 .dyn 7))))) (.ret 4))))),
  (.lv .nums)⟩

/-- bermuda/date_utils.py:217  params: dt, <globals> -/
def f52 : Fn := ⟨"bermuda.date_utils:_is_month_end", [0, 1], [],
  (.seq (.seq (.seq (.const 0) (.const 3)) (.seq (.const 3) (.seq (.const 3) (.arith 3)))) (.seq (.seq (.bind 2 3) (.seq (.load 3 2 .dyn) (.load 4 3 .dyn))) (.seq (.const 3) (.seq (.arith 3) (.ret 3))))),
  (.lv .num)⟩

/-- bermuda/date_utils.py:212  params: dt, <globals> -/
def f53 : Fn := ⟨"bermuda.date_utils:_is_month_start", [0, 1], [],
  (.seq (.seq (.const 0) (.seq (.const 2) (.load 2 0 .dyn))) (.seq (.seq (.load 3 2 .dyn) (.const 2)) (.seq (.arith 2) (.ret 2)))),
  (.lv .num)⟩

/-- bermuda/date_utils.py:83  params: dt, <globals> -/
def f54 : Fn := ⟨"bermuda.date_utils:_month_fraction", [0, 1], [],
  (.seq (.seq (.seq (.const 0) (.seq (.const 4) (.load 4 0 .dyn))) (.seq (.seq (.load 5 4 .dyn) (.load 4 0 .dyn)) (.seq (.load 5 4 .dyn) (.const 4)))) (.seq (.seq (.seq (.load 5 4 .dyn) (.bind 3 5)) (.seq (.load 5 4 .dyn) (.bind 2 5))) (.seq (.seq (.load 4 0 .dyn) (.load 5 4 .dyn)) (.seq (.arith 4) (.ret 4))))),
  (.lv .num)⟩

/-- bermuda/date_utils.py:223  params: xs, <globals> -/
def f55 : Fn := ⟨"bermuda.date_utils:_multi_gcd", [0, 1], [],
  (.seq (.seq (.seq (.seq (.const 5) (.alloc 5 (.sh 0) (.union [0]))) (.seq (.alloc 6 (.sh 0) (.union [5])) (.bind 4 6))) (.seq (.seq (.const 5) (.const 5)) (.seq (.arith 5) (.seq (.ite (.seq (.const 5) (.seq (.load 5 4 .dyn) (.ret 5))) .skip) (.const 5))))) (.seq (.seq (.seq (.load 5 4 .dyn) (.const 5)) (.seq (.load 5 4 .dyn) (.const 5))) (.seq (.seq (.bind 2 5) (.const 5)) (.seq (.ite (.bind 5 4) (.alloc 5 (.sh 0) (.union [4]))) (.seq (.loop [.any, .any, .scalar, .any, (.lv (.sh 0)), (.lv (.sh 0)), (.lv (.sh 0))] (.block (.seq (.seq (.load 6 5 .dyn) (.bind 3 6)) (.seq (.const 6) (.bind 2 6))))) (.ret 2)))))),
  .any⟩

/-- bermuda/date_utils.py:55  params: dt, delta, <globals> -/
def f56 : Fn := ⟨"bermuda.date_utils:add_months", [0, 1, 2], [],
  (.seq (.seq (.seq (.seq (.seq (.const 0) (.const 1)) (.seq (.const 12) (.seq (.const 12) (.arith 12)))) (.seq (.seq (.ite (.seq (.const 12) (.ret 12)) .skip) (.seq (.const 12) (.const 12))) (.seq (.const 12) (.seq (.const 12) (.call 13 58 [12, 0]))))) (.seq (.seq (.seq (.bind 11 13) (.seq (.ite (.arith 12) (.alloc 12 .nums (.union [11, 1]))) (.bind 10 12))) (.seq (.const 12) (.seq (.arith 12) (.const 12)))) (.seq (.seq (.arith 12) (.seq (.ite (.seq (.seq (.const 12) (.const 12)) (.seq (.arith 12) (.bind 13 12))) (.seq (.const 12) (.bind 13 12))) (.bind 9 13))) (.seq (.const 12) (.seq (.arith 12) (.const 12)))))) (.seq (.seq (.seq (.seq (.arith 12) (.seq (.ite (.seq (.const 12) (.bind 13 12)) (.seq (.const 12) (.seq (.arith 12) (.bind 13 12)))) (.bind 8 13))) (.seq (.const 12) (.seq (.arith 12) (.const 12)))) (.seq (.seq (.arith 12) (.seq (.bind 7 12) (.const 12))) (.seq (.const 12) (.seq (.arith 12) (.arith 12))))) (.seq (.seq (.seq (.bind 6 12) (.seq (.const 12) (.load 13 12 .dyn))) (.seq (.bind 5 13) (.seq (.load 13 12 .dyn) (.bind 4 13)))) (.seq (.seq (.arith 12) (.seq (.const 12) (.bind 3 12))) (.seq (.const 12) (.seq (.arith 12) (.ite (.seq (.seq (.const 12) (.seq (.const 12) (.const 12))) (.seq (.const 12) (.seq (.arith 12) (.ret 12)))) (.seq (.const 12) (.ret 12))))))))),
  (.lv .num)⟩

/-- bermuda/date_utils.py:29  params: period_end, evaluation_date, unit, <globals> -/
def f57 : Fn := ⟨"bermuda.date_utils:calculate_dev_lag", [0, 1, 2, 3], [],
  (.seq (.seq (.seq (.const 0) (.seq (.const 1) (.const 2))) (.seq (.const 5) (.seq (.const 5) (.bind 4 5)))) (.seq (.seq (.const 5) (.seq (.arith 5) (.ite (.seq (.const 5) (.seq (.arith 5) (.ite (.seq (.const 5) (.ret 5)) (.seq (.const 5) (.ret 5))))) .skip))) (.seq (.const 5) (.seq (.arith 5) (.ite (.seq (.call 5 58 [0, 1]) (.ret 5)) (.seq (.const 5) (.seq (.arith 5) (.ite (.seq (.seq (.arith 5) (.load 6 5 .dyn)) (.seq (.load 5 6 .dyn) (.ret 5))) (.seq (.const 5) (.seq (.arith 5) (.ite (.seq (.arith 5) (.ret 5)) (.seq (.const 5) (.seq (.const 5) .raise))))))))))))),
  (.lv .num)⟩

/-- bermuda/date_utils.py:89  params: start, stop, <globals> -/
def f58 : Fn := ⟨"bermuda.date_utils:dev_lag_months", [0, 1, 2], [],
  (.seq (.seq (.seq (.seq (.const 0) (.seq (.const 1) (.const 7))) (.seq (.call 7 54 [0]) (.seq (.bind 6 7) (.call 7 54 [1])))) (.seq (.seq (.bind 5 7) (.seq (.load 7 1 .dyn) (.load 8 7 .dyn))) (.seq (.load 7 0 .dyn) (.seq (.load 8 7 .dyn) (.arith 7))))) (.seq (.seq (.seq (.bind 4 7) (.seq (.load 7 1 .dyn) (.load 8 7 .dyn))) (.seq (.load 7 0 .dyn) (.seq (.load 8 7 .dyn) (.arith 7)))) (.seq (.seq (.bind 3 7) (.seq (.const 7) (.arith 7))) (.seq (.seq (.arith 7) (.arith 7)) (.seq (.arith 7) (.ret 7)))))),
  (.lv .num)⟩

/-- bermuda/date_utils.py:172  params: triangle, <globals> -/
def f59 : Fn := ⟨"bermuda.date_utils:drop_off_diagonals", [0, 1], [],
  (.seq (.seq (.seq (.seq (.seq (.const 16) (.const 16)) (.seq (.alloc 16 (.sh 1) .dict) (.seq (.bind 11 16) (.const 16)))) (.seq (.seq (.alloc 16 (.sh 1) .dict) (.seq (.bind 10 16) (.alloc 16 .nums .dict))) (.seq (.bind 9 16) (.seq (.ite (.seq (.load 16 0 .dyn) (.load 17 16 .dyn)) (.call 17 321 [0])) (.const 16))))) (.seq (.seq (.seq (.arith 16) (.ite (.bind 16 17) (.alloc 16 (.sh 0) (.union [17])))) (.seq (.ite (.seq (.load 17 0 .dyn) (.load 18 17 .dyn)) (.call 18 321 [0])) (.seq (.const 17) (.ite (.bind 17 18) (.alloc 17 (.sh 0) (.union [18])))))) (.seq (.seq (.loop [.any, .any, .scalar, .scalar, .scalar, .scalar, (.lv .num), .any, .any, (.lv .nums), (.lv (.sh 1)), (.lv (.sh 1)), .scalar, .scalar, .scalar, .scalar, .any, .any, .any] (.block (.seq (.seq (.seq (.load 18 16 .dyn) (.seq (.bind 8 18) (.load 18 17 .dyn))) (.seq (.seq (.bind 7 18) (.call 18 57 [8, 7])) (.seq (.bind 6 18) (.store 9 .dyn 6)))) (.seq (.seq (.const 18) (.seq (.ite (.load 18 11 .dyn) (.seq (.alloc 18 (.sh 0) .dict) (.store 11 .dyn 18))) (.store 18 .dyn 7))) (.seq (.seq (.const 18) (.ite (.load 18 10 .dyn) (.seq (.alloc 18 (.sh 0) .dict) (.store 10 .dyn 18)))) (.seq (.store 18 .dyn 8) (.const 18))))))) (.seq (.alloc 16 .nums (.union [9])) (.const 17))) (.seq (.alloc 17 .nums (.union [16])) (.seq (.const 16) (.load 16 17 .dyn)))))) (.seq (.seq (.seq (.seq (.const 17) (.load 17 16 .dyn)) (.seq (.bind 5 17) (.seq (.alloc 16 .nums .dict) (.ite (.seq (.load 17 0 .dyn) (.load 18 17 .dyn)) (.call 18 321 [0]))))) (.seq (.seq (.loop [.any, .any, .scalar, .scalar, .scalar, .scalar, (.lv .num), .any, .any, (.lv .nums), (.lv (.sh 1)), (.lv (.sh 1)), .any, .scalar, .scalar, .scalar, (.lv .nums), .any, .any] (.seq (.seq (.load 17 18 .dyn) (.bind 12 17)) (.seq (.call 17 63 [12]) (.seq (.arith 17) (.store 16 .dyn 17))))) (.seq (.bind 4 16) (.alloc 16 .nums (.union [4])))) (.seq (.const 17) (.seq (.alloc 17 .nums (.union [16])) (.const 16))))) (.seq (.seq (.seq (.load 16 17 .dyn) (.seq (.const 17) (.load 17 16 .dyn))) (.seq (.bind 3 17) (.seq (.alloc 16 (.sh 0) .dict) (.ite (.seq (.load 17 0 .dyn) (.load 18 17 .dyn)) (.call 18 321 [0]))))) (.seq (.seq (.loop [.any, .any, .scalar, .scalar, (.lv .nums), .scalar, (.lv .num), .any, .any, (.lv .nums), (.lv (.sh 1)), (.lv (.sh 1)), .any, .any, (.lv .num), .scalar, (.lv (.sh 0)), .any, .any] (.seq (.seq (.load 17 18 .dyn) (.seq (.bind 13 17) (.load 17 4 .dyn))) (.seq (.bind 14 17) (.seq (.arith 17) (.ite .skip (.store 16 .dyn 13)))))) (.seq (.bind 2 16) (.ite .skip (.loop [.any, .any, (.lv (.sh 0)), .scalar, (.lv .nums), .scalar, (.lv .num), .any, .any, (.lv .nums), (.lv (.sh 1)), (.lv (.sh 1)), .any, .any, (.lv .num), .any, (.lv (.sh 0)), .any, .any] (.block (.seq (.havoc 15) (.seq (.ite (.seq (.load 16 15 .dyn) (.load 17 16 .dyn)) (.call 17 320 [15])) (.arith 16)))))))) (.seq (.const 16) (.seq (.call 17 327 [0, 16]) (.ret 17))))))),
  (.lv (.sh 2))⟩

/-- bermuda/date_utils.py:161  params: tri, <globals> -/
def f60 : Fn := ⟨"bermuda.date_utils:eval_date_resolution", [0, 1], [],
  (.seq (.seq (.seq (.const 6) (.seq (.alloc 6 .nums .dict) (.ite (.seq (.load 7 0 .dyn) (.load 8 7 .dyn)) (.call 8 321 [0])))) (.seq (.loop [.any, .any, .scalar, .scalar, .scalar, .any, (.lv .nums), .any, .any] (.seq (.seq (.load 7 8 .dyn) (.bind 5 7)) (.seq (.call 7 63 [5]) (.store 6 .dyn 7)))) (.seq (.bind 4 6) (.alloc 6 .nums (.union [4]))))) (.seq (.seq (.bind 3 6) (.seq (.call 6 51 [3]) (.bind 2 6))) (.seq (.seq (.const 6) (.ite (.seq (.const 6) (.ret 6)) .skip)) (.seq (.call 6 55 [2]) (.ret 6))))),
  .any⟩

/-- bermuda/date_utils.py:137  params: id, beginning, <globals> -/
def f61 : Fn := ⟨"bermuda.date_utils:id_to_month", [0, 1, 2], [],
  (.seq (.const 0) (.seq (.const 3) (.ite (.seq (.seq (.seq (.const 3) (.const 3)) (.seq (.arith 3) (.seq (.arith 3) (.const 3)))) (.seq (.seq (.arith 3) (.seq (.const 3) (.arith 3))) (.seq (.const 3) (.seq (.const 3) (.ret 3))))) (.seq (.seq (.seq (.seq (.const 3) (.aug 0 3)) (.seq (.const 3) (.const 3))) (.seq (.seq (.arith 3) (.arith 3)) (.seq (.const 3) (.arith 3)))) (.seq (.seq (.seq (.const 3) (.arith 3)) (.seq (.const 3) (.const 3))) (.seq (.seq (.const 3) (.const 3)) (.seq (.arith 3) (.ret 3)))))))),
  (.lv .num)⟩

/-- bermuda/date_utils.py:201  params: tri, <globals> -/
def f62 : Fn := ⟨"bermuda.date_utils:is_triangle_monthly", [0, 1], [],
  (.seq (.seq (.seq (.seq (.const 10) (.ite (.seq (.load 10 0 .dyn) (.load 11 10 .dyn)) (.call 11 344 [0]))) (.seq (.load 10 11 .dyn) (.seq (.alloc 11 (.sh 0) (.union [10])) (.load 10 11 .dyn)))) (.seq (.seq (.bind 6 10) (.seq (.load 10 11 .dyn) (.bind 5 10))) (.seq (.alloc 10 .nums .dict) (.seq (.loop [.any, .any, .scalar, .scalar, .scalar, .any, .any, .any, .scalar, .scalar, (.lv .nums), (.lv (.sh 0))] (.seq (.seq (.load 11 6 .dyn) (.bind 7 11)) (.seq (.call 11 53 [7]) (.store 10 .dyn 11)))) (.const 10))))) (.seq (.seq (.seq (.bind 4 10) (.seq (.alloc 10 .nums .dict) (.loop [.any, .any, .scalar, .scalar, .scalar, .any, .any, .any, .any, .scalar, (.lv .nums), (.lv (.sh 0))] (.seq (.seq (.load 11 5 .dyn) (.bind 8 11)) (.seq (.call 11 52 [8]) (.store 10 .dyn 11)))))) (.seq (.const 10) (.seq (.bind 3 10) (.alloc 10 .nums .dict)))) (.seq (.seq (.ite (.seq (.load 11 0 .dyn) (.load 12 11 .dyn)) (.call 12 321 [0])) (.seq (.loop [.any, .any, .scalar, .scalar, .scalar, .any, .any, .any, .any, .any, (.lv .nums), .any, .any] (.seq (.seq (.load 11 12 .dyn) (.bind 9 11)) (.seq (.call 11 52 [9]) (.store 10 .dyn 11)))) (.const 10))) (.seq (.bind 2 10) (.seq (.ite (.bind 10 4) (.ite (.bind 10 3) (.bind 10 2))) (.ret 10)))))),
  .scalar⟩

/-- bermuda/date_utils.py:132  params: dt, <globals> -/
def f63 : Fn := ⟨"bermuda.date_utils:month_to_id", [0, 1], [],
  (.seq (.seq (.seq (.const 0) (.seq (.const 2) (.const 2))) (.seq (.seq (.load 2 0 .dyn) (.load 3 2 .dyn)) (.seq (.const 2) (.arith 2)))) (.seq (.seq (.arith 2) (.seq (.load 2 0 .dyn) (.load 3 2 .dyn))) (.seq (.seq (.arith 2) (.const 2)) (.seq (.arith 2) (.ret 2))))),
  (.lv .num)⟩

/-- bermuda/date_utils.py:148  params: tri, <globals> -/
def f64 : Fn := ⟨"bermuda.date_utils:period_resolution", [0, 1], [],
  (.seq (.seq (.seq (.seq (.const 10) (.seq (.ite (.seq (.load 10 0 .dyn) (.load 11 10 .dyn)) (.call 11 344 [0])) (.load 10 11 .dyn))) (.seq (.alloc 11 (.sh 0) (.union [10])) (.seq (.load 10 11 .dyn) (.bind 7 10)))) (.seq (.seq (.load 10 11 .dyn) (.seq (.bind 6 10) (.alloc 10 .nums .dict))) (.seq (.loop [.any, .any, .scalar, .scalar, .scalar, .scalar, .any, .any, .any, .scalar, (.lv .nums), (.lv (.sh 0))] (.seq (.seq (.load 11 7 .dyn) (.bind 8 11)) (.seq (.call 11 63 [8]) (.store 10 .dyn 11)))) (.seq (.bind 5 10) (.alloc 10 .nums .dict))))) (.seq (.seq (.seq (.loop [.any, .any, .scalar, .scalar, .scalar, (.lv .nums), .any, .any, .any, .any, (.lv .nums), (.lv (.sh 0))] (.seq (.seq (.load 11 6 .dyn) (.seq (.bind 9 11) (.call 11 63 [9]))) (.seq (.const 11) (.seq (.arith 11) (.store 10 .dyn 11))))) (.seq (.bind 4 10) (.ite (.arith 10) (.alloc 10 .nums (.union [5, 4]))))) (.seq (.alloc 11 .nums (.union [10])) (.seq (.alloc 10 .nums (.union [11])) (.bind 3 10)))) (.seq (.seq (.call 10 51 [3]) (.seq (.bind 2 10) (.const 10))) (.seq (.ite (.seq (.const 10) (.ret 10)) .skip) (.seq (.call 10 55 [2]) (.ret 10)))))),
  .any⟩

/-- bermuda/date_utils.py:121  params: date, resolution, negative, <globals> -/
def f65 : Fn := ⟨"bermuda.date_utils:resolution_delta", [0, 1, 2, 3], [],
  (.seq (.seq (.seq (.const 1) (.load 6 1 .dyn)) (.seq (.bind 4 6) (.load 6 1 .dyn))) (.seq (.seq (.bind 5 6) (.ite (.seq (.const 6) (.seq (.arith 6) (.ite (.shrink 4) (.arith 4)))) .skip)) (.seq (.const 6) (.seq (.arith 6) (.ite (.seq (.call 6 56 [0, 4]) (.ret 6)) (.seq (.const 6) (.seq (.arith 6) (.ret 6)))))))),
  (.lv .num)⟩

/-- bermuda/date_utils.py:99  params: resolution, <globals> -/
def f66 : Fn := ⟨"bermuda.date_utils:standardize_resolution", [0, 1], [],
  (.seq (.seq (.seq (.const 0) (.seq (.load 5 0 .dyn) (.bind 3 5))) (.seq (.load 5 0 .dyn) (.seq (.bind 4 5) (.const 5)))) (.seq (.seq (.bind 2 5) (.seq (.const 5) (.arith 5))) (.seq (.ite (.seq (.const 5) (.bind 2 5)) (.seq (.const 5) (.seq (.arith 5) (.ite (.seq (.seq (.const 5) (.ite (.shrink 3) (.arith 3))) (.seq (.const 5) (.bind 2 5))) (.seq (.const 5) (.seq (.arith 5) (.ite (.seq (.seq (.const 5) (.ite (.shrink 3) (.arith 3))) (.seq (.const 5) (.bind 2 5))) (.seq (.const 5) (.seq (.arith 5) (.ite (.seq (.const 5) (.bind 2 5)) (.seq (.const 5) (.seq (.arith 5) (.ite (.seq (.seq (.const 5) (.ite (.shrink 3) (.arith 3))) (.seq (.const 5) (.bind 2 5))) (.seq (.const 5) (.seq (.const 5) .raise))))))))))))))) (.seq (.alloc 5 .nums (.lit [("", 3), ("", 2)])) (.ret 5))))),
  (.lv .nums)⟩

/-- bermuda/factory.py:100  params: self, args, kwargs, <globals> -/
def f67 : Fn := ⟨"bermuda.factory:<lambda@100:4>", [0, 1, 2, 3], [],
  (.seq (.seq (.load 4 1 .dyn) (.load 5 2 .dyn)) (.seq (.call 6 173 [0, 4, 5]) (.ret 6))),
  (.lv (.sh 0))⟩

/-- bermuda/factory.py:100  params: self, args, kwargs, <globals> -/
def f68 : Fn := ⟨"bermuda.factory:<lambda@100:4>@Triangle.to_chain_ladder", [0, 1, 2, 3], [],
  (.seq (.seq (.load 4 1 .dyn) (.load 5 2 .dyn)) (.seq (.call 6 173 [0, 4, 5]) (.ret 6))),
  (.lv (.sh 0))⟩

/-- bermuda/factory.py:104  params: self, args, kwargs, <globals> -/
def f69 : Fn := ⟨"bermuda.factory:<lambda@104:4>", [0, 1, 2, 3], [],
  (.seq (.seq (.load 4 1 .dyn) (.load 5 2 .dyn)) (.seq (.call 6 195 [0, 4, 5]) (.ret 6))),
  .scalar⟩

/-- bermuda/factory.py:104  params: self, args, kwargs, <globals> -/
def f70 : Fn := ⟨"bermuda.factory:<lambda@104:4>@Triangle.to_long_csv", [0, 1, 2, 3], [],
  (.seq (.seq (.load 4 1 .dyn) (.load 5 2 .dyn)) (.seq (.call 6 195 [0, 4, 5]) (.ret 6))),
  .scalar⟩

/-- bermuda/factory.py:107  params: self, args, kwargs, <globals> -/
def f71 : Fn := ⟨"bermuda.factory:<lambda@107:4>", [0, 1, 2, 3], [],
  (.seq (.seq (.load 4 1 .dyn) (.load 5 2 .dyn)) (.seq (.call 6 196 [0, 4, 5]) (.ret 6))),
  (.lv (.sh 0))⟩

/-- bermuda/factory.py:107  params: self, args, kwargs, <globals> -/
def f72 : Fn := ⟨"bermuda.factory:<lambda@107:4>@Triangle.to_long_data_frame", [0, 1, 2, 3], [],
  (.seq (.seq (.load 4 1 .dyn) (.load 5 2 .dyn)) (.seq (.call 6 196 [0, 4, 5]) (.ret 6))),
  (.lv (.sh 0))⟩

/-- bermuda/factory.py:110  params: self, args, kwargs, <globals> -/
def f73 : Fn := ⟨"bermuda.factory:<lambda@110:4>", [0, 1, 2, 3], [],
  (.seq (.seq (.load 4 1 .dyn) (.load 5 2 .dyn)) (.seq (.call 6 140 [0, 4, 5]) (.ret 6))),
  (.lv (.sh 0))⟩

/-- bermuda/factory.py:110  params: self, args, kwargs, <globals> -/
def f74 : Fn := ⟨"bermuda.factory:<lambda@110:4>@Triangle.to_right_edge_data_frame", [0, 1, 2, 3], [],
  (.seq (.seq (.load 4 1 .dyn) (.load 5 2 .dyn)) (.seq (.call 6 140 [0, 4, 5]) (.ret 6))),
  (.lv (.sh 0))⟩

/-- bermuda/factory.py:115  params: self, args, kwargs, <globals> -/
def f75 : Fn := ⟨"bermuda.factory:<lambda@115:4>", [0, 1, 2, 3], [],
  (.seq (.seq (.load 4 1 .dyn) (.load 5 2 .dyn)) (.seq (.call 6 197 [0, 4, 5]) (.ret 6))),
  .scalar⟩

/-- bermuda/factory.py:115  params: self, args, kwargs, <globals> -/
def f76 : Fn := ⟨"bermuda.factory:<lambda@115:4>@Triangle.to_wide_csv", [0, 1, 2, 3], [],
  (.seq (.seq (.load 4 1 .dyn) (.load 5 2 .dyn)) (.seq (.call 6 197 [0, 4, 5]) (.ret 6))),
  .scalar⟩

/-- bermuda/factory.py:118  params: self, args, kwargs, <globals> -/
def f77 : Fn := ⟨"bermuda.factory:<lambda@118:4>", [0, 1, 2, 3], [],
  (.seq (.seq (.load 4 1 .dyn) (.load 5 2 .dyn)) (.seq (.call 6 198 [0, 4, 5]) (.ret 6))),
  (.lv (.sh 0))⟩

/-- bermuda/factory.py:118  params: self, args, kwargs, <globals> -/
def f78 : Fn := ⟨"bermuda.factory:<lambda@118:4>@Triangle.to_wide_data_frame", [0, 1, 2, 3], [],
  (.seq (.seq (.load 4 1 .dyn) (.load 5 2 .dyn)) (.seq (.call 6 198 [0, 4, 5]) (.ret 6))),
  (.lv (.sh 0))⟩

/-- bermuda/factory.py:145  params: self, args, kwargs, <globals> -/
def f79 : Fn := ⟨"bermuda.factory:<lambda@145:4>", [0, 1, 2, 3], [],
  (.seq (.seq (.load 4 1 .dyn) (.load 5 2 .dyn)) (.seq (.call 6 300 [0, 4, 5]) (.ret 6))),
  (.lv (.sh 0))⟩

/-- bermuda/factory.py:145  params: self, args, kwargs, <globals> -/
def f80 : Fn := ⟨"bermuda.factory:<lambda@145:4>@Triangle.plot_right_edge", [0, 1, 2, 3], [],
  (.seq (.seq (.load 4 1 .dyn) (.load 5 2 .dyn)) (.seq (.call 6 300 [0, 4, 5]) (.ret 6))),
  (.lv (.sh 0))⟩

/-- bermuda/factory.py:148  params: self, args, kwargs, <globals> -/
def f81 : Fn := ⟨"bermuda.factory:<lambda@148:4>", [0, 1, 2, 3], [],
  (.seq (.seq (.load 4 1 .dyn) (.load 5 2 .dyn)) (.seq (.call 6 293 [0, 4, 5]) (.ret 6))),
  (.lv (.sh 0))⟩

/-- bermuda/factory.py:148  params: self, args, kwargs, <globals> -/
def f82 : Fn := ⟨"bermuda.factory:<lambda@148:4>@Triangle.plot_data_completeness", [0, 1, 2, 3], [],
  (.seq (.seq (.load 4 1 .dyn) (.load 5 2 .dyn)) (.seq (.call 6 293 [0, 4, 5]) (.ret 6))),
  (.lv (.sh 0))⟩

/-- bermuda/factory.py:151  params: self, args, kwargs, <globals> -/
def f83 : Fn := ⟨"bermuda.factory:<lambda@151:4>", [0, 1, 2, 3], [],
  (.seq (.seq (.load 4 1 .dyn) (.load 5 2 .dyn)) (.seq (.call 6 296 [0, 4, 5]) (.ret 6))),
  (.lv (.sh 0))⟩

/-- bermuda/factory.py:151  params: self, args, kwargs, <globals> -/
def f84 : Fn := ⟨"bermuda.factory:<lambda@151:4>@Triangle.plot_heatmap", [0, 1, 2, 3], [],
  (.seq (.seq (.load 4 1 .dyn) (.load 5 2 .dyn)) (.seq (.call 6 296 [0, 4, 5]) (.ret 6))),
  (.lv (.sh 0))⟩

/-- bermuda/factory.py:154  params: self, args, kwargs, <globals> -/
def f85 : Fn := ⟨"bermuda.factory:<lambda@154:4>", [0, 1, 2, 3], [],
  (.seq (.seq (.load 4 1 .dyn) (.load 5 2 .dyn)) (.seq (.call 6 290 [0, 4, 5]) (.ret 6))),
  (.lv (.sh 0))⟩

/-- bermuda/factory.py:154  params: self, args, kwargs, <globals> -/
def f86 : Fn := ⟨"bermuda.factory:<lambda@154:4>@Triangle.plot_atas", [0, 1, 2, 3], [],
  (.seq (.seq (.load 4 1 .dyn) (.load 5 2 .dyn)) (.seq (.call 6 290 [0, 4, 5]) (.ret 6))),
  (.lv (.sh 0))⟩

/-- bermuda/factory.py:157  params: self, args, kwargs, <globals> -/
def f87 : Fn := ⟨"bermuda.factory:<lambda@157:4>", [0, 1, 2, 3], [],
  (.seq (.seq (.load 4 1 .dyn) (.load 5 2 .dyn)) (.seq (.call 6 295 [0, 4, 5]) (.ret 6))),
  (.lv (.sh 0))⟩

/-- bermuda/factory.py:157  params: self, args, kwargs, <globals> -/
def f88 : Fn := ⟨"bermuda.factory:<lambda@157:4>@Triangle.plot_growth_curve", [0, 1, 2, 3], [],
  (.seq (.seq (.load 4 1 .dyn) (.load 5 2 .dyn)) (.seq (.call 6 295 [0, 4, 5]) (.ret 6))),
  (.lv (.sh 0))⟩

/-- bermuda/factory.py:160  params: self, args, kwargs, <globals> -/
def f89 : Fn := ⟨"bermuda.factory:<lambda@160:4>", [0, 1, 2, 3], [],
  (.seq (.seq (.load 4 1 .dyn) (.load 5 2 .dyn)) (.seq (.call 6 299 [0, 4, 5]) (.ret 6))),
  (.lv (.sh 0))⟩

/-- bermuda/factory.py:160  params: self, args, kwargs, <globals> -/
def f90 : Fn := ⟨"bermuda.factory:<lambda@160:4>@Triangle.plot_mountain", [0, 1, 2, 3], [],
  (.seq (.seq (.load 4 1 .dyn) (.load 5 2 .dyn)) (.seq (.call 6 299 [0, 4, 5]) (.ret 6))),
  (.lv (.sh 0))⟩

/-- bermuda/factory.py:163  params: self, args, kwargs, <globals> -/
def f91 : Fn := ⟨"bermuda.factory:<lambda@163:4>", [0, 1, 2, 3], [],
  (.seq (.seq (.load 4 1 .dyn) (.load 5 2 .dyn)) (.seq (.call 6 291 [0, 4, 5]) (.ret 6))),
  (.lv (.sh 0))⟩

/-- bermuda/factory.py:163  params: self, args, kwargs, <globals> -/
def f92 : Fn := ⟨"bermuda.factory:<lambda@163:4>@Triangle.plot_ballistic", [0, 1, 2, 3], [],
  (.seq (.seq (.load 4 1 .dyn) (.load 5 2 .dyn)) (.seq (.call 6 291 [0, 4, 5]) (.ret 6))),
  (.lv (.sh 0))⟩

/-- bermuda/factory.py:166  params: self, args, kwargs, <globals> -/
def f93 : Fn := ⟨"bermuda.factory:<lambda@166:4>", [0, 1, 2, 3], [],
  (.seq (.seq (.load 4 1 .dyn) (.load 5 2 .dyn)) (.seq (.call 6 292 [0, 4, 5]) (.ret 6))),
  (.lv (.sh 0))⟩

/-- bermuda/factory.py:166  params: self, args, kwargs, <globals> -/
def f94 : Fn := ⟨"bermuda.factory:<lambda@166:4>@Triangle.plot_broom", [0, 1, 2, 3], [],
  (.seq (.seq (.load 4 1 .dyn) (.load 5 2 .dyn)) (.seq (.call 6 292 [0, 4, 5]) (.ret 6))),
  (.lv (.sh 0))⟩

/-- bermuda/factory.py:169  params: self, args, kwargs, <globals> -/
def f95 : Fn := ⟨"bermuda.factory:<lambda@169:4>", [0, 1, 2, 3], [],
  (.seq (.seq (.load 4 1 .dyn) (.load 5 2 .dyn)) (.seq (.call 6 294 [0, 4, 5]) (.ret 6))),
  (.lv (.sh 0))⟩

/-- bermuda/factory.py:169  params: self, args, kwargs, <globals> -/
def f96 : Fn := ⟨"bermuda.factory:<lambda@169:4>@Triangle.plot_drip", [0, 1, 2, 3], [],
  (.seq (.seq (.load 4 1 .dyn) (.load 5 2 .dyn)) (.seq (.call 6 294 [0, 4, 5]) (.ret 6))),
  (.lv (.sh 0))⟩

/-- bermuda/factory.py:172  params: self, args, kwargs, <globals> -/
def f97 : Fn := ⟨"bermuda.factory:<lambda@172:4>", [0, 1, 2, 3], [],
  (.seq (.seq (.load 4 1 .dyn) (.load 5 2 .dyn)) (.seq (.call 6 298 [0, 4, 5]) (.ret 6))),
  (.lv (.sh 0))⟩

/-- bermuda/factory.py:172  params: self, args, kwargs, <globals> -/
def f98 : Fn := ⟨"bermuda.factory:<lambda@172:4>@Triangle.plot_hose", [0, 1, 2, 3], [],
  (.seq (.seq (.load 4 1 .dyn) (.load 5 2 .dyn)) (.seq (.call 6 298 [0, 4, 5]) (.ret 6))),
  (.lv (.sh 0))⟩

/-- bermuda/factory.py:175  params: self, args, kwargs, <globals> -/
def f99 : Fn := ⟨"bermuda.factory:<lambda@175:4>", [0, 1, 2, 3], [],
  (.seq (.seq (.load 4 1 .dyn) (.load 5 2 .dyn)) (.seq (.call 6 301 [0, 4, 5]) (.ret 6))),
  (.lv (.sh 0))⟩

/-- bermuda/factory.py:175  params: self, args, kwargs, <globals> -/
def f100 : Fn := ⟨"bermuda.factory:<lambda@175:4>@Triangle.plot_sunset", [0, 1, 2, 3], [],
  (.seq (.seq (.load 4 1 .dyn) (.load 5 2 .dyn)) (.seq (.call 6 301 [0, 4, 5]) (.ret 6))),
  (.lv (.sh 0))⟩

/-- bermuda/factory.py:178  params: self, args, kwargs, <globals> -/
def f101 : Fn := ⟨"bermuda.factory:<lambda@178:4>", [0, 1, 2, 3], [],
  (.seq (.seq (.load 4 1 .dyn) (.load 5 2 .dyn)) (.seq (.call 6 297 [0, 4, 5]) (.ret 6))),
  (.lv (.sh 0))⟩

/-- bermuda/factory.py:178  params: self, args, kwargs, <globals> -/
def f102 : Fn := ⟨"bermuda.factory:<lambda@178:4>@Triangle.plot_histogram", [0, 1, 2, 3], [],
  (.seq (.seq (.load 4 1 .dyn) (.load 5 2 .dyn)) (.seq (.call 6 297 [0, 4, 5]) (.ret 6))),
  (.lv (.sh 0))⟩

/-- bermuda/factory.py:58  params: self, args, kwargs, <globals> -/
def f103 : Fn := ⟨"bermuda.factory:<lambda@58:4>", [0, 1, 2, 3], [],
  (.seq (.seq (.load 4 1 .dyn) (.load 5 2 .dyn)) (.seq (.call 6 363 [0, 4, 5]) (.ret 6))),
  (.lv (.sh 2))⟩

/-- bermuda/factory.py:58  params: self, args, kwargs, <globals> -/
def f104 : Fn := ⟨"bermuda.factory:<lambda@58:4>@Triangle.aggregate", [0, 1, 2, 3], [],
  (.seq (.seq (.load 4 1 .dyn) (.load 5 2 .dyn)) (.seq (.call 6 363 [0, 4, 5]) (.ret 6))),
  (.lv (.sh 2))⟩

/-- bermuda/factory.py:61  params: self, args, kwargs, <globals> -/
def f105 : Fn := ⟨"bermuda.factory:<lambda@61:4>", [0, 1, 2, 3], [],
  (.seq (.seq (.load 4 1 .dyn) (.load 5 2 .dyn)) (.seq (.call 6 457 [0, 4, 5]) (.ret 6))),
  (.lv (.sh 2))⟩

/-- bermuda/factory.py:61  params: self, args, kwargs, <globals> -/
def f106 : Fn := ⟨"bermuda.factory:<lambda@61:4>@Triangle.summarize", [0, 1, 2, 3], [],
  (.seq (.seq (.load 4 1 .dyn) (.load 5 2 .dyn)) (.seq (.call 6 457 [0, 4, 5]) (.ret 6))),
  (.lv (.sh 2))⟩

/-- bermuda/factory.py:64  params: self, triangles, kwargs, <globals> -/
def f107 : Fn := ⟨"bermuda.factory:<lambda@64:4>", [0, 1, 2, 3], [],
  (.seq (.seq (.alloc 4 (.sh 0) (.lit [("", 0)])) (.merge 4 1)) (.seq (.load 5 2 .dyn) (.seq (.call 6 453 [4, 5]) (.ret 6)))),
  (.lv (.sh 2))⟩

/-- bermuda/factory.py:64  params: self, triangles, kwargs, <globals> -/
def f108 : Fn := ⟨"bermuda.factory:<lambda@64:4>@Triangle.blend", [0, 1, 2, 3], [],
  (.seq (.seq (.alloc 4 (.sh 0) (.lit [("", 0)])) (.merge 4 1)) (.seq (.load 5 2 .dyn) (.seq (.call 6 453 [4, 5]) (.ret 6)))),
  (.lv (.sh 2))⟩

/-- bermuda/factory.py:67  params: self, args, kwargs, <globals> -/
def f109 : Fn := ⟨"bermuda.factory:<lambda@67:4>", [0, 1, 2, 3], [],
  (.seq (.seq (.load 4 1 .dyn) (.load 5 2 .dyn)) (.seq (.call 6 456 [0, 4, 5]) (.ret 6))),
  (.lv (.sh 0))⟩

/-- bermuda/factory.py:67  params: self, args, kwargs, <globals> -/
def f110 : Fn := ⟨"bermuda.factory:<lambda@67:4>@Triangle.split", [0, 1, 2, 3], [],
  (.seq (.seq (.load 4 1 .dyn) (.load 5 2 .dyn)) (.seq (.call 6 456 [0, 4, 5]) (.ret 6))),
  (.lv (.sh 0))⟩

/-- bermuda/factory.py:70  params: self, args, kwargs, <globals> -/
def f111 : Fn := ⟨"bermuda.factory:<lambda@70:4>", [0, 1, 2, 3], [],
  (.seq (.seq (.load 4 1 .dyn) (.load 5 2 .dyn)) (.seq (.call 6 412 [0, 4, 5]) (.ret 6))),
  (.lv (.sh 2))⟩

/-- bermuda/factory.py:70  params: self, args, kwargs, <globals> -/
def f112 : Fn := ⟨"bermuda.factory:<lambda@70:4>@Triangle.merge", [0, 1, 2, 3], [],
  (.seq (.seq (.load 4 1 .dyn) (.load 5 2 .dyn)) (.seq (.call 6 412 [0, 4, 5]) (.ret 6))),
  (.lv (.sh 2))⟩

/-- bermuda/factory.py:73  params: self, args, kwargs, <globals> -/
def f113 : Fn := ⟨"bermuda.factory:<lambda@73:4>", [0, 1, 2, 3], [],
  (.seq (.seq (.load 4 1 .dyn) (.load 5 2 .dyn)) (.seq (.call 6 413 [0, 4, 5]) (.ret 6))),
  (.lv (.sh 2))⟩

/-- bermuda/factory.py:73  params: self, args, kwargs, <globals> -/
def f114 : Fn := ⟨"bermuda.factory:<lambda@73:4>@Triangle.period_merge", [0, 1, 2, 3], [],
  (.seq (.seq (.load 4 1 .dyn) (.load 5 2 .dyn)) (.seq (.call 6 413 [0, 4, 5]) (.ret 6))),
  (.lv (.sh 2))⟩

/-- bermuda/factory.py:76  params: self, triangles, <globals> -/
def f115 : Fn := ⟨"bermuda.factory:<lambda@76:4>", [0, 1, 2], [],
  (.seq (.seq (.alloc 3 (.sh 0) (.lit [("", 0)])) (.merge 3 1)) (.seq (.call 4 410 [3]) (.ret 4))),
  (.lv (.sh 2))⟩

/-- bermuda/factory.py:76  params: self, triangles, <globals> -/
def f116 : Fn := ⟨"bermuda.factory:<lambda@76:4>@Triangle.coalesce", [0, 1, 2], [],
  (.seq (.seq (.alloc 3 (.sh 0) (.lit [("", 0)])) (.merge 3 1)) (.seq (.call 4 410 [3]) (.ret 4))),
  (.lv (.sh 2))⟩

/-- bermuda/factory.py:78  params: self, <globals> -/
def f117 : Fn := ⟨"bermuda.factory:<lambda@78:48>", [0, 1], [],
  (.seq (.ite (.call 2 373 [0]) (.bind 2 0)) (.ret 2)),
  .any⟩

/-- bermuda/factory.py:78  params: self, <globals> -/
def f118 : Fn := ⟨"bermuda.factory:<lambda@78:48>@Triangle.to_incremental", [0, 1], [],
  (.seq (.ite (.call 2 373 [0]) (.bind 2 0)) (.ret 2)),
  .any⟩

/-- bermuda/factory.py:79  params: self, <globals> -/
def f119 : Fn := ⟨"bermuda.factory:<lambda@79:46>", [0, 1], [],
  (.seq (.ite (.call 2 372 [0]) (.bind 2 0)) (.ret 2)),
  .any⟩

/-- bermuda/factory.py:79  params: self, <globals> -/
def f120 : Fn := ⟨"bermuda.factory:<lambda@79:46>@Triangle.to_cumulative", [0, 1], [],
  (.seq (.ite (.call 2 372 [0]) (.bind 2 0)) (.ret 2)),
  .any⟩

/-- bermuda/factory.py:81  params: self, args, kwargs, <globals> -/
def f121 : Fn := ⟨"bermuda.factory:<lambda@81:4>", [0, 1, 2, 3], [],
  (.seq (.seq (.load 4 1 .dyn) (.load 5 2 .dyn)) (.seq (.call 6 401 [0, 4, 5]) (.ret 6))),
  (.lv (.sh 2))⟩

/-- bermuda/factory.py:81  params: self, args, kwargs, <globals> -/
def f122 : Fn := ⟨"bermuda.factory:<lambda@81:4>@Triangle.add_statics", [0, 1, 2, 3], [],
  (.seq (.seq (.load 4 1 .dyn) (.load 5 2 .dyn)) (.seq (.call 6 401 [0, 4, 5]) (.ret 6))),
  (.lv (.sh 2))⟩

/-- bermuda/factory.py:84  params: self, args, kwargs, <globals> -/
def f123 : Fn := ⟨"bermuda.factory:<lambda@84:4>", [0, 1, 2, 3], [],
  (.seq (.seq (.load 4 1 .dyn) (.load 5 2 .dyn)) (.seq (.call 6 399 [0, 4, 5]) (.ret 6))),
  (.lv (.sh 2))⟩

/-- bermuda/factory.py:84  params: self, args, kwargs, <globals> -/
def f124 : Fn := ⟨"bermuda.factory:<lambda@84:4>@Triangle.make_right_triangle", [0, 1, 2, 3], [],
  (.seq (.seq (.load 4 1 .dyn) (.load 5 2 .dyn)) (.seq (.call 6 399 [0, 4, 5]) (.ret 6))),
  (.lv (.sh 2))⟩

/-- bermuda/factory.py:87  params: self, args, kwargs, <globals> -/
def f125 : Fn := ⟨"bermuda.factory:<lambda@87:4>", [0, 1, 2, 3], [],
  (.seq (.seq (.load 4 1 .dyn) (.load 5 2 .dyn)) (.seq (.call 6 398 [0, 4, 5]) (.ret 6))),
  (.lv (.sh 2))⟩

/-- bermuda/factory.py:87  params: self, args, kwargs, <globals> -/
def f126 : Fn := ⟨"bermuda.factory:<lambda@87:4>@Triangle.make_right_diagonal", [0, 1, 2, 3], [],
  (.seq (.seq (.load 4 1 .dyn) (.load 5 2 .dyn)) (.seq (.call 6 398 [0, 4, 5]) (.ret 6))),
  (.lv (.sh 2))⟩

/-- bermuda/factory.py:89  params: self, args, kwargs, <globals> -/
def f127 : Fn := ⟨"bermuda.factory:<lambda@89:28>", [0, 1, 2, 3], [],
  (.seq (.seq (.load 4 1 .dyn) (.load 5 2 .dyn)) (.seq (.ite (.call 6 460 [0, 4, 5]) (.bind 6 0)) (.ret 6))),
  .any⟩

/-- bermuda/factory.py:89  params: self, args, kwargs, <globals> -/
def f128 : Fn := ⟨"bermuda.factory:<lambda@89:28>@Triangle.thin", [0, 1, 2, 3], [],
  (.seq (.seq (.load 4 1 .dyn) (.load 5 2 .dyn)) (.seq (.ite (.call 6 460 [0, 4, 5]) (.bind 6 0)) (.ret 6))),
  .any⟩

/-- bermuda/factory.py:93  params: self, args, kwargs, <globals> -/
def f129 : Fn := ⟨"bermuda.factory:<lambda@93:4>", [0, 1, 2, 3], [],
  (.seq (.seq (.load 4 1 .dyn) (.load 5 2 .dyn)) (.seq (.call 6 139 [0, 4, 5]) (.ret 6))),
  (.lv (.sh 0))⟩

/-- bermuda/factory.py:93  params: self, args, kwargs, <globals> -/
def f130 : Fn := ⟨"bermuda.factory:<lambda@93:4>@Triangle.to_array_data_frame", [0, 1, 2, 3], [],
  (.seq (.seq (.load 4 1 .dyn) (.load 5 2 .dyn)) (.seq (.call 6 139 [0, 4, 5]) (.ret 6))),
  (.lv (.sh 0))⟩

/-- bermuda/factory.py:96  params: self, args, kwargs, <globals> -/
def f131 : Fn := ⟨"bermuda.factory:<lambda@96:4>", [0, 1, 2, 3], [],
  (.seq (.seq (.load 4 1 .dyn) (.load 5 2 .dyn)) (.seq (.call 6 170 [0, 4, 5]) (.ret 6))),
  .scalar⟩

/-- bermuda/factory.py:96  params: self, args, kwargs, <globals> -/
def f132 : Fn := ⟨"bermuda.factory:<lambda@96:4>@Triangle.to_binary", [0, 1, 2, 3], [],
  (.seq (.seq (.load 4 1 .dyn) (.load 5 2 .dyn)) (.seq (.call 6 170 [0, 4, 5]) (.ret 6))),
  .scalar⟩

/-- bermuda/io/array.py:34  params: df, field, period_resolution, eval_resolution, dev_lag_from_period_end, metadata, <globals> -/
def f133 : Fn := ⟨"bermuda.io.array:array_data_frame_to_triangle", [0, 1, 2, 3, 4, 5, 6], [],
  (.seq (.seq (.seq (.seq (.seq (.const 1) (.const 2)) (.seq (.const 3) (.seq (.const 4) (.const 17)))) (.seq (.seq (.alloc 17 .nums .dict) (.load 18 0 .dyn)) (.seq (.load 19 18 .dyn) (.seq (.const 18) (.load 18 19 .dyn))))) (.seq (.seq (.seq (.const 18) (.store 17 .dyn 18)) (.seq (.alloc 17 (.sh 0) .dict) (.seq (.havoc 18) (.store 17 .dyn 18)))) (.seq (.seq (.bind 0 17) (.const 17)) (.seq (.load 17 0 .dyn) (.seq (.const 17) (.alloc 17 (.sh 0) .dict)))))) (.seq (.seq (.seq (.seq (.havoc 18) (.store 17 .dyn 18)) (.seq (.const 18) (.seq (.store 0 .dyn 17) (.const 17)))) (.seq (.seq (.arith 17) (.ite (.seq (.seq (.seq (.seq (.load 17 0 .dyn) (.load 18 17 .dyn)) (.seq (.const 17) (.seq (.load 17 18 .dyn) (.const 17)))) (.seq (.seq (.arith 17) (.seq (.ite (.seq (.const 17) (.seq (.const 17) .raise)) .skip) (.const 17))) (.seq (.load 17 0 .dyn) (.seq (.load 18 17 .dyn) (.load 17 18 .dyn))))) (.seq (.seq (.seq (.const 18) (.seq (.load 18 17 .dyn) (.const 17))) (.seq (.load 17 0 .dyn) (.seq (.load 19 17 .dyn) (.load 17 19 .dyn)))) (.seq (.seq (.const 19) (.seq (.load 19 17 .dyn) (.call 17 57 [18, 19]))) (.seq (.const 17) (.seq (.const 17) (.bind 2 17)))))) .skip)) (.seq (.const 17) (.seq (.arith 17) (.ite (.«try» (.seq (.seq (.alloc 17 .nums .dict) (.seq (.load 18 0 .dyn) (.load 19 18 .dyn))) (.seq (.const 18) (.seq (.ite (.bind 18 19) (.alloc 18 (.sh 0) (.union [19]))) (.loop [(.lv (.sh 0)), .scalar, .scalar, .scalar, .scalar, .any, .any, .scalar, .scalar, .scalar, .scalar, .scalar, .scalar, .scalar, .scalar, .scalar, .any, (.lv .nums), .any, .any] (.seq (.seq (.load 19 18 .dyn) (.bind 16 19)) (.seq (.const 19) (.store 17 .dyn 19))))))) (.seq (.seq (.const 17) (.const 17)) (.seq (.const 17) (.bind 3 2)))) .skip))))) (.seq (.seq (.seq (.const 17) (.arith 17)) (.seq (.ite (.seq (.seq (.alloc 17 (.sh 0) (.lit [])) (.call 18 45 [])) (.seq (.merge 17 18) (.bind 5 17))) .skip) (.seq (.alloc 17 (.sh 2) .dict) (.bind 15 17)))) (.seq (.seq (.alloc 17 (.sh 0) .dict) (.seq (.havoc 18) (.store 17 .dyn 18))) (.seq (.loop [(.lv (.sh 0)), .scalar, .scalar, .scalar, .scalar, .any, .any, (.lv .num), (.lv .num), .any, .any, (.lv .num), .any, .any, .any, (.lv (.sh 2)), .any, (.lv (.sh 0)), .any, .any, (.lv (.sh 0)), (.lv (.sh 0)), (.lv (.sh 0)), (.lv (.sh 0)), (.lv (.sh 1)), (.lv (.sh 0)), (.lv (.sh 0))] (.block (.seq (.seq (.seq (.seq (.load 18 17 .dyn) (.load 19 18 .dyn)) (.seq (.bind 14 19) (.seq (.load 19 18 .dyn) (.bind 13 19)))) (.seq (.seq (.const 18) (.seq (.load 18 13 .dyn) (.bind 12 18))) (.seq (.const 18) (.seq (.load 18 13 .dyn) (.call 19 56 [18, 2]))))) (.seq (.seq (.seq (.const 18) (.const 18)) (.seq (.arith 18) (.seq (.bind 11 18) (.const 18)))) (.seq (.seq (.bind 7 18) (.seq (.load 18 0 .dyn) (.load 19 18 .dyn))) (.seq (.const 18) (.seq (.ite (.bind 18 19) (.alloc 18 (.sh 0) (.union [19]))) (.loop [(.lv (.sh 0)), .scalar, .scalar, .scalar, .scalar, .any, .any, (.lv .num), (.lv .num), .any, .any, (.lv .num), .any, .any, .any, (.lv (.sh 2)), .any, (.lv (.sh 0)), .any, .any, (.lv (.sh 0)), (.lv (.sh 0)), (.lv (.sh 0)), (.lv (.sh 0)), (.lv (.sh 1)), (.lv (.sh 0)), (.lv (.sh 0))] (.block (.seq (.seq (.seq (.seq (.load 19 18 .dyn) (.bind 10 19)) (.seq (.const 19) (.arith 19))) (.seq (.seq (.ite (.seq (.const 19) (.bind 7 19)) .skip) (.load 19 13 .dyn)) (.seq (.bind 9 19) (.const 19)))) (.seq (.seq (.seq (.arith 19) (.ite (.bind 20 4) (.bind 20 19))) (.seq (.ite (.seq (.call 19 56 [11, 7]) (.bind 8 19)) (.seq (.seq (.call 19 56 [12, 7]) (.const 19)) (.seq (.const 19) (.seq (.arith 19) (.bind 8 19))))) (.const 19))) (.seq (.seq (.const 19) (.ite (.seq (.seq (.seq (.seq (.seq (.alloc 19 (.sh 0) .dict) (.load 20 13 .dyn)) (.seq (.store 19 .dyn 20) (.const 20))) (.seq (.seq (.load 20 12 .dyn) (.load 21 20 .dyn)) (.seq (.load 20 12 .dyn) (.seq (.load 21 20 .dyn) (.load 20 12 .dyn))))) (.seq (.seq (.seq (.load 21 20 .dyn) (.const 20)) (.seq (.load 21 11 .dyn) (.seq (.load 22 21 .dyn) (.load 21 11 .dyn)))) (.seq (.seq (.load 22 21 .dyn) (.load 21 11 .dyn)) (.seq (.load 22 21 .dyn) (.seq (.const 21) (.load 22 8 .dyn)))))) (.seq (.seq (.seq (.seq (.load 23 22 .dyn) (.load 22 8 .dyn)) (.seq (.load 23 22 .dyn) (.seq (.load 22 8 .dyn) (.load 23 22 .dyn)))) (.seq (.seq (.const 22) (.const 23)) (.seq (.arith 23) (.seq (.ite (.bind 23 19) (.seq (.alloc 24 (.sh 0) .dict) (.bind 23 24))) (.const 24))))) (.seq (.seq (.seq (.arith 24) (.ite (.bind 24 5) (.seq (.seq (.alloc 25 (.sh 0) (.lit [])) (.call 26 45 [])) (.seq (.merge 25 26) (.bind 24 25))))) (.seq (.call 25 17 [12, 11, 8, 19, 5]) (.seq (.alloc 19 (.sh 0) (.lit [("", 20)])) (.alloc 20 (.sh 0) (.lit [("", 21)]))))) (.seq (.seq (.alloc 21 (.sh 0) (.lit [("", 22)])) (.alloc 22 (.sh 0) (.lit [("", 24)]))) (.seq (.alloc 24 (.sh 1) (.lit [("", 19), ("", 20), ("", 21), ("", 23), ("", 22)])) (.seq (.store 15 .dyn 24) (.const 19))))))) .skip)) (.seq (.const 19) (.seq (.arith 19) (.ite (.aug 7 3) .skip))))))))))))))) (.seq (.call 17 307 [15]) (.ret 17))))))),
  (.lv (.sh 2))⟩

def chunk0 : List Fn := [f0, f1, f2, f3, f4, f5, f6, f7, f8, f9, f10, f11, f12, f13, f14, f15, f16, f17, f18, f19, f20, f21, f22, f23, f24, f25, f26, f27, f28, f29, f30, f31, f32, f33, f34, f35, f36, f37, f38, f39, f40, f41, f42, f43, f44, f45, f46, f47, f48, f49, f50, f51, f52, f53, f54, f55, f56, f57, f58, f59, f60, f61, f62, f63, f64, f65, f66, f67, f68, f69, f70, f71, f72, f73, f74, f75, f76, f77, f78, f79, f80, f81, f82, f83, f84, f85, f86, f87, f88, f89, f90, f91, f92, f93, f94, f95, f96, f97, f98, f99, f100, f101, f102, f103, f104, f105, f106, f107, f108, f109, f110, f111, f112, f113, f114, f115, f116, f117, f118, f119, f120, f121, f122, f123, f124, f125, f126, f127, f128, f129, f130, f131, f132, f133]

/-- every function of this chunk respects the discipline (re-proved against today's source) -/
theorem chunk0_disciplined : chunk0.all (writesOnlyFresh sums) = true :=
  disciplined_of_fast (by decide +kernel)

end Bermuda.Generated.HeapIR
