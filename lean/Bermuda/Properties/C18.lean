/-
C18 — unit-changing utilities conserve amounts (currency, disaggregation, policy year, premium).
Only property theorems live here (helper lemmas: `Lemmas/Units*.lean`; model: `Model/Units.lean`;
executable predicates run on the implementation's output: `Spec/C18.lean`). A theorem whose proof is one
lemma name states that lemma under the name DESIGN.md and MANIFEST.json use for the property.
-/
import Bermuda.Lemmas.Units
import Bermuda.Lemmas.UnitsPremium
import Bermuda.Lemmas.UnitsPolicy
import Bermuda.Lemmas.UnitsDisagg
import Bermuda.Lemmas.UnitsTiling
import Bermuda.Lemmas.UnitsAggregate
import Bermuda.Lemmas.UnitsRoundtrip
import Bermuda.Lemmas.UnitsExample
import Bermuda.Lemmas.UnitsCovered
import Bermuda.Lemmas.UnitsCurrency
import Bermuda.Spec.C18
namespace Bermuda.Properties.C18
open Bermuda Bermuda.Units Bermuda.Spec.C18

/-! ### 1. convert_currency -/

/-- the code's regenerated `CURRENCY_FIELDS` table is exactly the list of premium and loss amounts
the Spec predicate uses (a table edit breaks this proof) -/
theorem currencyFields_pinned : Generated.Currency.currencyFields = Spec.C18.moneyFields := by decide

/-- **currency_spec.** When `convert_currency` succeeds there is a bijection between input and
output cells (`tin` is the input, `tout` the output, each up to order) such that every pair is
`Converted`: a cell already in the target currency is untouched, any other cell is
`convertCell c rate target` with `rate` the table entry of the cell's own currency
(`currency_cell_spec` below says what that is, field by field). -/
theorem currency_spec {t out : List Cell} {target : String} {rates : List (String × Num)}
    (h : convertCurrency t target rates = .ok out) :
    ∃ tin tout, tin.Perm t ∧ tout.Perm out ∧ Forall2 (Converted target rates) tin tout := by
  obtain ⟨parts, hF, h⟩ := convertCurrency_ok h
  exact ⟨_, _, Triangle.slices_flatMap_perm t, (Triangle.ofCells_perm h).symm, hF⟩

/-- a converted cell, field by field: class and dates unchanged, metadata equal except
`currency = target`, the same keys in the same order, exactly the currency fields multiplied by the
rate (`mulNum_value`: same shape, every number times the rate), every other field identical -/
theorem currency_cell_spec {c o : Cell} {rate : Num} {target : String}
    (h : convertCell c rate target = .ok o) :
    o.kind = c.kind ∧ o.ps = c.ps ∧ o.pe = c.pe ∧ o.ev = c.ev ∧ o.prev = c.prev ∧
    o.md = { c.md with currency := some target } ∧
    Forall2 (fun kv kv' => kv'.1 = kv.1 ∧
      (if Generated.Currency.currencyFields.contains kv.1 then Val.mulNum kv.2 rate = .ok kv'.2
       else kv'.2 = kv.2)) c.values o.values :=
  convertCell_spec h

/-- `v * rate` numerically: the value is not `None`, the shape is kept, every number is multiplied -/
theorem mulNum_value {v v' : Val} {r : Num} (h : Val.mulNum v r = .ok v') :
    v ≠ .none ∧ v'.shape = v.shape ∧
    Spec.C18.vdata v' = (Spec.C18.vdata v).map (· * r.toRat) :=
  mulNum_data h

/-- the cell count is unchanged -/
theorem currency_count {t out : List Cell} {target : String} {rates : List (String × Num)}
    (h : convertCurrency t target rates = .ok out) : out.length = t.length := by
  obtain ⟨tin, tout, h1, h2, h3⟩ := currency_spec h
  rw [← h2.length_eq, ← h3.length_eq, h1.length_eq]

/-- every cell of the result is in the target currency -/
theorem currency_sets_target {t out : List Cell} {target : String} {rates : List (String × Num)}
    (h : convertCurrency t target rates = .ok out) : ∀ o ∈ out, o.md.currency = some target := by
  obtain ⟨tin, tout, h1, h2, h3⟩ := currency_spec h
  intro o ho
  obtain ⟨c, _, hco⟩ := h3.mem_right (h2.mem_iff.mpr ho)
  rcases hco with ⟨hc, rfl⟩ | ⟨cur, rate, _, _, _, hconv⟩
  · exact hc
  · rw [(convertCell_spec hconv).2.2.2.2.2.1]

/-- refusal 1: a cell without currency anywhere in the triangle -/
theorem currency_refuses_missing_currency {t : List Cell} {target : String}
    {rates : List (String × Num)} {c : Cell} (hc : c ∈ t) (hn : c.md.currency = none) :
    ∃ e, convertCurrency t target rates = .error e := by
  obtain ⟨sl, hsl, h⟩ := convertSlice_refuses (target := target) (rates := rates) hc (.inl hn)
  obtain ⟨e, _, he⟩ := convertCurrency_error hsl h
  exact ⟨e, he⟩

/-- refusal 2: a cell in a foreign currency for which the table has no rate -/
theorem currency_refuses_missing_rate {t : List Cell} {target cur : String}
    {rates : List (String × Num)} {c : Cell} (hc : c ∈ t) (hcur : c.md.currency = some cur)
    (hne : cur ≠ target) (hr : rates.find? (·.1 == cur) = none) :
    ∃ e, convertCurrency t target rates = .error e := by
  obtain ⟨sl, hsl, h⟩ := convertSlice_refuses hc (.inr ⟨cur, hcur, hne, hr⟩)
  obtain ⟨e, _, he⟩ := convertCurrency_error hsl h
  exact ⟨e, he⟩

/-- **currency_refusal_class.** When some slice has no currency, or a foreign currency without a
rate, and no currency-field value is `None`, the refusal is a `ValueError` (a `None` in a currency
field of an earlier slice would surface first as the `TypeError` of `None * rate`). -/
theorem currency_refusal_class {t : List Cell} {target : String} {rates : List (String × Num)}
    (hnone : ∀ c ∈ t, ∀ kv ∈ c.values, Generated.Currency.currencyFields.contains kv.1 = true → kv.2 ≠ .none)
    {c : Cell} (hc : c ∈ t)
    (hbad : c.md.currency = none ∨ ∃ cur, c.md.currency = some cur ∧ cur ≠ target ∧
      rates.find? (·.1 == cur) = none) :
    convertCurrency t target rates = .error .valueError := by
  obtain ⟨sl, hsl, hsle⟩ := convertSlice_refuses hc hbad
  obtain ⟨e, he, hce⟩ := convertCurrency_error hsl hsle
  obtain ⟨x, hx, hxe⟩ := mapM_error_first he
  rcases convertSlice_error hxe with rfl | ⟨_, c', hc', kv, hkv, hcf, hnn⟩
  · exact hce
  · exact absurd hnn (hnone c' (mem_slices_md hx hc').2 kv hkv hcf)

/-- **currency_spec_bridge.** the executable predicate holds on the model's own output, for value
dicts with distinct keys and cells that do not collide after conversion (two cells landing on one
position — same class, coordinates and metadata up to currency — is the duplicate the library
itself warns about; the greedy matching of `matchAll` is only complete without them) -/
theorem currency_spec_bridge {t out : List Cell} {target : String} {rates : List (String × Num)}
    (hkn : ∀ c ∈ t, (c.values.map (·.1)).Nodup) (hpos : (t.map (posAfter target)).Nodup)
    (h : convertCurrency t target rates = .ok out) :
    currencySpec moneyFields target (rates.map fun p => (p.1, p.2.toRat)) t out = true := by
  unfold currencySpec
  simp only [Bool.and_eq_true, Bool.not_eq_eq_eq_not, Bool.not_true, beq_iff_eq, List.all_eq_true]
  refine ⟨⟨⟨currencyMustRefuse_of_ok h, currency_count h⟩, fun o ho => currency_sets_target h o ho⟩, ?_⟩
  obtain ⟨tin, tout, h1, h2, h3⟩ := currency_spec h
  rw [← currencyFields_pinned]
  -- `Metadata` has no decidable equality
  have := Classical.decEq (CellKind × Metadata × Date × Date × Date × Option Date)
  exact matchAll_of_nodup_keys _ (posAfter target) posOf (fun c o hr => convRel_pos hr) h1 h2
    (h3.imp fun c o hc hco => convRel_of_converted (hkn c (h1.mem_iff.mp hc)) hco) hpos

/-- **currency_spec_bridge_sorted.** The executable predicate holds on the model's own output for every
sorted triangle (`Triangle(...)` order) with canonical metadata, pairwise distinct cell coordinates BEFORE the
conversion and distinct-key value dicts — cells of different currency slices MAY land on one position after
the conversion (twin slices; `hpos` of `currency_spec_bridge` is not needed): the greedy `matchAll` still
succeeds because the stable sort keeps colliding cells in their input order. -/
theorem currency_spec_bridge_sorted {t out : List Cell} {target : String} {rates : List (String × Num)}
    (hkn : ∀ c ∈ t, (c.values.map (·.1)).Nodup) (hs : t.Pairwise (fun a b => Cell.le a b = true))
    (hc : ∀ c ∈ t, c.md.Canon) (hn : (t.map Cell.coord).Nodup)
    (h : convertCurrency t target rates = .ok out) :
    currencySpec moneyFields target (rates.map fun p => (p.1, p.2.toRat)) t out = true := by
  unfold currencySpec
  simp only [Bool.and_eq_true, Bool.not_eq_eq_eq_not, Bool.not_true, beq_iff_eq, List.all_eq_true]
  exact ⟨⟨⟨currencyMustRefuse_of_ok h, currency_count h⟩, fun o ho => currency_sets_target h o ho⟩,
    currencyFields_pinned ▸ matchAll_convert_sorted hkn hs hc hn h⟩

/- non-vacuity (the two examples below): a one-cell EUR triangle converted to USD at 5/4 — the loss is
multiplied, the claim count is not, the currency is set; without a rate for EUR it is refused -/
def exMd (cur : String) : Metadata := { currency := some cur }
def exCell : Cell :=
  { kind := .cumulative, ps := Date.mk 2020 1 1, pe := Date.mk 2020 12 31, ev := Date.mk 2020 12 31,
    values := [("paid_loss", Val.int 100), ("open_claims", Val.int 7)], md := exMd "EUR" }

example : convertCurrency [exCell] "USD" [("EUR", .flt (5/4))] =
    .ok [{ exCell with values := [("paid_loss", .flt 125), ("open_claims", .int 7)], md := exMd "USD" }] := by
  decide +kernel

example : ∃ e, convertCurrency [exCell] "USD" [("GBP", .flt 2)] = .error e :=
  currency_refuses_missing_rate (c := exCell) (cur := "EUR") (by simp) rfl (by decide) (by decide)

open Bermuda.Units.Example in
/-- **twin slices** (the case `currency_spec_bridge` excludes by `hpos`): an EUR slice and a USD slice
that differ only in the currency land on the same position after conversion. The code keeps BOTH cells
(the result is a triangle with duplicate cells — `Triangle(...)` only warns), each converted or kept as
`currency_spec` says (which has no such hypothesis), the count is unchanged, and the executable predicate
is true on this output (an instance of `currency_spec_bridge_sorted`, which needs no `hpos`). -/
theorem currency_twin_slices :
    ¬ (twinT.map (posAfter "USD")).Nodup ∧
    convertCurrency twinT "USD" [("EUR", .flt (5/4))] = .ok twinOut ∧
    twinOut = [twinCell "USD" (.flt 125), twinCell "USD" (.int 125)] ∧
    currencySpec moneyFields "USD" [("EUR", 5/4)] twinT twinOut = true :=
  ⟨fun h => by
      simp only [twinT, List.map] at h
      exact (List.nodup_cons.mp h).1 (List.mem_singleton.mpr (by decide +kernel)),
    twin_convert, rfl, twin_spec⟩

open Bermuda.Units.Example in
/-- non-vacuity of `currency_spec_bridge_sorted` ON a twin: every hypothesis holds for `twinT` -/
example : currencySpec moneyFields "USD" [("EUR", 5/4)] twinT twinOut = true :=
  currency_spec_bridge_sorted (rates := [("EUR", .flt (5/4))]) (by decide +kernel) (by decide +kernel)
    (by decide +kernel) (by decide +kernel) twin_convert

/-! ### 2. disaggregate_experience -/

/-- **disagg_sum.** For any number `v` of a cell value and any weights whose total is not zero,
the renormalised weights (`w / Σw`, what `_disaggregate_experience_slice` computes over the
observable sub-periods) split `v` exactly: Σₖ v·(wₖ/Σw) = v. -/
theorem disagg_sum (v : Rat) {ws : List Rat} (h : ws.sum ≠ 0) :
    ((renorm ws).map (v * ·)).sum = v := by
  rw [sum_map_mul_left, renorm_sum h, mul_one]

/-- renormalised weights sum to 1 -/
theorem disagg_weights_sum_one {ws : List Rat} (h : ws.sum ≠ 0) : (renorm ws).sum = 1 :=
  renorm_sum h

/-- bridge to the model: the k-th part `_weight_cell_values` produces for a value is that value's
numbers times the k-th weight (scalars and 1-d arrays; together with `disagg_sum` every number of
every field adds up over the sub-periods) -/
theorem disagg_parts {v : Val} {ws : List Rat} {parts : List Val}
    (h : weightValue v ws = .ok parts) :
    parts.map Spec.C18.vdata = ws.map fun w => (Spec.C18.vdata v).map (· * w) :=
  (weightValue_spec h).map_eq _ _ fun _ _ hp => hp.data

example : ((renorm [1/4, 1/2]).map ((120 : Rat) * ·)).sum = 120 := disagg_sum 120 (by decide +kernel)

/-- **disagg_conserves** (model-level form of "splits every cell into sub-periods whose values add
up to the original"). Either the triangle already has the requested resolution and is returned as
is, or there is a bijection between the input cells (`tin`, the input up to order) and groups of
output cells (`parts`, whose concatenation is the output up to order) such that every group
`SubCells`-belongs to its cell: the group's periods are exactly the cell's observable sub-periods in
order (`obsSubs`: sub-period k is `[add_months(ps, k·res), add_months(ps, (k+1)·res) − 1 day]`, kept
iff it is over at the evaluation date), same slice and evaluation date, plain `Cell`s, and —
whenever the group is not empty — every selected field adds up to the original value, component
by component (`total part f i = cellField c f i`).
Hypothesis: value dicts have distinct keys (Python dicts). -/
theorem disagg_conserves {t out : List Cell} {res : Nat} {weights : Option (List Num)}
    {fields : Option (List String)} (hk : ∀ c ∈ t, (c.values.map (·.1)).Nodup)
    (h : disaggregateExperience t res weights fields = .ok out) :
    out = t ∨ ∃ tin parts, tin.Perm t ∧ out.Perm parts.flatten ∧
      Forall2 (SubCells res fun f => (fields.getD Generated.Units.defaultInterpolationFields).contains f) tin parts := by
  rcases AllOps.disaggregateExperience_ok h with h1 | ⟨_, ws, hws, hcore⟩
  · exact .inl h1
  · obtain ⟨G, hperm, hG⟩ := disaggCore_groups hk hws hcore
    refine .inr ⟨t, t.map G, .refl _, by rwa [← List.flatMap_def], .of_map fun c hc => ?_⟩
    obtain ⟨sl, hs, _, hcs⟩ := Triangle.exists_slice hc
    obtain ⟨_, _, hsub⟩ := hG sl hs
    exact (hsub c hcs).subCells

/-- **disagg_tiling** (calendar reading of `obsSubs`). For a period that starts on the first of a
month from 1970 on, sub-period `k` is `[first of month M0 + k·res, last of month M0 + (k+1)·res − 1]`
(`M0` the month index of the period start): whole `res`-month blocks, each starting the day after
the previous one ends, with strictly increasing ends — and the ones kept by the observability filter
are the first `j` of them. -/
theorem disagg_tiling {c : Cell} {res : Nat} (hr : 1 ≤ res) (hd : c.ps.d = 1)
    (h70 : 0 ≤ monthToId c.ps) (n : Nat) :
    subperiods c.ps res n = (List.range n).map (subOf (monthToId c.ps) res) ∧
    (∀ k, (subOf (monthToId c.ps) res (k + 1)).1 = (subOf (monthToId c.ps) res k).2.succ) ∧
    (∀ j k, j < k → (subOf (monthToId c.ps) res j).2 < (subOf (monthToId c.ps) res k).2) ∧
    ∃ j, j ≤ n ∧ obsSubs c res n = (List.range j).map (subOf (monthToId c.ps) res) :=
  ⟨subperiods_firstOf hd h70 res n, subOf_consecutive _ res, fun _ _ h => subOf_end_lt hr h,
   let ⟨j, h1, h2, _⟩ := obsSubs_range hr hd h70 n; ⟨j, h1, h2⟩⟩

/-- **disagg_spec_bridge.** the executable predicate (exact, `tol = 0`) holds on the model's own
output — unless the triangle is returned as is — under the decidable well-formedness `disaggWF`
(per slice: resolution `L` a multiple of `res`, periods of exactly `L` months starting on the first
of a month from 1970 on, no repeated cell, distinct-key value dicts, disjoint periods at equal
evaluation dates; the driver evaluates it on every generated case). `disaggSpec` checks, per input
cell: the output cells of its slice and evaluation date on its expected sub-periods are exactly
those sub-periods, each once (tiling, nothing missing), plain Cells with exactly the selected
fields, every selected field adding up; and nothing else is in the output. -/
theorem disagg_spec_bridge {t out : List Cell} {res : Nat} {weights : Option (List Num)}
    {fields : Option (List String)} (hwf : disaggWF res t = true)
    (h : disaggregateExperience t res weights fields = .ok out) :
    out = t ∨ disaggSpec res (fields.getD Generated.Units.defaultInterpolationFields) 0 t out = true := by
  rcases AllOps.disaggregateExperience_ok h with h1 | ⟨_, ws, hws, hcore⟩
  · exact .inl h1
  · exact .inr (disaggCore_spec hwf hws hcore)

/-- **aggregate_disagg_partial.** Disaggregate a well-formed triangle (`disaggWF`; one period
resolution `L` in all slices) and aggregate the result back with C08's model of `aggregate`
(`periodRes = (L, "month")`, no evaluation resolution, a month-end
`periodOrigin` on whose `L`-grid all period starts lie — the harness passes `first ps − 1 day`).
Unless the triangle was returned as is:
* every aggregated cell sits exactly on the coordinates and metadata of an input cell that has an
  observable sub-period, is a CumulativeCell, and every selected field whose rule is "sum of itself"
  reads (C09's `at`, in-range index) the input cell's value;
* every input cell with an observable sub-period has such an aggregated cell.
This is the `at`-reading form, field by field (no assumption on the other fields); the full statement
— exactly once across slices, exact key sets, equal values, order, `aggBackSpec` — is
`aggregate_disagg` below. -/
theorem aggregate_disagg_partial {tr : Transc} {t out back : List Cell} {res : Nat}
    {weights : Option (List Num)} {fields : Option (List String)} {L : Int}
    {origin : Date} {a : AggArgs}
    (hwf : disaggWF res t = true) (hL : ∀ sl ∈ Triangle.slices t, periodResolution sl.2 = .ok L)
    (hd : disaggregateExperience t res weights fields = .ok out)
    (hov : origin.valid = true) (hoe : origin.isMonthEnd = true)
    (hgrid : ∀ c ∈ t, ∃ z : Int, monthToId c.ps = monthToId origin + z * L + 1)
    (hp : a.periodRes = some (L, "month")) (he : a.evalRes = none) (ho : a.periodOrigin = origin)
    (hagg : aggregate tr out a = .ok back) :
    out = t ∨
    ((∀ o ∈ back, ∃ c ∈ t, obsSubs c res (L / (res : Int)).toNat ≠ [] ∧
      o.ps = c.ps ∧ o.pe = c.pe ∧ o.ev = c.ev ∧ o.md = c.md ∧ o.kind = .cumulative ∧
      ∀ f i, (fields.getD Generated.Units.defaultInterpolationFields).contains f = true →
        ruleOf [] (lowerKey f) = some ⟨.sum, [f]⟩ →
        (a.prem = true ∨ f ∉ Generated.Summarize.nonLossMetrics) →
        (∀ x ∈ out, (x.getV f).inRange i = true) →
        (o.getV f).at i = (c.getV f).at i) ∧
    (∀ c ∈ t, obsSubs c res (L / (res : Int)).toNat ≠ [] →
      ∃ o ∈ back, o.md = c.md ∧ o.ps = c.ps ∧ o.pe = c.pe ∧ o.ev = c.ev)) := by
  rcases AllOps.disaggregateExperience_ok hd with h1 | ⟨_, ws, hws, hcore⟩
  · exact .inl h1
  · exact .inr (aggregate_disagg_core ⟨hwf, hL, hws, hcore, hov, hoe, hgrid,
      (rfl : standardizeResolution L "month" = .ok (L, .month)), hp, he, ho, hagg⟩)

/-- **aggregate_disagg.** Disaggregate a well-formed triangle and aggregate the result back to its own
resolution with C08's model of `aggregate`: unless the triangle was returned as is (`res` already is
its resolution), the aggregated triangle `back` IS the input restricted to the cells with an observable
first sub-period and to the selected fields, as CumulativeCells:
* `back.map Cell.coord = (t.filter (observable res)).map Cell.coord` — the same cells (metadata,
  period, evaluation date), each exactly once ACROSS slices, in the same (triangle) order;
* every cell of `back` is a CumulativeCell;
* `aggBackSpec … 0 t back = true` (the predicate the driver evaluates on the implementation's output):
  position by position the aggregated cell carries exactly the selected field names of the input cell
  and, for each of them, a non-`None` value with exactly the input value's numbers (`vdata`: an int
  comes back as the equal float, a 0-d array as a 1-element array; arrays elementwise).
Hypotheses: `t` is a triangle (`Canonical`: sorted, one cell class, valid dates) with canonical
metadata (sorted detail dicts — what `Triangle(...)`/the wire decoder produce); `disaggWF` (decidable,
evaluated by the driver on every case) with ONE period resolution `L` in all slices; the aggregation
is called with `(L, "month")`, no evaluation resolution and a month-end origin on whose `L`-grid all
period starts lie (the harness passes `first period_start − 1 day`); every selected field that occurs
in `t` is summarised as "sum of itself" (`ruleOf`; true for all of `DEFAULT_INTERPOLATION_FIELDS`, see
`aggregate_disagg_default`) and is not exempted by `summarize_premium=False`.
Proof: `Lemmas/UnitsAggregate.lean` (windows = original periods; every summed field is C09's sample-wise sum over
the group of one input cell), `SubCellsN.sum_back` in `Lemmas/UnitsTiling.lean` (such a sum of float parts of one kind
is a float of that kind with the readings of the original, hence holds its numbers),
`Lemmas/UnitsRoundtrip.lean` (exactly-once across slices, sorted order, Bool bridge). -/
theorem aggregate_disagg {tr : Transc} {t out back : List Cell} {res : Nat}
    {weights : Option (List Num)} {fields : Option (List String)} {L : Int}
    {origin : Date} {a : AggArgs}
    (hcan : Properties.C01.Canonical t) (hmd : ∀ c ∈ t, c.md.Canon)
    (hwf : disaggWF res t = true) (hL : ∀ sl ∈ Triangle.slices t, periodResolution sl.2 = .ok L)
    (hd : disaggregateExperience t res weights fields = .ok out)
    (hov : origin.valid = true) (hoe : origin.isMonthEnd = true)
    (hgrid : ∀ c ∈ t, ∃ z : Int, monthToId c.ps = monthToId origin + z * L + 1)
    (hp : a.periodRes = some (L, "month")) (he : a.evalRes = none) (ho : a.periodOrigin = origin)
    (hrule : ∀ c ∈ t, ∀ kv ∈ c.values,
      (fields.getD Generated.Units.defaultInterpolationFields).contains kv.1 = true →
      ruleOf [] (lowerKey kv.1) = some ⟨.sum, [kv.1]⟩ ∧
        (a.prem = true ∨ kv.1 ∉ Generated.Summarize.nonLossMetrics))
    (hagg : aggregate tr out a = .ok back) :
    out = t ∨
    (back.map Cell.coord = (t.filter (observable res)).map Cell.coord ∧
     (∀ o ∈ back, o.kind = .cumulative) ∧
     aggBackSpec res (fields.getD Generated.Units.defaultInterpolationFields) 0 t back = true) := by
  rcases AllOps.disaggregateExperience_ok hd with h1 | ⟨hinc, ws, hws, hcore⟩
  · exact .inl h1
  · refine .inr ?_
    have R : RoundTrip tr t out back res ws _ L L "month" origin a :=
      ⟨hwf, hL, hws, hcore, hov, hoe, hgrid, rfl, hp, he, ho, hagg⟩
    obtain ⟨hA, hB, hC⟩ := aggregate_disagg_cells R hrule
    have hD := (aggregate_disagg_core R).2
    obtain ⟨h1, h2⟩ := aggBack_of_cells hwf hL hcan.1 hmd
      (prev_none_of_triangle hcan.2.1 hcan.2.2 hinc) hA hB hC hD
    exact ⟨h1, fun o ho => by obtain ⟨_, _, _, _, _, _, _, hk, _⟩ := hA o ho; exact hk, h2⟩

theorem defaultFields_rules : ∀ f ∈ Generated.Units.defaultInterpolationFields,
    ruleOf [] (lowerKey f) = some ⟨.sum, [f]⟩ := by decide +kernel

/-- with the default fields and `summarize_premium=True` the rule hypothesis is discharged by the
regenerated tables (`DEFAULT_INTERPOLATION_FIELDS` × `SUMMARIZE_DEFAULTS`; a table edit that makes one
of the default fields a weighted average breaks `defaultFields_rules`) -/
theorem aggregate_disagg_default {tr : Transc} {t out back : List Cell} {res : Nat}
    {weights : Option (List Num)} {L : Int} {origin : Date} {a : AggArgs}
    (hcan : Properties.C01.Canonical t) (hmd : ∀ c ∈ t, c.md.Canon)
    (hwf : disaggWF res t = true) (hL : ∀ sl ∈ Triangle.slices t, periodResolution sl.2 = .ok L)
    (hd : disaggregateExperience t res weights none = .ok out)
    (hov : origin.valid = true) (hoe : origin.isMonthEnd = true)
    (hgrid : ∀ c ∈ t, ∃ z : Int, monthToId c.ps = monthToId origin + z * L + 1)
    (hp : a.periodRes = some (L, "month")) (he : a.evalRes = none) (ho : a.periodOrigin = origin)
    (hprem : a.prem = true) (hagg : aggregate tr out a = .ok back) :
    out = t ∨
    (back.map Cell.coord = (t.filter (observable res)).map Cell.coord ∧
     (∀ o ∈ back, o.kind = .cumulative) ∧
     aggBackSpec res Generated.Units.defaultInterpolationFields 0 t back = true) :=
  aggregate_disagg (fields := none) hcan hmd hwf hL hd hov hoe hgrid hp he ho
    (fun _ _ kv _ hf => ⟨defaultFields_rules kv.1 (by simpa using hf), .inl hprem⟩) hagg

/-! non-vacuity of `aggregate_disagg`: a one-year cell, half-year sub-periods with weights 1/4 and 3/4,
two fields of which one is selected. `List.mergeSort` (well-founded recursion) does not reduce in the
kernel, so every sort is first rewritten to the insertion sort (`Lemmas/UnitsExample.lean`) and the kernel evaluates
the rest. -/

open Bermuda.Units.Example

/-- non-vacuity of `aggregate_disagg`: every hypothesis holds for the one-year cell `exY` split into
half-years with weights 1/4, 3/4 and aggregated back to 12 months from 2019-12-31 -/
theorem exT_roundtrip :
    exBack.map Cell.coord = (exT.filter (observable 6)).map Cell.coord ∧
    (∀ o ∈ exBack, o.kind = .cumulative) ∧
    aggBackSpec 6 Generated.Units.defaultInterpolationFields 0 exT exBack = true := by
  have h := aggregate_disagg (tr := Transc.id) (t := exT) (out := exOut) (back := exBack) (res := 6)
    (weights := exW) (fields := none) (L := 12) (origin := ⟨2019, 12, 31⟩) (a := exArgs)
    ⟨by decide +kernel, by decide +kernel, by decide +kernel⟩ (by decide +kernel) exT_wf
    (by intro sl hsl; rw [exT_slices] at hsl; simp only [List.mem_singleton] at hsl; subst hsl; exact exT_res)
    exT_disagg (by decide +kernel) (by decide +kernel)
    (by intro c hc; simp only [exT, List.mem_singleton] at hc; subst hc; exact ⟨0, by decide +kernel⟩)
    rfl rfl rfl (by decide +kernel) exOut_agg
  rcases h with h | h
  · exact absurd h (by decide +kernel)
  · exact h

example : exT.filter (observable 6) = exT := by decide +kernel

/-- **what is NOT carried** (1): fields outside the selection are dropped — `exY` has `open_claims`,
no cell of `disaggregate_experience [exY]` (default fields) has it -/
theorem disagg_drops_unselected :
    disaggregateExperience exT 6 exW none = .ok exOut ∧
    (∀ c ∈ exT, "open_claims" ∈ c.values.keys) ∧ (∀ o ∈ exOut, "open_claims" ∉ o.values.keys) :=
  ⟨exT_disagg, by decide +kernel, by decide +kernel⟩

/-- **what is NOT carried** (2): a cell whose evaluation date lies inside its first sub-period (here
2020-03-31 for half-year sub-periods of 2020) has no observable sub-period and vanishes -/
theorem disagg_drops_unobservable :
    observable 6 exU = false ∧ disaggregateExperience [exU] 6 exW none = .ok [] :=
  ⟨by decide +kernel, exU_disagg⟩

/-! ### 3. accident_quarter_to_policy_year -/

/-- **policyYear_basis.** every cell of the result is Policy-basis -/
theorem policyYear_basis {t out : List Cell} {len : Nat} {origin : Date} {cont : Bool}
    (h : aqToPolicyYear t len origin cont = .ok out) :
    ∀ o ∈ out, o.md.riskBasis = some "Policy" := by
  obtain ⟨rs, hF, hp⟩ := aqToPolicyYear_ok h
  intro o ho
  obtain ⟨r, hr, hor⟩ := List.mem_flatten.mp (hp.mem_iff.mp ho)
  obtain ⟨sl, _, hs⟩ := hF.mem_right hr
  obtain ⟨tri, _, hs⟩ := bind_ok hs
  exact deriveMetadata_riskBasis hs o hor

/-- the share table as the code computes it: for every accident period the shares over the policy
years sum to 1 — unless the raw total is 0 (then 0; excluded by the contract "row sums positive",
`Spec.C18.policyCovered`). Hence an amount `v` of an accident period is split without loss. -/
theorem policyYear_shares_split {ps pys : List (Date × Date)} {len : Nat} {cont : Bool}
    {e : (Date × Date) × List ((Date × Date) × Rat)} (he : e ∈ aqShares ps pys len cont) (v : Rat)
    (hpos : (e.2.map (·.2)).sum ≠ 0) :
    ((e.2.map (·.2)).map (v * ·)).sum = v := by
  rw [sum_map_mul_left]
  rcases aqShares_row_sum e he with h | h
  · rw [h, mul_one]
  · exact absurd h hpos

/-- every field keeps one shape within a slice: the values of a field are all scalars (0-d arrays
count as scalars) or all arrays of one length (what `has_consistent_values_shapes` checks; without
it numpy broadcasts a scalar over an array and componentwise totals are not defined) -/
def UniformShapes (t : List Cell) : Prop :=
  ∃ fsig : Metadata → String → Option Nat, ∀ c ∈ t, ∀ kv ∈ c.values, sgIn kv.2 = fsig c.md kv.1

/-- **policyYear_conserves.** Model-level conservation: for every (Policy-basis) slice metadata
`m'`, evaluation date `d`, field `f` and component `i`, the total over the result's cells equals
the total over the input cells of the slices that map to `m'` — provided the share table satisfies
its contract (`policyCovered`: every accident period's row sums to 1) and shapes are uniform.
`total`/`cellField`/`comp` are in `Spec/C18.lean`. -/
theorem policyYear_conserves {t out : List Cell} {len : Nat} {origin : Date} {cont : Bool}
    (h : aqToPolicyYear t len origin cont = .ok out)
    (hcov : policyCovered t len origin cont = true) (hu : UniformShapes t)
    (m' : Metadata) (d : Date) (f : String) (i : Nat) :
    total (out.filter fun o => o.md == m' && o.ev == d) f i =
      total (t.filter fun c => toPolicy c.md == m' && c.ev == d) f i := by
  obtain ⟨fsig, hsig⟩ := hu
  obtain ⟨rs, hF, hp⟩ := aqToPolicyYear_ok h
  rw [total_perm (hp.filter _), List.flatten_eq_flatMap, List.filter_flatMap, total_flatMap,
    total_perm ((Triangle.slices_flatMap_perm t).symm.filter _), List.filter_flatMap, total_flatMap]
  refine hF.sum_eq _ _ ?_
  intro sl r hsl hr
  have hmd : ∀ c ∈ sl.2, c.md = sl.1 := fun c hc => (mem_slices_md hsl hc).1
  refine policyYearSlice_spec (fsig := fsig sl.1) hmd ?_ ?_ hr m' d f i
  · intro c hc kv hkv
    rw [← hmd c hc]; exact hsig c (mem_slices_md hsl hc).2 kv hkv
  · exact fun pys hpys => policyCovered_slice hcov hsl hpys

/-- **policyYear_covered_iff.** The hypothesis `policyCovered` of `policyYear_conserves`, free of the
share table: it holds iff in every slice every accident period is REACHED by one of the policy years of
`policy_years_covered` (`Units.reaches`: the policy year has a written month, and some month between its
first written month and its last written month + `policy_length_months` starts inside the accident
period; with `continuous_issuance=False` the only written month is the first). -/
theorem policyYear_covered_iff {t : List Cell} {len : Nat} (hlen : 1 ≤ len) (origin : Date) (cont : Bool) :
    policyCovered t len origin cont = true ↔
      ∀ sl ∈ Triangle.slices t, ∀ pys, policyYearsCovered sl.2 origin = .ok pys →
        ∀ q ∈ periods sl.2, ∃ py ∈ pys, reaches len cont q py :=
  policyCovered_iff_reached hlen origin cont

/-- continuous issuance: a policy year reaches every accident period that starts on the first of a
month inside it (date-wise `py.start ≤ q.start ≤ py.end`), whatever the policy length — so with
`continuous_issuance=True` an accident period can only be uncovered if NO policy year of
`policy_years_covered` contains its (first-of-month) start -/
theorem policyYear_reached_of_contains {len : Nat} {q py : Date × Date} (hq : q.1.valid = true)
    (hd : q.1.d = 1) (hle : q.1 ≤ q.2) (hv1 : py.1.valid = true) (hv2 : py.2.valid = true)
    (h1 : py.1 ≤ q.1) (h2 : q.1 ≤ py.2) : reaches len true q py :=
  reaches_of_months hq hd hle (DateOrder.monthToId_mono (month_le_of_valid hv1) h1)
    (DateOrder.monthToId_mono (month_le_of_valid hq) h2)

/-- `policyYear_conserves` with the hypothesis stated on the inputs (policy years vs accident periods) -/
theorem policyYear_conserves_reached {t out : List Cell} {len : Nat} {origin : Date} {cont : Bool}
    (h : aqToPolicyYear t len origin cont = .ok out) (hlen : 1 ≤ len)
    (hreach : ∀ sl ∈ Triangle.slices t, ∀ pys, policyYearsCovered sl.2 origin = .ok pys →
      ∀ q ∈ periods sl.2, ∃ py ∈ pys, reaches len cont q py)
    (hu : UniformShapes t) (m' : Metadata) (d : Date) (f : String) (i : Nat) :
    total (out.filter fun o => o.md == m' && o.ev == d) f i =
      total (t.filter fun c => toPolicy c.md == m' && c.ev == d) f i :=
  policyYear_conserves h ((policyYear_covered_iff hlen origin cont).mpr hreach) hu m' d f i

/-- **policyYear_covered_of_continuous.** With `continuous_issuance=True` the share-table contract
holds for EVERY policy-year origin and every policy length ≥ 1, on month-aligned accident periods
(`Units.MonthAligned`: every period starts on the first of a real month from 1971 on and ends on a real
date not before its start): the policy years of `policy_years_covered` — the
`while py_start < last_end` loop with `add_months(s, 12)`, whatever the origin's day — tile the months
from the first period start to the last period end, so every period start lies in a written month of
some policy year. (An impossible origin date makes `policy_years_covered` raise; nothing to conserve.) -/
theorem policyYear_covered_of_continuous {t : List Cell} {len : Nat} (hlen : 1 ≤ len) (origin : Date)
    (hdom : MonthAligned t) : policyCovered t len origin true = true :=
  policyCovered_of_continuous hlen origin hdom

/-- **policyYear_conserves_continuous.** Conservation with input-level hypotheses only: continuous
issuance, policy length ≥ 1, month-aligned accident periods, one shape per field within a slice. -/
theorem policyYear_conserves_continuous {t out : List Cell} {len : Nat} {origin : Date}
    (h : aqToPolicyYear t len origin true = .ok out) (hlen : 1 ≤ len) (hdom : MonthAligned t)
    (hu : UniformShapes t) (m' : Metadata) (d : Date) (f : String) (i : Nat) :
    total (out.filter fun o => o.md == m' && o.ev == d) f i =
      total (t.filter fun c => toPolicy c.md == m' && c.ev == d) f i :=
  policyYear_conserves h (policyYear_covered_of_continuous hlen origin hdom) hu m' d f i

/-- every cell of the result is a `CumulativeCell` -/
theorem policyYear_kind {t out : List Cell} {len : Nat} {origin : Date} {cont : Bool}
    (h : aqToPolicyYear t len origin cont = .ok out) : ∀ o ∈ out, o.kind = .cumulative := by
  obtain ⟨rs, hF, hp⟩ := aqToPolicyYear_ok h
  intro o ho
  obtain ⟨r, hr, hor⟩ := List.mem_flatten.mp (hp.mem_iff.mp ho)
  obtain ⟨sl, _, hslr⟩ := hF.mem_right hr
  exact policyYearSlice_kind hslr o hor

/-- **policyYear_spec_bridge.** the executable predicate (exact, `tol = 0`) holds on the model's own
output -/
theorem policyYear_spec_bridge {t out : List Cell} {len : Nat} {origin : Date} {cont : Bool}
    (h : aqToPolicyYear t len origin cont = .ok out)
    (hcov : policyCovered t len origin cont = true) (hu : UniformShapes t) :
    policyYearSpec 0 t out = true := by
  unfold policyYearSpec
  simp only [Bool.and_eq_true, List.all_eq_true, beq_iff_eq]
  refine ⟨fun o ho => ⟨policyYear_basis h o ho, policyYear_kind h o ho⟩, ?_⟩
  intro k _ f _ i _
  have hc := policyYear_conserves h hcov hu k.1 k.2 f i
  have e1 : out.filter (fun c => (toPolicy c.md, c.ev) == k) = out.filter fun o => o.md == k.1 && o.ev == k.2 := by
    apply List.filter_congr
    intro o ho
    have : toPolicy o.md = o.md := by
      have hb := policyYear_basis h o ho
      unfold toPolicy; cases hm : o.md; simp_all
    rw [this]
    cases k; rfl
  have e2 : t.filter (fun c => (toPolicy c.md, c.ev) == k) = t.filter fun c => toPolicy c.md == k.1 && c.ev == k.2 := by
    apply List.filter_congr
    intro c _
    cases k; rfl
  rw [e1, e2, hc]
  exact close_zero_self _

/-- non-vacuity: one accident quarter, calendar policy year, 12-month policies -/
def exQ1 : Cell :=
  { kind := .cumulative, ps := Date.mk 2020 1 1, pe := Date.mk 2020 3 31, ev := Date.mk 2020 3 31,
    values := [("paid_loss", Val.int 100)], md := {} }

example : policyCovered [exQ1] 12 (Date.mk 2020 1 1) true = true :=
  policyYear_covered_of_continuous (by decide) _ (by unfold MonthAligned; decide)
example : aqToPolicyYear [exQ1] 12 (Date.mk 2020 1 1) true =
    .ok [{ exQ1 with ps := Date.mk 2020 1 1, pe := Date.mk 2020 12 31, values := [("paid_loss", Val.flt 100)], md := { riskBasis := some "Policy" } }] := by
  decide +kernel
example : UniformShapes [exQ1] := ⟨fun _ _ => none, by decide⟩
example : MonthAligned [exQ1] := by unfold MonthAligned; decide

/-- a non-trivial `UniformShapes` instance: two slices, one with 3-sample arrays for `paid_loss` (and a
scalar premium on one cell only), the other with scalar `paid_loss` — one shape per field WITHIN a slice -/
def exArrCell (m : Metadata) (ev : Date) (vals : Dict Val) : Cell :=
  { kind := .cumulative, ps := Date.mk 2020 1 1, pe := Date.mk 2020 3 31, ev := ev, values := vals, md := m }
example : UniformShapes
    [exArrCell {} (Date.mk 2020 3 31) [("paid_loss", .arr false [3] [1, 2, 3])],
     exArrCell {} (Date.mk 2020 6 30) [("paid_loss", .arr true [3] [4, 5, 6]), ("earned_premium", .flt 10)],
     exArrCell { currency := some "EUR" } (Date.mk 2020 3 31) [("paid_loss", .int 7)]] :=
  ⟨fun m f => if m = {} ∧ f = "paid_loss" then some 3 else none, by decide⟩

/-! ### 4. program_earned_premium -/

/-- `output_resolution = 0` is outside the model (the code loops forever) -/
theorem premium_refuses_zero_resolution (vol : Rat) (wp ep : List Rat) (wres eres : Nat) (off : Int)
    (c : Bool) : programEarnedPremium vol wp wres ep eres 0 off c = .error .other := by
  simp [programEarnedPremium]

/-- **premium_sums.** whenever the call succeeds, the writing pattern and the earning pattern each
sum to the premium volume -/
theorem premium_sums {vol : Rat} {wp ep : List Rat} {wres eres ores : Nat} {off : Int} {c : Bool}
    {w e : List Rat} (h : programEarnedPremium vol wp wres ep eres ores off c = .ok (w, e)) :
    w.sum = vol ∧ e.sum = vol := by
  obtain ⟨hw, he, hwr, her, hor, _, rfl, rfl, rfl⟩ := programEarnedPremium_ok h
  have hmw := monthlyWriting_sum vol wp wres hw hwr
  have hme := monthlyEarning_sum ep eres c he her
  have hlen := (monthlyCombined_take_sum (monthlyWriting vol wp wres) (monthlyEarning ep eres c) 0).1
  have hmepos : 1 ≤ (monthlyEarning ep eres c).length := by
    cases hl : monthlyEarning ep eres c with
    | nil => rw [hl] at hme; simp at hme
    | cons _ _ => simp
  have hstop : 0 < (if off > 0 then off.toNat else ores) := by
    split <;> omega
  constructor
  · simp only [List.sum_cons, zero_add]
    rw [bounds_sum _ ores _ (by omega) (by omega) _ 0 _ (by omega) (.inl hstop) (by omega)]
    simpa using hmw
  · simp only [List.sum_cons, zero_add]
    rw [bounds_sum _ ores _ (by omega) (le_refl _) _ 0 _ (by omega) (.inl hstop) (by omega)]
    simp only [List.drop_zero]
    rw [monthlyCombined_sum, hmw, hme, mul_one]

/-- **premium_nonneg.** non-negative volume and patterns give non-negative output patterns -/
theorem premium_nonneg {vol : Rat} {wp ep : List Rat} {wres eres ores : Nat} {off : Int} {c : Bool}
    {w e : List Rat} (hv : 0 ≤ vol) (hwp : ∀ x ∈ wp, 0 ≤ x) (hep : ∀ x ∈ ep, 0 ≤ x)
    (h : programEarnedPremium vol wp wres ep eres ores off c = .ok (w, e)) :
    (∀ x ∈ w, 0 ≤ x) ∧ (∀ x ∈ e, 0 ≤ x) := by
  obtain ⟨hw, he, _, _, _, _, rfl, rfl, rfl⟩ := programEarnedPremium_ok h
  have hmw : NN (monthlyWriting vol wp wres) := monthlyWriting_nn hv hwp hw
  exact ⟨hmw.buckets _, (monthlyCombined_nn hmw (monthlyEarning_nn hep he)).buckets _⟩

/-- non-vacuity: the fixture of `test_program_earned_premium` -/
example : programEarnedPremium 600 [1] 1 [1, 1, 1, 1, 1, 1] 1 1 0 true =
    .ok ([0, 600, 0, 0, 0, 0, 0, 0], [0, 50, 100, 100, 100, 100, 100, 50]) := by decide +kernel

/-- **premium_earned_le_written.** at every output step the cumulative earned premium is at most
the cumulative written premium (convolution bound: a policy written in month n has earned at most
its own premium by any later month, nothing before) -/
theorem premium_earned_le_written {vol : Rat} {wp ep : List Rat} {wres eres ores : Nat} {off : Int}
    {c : Bool} {w e : List Rat} (hv : 0 ≤ vol) (hwp : ∀ x ∈ wp, 0 ≤ x) (hep : ∀ x ∈ ep, 0 ≤ x)
    (h : programEarnedPremium vol wp wres ep eres ores off c = .ok (w, e)) (k : Nat) :
    (e.take k).sum ≤ (w.take k).sum := by
  obtain ⟨hw, he, _, her, _, bs, hbs, rfl, rfl⟩ := programEarnedPremium_ok h
  have hmw : NN (monthlyWriting vol wp wres) := monthlyWriting_nn hv hwp hw
  have hme : NN (monthlyEarning ep eres c) := monthlyEarning_nn hep he
  have hsum := monthlyEarning_sum ep eres c he her
  cases k with
  | zero => simp
  | succ j =>
    rw [List.take_succ_cons, List.take_succ_cons, List.sum_cons, List.sum_cons, ← List.map_take,
      ← List.map_take]
    obtain ⟨S, _, _, hS⟩ := bounds_cover ores _ _ 0 (if off > 0 then off.toNat else ores) j (Nat.zero_le _)
    rw [hbs, hS, hS]
    simp only [List.drop_zero, zero_add]
    exact monthlyCombined_prefix_le hmw hme hsum S

theorem premium_lengths {vol : Rat} {wp ep : List Rat} {wres eres ores : Nat} {off : Int} {c : Bool}
    {w e : List Rat} (h : programEarnedPremium vol wp wres ep eres ores off c = .ok (w, e)) :
    w.length = e.length := by
  obtain ⟨_, _, _, _, _, _, _, rfl, rfl⟩ := programEarnedPremium_ok h
  simp

/-- **premium_spec.** the executable predicate (exact, `tol = 0`) holds on the model's own output -/
theorem premium_spec {vol : Rat} {wp ep : List Rat} {wres eres ores : Nat} {off : Int} {c : Bool}
    {w e : List Rat} (hv : 0 ≤ vol) (hwp : ∀ x ∈ wp, 0 ≤ x) (hep : ∀ x ∈ ep, 0 ≤ x)
    (h : programEarnedPremium vol wp wres ep eres ores off c = .ok (w, e)) :
    premiumSpec 0 vol w e = true := by
  obtain ⟨hw, he⟩ := premium_sums h
  obtain ⟨nw, ne⟩ := premium_nonneg hv hwp hep h
  have hlen := premium_lengths h
  unfold premiumSpec
  simp only [zero_mul, hw, he, sub_self, add_zero, neg_zero, Bool.and_eq_true, beq_iff_eq,
    decide_eq_true_eq, List.all_eq_true]
  refine ⟨⟨⟨⟨⟨hlen, by simp [rabs]⟩, by simp [rabs]⟩, nw⟩, ne⟩, ?_⟩
  intro p hp
  rw [prefixSums_eq, prefixSums_eq, ← hlen, List.zip_map'] at hp
  obtain ⟨k, _, rfl⟩ := List.mem_map.mp hp
  simpa using premium_earned_le_written hv hwp hep h (k + 1)

end Bermuda.Properties.C18
