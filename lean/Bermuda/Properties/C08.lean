/-
C08 — aggregation sums exactly the cells it merges and loses nothing.
The values of an aggregated cell come from the C09 model (`summarizeCellValues`), whose sum clause is
`Properties/C09`'s; the rule table is the regenerated one. Month and day units are the two instances of one theory
over a grid in closed form (`GridForm`, `Lemmas/AggregateAnchor.lean`).
-/
import Bermuda.Model.Aggregate
import Bermuda.Spec.C08
import Bermuda.Lemmas.Aggregate
import Bermuda.Lemmas.AggregateAnchor
import Bermuda.Lemmas.AggregateBridge
namespace Bermuda.Properties.C08
open Bermuda Generated.Summarize

/-! ### 1. windows -/

/-- windows are consecutive: window `k + 1` starts the day after window `k` ends -/
theorem window_consecutive (q : Int) (u : ResUnit) (init : Date) (k : Nat) :
    (windowAt q u init (k + 1)).1 = (windowAt q u init k).2.succ := rfl

/-- each window ends one resolution step after the grid point it starts behind -/
theorem window_step (q : Int) (u : ResUnit) (init : Date) (k : Nat) :
    (windowAt q u init k).2 = resolutionDelta (iterD q u k init) q u := iterD_succ' q u k init

/-- **`anchor_spec` (month units).** The anchor the code reaches by walking up and down from the REQUESTED origin
(a valid month end) is itself a point of the origin's grid: the last day of month `monthToId origin + j·q` for an
integer `j`; it lies strictly before the bound (the earliest period start / first evaluation date) and the next
grid point does not — the first window `[anchor + 1 day, anchor + q months]` contains the bound. -/
theorem anchor_spec_month {q : Int} {origin bound a : Date} (hv : origin.valid = true)
    (he : origin.isMonthEnd = true) (h : anchorBefore q .month origin bound = some a) :
    ∃ j : Int, a = monthEndOf (monthToId origin + j * q) ∧ a < bound ∧
      ¬ (monthEndOf (monthToId origin + (j + 1) * q) < bound) := by
  obtain ⟨j, hj, _, _, hlt, hnext⟩ :=
    (gridForm_month q hv he).anchorBefore_eq roomAbove_true roomBelow_true h
  exact ⟨j, hj, hlt, hnext⟩

/-- **`anchor_spec` (day units)**, dates inside `date.min … date.max` with one step of room: the anchor is `j·q`
days from the requested origin, strictly before the bound, and `q` days later is not. -/
theorem anchor_spec_day {q : Int} {origin bound a : Date} (hq : 1 ≤ q) (hvo : origin.valid = true)
    (hvb : bound.valid = true) (ho1 : 1 ≤ origin.ordinal) (ho2 : origin.ordinal + q ≤ 3652059)
    (hb1 : q < bound.ordinal) (hb2 : bound.ordinal + q ≤ 3652059)
    (h : anchorBefore q .day origin bound = some a) :
    ∃ j : Int, a.valid = true ∧ a.ordinal = origin.ordinal + j * q ∧ a < bound ∧ ¬ (a.addDays q < bound) := by
  have gr := gridForm_day hq hvo ho1 ho2
  obtain ⟨j, rfl, hj, _, hlt, hnext⟩ := gr.anchorBefore_eq (roomAbove_day hq hvb hb2) (roomBelow_day hq hvb hb1) h
  exact ⟨j, (dayGrid_spec hj).1, (dayGrid_spec hj).2, hlt, by
    show ¬ resolutionDelta (dayGrid origin q j) q .day < bound
    rw [gr.step j hj]; exact hnext⟩

/-- in every regime the anchor lies strictly before the bound -/
theorem anchor_before {q : Int} {u : ResUnit} {origin bound a : Date}
    (h : anchorBefore q u origin bound = some a) : a < bound := anchorBefore_lt h

/-- **`window_spec`.** A successful `_aggregate_period` re-labels every source cell (in `(ps, pe, ev)` order)
with one of the consecutive windows `windowAt k = [grid k + 1 day, grid (k+1)]`, `grid k = anchor + k·res`, where
the anchor is `anchorBefore … period_origin` of the EARLIEST period start `c0.ps` (so by `anchor_spec_month` /
`anchor_spec_day` a point `period_origin + j·res` of the requested grid, see `window_origin_month`), such that the
cell's period starts and ends no later than the window's end and — for valid period starts — starts no earlier than
the window's start: the source period lies INSIDE the window; evaluation date, values and metadata are untouched.
(`windowAt` is by construction a chain of adjacent intervals, `window_consecutive`; that they are disjoint is
`window_disjoint_month` / `window_disjoint_day` for a positive quantity.) -/
theorem window_spec {tr : Transc} {t out : List Cell} {q : Int} {s : String} {origin : Date}
    {prem : Bool} (h : aggregatePeriod tr t (some (q, s)) origin prem = .ok out) :
    ∃ q' u init rel, standardizeResolution q s = .ok (q', u) ∧
      (∃ c0 ∈ t, (∀ c ∈ t, ¬ c.ps < c0.ps) ∧ anchorBefore q' u origin c0.ps = some init) ∧
      rel.length = t.length ∧
      ∀ p ∈ (t.mergeSort fun a b => coordCmp a b != .gt).zip rel, Relabelled q' u init p.1 p.2 ∧
        ((∀ c ∈ t, c.ps.valid = true) → ¬ (p.1.ps < p.2.ps)) := by
  obtain ⟨q', u, init, K, hst, P⟩ := aggregatePeriod_piles h
  obtain ⟨c0, hc0, hmin, hanchor⟩ := P.anchor
  obtain ⟨hlen, hall⟩ := assignWindows_spec P.walk
  have hperm : (t.mergeSort fun a b => coordCmp a b != .gt).Perm t := List.mergeSort_perm _ _
  refine ⟨q', u, init, _, hst, ⟨c0, hc0, hmin, hanchor⟩, by rw [hlen, List.length_mergeSort],
    fun p hp => ⟨hall p hp, fun hv => ?_⟩⟩
  rw [zip_map_self, List.mem_map] at hp
  obtain ⟨c, hc, rfl⟩ := hp
  exact (P.first c (hperm.mem_iff.mp hc)).1.start_le (hv c (hperm.mem_iff.mp hc))
    (DateOrder.lt_of_lt_of_not_lt (anchor_before hanchor) (hmin c (hperm.mem_iff.mp hc)))

/-- **`window_origin_month`: the windows start the day after `period_origin + k·res`.** Month units (month,
quarter, year spellings) with a valid month-end `period_origin`: there is an integer `j` such that every source
cell is re-labelled with the window `[last day of month (M₀ + (j+k)·q) + 1 day, last day of month
(M₀ + (j+k+1)·q)]`, `M₀ = monthToId period_origin`, `k ∈ ℕ` — consecutive windows of the requested length counted
from the requested origin; window `j` (k = 0) is the one containing the earliest period start. -/
theorem window_origin_month {tr : Transc} {t out : List Cell} {q q' : Int} {s : String} {origin : Date}
    {prem : Bool} (h : aggregatePeriod tr t (some (q, s)) origin prem = .ok out)
    (hst : standardizeResolution q s = .ok (q', .month)) (hv : origin.valid = true)
    (he : origin.isMonthEnd = true) :
    ∃ (j : Int) (rel : List Cell), rel.length = t.length ∧
      (∃ c0 ∈ t, (∀ c ∈ t, ¬ c.ps < c0.ps) ∧ monthEndOf (monthToId origin + j * q') < c0.ps ∧
        ¬ (monthEndOf (monthToId origin + (j + 1) * q') < c0.ps)) ∧
      ∀ p ∈ (t.mergeSort fun a b => coordCmp a b != .gt).zip rel, ∃ k : Nat,
        p.2.ps = (monthEndOf (monthToId origin + (j + k) * q')).succ ∧
        p.2.pe = monthEndOf (monthToId origin + (j + k + 1) * q') ∧
        p.2.ev = p.1.ev ∧ p.2.values = p.1.values ∧ p.2.md = p.1.md ∧ ¬ (p.2.pe < p.1.pe) := by
  obtain ⟨j, rel, hlen, hc0, _, hall⟩ := (gridForm_month q' hv he).window_origin h hst
    fun _ _ => ⟨roomAbove_true, roomBelow_true⟩
  exact ⟨j, rel, hlen, hc0, fun p hp => (hall p hp).imp fun _ hk => hk.2.2⟩

/-- **bridge `spec_windowsOk_month`.** The closed-form predicate `Spec.C08.windowsOk` — every output period is
`[period_origin + n·res + 1 day, period_origin + (n+1)·res]` by month-index arithmetic from the REQUESTED origin,
every output cell is a CumulativeCell — which the driver evaluates on the implementation's output, holds on the
model's output (month units, valid month-end origin; any quantity). -/
theorem spec_windowsOk_month {tr : Transc} {t out : List Cell} {q q' : Int} {s : String} {origin : Date}
    {prem : Bool} (h : aggregatePeriod tr t (some (q, s)) origin prem = .ok out)
    (hst : standardizeResolution q s = .ok (q', .month)) (hv : origin.valid = true)
    (he : origin.isMonthEnd = true) : Spec.C08.windowsOk q' .month origin out = true :=
  (gridForm_month q' hv he).windowsOk h hst fun _ _ => ⟨roomAbove_true, roomBelow_true⟩

/-- **`window_origin_day`: day / week units, the windows start the day after `period_origin + k·res`.** Dates inside
`date.min … date.max` with one step of room (origin and period starts): there is an integer `j` such that every
source cell is re-labelled with the window `[G_k + 1 day, G_{k+1}]`, where `G_k` is the (valid) date whose ordinal
is `period_origin.ordinal + (j + k)·q` — consecutive windows of `q` days counted from the requested origin. -/
theorem window_origin_day {tr : Transc} {t out : List Cell} {q q' : Int} {s : String} {origin : Date}
    {prem : Bool} (h : aggregatePeriod tr t (some (q, s)) origin prem = .ok out)
    (hst : standardizeResolution q s = .ok (q', .day)) (hq : 1 ≤ q') (hvo : origin.valid = true)
    (ho1 : 1 ≤ origin.ordinal) (ho2 : origin.ordinal + q' ≤ 3652059)
    (hcells : ∀ c ∈ t, c.ps.valid = true ∧ q' < c.ps.ordinal ∧ c.ps.ordinal + q' ≤ 3652059) :
    ∃ (j : Int) (rel : List Cell), rel.length = t.length ∧
      ∀ p ∈ (t.mergeSort fun a b => coordCmp a b != .gt).zip rel, ∃ (k : Nat) (g g' : Date),
        g.valid = true ∧ g.ordinal = origin.ordinal + (j + k) * q' ∧ g'.valid = true ∧
        g'.ordinal = origin.ordinal + (j + k + 1) * q' ∧ p.2.ps = g.succ ∧ p.2.pe = g' ∧
        p.2.ev = p.1.ev ∧ p.2.values = p.1.values ∧ p.2.md = p.1.md ∧ ¬ (p.2.pe < p.1.pe) := by
  obtain ⟨j, rel, hlen, _, _, hall⟩ := (gridForm_day hq hvo ho1 ho2).window_origin h hst
    fun c hc => room_day hq (hcells c hc)
  refine ⟨j, rel, hlen, fun p hp => ?_⟩
  obtain ⟨k, hk, hk1, rest⟩ := hall p hp
  exact ⟨k, _, _, (dayGrid_spec hk).1, (dayGrid_spec hk).2, (dayGrid_spec hk1).1, (dayGrid_spec hk1).2, rest⟩

/-- **bridge `spec_windowsOk_day`** (one slice) and its whole-triangle form: `Spec.C08.windowsOk` — every output
period is `[origin + n·q days + 1 day, origin + (n+1)·q days]` by ordinal arithmetic from the REQUESTED origin, every
output cell a CumulativeCell — holds on the model's output for day / week units. -/
theorem spec_windowsOk_day {tr : Transc} {t out : List Cell} {q q' : Int} {s : String} {origin : Date}
    {prem : Bool} (h : aggregatePeriod tr t (some (q, s)) origin prem = .ok out)
    (hst : standardizeResolution q s = .ok (q', .day)) (hq : 1 ≤ q') (hvo : origin.valid = true)
    (ho1 : 1 ≤ origin.ordinal) (ho2 : origin.ordinal + q' ≤ 3652059)
    (hcells : ∀ c ∈ t, c.ps.valid = true ∧ q' < c.ps.ordinal ∧ c.ps.ordinal + q' ≤ 3652059) :
    Spec.C08.windowsOk q' .day origin out = true :=
  (gridForm_day hq hvo ho1 ho2).windowsOk h hst fun c hc => room_day hq (hcells c hc)

theorem spec_windowsOk_day_all {tr : Transc} {t out : List Cell} {a : AggArgs} {q q' : Int} {s : String}
    (h : aggregateCum tr t a = .ok out) (hp : a.periodRes = some (q, s))
    (hst : standardizeResolution q s = .ok (q', .day)) (hq : 1 ≤ q') (hvo : a.periodOrigin.valid = true)
    (ho1 : 1 ≤ a.periodOrigin.ordinal) (ho2 : a.periodOrigin.ordinal + q' ≤ 3652059)
    (hcells : ∀ c ∈ t, c.ps.valid = true ∧ q' < c.ps.ordinal ∧ c.ps.ordinal + q' ≤ 3652059) :
    Spec.C08.windowsOk q' .day a.periodOrigin out = true :=
  (gridForm_day hq hvo ho1 ho2).windowsOk_cum h hp hst fun c hc => room_day hq (hcells c hc)

/-- whole-triangle version of `spec_windowsOk_month`: `Spec.C08.windowsOk` holds on the output of `aggregate` for
ALL slices at once -/
theorem spec_windowsOk_month_all {tr : Transc} {t out : List Cell} {a : AggArgs} {q q' : Int} {s : String}
    (h : aggregateCum tr t a = .ok out) (hp : a.periodRes = some (q, s))
    (hst : standardizeResolution q s = .ok (q', .month)) (hv : a.periodOrigin.valid = true)
    (he : a.periodOrigin.isMonthEnd = true) :
    Spec.C08.windowsOk q' .month a.periodOrigin out = true :=
  (gridForm_month q' hv he).windowsOk_cum h hp hst fun _ _ => ⟨roomAbove_true, roomBelow_true⟩

/-- **windows are disjoint** (month units, month-end anchor, positive quantity — the regime of `window_spec`'s
closed form): an earlier window ends strictly before a later one starts; with `window_consecutive` the windows
tile the calendar from the anchor on. Window `k` is `[last day of month M + k·q, + 1 day … last day of month
M + (k+1)·q]`, `M` the month index of the anchor (`gridForm_month`). -/
theorem window_disjoint_month {q : Int} {init : Date} (hq : 1 ≤ q) (hv : init.valid = true)
    (he : init.isMonthEnd = true) {j k : Nat} (hjk : j < k) :
    (windowAt q .month init j).2 < (windowAt q .month init k).1 :=
  (gridForm_month q hv he).window_disjoint hq hjk fun _ _ => trivial

/-- the same for day units (day / week resolutions), inside `date.min … date.max`: grid point `k` is `k·q` days
after the anchor (`gridForm_day`) and the date order is the order of ordinals -/
theorem window_disjoint_day {q : Int} {init : Date} (hq : 1 ≤ q) (hv : init.valid = true)
    (h1 : 1 ≤ init.ordinal) {j k : Nat} (hjk : j < k) (h2 : init.ordinal + (k : Int) * q ≤ 3652059) :
    (windowAt q .day init j).2 < (windowAt q .day init k).1 := by
  have hkq : 1 * q ≤ k * q := Int.mul_le_mul_of_nonneg_right (by omega) (by omega)
  refine (gridForm_day hq hv h1 (by omega)).window_disjoint hq hjk fun i hi => ?_
  have h0 : (0 : Int) ≤ i * q := Int.mul_nonneg (by omega) (by omega)
  have hiq : (i : Int) * q ≤ k * q := Int.mul_le_mul_of_nonneg_right (by omega) (by omega)
  exact ⟨by omega, by omega⟩

/-! ### 2. cells and conservation -/

/-- **`aggPeriod_cell_spec`.** Exactly one output cell per (window, evaluation date) that has a re-labelled
source cell — the output keys are a permutation of the distinct keys of the re-labelled cells —, it is a
CumulativeCell carrying the slice's metadata (the windows are those of `window_spec`: the anchor is
`anchorBefore … period_origin` of the earliest period start), and every field whose rule is the sum of itself equals, sample by
sample, the sum of that field over ALL re-labelled source cells with that window and evaluation date. -/
theorem aggPeriod_cell_spec {tr : Transc} {t out : List Cell} {q : Int} {s : String} {origin : Date}
    {prem : Bool} (h : aggregatePeriod tr t (some (q, s)) origin prem = .ok out) :
    ∃ q' u init rel,
      (standardizeResolution q s = .ok (q', u) ∧
        ∃ c0 ∈ t, (∀ c ∈ t, ¬ c.ps < c0.ps) ∧ anchorBefore q' u origin c0.ps = some init) ∧
      assignWindows q' u init (t.mergeSort fun a b => coordCmp a b != .gt) = .ok rel ∧
      (out.map key3).Perm (smDedup (rel.map key3)) ∧
      ∀ o ∈ out, o.kind = .cumulative ∧ (∃ rc ∈ rel, key3 rc = key3 o ∧ rc.md = o.md) ∧
        ∀ (f : String) (i : Nat), ruleOf [] (lowerKey f) = some ⟨.sum, [f]⟩ →
          (prem = true ∨ f ∉ nonLossMetrics) →
          (∀ rc ∈ rel, key3 rc = key3 o → (rc.getV f).inRange i = true) →
          (o.getV f).at i =
            ((rel.filter fun rc => key3 rc == key3 o).map fun rc => (rc.getV f).at i).sum := by
  obtain ⟨q', u, c0, tl, init, rel, newCells, hst, hsorted, hanchor, hrel, hnew, hof⟩ := aggregatePeriod_ok h
  have hperm := Triangle.ofCells_perm hof
  refine ⟨q', u, init, rel, ⟨hst, c0, (sorted_head_min hsorted).1, (sorted_head_min hsorted).2, hanchor⟩,
    hsorted ▸ hrel, ?_, ?_⟩
  · exact aggregatePeriod_out_keys hnew ▸ hperm.map key3
  · intro o ho
    obtain ⟨rc, hrc, hkey, hmd, hkind, _, hsum⟩ := aggregatePeriod_out_cell hnew (hperm.mem_iff.mp ho)
    refine ⟨hkind, ⟨rc, hrc, hkey, hmd⟩, fun f i hr hc hin => ?_⟩
    exact (summarizeCellValues_sum_at (i := i) hsum hc hr fun c hc' =>
      hin c (List.mem_filter.mp hc').1 (by simpa using (List.mem_filter.mp hc').2)).1

/-- source cell `c` lies INSIDE the period of output cell `o` and has its evaluation date
(`insideB o c = !(c.ps < o.ps) && !(o.pe < c.pe) && c.ev == o.ev`) -/
abbrev insideOf (o c : Cell) : Bool := insideB o c

/-- **`aggPeriod_sums_inside_month`: the sum clause over "the source cells whose period lies inside the aggregated
period" — both directions.** Month units, valid month-end `period_origin`, positive quantity, source cells with
valid period starts and `period_start ≤ period_end`: every output cell's value of a summed field equals, sample by
sample, the sum of that field over EXACTLY the source cells `c` of the slice with
`o.period_start ≤ c.period_start`, `c.period_end ≤ o.period_end` and `c.evaluation_date = o.evaluation_date` — a
source cell inside the window is never labelled with another window (the windows are disjoint,
`window_disjoint_month`), and a cell labelled with the window lies inside it (`window_spec`). -/
theorem aggPeriod_sums_inside_month {tr : Transc} {t out : List Cell} {q q' : Int} {s : String}
    {origin : Date} {prem : Bool} (h : aggregatePeriod tr t (some (q, s)) origin prem = .ok out)
    (hst : standardizeResolution q s = .ok (q', .month)) (hq : 1 ≤ q') (hv : origin.valid = true)
    (he : origin.isMonthEnd = true) (hcells : ∀ c ∈ t, c.ps.valid = true ∧ ¬ (c.pe < c.ps))
    {o : Cell} (ho : o ∈ out) {f : String} {i : Nat}
    (hr : ruleOf [] (lowerKey f) = some ⟨.sum, [f]⟩) (hc : prem = true ∨ f ∉ nonLossMetrics)
    (hin : ∀ c ∈ t, (c.getV f).inRange i = true) :
    (o.getV f).at i = ((t.filter (insideOf o)).map fun c => (c.getV f).at i).sum :=
  ((sliceFacts_month h hst hq hv he hcells).sums o ho f i hr hc (fun c hc' _ => hin c hc')).2

/-- **`aggPeriod_sums_inside_day`**: the sum clause over exactly the source cells inside the window, day / week
units (the day-unit twin of `aggPeriod_sums_inside_month`) -/
theorem aggPeriod_sums_inside_day {tr : Transc} {t out : List Cell} {q q' : Int} {s : String}
    {origin : Date} {prem : Bool} (h : aggregatePeriod tr t (some (q, s)) origin prem = .ok out)
    (hst : standardizeResolution q s = .ok (q', .day)) (hq : 1 ≤ q') (hvo : origin.valid = true)
    (ho1 : 1 ≤ origin.ordinal) (ho2 : origin.ordinal + q' ≤ 3652059)
    (hcells : ∀ c ∈ t, (c.ps.valid = true ∧ ¬ (c.pe < c.ps)) ∧ q' < c.ps.ordinal ∧
      c.ps.ordinal + q' ≤ 3652059)
    {o : Cell} (ho : o ∈ out) {f : String} {i : Nat}
    (hr : ruleOf [] (lowerKey f) = some ⟨.sum, [f]⟩) (hc : prem = true ∨ f ∉ nonLossMetrics)
    (hin : ∀ c ∈ t, (c.getV f).inRange i = true) :
    (o.getV f).at i = ((t.filter (insideOf o)).map fun c => (c.getV f).at i).sum :=
  (((gridForm_day hq hvo ho1 ho2).sliceFacts hq h hst fun c hc =>
    ⟨(hcells c hc).1, room_day hq ⟨(hcells c hc).1.1, (hcells c hc).2⟩⟩).sums o ho f i hr hc
      (fun c hc' _ => hin c hc')).2

/-- **`aggPeriod_conserves`.** Per slice (`_aggregate_period` runs on one slice), evaluation date and summed
field, the total is conserved sample by sample: nothing is dropped, duplicated or apportioned. -/
theorem aggPeriod_conserves {tr : Transc} {t out : List Cell} {q : Int} {s : String} {origin : Date}
    {prem : Bool} {f : String} {i : Nat}
    (h : aggregatePeriod tr t (some (q, s)) origin prem = .ok out)
    (hr : ruleOf [] (lowerKey f) = some ⟨.sum, [f]⟩) (hc : prem = true ∨ f ∉ nonLossMetrics)
    (hin : ∀ c ∈ t, (c.getV f).inRange i = true) (e : Date) :
    ((out.filter fun o => o.ev == e).map fun o => (o.getV f).at i).sum =
      ((t.filter fun c => c.ev == e).map fun c => (c.getV f).at i).sum :=
  aggPeriod_conserves_ev h hr hc e fun c hc' _ => hin c hc'

/-! ### 3. straddling -/

/-- a successful aggregation contains no straddling period: every source period ends no later than its
window (second half of `Relabelled` in `window_spec`), and a `TriangleError` of the window walk is caused by a
cell that starts no later than the end of some window and ends after it -/
theorem aggPeriod_error_iff_straddle_partial {q : Int} {u : ResUnit} {init : Date} {cells : List Cell} :
    (∀ rel, assignWindows q u init cells = .ok rel →
      ∀ p ∈ cells.zip rel, ¬ (p.2.pe < p.1.pe)) ∧
    (assignWindows q u init cells = .error .triangleError →
      ∃ c ∈ cells, ∃ k, ¬ ((windowAt q u init k).2 < c.ps) ∧ (windowAt q u init k).2 < c.pe) := by
  refine ⟨fun rel h p hp => ?_, assignWindows_triangleError⟩
  obtain ⟨_, _, _, _, _, _, _, _, hno⟩ := (assignWindows_spec h).2 p hp
  exact hno

/-- **`aggPeriod_error_iff_straddle`.** The window walk over the slice (sorted by `(ps, pe, ev)` as the code
does) ends in `TriangleError` exactly when some source period starts in a window — the FIRST window, counted from
the anchor, whose end is not before the period's start — and ends after that window's end. Hypothesis `honly`:
the walk does not fail for another reason (a refusal of the `Cell` constructor, `ValueError`, or the model's fuel
bound); such a failure on an earlier cell would pre-empt the `TriangleError`, so the hypothesis is needed for the
"if" direction in any formulation. -/
theorem aggPeriod_error_iff_straddle {q : Int} {u : ResUnit} {init : Date} (t : List Cell)
    (honly : ∀ e, assignWindows q u init (t.mergeSort fun a b => coordCmp a b != .gt) = .error e →
      e = .triangleError) :
    assignWindows q u init (t.mergeSort fun a b => coordCmp a b != .gt) = .error .triangleError ↔
      ∃ c ∈ t, ∃ k, FirstWindow q u init k c.ps ∧ (windowAt q u init k).2 < c.pe := by
  have hperm : (t.mergeSort fun a b => coordCmp a b != .gt).Perm t := List.mergeSort_perm _ _
  have hs := sorted_by_ps t
  constructor
  · intro h
    obtain ⟨c, hc, k, h1, h2⟩ := assignWindows_triangleError_first (k0 := 0) (init0 := init) hs
      (fun _ _ j hj => absurd hj (Nat.not_lt_zero j)) h
    exact ⟨c, hperm.mem_iff.mp hc, k, h1, h2⟩
  · rintro ⟨c, hc, k, hfirst, hcross⟩
    cases h : assignWindows q u init (t.mergeSort fun a b => coordCmp a b != .gt) with
    | error e => rw [honly e h]
    | ok rel =>
      exfalso
      obtain ⟨K, _, hK⟩ := assignWindows_eq_map (k0 := 0) (init0 := init) hs (by simp) h
      obtain ⟨hfirst', hno⟩ := hK c (hperm.mem_iff.mpr hc)
      rw [← hfirst.unique hfirst'] at hno
      exact hno hcross

/-- **bridge `spec_expectStraddle_month`.** The closed-form straddle test `Spec.C08.expectStraddle` (some source
period crosses the end — computed by month-index division from `period_origin` — of the window containing its
start), which the harness compares with the implementation raising `TriangleError`, agrees with the model in
month units from a valid month-end origin with a positive quantity and valid period starts: it is FALSE whenever
`_aggregate_period` succeeds and TRUE whenever the window walk (from the anchor of the earliest period start) ends
in `TriangleError`. (The remaining direction "true ⇒ the walk raises" is `straddle_iff_triangleError_month` /
`straddle_raises_month` below, for cells that satisfy the constructor's date rules.) -/
theorem spec_expectStraddle_month {t : List Cell} {q q' : Int} {s : String} {origin : Date}
    (hst : standardizeResolution q s = .ok (q', .month)) (hq : 1 ≤ q') (hv : origin.valid = true)
    (he : origin.isMonthEnd = true) (hcells : ∀ c ∈ t, c.ps.valid = true) :
    (∀ tr prem out, aggregatePeriod tr t (some (q, s)) origin prem = .ok out →
      Spec.C08.expectStraddle q' .month origin t = false) ∧
    (∀ (c0 : Cell) (init : Date), (∀ c ∈ t, ¬ c.ps < c0.ps) → anchorBefore q' .month origin c0.ps = some init →
      assignWindows q' .month init (t.mergeSort fun a b => coordCmp a b != .gt) = .error .triangleError →
      Spec.C08.expectStraddle q' .month origin t = true) :=
  have gr := gridForm_month q' hv he
  ⟨fun _ _ _ h => gr.expectStraddle_false hq h hst fun c hc => ⟨hcells c hc, roomAbove_true, roomBelow_true⟩,
   fun _ _ hmin hanchor herr => by
    obtain ⟨j, rfl, hj, _, hlt, _⟩ := gr.anchorBefore_eq roomAbove_true roomBelow_true hanchor
    exact expectStraddle_of_walk_error (gr.windowEnd_first hq hj fun c hc =>
      ⟨hcells c hc, roomAbove_true, DateOrder.lt_of_lt_of_not_lt hlt (hmin c hc)⟩) herr⟩

/-- **`straddle_iff_triangleError_month`: `honly` discharged, in closed form.** Month units, valid month-end
`period_origin`, positive quantity, source cells satisfying the `Cell` constructor's date rules with valid period
starts: the window walk from the anchor of the earliest period start ends in `TriangleError` EXACTLY when some
source period crosses the end of the `period_origin`-window containing its start (`Spec.C08.expectStraddle`, month
index arithmetic) — the walk cannot fail for any other reason (the constructor accepts every re-labelled cell, the
model's fuel never runs out). -/
theorem straddle_iff_triangleError_month {t : List Cell} {q' : Int} {origin init : Date} {c0 : Cell}
    (hq : 1 ≤ q') (hv : origin.valid = true) (he : origin.isMonthEnd = true)
    (hcells : ∀ c ∈ t, c.datesOk = true ∧ c.ps.valid = true) (hmin : ∀ c ∈ t, ¬ c.ps < c0.ps)
    (hanchor : anchorBefore q' .month origin c0.ps = some init) :
    assignWindows q' .month init (t.mergeSort fun a b => coordCmp a b != .gt) = .error .triangleError ↔
      Spec.C08.expectStraddle q' .month origin t = true :=
  (gridForm_month q' hv he).straddle_iff hq (fun c hc => ⟨(hcells c hc).1, (hcells c hc).2, roomAbove_true⟩)
    roomAbove_true roomBelow_true hmin hanchor

/-- **`straddle_raises_month`: a straddling source period makes `_aggregate_period` raise `TriangleError`.** Under
the hypotheses of `straddle_iff_triangleError_month` (the anchor walk ends by `GridForm.anchorBefore_ne_none`): if some
source period crosses the end of its `period_origin`-window, `aggregatePeriod` returns `.error .triangleError`. -/
theorem straddle_raises_month {tr : Transc} {t : List Cell} {q q' : Int} {s : String} {origin : Date}
    {prem : Bool} (hst : standardizeResolution q s = .ok (q', .month)) (hq : 1 ≤ q')
    (hv : origin.valid = true) (he : origin.isMonthEnd = true)
    (hcells : ∀ c ∈ t, c.datesOk = true ∧ c.ps.valid = true)
    (hstr : Spec.C08.expectStraddle q' .month origin t = true) :
    aggregatePeriod tr t (some (q, s)) origin prem = .error .triangleError :=
  (gridForm_month q' hv he).straddle_raises hq hst
    (fun c hc => ⟨(hcells c hc).1, (hcells c hc).2, roomAbove_true, roomBelow_true⟩) hstr

/-- **`straddle_iff_triangleError_day`**: the day / week twin of `straddle_iff_triangleError_month` (dates inside
`date.min … date.max` with one step of room): the window walk ends in `TriangleError` EXACTLY when some source period
crosses the end — computed by ordinal division from `period_origin` — of the window containing its start. -/
theorem straddle_iff_triangleError_day {t : List Cell} {q' : Int} {origin init : Date} {c0 : Cell}
    (hq : 1 ≤ q') (hvo : origin.valid = true) (ho1 : 1 ≤ origin.ordinal) (ho2 : origin.ordinal + q' ≤ 3652059)
    (hcells : ∀ c ∈ t, c.datesOk = true ∧ c.ps.valid = true ∧ q' < c.ps.ordinal ∧
      c.ps.ordinal + q' ≤ 3652059)
    (hc0 : c0 ∈ t) (hmin : ∀ c ∈ t, ¬ c.ps < c0.ps)
    (hanchor : anchorBefore q' .day origin c0.ps = some init) :
    assignWindows q' .day init (t.mergeSort fun a b => coordCmp a b != .gt) = .error .triangleError ↔
      Spec.C08.expectStraddle q' .day origin t = true :=
  (gridForm_day hq hvo ho1 ho2).straddle_iff hq
    (fun c hc => ⟨(hcells c hc).1, (hcells c hc).2.1, (room_day hq (hcells c hc).2).1⟩)
    (room_day hq (hcells c0 hc0).2).1 (room_day hq (hcells c0 hc0).2).2 hmin hanchor

/-- **`straddle_raises_day`**: day / week units — a straddling source period makes `_aggregate_period` raise
`TriangleError`, and a successful `_aggregate_period` has no straddler (`Spec.C08.expectStraddle` false). -/
theorem straddle_raises_day {tr : Transc} {t : List Cell} {q q' : Int} {s : String} {origin : Date}
    {prem : Bool} (hst : standardizeResolution q s = .ok (q', .day)) (hq : 1 ≤ q')
    (hvo : origin.valid = true) (ho1 : 1 ≤ origin.ordinal) (ho2 : origin.ordinal + q' ≤ 3652059)
    (hcells : ∀ c ∈ t, c.datesOk = true ∧ c.ps.valid = true ∧ q' < c.ps.ordinal ∧
      c.ps.ordinal + q' ≤ 3652059) :
    (Spec.C08.expectStraddle q' .day origin t = true →
      aggregatePeriod tr t (some (q, s)) origin prem = .error .triangleError) ∧
    (∀ out, aggregatePeriod tr t (some (q, s)) origin prem = .ok out →
      Spec.C08.expectStraddle q' .day origin t = false) := by
  have gr := gridForm_day hq hvo ho1 ho2
  exact ⟨gr.straddle_raises hq hst fun c hc => ⟨(hcells c hc).1, (hcells c hc).2.1, room_day hq (hcells c hc).2⟩,
    fun out h => gr.expectStraddle_false hq h hst fun c hc => ⟨(hcells c hc).2.1, room_day hq (hcells c hc).2⟩⟩

/-! ### 4. evaluation aggregation only removes cells -/

/-- **`aggEval_eq_filter`.** On a canonical slice, aggregation to an evaluation resolution returns exactly the
cells whose evaluation date is on the grid, in their order, unchanged; the grid is the chain
`first point, +res, +2·res, …` up to the last evaluation date, started one step after the anchor. -/
theorem aggEval_eq_filter {t out : List Cell} {q : Int} {s : String} {origin : Date}
    (hs : t.Pairwise (fun a b => Cell.le a b)) (hk : kindsConsistent t = true)
    (h : aggregateEval t (some (q, s)) origin = .ok out) :
    ∃ q' u first last grid, standardizeResolution q s = .ok (q', u) ∧
      minDate (t.map (·.ev)) = some first ∧ maxDateAgg (t.map (·.ev)) = some last ∧
      validEvals q' u origin first last = some grid ∧
      out = t.filter fun c => grid.contains c.ev := by
  obtain ⟨q', u, first, last, grid, hst, hmin, hmax, hgrid, hof⟩ := aggregateEval_ok h
  rw [Triangle.ofCells_sublist List.filter_sublist hs hk] at hof
  cases hof
  exact ⟨q', u, first, last, grid, hst, hmin, hmax, hgrid, rfl⟩

/-- the grid of `aggEval_eq_filter` really is `anchor + k·res`, `k = 1, 2, …`, cut at the last evaluation date -/
theorem evalGrid_spec {q : Int} {u : ResUnit} {origin first last : Date} {grid : List Date}
    (h : validEvals q u origin first last = some grid) :
    ∃ anchor, anchorBefore q u origin first = some anchor ∧ ¬ (first ≤ anchor) ∧
      (∀ j (hj : j < grid.length), grid[j] = iterD q u (j + 1) anchor ∧ grid[j] ≤ last) ∧
      ¬ (iterD q u (grid.length + 1) anchor ≤ last) := by
  obtain ⟨a, ha, hg⟩ := validEvals_ok h
  obtain ⟨h1, h2⟩ := gridFrom_spec hg
  refine ⟨a, ha, DateOrder.not_le.mpr (anchorBefore_lt ha), ?_, ?_⟩
  · intro j hj
    have := h1 j hj
    simpa [iterD] using this
  · simpa [iterD] using h2

/-- **`evalGrid_origin_month`: the kept evaluation dates are exactly the points `eval_origin + k·res` between the
first and the last evaluation date.** Month units, valid month-end `eval_origin`, positive quantity: a date is in
the grid iff it is the last day of month `monthToId eval_origin + k·q` for some integer `k` and lies in
`[first, last]`. (With `aggEval_eq_filter`: evaluation aggregation keeps exactly the cells whose evaluation date is
on the grid of the requested origin.) -/
theorem evalGrid_origin_month {q : Int} {origin first last : Date} {grid : List Date} (hq : 1 ≤ q)
    (hv : origin.valid = true) (he : origin.isMonthEnd = true)
    (h : validEvals q .month origin first last = some grid) (d : Date) :
    d ∈ grid ↔ (∃ k : Int, d = monthEndOf (monthToId origin + k * q)) ∧ first ≤ d ∧ d ≤ last := by
  obtain ⟨_, _, _, _, _, _, hmem⟩ :=
    (gridForm_month q hv he).mem_validEvals hq roomAbove_true roomBelow_true roomAbove_true h
  simpa using hmem d

/-- **bridge `spec_evalOk_month`.** The closed-form predicate `Spec.C08.evalOk` — the output is the input filtered
by "evaluation date is a month end whose month index differs from `eval_origin`'s by a multiple of `q`", cells
unchanged and in order — holds on the model's `_aggregate_eval` of a canonical slice (month units, valid month-end
origin, positive quantity, valid evaluation dates). -/
theorem spec_evalOk_month {t out : List Cell} {q q' : Int} {s : String} {origin : Date}
    (hs : t.Pairwise (fun a b => Cell.le a b)) (hk : kindsConsistent t = true)
    (h : aggregateEval t (some (q, s)) origin = .ok out)
    (hst : standardizeResolution q s = .ok (q', .month)) (hq : 1 ≤ q') (hv : origin.valid = true)
    (he : origin.isMonthEnd = true) (hev : ∀ c ∈ t, c.ev.valid = true) :
    Spec.C08.evalOk q' .month origin t out = true :=
  beq_iff_eq.mpr ((gridForm_month q' hv he).aggregateEval_eq hq hs hk h hst fun c hc =>
    ⟨hev c hc, roomAbove_true, roomBelow_true, roomAbove_true⟩)

/-- **`evalGrid_origin_day`**: day / week units — a valid date is kept iff its ordinal differs from `eval_origin`'s by
a multiple of `q` and it lies between the first and the last evaluation date (dates inside `date.min … date.max`
with one step of room). -/
theorem evalGrid_origin_day {q : Int} {origin first last : Date} {grid : List Date} (hq : 1 ≤ q)
    (hvo : origin.valid = true) (ho1 : 1 ≤ origin.ordinal) (ho2 : origin.ordinal + q ≤ 3652059)
    (hvf : first.valid = true) (hf1 : q < first.ordinal) (hf2 : first.ordinal + q ≤ 3652059)
    (hvl : last.valid = true) (hl2 : last.ordinal + 1 + q ≤ 3652059) (hfl : ¬ (last < first))
    (h : validEvals q .day origin first last = some grid) (d : Date) (hvd : d.valid = true) :
    d ∈ grid ↔ (∃ k : Int, d.ordinal = origin.ordinal + k * q) ∧ first ≤ d ∧ d ≤ last := by
  have gr := gridForm_day hq hvo ho1 ho2
  obtain ⟨m, n, hm, hn, hlt, hend, hmem⟩ := gr.mem_validEvals hq (roomAbove_day hq hvf hf2)
    (roomBelow_day hq hvf hf1) (roomAbove_day hq (succ_valid hvl) (by rw [ordinal_succ hvl]; omega)) h
  rw [hmem d, ← onGrid_day_iff]
  -- between `first` and `last` the date lies between two grid points of the domain
  exact and_congr_left fun ⟨hfd, hdl⟩ => (gr.onGrid m n d hm hn hvd (DateOrder.lt_of_lt_of_le hlt hfd)
    fun hc => hend (DateOrder.le_of_lt (DateOrder.lt_of_lt_of_le hc hdl))).symm

/-- **bridge `spec_evalOk_day`**: `Spec.C08.evalOk` holds on the model's `_aggregate_eval` of a canonical slice in
day / week units -/
theorem spec_evalOk_day {t out : List Cell} {q q' : Int} {s : String} {origin : Date}
    (hs : t.Pairwise (fun a b => Cell.le a b)) (hk : kindsConsistent t = true)
    (h : aggregateEval t (some (q, s)) origin = .ok out)
    (hst : standardizeResolution q s = .ok (q', .day)) (hq : 1 ≤ q') (hvo : origin.valid = true)
    (ho1 : 1 ≤ origin.ordinal) (ho2 : origin.ordinal + q' ≤ 3652059)
    (hev : ∀ c ∈ t, c.ev.valid = true ∧ q' < c.ev.ordinal ∧ c.ev.ordinal + 1 + q' ≤ 3652059) :
    Spec.C08.evalOk q' .day origin t out = true :=
  beq_iff_eq.mpr ((gridForm_day hq hvo ho1 ho2).aggregateEval_eq hq hs hk h hst fun c hc =>
    room_day_ev hq (hev c hc))

/-! ### 5. incremental in/out -/

/-- **`aggregate_incremental_commutes`.** On an incremental triangle `aggregate` is the incremental form of the
aggregate of its cumulative form (definitional in code and model; stated so that a rewrite which breaks it is
caught). -/
theorem aggregate_incremental_commutes (tr : Transc) (t : List Cell) (a : AggArgs)
    (h : smIsIncremental t = true) :
    aggregate tr t a =
      (Triangle.toCumulative t).bind fun cum => (aggregateCum tr cum a).bind Triangle.toIncremental := by
  unfold aggregate
  rw [if_pos h]
  cases Triangle.toCumulative t with
  | error e => rfl
  | ok cum =>
    simp only [Except.bind]
    cases aggregateCum tr cum a <;> rfl

/-- with neither resolution given every slice is returned as it is -/
theorem aggregateSlice_none (tr : Transc) (s : List Cell) (a : AggArgs) (hp : a.periodRes = none)
    (he : a.evalRes = none) : aggregateSlice tr a s = .ok s := by
  simp [aggregateSlice, aggregateEval, aggregatePeriod, hp, he]

/-! ### 6. from one slice to the whole triangle -/

/-- **`aggregate_union_of_slices`.** On a cumulative triangle `aggregate` returns — up to the final re-sorting of
`Triangle(...)` — exactly the cells of the per-slice results (`_aggregate_eval` then `_aggregate_period` on every
slice, slices = the cells of one metadata): `sum(agg_slices)` neither drops, merges nor duplicates a cell. -/
theorem aggregate_union_of_slices {tr : Transc} {t out : List Cell} {a : AggArgs}
    (h : aggregateCum tr t a = .ok out) :
    ∃ aggs, smMapE (fun p : Metadata × List Cell => aggregateSlice tr a p.2) (Triangle.slices t) = .ok aggs ∧
      out.Perm aggs.flatten :=
  aggregateCum_perm h

/-- **`aggregate_conserves`: conservation for the whole triangle, per slice and evaluation date.** For a
cumulative triangle aggregated to a period resolution (no evaluation resolution), every summed field's total over
the output cells of metadata `m` and evaluation date `e` equals its total over the source cells of that metadata
and evaluation date, sample by sample — for EVERY slice `m` at once (`aggPeriod_conserves` lifted through
`sum(agg_slices)`). -/
theorem aggregate_conserves {tr : Transc} {t out : List Cell} {a : AggArgs} {q : Int} {s : String}
    {f : String} {i : Nat} (h : aggregateCum tr t a = .ok out) (hev : a.evalRes = none)
    (hp : a.periodRes = some (q, s))
    (hr : ruleOf [] (lowerKey f) = some ⟨.sum, [f]⟩) (hc : a.prem = true ∨ f ∉ nonLossMetrics)
    (hin : ∀ c ∈ t, (c.getV f).inRange i = true) (m : Metadata) (e : Date) :
    ((out.filter fun o => o.md == m && o.ev == e).map fun o => (o.getV f).at i).sum =
      ((t.filter fun c => c.md == m && c.ev == e).map fun c => (c.getV f).at i).sum := by
  obtain ⟨aggs, st⟩ := stage_of_aggregateCum_noeval h hp hev
  exact st.sum_eq hr hc m e fun c hc' _ _ => hin c hc'

/-! ### 7. every clause of the executable Spec holds on the model's output (month, day and mixed units) -/

/-- **`spec_holds_on_model_month`.** For a cumulative triangle aggregated to a period resolution in month units
(month / quarter / year spellings, positive quantity) from a valid month-end `period_origin`, without an evaluation
resolution, source cells with valid period starts and `period_start ≤ period_end`: ALL closed-form clauses of
`Spec/C08.lean` — `windowsOk`, `cover` (every source cell lies in exactly one output cell of its slice and
evaluation date, output coordinates distinct), `cellSums` (each summed field of each output cell = Σ over the source
cells inside its window, sample by sample, and the cell has a source), `keysOk` (field names = union of its
sources'), `conserves` (per slice and evaluation date) — hold on the output of the model's `aggregate`, with exactly
the field list the driver passes (`additiveFields`, or `lossFields` when `summarize_premium = False`). -/
theorem spec_holds_on_model_month {tr : Transc} {t out : List Cell} {a : AggArgs} {q q' : Int} {s : String}
    (hinc : smIsIncremental t = false) (h : aggregate tr t a = .ok out) (hev : a.evalRes = none)
    (hp : a.periodRes = some (q, s)) (hst : standardizeResolution q s = .ok (q', .month)) (hq : 1 ≤ q')
    (hv : a.periodOrigin.valid = true) (he : a.periodOrigin.isMonthEnd = true)
    (hcells : ∀ c ∈ t, c.ps.valid = true ∧ ¬ (c.pe < c.ps)) :
    Spec.C08.holds q' .month a.periodOrigin
      (if a.prem then Spec.C09.additiveFields else Spec.C09.lossFields) t out = true :=
  holds_of_gridForm (gridForm_month q' hv he) hq hinc h hev hp hst
    fun c hc => ⟨hcells c hc, roomAbove_true, roomBelow_true⟩

/-- **`spec_holds_on_model_month_eval`: both resolutions at once.** With an evaluation resolution in month units
given at the same time (valid month-end `eval_origin`, positive quantity, valid evaluation dates, a class-consistent
triangle), the same five clauses hold with the source = the triangle FILTERED by the closed-form evaluation grid
`eval_origin + k·res`: in particular each summed field's total per slice and evaluation date is conserved between
the kept cells and the output. -/
theorem spec_holds_on_model_month_eval {tr : Transc} {t out : List Cell} {a : AggArgs} {q q' qe qe' : Int}
    {s se : String} (hinc : smIsIncremental t = false) (h : aggregate tr t a = .ok out)
    (hev : a.evalRes = some (qe, se)) (hste : standardizeResolution qe se = .ok (qe', .month))
    (hqe : 1 ≤ qe') (hve : a.evalOrigin.valid = true) (hee : a.evalOrigin.isMonthEnd = true)
    (hk : kindsConsistent t = true) (hevs : ∀ c ∈ t, c.ev.valid = true)
    (hp : a.periodRes = some (q, s)) (hst : standardizeResolution q s = .ok (q', .month)) (hq : 1 ≤ q')
    (hv : a.periodOrigin.valid = true) (he : a.periodOrigin.isMonthEnd = true)
    (hcells : ∀ c ∈ t, c.ps.valid = true ∧ ¬ (c.pe < c.ps)) :
    Spec.C08.holds q' .month a.periodOrigin
      (if a.prem then Spec.C09.additiveFields else Spec.C09.lossFields)
      (t.filter fun c => Spec.C08.onGrid qe' .month a.evalOrigin c.ev) out = true :=
  holds_of_gridForms (gridForm_month q' hv he) (gridForm_month qe' hve hee) hq hqe hinc h hev hste hk
    (fun c hc => ⟨hevs c hc, roomAbove_true, roomBelow_true, roomAbove_true⟩) hp hst
    fun c hc => ⟨hcells c hc, roomAbove_true, roomBelow_true⟩

/-- **`spec_holds_on_model_day`: the same for day / week units.** Cumulative triangle, period resolution in days or
weeks (positive quantity), no evaluation resolution, dates inside `date.min … date.max` with one step of room (origin
and period starts), valid period starts with `period_start ≤ period_end`: all five clauses of `Spec/C08.lean`
(ordinal arithmetic from the REQUESTED origin) hold on the output of the model's `aggregate`. -/
theorem spec_holds_on_model_day {tr : Transc} {t out : List Cell} {a : AggArgs} {q q' : Int} {s : String}
    (hinc : smIsIncremental t = false) (h : aggregate tr t a = .ok out) (hev : a.evalRes = none)
    (hp : a.periodRes = some (q, s)) (hst : standardizeResolution q s = .ok (q', .day)) (hq : 1 ≤ q')
    (hvo : a.periodOrigin.valid = true) (ho1 : 1 ≤ a.periodOrigin.ordinal)
    (ho2 : a.periodOrigin.ordinal + q' ≤ 3652059)
    (hcells : ∀ c ∈ t, (c.ps.valid = true ∧ ¬ (c.pe < c.ps)) ∧ q' < c.ps.ordinal ∧
      c.ps.ordinal + q' ≤ 3652059) :
    Spec.C08.holds q' .day a.periodOrigin
      (if a.prem then Spec.C09.additiveFields else Spec.C09.lossFields) t out = true :=
  holds_of_gridForm (gridForm_day hq hvo ho1 ho2) hq hinc h hev hp hst
    fun c hc => ⟨(hcells c hc).1, room_day hq ⟨(hcells c hc).1.1, (hcells c hc).2⟩⟩

/-- **`spec_holds_on_model_day_eval`**: period AND evaluation resolution both in day / week units -/
theorem spec_holds_on_model_day_eval {tr : Transc} {t out : List Cell} {a : AggArgs} {q q' qe qe' : Int}
    {s se : String} (hinc : smIsIncremental t = false) (h : aggregate tr t a = .ok out)
    (hev : a.evalRes = some (qe, se)) (hste : standardizeResolution qe se = .ok (qe', .day))
    (hqe : 1 ≤ qe') (hve : a.evalOrigin.valid = true) (he1 : 1 ≤ a.evalOrigin.ordinal)
    (he2 : a.evalOrigin.ordinal + qe' ≤ 3652059) (hk : kindsConsistent t = true)
    (hevs : ∀ c ∈ t, c.ev.valid = true ∧ qe' < c.ev.ordinal ∧ c.ev.ordinal + 1 + qe' ≤ 3652059)
    (hp : a.periodRes = some (q, s)) (hst : standardizeResolution q s = .ok (q', .day)) (hq : 1 ≤ q')
    (hvo : a.periodOrigin.valid = true) (ho1 : 1 ≤ a.periodOrigin.ordinal)
    (ho2 : a.periodOrigin.ordinal + q' ≤ 3652059)
    (hcells : ∀ c ∈ t, (c.ps.valid = true ∧ ¬ (c.pe < c.ps)) ∧ q' < c.ps.ordinal ∧
      c.ps.ordinal + q' ≤ 3652059) :
    Spec.C08.holds q' .day a.periodOrigin
      (if a.prem then Spec.C09.additiveFields else Spec.C09.lossFields)
      (t.filter fun c => Spec.C08.onGrid qe' .day a.evalOrigin c.ev) out = true :=
  holds_of_gridForms (gridForm_day hq hvo ho1 ho2) (gridForm_day hqe hve he1 he2) hq hqe hinc h hev hste hk
    (fun c hc => room_day_ev hqe (hevs c hc)) hp hst
    fun c hc => ⟨(hcells c hc).1, room_day hq ⟨(hcells c hc).1.1, (hcells c hc).2⟩⟩

/-- **`spec_holds_on_model_month_evalday`**: period resolution in month units, evaluation resolution in days / weeks -/
theorem spec_holds_on_model_month_evalday {tr : Transc} {t out : List Cell} {a : AggArgs} {q q' qe qe' : Int}
    {s se : String} (hinc : smIsIncremental t = false) (h : aggregate tr t a = .ok out)
    (hev : a.evalRes = some (qe, se)) (hste : standardizeResolution qe se = .ok (qe', .day))
    (hqe : 1 ≤ qe') (hve : a.evalOrigin.valid = true) (he1 : 1 ≤ a.evalOrigin.ordinal)
    (he2 : a.evalOrigin.ordinal + qe' ≤ 3652059) (hk : kindsConsistent t = true)
    (hevs : ∀ c ∈ t, c.ev.valid = true ∧ qe' < c.ev.ordinal ∧ c.ev.ordinal + 1 + qe' ≤ 3652059)
    (hp : a.periodRes = some (q, s)) (hst : standardizeResolution q s = .ok (q', .month)) (hq : 1 ≤ q')
    (hv : a.periodOrigin.valid = true) (he : a.periodOrigin.isMonthEnd = true)
    (hcells : ∀ c ∈ t, c.ps.valid = true ∧ ¬ (c.pe < c.ps)) :
    Spec.C08.holds q' .month a.periodOrigin
      (if a.prem then Spec.C09.additiveFields else Spec.C09.lossFields)
      (t.filter fun c => Spec.C08.onGrid qe' .day a.evalOrigin c.ev) out = true :=
  holds_of_gridForms (gridForm_month q' hv he) (gridForm_day hqe hve he1 he2) hq hqe hinc h hev hste hk
    (fun c hc => room_day_ev hqe (hevs c hc)) hp hst
    fun c hc => ⟨hcells c hc, roomAbove_true, roomBelow_true⟩

/-- **`spec_holds_on_model_day_evalmonth`**: period resolution in days / weeks, evaluation resolution in month units -/
theorem spec_holds_on_model_day_evalmonth {tr : Transc} {t out : List Cell} {a : AggArgs} {q q' qe qe' : Int}
    {s se : String} (hinc : smIsIncremental t = false) (h : aggregate tr t a = .ok out)
    (hev : a.evalRes = some (qe, se)) (hste : standardizeResolution qe se = .ok (qe', .month))
    (hqe : 1 ≤ qe') (hve : a.evalOrigin.valid = true) (hee : a.evalOrigin.isMonthEnd = true)
    (hk : kindsConsistent t = true) (hevs : ∀ c ∈ t, c.ev.valid = true)
    (hp : a.periodRes = some (q, s)) (hst : standardizeResolution q s = .ok (q', .day)) (hq : 1 ≤ q')
    (hvo : a.periodOrigin.valid = true) (ho1 : 1 ≤ a.periodOrigin.ordinal)
    (ho2 : a.periodOrigin.ordinal + q' ≤ 3652059)
    (hcells : ∀ c ∈ t, (c.ps.valid = true ∧ ¬ (c.pe < c.ps)) ∧ q' < c.ps.ordinal ∧
      c.ps.ordinal + q' ≤ 3652059) :
    Spec.C08.holds q' .day a.periodOrigin
      (if a.prem then Spec.C09.additiveFields else Spec.C09.lossFields)
      (t.filter fun c => Spec.C08.onGrid qe' .month a.evalOrigin c.ev) out = true :=
  holds_of_gridForms (gridForm_day hq hvo ho1 ho2) (gridForm_month qe' hve hee) hq hqe hinc h hev hste hk
    (fun c hc => ⟨hevs c hc, roomAbove_true, roomBelow_true, roomAbove_true⟩) hp hst
    fun c hc => ⟨(hcells c hc).1, room_day hq ⟨(hcells c hc).1.1, (hcells c hc).2⟩⟩

/-! ### 8. non-vacuity: three quarters into half-years -/

abbrev exQ : List Cell := aggExQ

/-- **`aggregatePeriod` succeeds** on the three quarters (half-year windows, default origin): the first two
quarters are summed into 2020-01-01 … 2020-06-30 (10 + 5), the third stands alone in the second half-year -/
example : aggregatePeriod Transc.id exQ (some (6, "month")) ⟨1999, 12, 31⟩ true = .ok aggExOut :=
  aggExQ_aggregates

/-- the rule hypothesis of `aggPeriod_cell_spec` / `aggPeriod_conserves` holds for `paid_loss` in the regenerated
table … -/
example : ruleOf [] (lowerKey "paid_loss") = some ⟨.sum, ["paid_loss"]⟩ :=
  (agg_fields_summed true _ (List.Mem.head _)).1

/-- … so every hypothesis of `aggPeriod_conserves` has a kernel-checked inhabitant -/
example :
    ((aggExOut.filter fun o => o.ev == ⟨2020, 12, 31⟩).map fun o => (o.getV "paid_loss").at 0).sum =
      ((exQ.filter fun c => c.ev == ⟨2020, 12, 31⟩).map fun c => (c.getV "paid_loss").at 0).sum :=
  aggPeriod_conserves (f := "paid_loss") (i := 0) aggExQ_aggregates
    (agg_fields_summed true _ (List.Mem.head _)).1 (Or.inl rfl) (by decide +kernel) ⟨2020, 12, 31⟩

/-- **`aggregate` succeeds** on the three quarters and every hypothesis of `spec_holds_on_model_month` is met:
the five Spec clauses hold on `(exQ, aggExOut)` as a consequence of the theorem (not by evaluation) -/
example : Spec.C08.holds 6 .month ⟨1999, 12, 31⟩ Spec.C09.additiveFields exQ aggExOut = true :=
  spec_holds_on_model_month (a := aggExArgs) (by decide +kernel) aggExQ_aggregate rfl rfl (by decide +kernel)
    (by decide) (by decide +kernel) (by decide +kernel) (by decide +kernel)

/-- **`aggregateEval` succeeds**: yearly evaluation grid from the default origin keeps the year-end diagonal -/
example : aggregateEval exQ (some (1, "year")) ⟨1999, 12, 31⟩ = .ok exQ := aggExQ_evalAgg

/-- the anchor walk from the default origin reaches the month end before the data (40 half-year steps) -/
example : anchorBefore 6 .month ⟨1999, 12, 31⟩ ⟨2020, 1, 1⟩ = some ⟨2019, 12, 31⟩ := aggExQ_anchor

/-- the window walk succeeds and puts the first two quarters into one window -/
example :
    (match assignWindows 6 .month ⟨2019, 12, 31⟩ exQ with
     | .ok rel => decide (rel.map key3 =
         [(⟨2020, 1, 1⟩, ⟨2020, 6, 30⟩, ⟨2020, 12, 31⟩), (⟨2020, 1, 1⟩, ⟨2020, 6, 30⟩, ⟨2020, 12, 31⟩),
          (⟨2020, 7, 1⟩, ⟨2020, 12, 31⟩, ⟨2020, 12, 31⟩)])
     | .error _ => false) = true := by
  decide +kernel

/-- four-month windows cut the second quarter: refused with `TriangleError` -/
example :
    (match assignWindows 4 .month ⟨2019, 12, 31⟩ exQ with
     | .error e => decide (e = .triangleError)
     | .ok _ => false) = true := by
  decide +kernel

end Bermuda.Properties.C08
