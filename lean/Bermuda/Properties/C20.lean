/-
C20 — plot data is faithful: one record per cell, correct metrics and labels (PARTIAL: altair /
Vega-Lite validity and the square root of `sd` are outside the model).

The model `buildPlotData` is parameterised by the metric table; the theorems below instantiate it
with `Generated.PlotMetrics.metrics` (regenerated from COMMON_METRIC_DICT's lambdas each run) and
`Generated.Plot.{quantileLevels, fieldSummaryFields}`. What a metric NAME and a statistic NAME
state is written in `Spec/C20.lean` from the property text, independently of the tables.
Helper lemmas: `Lemmas/Plot.lean` (sorted sample, interpolation, rows), `Lemmas/PlotSpec.lean` (the Spec clauses on the
model's output), `Lemmas/PlotStats.lean` (sums, flat keys, the triangle outside `ValidT`).
-/
import Bermuda.Model.Plot
import Bermuda.Spec.C20
import Bermuda.Lemmas.Plot
import Bermuda.Lemmas.PlotSpec
import Bermuda.Lemmas.PlotStats
import Bermuda.Generated.PlotMetrics
namespace Bermuda.Properties.C20
open Bermuda Bermuda.Plot

/-- the metric of `COMMON_METRIC_DICT` with this display name -/
def metricNamed (name : String) : Option Metric :=
  Generated.PlotMetrics.metrics.find? (·.name == name)

/-! ### 1. records -/

/-- exactly one record per cell, in the triangle's own cell order, carrying that cell's period,
evaluation date and development lag -/
theorem records_one_per_cell_in_order (ms : List Metric) (t : List Cell) :
    (buildPlotData ms t).map (fun r => (r.ps, r.pe, r.ev, r.devLag)) =
      t.map (fun c => (c.ps, c.pe, c.ev, devLagMonths c.pe c.ev)) := by
  simp [buildPlotData, mkRecord, Cell.devLag, calculateDevLag, Function.comp_def]

theorem records_length (ms : List Metric) (t : List Cell) :
    (buildPlotData ms t).length = t.length := by
  simp [buildPlotData]

/-- the Spec clause holds on the model's output (exactly: tolerance 0) -/
theorem onePerCell_model (ms : List Metric) (t : List Cell) :
    Spec.C20.onePerCell 0 t (buildPlotData ms t) = true := by
  unfold Spec.C20.onePerCell buildPlotData
  apply all2_map
  intro c _
  simp [mkRecord, Cell.devLag, calculateDevLag, Spec.C20.approx, Spec.C20.absR]

/-! ### 2. what each built-in metric computes (tables are the generated ones) -/

/-- the three loss ratios are `100 · loss / earned_premium` of the cell's OWN values, whatever the
neighbours are -/
theorem lossRatio_value (c : Cell) (p n : Option Cell) :
    (metricNamed "Paid Loss Ratio").map (safeApplyMetric · c p n) = some (Spec.C20.ratio100 c "paid_loss") ∧
    (metricNamed "Reported Loss Ratio").map (safeApplyMetric · c p n) = some (Spec.C20.ratio100 c "reported_loss") ∧
    (metricNamed "Incurred Loss Ratio").map (safeApplyMetric · c p n) = some (Spec.C20.ratio100 c "incurred_loss") := by
  have h1 : metricNamed "Paid Loss Ratio" = some ⟨"Paid Loss Ratio", 1,
      .div (.mul (.num 100) (.field .cell "paid_loss")) (.field .cell "earned_premium")⟩ := by decide +kernel
  have h2 : metricNamed "Reported Loss Ratio" = some ⟨"Reported Loss Ratio", 1,
      .div (.mul (.num 100) (.field .cell "reported_loss")) (.field .cell "earned_premium")⟩ := by decide +kernel
  have h3 : metricNamed "Incurred Loss Ratio" = some ⟨"Incurred Loss Ratio", 1,
      .div (.mul (.num 100) (.field .cell "incurred_loss")) (.field .cell "earned_premium")⟩ := by decide +kernel
  rw [h1, h2, h3]
  exact ⟨congrArg some (eval_bodyOf (.ratio _) _ c p n), congrArg some (eval_bodyOf (.ratio _) _ c p n),
    congrArg some (eval_bodyOf (.ratio _) _ c p n)⟩

/-- plain fields are passed through: the metric is the cell's own stored value -/
theorem passthrough_value (c : Cell) (p n : Option Cell) :
    ∀ e ∈ [("Paid Loss", "paid_loss"), ("Reported Loss", "reported_loss"),
           ("Incurred Loss", "incurred_loss"), ("Earned Premium", "earned_premium"),
           ("Reported Claims", "reported_claims")],
      (metricNamed e.1).map (safeApplyMetric · c p n) = some (Spec.C20.cellField c e.2) := by
  have h : ∀ e ∈ [("Paid Loss", "paid_loss"), ("Reported Loss", "reported_loss"),
           ("Incurred Loss", "incurred_loss"), ("Earned Premium", "earned_premium"),
           ("Reported Claims", "reported_claims")],
      metricNamed e.1 = some ⟨e.1, 1, .field .cell e.2⟩ := by decide +kernel
  intro e he
  rw [h e he]
  rfl

/-- age-to-age metrics divide the SUCCESSOR's value (the `next_cell` handed in by the row) by the
cell's own; no successor ⇒ no value -/
theorem ata_value (c : Cell) (p n : Option Cell) :
    ∀ e ∈ [("Paid ATA", "paid_loss"), ("Reported ATA", "reported_loss")],
      (metricNamed e.1).map (safeApplyMetric · c p n) =
        some (do let a ← readField n e.2; let b ← readField (some c) e.2; MV.bin ratDiv a b) := by
  have h : ∀ e ∈ [("Paid ATA", "paid_loss"), ("Reported ATA", "reported_loss")],
      metricNamed e.1 = some ⟨e.1, 3, .div (.field .next e.2) (.field .cell e.2)⟩ := by decide +kernel
  intro e he
  rw [h e he]
  rfl

theorem ataIncr_value (c : Cell) (p n : Option Cell) :
    ∀ e ∈ [("Paid Incremental ATA", "paid_loss"), ("Reported Incremental ATA", "reported_loss")],
      (metricNamed e.1).map (safeApplyMetric · c p n) =
        some (do let r ← (do let a ← readField n e.2; let b ← readField (some c) e.2; MV.bin ratDiv a b)
                 MV.bin ratSub r (.scalar 1)) := by
  have h : ∀ e ∈ [("Paid Incremental ATA", "paid_loss"), ("Reported Incremental ATA", "reported_loss")],
      metricNamed e.1 = some ⟨e.1, 3, .sub (.div (.field .next e.2) (.field .cell e.2)) (.num 1)⟩ := by
    decide +kernel
  intro e he
  rw [h e he]
  simp only [Option.map_some, safeApplyMetric, MExpr.eval]
  rfl

/-- every function of COMMON_METRIC_DICT could be executed symbolically (no branching on values or
neighbours, arithmetic only): the generated table says everything the functions do -/
theorem metrics_probe_ok : Generated.PlotMetrics.ok = true := by decide

/-- the metric table is exactly the twelve names the Spec knows, in snake case, without clashes -/
theorem metric_names :
    Generated.PlotMetrics.metrics.map (toSnake ·.name) = Spec.C20.table.map (·.1) ∧
    (Spec.C20.table.map (·.1)).Nodup :=
  ⟨metric_names_eq, table_names_nodup⟩

/-! ### 3. absent inputs ⇒ no summary -/

theorem readField_absent {c : Cell} {k : String} (h : c.values.get? k = none) :
    readField (some c) k = none := by
  simp [readField, h]

/-- a loss ratio has no value when the premium or the loss is absent (or `None`) -/
theorem ratio_absent {c : Cell} {loss : String}
    (h : readField (some c) "earned_premium" = none ∨ readField (some c) loss = none) :
    Spec.C20.ratio100 c loss = none := by
  unfold Spec.C20.ratio100 Spec.C20.cellField
  rcases h with h | h
  · rw [h]; cases readField (some c) loss <;> rfl
  · rw [h]; rfl

/-- an age-to-age metric has no value for the last evaluation of a row -/
theorem ata_absent_without_successor (c : Cell) (p : Option Cell) :
    ∀ e ∈ ["Paid ATA", "Reported ATA", "Paid Incremental ATA", "Reported Incremental ATA"],
      (metricNamed e).map (safeApplyMetric · c p none) = some none := by
  intro e he
  simp only [List.mem_cons, List.not_mem_nil, or_false] at he
  rcases he with rfl | rfl | rfl | rfl
  -- `readField none _` is `none`, so the values of `ata_value` / `ataIncr_value` reduce to `none`
  · exact ata_value c p none ("Paid ATA", "paid_loss") List.mem_cons_self
  · exact ata_value c p none ("Reported ATA", "reported_loss") (List.mem_cons_of_mem _ List.mem_cons_self)
  · exact ataIncr_value c p none ("Paid Incremental ATA", "paid_loss") List.mem_cons_self
  · exact ataIncr_value c p none ("Reported Incremental ATA", "reported_loss")
      (List.mem_cons_of_mem _ List.mem_cons_self)

/-- the names in a cell's summary dict are exactly the metrics that produced a value: a metric
whose inputs are absent contributes NO entry (`remove_empties`) -/
theorem absent_input_no_summary (ms : List Metric) (c : Cell) (p n : Option Cell) :
    (cellSummaries ms c p n).map (·.1) =
      (ms.filter fun m => (safeApplyMetric m c p n).isSome).map (toSnake ·.name) := by
  unfold cellSummaries
  induction ms with
  | nil => rfl
  | cons m rest ih =>
    simp only [List.filterMap_cons, List.filter_cons]
    cases h : safeApplyMetric m c p n <;> simp [ih]

/-! ### 4. statistics and their names -/

/-- the statistics are attached to the dataclass fields by POSITION; read as names, position by
position: the first five are mean, median, sd, min, max and the q-fields parse to exactly the
levels handed to `np.quantile` — `q2_5 ↦ 1/40, q5 ↦ 1/20, …, q80 ↦ 4/5, …, q97_5 ↦ 39/40` -/
theorem quantile_levels_named :
    statNames.take 5 = ["mean", "median", "sd", "min", "max"] ∧
    ((statNames.drop 5).take Generated.Plot.quantileLevels.length).map Spec.C20.parseLevel
      = Generated.Plot.quantileLevels.map some ∧
    (statNames.drop 5).zip Generated.Plot.quantileLevels =
      [("q2_5", (1 : Rat) / 40), ("q5", (1 : Rat) / 20), ("q10", (1 : Rat) / 10), ("q20", (1 : Rat) / 5),
       ("q50", (1 : Rat) / 2), ("q80", (4 : Rat) / 5), ("q90", (9 : Rat) / 10), ("q95", (19 : Rat) / 20),
       ("q97_5", (39 : Rat) / 40)] ∧
    (statNames.take (5 + Generated.Plot.quantileLevels.length)) = Spec.C20.requiredStats := by
  decide +kernel

/-- levels are non-negative, at most 1, and ascending in field order -/
theorem quantile_levels_sorted :
    Generated.Plot.quantileLevels.Pairwise (· ≤ ·) ∧
    ∀ q ∈ Generated.Plot.quantileLevels, 0 ≤ q ∧ q ≤ 1 := by
  decide +kernel

/-- `np.quantile` (linear interpolation) is monotone in the level -/
theorem quantile_mono {xs : List Rat} (hne : xs ≠ []) {q q' : Rat} (h0 : 0 ≤ q) (h : q ≤ q') :
    quantile xs q ≤ quantile xs q' :=
  quantile_mono_all xs h0 h

/-- every quantile lies between the sample minimum and maximum (for every level: indices are
clamped to the sample) -/
theorem min_le_quantile_le_max (xs : List Rat) (q : Rat) :
    minimum xs ≤ quantile xs q ∧ quantile xs q ≤ maximum xs :=
  quantile_bounds xs q

/-- the quantile entries of a sample summary, in field order (= ascending stated level, see
`quantile_levels_named`), are non-decreasing -/
theorem summary_monotone {xs : List Rat} (hne : xs ≠ []) :
    (Generated.Plot.quantileLevels.map (quantile xs)).Pairwise (· ≤ ·) := by
  obtain ⟨hs, hb⟩ := quantile_levels_sorted
  rw [List.pairwise_map]
  exact hs.imp_of_mem fun {a b} ha _ hab => quantile_mono hne (hb a ha).1 hab

/-- shape of a sample summary: the five moments followed by the quantiles at the generated levels -/
theorem statValues_shape (xs : List Rat) :
    statValues xs = [.exact (mean xs), .exact (median xs), .sqrt (variance xs), .exact (minimum xs),
      .exact (maximum xs)] ++ (Generated.Plot.quantileLevels.map (quantile xs)).map .exact := by
  simp [statValues, Function.comp_def]

/-! ### 5. neighbours come from the same slice and period -/

/-- the predecessor and successor handed to a metric belong to the cell's own (metadata, period)
row — never to another slice -/
theorem neighbours_same_slice (t : List Cell) :
    ∀ kr ∈ slicePeriodRows t, ∀ tr ∈ rowTriples kr.2,
      tr.1 ∈ t ∧ rowKey tr.1 = kr.1 ∧
      (∀ p, tr.2.1 = some p → p ∈ t ∧ rowKey p = rowKey tr.1) ∧
      (∀ n, tr.2.2 = some n → n ∈ t ∧ rowKey n = rowKey tr.1) := by
  intro kr hkr tr htr
  obtain ⟨pre, post, hrow, hp, hn⟩ := mem_rowTriples htr
  obtain ⟨hct, kc⟩ := (mem_row_iff hkr).mp (hrow ▸ List.mem_append_right pre List.mem_cons_self)
  have hmem : ∀ d ∈ pre ++ tr.1 :: post, d ∈ t ∧ rowKey d = rowKey tr.1 := fun d hd =>
    ((mem_row_iff hkr).mp (hrow ▸ hd)).imp_right (·.trans kc.symm)
  refine ⟨hct, kc, fun p hpe => ?_, fun n hne => ?_⟩
  · exact hmem p (List.mem_append_left _ (List.mem_of_getLast? (hp ▸ hpe)))
  · exact hmem n (List.mem_append_right _ (List.mem_cons_of_mem _ (List.mem_of_head? (hn ▸ hne))))

/-! ### non-vacuity -/

/-- a two-evaluation row: the first cell's Paid ATA is next/own = 3/2, its loss ratio 100·2/4 = 50,
the second cell has no ATA -/
example :
    let c1 : Cell := { ps := ⟨2020, 1, 1⟩, pe := ⟨2020, 12, 31⟩, ev := ⟨2020, 12, 31⟩,
                       values := [("paid_loss", .int 2), ("earned_premium", .int 4)] }
    let c2 : Cell := { c1 with ev := ⟨2021, 12, 31⟩, values := [("paid_loss", .int 3), ("earned_premium", .int 4)] }
    (metricNamed "Paid ATA").map (safeApplyMetric · c1 none (some c2)) = some (some (.scalar ((3 : Rat) / 2))) ∧
    (metricNamed "Paid Loss Ratio").map (safeApplyMetric · c1 none (some c2)) = some (some (.scalar 50)) ∧
    (metricNamed "Paid ATA").map (safeApplyMetric · c2 (some c1) none) = some none := by
  decide +kernel

/-- the interpolation on an already sorted sample: the median of 1,2,3,4 is 5/2, the 2.5th
percentile 1 + 3/40 -/
example : interp [1, 2, 3, 4] (((1 : Rat) / 2) * (4 - 1)) = (5 : Rat) / 2 ∧
    interp [1, 2, 3, 4] (((1 : Rat) / 40) * (4 - 1)) = (43 : Rat) / 40 := by
  decide +kernel

/-! ### 6. the whole Spec holds on the model's output -/

/-- THE BRIDGE: on a valid triangle (no two cells share metadata, period and evaluation date; value
keys of a cell are distinct) the records computed by the model from the GENERATED tables satisfy
every clause of the Spec exactly (tolerance 0): one record per cell in order; every loss ratio,
pass-through and age-to-age summary is present exactly when its inputs are and carries the
statistics its names state, the age-to-age ones computed against the next evaluation of the same
slice and period; quantile entries monotone and between min and max. -/
theorem spec_holds_on_model (t : List Cell) (hv : ValidT t) :
    Spec.C20.holds 0 t (buildPlotData Generated.PlotMetrics.metrics t) = true := by
  unfold Spec.C20.holds
  simp only [Bool.and_eq_true]
  exact ⟨⟨⟨⟨⟨onePerCell_model _ t, valuesOk_model hv _⟩, valuesOk_model hv _⟩, valuesOk_model hv _⟩,
    absentOk_model hv⟩, monotoneOk_model _ t⟩

/-- the hypothesis is satisfiable: a two-slice, two-evaluation triangle -/
example :
    ValidT [{ ps := ⟨2020, 1, 1⟩, pe := ⟨2020, 12, 31⟩, ev := ⟨2020, 12, 31⟩,
              values := [("paid_loss", .int 2), ("earned_premium", .int 4)] },
            { ps := ⟨2020, 1, 1⟩, pe := ⟨2020, 12, 31⟩, ev := ⟨2021, 12, 31⟩,
              values := [("paid_loss", .int 3), ("earned_premium", .int 4)] },
            { ps := ⟨2020, 1, 1⟩, pe := ⟨2020, 12, 31⟩, ev := ⟨2020, 12, 31⟩, md := { country := some "DE" },
              values := [("paid_loss", .flt 1)] }] := by
  unfold ValidT
  constructor
  · decide +kernel
  · decide +kernel

/-! ### 7. the option `remove_empties` (records keep their empty summaries) -/

/-- **one record per cell, in cell order, for BOTH values of `remove_empties`**, carrying that cell's period,
evaluation date and development lag -/
theorem records_one_per_cell_in_order_opt (b : Bool) (ms : List Metric) (t : List Cell) :
    (buildPlotDataOpt b ms t).map (fun r => (r.base.ps, r.base.pe, r.base.ev, r.base.devLag)) =
      t.map (fun c => (c.ps, c.pe, c.ev, devLagMonths c.pe c.ev)) := by
  simp [buildPlotDataOpt, mkRecord, Cell.devLag, calculateDevLag, Function.comp_def]

/-- for both option values the records carry exactly the coordinates, fields and non-empty summaries of the
default call: every theorem about `buildPlotData` speaks about them, too -/
theorem records_base_eq (b : Bool) (ms : List Metric) (t : List Cell) :
    (buildPlotDataOpt b ms t).map (·.base) = buildPlotData ms t := base_eq b ms t

/-- with `remove_empties=False` every record of a valid triangle has one slot per metric of the table, in table
order; a slot is empty exactly when the default call has no summary under that name -/
theorem record_slots {t : List Cell} (hv : ValidT t) (ms : List Metric) {c : Cell} (hc : c ∈ t) :
    (lookupLastAll c (fieldSummariesAll ms t)).map (·.1) = ms.map (toSnake ·.name) ∧
    nonEmpty (lookupLastAll c (fieldSummariesAll ms t)) = lookupLast c (fieldSummaries ms t) :=
  ⟨own_entries_names hv ms hc, by rw [fieldSummaries_eq_map, lookupLast_map]⟩

/-- THE BRIDGE for both option values: the WHOLE Spec (`holds` on the records — one per cell in order, values,
absent inputs, monotone — plus slots and tooltip sources) holds on the model's output -/
theorem spec_holds_on_model_opt (b : Bool) (t : List Cell) (hv : ValidT t) :
    Spec.C20.holdsOpt b 0 t (buildPlotDataOpt b Generated.PlotMetrics.metrics t) = true := by
  unfold Spec.C20.holdsOpt
  simp only [Bool.and_eq_true]
  refine ⟨⟨?_, entriesOk_model hv b⟩, tooltipOk_model b _ t⟩
  rw [base_eq]
  exact spec_holds_on_model t hv

/-- non-vacuity: a cell without premium keeps an EMPTY loss-ratio slot with remove_empties=False and the
tooltip is joined from the fields the cell holds -/
example :
    let t : List Cell := [{ ps := ⟨2020, 1, 1⟩, pe := ⟨2020, 12, 31⟩, ev := ⟨2020, 12, 31⟩,
                            values := [("paid_loss", .int 2)] }]
    ((buildPlotDataOpt false Generated.PlotMetrics.metrics t).map fun r =>
        (r.entries.length, r.entries.lookup "paid_loss_ratio", (r.entries.lookup "paid_loss").map (·.isSome),
         r.tooltip)) = [(12, some none, some true, ["paid_loss"])] ∧
    ((buildPlotDataOpt true Generated.PlotMetrics.metrics t).map fun r => r.entries.map (·.1)) =
      [["paid_loss"]] := by
  decide +kernel

/-! ### 8. what the statistics ARE, independently of the model's formulas

`Spec.statOf` names the model's `mean / median / variance / quantile / minimum / maximum`. The theorems of this section
characterise those functions without reference to their defining formulas: order statistics are THE ascending
rearrangement of the sample; the p-quantile is the k-th order statistic at the grid point p = k/(n−1) and the linear
interpolation of its two neighbours in between (numpy's default method "linear"), hence min at 0, max at 1 and the median
at 1/2; `mean · n = Σ`; the variance is the POPULATION variance. (The harness recomputes every statistic once more with
`fractions` from these characterisations — `percentile`, `py_spec` — which is the oracle for the implementation.) -/

/-- the sorted sample is an ascending rearrangement of the sample … -/
theorem order_statistics (xs : List Rat) : (sortRat xs).Perm xs ∧ (sortRat xs).Pairwise (· ≤ ·) :=
  ⟨List.mergeSort_perm xs _, sortRat_sorted xs⟩

/-- the order statistics are determined by the sample alone: ANY ascending rearrangement of `xs` is `sortRat xs` -/
theorem sortRat_unique {xs l : List Rat} (hp : l.Perm xs) (hs : SortedR l) : l = sortRat xs := by
  have hp2 : l.Perm (sortRat xs) := hp.trans (List.mergeSort_perm xs _).symm
  exact hp2.eq_of_pairwise (le := (· ≤ ·)) (fun a b _ _ h1 h2 => le_antisymm h1 h2) hs (sortRat_sorted xs)

/-- `minimum` is the least element of the sample, `maximum` the greatest (and they are what the Spec's own folds
`minOf` / `maxOf` compute) -/
theorem minimum_is_least (xs : List Rat) (hne : xs ≠ []) :
    minimum xs ∈ xs ∧ (∀ x ∈ xs, minimum xs ≤ x) ∧ Spec.C20.minOf xs = minimum xs := by
  have hs := sortRat_ne_nil hne
  exact ⟨mem_sortRat.mp (nth_mem hs 0), fun x hx => first_le_mem (sortRat_sorted xs) (mem_sortRat.mpr hx),
    minOf_eq_minimum xs⟩

theorem maximum_is_greatest (xs : List Rat) (hne : xs ≠ []) :
    maximum xs ∈ xs ∧ (∀ x ∈ xs, x ≤ maximum xs) ∧ Spec.C20.maxOf xs = maximum xs := by
  have hs := sortRat_ne_nil hne
  refine ⟨mem_sortRat.mp (nth_mem hs _), fun x hx => ?_, maxOf_eq_maximum xs⟩
  have := mem_le_last (sortRat_sorted xs) (mem_sortRat.mpr hx)
  rwa [sortRat_length] at this

/-- the virtual index `h` lies in `[k, k+1)`: the quantile is the linear interpolation of the two neighbouring
order statistics -/
theorem quantile_between (xs : List Rat) (q : Rat) (k : Nat)
    (h1 : (k : Rat) ≤ q * ((xs.length : Rat) - 1)) (h2 : q * ((xs.length : Rat) - 1) < (k : Rat) + 1) :
    quantile xs q =
      (1 - (q * ((xs.length : Rat) - 1) - k)) * nth (sortRat xs) k +
        (q * ((xs.length : Rat) - 1) - k) * nth (sortRat xs) (k + 1) :=
  interp_between (sortRat xs) _ k h1 h2

/-- at the grid point `k/(n−1)` the quantile IS the k-th order statistic -/
theorem quantile_at_grid (xs : List Rat) (k : Nat) (hn : 2 ≤ xs.length) :
    quantile xs ((k : Rat) / ((xs.length : Rat) - 1)) = nth (sortRat xs) k := by
  have hne : (xs.length : Rat) - 1 ≠ 0 := by
    have : (2 : Rat) ≤ (xs.length : Rat) := by exact_mod_cast hn
    intro h; linarith
  rw [quantile_eq_interp, div_mul_cancel₀ _ hne, interp_natCast]

theorem quantile_zero (xs : List Rat) : quantile xs 0 = minimum xs := by
  rw [quantile_eq_interp, zero_mul, ← Nat.cast_zero, interp_natCast]; rfl

theorem quantile_one (xs : List Rat) (hne : xs ≠ []) : quantile xs 1 = maximum xs := by
  have hl : 1 ≤ xs.length := List.length_pos_iff.mpr hne
  rw [quantile_eq_interp, one_mul, ← Nat.cast_one, ← Nat.cast_sub hl, interp_natCast]; rfl

/-- `np.median` is the 50th percentile -/
theorem median_eq_quantile_half (xs : List Rat) (hne : xs ≠ []) : median xs = quantile xs (1 / 2) := by
  have hl : 1 ≤ xs.length := List.length_pos_iff.mpr hne
  rw [quantile_eq_interp]
  unfold median
  rcases Nat.even_or_odd' xs.length with ⟨m, hm | hm⟩
  · -- n = 2m, m ≥ 1: the virtual index is (m - 1) + 1/2
    have hm1 : 1 ≤ m := by omega
    have hh : (1 / 2 : Rat) * ((xs.length : Rat) - 1) = ((m - 1 : Nat) : Rat) + 1 / 2 := by
      rw [hm, Nat.cast_sub hm1]; push_cast; ring
    have h1 : xs.length % 2 = 0 := by omega
    have h2 : xs.length / 2 = m := by omega
    have h3 : m - 1 + 1 = m := by omega
    rw [hh, interp_add_half, h3]
    simp only [h1, h2]
    exact if_neg (by decide)
  · -- n = 2m+1: the virtual index is m
    have hh : (1 / 2 : Rat) * ((xs.length : Rat) - 1) = (m : Rat) := by
      rw [hm]; push_cast; ring
    have h1 : xs.length % 2 = 1 := by omega
    have h2 : xs.length / 2 = m := by omega
    rw [hh, interp_natCast]
    simp only [h1, h2]
    exact if_pos (by decide)

/-- `sum` is the plain recursion -/
theorem sum_rec : sum [] = 0 ∧ ∀ (x : Rat) (xs : List Rat), sum (x :: xs) = x + sum xs := ⟨rfl, sum_cons⟩

theorem mean_mul_length (xs : List Rat) (hne : xs ≠ []) : mean xs * (xs.length : Rat) = sum xs := by
  have hl : (xs.length : Rat) ≠ 0 := Nat.cast_ne_zero.mpr (List.length_pos_iff.mpr hne).ne'
  unfold mean; field_simp

/-- POPULATION variance (numpy's default `ddof=0`): for two points it is the squared half distance -/
theorem variance_pair (a b : Rat) : variance [a, b] = ((a - b) / 2) ^ 2 := by
  simp only [variance, mean, sum, List.foldl_cons, List.foldl_nil, List.map_cons, List.map_nil, List.length_cons,
    List.length_nil]
  push_cast
  ring

/-- the population variance is the mean of the squares minus the square of the mean -/
theorem variance_eq_mean_sq (xs : List Rat) (hne : xs ≠ []) :
    variance xs = mean (xs.map fun x => x * x) - mean xs * mean xs := by
  have hl : (xs.length : Rat) ≠ 0 := Nat.cast_ne_zero.mpr (List.length_pos_iff.mpr hne).ne'
  unfold variance
  simp only [sum_map_sq_sub]
  unfold mean
  rw [List.length_map]
  field_simp
  ring

/-- the convention pinned on numbers: the variance of {1, 3} is 1 (a sample variance, ddof = 1, would be 2) -/
example : variance [1, 3] = 1 ∧ variance [1, 3] ≠ 2 ∧ mean [1, 3] = 2 := by
  decide +kernel

/-- … and on a sample given out of order: the order statistics of 5,3,1,2,4 are 1..5, the lower quartile is the
order statistic 2 (grid point 1/4 = 1/(5−1)), the median 3, the extremes 1 and 5 -/
example : sortRat [5, 3, 1, 2, 4] = [1, 2, 3, 4, 5] ∧ quantile [5, 3, 1, 2, 4] (1 / 4) = 2 ∧
    median [5, 3, 1, 2, 4] = 3 ∧ quantile [5, 3, 1, 2, 4] 0 = 1 ∧ quantile [5, 3, 1, 2, 4] 1 = 5 := by
  have hs : sortRat [5, 3, 1, 2, 4] = [1, 2, 3, 4, 5] :=
    (sortRat_unique (l := [1, 2, 3, 4, 5]) (by decide) (by simp [SortedR]; norm_num)).symm
  have hq : quantile [5, 3, 1, 2, 4] (1 / 4) = 2 := by
    have := quantile_at_grid [5, 3, 1, 2, 4] 1 (by simp)
    simp only [List.length_cons, List.length_nil] at this
    norm_num at this
    rw [this, hs]; rfl
  refine ⟨hs, hq, ?_, ?_, ?_⟩
  · rw [median_eq_quantile_half _ (by simp)]
    have := quantile_at_grid [5, 3, 1, 2, 4] 2 (by simp)
    simp only [List.length_cons, List.length_nil] at this
    norm_num at this
    rw [this, hs]; rfl
  · rw [quantile_zero, minimum, hs]; rfl
  · rw [quantile_one _ (by simp), maximum, hs]; rfl

/-! ### 9. the domain hypothesis `ValidT` is necessary -/

/-- two cells of one slice and period that share the evaluation date (other values) are outside `ValidT`, and the
conclusion of `spec_holds_on_model` FAILS there: the first one is handed its twin as "next evaluation", so it carries a
Paid ATA (4/2 = 2) although no later evaluation exists — "absent inputs yield no summary" is false, and so is the whole
Spec. (The implementation does the same: the model follows `zip(row, …, row[1:])`.) -/
theorem validT_necessary :
    ¬ ValidT [dupA, dupB] ∧
    ((buildPlotData Generated.PlotMetrics.metrics [dupA, dupB]).map
        fun r => (r.metrics.lookup "paid_ata").map (·.stats)) = [some [("mean", .exact 2)], none] ∧
    Spec.C20.absentOk [dupA, dupB] (buildPlotData Generated.PlotMetrics.metrics [dupA, dupB]) = false ∧
    Spec.C20.holds 0 [dupA, dupB] (buildPlotData Generated.PlotMetrics.metrics [dupA, dupB]) = false := by
  have h3 : Spec.C20.absentOk [dupA, dupB] (buildPlotData Generated.PlotMetrics.metrics [dupA, dupB]) = false := by
    unfold buildPlotData; rw [fieldSummaries_two]; decide +kernel
  refine ⟨?_, by unfold buildPlotData; rw [fieldSummaries_two]; decide +kernel, h3, ?_⟩
  · intro h
    exact List.rel_of_pairwise_cons h.1 List.mem_cons_self ⟨rfl, rfl⟩
  · simp [Spec.C20.holds, h3]

/-! ### 10. the options `flat` and `keep_samples` -/

/-- **`flat=True` loses nothing**: for every cell of a valid triangle and both values of `remove_empties`, looking the
flat key `<metric>_<stat>` of ANY metric of the table and ANY statistic name up in the flattened record gives exactly
the nested record's `record[metric][stat]` (absent ⇔ absent) — although `paid_loss` is a prefix of `paid_loss_ratio`
(`flatInj_requiredStats`: `flatKey` is injective on the statistic names whatever the metric names are; the Bool check
`flat_keys_injective` says it of the table's metric names). An empty summary leaves no key (`flattenSummaries` runs over the non-empty summaries). -/
theorem flat_unflat {t : List Cell} (hv : ValidT t) (b : Bool) {c : Cell} (hc : c ∈ t)
    {m k : String} (hm : m ∈ Spec.C20.table.map (·.1)) (hk : k ∈ Spec.C20.requiredStats) :
    let ne := nonEmpty (keepEntries b (lookupLastAll c (fieldSummariesAll Generated.PlotMetrics.metrics t)))
    (flattenSummaries ne).lookup (flatKey m k) = (ne.lookup m).bind fun s => s.stats.lookup k := by
  intro ne
  have hne : ne = lookupLast c (fieldSummaries Generated.PlotMetrics.metrics t) := by
    show nonEmpty (keepEntries b _) = _
    rw [nonEmpty_keep, fieldSummaries_eq_map, lookupLast_map]
  obtain ⟨p, hp⟩ := own_entry hv Generated.PlotMetrics.metrics hc
  rw [hne, hp]
  have hnd : ((cellSummaries Generated.PlotMetrics.metrics c p (Spec.C20.nextInSlice t c)).map (·.1)).Nodup := by
    have hms : (Generated.PlotMetrics.metrics.map (toSnake ·.name)).Nodup := by
      rw [metric_names_eq]; exact table_names_nodup
    rw [absent_input_no_summary]
    exact (List.filter_sublist.map _).nodup hms
  refine flat_unflat_lookup flatInj_requiredStats _ ?_ hnd m hk
  intro e he kv hkv
  obtain ⟨mv, hmv⟩ := mem_cellSummaries he
  rw [hmv] at hkv
  exact fieldSummary_keys mv kv hkv

/-- **`keep_samples` changes no statistic**: the summary (every statistic, `is_forecast`) is the one of the default
call, for every metric value -/
theorem keepSamples_stats_unchanged (keep : Bool) (mv : MV) :
    (fieldSummaryK keep mv).summary = fieldSummary mv := rfl

/-- slot by slot: with either value of `keep_samples` the slots of a cell carry the summaries of `cellSummariesAll` -/
theorem keepSamples_slots_unchanged (keep : Bool) (ms : List Metric) (c : Cell) (p n : Option Cell) :
    (cellSummariesAllK keep ms c p n).map (fun e => (e.1, e.2.map (·.summary))) = cellSummariesAll ms c p n := by
  unfold cellSummariesAllK cellSummariesAll
  rw [List.map_map]
  apply List.map_congr_left
  intro m _
  simp only [Function.comp]
  cases h : safeApplyMetric m c p n <;> simp [fieldSummaryK]

/-- what `keep_samples=True` keeps: for a metric with at least two samples the dict `{0: x₀, …, n−1: xₙ₋₁}` — keys
0..n−1 in order, values the metric's own samples in order; a scalar or single-sample metric keeps its mean; without
the flag the entry is the mean -/
theorem keepSamples_metric_entry (x y : Rat) (xs : List Rat) (q : Rat) :
    metricEntry true (.sample (x :: y :: xs)) = .samples (enumerate (x :: y :: xs)) ∧
    (enumerate (x :: y :: xs)).map (·.1) = List.range (xs.length + 2) ∧
    (enumerate (x :: y :: xs)).map (·.2) = x :: y :: xs ∧
    metricEntry false (.sample (x :: y :: xs)) = .mean (mean (x :: y :: xs)) ∧
    metricEntry true (.scalar q) = .mean q ∧ metricEntry true (.sample [x]) = .mean x := by
  refine ⟨rfl, ?_, ?_, rfl, rfl, rfl⟩
  · unfold enumerate
    rw [List.map_fst_zip]
    · simp
    · simp
  · unfold enumerate
    rw [List.map_snd_zip]
    simp

/-- Spec bridge for the flat records: the model's flat record is, by definition, the flattening of its nested one -/
theorem flatOk_model (r : RecordE) : Spec.C20.flatOk r (flattenSummaries r.base.metrics) = true := by
  unfold Spec.C20.flatOk; exact beq_self_eq_true _

/-- Spec bridge: the model's `metric` entries of a cell (row successor = next evaluation of the same slice and period)
satisfy `keptOk` exactly, for both values of the flag -/
theorem keptOk_model (keep : Bool) (t : List Cell) (c : Cell) (p : Option Cell) :
    Spec.C20.keptOk 0 keep t c (metricEntries keep Generated.PlotMetrics.metrics c p (Spec.C20.nextInSlice t c)) = true := by
  unfold Spec.C20.keptOk
  rw [List.all_eq_true]
  intro e he
  rw [show (metricEntries keep Generated.PlotMetrics.metrics c p (Spec.C20.nextInSlice t c)).lookup e.1 = _ from
    lookup_metrics_table (metricEntry keep) c p _ he, expected_eq]
  cases expectedWith c (Spec.C20.nextInSlice t c) e.2 with
  | none => rfl
  | some mv => exact entryApprox_self _

end Bermuda.Properties.C20
