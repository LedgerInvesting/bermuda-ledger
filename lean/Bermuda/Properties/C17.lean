/-
C17 — Resampling keeps triangle structure: bootstrap, thin and moment_match.
The property theorems, with the two predicates their statements need (`TagRel`, `ValidDraw`); the lemmas are in
`Lemmas/Resample*.lean`. Where a theorem here has the statement of a lemma there (`chain_step_ok`, `rows_by_lag`,
`uniq_period_lag`, …) the lemma is the one other proofs use and the theorem is the property's named form of it.

PARTIAL by design: numpy's RNG is a PARAMETER of the model (the index vector of `thin`, the drawn
samples of `moment_match`, the index draws of the age-to-age bootstrap, the uniform draws of the
maximum-entropy bootstrap); every theorem below holds for EVERY value of these parameters.
INSIDE the model (the guards before section 7, sections 7-9), over exact rationals: the whole arithmetic of
`maximum_entropy_ensemble` (limits, interval ends, mean-preserving shift, quantile function, sort, rank
re-imposition), the empirical age-to-age factors with the chained product of `_develop_triangle_by_atas`,
and the moments / gamma parameters handed to the sampler of `moment_match`.
OUTSIDE: what the draws' DISTRIBUTIONS are (volume weights of `rng.choice`, uniformity, the samplers
`np.random.normal/lognormal/gamma`, hence the realised mean/variance of moment-matched samples), the
lognormal parameters (log / sqrt), and float64 rounding (harness: relative tolerance 2^-40).
-/
import Bermuda.Model.Resample
import Bermuda.Spec.C17
import Bermuda.Lemmas.Resample
import Bermuda.Lemmas.ResampleSpec
import Bermuda.Lemmas.ResampleExt
import Bermuda.Lemmas.ResampleME
import Bermuda.Lemmas.ResampleATA
import Bermuda.Lemmas.ResampleMESpec
import Bermuda.Lemmas.ResampleBoot
import Bermuda.Lemmas.ResampleCW
import Bermuda.Lemmas.ResampleChain
import Bermuda.Lemmas.ResampleRows
import Bermuda.Lemmas.ResampleMulti
import Bermuda.Lemmas.ResampleExamples
namespace Bermuda.Properties.C17
open Bermuda Bermuda.Resample

/-! ### 1. re-imposing a rank order (last step of `maximum_entropy_ensemble`, `_sort_x_on_y_rank`) -/

theorem reimposeRank_length (xs qs : List Rat) : (reimposeRank xs qs).length = xs.length :=
  Resample.reimposeRank_length xs qs

/-- **reimposeRank_order.** The result carries the rank order of the source:
`xs[i] < xs[j] → r[i] ≤ r[j]`, for every vector `qs` of the right length. -/
theorem reimposeRank_order {xs qs : List Rat} (hl : qs.length = xs.length) {i j : Nat}
    (hi : i < xs.length) (hj : j < xs.length) (h : xs.getD i 0 < xs.getD j 0) :
    (reimposeRank xs qs).getD i 0 ≤ (reimposeRank xs qs).getD j 0 :=
  reimposeRank_order_le (by omega) hi hj h

/-- **reimposeRank_perm.** The result is a rearrangement of `qs`: nothing is invented or lost. -/
theorem reimposeRank_perm {xs qs : List Rat} (hl : qs.length = xs.length) :
    (reimposeRank xs qs).Perm qs :=
  reimposeRank_perm' hl

/-- ties in the source are broken by position (`sorted([v, i] ...)`): distinct positions get
distinct ranks -/
theorem rank_injective {xs : List Rat} {i j : Nat} (hi : i < xs.length) (hj : j < xs.length)
    (h : rank xs i = rank xs j) : i = j :=
  rank_injOn hi hj h

/-- non-vacuity (the series of Vinod's example, x = [4,12,36,20,8]): ranks, and the theorems apply -/
example : (List.range 5).map (rank [4, 12, 36, 20, 8]) = [0, 2, 4, 3, 1] := by decide +kernel
example : (reimposeRank [4, 12, 36, 20, 8] [5, 1, 4, 2, 3]).Perm [5, 1, 4, 2, 3] :=
  reimposeRank_perm rfl

/-! ### 2. `_develop_triangle_by_atas`, for EVERY factor table -/

/-- **develop_first_unchanged.** On a canonical triangle, whatever the resampled factors are, the
earliest development cell of every period comes back unchanged (the very same cell). -/
theorem develop_first_unchanged {t out : List Cell} {F : Factors} (h : developByAtas t F = .ok out)
    (hk : kindsConsistent t = true) (hs : t.Pairwise (fun a b => Cell.le a b)) :
    List.Forall₂ (fun c o => initialLag t (c.ps, c.pe) = some c.devLag → o = c) t out :=
  List.Forall₂.imp (fun _ _ h => h.2.2.1) (developByAtas_rel h hk hs)

/-- **develop_coords_fields.** … and every cell keeps its coordinates (period, dates, metadata) and
class; its values are its own values updated (`{**cell.values, **developed}`), so no field is lost. -/
theorem develop_coords_fields {t out : List Cell} {F : Factors} (h : developByAtas t F = .ok out)
    (hk : kindsConsistent t = true) (hs : t.Pairwise (fun a b => Cell.le a b)) :
    List.Forall₂ (fun c o => o.coord = c.coord ∧ o.kind = c.kind ∧
      ∃ its, o.values = Dict.union c.values its) t out :=
  List.Forall₂.imp (fun _ _ h => ⟨h.1, h.2.1, h.2.2.2⟩) (developByAtas_rel h hk hs)

/-! ### 3. bootstrap: number of replicates -/

/-- **bootstrap_count.** A successful bootstrap of a non-empty triangle returns exactly `n`
replicates, for every factor table / quantile vector. -/
theorem bootstrap_count {t : List Cell} {n : Int} {field : Option (List String)}
    {P : Nat → Nat → RepParam} {reps : List (List Cell)}
    (h : bootstrap t n field P = .ok reps) (hne : Triangle.slices t ≠ []) :
    reps.length = n.toNat :=
  (bootstrapWith_ok (bootstrap_eq_with t n field P ▸ h)).1 hne

/-- `n ≤ 0` is refused -/
theorem bootstrap_refuses_nonpositive {t : List Cell} {n : Int} {field : Option (List String)}
    {P : Nat → Nat → RepParam} (h : n ≤ 0) : bootstrap t n field P = .error .valueError := by
  simp [bootstrap, h]

/-- every slice yields `n` replicates -/
theorem bootstrapSlice_count {s : List Cell} {n : Nat} {field : Option (List String)}
    {P : Nat → RepParam} {reps : List (List Cell)} (h : bootstrapSlice s n field P = .ok reps) :
    reps.length = n := by
  simpa using mapMExcept_length h

/-- what replicate `i` may do to a cell `c` of `t`: same period and dates, same class, the
metadata of `c` with the extra detail `bootstrap = i`, every field name of `c` still there, and no
field name that does not occur somewhere in `t` -/
def TagRel (t : List Cell) (i : Nat) (c o : Cell) : Prop :=
  o.ps = c.ps ∧ o.pe = c.pe ∧ o.ev = c.ev ∧ o.prev = c.prev ∧ o.kind = c.kind ∧
  o.md = c.md.edit (.detail "bootstrap" (.num (i : Rat))) ∧
  (∀ f ∈ c.values.keys, f ∈ o.values.keys) ∧ (∀ f ∈ o.values.keys, ∃ c' ∈ t, f ∈ c'.values.keys)

/-- **bootstrap_structure (multiset form).** For EVERY factor table and quantile vector: replicate
`i` is, up to order, the cells of `t` (up to order) each transformed by `tagCell i` after a
change that keeps coordinates, class and field names (`PreRel`). -/
theorem bootstrap_structure_perm {t : List Cell} {n : Int} {field : Option (List String)}
    {P : Nat → Nat → RepParam} {reps : List (List Cell)}
    (h : bootstrap t n field P = .ok reps) (hk : kindsConsistent t = true) :
    ∀ i (hi : i < reps.length), ∃ t' l, t'.Perm t ∧ reps[i].Perm (l.map (tagCell i)) ∧
      List.Forall₂ (PreRel t) t' l := by
  intro i hi
  obtain ⟨t', l, h1, h2, hf⟩ := bootstrap_cells h hk i hi
  exact ⟨t', l, h1, h2, hf.imp fun c o ⟨s, hs, _, hr⟩ => hr.1.of_slice hk hs⟩

/-- **bootstrap_structure.** For EVERY factor table and quantile vector, replicate `i` has as many
cells as `t`; every cell of `t` has a counterpart in it and every cell of it comes from a cell of
`t`, the counterpart having the same period and dates, the same class, the same metadata plus the
detail `bootstrap = i` (hence the same slices, each tagged), every field name of the source cell
and no field name foreign to `t`. Together with `bootstrap_count`: exactly `n` such replicates. -/
theorem bootstrap_structure {t : List Cell} {n : Int} {field : Option (List String)}
    {P : Nat → Nat → RepParam} {reps : List (List Cell)}
    (h : bootstrap t n field P = .ok reps) (hk : kindsConsistent t = true) :
    ∀ i (hi : i < reps.length), reps[i].length = t.length ∧
      (∀ c ∈ t, ∃ o ∈ reps[i], TagRel t i c o) ∧ (∀ o ∈ reps[i], ∃ c ∈ t, TagRel t i c o) := by
  intro i hi
  obtain ⟨t', l, hpt, hpr, hf⟩ := bootstrap_structure_perm h hk i hi
  have hf' : List.Forall₂ (TagRel t i) t' (l.map (tagCell i)) := by
    refine List.forall₂_map_right_iff.mpr (List.Forall₂.imp ?_ hf)
    rintro c o ⟨h1, h2, h3, h4⟩
    obtain ⟨g1, g2, g3, g4, g5⟩ := Cell.coord_eq_iff.mp h1
    exact ⟨g2, g3, g4, g5, h2, by simp [tagCell, g1], h3, h4⟩
  refine ⟨?_, ?_, ?_⟩
  · rw [hpr.length_eq, ← hpt.length_eq]
    exact hf'.length_eq.symm
  · intro c hc
    obtain ⟨o, ho, hr⟩ := forall₂_mem_left hf' c (hpt.mem_iff.mpr hc)
    exact ⟨o, hpr.mem_iff.mpr ho, hr⟩
  · intro o ho
    obtain ⟨c, hc, hr⟩ := forall₂_mem_right hf' o (hpr.mem_iff.mp ho)
    exact ⟨c, hpt.mem_iff.mp hc, hr⟩

/-- **spec_bootstrap_structure** (bridge). `Spec.C17.bootstrapStructureOk` — the verdict `structure` of the
driver — is true of the model's replicates: `n` of them, each with one cell at every source coordinate (metadata
tagged `bootstrap = i`), of the same class and with EXACTLY the source cell's field names. Hypotheses the Bool
predicate needs beyond `bootstrap_structure`: coordinates pairwise distinct (the predicate looks cells up by
coordinate), the tag keeps slices apart (`TagInjective`: false only if two slices differ in nothing but a
`bootstrap` detail), and every cell carries every field name of the triangle (`UniformFields`; otherwise a
developed cell may inherit a field name from the previous cell of its row and only `TagRel`'s ⊇ holds). -/
theorem spec_bootstrap_structure {t : List Cell} {n : Int} {field : Option (List String)}
    {P : Nat → Nat → RepParam} {reps : List (List Cell)}
    (h : bootstrap t n field P = .ok reps) (hk : kindsConsistent t = true) (hne : Triangle.slices t ≠ [])
    (hnd : (t.map (·.coord)).Nodup) (hinj : ∀ i, TagInjective t i) (hU : UniformFields t) :
    Spec.C17.bootstrapStructureOk t n.toNat reps = true := by
  simp only [Spec.C17.bootstrapStructureOk, bootstrap_count h hne, beq_self_eq_true, Bool.true_and,
    List.all_eq_true]
  rintro ⟨rep, i⟩ hm
  have hget : reps[i]? = some rep := by simpa using List.mem_zipIdx_iff_getElem?.mp hm
  obtain ⟨hi, rfl⟩ := List.getElem?_eq_some_iff.mp hget
  obtain ⟨t', l, hpt, hpr, hf⟩ := bootstrap_structure_perm h hk i hi
  exact replicateStructureOk_model hpr hf hpt hnd (hinj i) hU

/-- **bootstrap_first_unchanged.** `develop_first_unchanged` lifted through `_bootstrap_slice`, the bootstrap
tag and `sum(boot)` to the RESULT of `bootstrap` (canonical source, EVERY factor table and quantile vector): a
cell that is the earliest development cell of its period in a slice routed to the age-to-age method has, in
every replicate `i`, exactly one counterpart at its coordinates, and that counterpart is the cell itself with
only the detail `bootstrap = i` added — all values unchanged. -/
theorem bootstrap_first_unchanged {t : List Cell} {n : Int} {field : Option (List String)}
    {P : Nat → Nat → RepParam} {reps : List (List Cell)}
    (h : bootstrap t n field P = .ok reps) (hk : kindsConsistent t = true)
    (hs : t.Pairwise (fun a b => Cell.le a b)) (hnd : (t.map (·.coord)).Nodup) (hinj : ∀ i, TagInjective t i) :
    ∀ i (hi : i < reps.length), ∀ c ∈ t, useAtas (Spec.C17.sliceOf t c) = true →
      initialLag (Spec.C17.sliceOf t c) (c.ps, c.pe) = some c.devLag →
      Spec.C17.repCell reps[i] c i = some (tagCell i c) := by
  intro i hi c hc hu hinit
  obtain ⟨t', l, hpt, hpr, hf⟩ := bootstrap_structure_first h hk hs i hi
  obtain ⟨o, ⟨_, hfirst⟩, hrep⟩ := repCell_of_pairing (fun _ _ h => h.1.1) hpr hf hpt hnd (hinj i) c hc
  rw [hrep, hfirst hu hinit]

/-- **spec_first_unchanged** (bridge). `Spec.C17.firstCellsUnchanged` — the verdict `first` of the driver — is
true of every replicate of the model (field names within a cell distinct, as in a Python dict) -/
theorem spec_first_unchanged {t : List Cell} {n : Int} {field : Option (List String)}
    {P : Nat → Nat → RepParam} {reps : List (List Cell)}
    (h : bootstrap t n field P = .ok reps) (hk : kindsConsistent t = true)
    (hs : t.Pairwise (fun a b => Cell.le a b)) (hnd : (t.map (·.coord)).Nodup) (hinj : ∀ i, TagInjective t i)
    (hwf : ∀ c ∈ t, c.values.keys.Nodup) :
    ∀ i (hi : i < reps.length), Spec.C17.firstCellsUnchanged t reps[i] i = true := by
  intro i hi
  obtain ⟨t', l, hpt, hpr, hf⟩ := bootstrap_structure_first h hk hs i hi
  exact firstCellsUnchanged_model hpr hf hpt hnd (hinj i) hwf

/-- both bridges for the model that takes numpy's index draws (`bootstrapD`), as the driver runs it -/
theorem spec_bootstrapD {t : List Cell} {n : Int} {field : Option (List String)}
    {D : Nat → Nat → Draws} {reps : List (List Cell)}
    (h : bootstrapD t n field D = .ok reps) (hk : kindsConsistent t = true)
    (hs : t.Pairwise (fun a b => Cell.le a b)) (hne : Triangle.slices t ≠ [])
    (hnd : (t.map (·.coord)).Nodup) (hinj : ∀ i, TagInjective t i) (hU : UniformFields t)
    (hwf : ∀ c ∈ t, c.values.keys.Nodup) :
    Spec.C17.bootstrapStructureOk t n.toNat reps = true ∧
    ∀ i (hi : i < reps.length), Spec.C17.firstCellsUnchanged t reps[i] i = true :=
  ⟨spec_bootstrap_structure (bootstrapD_eq h) hk hne hnd hinj hU,
   spec_first_unchanged (bootstrapD_eq h) hk hs hnd hinj hwf⟩

/-! ### 4. thin -/

/-- **thin_eq_self.** `k` equal to the sample count returns the triangle itself. -/
theorem thin_eq_self {t : List Cell} {n : Nat} (idx : List Nat) (h : numSamples t = .ok n) :
    thin t n idx = .ok .same :=
  Resample.thin_eq_self idx h

/-- **thin_error.** A larger `k` is refused. -/
theorem thin_error {t : List Cell} {n k : Nat} (idx : List Nat) (h : numSamples t = .ok n)
    (hk : n < k) : thin t k idx = .error .valueError :=
  Resample.thin_error idx h hk

/-- **thin_same_positions.** Otherwise, for EVERY index vector, the result is the same triangle
cell by cell with ONE `gather idx` applied to every array holding more than one sample. -/
theorem thin_same_positions {t out : List Cell} {k : Nat} {idx : List Nat}
    (h : thin t k idx = .ok (.fresh out)) (hk : kindsConsistent t = true)
    (hs : t.Pairwise (fun a b => Cell.le a b)) :
    out = t.map (thinCell idx) ∧
    ∀ c ∈ t, (thinCell idx c).coord = c.coord ∧ (thinCell idx c).kind = c.kind ∧
      (thinCell idx c).values = c.values.map (fun (f, v) => (f, thinVal idx v)) :=
  ⟨thin_fresh h hk hs, fun _ _ => ⟨rfl, rfl, rfl⟩⟩

/-- what `rng.choice(n, size=k, replace=False)` guarantees about its result (the interface fact about the draw;
the harness asserts the recorded call had `size == k`, `replace is False` and checks the three facts) -/
def ValidDraw (n k : Nat) (idx : List Nat) : Prop := idx.length = k ∧ idx.Nodup ∧ ∀ i ∈ idx, i < n

/-- **thin_positions_count.** For a valid draw every array of `n > 1` samples becomes an array of EXACTLY `k`
entries, the `j`-th being the source's sample at position `idx[j]`; the `k` positions are pairwise distinct and
in range, the same in every array of every cell (`thin_same_positions`) -/
theorem thin_positions_count {n k : Nat} {idx : List Nat} (hv : ValidDraw n k idx) (isInt : Bool) (m : Nat)
    (d : List Rat) (hd : d.length = n) (h1 : n > 1) :
    ∃ r, thinVal idx (.arr isInt [m] d) = .arr isInt [k] r ∧ r.length = k ∧
      (∀ j (hj : j < idx.length), r[j]? = d[idx[j]]? ∧ idx[j] < d.length) ∧
      ∀ j j' (hj : j < idx.length) (hj' : j' < idx.length), j ≠ j' → idx[j] ≠ idx[j'] := by
  obtain ⟨hk, hnd, hr⟩ := hv
  refine ⟨idx.map (d.getD · 0), ?_, by simp [hk], ?_, ?_⟩
  · have : d.length > 1 := by omega
    simp [thinVal, this, gather, hk]
  · intro j hj
    have hlt : idx[j] < d.length := by rw [hd]; exact hr _ (List.getElem_mem hj)
    refine ⟨?_, hlt⟩
    simp [hj, List.getD_eq_getElem?_getD, List.getElem?_eq_getElem hlt]
  · intro j j' hj hj' hne he
    exact hne ((List.Nodup.getElem_inj_iff hnd).mp he)

/-- what happens to an array: positions `idx`, in that order, nothing else -/
theorem thinVal_array (idx : List Nat) (isInt : Bool) (n : Nat) (d : List Rat) (h : d.length > 1) :
    thinVal idx (.arr isInt [n] d) = .arr isInt [idx.length] (idx.map (d.getD · 0)) := by
  simp [thinVal, h, gather]

/-- **thin_scalars_untouched.** Scalars, `None` and arrays with a single sample are untouched. -/
theorem thin_scalars_untouched (idx : List Nat) :
    (∀ i, thinVal idx (.int i) = .int i) ∧ (∀ q, thinVal idx (.flt q) = .flt q) ∧
    thinVal idx .none = .none ∧
    ∀ isInt n d, d.length ≤ 1 → thinVal idx (.arr isInt [n] d) = .arr isInt [n] d := by
  refine ⟨fun _ => rfl, fun _ => rfl, rfl, ?_⟩
  intro isInt n d h
  have : ¬ d.length > 1 := by omega
  simp [thinVal, this]

/-- non-vacuity -/
example : thinVal [2, 0] (.arr false [3] [10, 20, 30]) = .arr false [2] [30, 10] := by decide +kernel

/-! ### 5. moment_match -/

/-- what `_generate_samples` does to a value: an array keeps its length and shape and receives the
drawn vector in the source's rank order; anything else is returned as it is -/
theorem generateSamples_spec (drawn : List Rat) :
    (∀ isInt n d, generateSamples (.arr isInt [n] d) drawn = .arr false [n] (reimposeRank d drawn)) ∧
    (∀ i, generateSamples (.int i) drawn = .int i) ∧ (∀ q, generateSamples (.flt q) drawn = .flt q) ∧
    generateSamples .none drawn = .none :=
  ⟨fun _ _ _ => rfl, fun _ => rfl, fun _ => rfl, rfl⟩

/-- one field: every cell keeps coordinates and class, and its values are its own values with
that ONE field replaced (`Dict.set` keeps every other field and the key order) -/
theorem momentField_values {f : String} {draws : Nat → List Rat} {cs out : List Cell} {i : Nat}
    (h : momentField f draws i cs = .ok out) :
    List.Forall₂ (fun c o => o.coord = c.coord ∧ o.kind = c.kind ∧
      ∃ v drawn, (∃ j, drawn = draws j) ∧ c.values.get? f = some v ∧
        o.values = c.values.set f (generateSamples v drawn))
      cs out := by
  obtain ⟨hk, rfl⟩ := momentField_eq h
  refine forall₂_mapIdx fun k c hc => ?_
  obtain ⟨v, hv⟩ := Dict.get?_of_mem_keys (hk c hc)
  exact ⟨rfl, rfl, v, _, ⟨_, rfl⟩, hv, by rw [momStep, hv]; rfl⟩

/-- **momentMatch_structure.** For EVERY drawn vector, the result of `moment_match` on a canonical
triangle has the same cells (coordinates, class) in the same order; with `generateSamples_spec`
and `reimposeRank_length/order/perm`: selected arrays keep length and rank order. -/
theorem momentMatch_structure {t out : List Cell} {fields : List String} {distOk : Bool}
    {draws : Nat → String → List Rat} (h : momentMatch t fields distOk draws = .ok out)
    (hk : kindsConsistent t = true) (hs : t.Pairwise (fun a b => Cell.le a b)) :
    List.Forall₂ (fun c o => o.coord = c.coord ∧ o.kind = c.kind) t out :=
  momentLoop_rel (momentMatch_loop h) hk hs

/-- unknown field names are refused with `KeyError` -/
theorem momentMatch_refuses_unknown_field {t : List Cell} {fields : List String} {distOk : Bool}
    {draws : Nat → String → List Rat}
    (h : fields.any (fun f => !(fieldsOf t).contains f) = true) :
    momentMatch t fields distOk draws = .error .keyError := by
  unfold momentMatch
  rw [if_pos h]

/-- **momentMatch_other_fields.** For EVERY drawn vector: every cell keeps its field names (and
their order), and every field that is NOT selected reads exactly as before. -/
theorem momentMatch_other_fields {t out : List Cell} {fields : List String} {distOk : Bool}
    {draws : Nat → String → List Rat} (h : momentMatch t fields distOk draws = .ok out)
    (hk : kindsConsistent t = true) (hs : t.Pairwise (fun a b => Cell.le a b)) :
    List.Forall₂ (fun c o => o.coord = c.coord ∧ o.kind = c.kind ∧ o.values.keys = c.values.keys ∧
      ∀ f, f ∉ fields → o.values.get? f = c.values.get? f) t out := by
  obtain ⟨hkeys, rfl⟩ := momentLoop_eq (momentMatch_loop h) hk hs
  exact forall₂_mapIdx fun _ c hc =>
    ⟨(momCell_same _ _ c).1, (momCell_same _ _ c).2, momCell_keys (hkeys c hc), fun _ hf => momCell_get_of_not_mem c hf⟩

/-- **momentMatch_selected_fields.** … and a selected field (names given once) reads
`_generate_samples(old value, some drawn vector)`: by `generateSamples_spec` an array of the same
length and shape holding the drawn vector in the old samples' rank order (`reimposeRank_order`,
`reimposeRank_perm`), a scalar or `None` unchanged. -/
theorem momentMatch_selected_fields {t out : List Cell} {fields : List String} {distOk : Bool}
    {draws : Nat → String → List Rat} (h : momentMatch t fields distOk draws = .ok out)
    (hnd : fields.Nodup)
    (hk : kindsConsistent t = true) (hs : t.Pairwise (fun a b => Cell.le a b)) :
    List.Forall₂ (fun c o => ∀ f ∈ fields, ∃ v drawn, (∃ j, drawn = draws j f) ∧
      c.values.get? f = some v ∧ o.values.get? f = some (generateSamples v drawn)) t out := by
  obtain ⟨hkeys, rfl⟩ := momentLoop_eq (momentMatch_loop h) hk hs
  refine forall₂_mapIdx fun k c hc f hf => ?_
  obtain ⟨v, hv⟩ := Dict.get?_of_mem_keys (hkeys c hc f hf)
  exact ⟨v, _, ⟨k, rfl⟩, hv, momCell_get_of_mem hnd hf hv⟩

/-! ### 6. the executable Spec predicates hold on the model's outputs -/

/-- `Spec.C17.rankOrderOk`, `rankFixed`, `sameMultiset` — the three verdicts of the driver's
`reimpose` request — are true of `reimposeRank xs qs` -/
theorem spec_rank {xs qs : List Rat} (hl : qs.length = xs.length) :
    Spec.C17.rankOrderOk xs (reimposeRank xs qs) = true ∧
    Spec.C17.rankFixed xs (reimposeRank xs qs) = true ∧
    Spec.C17.sameMultiset qs (reimposeRank xs qs) = true :=
  ⟨rankOrderOk_reimpose_le hl.ge, rankFixed_reimpose hl, sameMultiset_reimpose hl⟩

/-- `Spec.C17.thinOk` is true of the model's thinned triangle whenever the predicate can read the
index vector back (`spec_thin_recoverable` gives a sufficient condition) -/
theorem spec_thin {t out : List Cell} {idx : List Nat} {k n : Nat}
    (h : thin t k idx = .ok (.fresh out)) (hkc : kindsConsistent t = true)
    (hs : t.Pairwise (fun a b => Cell.le a b))
    (hrec : Spec.C17.recoverIdx t (t.map (thinCell idx)) = some idx) (hk : idx.length = k)
    (hnd : idx.Nodup) (hr : ∀ i ∈ idx, i < n) (hwf : ∀ c ∈ t, c.values.keys.Nodup) :
    Spec.C17.thinOk t out k n = true := by
  rw [thin_fresh h hkc hs]
  exact thinOk_model hrec hk hnd hr hwf

theorem spec_thin_recoverable {c : Cell} {rest : List Cell} {f : String} {isInt : Bool} {m : Nat}
    {d : List Rat} {vs : Dict Val} {idx : List Nat}
    (hv : c.values = (f, .arr isInt [m] d) :: vs) (hlen : d.length > 1) (hd : d.Nodup)
    (hr : ∀ i ∈ idx, i < d.length) :
    Spec.C17.recoverIdx (c :: rest) ((c :: rest).map (thinCell idx)) = some idx := by
  have hfirst : (thinCell idx c).values.get? f = some (.arr isInt [idx.length] (gather idx d)) := by
    have : (thinCell idx c).values = c.values.map fun p => (p.1, thinVal idx p.2) := rfl
    rw [this, hv]
    simp [Dict.get?, thinVal, hlen]
  have hidx : (gather idx d).map (d.idxOf ·) = idx := by
    unfold gather
    rw [List.map_map]
    conv => rhs; rw [← List.map_id idx]
    apply List.map_congr_left
    intro i hi
    simp only [Function.comp, id]
    have hi' := hr i hi
    rw [List.getD_eq_getElem?_getD, List.getElem?_eq_getElem hi']
    simp only [Option.getD_some]
    exact List.Nodup.idxOf_getElem hd i hi'
  simp only [Spec.C17.recoverIdx, List.map_cons, List.zip_cons_cons, List.findSome?_cons, hv, hfirst]
  simp [hlen, hd, hidx]

/-- `Spec.C17.momentOk` is true of the model's `moment_match`, for every drawn vectors at least as
long as the arrays they replace -/
theorem spec_moment {t out : List Cell} {fields : List String} {distOk : Bool}
    {draws : Nat → String → List Rat} (h : momentMatch t fields distOk draws = .ok out)
    (hnd : fields.Nodup) (hk : kindsConsistent t = true) (hs : t.Pairwise (fun a b => Cell.le a b))
    (hwf : ∀ c ∈ t, c.values.keys.Nodup)
    (hlen : ∀ c ∈ t, ∀ f isInt n d, (f, Val.arr isInt [n] d) ∈ c.values →
      ∀ j, d.length ≤ (draws j f).length) :
    Spec.C17.momentOk t out fields = true := by
  obtain ⟨hkeys, rfl⟩ := momentLoop_eq (momentMatch_loop h) hk hs
  simp only [Spec.C17.momentOk, List.length_mapIdx, beq_self_eq_true, Bool.true_and, List.all_eq_true]
  rintro ⟨c, o⟩ hp
  obtain ⟨k, hc, rfl⟩ : ∃ k, c ∈ t ∧ o = momCell (draws k) fields c :=
    List.forall₂_zip (forall₂_mapIdx (R := fun c o => ∃ k, c ∈ t ∧ o = momCell (draws k) fields c)
      fun k _ ha => ⟨k, ha, rfl⟩) hp
  have hsame := momCell_same (draws k) fields c
  simp only [hsame.1, hsame.2, momCell_keys (hkeys c hc), beq_self_eq_true, Bool.true_and, List.all_eq_true]
  rintro ⟨f, v⟩ hfv
  have hv := (Dict.get?_eq_some_iff_mem (hwf c hc)).mpr hfv
  have hsel : f ∈ fields → (momCell (draws k) fields c).values.get? f = some (generateSamples v (draws k f)) :=
    fun hf => momCell_get_of_mem hnd hf hv
  dsimp only
  split
  · rename_i isInt n d hcon
    rw [hsel (List.contains_iff_mem.mp hcon)]
    simp only [generateSamples, beq_self_eq_true, Bool.true_and]
    exact rankOrderOk_reimpose_le (hlen c hc f isInt n d hfv k)
  · rename_i hno
    by_cases hf : f ∈ fields
    · rw [hsel hf, generateSamples_of_not_vector fun isInt n d e => hno isInt n d e (List.contains_iff_mem.mpr hf)]
      exact beq_self_eq_true _
    · rw [momCell_get_of_not_mem c hf, hv]
      exact beq_self_eq_true _

/-! ### the guards of `maximum_entropy_ensemble` (bootstrap.py:250-258): `meEnsembleRaw` -/

/-- a single value comes back unchanged, whatever it is (also `[None]`) -/
theorem meEnsembleRaw_single (x : Val) (qs : List Rat) : meEnsembleRaw [x] qs = .ok [x] := rfl

/-- a constant series (every later element `==` the first; `[None, None]` included) comes back unchanged -/
theorem meEnsembleRaw_const (x y : Val) (rest : List Val) (qs : List Rat)
    (h : (y :: rest).all (scalarEq x) = true) : meEnsembleRaw (x :: y :: rest) qs = .ok (x :: y :: rest) := by
  simp only [meEnsembleRaw, h, if_true]

/-- **refusal**: a non-constant series that contains `None` is refused with ValueError -/
theorem meEnsembleRaw_refuses_none (x y : Val) (rest : List Val) (qs : List Rat)
    (hc : (y :: rest).all (scalarEq x) = false) (hn : Val.none ∈ x :: y :: rest) :
    meEnsembleRaw (x :: y :: rest) qs = .error .valueError := by
  have : (x :: y :: rest).any (fun v => v == Val.none) = true := by
    rw [List.any_eq_true]; exact ⟨_, hn, by simp⟩
  simp only [meEnsembleRaw, hc, this, if_true, Bool.false_eq_true, if_false]

/-- a series of numbers is what the bootstrap hands in -/
theorem meEnsembleRaw_eq_meEnsemble (xs : List Val) (qs : List Rat) (h : ∀ v ∈ xs, isNum v = true) :
    meEnsembleRaw xs qs = meEnsemble xs qs := by
  match xs, h with
  | [], _ => rfl
  | [x], _ => rfl
  | x :: y :: rest, h =>
    obtain ⟨nums, hm⟩ := mapM_isNum (x :: y :: rest) h
    have hnone : (x :: y :: rest).any (fun v => v == Val.none) = false :=
      List.any_eq_false.mpr fun v hv e => by
        have := h v hv
        rw [beq_iff_eq.mp e] at this
        cases this
    simp only [meEnsembleRaw, hnone, meEnsemble_of_nums qs hm, Bool.false_eq_true, if_false]
    split <;> rfl

/-! ### 7. `maximum_entropy_ensemble`: the arithmetic, for EVERY vector of draws in `[0, 1)`

Notation: `sx` the sorted series (`n ≥ 2` values), `lo`/`hi` the outer interval ends `z_t[0]`, `z_t[-1]` —
the tuple `L` when given, else `min x − tm`, `max x + tm` with `tm` the 10 %-trimmed mean of the absolute
consecutive differences (`meLimits`). -/

/-- a draw `u ∈ [0,1)` is assigned to exactly one grid interval: `searchsorted(xr, u, "right") - 1 = i` with
`i/n ≤ u < (i+1)/n`, `i < n` -/
theorem me_index {n : Nat} (hn : 0 < n) {u : Rat} (h0 : 0 ≤ u) (h1 : u < 1) :
    ∃ i : Nat, i < n ∧ meIdx n u = (i : Int) ∧ xrAt n i ≤ u ∧ u < xrAt n (i + 1) :=
  meIdx_spec hn h0 h1

/-- **the mean-preserving adjustment in closed form.** Interior intervals are not shifted (`[z_i, z_{i+1}]`);
the first becomes `[(lo + x₀)/2, z₁ + (x₀ − lo)/2]`, the last `[z_{n-1} − (hi − x_{n-1})/2, (x_{n-1} + hi)/2]`:
they stick out over `z₁` resp. below `z_{n-1}` by half the slack the limits leave. -/
theorem me_interval_ends {sx : List Rat} (lo hi : Rat) (h2 : 2 ≤ sx.length) :
    (y0At sx lo hi 0 = (lo + sx.getD 0 0) / 2 ∧ y1At sx lo hi 0 = zAt sx lo hi 1 + (sx.getD 0 0 - lo) / 2) ∧
    (∀ i, 0 < i → i + 1 < sx.length →
      y0At sx lo hi i = zAt sx lo hi i ∧ y1At sx lo hi i = zAt sx lo hi (i + 1)) ∧
    (∀ i, 0 < i → i + 1 = sx.length →
      y0At sx lo hi i = zAt sx lo hi i - (hi - sx.getD i 0) / 2 ∧ y1At sx lo hi i = (sx.getD i 0 + hi) / 2) :=
  ⟨y_first h2, fun _ h0 h1 => y_mid h0 h1, fun _ h0 h1 => y_last h0 h1⟩

/-- the value at a draw lies between the ends of ITS shifted interval -/
theorem me_quantile_in_interval {sx : List Rat} (lo hi : Rat) {i : Nat} {u : Rat} (hn : 0 < sx.length)
    (hl : xrAt sx.length i ≤ u) (hu : u < xrAt sx.length (i + 1))
    (hz : zAt sx lo hi i ≤ zAt sx lo hi (i + 1)) :
    y0At sx lo hi i ≤ quantileOn sx lo hi i u ∧ quantileOn sx lo hi i u ≤ y1At sx lo hi i :=
  quantileOn_between_le lo hi hn hl hu hz

/-- the quantile function is monotone in the draw inside every grid interval … -/
theorem me_quantile_mono_within {sx : List Rat} (lo hi : Rat) (i : Nat) {u u' : Rat} (hn : 0 < sx.length)
    (huu : u ≤ u') (hz : zAt sx lo hi i ≤ zAt sx lo hi (i + 1)) :
    quantileOn sx lo hi i u ≤ quantileOn sx lo hi i u' :=
  quantileOn_mono lo hi i huu hz

/-- **me_quantile_mono.** … and over the whole of `[0, 1)`, provided the limits leave no slack at the first
grid point (`lo = min x`) or the smaller draw is past it, and none at the last (`hi = max x`, as in
`bootstrap`) or the larger draw is before it. -/
theorem me_quantile_mono {sx : List Rat} {lo hi : Rat} (hs : SortedD sx) (h2 : 2 ≤ sx.length)
    (hlo : lo ≤ sx.getD 0 0) (hhi : sx.getD (sx.length - 1) 0 ≤ hi) {u u' q q' : Rat}
    (h0 : 0 ≤ u) (huu : u ≤ u') (h1 : u' < 1)
    (hfirst : lo = sx.getD 0 0 ∨ xrAt sx.length 1 ≤ u)
    (hlast : hi = sx.getD (sx.length - 1) 0 ∨ u' < xrAt sx.length (sx.length - 1))
    (hq : meQuantile sx lo hi u = .ok q) (hq' : meQuantile sx lo hi u' = .ok q') : q ≤ q' := by
  have hn : 0 < sx.length := by omega
  obtain ⟨i, hi', hl, hu, e⟩ := meQuantile_unit lo hi hn h0 (lt_of_le_of_lt huu h1)
  obtain ⟨j, hj', hl', hu', e'⟩ := meQuantile_unit lo hi hn (le_trans h0 huu) h1
  obtain rfl := Except.ok.inj (e.symm.trans hq)
  obtain rfl := Except.ok.inj (e'.symm.trans hq')
  have hij : i < j + 1 := xrAt_lt_imp (lt_of_le_of_lt (le_trans hl huu) hu')
  rcases Nat.lt_or_eq_of_le (Nat.le_of_lt_succ hij) with hlt | rfl
  · -- different intervals: through the upper end of the earlier and the lower end of the later one
    have a := (quantileOn_between_le lo hi hn hl hu (zAt_mono_step hs h2 hlo hhi hi')).2
    have b := (quantileOn_between_le lo hi hn hl' hu' (zAt_mono_step hs h2 hlo hhi hj')).1
    have c := y1_le_y0 (lo := lo) (hi := hi) hs h2 hlt hj'
      (hfirst.elim Or.inr fun h => Or.inl (Nat.lt_of_succ_lt_succ (xrAt_lt_imp (lt_of_le_of_lt h hu))))
      (hlast.elim Or.inr fun h => Or.inl (by have := xrAt_lt_imp (lt_of_le_of_lt hl' h); omega))
    exact le_trans a (le_trans c b)
  · exact quantileOn_mono lo hi i huu (zAt_mono_step hs h2 hlo hhi hi')

/-- WITHOUT that proviso it is not monotone (hence `sorted(quantiles)` in the code): series `[10, 11]`,
`L = (0, 11)` as `bootstrap` passes it; the draw 0.49 gives 15.29, the larger draw 0.5 gives 10.5 -/
theorem me_quantile_not_monotone :
    meQuantile [10, 11] 0 11 (49 / 100) = .ok (1529 / 100) ∧ meQuantile [10, 11] 0 11 (1 / 2) = .ok (21 / 2) := by
  decide +kernel

/-- length preserved: one quantile per value -/
theorem me_quantiles_length {xs U qs : List Rat} {L : Option (Rat × Rat)} (h : meQuantiles xs U L = .ok qs) :
    qs.length = xs.length :=
  (meQuantiles_spec h).1

/-- the result of the non-degenerate case: the quantile list in the rank order of the source — a permutation
of the quantiles, of the source's length, with `x[i] < x[j] → r[i] ≤ r[j]` -/
theorem me_output {xs U qs : List Rat} {L : Option (Rat × Rat)} (h : meQuantiles xs U L = .ok qs) :
    (reimposeRank xs qs).Perm qs ∧ (reimposeRank xs qs).length = xs.length ∧
    ∀ i j, i < xs.length → j < xs.length → xs.getD i 0 < xs.getD j 0 →
      (reimposeRank xs qs).getD i 0 ≤ (reimposeRank xs qs).getD j 0 :=
  ⟨reimposeRank_perm (me_quantiles_length h), reimposeRank_length xs qs,
   fun _ _ hi hj hlt => reimposeRank_order (me_quantiles_length h) hi hj hlt⟩

/-- the trimmed mean is not negative: without `L` the limits lie outside the data -/
theorem me_trimmed_mean_nonneg (xs : List Rat) : 0 ≤ trimMean (absDiffs xs) :=
  trimMean_nonneg _ (absDiffs_nonneg xs)

/-- **me_envelope.** With limits outside the data (`lo ≤ min x`, `max x ≤ hi`) EVERY value of the replicate lies
in `[meLower, meUpper]` = `[min((lo+x₀)/2, z_{n-1} − (hi−x_{n-1})/2), max(z₁ + (x₀−lo)/2, (x_{n-1}+hi)/2)]`. -/
theorem me_envelope {xs U qs : List Rat} {L : Option (Rat × Rat)} (h : meQuantiles xs U L = .ok qs)
    (h2 : 2 ≤ xs.length) (hU : ∀ u ∈ U, 0 ≤ u ∧ u < 1)
    (hlo : (meLimits xs L).1 ≤ (sortQ xs).getD 0 0)
    (hhi : (sortQ xs).getD (xs.length - 1) 0 ≤ (meLimits xs L).2) :
    ∀ q ∈ reimposeRank xs qs, meLower (sortQ xs) (meLimits xs L).1 (meLimits xs L).2 ≤ q ∧
      q ≤ meUpper (sortQ xs) (meLimits xs L).1 (meLimits xs L).2 :=
  fun q hq => meQuantiles_envelope h h2 hU hlo hhi q
    ((reimposeRank_perm (me_quantiles_length h)).mem_iff.mp hq)

/-- **me_within_limits.** The replicate lies WITHIN THE LIMITS `[lo, hi]` whenever `limitsBind`: the limits are
outside the data and the slack on either side is at most twice the room on the other
(`x₀ − lo ≤ 2 (hi − z₁)` and `hi − x_{n-1} ≤ 2 (z_{n-1} − lo)`). -/
theorem me_within_limits {xs U qs : List Rat} {L : Option (Rat × Rat)} (h : meQuantiles xs U L = .ok qs)
    (h2 : 2 ≤ xs.length) (hU : ∀ u ∈ U, 0 ≤ u ∧ u < 1)
    (hb : limitsBind (sortQ xs) (meLimits xs L).1 (meLimits xs L).2 = true) :
    ∀ q ∈ reimposeRank xs qs, (meLimits xs L).1 ≤ q ∧ q ≤ (meLimits xs L).2 :=
  fun q hq => meQuantiles_within_limits h h2 hU hb q ((reimposeRank_perm (me_quantiles_length h)).mem_iff.mp hq)

/-- **me_within_limits_trimmed.** Without `L` (limits `min x − tm`, `max x + tm`) this is unconditional. -/
theorem me_within_limits_trimmed {xs U qs : List Rat} (h : meQuantiles xs U none = .ok qs)
    (h2 : 2 ≤ xs.length) (hU : ∀ u ∈ U, 0 ≤ u ∧ u < 1) :
    ∀ q ∈ reimposeRank xs qs,
      (sortQ xs).getD 0 0 - trimMean (absDiffs xs) ≤ q ∧
      q ≤ (sortQ xs).getD (xs.length - 1) 0 + trimMean (absDiffs xs) :=
  me_within_limits h h2 hU (limitsBind_trimmed xs h2)

/-- **me_bootstrap_limits.** With the limits `bootstrap` passes, `L = (0, max x)`, on a non-negative series:
the lower limit always holds; the upper limit holds when `x₀ + x₁/2 ≤ max x` (two smallest values), and in
general only `q ≤ x₀ + x₁/2`. -/
theorem me_bootstrap_limits {xs U qs : List Rat} (h : meQuantiles xs U (some (bootLimits xs)) = .ok qs)
    (h2 : 2 ≤ xs.length) (hU : ∀ u ∈ U, 0 ≤ u ∧ u < 1) (hpos : 0 ≤ (sortQ xs).getD 0 0) :
    ∀ q ∈ reimposeRank xs qs, 0 ≤ q ∧
      (q ≤ (bootLimits xs).2 ∨ q ≤ (sortQ xs).getD 0 0 + (sortQ xs).getD 1 0 / 2) := by
  intro q hq
  have hl : (sortQ xs).length = xs.length := sortQ_length xs
  have hmax : (bootLimits xs).2 = (sortQ xs).getD ((sortQ xs).length - 1) 0 := by
    rw [hl]; exact bootLimits_snd xs (by omega)
  have henv : meLower (sortQ xs) 0 (bootLimits xs).2 ≤ q ∧ q ≤ meUpper (sortQ xs) 0 (bootLimits xs).2 :=
    me_envelope h h2 hU hpos (by rw [← hl]; exact hmax.ge) q hq
  obtain ⟨c, d⟩ := envelope_boot (sortedD_sortQ xs) (by omega) hpos
  rw [hmax, d] at henv
  rw [hmax]
  exact ⟨le_trans c henv.1, (le_max_iff.mp henv.2).symm⟩

/-- for `bootstrap`'s own limits the binding condition is EXACTLY "non-negative data and `x₀ + x₁/2 ≤ max x`"
(the signature of known finding D26 is the negation of the right-hand side) -/
theorem me_bootstrap_limits_bind_iff (xs : List Rat) (h2 : 2 ≤ xs.length) :
    limitsBind (sortQ xs) 0 (bootLimits xs).2 = true ↔
      0 ≤ (sortQ xs).getD 0 0 ∧ (sortQ xs).getD 0 0 + (sortQ xs).getD 1 0 / 2 ≤ (bootLimits xs).2 := by
  have hl : (sortQ xs).length = xs.length := sortQ_length xs
  have hmax := bootLimits_snd xs (by omega)
  have z := (zAt_in_range (lo := 0) (hi := (bootLimits xs).2) (sortedD_sortQ xs) (i := xs.length - 1) (by omega)
    (by omega)).1
  rw [limitsBind_iff, hl, zAt_one (hl ▸ h2)]
  constructor
  · rintro ⟨a, _, c, _⟩
    exact ⟨by linarith only [a], by linarith only [c]⟩
  · rintro ⟨a, b⟩
    exact ⟨by linarith only [a], hmax.ge, by linarith only [b], by linarith only [hmax, z, a]⟩

/-- the upper limit can indeed be exceeded (`[10, 11]`, `L = (0, 11)`, draw 0.49: 15.29 > 11): "within the
given limits" holds under `limitsBind` only (`me_within_limits`; here `x₀ + x₁/2 = 15.5 > 11`, the condition of
`me_bootstrap_limits_bind_iff` fails: the first interval's upper end `z₁ + (x₀ − lo)/2` sticks out over `hi`) -/
theorem me_exceeds_upper_limit :
    meQuantile [10, 11] 0 11 (49 / 100) = .ok (1529 / 100) ∧ limitsBind [10, 11] 0 11 = false :=
  ⟨me_quantile_not_monotone.1, by decide +kernel⟩

/-- the full function with the guards in code order is the rank re-imposition `meEnsembleRaw` fed with the
model's own quantile list — so the guard theorems above and the structural theorems of `bootstrap` apply -/
theorem maxEntropy_eq_raw {xs : List Val} {nums qs U : List Rat} {L : Option (Rat × Rat)}
    (hnum : mapMExcept numOf xs = .ok nums) (hq : meQuantiles nums U L = .ok qs) :
    maxEntropy xs U L = meEnsembleRaw xs qs := by
  match xs, hnum with
  | [], _ => rfl
  | [x], _ => rfl
  | x :: y :: rest, hnum =>
    simp only [maxEntropy, meEnsembleRaw, meEnsemble_of_nums qs hnum, hnum, hq]
    split
    · rfl
    · split <;> rfl

/-- a draw `≥ 1` is not refused by the (dead) guard but fails with `IndexError`; a draw `< 0` is silently
extrapolated through Python's negative index -/
theorem me_draw_out_of_range :
    meQuantile [1, 2, 4] 0 4 1 = .error .indexError ∧
    meQuantile [1, 2, 4] 0 4 (-1 / 2) = .ok (-1 / 2) := by
  decide +kernel

/-- `Spec.C17.meIntervalsOk / meEnvelopeOk / meLimitsOk / mePermOk / meValueOk` — the verdicts of the driver's
`me` request — are true of the model's replicate, for every slack `tol ≥ 0` -/
theorem spec_me {xs U qs : List Rat} {L : Option (Rat × Rat)} {tol : Rat} (h : meQuantiles xs U L = .ok qs)
    (h2 : 2 ≤ xs.length) (hU : ∀ u ∈ U, 0 ≤ u ∧ u < 1) (ht : 0 ≤ tol) :
    Spec.C17.meIntervalsOk xs L tol (reimposeRank xs qs) = true ∧
    Spec.C17.meEnvelopeOk xs L tol (reimposeRank xs qs) = true ∧
    Spec.C17.meLimitsOk xs L tol (reimposeRank xs qs) = true ∧
    Spec.C17.mePermOk xs U L tol (reimposeRank xs qs) = true ∧
    Spec.C17.meValueOk xs U L tol (reimposeRank xs qs) = true :=
  ⟨meIntervalsOk_model h (by omega) hU ht, meEnvelopeOk_model h h2 hU ht, meLimitsOk_model h h2 hU ht,
   mePermOk_model h ht, meValueOk_model h ht⟩

/-- **me_centre_width.** The independent restatement of `Spec/C17.lean` IS the model's quantile function: for a
draw `u ∈ [0, 1)` (series of `n ≥ 2` sorted values) the cell is `⌊u·n⌋`, the code's interval
`[z_i + shift_i, z_{i+1} + shift_i]` is `centre ± width/2`, and the value is the linear interpolation
`centre + ((u·n − i) − 1/2)·width` -/
theorem me_centre_width {sx : List Rat} (lo hi : Rat) (h2 : 2 ≤ sx.length) :
    (∀ i, i < sx.length →
      y0At sx lo hi i = Spec.C17.cwCentre sx i - Spec.C17.cwWidth sx lo hi i / 2 ∧
      y1At sx lo hi i = Spec.C17.cwCentre sx i + Spec.C17.cwWidth sx lo hi i / 2) ∧
    (∀ i u, xrAt sx.length i ≤ u → u < xrAt sx.length (i + 1) → Spec.C17.cwCell sx.length u = i) ∧
    (∀ u, 0 ≤ u → u < 1 → meQuantile sx lo hi u = .ok (Spec.C17.cwValue sx lo hi u)) :=
  ⟨fun _ hlt => cw_interval lo hi hlt, fun _ _ hl hu => cwCell_eq (by omega) hl hu,
   fun _ h0 h1 => meQuantile_eq_cw lo hi (by omega) h0 h1⟩

/-- **spec_me_independent** (bridge). The two clauses that state the maximum-entropy values WITHOUT calling the
model's quantile function — `meValueCWOk` (the replicate is, as a multiset, the centre/width interpolation of the
`n` smallest draws) and `meIntervalsCWOk` (each value lies in a cell interval `centre ± |width|/2`) — are true of
the model's replicate, for every slack `tol ≥ 0`; with `rankFixed` (`spec_rank`) they determine the replicate. -/
theorem spec_me_independent {xs U qs : List Rat} {L : Option (Rat × Rat)} {tol : Rat}
    (h : meQuantiles xs U L = .ok qs) (hU : ∀ u ∈ U, 0 ≤ u ∧ u < 1) (ht : 0 ≤ tol) :
    Spec.C17.meValueCWOk xs U L tol (reimposeRank xs qs) = true ∧
    Spec.C17.meIntervalsCWOk xs L tol (reimposeRank xs qs) = true :=
  ⟨meValueCWOk_model h ht, meIntervalsCWOk_model h hU ht⟩

/-! ### 8. age-to-age: resampled factors and the chained product, for EVERY index draw -/

/-- **develop_value (arithmetic).** Chaining factors `x₀, x₁, …` from a start value `a`: the `k`-th developed
value is `a · x₀ ⋯ x_k` -/
theorem chain_value (a : Rat) (xs : List Rat) (k : Nat) (hk : k < xs.length) :
    (chainTail a xs).getD k 0 = a * prodQ (xs.take (k + 1)) :=
  chainTail_getD a xs k hk

/-- **identity resampling reproduces the row.** A period that draws its own factors `v₁/v₀, v₂/v₁, …` gets its
own values back exactly (values non-zero: falsy values are replaced by 1 in `_safe_ata_division`) -/
theorem chain_identity (v0 : Rat) (vs : List Rat) (h0 : v0 ≠ 0) (hv : ∀ v ∈ vs, v ≠ 0) :
    chainTail v0 (ratiosOf (v0 :: vs)) = vs := by
  induction vs generalizing v0 with
  | nil => rfl
  | cons v vs ih =>
    have hv0 : v ≠ 0 := hv v (by simp)
    have e : v0 * (v / v0) = v := by field_simp
    simp only [ratiosOf, chainTail, e]
    rw [ih v hv0 (fun w hw => hv w (by simp [hw]))]

/-- the identity draws `[0, 1, …, len-1]` select the factor column itself -/
theorem gather_identity (arr : List Rat) : gatherE arr (List.range arr.length) = .ok arr :=
  gatherE_range arr

/-- **identity resampling, table level.** With the identity draws the resampled factor table IS the slice's
empirical table `_empirical_atas` (distinct lags — they are a sorted set — and distinct field names). That the whole
TRIANGLE is then reproduced is checked by correspondence (stream `identity-draws`, `Spec.C17.reproducesSlice`);
its arithmetic core is `chain_identity`. -/
theorem resampledAtas_identity {s : List Cell} {fields : List String} {A : Factors}
    (hA : ataTable s fields = .ok A) (hl : (A.map (·.1)).Nodup) (hf : ∀ lt ∈ A, (lt.2.map (·.1)).Nodup) :
    resampledAtas s fields (identityIdx A) = .ok A := by
  refine resampledAtas_ok.mpr ⟨A, hA, List.forall₂_same.mpr fun lt hlt => ⟨rfl, List.forall₂_same.mpr fun fa hfa => ⟨rfl, ?_⟩⟩⟩
  -- the positions drawn for this lag and field are `0, 1, …`: both lookups find their own entry
  have hI : assoc? (identityIdx A) lt.1 = some (lt.2.map fun fa => (fa.1, List.range fa.2.length)) := by
    unfold identityIdx
    rw [assoc?_eq_assoc, Assoc.get?_map_val, Assoc.find?_of_mem_nodup hl hlt]
    rfl
  simp only [idxOf, hI]
  rw [assoc?_eq_assoc, Assoc.get?_map_val, Assoc.find?_of_mem_nodup (hf lt hlt) hfa]
  exact gatherE_range fa.2

/-- **develop_value.** On a canonical triangle, for EVERY factor table: in the row of a period (earliest cell
`c0` at position `|pre|`, later cells `row`), the first cell is unchanged and the `k`-th later cell carries,
for a field that is truthy in the source and present in the table, `first · x₀ ⋯ x_k`, where `x_j` is the entry
`resampled_atas[lag_j][field][period_idx]` (`RowCell`): the product is chained from the unchanged first cell. -/
theorem develop_value {t out : List Cell} {F : Factors} {f : String} {pre row rest : List Cell} {c0 : Cell}
    {xs : List Rat} {a : Rat} (h : developByAtas t F = .ok out) (hk : kindsConsistent t = true)
    (hs : t.Pairwise (fun a b => Cell.le a b)) (ht : t = pre ++ c0 :: (row ++ rest))
    (h0 : initialLag t (c0.ps, c0.pe) = some c0.devLag) (hnd : c0.values.keys.Nodup)
    (ha : numGet c0.values f = some a) (hrow : List.Forall₂ (RowCell t F f) row xs) :
    out[pre.length]? = some c0 ∧
    ∀ k, k < xs.length → ∃ o, out[pre.length + 1 + k]? = some o ∧
      numGet o.values f = some (a * prodQ (xs.take (k + 1))) := by
  have H : Scan (DevStep t F) (·.values) [] (pre ++ c0 :: (row ++ rest)) out := by
    rw [← ht]; exact developLoop_scan (developByAtas_loop h hk hs)
  -- the scan splits at `c0` and again after the row; `c0` is the first cell of its period
  obtain ⟨op, _, _, rfl, H1, H2⟩ := H.append
  have hl : pre.length = op.length := H1.forall₂.length_eq
  cases H2 with
  | cons hs0 H3 =>
    obtain ⟨os1, os2, _, rfl, H4, _⟩ := H3.append
    cases hs0 with
    | bare hn => exact absurd h0 hn
    | items hn => exact absurd h0 hn
    | first =>
      have hf := scan_row hrow H4 hnd ha
      have hlen : os1.length = xs.length := hf.length_eq.trans (chainTail_length a xs)
      refine ⟨by rw [hl, List.getElem?_append_right (Nat.le_refl _)]; simp, fun k hk' => ?_⟩
      have hk1 : k < os1.length := hlen ▸ hk'
      refine ⟨os1[k], ?_, ?_⟩
      · rw [hl, List.getElem?_append_right (by omega)]
        have : op.length + 1 + k - op.length = k + 1 := by omega
        rw [this, List.getElem?_cons_succ, List.getElem?_append_left hk1, List.getElem?_eq_getElem hk1]
      · have := hf.get hk1 (by rw [chainTail_length]; exact hk')
        rw [List.get_eq_getElem, List.get_eq_getElem] at this
        rw [this]
        have hg := chainTail_getD a xs k hk'
        rw [List.getD_eq_getElem?_getD, List.getElem?_eq_getElem (by rw [chainTail_length]; exact hk')] at hg
        simpa using congrArg some hg

/-- **the vector `p` handed to `rng.choice`** (`_normalize`; `ataWeights` computes it from the slice): as long as the
vector, sums to 1, and is non-negative on non-negative values — a probability vector. Which positions
`Generator.choice` then realises is the only thing left outside. -/
theorem ata_weights_probability {x p : List Rat} (h : normalizeW x = .ok p) :
    p.length = x.length ∧ sumQ p = 1 ∧ ((∀ v ∈ x, 0 ≤ v) → ∀ v ∈ p, 0 ≤ v) := by
  unfold normalizeW at h
  split at h
  · split at h
    · cases h
    · rename_i hne
      cases h
      have hpos : (0 : Rat) < x.length := by
        cases x with
        | nil => simp at hne
        | cons _ _ => simp; positivity
      refine ⟨by simp, ?_, ?_⟩
      · rw [sumQ_map_const]; field_simp
      · intro _ v hv
        obtain ⟨_, _, rfl⟩ := List.mem_map.mp hv
        positivity
  · rename_i hS
    cases h
    have hS' : sumQ x ≠ 0 := by simpa using hS
    refine ⟨by simp, ?_, ?_⟩
    · rw [sumQ_map_div]; field_simp
    · intro hx v hv
      obtain ⟨w, hw, rfl⟩ := List.mem_map.mp hv
      have hs := sumQ_nonneg x hx
      exact div_nonneg (hx w hw) hs

/-- **chain_step_ok** (value clause, one step). One step of `_develop_triangle_by_atas` on a cell `c` that is not
the first of its period satisfies the executable cell clause `Spec.C17.chainCellOk` — for EVERY field of `c`
jointly: a selected field the previous developed cell has reads `None` when `c`'s value is falsy, else
`previous developed value × resampled_atas[lag][field][period_idx]`; every other field keeps its value. -/
theorem chain_step_ok {F : Factors} {fields : List String} {pidx : Nat} {c : Cell} {vals its : Dict Val}
    {tbl : List (String × List Rat)} (hF : assoc? F c.devLag = some tbl)
    (hT : ∀ f, (assoc? tbl f).isSome = fields.contains f)
    (hits : developItems c tbl pidx vals = .ok its) (hv : vals.keys.Nodup) (hc : c.values.keys.Nodup) :
    Spec.C17.chainCellOk F fields pidx c vals { c with values := Dict.union c.values its } = true :=
  chainCellOk_step hF hT hits hv hc

/-- **spec_chain_cells** (bridge for the value clause, in list order). For the model's own factor table
(`resampledAtas` from ANY index draws `I`) and a canonical slice `s`: walking through `s` and the developed slice
side by side (`ChainFrom`), the earliest cell of every period is returned as it is and EVERY other cell satisfies
`Spec.C17.chainCellOk` against the developed cell before it. What `Spec.C17.chainOkSlice` adds — finding the
"previous cell of the row" by development lag and the replicate's cells by coordinate after the tag and
`sum(boot)` — is bridged by `spec_chain_slice` and `spec_chain_bootstrapD_slices` below. -/
theorem spec_chain_cells {s out : List Cell} {fields : List String} {I : IdxTable} {F : Factors}
    (hF : resampledAtas s fields I = .ok F) (h : developByAtas s F = .ok out)
    (hk : kindsConsistent s = true) (hs : s.Pairwise (fun a b => Cell.le a b))
    (hwf : ∀ c ∈ s, c.values.keys.Nodup) : ChainFrom s F fields [] s out :=
  chainFrom_of_scan (developLoop_stepOk (resampledAtas_tableKeys hF) (developByAtas_loop h hk hs) List.nodup_nil hwf)

/-- **spec_chain_slice** (bridge, one slice). `Spec.C17.chainOkSlice` is TRUE of any rearrangement of the tagged
developed slice — i.e. of what replicate `i` of `_bootstrap_slice` is (`spec_chain_replicate`) — for the model's
own table from ANY index draws: the cells are found by coordinate (`repCell_of_zip`, positional pairing) and the
"previous cell of the row" is the developed cell before it. Hypotheses: canonical slice with one metadata,
pairwise distinct coordinates, distinct field names per cell, and `RowsByLag s` (the cells of a period with a
smaller lag end with the list predecessor; none for the period's earliest cell). -/
theorem spec_chain_slice {s out rep : List Cell} {fields : List String} {I : IdxTable} {F : Factors} {i : Nat}
    (hF : resampledAtas s fields I = .ok F) (h : developByAtas s F = .ok out)
    (hp : rep.Perm (out.map (tagCell i)))
    (hk : kindsConsistent s = true) (hs : s.Pairwise (fun a b => Cell.le a b))
    (hnd : (s.map (·.coord)).Nodup) (hmd : ∀ c ∈ s, ∀ c' ∈ s, c.md = c'.md)
    (hwf : ∀ c ∈ s, c.values.keys.Nodup) (hrows : RowsByLag s) :
    Spec.C17.chainOkSlice s rep i fields I = true :=
  spec_chain_slice' hF h hp hk hs hnd hmd hwf hrows

/-- **spec_chain_replicate.** … in particular of replicate `i` of an age-to-age slice as the model computes it
from numpy's index draws (`replicateD`, the body of `_bootstrap_slice`) -/
theorem spec_chain_replicate {s rep : List Cell} {fields : List String} {d : Draws} {i : Nat}
    (h : replicateD s fields d i = .ok rep) (hu : useAtas s = true)
    (hk : kindsConsistent s = true) (hs : s.Pairwise (fun a b => Cell.le a b))
    (hnd : (s.map (·.coord)).Nodup) (hmd : ∀ c ∈ s, ∀ c' ∈ s, c.md = c'.md)
    (hwf : ∀ c ∈ s, c.values.keys.Nodup) (hrows : RowsByLag s) :
    Spec.C17.chainOkSlice s rep i fields d.I = true :=
  spec_chain_replicate' h hu hk hs hnd hmd hwf hrows

/-- **rows_by_lag.** The row layout `RowsByLag` is a CONSEQUENCE of the slice being what `Triangle.slices` delivers:
sorted by `Cell.le`, one metadata, calendar-valid evaluation dates, distinct evaluation dates within a period
(`SliceLayout`): rows of a period are contiguous and ordered by evaluation date, hence by lag
(`dev_lag_strict_mono`), and `initialLag` is the lag of the row's first cell. -/
theorem rows_by_lag {s : List Cell} (H : SliceLayout s) : RowsByLag s := rowsByLag_of_layout H

/-- **spec_chain_slice_layout.** `spec_chain_slice` without the `RowsByLag` hypothesis (and without the separate
coordinate hypothesis: distinct evaluation dates within a period give distinct coordinates) -/
theorem spec_chain_slice_layout {s out rep : List Cell} {fields : List String} {I : IdxTable} {F : Factors} {i : Nat}
    (hF : resampledAtas s fields I = .ok F) (h : developByAtas s F = .ok out)
    (hp : rep.Perm (out.map (tagCell i))) (hk : kindsConsistent s = true) (H : SliceLayout s)
    (hwf : ∀ c ∈ s, c.values.keys.Nodup) :
    Spec.C17.chainOkSlice s rep i fields I = true :=
  spec_chain_slice' hF h hp hk H.sorted (coords_nodup_of_layout H) H.oneMd hwf (rowsByLag_of_layout H)

/-- **spec_chain_replicate_layout.** `Spec.C17.chainOkSlice` is true of replicate `i` of every age-to-age slice as
the model computes it from numpy's index draws — under hypotheses that only describe a well-formed slice -/
theorem spec_chain_replicate_layout {s rep : List Cell} {fields : List String} {d : Draws} {i : Nat}
    (h : replicateD s fields d i = .ok rep) (hu : useAtas s = true) (hk : kindsConsistent s = true)
    (H : SliceLayout s) (hwf : ∀ c ∈ s, c.values.keys.Nodup) :
    Spec.C17.chainOkSlice s rep i fields d.I = true :=
  spec_chain_replicate' h hu hk H.sorted (coords_nodup_of_layout H) H.oneMd hwf (rowsByLag_of_layout H)

/-- **spec_chain_bootstrapD_single.** On a triangle with ONE slice the summed replicate of `bootstrapD` is the
slice's replicate, so `Spec.C17.chainOkSlice` — the verdict `chain` of the driver — is true of every replicate of
the model's `bootstrapD` output (age-to-age route, any index draws). Several slices:
`spec_chain_bootstrapD_slices`. -/
theorem spec_chain_bootstrapD_single {t : List Cell} {n : Int} {field : Option (List String)}
    {D : Nat → Nat → Draws} {reps : List (List Cell)} (h : bootstrapD t n field D = .ok reps)
    (hne : t ≠ []) (hu : useAtas t = true) (hk : kindsConsistent t = true) (H : SliceLayout t)
    (hwf : ∀ c ∈ t, c.values.keys.Nodup) :
    ∀ i (hi : i < reps.length),
      Spec.C17.chainOkSlice t reps[i] i (field.getD (fieldsOf t)) (D 0 i).I = true := by
  intro i hi
  obtain ⟨c0, hc0⟩ := List.exists_mem_of_ne_nil t hne
  have hm : ∀ c ∈ t, c.md = c0.md := fun c hc => H.oneMd c hc c0 hc0
  exact spec_chain_replicate_layout (bootstrapD_single h hne hm H.sorted i hi) hu hk H hwf

/-- **spec_chain_bootstrapD_slices.** The lift of `spec_chain_bootstrapD_single` to a triangle with ANY number of
slices: for every slice `s` (the `k`-th of `Triangle.slices t`) routed to the age-to-age method and well formed
(`SliceLayout s`, distinct field names per cell), `Spec.C17.chainOkSlice` — the verdict `chain` of the driver, which
it evaluates per slice against the WHOLE replicate — is true of every replicate `reps[i]` of the model's `bootstrapD`,
with the draws `D k i` of that slice. Beyond the single-slice hypotheses only `TagInjective t i` is needed (the tag
`bootstrap = i` does not merge two slices — the hypothesis `spec_bootstrap_structure` already has): `repCell` filters
by the tagged metadata, so in the summed replicate it only sees the `k`-th slice's own replicate
(`bootstrapD_slice_repCell`). -/
theorem spec_chain_bootstrapD_slices {t : List Cell} {n : Int} {field : Option (List String)}
    {D : Nat → Nat → Draws} {reps : List (List Cell)} (h : bootstrapD t n field D = .ok reps)
    (hk : kindsConsistent t = true) (hinj : ∀ i, TagInjective t i) :
    ∀ k (hks : k < ((Triangle.slices t).map (·.2)).length),
      useAtas ((Triangle.slices t).map (·.2))[k] = true → SliceLayout ((Triangle.slices t).map (·.2))[k] →
      (∀ c ∈ ((Triangle.slices t).map (·.2))[k], c.values.keys.Nodup) →
      ∀ i (hi : i < reps.length),
        Spec.C17.chainOkSlice ((Triangle.slices t).map (·.2))[k] reps[i] i
          (field.getD (fieldsOf ((Triangle.slices t).map (·.2))[k])) (D k i).I = true := by
  intro k hks hu H hwf i hi
  obtain ⟨rep, hrep, hcell⟩ := bootstrapD_slice_repCell h hk hinj k hks i hi
  rw [chainOkSlice_congr hcell]
  exact spec_chain_replicate_layout hrep hu (slice_props hk _ (List.getElem_mem hks)).1 H hwf

/-- **spec_ata_membership_partial.** The membership half of `Spec.C17.ataMembershipOk` at the level of the MODEL's
tables: for ANY index draws `I`, every factor the chain clause multiplies with (`Spec.C17.factorAt F lag f pidx`,
`F` the resampled table — the factor `spec_chain_bootstrapD_slices` / `chainCellOk` speaks about) is a MEMBER of the
model's empirical column `ataTable s fields` for that lag and field: nothing but an observed age-to-age factor of
that lag is ever used. The bridge to `ataMembershipOk` itself (`spec_ata_membership_bootstrapD`) needs in addition
that the model's column `ataTable[lag][f]` (clip to two consecutive lags of `sortedLags`, consecutive cells of one
period, `safeAtaDiv`) is contained in the Spec's independent `ratios s prev.devLag lag f` (per period `find?` by lag,
`safeDiv`): that is `ColumnsInRatios`, which holds when the row predecessor's lag IS the preceding lag of
`sortedLags s` (no skipped lags) and (period, lag) is unique in the slice (`RegularLags`). -/
theorem spec_ata_membership_partial {s : List Cell} {fields : List String} {I : IdxTable} {F : Factors}
    (hF : resampledAtas s fields I = .ok F) {lag : Rat} {f : String} {pidx : Nat} {r : Rat}
    (h : Spec.C17.factorAt F lag f pidx = some r) :
    ∃ A tbl col, ataTable s fields = .ok A ∧ (lag, tbl) ∈ A ∧ (f, col) ∈ tbl ∧ r ∈ col :=
  resampledAtas_member hF h

/-- non-vacuity on the closed instance: the factor period 0 multiplies with at lag 12 is 2, a member of `[3/2, 2]` -/
example : Spec.C17.factorAt exF 12 "paid_loss" 0 = some 2 ∧
    resampledAtas exSquare ["paid_loss"] (exDraws 0 0).I = .ok exF ∧
    ataTable exSquare ["paid_loss"] = .ok [(12, [("paid_loss", [3 / 2, 2])])] :=
  ⟨by decide +kernel, ex_sq_res, ex_sq_table⟩

/-- **spec_ata_membership_bootstrapD_partial** (bridge to the Bool predicate, with the hypothesis `ColumnsInRatios`;
`spec_ata_membership_bootstrapD` below derives that hypothesis from `RegularLags`). On the model's
`bootstrapD` output, `Spec.C17.ataMembershipOk t reps[i] i field` — the verdict `membership` of the driver, over ALL
slices of a sorted triangle — is TRUE for every replicate, provided every age-to-age slice is well formed
(`SliceLayout`, distinct field names), the tag keeps slices apart, and `ColumnsInRatios`: the factors of the model's
table into a cell's lag are among the Spec's independent `ratios s prev.devLag lag f` taken from the ROW PREDECESSOR's
lag. Everything else of the predicate is bridged here: `sliceOf t c` = the k-th slice, the coordinate lookups in the
summed replicate, the falsy / unselected / missing-field branches, and `x == y * r` for a factor `r` that
`spec_ata_membership_partial` shows to be a member of the empirical column. `ColumnsInRatios` is what "no period
skips a lag + unique (period, lag) per slice" is needed for (`columnsInRatios_of_regular`, through `clipLags` /
`lagPairs` / `periodsOf` / `find?`). -/
theorem spec_ata_membership_bootstrapD_partial {t : List Cell} {n : Int} {field : Option (List String)}
    {D : Nat → Nat → Draws} {reps : List (List Cell)} (h : bootstrapD t n field D = .ok reps)
    (hk : kindsConsistent t = true) (hs : t.Pairwise (fun a b => Cell.le a b)) (hinj : ∀ i, TagInjective t i)
    (hlay : ∀ s ∈ (Triangle.slices t).map (·.2), useAtas s = true →
      SliceLayout s ∧ ∀ c ∈ s, c.values.keys.Nodup)
    (hcol : ∀ k (hks : k < ((Triangle.slices t).map (·.2)).length) i,
      ColumnsInRatios ((Triangle.slices t).map (·.2))[k]
        (field.getD (fieldsOf ((Triangle.slices t).map (·.2))[k])) (D k i).I) :
    ∀ i (hi : i < reps.length), Spec.C17.ataMembershipOk t reps[i] i field = true := by
  intro i hi
  rw [ataMembershipOk_eq, List.all_eq_true]
  intro c hc
  obtain ⟨s, hsS, hcs⟩ := List.mem_flatten.mp ((slices_partition t).flatMap_perm.mem_iff.mpr hc)
  obtain ⟨k, hks, rfl⟩ := List.getElem_of_mem hsS
  rw [slice_is_sliceOf hs _ hsS c hcs]
  by_cases hu : useAtas ((Triangle.slices t).map (·.2))[k] = true
  · simp only [hu, Bool.not_true, Bool.false_eq_true, if_false]
    obtain ⟨H, hwf⟩ := hlay _ hsS hu
    obtain ⟨rep, hrep, _⟩ := bootstrapD_slice_repCell h hk hinj k hks i hi
    obtain ⟨F, _, hF, _⟩ := replicateD_atas hrep hu
    exact membership_of_chain hF (spec_chain_bootstrapD_slices h hk hinj k hks hu H hwf i hi) (hcol k hks i) c hcs
  · rw [Bool.not_eq_true] at hu
    rw [hu]; rfl

/-- **spec_ata_membership_bootstrapD** (bridge, no `ColumnsInRatios` hypothesis). `Spec.C17.ataMembershipOk` — the
verdict `membership` of the driver — is TRUE of every replicate of the model's `bootstrapD` on a sorted triangle whose
age-to-age slices are well formed (`SliceLayout`, distinct field names) and whose slices are `RegularLags`: (`uniq`) a
period has at most one cell at a lag; (`noSkip`) no period skips a lag — the row predecessor's lag is the lag preceding
the cell's lag in `dev_lags()`; (`clipEnds`) in the triangle clipped to two consecutive lags, consecutive same-period
cells sit at those two lags (a consequence of the layout that is NOT derived here and therefore a named field).
`ColumnsInRatios` is DERIVED from these (`columnsInRatios_of_regular`: `resampledAtas_member`, `ataTable_ok`,
`safeAtaDiv_eq_safeDiv`, `mem_ratios`). -/
theorem spec_ata_membership_bootstrapD {t : List Cell} {n : Int} {field : Option (List String)}
    {D : Nat → Nat → Draws} {reps : List (List Cell)} (h : bootstrapD t n field D = .ok reps)
    (hk : kindsConsistent t = true) (hs : t.Pairwise (fun a b => Cell.le a b)) (hinj : ∀ i, TagInjective t i)
    (hlay : ∀ s ∈ (Triangle.slices t).map (·.2), useAtas s = true →
      SliceLayout s ∧ ∀ c ∈ s, c.values.keys.Nodup)
    (hreg : ∀ s ∈ (Triangle.slices t).map (·.2), RegularLags s) :
    ∀ i (hi : i < reps.length), Spec.C17.ataMembershipOk t reps[i] i field = true :=
  spec_ata_membership_bootstrapD_partial h hk hs hinj hlay
    (fun _ hks _ => columnsInRatios_of_regular (hreg _ (List.getElem_mem hks)) _ _)

/-- **spec_ata_membership_bootstrapD_layout.** `spec_ata_membership_bootstrapD` with `RegularLags.uniq` DERIVED from
`SliceLayout` (`uniq_of_layout`, via `rows_lag_lt`): beyond well-formed slices the only regularity hypotheses are the two
fields of `NoSkipLags` — `noSkip` (no period skips a lag) and `clipEnds` (not derived from the layout). Here
`SliceLayout` is asked of every slice. -/
theorem spec_ata_membership_bootstrapD_layout {t : List Cell} {n : Int} {field : Option (List String)}
    {D : Nat → Nat → Draws} {reps : List (List Cell)} (h : bootstrapD t n field D = .ok reps)
    (hk : kindsConsistent t = true) (hs : t.Pairwise (fun a b => Cell.le a b)) (hinj : ∀ i, TagInjective t i)
    (hlay : ∀ s ∈ (Triangle.slices t).map (·.2), SliceLayout s ∧ ∀ c ∈ s, c.values.keys.Nodup)
    (hreg : ∀ s ∈ (Triangle.slices t).map (·.2), NoSkipLags s) :
    ∀ i (hi : i < reps.length), Spec.C17.ataMembershipOk t reps[i] i field = true :=
  spec_ata_membership_bootstrapD h hk hs hinj (fun s hs _ => hlay s hs)
    (fun s hs => regular_of_layout (hlay s hs).1 (hreg s hs))

/-- **uniq_period_lag.** In a well-formed slice a period has at most one cell at a development lag -/
theorem uniq_period_lag {s : List Cell} (H : SliceLayout s) :
    ∀ x ∈ s, ∀ y ∈ s, (x.ps, x.pe) = (y.ps, y.pe) → x.devLag = y.devLag → x = y := uniq_of_layout H

/-- `NoSkipLags` has a closed inhabitant -/
theorem no_skip_lags_instance : NoSkipLags exSquare := ⟨ex_sq_regular.noSkip, ex_sq_regular.clipEnds⟩

/-- **safe_ata_division_agrees.** The model's `_safe_ata_division` (`safeAtaDiv`, refusing arrays) and the Spec's
independent `safeDiv` agree wherever the model succeeds -/
theorem safe_ata_division_agrees {x y : Option Val} {r : Rat} (h : safeAtaDiv x y = .ok r) :
    r = Spec.C17.safeDiv x y := safeAtaDiv_eq_safeDiv h

/-- **regular_lags_instance.** `RegularLags` has a closed inhabitant (the 2 × 2 square) -/
theorem regular_lags_instance : RegularLags exSquare := ex_sq_regular

/-- **dev_lag_strict_mono.** The development lag in months is strictly increasing in the evaluation date (valid
calendar dates, any period end): within a period, sorting by evaluation date is sorting by lag — the fact behind
`RowsByLag` -/
theorem dev_lag_strict_mono {pe e1 e2 : Date} (v1 : e1.valid = true) (v2 : e2.valid = true)
    (h : Date.cmp e1 e2 = .lt) : calculateDevLag pe e1 .month < calculateDevLag pe e2 .month :=
  devLagMonths_lt_of_lt v1 v2 h

/-- **bootstrapD_is_bootstrap.** The model that takes numpy's INDEX draws (and computes the empirical factors
itself, `ataTable` / `resampledAtas`) is an instance of the factor-table model … -/
theorem bootstrapD_is_bootstrap {t : List Cell} {n : Int} {field : Option (List String)}
    {D : Nat → Nat → Draws} {reps : List (List Cell)} (h : bootstrapD t n field D = .ok reps) :
    ∃ P, bootstrap t n field P = .ok reps :=
  ⟨_, bootstrapD_eq h⟩

/-- … hence has the structure proved for EVERY factor table (`bootstrap_structure`, `bootstrap_count`) -/
theorem bootstrapD_structure {t : List Cell} {n : Int} {field : Option (List String)}
    {D : Nat → Nat → Draws} {reps : List (List Cell)} (h : bootstrapD t n field D = .ok reps)
    (hk : kindsConsistent t = true) :
    ∀ i (hi : i < reps.length), reps[i].length = t.length ∧
      (∀ c ∈ t, ∃ o ∈ reps[i], TagRel t i c o) ∧ (∀ o ∈ reps[i], ∃ c ∈ t, TagRel t i c o) :=
  bootstrap_structure (bootstrapD_eq h) hk

/-! ### 9. moment_match: what is deterministic given the drawn vector -/

/-- a selected array becomes a FLOAT array of the same shape that is a rearrangement of the drawn vector
(nothing invented or lost) carrying the rank order of the old samples -/
theorem generateSamples_array {isInt : Bool} {n : Nat} {d drawn : List Rat} (hl : drawn.length = d.length) :
    ∃ r, generateSamples (.arr isInt [n] d) drawn = .arr false [n] r ∧ r.Perm drawn ∧ r.length = d.length ∧
      ∀ i j, i < d.length → j < d.length → d.getD i 0 < d.getD j 0 → r.getD i 0 ≤ r.getD j 0 :=
  ⟨reimposeRank d drawn, rfl, reimposeRank_perm hl, reimposeRank_length d drawn,
   fun _ _ hi hj hlt => reimposeRank_order hl hi hj hlt⟩

/-- the gamma sampler is parameterised with `shape·scale = mean` and `shape·scale² = variance` of the
source array (`gammaParams`; the normal sampler receives `loc = mean`, `scale = sqrt(variance)`; the
lognormal parameters involve log / sqrt and stay outside, as does the sampler's distribution) -/
theorem gamma_params_match (mu s2 : Rat) (hmu : mu ≠ 0) (hs : s2 ≠ 0) :
    (gammaParams mu s2).1 * (gammaParams mu s2).2 = mu ∧
    (gammaParams mu s2).1 * ((gammaParams mu s2).2 * (gammaParams mu s2).2) = s2 := by
  simp only [gammaParams]
  constructor <;> field_simp

/-- the variance handed to the sampler is not negative -/
theorem variance_nonneg (d : List Rat) : 0 ≤ varQ d := by
  unfold varQ
  apply div_nonneg
  · apply sumQ_nonneg
    intro x hx
    obtain ⟨y, _, rfl⟩ := List.mem_map.mp hx
    exact mul_self_nonneg _
  · exact_mod_cast Nat.zero_le _

/-! ### 10. non-vacuity: closed instances on which the operations SUCCEED in the model

(`decide` cannot evaluate `List.mergeSort`; the sorts are discharged with `List.mergeSort_of_pairwise` /
`Triangle.ofCells_of_sorted` on inputs that are already in order, or replaced by the insertion sort of `Lemmas/Sort.lean`:
so the replicates of the slices in `Lemmas/ResampleExamples.lean`, `ex_sq_rep` and `ex_sqB_rep`.) -/

/-- **bootstrapD_ok_instance.** Closed, kernel-checked instance: the model's bootstrap SUCCEEDS on the 2 × 2
age-to-age square `exSquare` (periods 2020, 2021; lags 0, 12; paid 100 → 150 and 80 → 160, empirical factors
`[3/2, 2]`) with `n = 1` and the index draws `[1, 0]` (the periods swap factors): the one replicate is the tagged
square with 100 → 200 and 80 → 120. -/
theorem bootstrapD_ok_instance : bootstrapD exSquare 1 none exDraws = .ok [exDev.map (tagCell 0)] := by
  have h1 : ¬ ((1 : Int) ≤ 0) := by decide
  simp only [bootstrapD, h1, if_false, ex_sq_slices, List.zipIdx_cons, List.zipIdx_nil, mapMExcept, bootstrapSliceD,
    Option.getD_none, ex_sq_fields, Int.toNat_one, List.range_one, ex_sq_rep, List.isEmpty_cons, Bool.false_eq_true,
    List.map_cons, List.map_nil, List.getD_cons_zero, sumTriangles_singleton]

/-- … so the hypothesis `bootstrapD … = .ok reps` of the bridges is satisfiable -/
theorem bootstrapD_ok_exists : ∃ reps, bootstrapD exSquare 1 none exDraws = .ok reps := ⟨_, bootstrapD_ok_instance⟩

/-- the chain bridge applies to it, all hypotheses discharged: the verdict `chain` is true of the closed replicate -/
example : Spec.C17.chainOkSlice exSquare (exDev.map (tagCell 0)) 0 ["paid_loss"] (exDraws 0 0).I = true := by
  have h := spec_chain_bootstrapD_single bootstrapD_ok_instance (by decide) ex_sq_use ex_sq_kinds ex_sq_layout
    (by decide +kernel) 0 (by simp)
  simpa [ex_sq_fields] using h

/-- **spec_ata_membership_instance.** `spec_ata_membership_bootstrapD_partial` applied to the closed instance with
EVERY hypothesis discharged (including `ColumnsInRatios`, `ex_sq_columns`): the verdict `membership` is true of the
closed replicate — the bridge and its column hypothesis are not vacuous. -/
theorem spec_ata_membership_instance :
    Spec.C17.ataMembershipOk exSquare (exDev.map (tagCell 0)) 0 none = true := by
  refine spec_ata_membership_bootstrapD_partial bootstrapD_ok_instance ex_sq_kinds ex_sq_sorted ex_sq_tagInj ?_ ?_
    0 (by simp)
  · intro s hs _; rw [ex_sq_slice_eq s hs]; exact ⟨ex_sq_layout, by decide +kernel⟩
  · intro k hks i
    rw [ex_sq_slice_eq _ (List.getElem_mem hks), Option.getD_none, ex_sq_fields]
    exact ex_sq_columns

/-- **spec_ata_membership_regular_instance.** `spec_ata_membership_bootstrapD` on the closed instance with every
hypothesis discharged (`RegularLags exSquare` = `ex_sq_regular`): the bridge is not vacuous. -/
theorem spec_ata_membership_regular_instance :
    Spec.C17.ataMembershipOk exSquare (exDev.map (tagCell 0)) 0 none = true := by
  refine spec_ata_membership_bootstrapD bootstrapD_ok_instance ex_sq_kinds ex_sq_sorted ex_sq_tagInj ?_ ?_ 0 (by simp)
  · intro s hs _; rw [ex_sq_slice_eq s hs]; exact ⟨ex_sq_layout, by decide +kernel⟩
  · intro s hs; rw [ex_sq_slice_eq s hs]; exact ex_sq_regular

/-- **bootstrapD_ok_two.** Closed, kernel-checked TWO-slice instance: `bootstrapD` succeeds on `exTwo` (the square
under two metadata), per-slice draws `exDraws2` (slice 0 swaps its factors, slice 1 keeps them); the replicate is the
sum of the two tagged slice replicates. -/
theorem bootstrapD_ok_two : bootstrapD exTwo 1 none exDraws2 =
    .ok [exDev.map (tagCell 0) ++ exDevB.map (tagCell 0)] := by
  have h1 : ¬ ((1 : Int) ≤ 0) := by decide
  simp only [bootstrapD, h1, if_false, ex_two_slices, List.zipIdx_cons, List.zipIdx_nil, mapMExcept, bootstrapSliceD,
    Option.getD_none, ex_sq_fields, ex_sqB_fields, Int.toNat_one, List.range_one, ex_sqA_rep2, ex_sqB_rep,
    List.isEmpty_cons, Bool.false_eq_true, Nat.zero_add,
    List.map_cons, List.map_nil, List.getD_cons_zero, sumTriangles_pair, Triangle.add, ex_two_sum]

/-- **spec_chain_two_slice_instance.** `spec_chain_bootstrapD_slices` applied to it with EVERY hypothesis discharged
(`kindsConsistent`, `TagInjective`, and per slice `useAtas`, `SliceLayout`, distinct field names): the verdict `chain`
is true of BOTH slices against the whole two-slice replicate — the multi-slice theorem is not vacuous. -/
theorem spec_chain_two_slice_instance :
    Spec.C17.chainOkSlice exSquare (exDev.map (tagCell 0) ++ exDevB.map (tagCell 0)) 0 ["paid_loss"]
      (exDraws2 0 0).I = true ∧
    Spec.C17.chainOkSlice exSquareB (exDev.map (tagCell 0) ++ exDevB.map (tagCell 0)) 0 ["paid_loss"]
      (exDraws2 1 0).I = true := by
  have key : ∀ S, (Triangle.slices exTwo).map (·.2) = S → ∀ k (hks : k < S.length),
      useAtas S[k] = true → SliceLayout S[k] → (∀ c ∈ S[k], c.values.keys.Nodup) →
      Spec.C17.chainOkSlice S[k] (exDev.map (tagCell 0) ++ exDevB.map (tagCell 0)) 0
        ((none : Option (List String)).getD (fieldsOf S[k])) (exDraws2 k 0).I = true := by
    intro S hS
    subst hS
    intro k hks hu H hwf
    exact spec_chain_bootstrapD_slices bootstrapD_ok_two ex_two_kinds ex_two_tagInj k hks hu H hwf 0 (by simp)
  have h0 := key _ ex_two_slices 0 (by simp) ex_sq_use ex_sq_layout (by decide +kernel)
  have h1 := key _ ex_two_slices 1 (by simp) ex_sqB_use ex_sqB_layout (by decide +kernel)
  simp only [List.getElem_cons_zero, List.getElem_cons_succ, Option.getD_none, ex_sq_fields, ex_sqB_fields] at h0 h1
  exact ⟨h0, h1⟩

/-- closed instance: `thin` SUCCEEDS with a valid draw (k = 2 of n = 3, positions 2 and 0) -/
example : thin exSamples 2 [2, 0] = .ok (.fresh (exSamples.map (thinCell [2, 0]))) := by
  have hn : numSamples exSamples = .ok 3 := by decide +kernel
  have hk : kindsConsistent (exSamples.map (thinCell [2, 0])) = true := by decide +kernel
  have hs : (exSamples.map (thinCell [2, 0])).Pairwise (fun a b => Cell.le a b) := by decide +kernel
  simp [thin, hn, Triangle.ofCells_of_sorted hk hs]

/-- closed instance: `moment_match` on a scalar field succeeds and returns the triangle -/
example : momentMatch exSamples ["earned_premium"] true (fun _ _ => [1, 2, 3]) = .ok exSamples := by
  simp only [momentMatch, momentLoop, ex_fields, ofCells_eq_insertionSort]; decide +kernel

/-- closed instance: `moment_match` on the sample field succeeds; every cell's array is replaced by the drawn
vector in the old samples' rank order (next example: `[5,1,3]` receives `[3,1,2]`) -/
example : momentMatch exSamples ["paid_loss"] true (fun _ _ => [1, 2, 3]) = .ok exOut := by
  have hk : kindsConsistent exOut = true := by decide +kernel
  have hs : exOut.Pairwise (fun a b => Cell.le a b) := by decide +kernel
  have hmf : momentField "paid_loss" (fun _ => [1, 2, 3]) 0 exSamples = .ok exOut := rfl
  simp only [momentMatch, ex_fields]
  simp [momentLoop, hmf, Triangle.ofCells_of_sorted hk hs]

example : reimposeRank [5, 1, 3] [1, 2, 3] = [3, 1, 2] := by
  simp only [reimposeRank, sortQ_eq_insertionSort]; decide +kernel

example : ValidDraw 3 2 [2, 0] := ⟨rfl, by decide, by decide⟩

/-- the hypotheses of the bootstrap bridges are satisfiable: the two-cell triangle has distinct coordinates,
uniform field names and an injective tag -/
example : (exSamples.map (·.coord)).Nodup ∧ UniformFields exSamples ∧ ∀ i, TagInjective exSamples i := by
  refine ⟨by decide +kernel, ?_, ?_⟩
  · intro c hc c' hc' f hf
    simp only [exSamples, List.mem_cons, List.not_mem_nil, or_false] at hc hc'
    rcases hc with rfl | rfl <;> rcases hc' with rfl | rfl <;> simpa [exCell, Dict.keys] using hf
  · intro i c1 h1 c2 h2 _
    simp only [exSamples, List.mem_cons, List.not_mem_nil, or_false] at h1 h2
    rcases h1 with rfl | rfl <;> rcases h2 with rfl | rfl <;> rfl

/-- the layout hypothesis of `spec_chain_slice` is satisfiable: a 2 × 2 age-to-age square (two periods, lags 0 and 12) -/
example : RowsByLag exSquare := rows_by_lag ex_sq_layout

end Bermuda.Properties.C17
