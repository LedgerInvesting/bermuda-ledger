/-
C01 — closure clause, extended: "Every Triangle returned by ANY chain of public operations is again in
canonical form (sorted, single cell class, every cell satisfies the constructor's date rules)".

`Properties/C01.lean: run_canonical` covers the ten operations of `Model/Ops.lean`. Here the same theorem
is proved for chains over `Op2` (`Model/AllOps.lean`), `Op3` (`Model/AllOps2.lean`) and `Op4`
(`Model/AllOps3.lean`), each extending the one before. `Op2`: those ten plus every operation the other topic
models cover — to_incremental, to_cumulative, aggregate, summarize, merge, coalesce, add_statics,
period_merge, make_right_triangle, make_right_diagonal, fill_forward_gaps, backfill, clip with all six
bounds, `t[p, e, m]`, split, slices, convert_currency, disaggregate_experience,
accident_quarter_to_policy_year, blend, thin, bootstrap, moment_match, and the JSON round trip
`Triangle.from_dict(t.to_dict())`.

The per-operation lemmas are in `Lemmas/AllOps*.lean` (namespace `AllOps`); a theorem here that carries the name
of one of them (`split_all_canonical`, the readers `from…_canonical`, …) is that lemma stated as a property, and the
lemma is written `AllOps.…`.
How the proofs go: every model ends in `Triangle.ofCells l`, so sortedness and the single class come from
`ofCells_canonical`; the date rules of the cells of `l` hold because each of them is an input cell, an
input cell with other values / metadata (the rules only read the class and the dates), or was built
through the validating constructor `Cell.mk?` (all cells the models ADD — window cells of `aggregate`,
`prev` dates of `to_incremental`, the `addMonths` cells of the extension operators — are built that way,
exactly as the Python code builds them through `Cell(...)`/`cell.replace(...)`; when the constructor
refuses, the operation raises and the theorem's hypothesis `= .ok t'` is false). A composite `x >>= f` is as
good as its last stage (`bind_closed`); `thin` and `moment_match` keep the class and the coordinate of every cell, and
such a list is canonical as it stands (`canonical_of_frames`).

Second extension (`Op3`, `Model/AllOps2.lean`, theorems `step3_canonical` / `run3_canonical` below): the
operations with FUNCTION arguments — `derive_fields`, `derive_metadata`, `replace`, `filter` with callables
given as expressions of `Fn.Ex` (whose leaf `opaque f` is an arbitrary function of the cell, so the theorems
speak about every callable) —, the Set mixins `| & - ^`, `sum`, `t[i]`, `loose_period_merge`,
`shift_origin`, `weight_geometric_decay`, `paid_bs_adjustment`, `reported_bs_adjustment` (value computations
as opaque callables) and the tabular round trips `reader ∘ writer` (wide, long, array frame, matrix).

Third extension (`Op4`, `Model/AllOps3.lean`, `step4_canonical` / `run4_canonical`): the rest of `io/array.py`, the
rich matrix, `__getitem__` with any index object on `Triangle` / `TriangleSlice`, `make_pred_triangle(_complement)`,
the binary round trip; `run4_slices_contiguous` / `run4_slice_order` restate contiguity and slice order for every
chain result.
-/
import Bermuda.Model.AllOps
import Bermuda.Properties.C01
import Bermuda.Lemmas.AllOps
import Bermuda.Lemmas.AllOpsBasis
import Bermuda.Lemmas.AllOpsExtend
import Bermuda.Lemmas.AllOpsUnits
import Bermuda.Lemmas.AllOpsResample
import Bermuda.Lemmas.AllOpsJson
import Bermuda.Model.AllOps2
import Bermuda.Lemmas.AllOpsOp3
import Bermuda.Lemmas.AllOpsOp3Readers
import Bermuda.Model.AllOps3
import Bermuda.Lemmas.AllOpsOp4
import Bermuda.Lemmas.AllOpsBinary
import Bermuda.Lemmas.AllOpsExamples
namespace Bermuda.Properties.C01Ext
open Bermuda Bermuda.Properties.C01 Bermuda.AllOps

/-- operands supplied from outside that contribute CELLS to the result (the `other` of `+`, `merge`,
the further triangles of `coalesce` and `blend`) must themselves be canonical triangles. Operands that
only contribute values (`add_statics`' source, `period_merge`'s right triangle) need nothing. -/
def _root_.Bermuda.Op2.argsCanonical : Op2 → Prop
  | .base op => op.argsCanonical
  | .merge _ _ other => Canonical other
  | .coalesce others => ∀ o ∈ others, Canonical o
  | .blend others _ _ _ => ∀ o ∈ others, Canonical o
  | _ => True

/-! ### operations returning several triangles, or a cell: the statement for EVERY returned object -/

/-- every triangle of `t.split(keys)` is canonical -/
theorem split_all_canonical {t : List Cell} {keys : List String} {parts : List (List MVal × List Cell)}
    (ht : Canonical t) (h : Triangle.split t keys = .ok parts) : ∀ p ∈ parts, Canonical p.2 :=
  AllOps.split_all_canonical (allOk_of ht) h

/-- every value of `t.slices` is canonical -/
theorem slices_all_canonical {t : List Cell} (ht : Canonical t) :
    ∀ p ∈ Triangle.slices t, Canonical p.2 :=
  AllOps.slices_all_canonical ht

/-- every replicate returned by `bootstrap` is canonical (whatever the RNG draws `P`) -/
theorem bootstrap_all_canonical {t : List Cell} {n : Int} {field : Option (List String)}
    {P : Nat → Nat → Resample.RepParam} {reps : List (List Cell)}
    (h : Resample.bootstrap t n field P = .ok reps) : ∀ r ∈ reps, Canonical r :=
  AllOps.bootstrap_all_canonical h

/-- `t[p, e, m]` returns a canonical triangle … -/
theorem getItem_triangle_canonical {t r : List Cell} {p e : DateIdx} {m : MetaIdx}
    (ht : Canonical t) (h : Triangle.getItem t p e m = .ok (.inl r)) : Canonical r :=
  getItem_ok (allOk_of ht) h

/-- … or, when no index is a slice, a cell that satisfies the date rules -/
theorem getItem_cell_datesOk {t : List Cell} {c : Cell} {p e : DateIdx} {m : MetaIdx}
    (ht : Canonical t) (h : Triangle.getItem t p e m = .ok (.inr c)) : c.datesOk = true :=
  getItem_ok (allOk_of ht) h

/-- `thin` returns the very same triangle or a canonical new one -/
theorem thin_fresh_canonical {t r : List Cell} {k : Nat} {idx : List Nat}
    (ht : Canonical t) (h : Resample.thin t k idx = .ok (.fresh r)) : Canonical r :=
  thin_canonical ht h

/-- `Triangle.from_dict(j)` is canonical for EVERY document `j` it accepts, not only `t.to_dict()` -/
theorem fromDict_canonical {j : JsonIO.JVal} {r : List JsonIO.JCell} (h : JsonIO.fromDict j = .ok r) :
    Canonical (r.map JsonIO.JCell.toCell) :=
  AllOps.fromDict_canonical h

/-- **Every modelled public operation returns a canonical triangle.** -/
theorem step2_canonical {t t' : List Cell} (op : Op2) (ht : Canonical t) (ho : op.argsCanonical)
    (h : step2 t op = .ok t') : Canonical t' := by
  cases op with
  | base op => exact step_canonical op ht ho h
  | toIncremental => exact toIncremental_canonical ht h
  | toCumulative => exact toCumulative_canonical ht h
  | aggregate tr a => exact aggregate_canonical ht h
  | summarize tr extra prem => exact summarize_canonical h
  | merge ty on other => exact merge_canonical (allOk_of ht) (allOk_of ho) h
  | coalesce others =>
    exact coalesce_canonical (List.forall_mem_cons.mpr ⟨allOk_of ht, fun x hx => allOk_of (ho x hx)⟩) h
  | addStatics source statics => exact addStatics_canonical (allOk_of ht) h
  | periodMerge other suffix => exact periodMerge_canonical (allOk_of ht) h
  | makeRightTriangle lags unit => exact makeRightTriangle_canonical h
  | makeRightDiagonal dates hist => exact makeRightDiagonal_canonical h
  | fillForwardGaps res? noneFlag => exact fillForwardGaps_canonical (allOk_of ht) h
  | backfill statics res? minLag => exact backfill_canonical (allOk_of ht) h
  | clipFull a => exact clipFull_canonical (allOk_of ht) h
  | getItem p e m =>
    simp only [step2] at h
    split at h
    · cases h
    · rename_i r hr; cases h; exact getItem_ok (allOk_of ht) hr
    · cases h
  | splitNth keys i =>
    simp only [step2] at h
    split at h
    · cases h
    · rename_i parts hparts
      obtain ⟨p, hp, rfl⟩ := map_ok h
      exact AllOps.split_all_canonical (allOk_of ht) hparts p (nth_mem hp)
  | sliceNth i =>
    simp only [step2] at h
    obtain ⟨p, hp, rfl⟩ := map_ok h
    exact AllOps.slices_all_canonical ht p (nth_mem hp)
  | convertCurrency target rates => exact convertCurrency_canonical (allOk_of ht) h
  | disaggregateExperience res weights fields => exact disaggregateExperience_canonical ht h
  | aqToPolicyYear policyLen origin continuous => exact aqToPolicyYear_canonical h
  | blend others w method idx =>
    exact blend_canonical (List.forall_mem_cons.mpr ⟨allOk_of ht, fun x hx => allOk_of (ho x hx)⟩) h
  | thin k idx =>
    simp only [step2] at h
    split at h
    · cases h
    · cases h; exact ht
    · rename_i r hr; cases h; exact thin_canonical ht hr
  | bootstrapNth n field P i =>
    simp only [step2] at h
    split at h
    · cases h
    · rename_i reps hreps
      exact AllOps.bootstrap_all_canonical hreps t' (nth_mem h)
  | momentMatch fields distOk draws => exact momentMatch_canonical ht h
  | jsonRoundTrip => exact jsonRoundTrip_canonical h

/-- **Every chain of modelled public operations keeps the canonical form.** -/
theorem run2_canonical {t t' : List Cell} (ops : List Op2) (ht : Canonical t)
    (ho : ∀ op ∈ ops, op.argsCanonical) (h : run2 t ops = .ok t') : Canonical t' := by
  rw [run2_eq_foldlM] at h
  exact foldlM_inv Canonical h ht fun _ op _ hacc hop => step2_canonical op hacc (ho op hop)

/-- the executable Spec predicate (what the driver evaluates on the IMPLEMENTATION's results) holds on
every model result of a chain -/
theorem run2_isCanonical {t t' : List Cell} (ops : List Op2) (ht : Canonical t)
    (ho : ∀ op ∈ ops, op.argsCanonical) (h : run2 t ops = .ok t') : Spec.isCanonical t' = true :=
  isCanonical_of_canonical (run2_canonical ops ht ho h)

/-- a chain over `Op` is a chain over `Op2` -/
theorem run2_base (t : List Cell) (ops : List Op) : run2 t (ops.map Op2.base) = run t ops := by
  rw [run2_eq_foldlM, run_eq_foldlM, List.foldlM_map]; rfl

/-! ### second extension (`Op3`, Model/AllOps2.lean): function arguments, Set mixins, `sum`, `t[i]`,
`loose_period_merge`, `shift_origin`

The callables of `derive_fields` / `derive_metadata` / `replace` / `filter` are expressions of `Fn.Ex`; the
theorems hold for EVERY expression (the proofs never unfold `Fn.Ex.eval`): whatever a definition
computes, the new cell is built by the validating constructor, and `Triangle(...)` re-sorts. -/

/-- operands that contribute CELLS must be canonical triangles: the right operand of `| & ^`, the further
triangles of `sum`; `make_pred_triangle_with_init` returns a given `pred` triangle as it is (`predGiven_ok`), so that
one too. `t - other`, `loose_period_merge` (right side contributes values only) and `shift_origin` (the other triangle
only fixes the shift) need nothing. -/
def _root_.Bermuda.Op3.argsCanonical : Op3 → Prop
  | .base op => op.argsCanonical
  | .union o => Canonical o
  | .inter o => Canonical o
  | .symdiff o => Canonical o
  | .sum others => ∀ o ∈ others, Canonical o
  | .makePredTriangleWithInit a => ∀ p, a.pred = some p → Canonical p
  | _ => True

/-- `t[i]` returns a cell of the triangle: it satisfies the date rules -/
theorem cellAt_datesOk {t : List Cell} {i : Int} {c : Cell} (ht : Canonical t)
    (h : Fn.cellAt t i = .ok c) : c.datesOk = true :=
  allOk_of ht c (cellAt_mem h)

/-- the wide reader (`from_wide_data_frame` / `from_wide_csv`) returns a canonical triangle for EVERY table
it accepts, not only for what `to_wide_*` writes -/
theorem fromWideRows_canonical {tb : Frame.Table} {f d l : List String} {r : List Cell}
    (h : Frame.fromWideRows tb f d l = .ok r) : Canonical r :=
  AllOps.fromWideRows_canonical h

/-- the long reader returns a canonical triangle for every table it accepts -/
theorem fromLongRows_canonical {tb : Frame.Table} {l : List String} {r : List Cell}
    (h : Frame.fromLongRows tb l = .ok r) : Canonical r :=
  AllOps.fromLongRows_canonical h

/-- the array-frame reader returns a canonical triangle for every frame it accepts -/
theorem fromArrayFrame_canonical {rows : List Frame.ArrayRow} {field : String} {md : Metadata}
    {res : Option Int} {r : List Cell} (h : Frame.fromArrayFrame rows field md res = .ok r) : Canonical r :=
  AllOps.fromArrayFrame_canonical h

/-- `matrix_to_triangle` returns a canonical triangle for every matrix it accepts -/
theorem fromMatrix_canonical {m : Frame.Matrix} {r : List Cell} (h : Frame.fromMatrix m = .ok r) :
    Canonical r :=
  AllOps.fromMatrix_canonical h

/-- **Every operation of `Op3` returns a canonical triangle.** -/
theorem step3_canonical {t t' : List Cell} (op : Op3) (ht : Canonical t) (ho : op.argsCanonical)
    (h : step3 t op = .ok t') : Canonical t' := by
  cases op with
  | base op => exact step2_canonical op ht ho h
  | deriveFields defs => exact deriveFields_canonical (allOk_of ht) h
  | deriveMetadataFn defs => exact deriveMetadataFn_canonical (allOk_of ht) h
  | replaceFn defs => exact replaceFn_canonical h
  | filterFn pred => exact filterFn_canonical (allOk_of ht) h
  -- `Model/Eq.lean`: `|` is `+`; `&` filters the RIGHT operand, `-` the left one
  | union o => exact add_canonical (allOk_of ht) (allOk_of ho) h
  | inter o => exact filterP_canonical (allOk_of ho) h
  | diff o => exact filterP_canonical (allOk_of ht) h
  | symdiff o => exact symdiff_canonical (allOk_of ht) (allOk_of ho) h
  | sum others => exact sumOf_canonical ht (fun o hmem => allOk_of (ho o hmem)) h
  | cellAt i =>
    -- never `.ok`: `t[i]` is a cell and the chain cannot continue; what holds of the cell is `cellAt_datesOk`
    simp only [step3] at h
    split at h <;> cases h
  | loosePeriodMerge o suffix => exact bind_closed (fun _ _ => looseCore_canonical (allOk_of ht)) h
  | shiftOrigin m => exact bind_closed (fun _ _ => replaceFn_canonical) h
  | weightGeometricDecay a w scaled => exact weightGeometricDecay_canonical (allOk_of ht) h
  | paidBsAdjustment ult dr pl => exact paidBsAdjustment_canonical h
  | reportedBsAdjustment method first second trend => exact reportedBsAdjustment_canonical ht h
  | wideRoundTrip f d l => exact bind_closed (fun _ _ => AllOps.fromWideRows_canonical) h
  | longRoundTrip l => exact bind_closed (fun _ _ => AllOps.fromLongRows_canonical) h
  | arrayRoundTrip field md res => exact bind_closed (fun _ _ => AllOps.fromArrayFrame_canonical) h
  | matrixRoundTrip => exact bind_closed (fun _ _ => AllOps.fromMatrix_canonical) h
  | dropOffDiagonals => exact bind_closed (fun _ _ => filterP_canonical (allOk_of ht)) h
  | toSlice => exact toSlice_canonical (allOk_of ht) h
  | sliceToTriangle => exact ofCells_canonical h (allOk_of ht)
  | makePredTriangleWithInit a => exact makePredTriangleWithInit_canonical ho h
  | disaggregateDevelopment a vals => exact disaggregateDevelopment_canonical ht h
  | disaggregate resExp weights a vals => exact disaggregate_canonical ht h

/-- **Every chain over `Op3` keeps the canonical form.** -/
theorem run3_canonical {t t' : List Cell} (ops : List Op3) (ht : Canonical t)
    (ho : ∀ op ∈ ops, op.argsCanonical) (h : run3 t ops = .ok t') : Canonical t' := by
  rw [run3_eq_foldlM] at h
  exact foldlM_inv Canonical h ht fun _ op _ hacc hop => step3_canonical op hacc (ho op hop)

/-- the executable Spec predicate holds on every model result of an `Op3` chain -/
theorem run3_isCanonical {t t' : List Cell} (ops : List Op3) (ht : Canonical t)
    (ho : ∀ op ∈ ops, op.argsCanonical) (h : run3 t ops = .ok t') : Spec.isCanonical t' = true :=
  isCanonical_of_canonical (run3_canonical ops ht ho h)

/-- a chain over `Op2` is a chain over `Op3` -/
theorem run3_base (t : List Cell) (ops : List Op2) : run3 t (ops.map Op3.base) = run2 t ops := by
  rw [run3_eq_foldlM, run2_eq_foldlM, List.foldlM_map]; rfl

/-! ### non-vacuity: concrete chains that meet the hypotheses and really run

The witnesses (triangles, chains, and the kernel evaluation of each chain) are in `Lemmas/AllOpsExamples.lean`.
`exChain`: six `Op2` operations (`coalesce`, `add_statics`, `clip`, `to_incremental`, `to_cumulative`, `merge`).
`exChain3`: five `Op3` operations, four of them with function arguments; its first step (`derive_metadata` with a
lambda) yields a list that is provably NOT sorted (`exL1_not_sorted`) and the constructor re-sorts it. `exChain4` (used
after `run4_canonical` below): `t[1:6]` through the general `__getitem__` (an `Op4` constructor), then `derive_fields` and
`filter`. -/

theorem exChain_args : ∀ op ∈ exChain, op.argsCanonical := by
  intro op hop
  simp only [exChain, List.mem_cons, List.not_mem_nil, or_false] at hop
  rcases hop with rfl | rfl | rfl | rfl | rfl | rfl
  · exact List.forall_mem_singleton.mpr (isCanonical_iff.mp (by decide +kernel))
  · trivial
  · trivial
  · trivial
  · trivial
  · exact isCanonical_iff.mp (by decide +kernel)

/-- the hypotheses of `run2_canonical` are met and the chain really runs: to a 4-cell triangle whose first cell
carries the static field and whose last cell — the one `coalesce` brought in — carries the merged field -/
example : Canonical exT6 ∧ exT6.length = 4 ∧
    (exT6.head?.map fun c => c.values.keys) = some ["paid_loss", "earned_premium", "reported_loss"] ∧
    (exT6.getLast?.map fun c => c.values.keys) = some ["paid_loss", "earned_premium", "incurred_loss"] :=
  ⟨run2_canonical exChain exT_canonical exChain_args exChain_runs, by decide +kernel, by decide +kernel,
   by decide +kernel⟩

section nonvacuity3
open Bermuda.Fn

theorem exChain3_args : ∀ op ∈ exChain3, op.argsCanonical := by
  intro op hop
  simp only [exChain3, List.mem_cons, List.not_mem_nil, or_false] at hop
  rcases hop with rfl | rfl | rfl | rfl | rfl
  · trivial
  · trivial
  · trivial
  · trivial
  · exact isCanonical_iff.mp (by decide +kernel)

/-- the hypotheses of `run3_canonical` are met and the chain really runs: the function-argument
`derive_metadata` produces an unsorted list that the constructor re-sorts into four slices; the final
triangle has six cells, the derived field is there, and every `period_end` was replaced -/
example : Canonical exS5 ∧ exS5.length = 6 ∧ (metasOf exS5).length = 3 ∧
    (exS5.head?.map fun c => (c.values.keys, c.pe == c.ev)) = some (["paid_loss", "earned_premium", "double"], true) :=
  ⟨run3_canonical exChain3 exT_canonical exChain3_args exChain3_runs, by decide +kernel, by decide +kernel,
   by decide +kernel⟩

end nonvacuity3

/-! ### third extension (`Op4`, Model/AllOps3.lean): the rest of `io/array.py`, rich matrix, `__getitem__` with
any index object on `Triangle` / `TriangleSlice`, `make_pred_triangle(_complement)` -/

/-- `statics_data_frame_to_triangle` returns a canonical triangle for EVERY frame it accepts -/
theorem fromStatics_canonical {rows : List Frame.StaticsRow} {ev : Option Date} {res : Option Int} {md : Metadata}
    {r : List Cell} (h : Frame.fromStatics rows ev res md = .ok r) : Canonical r :=
  AllOps.fromStatics_canonical h

/-- `array_data_frame_to_triangle` with all its arguments, for every frame it accepts -/
theorem fromArrayFrameFull_canonical {fr : Frame.ArrayFrame} {field : String} {res evalRes : Option Int}
    {fromEnd : Bool} {md : Metadata} {r : List Cell}
    (h : Frame.fromArrayFrameFull fr field res evalRes fromEnd md = .ok r) : Canonical r :=
  AllOps.fromArrayFrameFull_canonical h

/-- `array_triangle_builder`, for every list of frames it accepts -/
theorem arrayTriangleBuilder_canonical {frames : List Frame.ArrayFrame} {fields : List String}
    {res evalRes : Option Int} {fromEnd : Bool} {md : Metadata} {r : List Cell}
    (h : Frame.arrayTriangleBuilder frames fields res evalRes fromEnd md = .ok r) : Canonical r :=
  AllOps.arrayTriangleBuilder_canonical h

/-- `rich_matrix_to_triangle`, for every rich matrix it accepts -/
theorem fromRich_canonical {m : Frame.RichMatrix} {r : List Cell} (h : Frame.fromRich m = .ok r) : Canonical r :=
  AllOps.fromRich_canonical h

/-- `Triangle.from_binary`: canonical for EVERY byte string `_read_triangle` accepts (every decoded cell went
through the constructor's checks, `Bin.decode_dates`; the bridge to the shared cell type keeps class and dates) -/
theorem fromBinary_canonical {s : Codec.Bytes} {r : List Cell} (h : Fn.fromBinary s = .ok r) : Canonical r :=
  AllOps.fromBinary_canonical h

/-- `make_pred_triangle`: canonical whatever the arguments and whatever `statics_fn` returns or raises -/
theorem makePredTriangle_canonical {a : Fn.PredArgs} {statics : Fn.StaticsFn} {r : List Cell}
    (h : Fn.makePredTriangle a statics = .ok r) : Canonical r :=
  AllOps.makePredTriangle_canonical h

/-- `t[index]` for ANY index object: a canonical triangle, or a cell that satisfies the date rules -/
theorem getItemAny_itemOk {t : List Cell} {idx : Index} {res : List Cell ⊕ Cell} (ht : Canonical t)
    (h : Triangle.getItemAny t idx = .ok res) : ItemOk res :=
  getItemAny_ok (allOk_of ht) h

/-- `TriangleSlice(cells)` is canonical; so is whatever `TriangleSlice(cells)[index]` returns -/
theorem triangleSlice_canonical {l r : List Cell} (hl : ∀ c ∈ l, c.datesOk = true)
    (h : TriangleSlice.ofCells l = .ok r) : Canonical r :=
  sliceOfCells_canonical hl h

theorem sliceGetItemAny_itemOk {t : List Cell} {idx : Index} {res : List Cell ⊕ Cell} (ht : Canonical t)
    (h : Fn.sliceGetItemAny t idx = .ok res) : ItemOk res :=
  sliceGetItemAny_ok (allOk_of ht) h

/-- no operation of `Op4` takes a further triangle -/
def _root_.Bermuda.Op4.argsCanonical : Op4 → Prop
  | .base op => op.argsCanonical
  | _ => True

/-- **Every operation of `Op4` returns a canonical triangle.** -/
theorem step4_canonical {t t' : List Cell} (op : Op4) (ht : Canonical t) (ho : op.argsCanonical)
    (h : step4 t op = .ok t') : Canonical t' := by
  cases op with
  | base op => exact step3_canonical op ht ho h
  | rightEdgeStatics ev res md => exact bind_closed (fun _ _ => AllOps.fromStatics_canonical) h
  | arrayFullRoundTrip field res evalRes fromEnd md => exact bind_closed (fun _ _ => AllOps.fromArrayFrameFull_canonical) h
  | arrayBuilderRoundTrip fields res evalRes fromEnd md => exact bind_closed (fun _ _ => AllOps.arrayTriangleBuilder_canonical) h
  | richRoundTrip evalRes fields => exact bind_closed (fun _ _ => AllOps.fromRich_canonical) h
  | matrixOptRoundTrip evalRes fields => exact bind_closed (fun _ _ => AllOps.fromMatrix_canonical) h
  | getItemAny idx => exact triangleOnly_canonical (fun _ hx => getItemAny_ok (allOk_of ht) hx) h
  | sliceGetItemAny idx => exact triangleOnly_canonical (fun _ hx => sliceGetItemAny_ok (allOk_of ht) hx) h
  | makePredTriangle a statics => exact AllOps.makePredTriangle_canonical h
  | makePredTriangleComplement a => exact makePredTriangleComplement_canonical h
  | binaryRoundTrip ext wflag rflag => exact binaryRoundTrip_canonical h

/-- **Every chain over `Op4` keeps the canonical form.** -/
theorem run4_canonical {t t' : List Cell} (ops : List Op4) (ht : Canonical t)
    (ho : ∀ op ∈ ops, op.argsCanonical) (h : run4 t ops = .ok t') : Canonical t' := by
  rw [run4_eq_foldlM] at h
  exact foldlM_inv Canonical h ht fun _ op _ hacc hop => step4_canonical op hacc (ho op hop)

theorem run4_isCanonical {t t' : List Cell} (ops : List Op4) (ht : Canonical t)
    (ho : ∀ op ∈ ops, op.argsCanonical) (h : run4 t ops = .ok t') : Spec.isCanonical t' = true :=
  isCanonical_of_canonical (run4_canonical ops ht ho h)

/-- a chain over `Op3` is a chain over `Op4` -/
theorem run4_base (t : List Cell) (ops : List Op3) : run4 t (ops.map Op4.base) = run3 t ops := by
  rw [run4_eq_foldlM, run3_eq_foldlM, List.foldlM_map]; rfl

/-- **Contiguity is re-established by every chain**: in the result of any `Op4` chain a cell lying between two
cells of one slice (metadata equal under Python's `==`, i.e. `Metadata.cmp = .eq`) belongs to that slice -/
theorem run4_slices_contiguous {t t' : List Cell} (ops : List Op4) (ht : Canonical t)
    (ho : ∀ op ∈ ops, op.argsCanonical) (h : run4 t ops = .ok t') {i j k : Nat} (hij : i < j) (hjk : j < k)
    (hk : k < t'.length) (hm : Metadata.cmp t'[i].md t'[k].md = .eq) : Metadata.cmp t'[i].md t'[j].md = .eq :=
  canonical_slices_contiguous (run4_canonical ops ht ho h) hij hjk hk hm

/-- **Slice order is re-established by every chain**: slices follow `Metadata.__lt__` strictly, cells ascend
inside a slice -/
theorem run4_slice_order {t t' : List Cell} (ops : List Op4) (ht : Canonical t)
    (ho : ∀ op ∈ ops, op.argsCanonical) (h : run4 t ops = .ok t') {i j : Nat} (hij : i < j) (hj : j < t'.length) :
    (Metadata.cmp t'[i].md t'[j].md = .eq ∧ Cell.le t'[i] t'[j] = true) ∨ mlt t'[i].md t'[j].md :=
  canonical_slice_order (run4_canonical ops ht ho h) hij hj

section nonvacuity4
open Bermuda.Fn

theorem exChain4_args : ∀ op ∈ exChain4, op.argsCanonical := by
  intro op hop
  simp only [exChain4, List.mem_cons, List.not_mem_nil, or_false] at hop
  rcases hop with rfl | rfl | rfl <;> trivial

/-- the hypotheses of `run4_canonical` (and of `run4_slices_contiguous` / `run4_slice_order`) are met by a chain
that starts with an `Op4` operation and really runs: four cells of one slice remain, each with the derived field -/
example : Canonical exG3 ∧ exG3.length = 4 ∧ (metasOf exG3).length = 1 ∧
    (exG3.map fun c => c.values.keys.contains "double") = [true, true, true, true] :=
  ⟨run4_canonical exChain4 exT_canonical exChain4_args exChain4_runs, by decide +kernel, by decide +kernel,
   by decide +kernel⟩

end nonvacuity4

end Bermuda.Properties.C01Ext
