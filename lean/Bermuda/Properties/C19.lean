/-
C19 — A torn .trib/.tribc file is never read as different data.
Only property theorems live here (helper lemmas: `Lemmas/Codec*.lean`).

`decode` mirrors `binary_input.py` including the silent short `stream.read(n)`, the raising
`struct.unpack` on a short read, `peek`, "EOF or unknown marker ends the loop", "unknown tag ⇒ None".
The theorems are about every strict prefix of `encode t` — the bytes a crash during `to_binary`
leaves behind (writes are sequential). gzip is a library and stays a parameter: for compressed files
`compressed_prefix_refused` holds relative to two named facts about it, and the harness enumerates every
truncation of the compressed files on the implementation.
-/
import Bermuda.Lemmas.CodecSpec
import Bermuda.Lemmas.CodecPy
import Bermuda.Model.AllOps3
import Bermuda.Lemmas.AllOps
namespace Bermuda.Properties.C19
open Bermuda Bermuda.Codec

/-! ### 1. per-class prefix lemmas: on a strict prefix of what the writer wrote the reader raises
(`StrongP`) or, at worst, returns having consumed all that is left (`WeakP`) -/

/-- fixed-width `<hBB`: always raises -/
theorem date_prefix (d : Date) : StrongP readDate (writeDate d) := readDate_strong d

/-- `<d`: always raises -/
theorem limit_prefix (l : Option Bytes) (h : limitOk l = true) : StrongP readLimit (writeLimit l) :=
  (readLimit_spec l h).strong

/-- a string is read with a plain `stream.read(n)`: cut inside its body it comes back SHORTER
without an error (unless the cut splits a UTF-8 sequence) — but then nothing is left -/
theorem string_prefix (s : Option Bytes) (h : optStrOk s = true) : WeakP readStr (writeStr s) :=
  (readStr_spec s h).weak

/-- arrays: `np.frombuffer(...).reshape(shape)` raises on a short payload -/
theorem array_prefix (dims : List Nat) (p : Bytes) (h : arrOk dims p = true) :
    StrongP readArrBody (writeArrBody dims p) := (readArrBody_spec dims p h).strong

/-- a value whose tag byte is missing reads as `None` (weak); everything else raises or is a
short string -/
theorem value_prefix (v : RawVal) (h : valOk v = true) : WeakP readVal (writeVal v) :=
  (readVal_spec v h).weak

/-- a dictionary needs its `DICT_END` byte: every strict prefix raises (a value that came back
early is followed by a `<H` unpack on empty input) -/
theorem dict_prefix (pool : List Bytes) (hp : pool.length ≤ 65536) (d : RawDict)
    (hd : dictOk d = true) (hk : KeysIn pool d) :
    StrongP (readDict (pool.map some)) (writeDict pool d) := (readDict_spec pool hp d hd hk).strong

/-- a metadata record ends in two dictionaries: every strict prefix raises -/
theorem metadata_prefix (pool : List Bytes) (hp : pool.length ≤ 65536) (m : RawMetadata)
    (hm : metaOk m = true) (hk1 : KeysIn pool m.details) (hk2 : KeysIn pool m.lossDetails) :
    StrongP (readMetaBody (pool.map some)) (writeMetaBody pool m) :=
  (readMetaBody_spec pool hp m hm hk1 hk2).strong

/-- a cell record ends in a dictionary (or, for incremental cells, a date): every strict prefix
raises — no partial last cell -/
theorem cell_prefix (pool : List Bytes) (hp : pool.length ≤ 65536) (c : RawCell)
    (hc : cellOk c = true) (hk : KeysIn pool c.values) :
    StrongP (readCellBody (pool.map some) c.kind c.md) (writeCellBody pool c) :=
  (readCellBody_spec pool hp c hc hk).strong

/-- the string pool: raises, or comes back (possibly with a shortened last string) with nothing
left — and then the record loop returns the empty triangle -/
theorem pool_prefix (pool : List Bytes) (hlen : pool.length < 32768)
    (h : ∀ s ∈ pool, strOk s = true) : WeakP readPool (writePool pool) := (readPool_spec pool hlen h).weak

/-- the record loop, by induction over the records -/
theorem records_prefix (pool : List Bytes) (hp : pool.length ≤ 65536)
    (cells : List RawCell) (hc : ∀ c ∈ cells, cellOk c = true ∧ CellIn pool c)
    (prev : Option RawMetadata) (m fuel : Nat)
    (hf : ((writeRecords pool prev cells).take m).length < fuel) :
    PrefixResult cells (readRecords (pool.map some) fuel prev ((writeRecords pool prev cells).take m)) :=
  let ⟨_, hr⟩ := records_writeRecords hc prev
  hr.read_prefix hp m fuel

/-! ### 2. the property -/

/-- **C19.** Reading any strict prefix of a valid file either raises or returns exactly the
leading cells of the original triangle, in order, unmodified: never a cell that was not in the
original, never a cell with altered dates, metadata or values, never cells out of order. (`hn` says that the
prefix is strict, as the property does; the conclusion holds of every `n`, the whole file being read back as `t`.) -/
theorem decode_prefix_safe (t : RawTriangle) (h : wf t = true) (n : Nat) (hn : n < (encode t).length) :
    (∃ e, decode ((encode t).take n) = .error e) ∨
    (∃ k, decode ((encode t).take n) = .ok (t.take k)) :=
  decode_prefix_safe_main t h n

/-- **… for the writer as written.** `to_binary` decides on a metadata record with Python's `!=` (`encodePy`); on
coherent triangles (adjacent metadata Python-equal exactly when identical; the driver evaluates `coherent`) its
file is `encode t`, so every strict prefix of the file `to_binary` really wrote is refused or yields leading cells. -/
theorem decode_prefix_safe_py (t : RawTriangle) (h : wf t = true) (hc : coherent t = true) (n : Nat)
    (hn : n < (encodePy t).length) :
    (∃ e, decode ((encodePy t).take n) = .error e) ∨
    (∃ k, decode ((encodePy t).take n) = .ok (t.take k)) := by
  rw [encodePy_eq_encode t hc] at hn ⊢
  exact decode_prefix_safe t h n hn

/-- **… for EVERY triangle of the domain, coherent or not.** When adjacent cells carry metadata that Python's `==`
identifies in different representations (`1` / `1.0` / `True`, another insertion order of a detail dict) the untorn
file reads back as `firstRepr t` (C05.decode_encodePy_firstRepr). Every strict prefix of the file `to_binary`
really wrote is refused or decodes to exactly the leading cells of THAT triangle — a torn file never yields
anything the intact file would not yield. (`decode_prefix_safe_py` is the instance `firstRepr t = t`.) -/
theorem decode_prefix_safe_firstRepr (t : RawTriangle) (h : wf t = true) (n : Nat) (hn : n < (encodePy t).length) :
    (∃ e, decode ((encodePy t).take n) = .error e) ∨
    (∃ k, decode ((encodePy t).take n) = .ok ((firstRepr t).take k)) :=
  decode_prefix_safe_firstRepr_main t h n

/-- the Spec predicate on what a torn file of the writer as written returned, against the oracle `firstRepr t` -/
theorem spec_prefixSafe_firstRepr (t : RawTriangle) (h : wf t = true) (n : Nat) (hn : n < (encodePy t).length)
    (r : RawTriangle) (hr : decode ((encodePy t).take n) = .ok r) : Spec.C19.prefixSafe (firstRepr t) r = true :=
  prefixSafe_of_prefixResult (firstRepr_cellOk t h) (hr ▸ decode_prefix_safe_firstRepr t h n hn)

/-- **the compressed flavour.** gzip is a parameter; the TWO library facts relied on are named as hypotheses:
a strict prefix of a (single-member) gzip stream is refused by the decompressor (`EOFError` / `BadGzipFile`),
`htrunc`, and no prefix of a gzip stream starts with the .trib magic (it starts `1f 8b`), `hm`.
Under them every truncation of a `.tribc` file raises — whatever the extension / flag combination (if the reader
settles on "not compressed" it meets the gzip magic instead of the .trib magic, which is where `hm` is needed; if
the extension is unknown it refuses outright). `htrunc` is false for a writer that emits several gzip members
(a cut exactly at a member boundary decompresses): `_write_binary` must keep writing ONE member. -/
theorem compressed_prefix_refused (gzip : Bytes → Bytes) (gunzip : Bytes → Except Err Bytes)
    (htrunc : ∀ b n, n < (gzip b).length → ∃ e, gunzip ((gzip b).take n) = .error e)
    (hm : ∀ b n, ((gzip b).take n).take 4 ≠ K.magic)
    (t : RawTriangle) (ext : Ext) (flag : Option Bool) (n : Nat) (hn : n < (gzip (encodePy t)).length) :
    ∃ e, decodeFile gunzip ext flag ((gzip (encodePy t)).take n) = .error e := by
  unfold decodeFile
  cases hi : inferCompress ext flag with
  | error e => exact ⟨e, rfl⟩
  | ok c =>
    cases c
    · refine ⟨.valueError, ?_⟩
      simp only [decode, hm (encodePy t) n, ne_eq, not_false_eq_true, if_true]
    · obtain ⟨e, he⟩ := htrunc (encodePy t) n hn
      exact ⟨e, by simp [he]⟩

/-- **… for the function `from_binary` as a whole** (`Fn.fromBinary` = `decode`, the numeric view `cellOfRaw` of every
record, then the constructor `Triangle(cells)`): a prefix of a canonical cell sequence is canonical, so the
constructor neither raises on the leading cells nor reorders them — what `from_binary` RETURNS for a torn file is
an error or exactly the leading cells of the triangle that was written. `cells` is the numeric view of the written
triangle, `Canonical` what every `Triangle` object satisfies. -/
theorem fromBinary_prefix_safe (t : RawTriangle) (h : wf t = true) (hc : coherent t = true)
    {cells : List Cell} (hv : t.mapM Fn.cellOfRaw = .ok cells) (hcan : Properties.C01.Canonical cells)
    (n : Nat) (hn : n < (encodePy t).length) :
    (∃ e, Fn.fromBinary ((encodePy t).take n) = .error e) ∨
    (∃ k, Fn.fromBinary ((encodePy t).take n) = .ok (cells.take k)) := by
  unfold Fn.fromBinary
  rcases decode_prefix_safe_py t h hc n hn with ⟨e, he⟩ | ⟨k, hk⟩
  · exact Or.inl ⟨e, by rw [he]; rfl⟩
  · refine Or.inr ⟨k, ?_⟩
    rw [hk]
    simp only [Except.bind, mapM_take_ok k hv, Properties.C01.ofCells_idem (canonical_take hcan k)]

/-- a file cut inside the 5-byte header is refused -/
theorem decode_header_prefix_error (t : RawTriangle) (n : Nat) (hn : n < 5) :
    ∃ e, decode ((encode t).take n) = .error e :=
  ⟨_, decode_short _ (by simp only [List.length_take]; omega)⟩

/-- the Spec predicate the driver runs on what the IMPLEMENTATION returned for a torn file holds
for whatever the model returns -/
theorem spec_prefixSafe (t : RawTriangle) (h : wf t = true) (n : Nat) (hn : n < (encode t).length)
    (r : RawTriangle) (hr : decode ((encode t).take n) = .ok r) : Spec.C19.prefixSafe t r = true :=
  prefixSafe_of_prefixResult (fun c hc => ((wf_parts h).2 c hc).1) (hr ▸ decode_prefix_safe t h n hn)

/-! ### 3. non-vacuity -/

/-- the hypotheses hold for the 2-slice incremental witness (all value kinds, non-ASCII and `None`
strings, a 2-d array): each of its strict prefixes is refused or yields leading cells -/
example (n : Nat) (hn : n < (encode exTriangle).length) :
    (∃ e, decode ((encode exTriangle).take n) = .error e) ∨
    (∃ k, decode ((encode exTriangle).take n) = .ok (exTriangle.take k)) :=
  decode_prefix_safe exTriangle exTriangle_wf n hn

end Bermuda.Properties.C19
