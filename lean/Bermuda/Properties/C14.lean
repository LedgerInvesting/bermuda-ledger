/-
C14 — CSV, array-frame and Matrix forms round-trip coordinates, slices and numbers (PARTIAL:
pandas' text layer is trusted / opaque; the theorems are about the row algebra of
`Model/Frame.lean`). The round-trip theorems are proved in the `Lemmas/Frame*.lean` modules and restated
here under the property's names; the array-builder part of the file composes the builder with C10's `merge`
(`CumTriangle`, `merge_step`, `MergeChain`).

The group-by key lists are NOT part of the hand-written model: `Frame.groupCols` reads them from
`Bermuda.Generated.FrameKeys.groupByKeys` — the `by` lists OBSERVED by harness/translate_c14.py on
probe frames (a recording wrapper around `DataFrame.groupby`; keys present on every probe),
regenerated on every run —, so `slices_preserved_keys` and the two `slices_preserved_*` theorems are
checked against what `data_frame_input.py` says at the time of the build: a metadata column missing from a
`by` list there makes `slices_preserved_keys` fail.
-/
import Bermuda.Lemmas.FrameMatrix
import Bermuda.Lemmas.FrameLongIncr
import Bermuda.Lemmas.FrameMatrixIndex
import Bermuda.Lemmas.FrameRich
import Bermuda.Lemmas.FrameStatics
import Bermuda.Model.FrameDF
import Bermuda.Lemmas.FrameRichDisagg
import Bermuda.Lemmas.FrameParse
import Bermuda.Lemmas.FrameArrayFull
import Bermuda.Lemmas.FrameRows
import Bermuda.Lemmas.FrameInfer
import Bermuda.Lemmas.FrameLongLoss
import Bermuda.Properties.C10
namespace Bermuda.Properties.C14
open Bermuda Bermuda.Frame Bermuda.Spec.C14


/-- **slices_preserved (table form).** Both readers group by the coordinates, ALL six metadata
columns and the detail / loss-detail columns — a statement about the regenerated key lists. -/
theorem slices_preserved_keys :
    Generated.FrameKeys.ok = true ∧ keysCover "wide_data_frame_to_triangle" = true ∧
    keysCover "long_data_frame_to_triangle" = true := by decide +kernel

/-- **slices_preserved.** In a reader whose generated key list covers the required keys, two rows
with the same group key have the same full slice metadata (all six attributes, details and loss
details): rows of different slices are never put in one group, whatever single attribute or
detail distinguishes the slices. (`h₁`, `h₂`: a column that is not in the table has no entries.) -/
theorem groupKey_determines_metadata {fn : String} (h : keysCover fn = true)
    (cols d l : List String) (r₁ r₂ : Row)
    (h₁ : ∀ k, k ∉ cols → Row.col r₁ k = .none) (h₂ : ∀ k, k ∉ cols → Row.col r₂ k = .none)
    (hkey : (groupCols fn d l).map (keyEntry cols d l r₁) = (groupCols fn d l).map (keyEntry cols d l r₂)) :
    rowMetadata r₁ d l = rowMetadata r₂ d l := by
  have hcol : ∀ x ∈ groupCols fn d l, Row.col r₁ x = Row.col r₂ x :=
    fun x hx => col_eq_of_key cols d l r₁ r₂ h₁ h₂ hkey hx
  have hreq : ∀ k ∈ sixNames, k ∈ requiredKeys ∧ k ≠ "$detail_cols" ∧ k ≠ "$loss_detail_cols" := by
    decide +kernel
  exact rowMetadata_congr
    (fun k hk => hcol k (mem_groupCols h d l (hreq k hk).1
      (mem_expandKey.mpr (.inr (.inr ⟨(hreq k hk).2.1, (hreq k hk).2.2, rfl⟩)))))
    (fun x hx => hcol x (mem_groupCols h d l (k := "$detail_cols") (by decide +kernel)
      (mem_expandKey.mpr (.inl ⟨rfl, hx⟩))))
    fun x hx => hcol x (mem_groupCols h d l (k := "$loss_detail_cols") (by decide +kernel)
      (mem_expandKey.mpr (.inr (.inl ⟨rfl, hx⟩))))

/-- the two readers of the library satisfy the hypothesis of `groupKey_determines_metadata` -/
theorem slices_preserved_wide (cols d l : List String) (r₁ r₂ : Row)
    (h₁ : ∀ k, k ∉ cols → Row.col r₁ k = .none) (h₂ : ∀ k, k ∉ cols → Row.col r₂ k = .none)
    (hkey : (groupCols "wide_data_frame_to_triangle" d l).map (keyEntry cols d l r₁) =
            (groupCols "wide_data_frame_to_triangle" d l).map (keyEntry cols d l r₂)) :
    rowMetadata r₁ d l = rowMetadata r₂ d l :=
  groupKey_determines_metadata slices_preserved_keys.2.1 cols d l r₁ r₂ h₁ h₂ hkey

theorem slices_preserved_long (cols d l : List String) (r₁ r₂ : Row)
    (h₁ : ∀ k, k ∉ cols → Row.col r₁ k = .none) (h₂ : ∀ k, k ∉ cols → Row.col r₂ k = .none)
    (hkey : (groupCols "long_data_frame_to_triangle" d l).map (keyEntry cols d l r₁) =
            (groupCols "long_data_frame_to_triangle" d l).map (keyEntry cols d l r₂)) :
    rowMetadata r₁ d l = rowMetadata r₂ d l :=
  groupKey_determines_metadata slices_preserved_keys.2.2 cols d l r₁ r₂ h₁ h₂ hkey

/-- **rows_count (wide).** The wide table has one row per cell and scenario: the number of rows
is the sum over the cells of their common sample length. -/
theorem rows_count_wide {t : List Cell} {tb : Table} (h : toWideRows t = .ok tb) :
    wideRowCount t = some tb.rows.length :=
  writeRows_length (fun _ _ hc => by simp [cellWideRows_length hc]) h

/-- **rows_count (long).** The long table has one row per cell, scenario and field present in
that scenario. -/
theorem rows_count_long {t : List Cell} {tb : Table} (h : toLongRows t = .ok tb) :
    longRowCount t = some tb.rows.length :=
  writeRows_length (fun _ _ hc => by
    obtain ⟨fds, hf, hl⟩ := cellLongRows_length hc
    simp [hf, hl]) h

/-- **fromWide_toWide** (cumulative triangles, `WFwide`: non-empty, strictly sorted, `Cell` /
`CumulativeCell`, table-safe metadata and column names, every cell all-scalar or all-sample; the cells
may carry DIFFERENT field sets, sampled ones too — a field a cell lacks is empty in each of its scenario
rows and is dropped again by the reader; `D` / `L` the detail / loss-detail columns handed to the reader).
Writing the triangle to the wide table and reading it back — grouping the rows by the key list
REGENERATED from `data_frame_input.py` — gives the triangle itself: same cells in the same order,
coordinates, slice metadata (all eight attributes), field sets, numbers as floats (a one-sample array
as its scalar), sample order; every slice stays separate. -/
theorem fromWide_toWide {t : List Cell} {D L : List String} (h : WFwide t D L) :
    okAnd (fun out => wideSpec t out && slicesSpec false t out)
      ((toWideRows t).bind fun tb => fromWideRows tb (allFields t) D L) = true :=
  Frame.fromWide_toWide h

/-! ### non-vacuity and a concrete round trip (kernel evaluation of the model) -/

def exCell (ev : Date) (v : Val) (country : String) : Cell :=
  { kind := .cumulative, ps := ⟨2020, 1, 1⟩, pe := ⟨2020, 12, 31⟩, ev := ev,
    values := [("paid_loss", v)],
    md := { country := some country, details := [("coverage", .str "BI")] } }

/-- two slices that differ ONLY in `country`, two samples per cell -/
def ex : List Cell :=
  [exCell ⟨2020, 12, 31⟩ (.arr false [2] [1, 2]) "DE", exCell ⟨2021, 12, 31⟩ (.arr false [2] [3, 5/2]) "DE",
   exCell ⟨2020, 12, 31⟩ (.arr false [2] [7, 8]) "US"]

def backWide (t : List Cell) : Except Err (List Cell) :=
  (toWideRows t).bind fun tb => fromWideRows tb ["paid_loss"] ["coverage"] []

def backLong (t : List Cell) : Except Err (List Cell) :=
  (toLongRows t).bind fun tb => fromLongRows tb []

theorem ex_rows : wideRowCount ex = some 6 ∧ longRowCount ex = some 6 := by decide +kernel

/-- a one-cell triangle (the kernel cannot evaluate `List.mergeSort` on two or more elements, so
the concrete round trip is stated for one scalar cell; larger inputs are the correspondence's job) -/
def ex0 : List Cell := [exCell ⟨2020, 12, 31⟩ (.flt (5/2)) "DE"]

theorem ex0_fromWide_toWide :
    okAnd (fun out => wideSpec ex0 out && slicesSpec false ex0 out) (backWide ex0) = true := by
  decide +kernel

theorem ex0_fromLong_toLong :
    okAnd (fun out => longSpec ex0 out && slicesSpec true ex0 out) (backLong ex0) = true := by
  decide +kernel

/-- **fromLong_toLong** (cumulative triangles, `WFlong`: as `WFwide`, with disjoint detail /
loss-detail key universes `DK` / `LK`, every cell with at least one field, and no two cells that
coincide once the loss details are folded into the details). Writing the triangle to the long table
and reading it back as `from_long_csv` does — no `loss_detail_cols`; rows grouped by the key list
REGENERATED from `data_frame_input.py` (coordinates, `field`, all six metadata columns, detail
columns) — gives the triangle with loss details folded into details: same cells, coordinates, field
sets, numbers as floats, sample order through the scenario column; every slice stays separate. -/
theorem fromLong_toLong {t : List Cell} {DK LK : List String} (h : WFlong t DK LK) :
    okAnd (fun out => longSpec t out && slicesSpec true t out)
      ((toLongRows t).bind fun tb => fromLongRows tb []) = true :=
  Frame.fromLong_toLong h

/-- **fromWide_toWide_incremental** (`WFwideIncr`: as `WFwide` but every cell an `IncrementalCell`
with scalar values). The wide table has one row per cell with a `prev_evaluation_date` column, and
the reader makes one `IncrementalCell` per row: the same cells come back, previous evaluation dates
(hence the basis) included, values as 0-d float arrays (compared as their scalar). -/
theorem fromWide_toWide_incremental {t : List Cell} {D L : List String} (h : WFwideIncr t D L) :
    okAnd (fun out => wideSpec t out && slicesSpec false t out)
      ((toWideRows t).bind fun tb => fromWideRows tb (allFields t) D L) = true :=
  Frame.fromWide_toWide_incremental h

/-- **fromLong_toLong_incremental** (`WFlongIncr`: as `WFlong` but every cell an `IncrementalCell` with
scalar values). One row per cell and field; reading adds each row's field to the cell at the row's
coordinates (previous evaluation date included); loss details come back as details. -/
theorem fromLong_toLong_incremental {t : List Cell} {DK LK : List String} (h : WFlongIncr t DK LK) :
    okAnd (fun out => longSpec t out && slicesSpec true t out)
      ((toLongRows t).bind fun tb => fromLongRows tb []) = true :=
  Frame.fromLong_toLong_incremental h

/-- `WFwide` is satisfiable: two slices that differ only in `country`, sampled cells -/
theorem wfwide_example : WFwide ex ["coverage"] [] where
  ne := by decide +kernel
  sorted := by decide +kernel
  cum := by decide +kernel
  dates := by decide +kernel
  md := by decide +kernel
  names := by decide +kernel
  cells := by decide +kernel

def ragCell (ev : Date) (vs : Dict Val) : Cell :=
  { kind := .cumulative, ps := ⟨2020, 1, 1⟩, pe := ⟨2020, 12, 31⟩, ev := ev, values := vs,
    md := { country := some "DE", details := [("coverage", .str "BI")] } }

def exRag : List Cell :=
  [ragCell ⟨2020, 12, 31⟩ [("paid_loss", .arr false [2] [1, 2]), ("reported_loss", .arr false [2] [3, 4])],
   ragCell ⟨2021, 12, 31⟩ [("reported_loss", .arr false [2] [5, 6])]]

/-- `WFwide` holds for a SAMPLED triangle whose cells carry different field sets (the second cell has no
`paid_loss`) -/
theorem wfwide_ragged_example : WFwide exRag ["coverage"] [] where
  ne := by decide +kernel
  sorted := by decide +kernel
  cum := by decide +kernel
  dates := by decide +kernel
  md := by decide +kernel
  names := by decide +kernel
  cells := by decide +kernel

/-- … and its row count: two scenario rows per cell -/
theorem exRag_rows : wideRowCount exRag = some 4 := by decide +kernel

/-! ### The in-memory data frames (no CSV text in between) -/

/-- **wide data frame, cumulative**: `from_wide_data_frame(to_wide_data_frame(t), …)` passes the readers'
column-type check and is the CSV round trip of `fromWide_toWide` (same rows, no text layer). -/
theorem fromWideFrame_toWideFrame {t : List Cell} {D L : List String} (h : WFwide t D L) :
    okAnd (fun out => wideSpec t out && slicesSpec false t out) (wideFrameRoundTrip t (allFields t) D L) = true := by
  have hinc := firstIsIncremental_false_of_cum h.cum
  have hchk : checkIndexColumns (wideFrameDtypes t) = .ok () := by
    unfold wideFrameDtypes
    rw [hinc]
    decide +kernel
  have := fromWide_toWide h
  unfold wideFrameRoundTrip
  cases htb : toWideRows t with
  | error e => simp [htb, Except.bind, okAnd] at this
  | ok tb =>
    simp only [htb, Except.bind, hchk] at this ⊢
    exact this

/-- **long data frame: never reads back.** `to_long_data_frame` types `evaluation_date` as a
`PeriodIndex` (`period[D]`, no `.to_timestamp()`), which `_check_index_columns` of the reader refuses:
`from_long_data_frame(to_long_data_frame(t))` raises for EVERY triangle the writer accepts
(observation D21; the property's statement is about the CSV files, which
carry the dates as text and do read back: `fromLong_toLong`). -/
theorem longFrame_never_reads_back {t : List Cell} {tb : Table} (L : List String) (h : toLongRows t = .ok tb) :
    longFrameRoundTrip t L = .error .other := by
  unfold longFrameRoundTrip
  simp only [h, Except.bind]
  have : checkIndexColumns (longFrameDtypes t) = .error .other := by
    unfold longFrameDtypes
    cases firstIsIncremental t <;> decide +kernel
  rw [this]

/-- **wide data frame, incremental: refused** (`prev_evaluation_date` is written as `period[D]`) -/
theorem wideFrame_incremental_refused {t : List Cell} {tb : Table} (F D L : List String)
    (hi : firstIsIncremental t = true) (h : toWideRows t = .ok tb) :
    wideFrameRoundTrip t F D L = .error .other := by
  unfold wideFrameRoundTrip
  simp only [h, Except.bind]
  have : checkIndexColumns (wideFrameDtypes t) = .error .other := by
    unfold wideFrameDtypes
    rw [hi]
    decide +kernel
  rw [this]

/-- the CSV path hands the readers `datetime64` columns (`parse_dates`): the check passes -/
theorem csv_columns_pass (t : List Cell) : checkIndexColumns (csvDtypes t) = .ok () := by
  unfold csvDtypes
  cases firstIsIncremental t <;> decide +kernel

/-! ### Row counts stated on the cells -/

/-- **rows_count_wide_scenarios**: the wide table has `Σ scenarioCount c` rows — `scenarioCount` is stated on
the cell alone (1 for scalars, S for S-sample arrays), not through the writer's helpers — and the rows are,
in order, the images of the (cell, scenario) pairs `Spec.cellScenarios t`; the row of `(c, i)` carries the
group key of `c` (injective on the cells: `cellKey_inj`) and scenario `i + 1` while the scenario column is
kept, which is dropped only when every cell has one scenario: rows ↔ (cell, scenario) one to one. -/
theorem rows_count_wide_scenarios {t : List Cell} {D L : List String} (h : WFwide t D L) :
    ∃ (tb : Table) (E : Row → Row), toWideRows t = .ok tb ∧
      tb.rows = (cellScenarios t).map (wideRowOf t E) ∧ tb.rows.length = wideRows t ∧
      (∀ p ∈ cellScenarios t, p.1 ∈ t ∧ ∀ cols : List String,
        (∀ k ∈ ["period_start", "period_end", "evaluation_date"], cols.contains k = true) →
        wideKey cols D L (wideRowOf t E p) = cellKey p.1 D L) ∧
      ((E = id ∧ ∀ p ∈ cellScenarios t, Row.col (wideRowOf t E p) "scenario" = MVal.num ((p.2 + 1 : Nat) : Rat)) ∨
        ∀ c ∈ t, scenarioCount c = 1) :=
  Frame.wide_rows_listing h.table

/-- **rows_count_long_scenarios**: the long table has `Σ scenarioCount c · #fields c` rows, in order the images
of the (cell, scenario, field) triples `Spec.cellScenarioFields t` -/
theorem rows_count_long_scenarios {t : List Cell} {DK LK : List String} (h : WFlong t DK LK) :
    ∃ (tb : Table) (E : Row → Row), toLongRows t = .ok tb ∧
      tb.rows = (cellScenarioFields t).map (longRowOf t E) ∧ tb.rows.length = longRows t :=
  Frame.long_rows_listing h.table

/-- the row-count Spec clause of the driver holds on the model's tables -/
theorem rowCountSpec_on_model {t : List Cell} :
    (∀ {D L : List String}, WFwide t D L → ∃ tb, toWideRows t = .ok tb ∧ rowCountSpec false t tb.rows.length = true) ∧
    (∀ {DK LK : List String}, WFlong t DK LK → ∃ tb, toLongRows t = .ok tb ∧ rowCountSpec true t tb.rows.length = true) := by
  constructor
  · intro D L h
    obtain ⟨tb, _, hok, _, hlen, _⟩ := Frame.wide_rows_listing h.table
    exact ⟨tb, hok, by simp [rowCountSpec, hlen]⟩
  · intro DK LK h
    obtain ⟨tb, _, hok, _, hlen⟩ := Frame.long_rows_listing h.table
    exact ⟨tb, hok, by simp [rowCountSpec, hlen]⟩

/-! ### inhabitants of the remaining domains -/

/-- two slices that differ only in `country`, a loss detail (so that `mergeLossDetails` matters), sampled -/
def exLCell (ev : Date) (v : Val) (country : String) : Cell :=
  { kind := .cumulative, ps := ⟨2020, 1, 1⟩, pe := ⟨2020, 12, 31⟩, ev := ev, values := [("paid_loss", v)],
    md := { country := some country, lossDetails := [("peril", .str "wind")] } }

def exL : List Cell :=
  [exLCell ⟨2020, 12, 31⟩ (.arr false [2] [1, 2]) "DE", exLCell ⟨2021, 12, 31⟩ (.arr false [2] [3, 5/2]) "DE",
   exLCell ⟨2020, 12, 31⟩ (.arr false [2] [7, 8]) "US"]

theorem wflong_example : WFlong exL [] ["peril"] where
  ne := by decide +kernel
  sorted := by decide +kernel
  cum := by decide +kernel
  dates := by decide +kernel
  md := by decide +kernel
  names := by decide +kernel
  cells := by decide +kernel
  inj := by decide +kernel

/-- an incremental triangle with scalar values: one period, two evaluations, the previous dates chained -/
def exICell (ev prev : Date) (v : Val) : Cell :=
  { kind := .incremental, ps := ⟨2020, 1, 1⟩, pe := ⟨2020, 12, 31⟩, ev := ev, prev := some prev,
    values := [("paid_loss", v)], md := { country := some "DE", details := [("coverage", .str "BI")] } }

def exI : List Cell :=
  [exICell ⟨2020, 12, 31⟩ ⟨2019, 12, 31⟩ (.int 100), exICell ⟨2021, 12, 31⟩ ⟨2020, 12, 31⟩ (.flt (5/2))]

theorem wfwideIncr_example : WFwideIncr exI ["coverage"] [] where
  ne := by decide +kernel
  sorted := by decide +kernel
  inc := by decide +kernel
  dates := by decide +kernel
  md := by decide +kernel
  names := by decide +kernel
  cells := by decide +kernel

theorem wflongIncr_example : WFlongIncr exI ["coverage"] [] where
  ne := by decide +kernel
  sorted := wfwideIncr_example.sorted
  inc := by decide +kernel
  dates := by decide +kernel
  md := by decide +kernel
  names := by decide +kernel
  cells := by decide +kernel
  one := by decide +kernel
  inj := by decide +kernel

/-! ### The wide reader with `detail_cols=None` -/

/-- **fromWide_toWide_inferred**: `from_wide_csv(file, field_cols=fields, loss_detail_cols=L)` — `detail_cols`
left out, so the reader takes `list(set(columns) - CORE_SET - set(field_cols))` (`Frame.inferCols`) — gives the
triangle back, for a well-formed cumulative triangle all of whose detail names `D` occur in some slice (a name
that occurs nowhere has no column). The inferred list is `D` in another order (`inferCols_written`); the
reader does not depend on that order — `WFwide` asks `D`, `L` only to be duplicate-free, not sorted
(`rowDetails_perm`). The long reader ALWAYS infers its detail columns (`longDetailCols`), which is
part of `fromLong_toLong`. -/
theorem fromWide_toWide_inferred {t : List Cell} {D L : List String} (h : WFwide t D L)
    (hocc : ∀ k ∈ D, k ∈ allMetadataNames t) :
    okAnd (fun out => wideSpec t out && slicesSpec false t out)
      ((toWideRows t).bind fun tb => fromWideRowsInfer tb (some (allFields t)) none L) = true :=
  Frame.fromWide_toWide_inferred h hocc

/-- … and for incremental triangles (`WFwideIncr`) -/
theorem fromWide_toWide_incremental_inferred {t : List Cell} {D L : List String} (h : WFwideIncr t D L)
    (hocc : ∀ k ∈ D, k ∈ allMetadataNames t) :
    okAnd (fun out => wideSpec t out && slicesSpec false t out)
      ((toWideRows t).bind fun tb => fromWideRowsInfer tb (some (allFields t)) none L) = true :=
  Frame.fromWide_toWide_incremental_inferred h hocc

/-- the inferred detail columns of the written table are the names of `D`, without duplicates -/
theorem inferCols_written {t : List Cell} {D L : List String} (h : WFwide t D L)
    (hocc : ∀ k ∈ D, k ∈ allMetadataNames t) {E : Row → Row} (hE : KeepsOthers E) :
    (inferCols (mkTable (t.map (wblock t E)).flatten).cols (allFields t)).Nodup ∧
    ∀ k, k ∈ inferCols (mkTable (t.map (wblock t E)).flatten).cols (allFields t) ↔ k ∈ D :=
  Frame.inferCols_written h hocc hE

/-- the hypothesis is satisfiable: in `ex` the detail name `coverage` occurs -/
theorem inferred_example : ∀ k ∈ ["coverage"], k ∈ allMetadataNames ex := by
  intro k hk
  simp only [List.mem_cons, List.not_mem_nil, or_false] at hk
  subst hk
  refine mem_allMetadataNames.mpr ⟨exCell ⟨2020, 12, 31⟩ (.arr false [2] [1, 2]) "DE", List.mem_cons_self, ?_⟩
  decide +kernel

/-! ### The wide reader and the order of `field_cols`; `field_cols=None` -/

/-- **fromWide_toWide_fieldsPerm**: the wide reader does not depend on the ORDER of `field_cols` — handed any
permutation of the triangle's fields it returns the triangle (only the order of the values inside a cell
changes, which the property does not constrain: `canonCell` compares them sorted by name). -/
theorem fromWide_toWide_fieldsPerm {t : List Cell} {D L F' : List String} (h : WFwide t D L)
    (hp : F'.Perm (allFields t)) :
    okAnd (fun out => wideSpec t out && slicesSpec false t out)
      ((toWideRows t).bind fun tb => fromWideRows tb F' D L) = true :=
  Frame.fromWide_toWide_fieldsPerm h hp

/-- **fromWide_toWide_fieldsInferred**: `from_wide_csv(file, detail_cols=D, loss_detail_cols=L)` — `field_cols`
left out, so the reader takes `list(set(columns) - CORE_SET - set(detail_cols))`, which for the written table
is a permutation of the triangle's fields (`inferFields_written`) — gives the triangle back. -/
theorem fromWide_toWide_fieldsInferred {t : List Cell} {D L : List String} (h : WFwide t D L) :
    okAnd (fun out => wideSpec t out && slicesSpec false t out)
      ((toWideRows t).bind fun tb => fromWideRowsInfer tb none (some D) L) = true :=
  Frame.fromWide_toWide_fieldsInferred h

/-! ### long form read back WITH `loss_detail_cols` (`from_long_data_frame(df, loss_detail_cols=L)`) -/

/-- **fromLong_toLong_lossDetails** (cumulative triangles, `WFlong t DK LK`, and `LossCols t LK L`: the
`loss_detail_cols` argument `L` is a list of distinct loss-detail names covering every loss-detail key of
the triangle — what a caller passing "the triangle's loss-detail keys" hands over). Writing the triangle
to the long table and reading the rows back as `long_data_frame_to_triangle(df, loss_detail_cols=L)` does —
detail columns = the non-core columns WITHOUT `L`, rows grouped by the key list REGENERATED from
`data_frame_input.py` (coordinates, `field`, six metadata columns, detail columns, then `L`) — gives the
triangle ITSELF (`wideSpec`, not `longSpec`): same cells in the same order, coordinates, all eight metadata
attributes with loss details AS loss details (nothing folded into `details`), field sets, numbers as floats,
sample order through the scenario column; every slice stays separate (`slicesSpec false`). This is the call
the correspondence runs as `long+loss_detail_cols` (the frame read from the long CSV with `parse_dates`; the
frame handed over directly by `to_long_data_frame` is refused for its `period[D]` column whatever the
arguments: `longFrame_never_reads_back`). -/
theorem fromLong_toLong_lossDetails {t : List Cell} {DK LK L : List String} (h : WFlong t DK LK)
    (hL : LossCols t LK L) :
    okAnd (fun out => wideSpec t out && slicesSpec false t out)
      ((toLongRows t).bind fun tb => fromLongRows tb L) = true :=
  Frame.fromLong_toLong_lossDetails h hL

/-- the metadata layer of the above, row by row: every row of the written long table reads back
(`_create_metadata` with `loss_detail_cols = L`) as the metadata of a cell of the triangle, and every cell's
metadata is read from some row -/
theorem toLong_rowMetadata_lossDetails {t : List Cell} {DK LK L : List String} (h : WFlong t DK LK)
    (hL : LossCols t LK L) :
    ∃ tb, toLongRows t = .ok tb ∧
      (∀ r ∈ tb.rows, ∃ c ∈ t, rowMetadata r (longDetailCols tb.cols L) L = c.md) ∧
      (∀ c ∈ t, ∃ r ∈ tb.rows, rowMetadata r (longDetailCols tb.cols L) L = c.md) :=
  Frame.toLong_rowMetadata_loss h.table hL.nodup hL.sub hL.cov

/-- the domain is inhabited: `exL` (two slices, a loss detail `peril`, sampled cells) with
`loss_detail_cols = ["peril"]`; and there the round trip holds -/
theorem lossCols_example : LossCols exL ["peril"] ["peril"] where
  nodup := by decide +kernel
  sub := fun _ hk => hk
  cov := by decide +kernel

example : okAnd (fun out => wideSpec exL out && slicesSpec false exL out)
    ((toLongRows exL).bind fun tb => fromLongRows tb ["peril"]) = true :=
  fromLong_toLong_lossDetails wflong_example lossCols_example

/-! ### Array data frame (`io/array.py`: `triangle_to_array_data_frame`, `array_data_frame_to_triangle`) -/

/-- **fromArrayFrame_toArrayFrame** (`RegularSingle`: a strictly sorted single-slice cumulative
triangle, periods of `res ≥ 1` months starting on firsts of month from 1970 on and ending at the
month end `res` months later, evaluations at month ends, one numeric scalar field; `res` handed to
the reader). The array frame converts back to the same cells: periods, evaluation dates (column
label = integer lag), metadata, numbers as floats. -/
theorem fromArrayFrame_toArrayFrame {t : List Cell} {field : String} {res : Int} {md : Metadata}
    (h : RegularSingle t field res md) :
    okAnd (backSpec t)
      ((toArrayFrame t field).bind fun rows => fromArrayFrame rows field md (some res)) = true :=
  Frame.fromArrayFrame_toArrayFrame_of h rfl

/-- … and with the period resolution INFERRED by the library from the first two period starts,
when these are `res` months apart: `round` of the fractional month lag (which can lie just below `res`:
`exQ`). Resolutions 1/3/6/12 are instances. -/
theorem fromArrayFrame_toArrayFrame_inferred {t : List Cell} {field : String} {res : Int} {md : Metadata}
    (h : RegularSingle t field res md)
    (hp : ∃ p0 p1 rest, periodsOf t = p0 :: p1 :: rest ∧ monthToId p1.1 = monthToId p0.1 + res) :
    okAnd (backSpec t)
      ((toArrayFrame t field).bind fun rows => fromArrayFrame rows field md none) = true :=
  Frame.fromArrayFrame_toArrayFrame_of h (Frame.frameResolution_inferred h hp)

def qCell (ps pe ev : Date) (v : Val) : Cell :=
  { kind := .cumulative, ps := ps, pe := pe, ev := ev, values := [("paid_loss", v)], md := {} }

/-- quarterly periods starting 2021-04-01: the fractional month lag from the first period start to the second
is 3 - 1/30 + 1/31 < 3, so the inference of the resolution has to round, not truncate -/
def exQ : List Cell :=
  [qCell ⟨2021, 4, 1⟩ ⟨2021, 6, 30⟩ ⟨2021, 6, 30⟩ (.int 100),
   qCell ⟨2021, 4, 1⟩ ⟨2021, 6, 30⟩ ⟨2021, 9, 30⟩ (.flt (5/2)),
   qCell ⟨2021, 7, 1⟩ ⟨2021, 9, 30⟩ ⟨2021, 9, 30⟩ (.int 7)]

/-- `RegularSingle` is satisfiable -/
theorem regular_example : RegularSingle exQ "paid_loss" 3 {} where
  ne := by decide +kernel
  sorted := by decide +kernel
  kinds := by decide +kernel
  notInc := by decide +kernel
  canon := by decide +kernel
  res1 := by decide +kernel
  cell := by
    intro c hc
    simp only [exQ, List.mem_cons, List.not_mem_nil, or_false] at hc
    rcases hc with rfl | rfl | rfl
    all_goals
      exact ⟨rfl, rfl, by decide +kernel, ⟨_, _, rfl, rfl⟩, by decide +kernel, rfl, by decide +kernel, by decide +kernel,
        by decide +kernel, by decide +kernel⟩

/-! ### `array_data_frame_to_triangle` with all its arguments, `array_triangle_builder` -/

/-- **fromArrayFrame_args** (`RegFrame`: first-of-month periods from 1970 on, strictly ascending, `res ≥ 1`,
strictly ascending column lags, the constructor's date rules hold). With `period_resolution=res`, any
`eval_resolution`, `dev_lag_from_period_end` and `metadata`, the reader builds exactly
`Spec.arrayExpected`: one `CumulativeCell` per entry of the frame (`NaN` → none), period of `res` months,
evaluated `lag` months after the period end — or `lag` months after the period start minus a day when
`dev_lag_from_period_end=False` AND the lags are read from integer labels —, value as the frame holds it,
the given metadata; the column lags are the integer labels, or `i · eval_resolution` with the given
resolution, or `i · res` when a label is not an integer. -/
theorem fromArrayFrame_args {cols : List String} {rows : List (Date × List Val)} {field : String}
    {md : Metadata} {res : Int} {evalRes : Option Int} {fe : Bool}
    (h : RegFrame field md res (fe || (effectiveEvalResolution cols res evalRes).isSome)
          (columnLags cols (effectiveEvalResolution cols res evalRes)) rows) :
    fromArrayFrameFull { cols := cols, rows := rows.map fun r => (PeriodEntry.date r.1, r.2) } field (some res)
        evalRes fe md =
      .ok (arrayExpected field md res (fe || (effectiveEvalResolution cols res evalRes).isSome)
            (columnLags cols (effectiveEvalResolution cols res evalRes)) rows) :=
  fromArrayFrameFull_of h rfl rfl rfl

/-- … and with `period_resolution` inferred by the reader (`round` of the fractional month lag of the
first two period starts) when these are `res` months apart -/
theorem fromArrayFrame_args_inferred {cols : List String} {rows : List (Date × List Val)} {field : String}
    {md : Metadata} {res : Int} {evalRes : Option Int} {fe : Bool}
    (h : RegFrame field md res (fe || (effectiveEvalResolution cols res evalRes).isSome)
          (columnLags cols (effectiveEvalResolution cols res evalRes)) rows)
    (hp : ∃ r0 r1 rest, rows = r0 :: r1 :: rest ∧ monthToId r1.1 = monthToId r0.1 + res) :
    fromArrayFrameFull { cols := cols, rows := rows.map fun r => (PeriodEntry.date r.1, r.2) } field none
        evalRes fe md =
      .ok (arrayExpected field md res (fe || (effectiveEvalResolution cols res evalRes).isSome)
            (columnLags cols (effectiveEvalResolution cols res evalRes)) rows) :=
  fromArrayFrameFull_of h (arrayResolution_inferred h hp) rfl rfl

/-- the Spec clauses the driver evaluates on the implementation's output hold on the model's output -/
theorem arrayFullSpec_on_model {field : String} {md : Metadata} {res : Int} {fromEnd : Bool} {lags : List Int}
    {rows : List (Date × List Val)} (h : RegFrame field md res fromEnd lags rows) :
    arrayFullSpec field md res fromEnd lags rows (arrayExpected field md res fromEnd lags rows) = true := by
  unfold arrayFullSpec sameCellSet
  simp only [beq_self_eq_true, nonDecreasing_of_sorted (arrayExpected_sorted h), Bool.true_and]
  rw [List.all_eq_true]
  intro x hx
  simpa using hx

/-- `RegFrame` is satisfiable: quarterly periods from 2021-04, lags 0 and 3 (eval_resolution 3), a gap -/
theorem regFrame_example :
    RegFrame "paid_loss" {} 3 true [0, 3]
      [(⟨2021, 4, 1⟩, [.flt 1, .int 2]), (⟨2021, 7, 1⟩, [.flt (5/2), .none])] where
  res1 := by decide +kernel
  first := by decide +kernel
  asc := by decide +kernel
  lagsAsc := by decide +kernel
  fromStart := by intro h; cases h
  dates := by decide +kernel

/-- **arrayBuilder_spec**: `array_triangle_builder(dfs, fields, **kwargs)` refuses lists of different
lengths (`ValueError`), is the single reader for one frame, and for two frames is `merge` (full join, the
right operand's values win — `Properties/C10.lean: merge_cells, merge_values, merge_unmatched_id`) of the
two single-field triangles of `fromArrayFrame_args`; further frames fold on the left the same way. -/
theorem arrayBuilder_spec (f1 f2 : ArrayFrame) (n1 n2 : String) (pr er : Option Int) (fe : Bool) (md : Metadata) :
    arrayTriangleBuilder [f1] [n1] pr er fe md = fromArrayFrameFull f1 n1 pr er fe md ∧
    arrayTriangleBuilder [f1, f2] [n1, n2] pr er fe md =
      ((fromArrayFrameFull f1 n1 pr er fe md).bind fun t1 =>
       (fromArrayFrameFull f2 n2 pr er fe md).bind fun t2 => merge (some .full) none t1 t2) ∧
    (∀ (fs : List ArrayFrame) (ns : List String), fs.length ≠ ns.length →
      arrayTriangleBuilder fs ns pr er fe md = .error .valueError) :=
  ⟨arrayTriangleBuilder_one f1 n1 pr er fe md, arrayTriangleBuilder_two f1 f2 n1 n2 pr er fe md,
   fun fs ns h => arrayTriangleBuilder_mismatch fs ns pr er fe md h⟩

/-- every cell the single-frame reader builds holds one field: its value dict has distinct keys -/
theorem arrayExpected_values_wf {field : String} {md : Metadata} {res : Int} {fe : Bool} {lags : List Int}
    {rows : List (Date × List Val)} : ∀ c ∈ arrayExpected field md res fe lags rows, c.values.WF := by
  intro c hc
  obtain ⟨r, _, lv, _, hx⟩ := mem_arrayExpected hc
  obtain ⟨v, hv⟩ := (expCell_props hx).2.2.2.2.2.2
  rw [hv]
  exact List.nodup_singleton _

/-- **arrayBuilder_two_fields_partial**: `array_triangle_builder([df1, df2], [n1, n2], period_resolution=res, …)`
on two `RegFrame`s (the domain of `fromArrayFrame_args`, inhabited: `regFrame_example`; the two frames may
have different periods, columns and gaps). The composition of `arrayBuilder_spec`, `fromArrayFrame_args`
(twice) and `Properties/C10.lean: mergeSpecLast_of_merge`: the builder's result IS the full-join `merge` of the
two explicitly described single-field triangles `Spec.arrayExpected n1 …`, `Spec.arrayExpected n2 …`, and
whenever that merge returns `out`, `out` satisfies `Spec.mergeSpecLast .full none`: distinct coordinates; a
coordinate of both frames carries the first frame's cell with the right-biased union of the two one-field
value dicts (both fields; `n2`'s value wins when `n1 = n2`), a coordinate of one frame only that frame's cell
unchanged; every coordinate of either frame occurs.
This statement is conditional on the merge returning and speaks of "the LAST cell of an operand at a
coordinate" (`mergeSpecLast`). `arrayBuilder_two_fields_returns` adds that the merge returns (every cell is a
`CumulativeCell`, so neither the join's class check nor the constructor's refuses); `arrayBuilder_two_fields`
adds that coordinates inside one frame's triangle are distinct, so that "the last cell" is "the cell"
(`mergeSpec`), and implies both; `arrayBuilder_fields` is the same for any number of frames. -/
theorem arrayBuilder_two_fields_partial {cols1 cols2 : List String} {rows1 rows2 : List (Date × List Val)}
    {n1 n2 : String} {md : Metadata} {res : Int} {evalRes : Option Int} {fe : Bool}
    (h1 : RegFrame n1 md res (fe || (effectiveEvalResolution cols1 res evalRes).isSome)
          (columnLags cols1 (effectiveEvalResolution cols1 res evalRes)) rows1)
    (h2 : RegFrame n2 md res (fe || (effectiveEvalResolution cols2 res evalRes).isSome)
          (columnLags cols2 (effectiveEvalResolution cols2 res evalRes)) rows2) :
    arrayTriangleBuilder
        [{ cols := cols1, rows := rows1.map fun r => (PeriodEntry.date r.1, r.2) },
         { cols := cols2, rows := rows2.map fun r => (PeriodEntry.date r.1, r.2) }] [n1, n2] (some res) evalRes fe md =
      merge (some .full) none
        (arrayExpected n1 md res (fe || (effectiveEvalResolution cols1 res evalRes).isSome)
          (columnLags cols1 (effectiveEvalResolution cols1 res evalRes)) rows1)
        (arrayExpected n2 md res (fe || (effectiveEvalResolution cols2 res evalRes).isSome)
          (columnLags cols2 (effectiveEvalResolution cols2 res evalRes)) rows2) ∧
    ∀ out, merge (some .full) none
        (arrayExpected n1 md res (fe || (effectiveEvalResolution cols1 res evalRes).isSome)
          (columnLags cols1 (effectiveEvalResolution cols1 res evalRes)) rows1)
        (arrayExpected n2 md res (fe || (effectiveEvalResolution cols2 res evalRes).isSome)
          (columnLags cols2 (effectiveEvalResolution cols2 res evalRes)) rows2) = .ok out →
      Spec.mergeSpecLast .full none
        (arrayExpected n1 md res (fe || (effectiveEvalResolution cols1 res evalRes).isSome)
          (columnLags cols1 (effectiveEvalResolution cols1 res evalRes)) rows1)
        (arrayExpected n2 md res (fe || (effectiveEvalResolution cols2 res evalRes).isSome)
          (columnLags cols2 (effectiveEvalResolution cols2 res evalRes)) rows2) out = true := by
  refine ⟨?_, ?_⟩
  · rw [(arrayBuilder_spec _ _ n1 n2 (some res) evalRes fe md).2.1, fromArrayFrame_args h1, fromArrayFrame_args h2]
    rfl
  · intro out hout
    apply Bermuda.Properties.C10.mergeSpecLast_of_merge _ hout
    intro c hc
    rcases List.mem_append.mp hc with hc | hc
    · exact arrayExpected_values_wf c hc
    · exact arrayExpected_values_wf c hc

theorem cellAtLast_mem {inc : Bool} {t : List Cell} {k : Coord} {x : Cell}
    (h : Spec.cellAtLast inc t k = some x) : x ∈ t :=
  (C10.cellAtLast_some h).1

/-- the full-join merge of two all-cumulative triangles returns an all-cumulative triangle -/
theorem merge_cumulative_closed {a b : List Cell} (ha : ∀ c ∈ a, c.kind = .cumulative)
    (hb : ∀ c ∈ b, c.kind = .cumulative) :
    ∃ out, merge (some .full) none a b = .ok out ∧ ∀ c ∈ out, c.kind = .cumulative := by
  have hkm : kindMismatch a b = false := by
    cases a with
    | nil => rfl
    | cons c _ =>
      cases b with
      | nil => rfl
      | cons d _ => simp [kindMismatch, ha c (by simp), hb d (by simp)]
  have hj := C10.join_of_no_mismatch (ty := .full) hkm
  have hk : ∀ c ∈ (joinCore .full a b).filterMap mergeCellPair, c.kind = .cumulative := by
    intro c hc
    obtain ⟨p, hp, hpc⟩ := List.mem_filterMap.mp hc
    rcases C10.mergeCellPair_of_join hj hp hpc with h | ⟨x, hx, hkx, _⟩
    · exact hb c h
    · rw [hkx]; exact ha x hx
  unfold merge
  simp only [hj, bind, Except.bind]
  exact ⟨_, Triangle.ofCells_eq_ok.mpr ⟨kindsConsistent_of_all hk, rfl⟩,
    fun c hc => hk c ((List.mergeSort_perm _ _).mem_iff.mp hc)⟩

theorem merge_cumulative_returns {a b : List Cell} (ha : ∀ c ∈ a, c.kind = .cumulative)
    (hb : ∀ c ∈ b, c.kind = .cumulative) : ∃ out, merge (some .full) none a b = .ok out := by
  obtain ⟨out, h, _⟩ := merge_cumulative_closed ha hb
  exact ⟨out, h⟩

theorem arrayExpected_cumulative {field : String} {md : Metadata} {res : Int} {fe : Bool} {lags : List Int}
    {rows : List (Date × List Val)} : ∀ c ∈ arrayExpected field md res fe lags rows, c.kind = .cumulative := by
  intro c hc
  obtain ⟨r, _, lv, _, hx⟩ := mem_arrayExpected hc
  exact (expCell_props hx).1

theorem arrayExpected_prev_none {field : String} {md : Metadata} {res : Int} {fe : Bool} {lags : List Int}
    {rows : List (Date × List Val)} : ∀ c ∈ arrayExpected field md res fe lags rows, c.prev = none := by
  intro c hc
  obtain ⟨r, _, lv, _, hx⟩ := mem_arrayExpected hc
  exact (expCell_props hx).2.1

/-- distinct coordinates inside one frame's triangle -/
theorem arrayExpected_keys_nodup {field : String} {md : Metadata} {res : Int} {fe : Bool} {lags : List Int}
    {rows : List (Date × List Val)} (h : RegFrame field md res fe lags rows) (inc : Bool) :
    ((arrayExpected field md res fe lags rows).map (joinKey inc)).Nodup := by
  rw [List.nodup_iff_pairwise_ne, List.pairwise_map]
  refine (arrayExpected_sorted h).imp_of_mem ?_
  intro x y hx hy hlt hk
  have px := arrayExpected_prev_none x hx
  have py := arrayExpected_prev_none y hy
  simp only [joinKey, px, py, ite_self, Coord.mk.injEq, and_true] at hk
  obtain ⟨hmd, hps, hpe, hev⟩ := hk
  rw [Cell.cmp_of_coord_eq (Cell.coord_eq_iff.mpr ⟨hmd, hps, hpe, hev, px.trans py.symm⟩)] at hlt
  cases hlt

/-- what every triangle in the builder's fold is: all `CumulativeCell`s, distinct coordinates, value dicts with
distinct keys -/
structure CumTriangle (a : List Cell) : Prop where
  cum : ∀ c ∈ a, c.kind = .cumulative
  nd : (a.map (joinKey false)).Nodup
  wf : ∀ c ∈ a, c.values.WF

theorem isIncremental_cum {a : List Cell} (h : ∀ c ∈ a, c.kind = .cumulative) : isIncremental a = false := by
  cases a with
  | nil => rfl
  | cons c _ => simp [isIncremental, h c (by simp)]

/-- one step of the builder's fold: the merge returns, satisfies `mergeSpec`, and the result is again a
`CumTriangle` -/
theorem merge_step {a b : List Cell} (ha : CumTriangle a) (hb : CumTriangle b) :
    ∃ o, merge (some .full) none a b = .ok o ∧ Spec.mergeSpec .full none a b o = true ∧ CumTriangle o := by
  obtain ⟨o, ho, hcum⟩ := merge_cumulative_closed ha.cum hb.cum
  have hinc := isIncremental_cum ha.cum
  have hspec : Spec.mergeSpec .full none a b o = true := by
    apply Bermuda.Properties.C10.mergeSpec_of_merge _ _ ho
    · unfold Spec.joinHyp
      simp only [Spec.onCells, Bool.and_eq_true, hinc]
      exact ⟨Bermuda.nodupB_iff.mpr ha.nd, Bermuda.nodupB_iff.mpr hb.nd⟩
    · intro c hc
      rcases List.mem_append.mp hc with hc | hc
      · exact ha.wf c hc
      · exact hb.wf c hc
  refine ⟨o, ho, hspec, hcum, ?_, ?_⟩
  · have := hspec
    unfold Spec.mergeSpec at this
    simp only [Bool.and_eq_true, hinc] at this
    exact Bermuda.nodupB_iff.mp this.1.1
  · obtain ⟨ps, hj, hperm, _⟩ := Bermuda.Properties.C10.merge_ok ho
    intro c hc
    obtain ⟨p, hp, hpc⟩ := List.mem_filterMap.mp (hperm.mem_iff.mp hc)
    rcases C10.mergeCellPair_of_join hj hp hpc with h | ⟨x, hx, _, hv | ⟨y, _, hv⟩⟩
    · exact hb.wf c h
    · rw [hv]; exact ha.wf x hx
    · rw [hv]; exact Dict.WF_union (ha.wf x hx) _

theorem arrayExpected_cumTriangle {field : String} {md : Metadata} {res : Int} {fe : Bool} {lags : List Int}
    {rows : List (Date × List Val)} (h : RegFrame field md res fe lags rows) :
    CumTriangle (arrayExpected field md res fe lags rows) :=
  ⟨arrayExpected_cumulative, arrayExpected_keys_nodup h false, arrayExpected_values_wf⟩

/-- **arrayBuilder_two_fields_returns**: under the hypotheses of `arrayBuilder_two_fields_partial` the builder
RETURNS a triangle `out` (no class refusal in the join, none in the constructor: every cell is a
`CumulativeCell`), `out` is the full-join merge of the two single-field triangles and satisfies
`Spec.mergeSpecLast .full none`. `arrayBuilder_two_fields` has the same hypotheses and the stronger
`Spec.mergeSpec` in the conclusion. -/
theorem arrayBuilder_two_fields_returns {cols1 cols2 : List String} {rows1 rows2 : List (Date × List Val)}
    {n1 n2 : String} {md : Metadata} {res : Int} {evalRes : Option Int} {fe : Bool}
    (h1 : RegFrame n1 md res (fe || (effectiveEvalResolution cols1 res evalRes).isSome)
          (columnLags cols1 (effectiveEvalResolution cols1 res evalRes)) rows1)
    (h2 : RegFrame n2 md res (fe || (effectiveEvalResolution cols2 res evalRes).isSome)
          (columnLags cols2 (effectiveEvalResolution cols2 res evalRes)) rows2) :
    ∃ out, arrayTriangleBuilder
        [{ cols := cols1, rows := rows1.map fun r => (PeriodEntry.date r.1, r.2) },
         { cols := cols2, rows := rows2.map fun r => (PeriodEntry.date r.1, r.2) }] [n1, n2] (some res) evalRes fe md =
        .ok out ∧
      Spec.mergeSpecLast .full none
        (arrayExpected n1 md res (fe || (effectiveEvalResolution cols1 res evalRes).isSome)
          (columnLags cols1 (effectiveEvalResolution cols1 res evalRes)) rows1)
        (arrayExpected n2 md res (fe || (effectiveEvalResolution cols2 res evalRes).isSome)
          (columnLags cols2 (effectiveEvalResolution cols2 res evalRes)) rows2) out = true := by
  obtain ⟨hb, hs⟩ := arrayBuilder_two_fields_partial h1 h2
  obtain ⟨out, hout, _⟩ := merge_step (arrayExpected_cumTriangle h1) (arrayExpected_cumTriangle h2)
  exact ⟨out, hb.trans hout, hs out hout⟩

/-- two concrete one-quarter frames (period 2021-04, lag 0), fields `paid_loss` / `reported_loss` -/
def exF1 : ArrayFrame := { cols := ["0"], rows := [(PeriodEntry.date ⟨2021, 4, 1⟩, [.flt 1])] }

def exF2 : ArrayFrame := { cols := ["0"], rows := [(PeriodEntry.date ⟨2021, 4, 1⟩, [.int 2])] }

/-- **closed instance** (kernel evaluation of the model; one coordinate, because the kernel cannot evaluate
`List.mergeSort` on two or more cells): `array_triangle_builder([df1, df2], ["paid_loss", "reported_loss"],
period_resolution=3, eval_resolution=3)` returns the one cell carrying BOTH fields. -/
theorem arrayBuilder_two_fields_example :
    arrayTriangleBuilder [exF1, exF2] ["paid_loss", "reported_loss"] (some 3) (some 3) true {} =
      .ok [{ kind := .cumulative, ps := ⟨2021, 4, 1⟩, pe := ⟨2021, 6, 30⟩, ev := ⟨2021, 6, 30⟩,
             values := [("paid_loss", .flt 1), ("reported_loss", .int 2)], md := {} }] := by
  decide +kernel

/-- … and the two frames of the instance lie in the domain of `arrayBuilder_two_fields_partial` /
`arrayBuilder_two_fields_returns` (its `RegFrame` hypotheses, for these very arguments) -/
theorem arrayBuilder_two_fields_example_domain :
    RegFrame "paid_loss" {} 3 (true || (effectiveEvalResolution ["0"] 3 (some 3)).isSome)
      (columnLags ["0"] (effectiveEvalResolution ["0"] 3 (some 3))) [(⟨2021, 4, 1⟩, [.flt 1])] ∧
    RegFrame "reported_loss" {} 3 (true || (effectiveEvalResolution ["0"] 3 (some 3)).isSome)
      (columnLags ["0"] (effectiveEvalResolution ["0"] 3 (some 3))) [(⟨2021, 4, 1⟩, [.int 2])] := by
  constructor
  · exact { res1 := by decide +kernel, first := by decide +kernel, asc := by simp, lagsAsc := by decide +kernel,
            fromStart := (by intro h; cases h), dates := (by decide +kernel) }
  · exact { res1 := by decide +kernel, first := by decide +kernel, asc := by simp, lagsAsc := by decide +kernel,
            fromStart := (by intro h; cases h), dates := (by decide +kernel) }

/-- **arrayBuilder_two_fields**: for two `RegFrame`s and an explicit `period_resolution`,
`array_triangle_builder([df1, df2], [n1, n2], …)` RETURNS a triangle `out` and `out` satisfies
`Spec.mergeSpec .full none (arrayExpected n1 …) (arrayExpected n2 …)`: coordinates distinct; a coordinate of
both frames carries the first frame's cell with the right-biased union of the two one-field value dicts, a
coordinate of one frame only carries THE cell of that frame unchanged; every coordinate of either frame
occurs. It implies `arrayBuilder_two_fields_returns` (the operands have distinct coordinates, and there
`mergeSpec` and `mergeSpecLast` coincide: `Properties.C10.mergeSpecLast_eq_mergeSpec`). Pieces:
`arrayBuilder_two_fields_partial` (builder = merge), `merge_step` (the merge of two `CumTriangle`s returns and
satisfies `mergeSpec`, by `Properties.C10.mergeSpec_of_merge`), `arrayExpected_keys_nodup`. Three or more frames: `arrayBuilder_fields`; `period_resolution` inferred:
`arrayBuilder_two_fields_inferred`. -/
theorem arrayBuilder_two_fields {cols1 cols2 : List String} {rows1 rows2 : List (Date × List Val)}
    {n1 n2 : String} {md : Metadata} {res : Int} {evalRes : Option Int} {fe : Bool}
    (h1 : RegFrame n1 md res (fe || (effectiveEvalResolution cols1 res evalRes).isSome)
          (columnLags cols1 (effectiveEvalResolution cols1 res evalRes)) rows1)
    (h2 : RegFrame n2 md res (fe || (effectiveEvalResolution cols2 res evalRes).isSome)
          (columnLags cols2 (effectiveEvalResolution cols2 res evalRes)) rows2) :
    ∃ out, arrayTriangleBuilder
        [{ cols := cols1, rows := rows1.map fun r => (PeriodEntry.date r.1, r.2) },
         { cols := cols2, rows := rows2.map fun r => (PeriodEntry.date r.1, r.2) }] [n1, n2] (some res) evalRes fe md =
        .ok out ∧
      Spec.mergeSpec .full none
        (arrayExpected n1 md res (fe || (effectiveEvalResolution cols1 res evalRes).isSome)
          (columnLags cols1 (effectiveEvalResolution cols1 res evalRes)) rows1)
        (arrayExpected n2 md res (fe || (effectiveEvalResolution cols2 res evalRes).isSome)
          (columnLags cols2 (effectiveEvalResolution cols2 res evalRes)) rows2) out = true := by
  obtain ⟨hb, _⟩ := arrayBuilder_two_fields_partial h1 h2
  obtain ⟨out, hout, hspec, _⟩ := merge_step (arrayExpected_cumTriangle h1) (arrayExpected_cumTriangle h2)
  exact ⟨out, hb.trans hout, hspec⟩

/-- **arrayBuilder_two_fields_inferred**: as `arrayBuilder_two_fields`, with `period_resolution=None`: each of the
two single-frame readers infers the resolution from ITS first two period starts (`round` of the fractional
month lag). Beyond `RegFrame` the only hypotheses are the ones inference itself needs (those of
`fromArrayFrame_args_inferred`): each frame has at least two rows and its first two period starts are `res`
months apart. Then the builder RETURNS `out` and `Spec.mergeSpec .full none (arrayExpected n1 …) (arrayExpected n2 …) out`
holds. (A frame with fewer than two rows, or frames whose inferred resolutions differ, are outside this
statement.) -/
theorem arrayBuilder_two_fields_inferred {cols1 cols2 : List String} {rows1 rows2 : List (Date × List Val)}
    {n1 n2 : String} {md : Metadata} {res : Int} {evalRes : Option Int} {fe : Bool}
    (h1 : RegFrame n1 md res (fe || (effectiveEvalResolution cols1 res evalRes).isSome)
          (columnLags cols1 (effectiveEvalResolution cols1 res evalRes)) rows1)
    (h2 : RegFrame n2 md res (fe || (effectiveEvalResolution cols2 res evalRes).isSome)
          (columnLags cols2 (effectiveEvalResolution cols2 res evalRes)) rows2)
    (hp1 : ∃ r0 r1 rest, rows1 = r0 :: r1 :: rest ∧ monthToId r1.1 = monthToId r0.1 + res)
    (hp2 : ∃ r0 r1 rest, rows2 = r0 :: r1 :: rest ∧ monthToId r1.1 = monthToId r0.1 + res) :
    ∃ out, arrayTriangleBuilder
        [{ cols := cols1, rows := rows1.map fun r => (PeriodEntry.date r.1, r.2) },
         { cols := cols2, rows := rows2.map fun r => (PeriodEntry.date r.1, r.2) }] [n1, n2] none evalRes fe md =
        .ok out ∧
      Spec.mergeSpec .full none
        (arrayExpected n1 md res (fe || (effectiveEvalResolution cols1 res evalRes).isSome)
          (columnLags cols1 (effectiveEvalResolution cols1 res evalRes)) rows1)
        (arrayExpected n2 md res (fe || (effectiveEvalResolution cols2 res evalRes).isSome)
          (columnLags cols2 (effectiveEvalResolution cols2 res evalRes)) rows2) out = true := by
  obtain ⟨out, hout, hspec, _⟩ := merge_step (arrayExpected_cumTriangle h1) (arrayExpected_cumTriangle h2)
  refine ⟨out, ?_, hspec⟩
  rw [(arrayBuilder_spec _ _ n1 n2 none evalRes fe md).2.1, fromArrayFrame_args_inferred h1 hp1,
    fromArrayFrame_args_inferred h2 hp2]
  exact hout

/-- one frame of the builder's argument lists: column labels, rows, field name -/
abbrev FrameSpec := List String × List (Date × List Val) × String

def FrameSpec.frame (s : FrameSpec) : ArrayFrame :=
  { cols := s.1, rows := s.2.1.map fun r => (PeriodEntry.date r.1, r.2) }

def FrameSpec.expected (md : Metadata) (res : Int) (evalRes : Option Int) (fe : Bool) (s : FrameSpec) : List Cell :=
  arrayExpected s.2.2 md res (fe || (effectiveEvalResolution s.1 res evalRes).isSome)
    (columnLags s.1 (effectiveEvalResolution s.1 res evalRes)) s.2.1

def FrameSpec.Reg (md : Metadata) (res : Int) (evalRes : Option Int) (fe : Bool) (s : FrameSpec) : Prop :=
  RegFrame s.2.2 md res (fe || (effectiveEvalResolution s.1 res evalRes).isSome)
    (columnLags s.1 (effectiveEvalResolution s.1 res evalRes)) s.2.1

/-- `MergeChain acc ts out`: `out` is reached from `acc` by merging the triangles `ts` in one after the other, each
step returning and satisfying `Spec.mergeSpec .full none` -/
inductive MergeChain : List Cell → List (List Cell) → List Cell → Prop
  | nil (acc : List Cell) : MergeChain acc [] acc
  | cons {acc t o : List Cell} {ts : List (List Cell)} {out : List Cell} :
      merge (some .full) none acc t = .ok o → Spec.mergeSpec .full none acc t o = true →
      MergeChain o ts out → MergeChain acc (t :: ts) out

theorem foldlM_merge_chain : ∀ (ts : List (List Cell)) (acc : List Cell), CumTriangle acc →
    (∀ t ∈ ts, CumTriangle t) →
    ∃ out, ts.foldlM (fun acc t => merge (some .full) none acc t) acc = .ok out ∧ MergeChain acc ts out ∧
      CumTriangle out
  | [], acc, ha, _ => ⟨acc, rfl, .nil acc, ha⟩
  | t :: ts, acc, ha, hts => by
    obtain ⟨o, h1, hs, ho⟩ := merge_step ha (hts t List.mem_cons_self)
    obtain ⟨out, h2, hch, hout⟩ := foldlM_merge_chain ts o ho (fun t' ht' => hts t' (List.mem_cons_of_mem _ ht'))
    refine ⟨out, ?_, .cons h1 hs hch, hout⟩
    rw [List.foldlM_cons, h1]
    exact h2

theorem FrameSpec.mergeChain {md : Metadata} {res : Int} {evalRes : Option Int} {fe : Bool} (s0 : FrameSpec)
    (rest : List FrameSpec) (h : ∀ s ∈ s0 :: rest, s.Reg md res evalRes fe) :
    ∃ out, (rest.map (FrameSpec.expected md res evalRes fe)).foldlM (fun acc t => merge (some .full) none acc t)
        (s0.expected md res evalRes fe) = .ok out ∧
      MergeChain (s0.expected md res evalRes fe) (rest.map (FrameSpec.expected md res evalRes fe)) out ∧
      CumTriangle out :=
  foldlM_merge_chain _ _ (arrayExpected_cumTriangle (h s0 List.mem_cons_self)) fun t ht => by
    obtain ⟨s, hs, rfl⟩ := List.mem_map.mp ht
    exact arrayExpected_cumTriangle (h s (List.mem_cons_of_mem _ hs))

/-- **arrayBuilder_fields_partial** (any number n ≥ 1 of frames `s0 :: rest`, each a `RegFrame` for the common
`metadata`, explicit `period_resolution=res`, `eval_resolution`, `dev_lag_from_period_end`): the builder's result
IS the left fold of full-join merges over the explicitly described single-field triangles
`FrameSpec.expected … s`, starting from the first frame's, and it RETURNS (an all-`CumulativeCell` triangle).
It says nothing of what each merge step does; `arrayBuilder_fields` has the same hypotheses and adds
`mergeSpec` at every step. -/
theorem arrayBuilder_fields_partial {md : Metadata} {res : Int} {evalRes : Option Int} {fe : Bool}
    (s0 : FrameSpec) (rest : List FrameSpec) (h : ∀ s ∈ s0 :: rest, s.Reg md res evalRes fe) :
    arrayTriangleBuilder ((s0 :: rest).map FrameSpec.frame) ((s0 :: rest).map (·.2.2)) (some res) evalRes fe md =
      (rest.map (FrameSpec.expected md res evalRes fe)).foldlM (fun acc t => merge (some .full) none acc t)
        (s0.expected md res evalRes fe) ∧
    ∃ out, arrayTriangleBuilder ((s0 :: rest).map FrameSpec.frame) ((s0 :: rest).map (·.2.2)) (some res) evalRes fe md =
      .ok out ∧ ∀ c ∈ out, c.kind = .cumulative := by
  have heq : arrayTriangleBuilder ((s0 :: rest).map FrameSpec.frame) ((s0 :: rest).map (·.2.2)) (some res) evalRes fe md =
      (rest.map (FrameSpec.expected md res evalRes fe)).foldlM (fun acc t => merge (some .full) none acc t)
        (s0.expected md res evalRes fe) :=
    arrayTriangleBuilder_of_reads s0 rest fun s hs => fromArrayFrame_args (h s hs)
  obtain ⟨out, ho, _, hc⟩ := FrameSpec.mergeChain s0 rest h
  exact ⟨heq, out, heq.trans ho, hc.cum⟩

/-- **arrayBuilder_fields** (any number n ≥ 1 of frames): `array_triangle_builder(dfs, fields, period_resolution=res, …)`
on `RegFrame`s `s0 :: rest` RETURNS a triangle `out`, and `out` is reached from the first frame's single-field
triangle by merging the further frames' triangles in one after the other (`MergeChain`), EVERY step returning
and satisfying `Spec.mergeSpec .full none` (distinct coordinates; a coordinate on both sides = the accumulated
cell with the right-biased union of the value dicts, i.e. the new frame's field added, a later frame winning on
a repeated field name; a coordinate on one side only = that side's cell unchanged; no coordinate lost); `out` has
only `CumulativeCell`s, distinct coordinates, value dicts with distinct keys. For `rest = []` this is the single
reader, for one further frame `arrayBuilder_two_fields`. No hypothesis beyond `RegFrame` per frame. -/
theorem arrayBuilder_fields {md : Metadata} {res : Int} {evalRes : Option Int} {fe : Bool}
    (s0 : FrameSpec) (rest : List FrameSpec) (h : ∀ s ∈ s0 :: rest, s.Reg md res evalRes fe) :
    ∃ out, arrayTriangleBuilder ((s0 :: rest).map FrameSpec.frame) ((s0 :: rest).map (·.2.2)) (some res) evalRes fe md =
        .ok out ∧
      MergeChain (s0.expected md res evalRes fe) (rest.map (FrameSpec.expected md res evalRes fe)) out ∧
      CumTriangle out := by
  rw [(arrayBuilder_fields_partial s0 rest h).1]
  exact FrameSpec.mergeChain s0 rest h

/-- non-vacuity with THREE frames (the two of `arrayBuilder_two_fields_example_domain`, the second used twice
under different field names) -/
example : ∃ out, arrayTriangleBuilder
    (([(["0"], [(⟨2021, 4, 1⟩, [.flt 1])], "paid_loss"), (["0"], [(⟨2021, 4, 1⟩, [.int 2])], "reported_loss"),
       (["0"], [(⟨2021, 4, 1⟩, [.int 2])], "incurred_loss")] : List FrameSpec).map FrameSpec.frame)
    ["paid_loss", "reported_loss", "incurred_loss"] (some 3) (some 3) true {} = .ok out ∧ CumTriangle out := by
  have hreg : ∀ s ∈ ([(["0"], [(⟨2021, 4, 1⟩, [.flt 1])], "paid_loss"), (["0"], [(⟨2021, 4, 1⟩, [.int 2])], "reported_loss"),
       (["0"], [(⟨2021, 4, 1⟩, [.int 2])], "incurred_loss")] : List FrameSpec), s.Reg {} 3 (some 3) true := by
    intro s hs
    simp only [List.mem_cons, List.not_mem_nil, or_false] at hs
    rcases hs with rfl | rfl | rfl
    · exact arrayBuilder_two_fields_example_domain.1
    · exact arrayBuilder_two_fields_example_domain.2
    · exact { res1 := by decide +kernel, first := by decide +kernel, asc := by simp, lagsAsc := by decide +kernel,
              fromStart := (by intro h; cases h), dates := (by decide +kernel) }
  obtain ⟨out, h1, _, h3⟩ := arrayBuilder_fields _ _ hreg
  exact ⟨out, h1, h3⟩

/-- what inference of `period_resolution` needs of one frame: at least two rows, the first two period starts
`res` months apart (the hypothesis of `fromArrayFrame_args_inferred`) -/
def FrameSpec.Infers (res : Int) (s : FrameSpec) : Prop :=
  ∃ r0 r1 rest, s.2.1 = r0 :: r1 :: rest ∧ monthToId r1.1 = monthToId r0.1 + res

/-- **arrayBuilder_fields_inferred** (any number n ≥ 1 of frames, `period_resolution=None`): as
`arrayBuilder_fields`, every single-frame reader inferring the resolution from its own first two period starts;
per frame the hypotheses of `arrayBuilder_two_fields_inferred` (`RegFrame` for the common `res`, and
`FrameSpec.Infers res`: ≥ 2 rows, first two period starts `res` months apart). The builder RETURNS `out`, reached
by the chain of merges each satisfying `Spec.mergeSpec .full none`; `out` is a `CumTriangle`. -/
theorem arrayBuilder_fields_inferred {md : Metadata} {res : Int} {evalRes : Option Int} {fe : Bool}
    (s0 : FrameSpec) (rest : List FrameSpec)
    (h : ∀ s ∈ s0 :: rest, s.Reg md res evalRes fe ∧ s.Infers res) :
    ∃ out, arrayTriangleBuilder ((s0 :: rest).map FrameSpec.frame) ((s0 :: rest).map (·.2.2)) none evalRes fe md =
        .ok out ∧
      MergeChain (s0.expected md res evalRes fe) (rest.map (FrameSpec.expected md res evalRes fe)) out ∧
      CumTriangle out := by
  rw [arrayTriangleBuilder_of_reads (frame := FrameSpec.frame) (name := fun s => s.2.2)
    (tri := FrameSpec.expected md res evalRes fe) s0 rest
    fun s hs => fromArrayFrame_args_inferred (h s hs).1 (h s hs).2]
  exact FrameSpec.mergeChain s0 rest fun s hs => (h s hs).1

/-! ### Matrix (`io/matrix.py`) and the inferred index (`matrix/index.py`) -/

/-- **fromMatrix_toMatrix** (`OnGrid t ix`: a strictly sorted cumulative triangle of month-aligned
cells with numeric scalar values whose period starts lie every `ix.expResolution` months from
`ix.expOrigin`, whose periods are `ix.expResolution` months long, and whose development lags lie
every `min(expResolution, devResolution)` months from `ix.devOrigin` — complete or holey, one or
several slices). The matrix filled from the triangle converts back to the same cells. -/
theorem fromMatrix_toMatrix {t : List Cell} {ix : MatrixIndex} (h : OnGrid t ix) :
    okAnd (backSpec t) ((toMatrixWith ix t).bind fromMatrix) = true := by
  rw [fromMatrix_toMatrixWith_eq h]
  exact okAnd_backSpec_map fun c hc => canonCell_mrecon h hc

/-- … in particular for the index the library infers, whenever the triangle lies on its grid -/
theorem fromMatrix_toMatrix_inferred {t : List Cell} {ix : MatrixIndex}
    (hm : isMonthly t = true) (hs : isSemiRegular t = true)
    (hix : MatrixIndex.ofTriangle t = .ok ix) (h : OnGrid t ix) :
    okAnd (backSpec t) ((toMatrix t).bind fromMatrix) = true := by
  have hne : t.isEmpty = false := List.isEmpty_eq_false_iff.mpr h.ne
  unfold toMatrix
  simp only [hne, hm, hs, Bool.not_true, Bool.false_eq_true, if_false, hix, Except.bind]
  exact fromMatrix_toMatrix h

/-- **matrixIndex_onGrid**: the index INFERRED by `MatrixIndex.from_triangle` — origins the smallest
period start and the smallest development lag, resolutions the gcd of the differences of the sorted
distinct period boundaries and of the sorted distinct evaluation months — puts the triangle on its
grid, for a strictly sorted cumulative triangle of month-aligned cells (`MonthCell`) whose periods are
all `e` months long with starts a multiple of `e` months apart (`Contiguous t e`: contiguous periods,
or gaps of whole periods) and whose development lags are congruent modulo the inferred step
`min(exp, dev)`. The inference finds `expResolution = e`. With gaps that are not multiples of the
period length, or a holey triangle whose remaining lags are not congruent modulo the step, the
statement is false and the Matrix form cannot hold the triangle. -/
theorem matrixIndex_onGrid {t : List Cell} {ix : MatrixIndex} {e : Int} (hne : t ≠ [])
    (hsorted : t.Pairwise (fun a b => Cell.cmp a b = .lt)) (hkinds : kindsConsistent t = true)
    (hcell : ∀ c ∈ t, MonthCell c) (hc : Contiguous t e)
    (hix : MatrixIndex.ofTriangle t = .ok ix)
    (hk : ∀ a ∈ t, ∀ b ∈ t, devSpacing ix ∣ lagOf b - lagOf a) : OnGrid t ix :=
  Frame.matrixIndex_onGrid hne hsorted hkinds hcell hc hix hk

/-- the gcd inference returns the common period length -/
theorem periodResolution_contiguous {t : List Cell} {e r : Int} (hne : t ≠ []) (hc : Contiguous t e)
    (h : Frame.periodResolution t = some r) : r = e :=
  Frame.periodResolution_contiguous hne hc h

/-- the lag condition holds by itself when one inferred resolution divides the other (yearly periods
seen quarterly, quarterly periods seen quarterly or yearly, …) -/
theorem matrixIndex_lags_of_dvd {t : List Cell} {ix : MatrixIndex} {e : Int} (hne : t ≠ [])
    (hc : Contiguous t e) (hix : MatrixIndex.ofTriangle t = .ok ix)
    (hd : ix.devResolution ∣ ix.expResolution ∨ ix.expResolution ∣ ix.devResolution) :
    ∀ a ∈ t, ∀ b ∈ t, devSpacing ix ∣ lagOf b - lagOf a :=
  Frame.lags_congruent_of_dvd hne hc hix hd

/-- **matrixIndex_total**: `MatrixIndex.from_triangle` succeeds on every non-empty triangle with contiguous
periods of `e` months and at least two evaluation months (with one the library refuses: "Must supply
eval_resolution"); its resolutions are `e` and the gcd of the evaluation-month gaps. -/
theorem matrixIndex_total {t : List Cell} {e : Int} (hne : t ≠ []) (hc : Contiguous t e)
    (hev : ∃ a ∈ t, ∃ b ∈ t, monthToId a.ev ≠ monthToId b.ev) :
    ∃ ix d, MatrixIndex.ofTriangle t = .ok ix ∧ evalDateResolution t = some d ∧
      ix.expResolution = e ∧ ix.devResolution = d :=
  Frame.ofTriangle_ok hne hc hev

/-- **fromMatrix_toMatrix** for the default call `triangle_to_matrix(tri)` / `matrix_to_triangle`,
without a grid hypothesis: the inferred index is on the grid by `matrixIndex_onGrid`. (`hm` follows from
`hcell`, `isMonthly_of_monthCell`; `fromMatrix_toMatrix_default` is stated without it. `hs` follows from `hc` and
`hcell`, `isSemiRegular_of_contiguous`.) -/
theorem fromMatrix_toMatrix_contiguous {t : List Cell} {ix : MatrixIndex} {e : Int} (hne : t ≠ [])
    (hsorted : t.Pairwise (fun a b => Cell.cmp a b = .lt)) (hkinds : kindsConsistent t = true)
    (hcell : ∀ c ∈ t, MonthCell c) (hc : Contiguous t e)
    (hm : isMonthly t = true) (hs : isSemiRegular t = true)
    (hix : MatrixIndex.ofTriangle t = .ok ix)
    (hd : ix.devResolution ∣ ix.expResolution ∨ ix.expResolution ∣ ix.devResolution) :
    okAnd (backSpec t) ((toMatrix t).bind fromMatrix) = true :=
  fromMatrix_toMatrix_inferred hm hs hix
    (matrixIndex_onGrid hne hsorted hkinds hcell hc hix (matrixIndex_lags_of_dvd hne hc hix hd))

/-- **fromMatrix_toMatrix_default**: the default call `matrix_to_triangle(triangle_to_matrix(tri))` with NO
hypothesis about the index — its inference succeeds (`matrixIndex_total`), `is_triangle_monthly` follows
from `MonthCell`. Remaining hypotheses: the triangle has two evaluation months, and one of the two inferred
resolutions divides the other (`hs`, semi-regularity as the library checks it, follows from `hc` and `hcell`:
`isSemiRegular_of_contiguous`). -/
theorem fromMatrix_toMatrix_default {t : List Cell} {e : Int} (hne : t ≠ [])
    (hsorted : t.Pairwise (fun a b => Cell.cmp a b = .lt)) (hkinds : kindsConsistent t = true)
    (hcell : ∀ c ∈ t, MonthCell c) (hc : Contiguous t e) (hs : isSemiRegular t = true)
    (hev : ∃ a ∈ t, ∃ b ∈ t, monthToId a.ev ≠ monthToId b.ev)
    (hd : ∀ d, evalDateResolution t = some d → d ∣ e ∨ e ∣ d) :
    okAnd (backSpec t) ((toMatrix t).bind fromMatrix) = true := by
  obtain ⟨ix, d, hix, hdd, he, hdr⟩ := Frame.ofTriangle_ok hne hc hev
  exact fromMatrix_toMatrix_contiguous hne hsorted hkinds hcell hc (isMonthly_of_monthCell hcell) hs hix
    (by rw [he, hdr]; exact hd d hdd)

/-- `Contiguous` and `MonthCell` are satisfiable (the quarterly triangle above) -/
theorem contiguous_example : Contiguous exQ 3 ∧ ∀ c ∈ exQ, MonthCell c := by
  refine ⟨⟨by decide +kernel, ?_, ?_⟩, ?_⟩
  · intro c hc
    simp only [exQ, List.mem_cons, List.not_mem_nil, or_false] at hc
    rcases hc with rfl | rfl | rfl <;> decide +kernel
  · intro a ha b hb
    simp only [exQ, List.mem_cons, List.not_mem_nil, or_false] at ha hb
    rcases ha with rfl | rfl | rfl <;> rcases hb with rfl | rfl | rfl <;> decide +kernel
  · intro c hc
    simp only [exQ, List.mem_cons, List.not_mem_nil, or_false] at hc
    rcases hc with rfl | rfl | rfl
    all_goals
      exact { notInc := by decide +kernel, prev := rfl, dates := by decide +kernel, canon := by decide +kernel,
              psv := by decide +kernel, ps1 := rfl, pev := by decide +kernel, pee := by decide +kernel, evv := by decide +kernel,
              eve := by decide +kernel, vals := by intro kv hkv; simp [qCell] at hkv; subst hkv; rfl,
              nodup := by decide +kernel, vne := by simp [qCell] }

/-- the joint hypotheses of `fromMatrix_toMatrix_contiguous` / `_default` hold for the quarterly triangle
`exQ` (with `contiguous_example`): sorted, one class, semi-regular, two evaluation months, both inferred
resolutions 3 — so the theorem is not vacuous, the index exists and `OnGrid exQ ix` is inhabited -/
theorem exQ_matrix_example :
    exQ.Pairwise (fun a b => Cell.cmp a b = .lt) ∧ kindsConsistent exQ = true ∧ isMonthly exQ = true ∧
    isSemiRegular exQ = true ∧ (∃ a ∈ exQ, ∃ b ∈ exQ, monthToId a.ev ≠ monthToId b.ev) ∧
    (∃ ix, MatrixIndex.ofTriangle exQ = .ok ix ∧ ix.expResolution = 3 ∧ ix.devResolution = 3 ∧ OnGrid exQ ix) ∧
    okAnd (backSpec exQ) ((toMatrix exQ).bind fromMatrix) = true := by
  have hsorted : exQ.Pairwise (fun a b => Cell.cmp a b = .lt) := by decide +kernel
  have hkinds : kindsConsistent exQ = true := by decide +kernel
  have hev : ∃ a ∈ exQ, ∃ b ∈ exQ, monthToId a.ev ≠ monthToId b.ev :=
    ⟨_, List.mem_cons_self, _, List.mem_cons_of_mem _ List.mem_cons_self, by decide +kernel⟩
  have hevr : evalDateResolution exQ = some 3 := by
    unfold evalDateResolution
    have he : (exQ.map fun c => monthToId c.ev).eraseDups = [617, 620] := by decide +kernel
    rw [he]
    have hs : sortInts [617, 620] = [617, 620] := by
      unfold sortInts
      apply List.mergeSort_of_pairwise
      simp
    rw [hs]
    decide +kernel
  obtain ⟨hc, hcell⟩ := contiguous_example
  have hsemi := isSemiRegular_of_contiguous hc hcell
  obtain ⟨ix, d, hix, hdd, he, hdr⟩ := Frame.ofTriangle_ok (by decide +kernel) hc hev
  have hd3 : d = 3 := by rw [hevr] at hdd; exact (Option.some.inj hdd).symm
  have hdv : ix.devResolution ∣ ix.expResolution ∨ ix.expResolution ∣ ix.devResolution := by
    rw [he, hdr, hd3]; left; exact Int.dvd_refl 3
  refine ⟨hsorted, hkinds, isMonthly_of_monthCell hcell, hsemi, hev,
    ⟨ix, hix, he, by rw [hdr, hd3],
      matrixIndex_onGrid (by decide +kernel) hsorted hkinds hcell hc hix (matrixIndex_lags_of_dvd (by decide +kernel) hc hix hdv)⟩, ?_⟩
  exact fromMatrix_toMatrix_contiguous (by decide +kernel) hsorted hkinds hcell hc (isMonthly_of_monthCell hcell) hsemi hix hdv

/-! ### Rich matrix (`io/rich_matrix.py`) -/

/-- **fromRich_toRich** (`RichGrid t ix`: a strictly sorted month-aligned triangle — cumulative, or
incremental with every previous evaluation date one development step before the evaluation date — whose
periods are one index period long and start on the index grid and whose lags lie on the development
grid; one or several slices, complete or holey; values ARBITRARY: Python ints and floats, `None`,
sample arrays of any dtype / shape; `ix.fields` any duplicate-free non-empty list, a subset or
superset of the triangle's fields). `rich_matrix_to_triangle(triangle_to_rich_matrix(t))` is exactly
`t.filterMap (richBack ix.fields)`: the cells that hold a value of an index field, in the same order,
with the same coordinates, class, previous evaluation date and slice metadata; their values are the
index fields that have a value, in index order, each number with its Python kind, each array with
its dtype and shape, a size-1 array as its float; `None` values, fields outside the index and cells
left without a value do not come back. -/
theorem fromRich_toRich {t : List Cell} {ix : MatrixIndex} (h : RichGrid t ix) :
    (toRichWith ix ix.fields t).bind fromRich = .ok (t.filterMap (richBack ix.fields)) :=
  Frame.fromRich_toRichWith h

/-- … as the Bool Spec clause the driver evaluates on the implementation's output -/
theorem fromRich_toRich_spec {t : List Cell} {ix : MatrixIndex} (h : RichGrid t ix) :
    okAnd (richSpec ix.fields t) ((toRichWith ix ix.fields t).bind fromRich) = true := by
  rw [Frame.fromRich_toRichWith h]
  exact richSpec_iff.mpr rfl

/-- … for the public call `triangle_to_rich_matrix(tri, eval_resolution, fields)` with any arguments
(`fields` not the empty list), whenever the index `MatrixIndex.from_triangle` builds from them puts the
triangle on its grid -/
theorem fromRich_toRich_call {t : List Cell} {ix : MatrixIndex} {evalRes : Option Int}
    {fields : Option (List String)} (hf : fields ≠ some [])
    (hix : MatrixIndex.ofTriangleWith t evalRes fields = .ok ix) (h : RichGrid t ix) :
    (toRich t evalRes fields).bind fromRich = .ok (t.filterMap (richBack ix.fields)) :=
  Frame.fromRich_toRich_of_index hf hix h

/-- … and for the default call on a cumulative triangle with numeric scalar values and contiguous
periods (the domain of `fromMatrix_toMatrix_contiguous`), with NO grid hypothesis: the inferred index is
on the grid by `matrixIndex_onGrid`; here every cell comes back with every field, numbers with their
Python kind (the plain Matrix form returns floats). -/
theorem fromRich_toRich_contiguous {t : List Cell} {ix : MatrixIndex} {e : Int} (hne : t ≠ [])
    (hsorted : t.Pairwise (fun a b => Cell.cmp a b = .lt)) (hkinds : kindsConsistent t = true)
    (hcell : ∀ c ∈ t, MonthCell c) (hc : Contiguous t e)
    (hix : MatrixIndex.ofTriangle t = .ok ix)
    (hd : ix.devResolution ∣ ix.expResolution ∨ ix.expResolution ∣ ix.devResolution) :
    (toRich t).bind fromRich = .ok (t.filterMap (richBack ix.fields)) := by
  have hg := matrixIndex_onGrid hne hsorted hkinds hcell hc hix (matrixIndex_lags_of_dvd hne hc hix hd)
  have hr := hg.rich
  have hdev : ix.devResolution ≠ 0 := by
    have := hg.s1
    unfold devSpacing at this
    omega
  exact Frame.fromRich_toRich_of_index (by simp) (ofTriangleWith_default hix hdev hr.fieldsNe) hr

/-- … and for the default call with NO hypothesis about the index, as `fromMatrix_toMatrix_default` -/
theorem fromRich_toRich_default {t : List Cell} {e : Int} (hne : t ≠ [])
    (hsorted : t.Pairwise (fun a b => Cell.cmp a b = .lt)) (hkinds : kindsConsistent t = true)
    (hcell : ∀ c ∈ t, MonthCell c) (hc : Contiguous t e)
    (hev : ∃ a ∈ t, ∃ b ∈ t, monthToId a.ev ≠ monthToId b.ev)
    (hd : ∀ d, evalDateResolution t = some d → d ∣ e ∨ e ∣ d) :
    ∃ ix, MatrixIndex.ofTriangle t = .ok ix ∧
      (toRich t).bind fromRich = .ok (t.filterMap (richBack ix.fields)) := by
  obtain ⟨ix, d, hix, hdd, he, hdr⟩ := Frame.ofTriangle_ok hne hc hev
  exact ⟨ix, hix, fromRich_toRich_contiguous hne hsorted hkinds hcell hc hix (by rw [he, hdr]; exact hd d hdd)⟩

/-- **toRich_placement**: dimensions, every observed value at the index `MatrixIndex` resolves for its
cell (a number as it is, a sample array as `PredictedValue`, a size-1 array as its float), and nothing
else in the array except `MissingValue`s. -/
theorem toRich_placement {t : List Cell} {ix : MatrixIndex} (h : RichGrid t ix) :
    ∃ M, toRichWith ix ix.fields t = .ok M ∧ M.index = ix ∧ M.incremental = firstIsIncremental t ∧
      (∀ c ∈ t, jOf ix c < M.nPeriods ∧ kOf ix c < M.nDevs) ∧
      (∀ c ∈ t, ∀ f ∈ ix.fields, ∀ v, wanted c f = some v →
        M.get? (siOf ix c, fiOf ix f, jOf ix c, kOf ix c) = some v) ∧
      (∀ p v, M.get? p = some v → (∃ id, v = .missing id) ∨
        ∃ c ∈ t, ∃ f ∈ ix.fields, p = (siOf ix c, fiOf ix f, jOf ix c, kOf ix c) ∧ wanted c f = some v) := by
  obtain ⟨jmax, kmax, hs, hM, hhs, hj, hk⟩ := toRichWith_grid h
  refine ⟨_, hM, rfl, rfl, fun c hc => ⟨Nat.lt_succ_of_le (hj c hc), Nat.lt_succ_of_le (hk c hc)⟩, ?_, ?_⟩
  · intro c hc f hf v hv
    show lastAssign (gridAssigns ix t ++ missingAssigns hs) _ = _
    rcases lastAssign_append_missing hhs (siOf ix c, fiOf ix f, jOf ix c, kOf ix c) with h1 | ⟨h1, _⟩
    · rw [h1, lastAssign_cell h hc hf]; exact hv
    · rw [lastAssign_cell h hc hf, hv] at h1; cases h1
  · intro p v hv
    change lastAssign (gridAssigns ix t ++ missingAssigns hs) p = some v at hv
    rcases lastAssign_append_missing hhs p with h1 | ⟨_, id, h2⟩
    · right
      rw [h1] at hv
      have hv' := hv
      unfold lastAssign at hv'
      cases hfind : (gridAssigns ix t).reverse.find? (·.1 == p) with
      | none => simp [hfind] at hv'
      | some e =>
        have hk' : e.1 = p := by simpa using List.find?_some hfind
        obtain ⟨c, hc, kv, _, hkf, rfl⟩ :=
          (mem_gridAssigns _).mp (List.mem_reverse.mp (List.mem_of_find?_eq_some hfind))
        simp only at hk'
        refine ⟨c, hc, kv.1, hkf, hk'.symm, ?_⟩
        rw [← lastAssign_cell h hc hkf, hk']
        exact hv
    · left
      rw [h2] at hv
      exact ⟨id, (Option.some.inj hv).symm⟩

def rCell (ps pe ev : Date) (vs : Dict Val) : Cell :=
  { kind := .cumulative, ps := ps, pe := pe, ev := ev, values := vs, md := {} }

def exR : List Cell :=
  [rCell ⟨2021, 4, 1⟩ ⟨2021, 6, 30⟩ ⟨2021, 6, 30⟩ [("paid_loss", .int 100), ("reported_loss", .none)],
   rCell ⟨2021, 4, 1⟩ ⟨2021, 6, 30⟩ ⟨2021, 9, 30⟩ [("paid_loss", .arr false [2] [1, 2])],
   rCell ⟨2021, 7, 1⟩ ⟨2021, 9, 30⟩ ⟨2021, 9, 30⟩ [("reported_loss", .flt (5/2)), ("paid_loss", .arr true [1] [7])]]

def ixR : MatrixIndex :=
  { slices := [{}], fields := ["paid_loss", "earned_premium", "reported_loss"], expOrigin := 615, devOrigin := 0,
    expResolution := 3, devResolution := 3 }

/-- `RichGrid` is satisfiable: quarterly periods from 2021-04, an int, a `None`, a two-sample array, a
size-1 int array and a float; the index lists a field no cell has -/
theorem richGrid_example : RichGrid exR ixR where
  ne := by decide +kernel
  sorted := by decide +kernel
  slices := by decide +kernel
  e1 := by decide +kernel
  s1 := by decide +kernel
  fieldsNodup := by decide +kernel
  fieldsNe := by decide +kernel
  cell := by
    have hinc : firstIsIncremental exR = false := by decide +kernel
    rw [hinc]
    intro c hc
    simp only [exR, List.mem_cons, List.not_mem_nil, or_false] at hc
    rcases hc with rfl | rfl | rfl
    · exact { pos := { dates := by decide +kernel, canon := by decide +kernel, psv := by decide +kernel, ps1 := rfl,
                        pev := by decide +kernel, pee := by decide +kernel, evv := by decide +kernel, eve := by decide +kernel,
                        j := ⟨0, by decide +kernel⟩, pe := by decide +kernel, k := ⟨0, by decide +kernel⟩ },
              kind := by decide +kernel, prev := rfl, nodup := by decide +kernel }
    · exact { pos := { dates := by decide +kernel, canon := by decide +kernel, psv := by decide +kernel, ps1 := rfl,
                        pev := by decide +kernel, pee := by decide +kernel, evv := by decide +kernel, eve := by decide +kernel,
                        j := ⟨0, by decide +kernel⟩, pe := by decide +kernel, k := ⟨1, by decide +kernel⟩ },
              kind := by decide +kernel, prev := rfl, nodup := by decide +kernel }
    · exact { pos := { dates := by decide +kernel, canon := by decide +kernel, psv := by decide +kernel, ps1 := rfl,
                        pev := by decide +kernel, pee := by decide +kernel, evv := by decide +kernel, eve := by decide +kernel,
                        j := ⟨1, by decide +kernel⟩, pe := by decide +kernel, k := ⟨0, by decide +kernel⟩ },
              kind := by decide +kernel, prev := rfl, nodup := by decide +kernel }

/-- what comes back for the example: all three cells; the `None` is gone, the size-1 array is a float,
the sample array is itself -/
theorem richBack_example :
    exR.filterMap (richBack ixR.fields) =
      [rCell ⟨2021, 4, 1⟩ ⟨2021, 6, 30⟩ ⟨2021, 6, 30⟩ [("paid_loss", .int 100)],
       rCell ⟨2021, 4, 1⟩ ⟨2021, 6, 30⟩ ⟨2021, 9, 30⟩ [("paid_loss", .arr false [2] [1, 2])],
       rCell ⟨2021, 7, 1⟩ ⟨2021, 9, 30⟩ ⟨2021, 9, 30⟩ [("paid_loss", .flt 7), ("reported_loss", .flt (5/2))]] := by
  decide +kernel

/-- **toRich_indexError_iff**: a mark of the anti-diagonal of `(exp_start, exp_end, dev)` leaves an
`nP × nD` array iff the cell's LAST period index is outside, or the development index of its FIRST
period, `dev + (exp_end - exp_start)`, is. -/
theorem toRich_indexError_iff (s e d nP nD : Nat) :
    ((antiDiag s e d).any fun p => decide (p.1 ≥ nP) || decide (p.2 ≥ nD)) = true ↔
      s ≤ e ∧ (nP ≤ e ∨ nD ≤ d + (e - s)) :=
  Frame.antiDiag_outside_iff s e d nP nD

/-- **toRich_item**: one field of one cell, once the index look-ups succeed — `IndexError` exactly under
the condition above, else the item (slice, field, first / last period index, development index, value) -/
theorem toRich_item {ix : MatrixIndex} {fields : List String} {nP nD : Nat} {c : Cell} {kv : String × Val}
    {si fi s d e : Nat} (hf : fields.contains kv.1 = true)
    (hsi : indexOf? ix.slices c.md = some si) (hfi : indexOf? ix.fields kv.1 = some fi)
    (hs : ix.expNdx c.ps = .ok s) (hd : ix.devNdx (c.devLag .month) = .ok d) (he : ix.expNdx c.pe = .ok e) :
    richItem ix fields nP nD c kv =
      if s ≤ e ∧ (nP ≤ e ∨ nD ≤ d + (e - s)) then .error .indexError
      else .ok (some { si := si, fi := fi, s := s, e := e, d := d, pv := richValue kv.2 }) :=
  Frame.richItem_spec hf hsi hfi hs hd he

/-- **toRich_disagg_spec**: the filling loop writes, for every item in program order, its own
assignments with the id it finds; the id of the `n`-th item is the number of SPANNING items (first and
last period index differ) before it; a spanning item writes the same `DisaggregatedValue(id, value)` —
`DisaggregatedPredictedValue(id, array)` for a sample array — on every position of its anti-diagonal, a
single-step item writes its value once. -/
theorem toRich_disagg_spec (its : List RichItem) :
    itemsAssigns its 0 = ((its.zip (disaggIds its 0)).map fun p => itemAssigns p.1 p.2).flatten ∧
    (∀ n (h : n < (disaggIds its 0).length),
      (disaggIds its 0)[n] = ((its.take n).filter RichItem.spans).length) ∧
    (∀ it id, it.spans = true → itemAssigns it id = (antiDiag it.s it.e it.d).map fun p =>
      ((it.si, it.fi, p.1, p.2), some (if it.pv.1 then RVal.disaggPred id it.pv.2 else RVal.disagg id it.pv.2))) ∧
    (∀ it id, it.spans = false → itemAssigns it id = [((it.si, it.fi, it.s, it.d), richPlain it.pv)]) :=
  ⟨itemsAssigns_spec its 0, fun n h => by rw [disaggIds_getElem its 0 n h]; omega,
   fun _ id h => itemAssigns_spans h id, fun _ id h => itemAssigns_single h id⟩

/-- **toRich_missing_ids**: for ANY triangle `triangle_to_rich_matrix` accepts, the array is the filling
loop's assignments followed by `MissingValue`s; these sit exactly on the positions inside the array that
some cell covers and that are still `None` (`hs` below, characterised by `holes_iff`), come in the scan
order slice, period, development, field, and the `n`-th one holds `MissingValue(n)` in the end. -/
theorem toRich_missing_ids {ix : MatrixIndex} {fields : List String} {t : List Cell} {M : RichMatrix}
    (h : toRichWith ix fields t = .ok M) :
    ∃ (items : List RichItem) (hs : List Pos),
      M.assigns = itemsAssigns items 0 ++ missingAssigns hs ∧
      hs = holes ix.slices.length fields.length M.nPeriods M.nDevs (items.flatMap itemCovered) (itemsAssigns items 0) ∧
      hs.Pairwise scanLt ∧
      (∀ n (hn : n < hs.length), M.get? hs[n] = some (RVal.missing n)) ∧
      M.index = ix ∧ M.incremental = firstIsIncremental t := by
  unfold toRichWith at h
  split at h
  · cases h
  · split at h
    · cases h
    · obtain ⟨maxP, -, h⟩ := bind_ok h
      obtain ⟨maxD, -, h⟩ := bind_ok h
      obtain ⟨items, -, h⟩ := bind_ok h
      cases h
      exact ⟨items.flatten, _, rfl, rfl, holes_sorted _ _ _ _ _ _,
        fun n hn => lastAssign_hole (holes_nodup _ _ _ _ _ _) n hn, rfl, rfl⟩

theorem holes_iff {nS nF nP nD : Nat} {cov : List (Nat × Nat × Nat)} {as : List (Pos × Option RVal)} {p : Pos} :
    p ∈ holes nS nF nP nD cov as ↔
      p.1 < nS ∧ p.2.1 < nF ∧ p.2.2.1 < nP ∧ p.2.2.2 < nD ∧ (p.1, p.2.2.1, p.2.2.2) ∈ cov ∧
        lastAssign as p = none :=
  Frame.mem_holes_iff

/-- what comes back from missing and disaggregated entries: nothing (a cell whose period spans several
index periods is NOT restored by `rich_matrix_to_triangle`; that `fromRich (toRich t)` is exactly the
one-index-period cells for disjoint periods is checked by the correspondence only, `richMixedSpec`) -/
theorem fromRich_ignores_disagg (id : Nat) (v : Val) :
    RVal.back? (some (.missing id)) = none ∧ RVal.back? (some (.disagg id v)) = none ∧
    RVal.back? (some (.disaggPred id v)) = none ∧ RVal.back? none = none :=
  ⟨rfl, rfl, rfl, rfl⟩

/-! ### Statics frame, right-edge frame (`io/array.py`) -/

/-- **fromStatics** (`StaticsFrame rows res ev md`: first-of-month periods from 1970 on, strictly
ascending, `res ≥ 1`, the constructor's date rules hold). `statics_data_frame_to_triangle(df,
evaluation_date=ev, period_resolution=res, metadata=md)` is one `CumulativeCell` per row: the period of
`res` months starting at the row's period, `ev`, the row's values, `md` — in row order. -/
theorem fromStatics_frame {rows : List (Date × Dict Val)} {res : Int} {ev : Date} {md : Metadata}
    (h : StaticsFrame rows res ev md) :
    fromStatics (rows.map staticsRowOf) (some ev) (some res) md = .ok (rows.map (staticsExpected md res ev)) :=
  Frame.fromStatics_frame_of h rfl

/-- … weakened to length and membership (`staticsSpec` itself on the model's output is `staticsSpec_on_model`) -/
theorem fromStatics_frame_spec {rows : List (Date × Dict Val)} {res : Int} {ev : Date} {md : Metadata}
    (h : StaticsFrame rows res ev md) :
    ∃ out, fromStatics (rows.map staticsRowOf) (some ev) (some res) md = .ok out ∧
      out.length = rows.length ∧ ∀ p ∈ rows, staticsExpected md res ev p ∈ out := by
  refine ⟨_, fromStatics_frame h, by simp, ?_⟩
  intro p hp
  exact List.mem_map_of_mem hp

/-- … with the resolution INFERRED by the reader — `(p₁ - p₀).days // 30` — whenever that quotient is
the resolution meant. It is for every start month and resolution 1/3/6/12 EXCEPT a February start of
monthly periods (0) and of quarterly periods in a non-leap year (2): `statics_inference_table`
(observation D20; not a clause of C14). -/
theorem fromStatics_frame_inferred {rows : List (Date × Dict Val)} {res : Int} {ev : Date} {md : Metadata}
    (h : StaticsFrame rows res ev md)
    (hp : ∃ p0 p1 rest, rows = p0 :: p1 :: rest ∧ (p1.1.ordinal - p0.1.ordinal) / 30 = res) :
    fromStatics (rows.map staticsRowOf) (some ev) none md = .ok (rows.map (staticsExpected md res ev)) :=
  Frame.fromStatics_frame_of h (staticsResolution_inferred hp)

theorem staticsSpec_on_model {rows : List (Date × Dict Val)} {res : Int} {ev : Date} {md : Metadata}
    (h : StaticsFrame rows res ev md) :
    staticsSpec rows res ev md (rows.map (staticsExpected md res ev)) = true := by
  unfold staticsSpec
  simp only [List.length_map, beq_self_eq_true, nonDecreasing_of_sorted (staticsExpected_sorted h), Bool.true_and]
  rw [List.all_eq_true]
  intro p hp
  have : staticsExpected md res ev p ∈ rows.map (staticsExpected md res ev) := List.mem_map_of_mem hp
  simpa [staticsExpected] using this

/-- `days // 30` against the month distance over a leap and a non-leap year, every start month and the
resolutions 1/3/6/12: equal except for the two February cases above -/
theorem statics_inference_table :
    ([2021, 2024].all fun (y : Int) => (List.range 12).all fun m0 => [1, 3, 6, 12].all fun res =>
      decide (inferredFor y m0 res = .ok
        (if res = 1 ∧ m0 = 1 then 0 else if res = 3 ∧ m0 = 1 ∧ y = 2021 then 2 else (res : Int)))) = true :=
  Frame.statics_inference_table

/-- monthly periods from February with the resolution inferred: resolution 0, and the cell constructor
refuses the first row (`period_end` before `period_start`) -/
theorem statics_february_refused :
    staticsResolution [⟨2021, 2, 1⟩, ⟨2021, 3, 1⟩] none = .ok 0 ∧
    staticsCell {} 0 ⟨2021, 3, 31⟩ (⟨2021, 2, 1⟩, [("earned_premium", .int 100)]) = .error .valueError :=
  Frame.statics_february_refused

/-- **right-edge frame → statics frame**: `to_right_edge_data_frame` has one row per cell of
`triangle.right_edge` (period start, evaluation date, the cell's values) … -/
theorem toRightEdgeFrame_rows {t : List Cell} {rows : List EdgeRow} (h : toRightEdgeFrame t = .ok rows) :
    ∃ E, Triangle.rightEdge t = .ok E ∧ rows = E.map edgeRow := by
  unfold toRightEdgeFrame at h
  split at h
  · cases h
  · split at h
    · cases h
    · obtain ⟨E, hE, rfl⟩ := map_ok h
      exact ⟨E, hE, rfl⟩

/-- … and when that right edge `E` is regular (periods of `res` months, ONE evaluation date `ev`,
cumulative, metadata `md`), the frame without its `evaluation_date` column, read by the statics reader
with `ev`, `res` and `md`, is `E` again. -/
theorem fromStatics_toRightEdge {E : List Cell} {res : Int} {ev : Date} {md : Metadata}
    (h : StaticsFrame (E.map fun c => edgePair (edgeRow c)) res ev md)
    (hE : ∀ c ∈ E, c.kind = .cumulative ∧ c.prev = none ∧ c.pe = periodEndOf c.ps res ∧ c.ev = ev ∧ c.md = md) :
    fromStatics ((E.map edgeRow).map fun r => staticsRowOf (edgePair r)) (some ev) (some res) md = .ok E := by
  have hid : E.map (staticsExpected md res ev ∘ fun c => edgePair (edgeRow c)) = E :=
    (List.map_congr_left fun c hc => by
      obtain ⟨h1, h2, h3, h4, h5⟩ := hE c hc
      obtain ⟨k, ps, pe, ev', prev, vs, md'⟩ := c
      simp only at h1 h2 h3 h4 h5
      subst h1 h2 h3 h4 h5
      rfl).trans (List.map_id _)
  have := fromStatics_frame_of h (pr := some res) rfl
  rw [List.map_map, List.map_map, hid] at this
  rw [List.map_map]
  exact this

/-- `StaticsFrame` is satisfiable (quarterly periods from 2021-04, evaluated 2021-12-31) -/
theorem staticsFrame_example :
    StaticsFrame [(⟨2021, 4, 1⟩, [("earned_premium", .int 100)]), (⟨2021, 7, 1⟩, [("earned_premium", .flt (5/2))])]
      3 ⟨2021, 12, 31⟩ {} where
  res1 := by decide +kernel
  first := by decide +kernel
  asc := by decide +kernel
  dates := by decide +kernel

/-! ### `parse_date` on the documented spellings -/

theorem parseDate_year {y : Nat} (hy : 1 ≤ y ∧ y ≤ 9999) : parseDateChars (year4 y) = .ok ⟨(y : Int), 1, 1⟩ :=
  Frame.parseDate_year hy

theorem parseDate_quarter {y q : Nat} (hy : 1 ≤ y ∧ y ≤ 9999) (hq : 1 ≤ q ∧ q ≤ 4) :
    parseDateChars (year4 y ++ ['Q', digitChar q]) = .ok ⟨(y : Int), (q - 1) * 3 + 1, 1⟩ := by
  rw [parseDate_quarter_eq (by omega) (by omega), if_pos hq]
  exact mkDate_ok hy (first_valid _ (by omega))

theorem parseDate_half {y n : Nat} (hy : 1 ≤ y ∧ y ≤ 9999) (hn : 1 ≤ n ∧ n ≤ 2) :
    parseDateChars (year4 y ++ ['H', digitChar n]) = .ok ⟨(y : Int), if n = 1 then 1 else 7, 1⟩ := by
  rw [parseDate_half_eq (by omega) (by omega), if_pos hn]
  exact mkDate_ok hy (first_valid _ (by split <;> omega))

theorem parseDate_month {y m : Nat} (hy : 1 ≤ y ∧ y ≤ 9999) (hm : 1 ≤ m ∧ m ≤ 12) :
    parseDateChars (year4 y ++ ['-', digitChar (m / 10), digitChar (m % 10)]) = .ok ⟨(y : Int), m, 1⟩ := by
  rw [parseDate_month_eq (by omega) (by omega)]
  exact mkDate_ok hy (first_valid _ hm)

theorem parseDate_iso {y m d : Nat} (hy : 1 ≤ y ∧ y ≤ 9999) (hv : (⟨(y : Int), m, d⟩ : Date).valid = true) :
    parseDateChars (year4 y ++ ['-', digitChar (m / 10), digitChar (m % 10), '-', digitChar (d / 10), digitChar (d % 10)]) =
      .ok ⟨(y : Int), m, d⟩ := by
  obtain ⟨_, h2, _, h4⟩ := (valid_iff _).mp hv
  have := dim_bounds (y : Int) m
  rw [parseDate_iso_eq (by omega) (by simp only at h2; omega) (by simp only at h4; omega)]
  exact mkDate_ok hy hv

/-- refusals (`ValueError`): a quarter other than 1 … 4, a half other than 1, 2, a date that does not
exist, a text of another length, a year that is not four digits -/
theorem parseDate_refusals :
    (∀ y q : Nat, y < 10000 → q < 10 → (q = 0 ∨ 5 ≤ q) → parseDateChars (year4 y ++ ['Q', digitChar q]) = .error .valueError) ∧
    (∀ y n : Nat, y < 10000 → n < 10 → (n = 0 ∨ 3 ≤ n) → parseDateChars (year4 y ++ ['H', digitChar n]) = .error .valueError) ∧
    (∀ y m d : Nat, y < 10000 → m < 100 → d < 100 → (⟨(y : Int), m, d⟩ : Date).valid = false →
      parseDateChars (year4 y ++ ['-', digitChar (m / 10), digitChar (m % 10), '-', digitChar (d / 10), digitChar (d % 10)]) =
        .error .valueError) ∧
    (∀ cs : List Char, cs.length ≠ 4 ∧ cs.length ≠ 6 ∧ cs.length ≠ 7 ∧ cs.length ≠ 10 →
      parseDateChars cs = .error .valueError) ∧
    (∀ a b c d : Char, ([a, b, c, d].all Char.isDigit) = false → parseDateChars [a, b, c, d] = .error .valueError) :=
  ⟨fun _ _ hy hq hb => by rw [parseDate_quarter_eq hy hq, if_neg (by omega)],
   fun _ _ hy hn hb => by rw [parseDate_half_eq hy hn, if_neg (by omega)],
   fun _ _ _ hy hm hd hv => by rw [parseDate_iso_eq hy hm hd]; unfold mkDate?; simp [hv],
   fun _ h => Frame.parseDate_length_refused h, fun _ _ _ _ h => Frame.parseDate_year_nondigit h⟩

theorem parseDate_examples :
    parseDateChars ['2', '0', '2', '0', 'Q', '3'] = .ok ⟨2020, 7, 1⟩ ∧
    parseDateChars ['2', '0', '2', '1', 'H', '2'] = .ok ⟨2021, 7, 1⟩ ∧
    parseDateChars ['1', '9', '9', '9'] = .ok ⟨1999, 1, 1⟩ ∧
    parseDateChars ['2', '0', '2', '0', '-', '0', '2', '-', '2', '9'] = .ok ⟨2020, 2, 29⟩ ∧
    parseDateChars ['2', '0', '2', '1', '-', '0', '2', '-', '3', '0'] = .error .valueError ∧
    parseDateChars ['2', '0', '2', '0', 'H', '3'] = .error .valueError ∧
    parseDateChars ['a', 'b', 'c'] = .error .valueError := by
  decide +kernel

end Bermuda.Properties.C14
