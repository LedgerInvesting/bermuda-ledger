/-
C03 — no operation mutates its arguments. Sections 1–4: the accumulating helpers modelled by hand on the
heap of `Model/Heap.lean`. Section 5: the frame property for (almost) every function of the package
through a translator into the small imperative language of `Model/HeapIR.lean` and a static discipline
proved sound once (`frame_of_discipline`, `frame_chain_ir`, `all_disciplined`). The fingerprint
correspondence of `harness/c03.py` runs the real implementation.

Shape of every frame theorem:
    pattern.targetsFresh → ∀ heap args, every location that existed at entry — in particular every
    location reachable from the arguments — holds the same object when the call returns OR raises.
`pattern_<fn>` is regenerated from the source's AST each run (`Generated/Accum.lean`) and
`pattern_<fn>.targetsFresh = true` is discharged by `decide`: a changed initialiser
(`total = values[0]`, a subscript store or `.update` through a parameter, `v *= rate` on a loop
variable over a parameter) flips it and this file stops building.
Helper lemmas: `Lemmas/Heap.lean`.
-/
import Bermuda.Model.Heap
import Bermuda.Lemmas.Heap
import Bermuda.Generated.Accum
import Bermuda.Model.HeapIR
import Bermuda.Lemmas.HeapIRMain
import Bermuda.Generated.HeapIR
namespace Bermuda.Properties.C03
open Bermuda.Heap

/-! ### 1. frame theorems, parameterised by the accumulator pattern -/

/-- `_conforming_sum`: the accumulator starts as a fresh scalar, so the first `+=` rebinds it to a
new object and every later `+=` writes into that new object only -/
theorem frame__conforming_sum (p : Pattern) (hp : p.targetsFresh = true) (h : Heap) (values : List Ref) :
    Preserves h.size h (conformingSum p h values).1 := conformingSum_frame hp .rfl values

/-- `_conforming_weighted_average` -/
theorem frame__conforming_weighted_average (p : Pattern) (hp : p.targetsFresh = true) (h : Heap)
    (values : List Ref) (weights : List Rat) :
    Preserves h.size h (conformingWeightedAverage p h values weights).1 :=
  conformingWeightedAverage_frame hp .rfl values weights

/-- `_values_add` / `_values_diff`: a comprehension building a new dict of new arrays (the
`earned_premium` entry aliases the argument's array, which is not a write) -/
theorem frame__values_combine (p : Pattern) (hp : p.targetsFresh = true) (f : Rat → Rat → Rat) (h : Heap)
    (a b : Loc) : Preserves h.size h (valuesCombine p f h a b).1 := valuesCombine_frame hp f .rfl a b

theorem frame__values_add (p : Pattern) (hp : p.targetsFresh = true) (h : Heap) (a b : Loc) :
    Preserves h.size h (valuesAdd p h a b).1 := frame__values_combine p hp _ h a b

theorem frame__values_diff (p : Pattern) (hp : p.targetsFresh = true) (h : Heap) (a b : Loc) :
    Preserves h.size h (valuesDiff p h a b).1 := frame__values_combine p hp _ h a b

/-- `_merge_cell_pair`: `{**cell1.values, **cell2.values}` is a new dict -/
theorem frame__merge_cell_pair (p : Pattern) (hp : p.targetsFresh = true) (h : Heap) (a b : Ref) :
    Preserves h.size h (mergeCellPair p h a b).1 := mergeCellPair_frame hp .rfl a b

/-! ### 1b. the cell-level helpers (Model/Heap.lean, "cells on the heap") -/

/-- `Cell._base_replace` / `Cell.replace(values=d)`: a new cell object; nothing is written -/
theorem frame_Cell_replace (p : Pattern) (hp : p.targetsFresh = true) (h : Heap) (c : Loc) (values : Ref) :
    Preserves h.size h (cellReplace p h c values).1 := cellReplace_frame hp .rfl c values

/-- `Cell.select(keys)` -/
theorem frame_Cell_select (p : Pattern) (hp : p.targetsFresh = true) (h : Heap) (c : Loc) (keys : List String) :
    Preserves h.size h (cellSelect p h c keys).1 := cellSelect_frame hp .rfl c keys

/-- `Cell.derive_fields(**definitions)`: every step builds a new dict and a new cell -/
theorem frame_Cell_derive_fields (p : Pattern) (hp : p.targetsFresh = true) (h : Heap) (c : Loc)
    (defs : List (String × Ref)) : Preserves h.size h (cellDeriveFields p h c defs).1 :=
  cellDeriveFields_frame hp defs c .rfl

/-- `Cell.derive_metadata(**definitions)`, any mix and order of top-level attributes and detail keys -/
theorem frame_Cell_derive_metadata (p : Pattern) (hp : p.targetsFresh = true) (h : Heap) (c : Loc)
    (defs : List (String × Bool × Ref)) : Preserves h.size h (cellDeriveMetadata p h c c defs).1 :=
  cellDeriveMetadata_frame hp defs c c .rfl

/-- `Cell.add_statics(source_cell, fields)` -/
theorem frame_Cell_add_statics (p : Pattern) (hp : p.targetsFresh = true) (h : Heap) (c src : Loc)
    (fields : List String) : Preserves h.size h (cellAddStatics p h c src fields).1 :=
  cellAddStatics_frame hp .rfl c src fields

/-- `_overwrite_values(cell1, cell2, suffix)` -/
theorem frame__overwrite_values (p : Pattern) (hp : p.targetsFresh = true) (h : Heap) (c1 c2 : Loc)
    (suffix : Option String) : Preserves h.size h (overwriteValues p h c1 c2 suffix).1 :=
  overwriteValues_frame hp .rfl c1 c2 suffix

/-- `_thin_cell(cell, ndxs)`: fancy indexing allocates -/
theorem frame__thin_cell (p : Pattern) (hp : p.targetsFresh = true) (h : Heap) (c : Loc) (ndxs : List Nat) :
    Preserves h.size h (thinCell p h c ndxs).1 := thinCell_frame hp .rfl c ndxs

/-- `_convert_cell_currency(cell, rate, target)`: `v * rate` allocates -/
theorem frame__convert_cell_currency (p : Pattern) (hp : p.targetsFresh = true) (h : Heap) (c : Loc)
    (fields : List String) (rate : Rat) (currency : Ref) :
    Preserves h.size h (convertCellCurrency p h c fields rate currency).1 :=
  convertCellCurrency_frame hp .rfl c fields rate currency

/-- `summarize_cell_values` (sum-type rules): one `_conforming_sum` per key over aliases of the
cells' values, results collected in a new dict -/
theorem frame_summarize_cell_values (p : Pattern) (hp : p.targetsFresh = true) (h : Heap) (cells : List Loc)
    (keys : List String) : Preserves h.size h (summarizeCellValues p h cells keys).1 :=
  summarizeCellValues_frame hp .rfl cells keys

/-- the `vals_dict[field] += val * py_share` loop of `_accident_quarter_to_policy_year_slice`:
invariant "the dict and every array in it were allocated after entry" -/
theorem frame__accident_quarter_accumulate (p : Pattern) (hp : p.targetsFresh = true) (h : Heap)
    (cells : List (Loc × Rat)) : Preserves h.size h (aqpyAccumulate p h cells).1 :=
  aqpyAccumulate_frame hp .rfl cells

/-- `blend_cells(cells, weights, "linear", seed)`: stores go into the fresh `clean_values` -/
theorem frame_blend_cells (pb pr : Pattern) (hpb : pb.targetsFresh = true) (hpr : pr.targetsFresh = true)
    (h : Heap) (cells : List Loc) (weights : List Rat) :
    Preserves h.size h (blendCells pb pr h cells weights).1 := blendCells_frame hpb hpr .rfl cells weights

/-- `_weight_cell_values`: per sub-period a new dict of new values (no pattern: nothing but allocation) -/
theorem frame__weight_cell_values (h : Heap) (ev : List (String × Ref)) (ws : List Rat) :
    Preserves h.size h (weightCellValues h ev ws).1 := weightCellValues_frame ev ws .rfl

/-! ### 2. today's source has fresh targets everywhere (tables regenerated each run) -/

theorem pattern__conforming_sum_fresh :
    Generated.Accum.pattern__conforming_sum.targetsFresh = true := by decide
theorem pattern__conforming_weighted_average_fresh :
    Generated.Accum.pattern__conforming_weighted_average.targetsFresh = true := by decide
theorem pattern__values_add_fresh : Generated.Accum.pattern__values_add.targetsFresh = true := by decide
theorem pattern__values_diff_fresh : Generated.Accum.pattern__values_diff.targetsFresh = true := by decide
theorem pattern__merge_cell_pair_fresh : Generated.Accum.pattern__merge_cell_pair.targetsFresh = true := by decide

/-- every function of the anchor list was found, and every write target in every one of them is
initialised by a literal, a fresh container, a copy or a computed value -/
theorem all_patterns_fresh :
    Generated.Accum.ok = true ∧ Generated.Accum.all.all Pattern.targetsFresh = true := by decide

theorem cell_patterns_fresh :
    Generated.Accum.pattern_Cell__base_replace.targetsFresh = true ∧
    Generated.Accum.pattern_Cell_replace.targetsFresh = true ∧
    Generated.Accum.pattern_Cell_select.targetsFresh = true ∧
    Generated.Accum.pattern_Cell_derive_fields.targetsFresh = true ∧
    Generated.Accum.pattern_Cell_derive_metadata.targetsFresh = true ∧
    Generated.Accum.pattern_Cell_add_statics.targetsFresh = true ∧
    Generated.Accum.pattern__overwrite_values.targetsFresh = true ∧
    Generated.Accum.pattern__thin_cell.targetsFresh = true ∧
    Generated.Accum.pattern__convert_cell_currency.targetsFresh = true ∧
    Generated.Accum.pattern_summarize_cell_values.targetsFresh = true ∧
    Generated.Accum.pattern__accident_quarter_to_policy_year_slice.targetsFresh = true ∧
    Generated.Accum.pattern_blend_cells.targetsFresh = true ∧
    Generated.Accum.pattern__linear_blend.targetsFresh = true ∧
    Generated.Accum.pattern__mixture_blend.targetsFresh = true ∧
    Generated.Accum.pattern__weight_cell_values.targetsFresh = true := by decide

/-- the frame of the cell-level helpers as the source stands -/
theorem cell_helpers_respect_frame (h : Heap) :
    (∀ c v, Preserves h.size h (cellReplace Generated.Accum.pattern_Cell__base_replace h c v).1) ∧
    (∀ c ks, Preserves h.size h (cellSelect Generated.Accum.pattern_Cell_select h c ks).1) ∧
    (∀ c ds, Preserves h.size h (cellDeriveFields Generated.Accum.pattern_Cell_derive_fields h c ds).1) ∧
    (∀ c ds, Preserves h.size h (cellDeriveMetadata Generated.Accum.pattern_Cell_derive_metadata h c c ds).1) ∧
    (∀ c s fs, Preserves h.size h (cellAddStatics Generated.Accum.pattern_Cell_add_statics h c s fs).1) ∧
    (∀ a b sf, Preserves h.size h (overwriteValues Generated.Accum.pattern__overwrite_values h a b sf).1) ∧
    (∀ c ix, Preserves h.size h (thinCell Generated.Accum.pattern__thin_cell h c ix).1) ∧
    (∀ c fs r cu, Preserves h.size h (convertCellCurrency Generated.Accum.pattern__convert_cell_currency h c fs r cu).1) ∧
    (∀ cs ks, Preserves h.size h (summarizeCellValues Generated.Accum.pattern__conforming_sum h cs ks).1) ∧
    (∀ cs, Preserves h.size h (aqpyAccumulate Generated.Accum.pattern__accident_quarter_to_policy_year_slice h cs).1) ∧
    (∀ cs ws, Preserves h.size h
      (blendCells Generated.Accum.pattern_blend_cells Generated.Accum.pattern_Cell__base_replace h cs ws).1) := by
  -- five of the fifteen patterns are not needed: `Cell.replace` only calls `_base_replace` (both are `cellReplace`);
  -- the model of `summarize_cell_values` writes only inside its calls of `_conforming_sum` and takes THAT pattern;
  -- `_linear_blend` and `_weight_cell_values` are modelled without a pattern (`linearBlend`, `weightCellValues` only
  -- allocate); `_mixture_blend` is not in `Model/Heap.lean` (section 5 covers it through the registry)
  obtain ⟨b1, _, b3, b4, b5, b6, b7, b8, b9, _, b11, b12, _, _, _⟩ := cell_patterns_fresh
  exact ⟨frame_Cell_replace _ b1 h, frame_Cell_select _ b3 h, frame_Cell_derive_fields _ b4 h,
    frame_Cell_derive_metadata _ b5 h, frame_Cell_add_statics _ b6 h, frame__overwrite_values _ b7 h,
    frame__thin_cell _ b8 h, frame__convert_cell_currency _ b9 h,
    frame_summarize_cell_values _ pattern__conforming_sum_fresh h,
    frame__accident_quarter_accumulate _ b11 h, frame_blend_cells _ _ b12 b1 h⟩

/-- the frame of the five helpers as the source stands -/
theorem helpers_respect_frame (h : Heap) :
    (∀ vs, Preserves h.size h (conformingSum Generated.Accum.pattern__conforming_sum h vs).1) ∧
    (∀ vs ws, Preserves h.size h
      (conformingWeightedAverage Generated.Accum.pattern__conforming_weighted_average h vs ws).1) ∧
    (∀ a b, Preserves h.size h (valuesAdd Generated.Accum.pattern__values_add h a b).1) ∧
    (∀ a b, Preserves h.size h (valuesDiff Generated.Accum.pattern__values_diff h a b).1) ∧
    (∀ a b, Preserves h.size h (mergeCellPair Generated.Accum.pattern__merge_cell_pair h a b).1) :=
  ⟨frame__conforming_sum _ pattern__conforming_sum_fresh h,
   frame__conforming_weighted_average _ pattern__conforming_weighted_average_fresh h,
   frame__values_add _ pattern__values_add_fresh h,
   frame__values_diff _ pattern__values_diff_fresh h,
   frame__merge_cell_pair _ pattern__merge_cell_pair_fresh h⟩

/-! ### 3. position in a chain -/

/-- the theorems of section 1 are of this form with the heap bound, e.g.
`fun h => frame__conforming_sum p hp h vs : Respects fun h => (conformingSum p h vs).1` -/
def Respects (c : Heap → Heap) : Prop := ∀ h, Preserves h.size h (c h)

/-- a sequence of frame-respecting calls respects the frame of the ORIGINAL arguments: whatever
position an operation has in a chain, the objects that existed before the chain are untouched -/
theorem frame_chain (cs : List (Heap → Heap)) (hcs : ∀ c ∈ cs, Respects c) (h : Heap) :
    Preserves h.size h (cs.foldl (fun acc c => c acc) h) :=
  List.foldlRecOn cs _ .rfl fun _ hg c hc => hg.trans ((hcs c hc _).mono hg.1)

/-- the statement in terms of reachability: every location reachable from an argument that lives
in the entry heap is unchanged after a frame-respecting call -/
theorem frame_reachable {h h' : Heap} (hp : Preserves h.size h h') (arg : Ref)
    (hwf : ∀ l ∈ reach h arg, l < h.size) : ∀ l ∈ reach h arg, h'.get l = h.get l :=
  fun l hl => hp.2 l (hwf l hl)

/-! ### 4. negative control: the theorem is not vacuous -/

/-- the pattern `total = values[0]` (an initialiser reaching a parameter) -/
def badSum : Pattern := ⟨"_conforming_sum", [⟨"total", "aug", [.param]⟩]⟩

theorem badSum_not_fresh : badSum.targetsFresh = false := by decide

/-- witness heap: two argument arrays `[1]`, `[2]` -/
def witness : Heap := ⟨[.arr [1], .arr [2]]⟩

/-- With `total = values[0]` the loop's `total += val` writes into the first ARGUMENT: location 0
holds `[4]` afterwards. The frame is violated. -/
theorem badSum_violates_frame :
    ¬ Preserves witness.size witness (conformingSum badSum witness [.loc 0, .loc 1]).1 := by
  intro hp
  have h0 := hp.2 0 (by decide)
  have : (conformingSum badSum witness [.loc 0, .loc 1]).1.get 0 ≠ witness.get 0 := by decide +kernel
  exact this h0

/-- and with today's pattern the same call leaves both arrays alone and returns a NEW array `[3]` -/
example :
    (conformingSum Generated.Accum.pattern__conforming_sum witness [.loc 0, .loc 1]).1.get 0 = some (.arr [1]) ∧
    (conformingSum Generated.Accum.pattern__conforming_sum witness [.loc 0, .loc 1]).1.get 1 = some (.arr [2]) ∧
    (match (conformingSum Generated.Accum.pattern__conforming_sum witness [.loc 0, .loc 1]).2 with
      | .ok r => decide (r = .loc 2) | .error _ => false) = true ∧
    (conformingSum Generated.Accum.pattern__conforming_sum witness [.loc 0, .loc 1]).1.get 2 = some (.arr [3]) := by
  decide +kernel

def witnessDicts : Heap := ⟨[.arr [1], .dict [("a", .loc 0)], .dict [("b", .loc 0)]]⟩

/-- `update` through a parameter in `_merge_cell_pair` violates the frame as well -/
example :
    (mergeCellPair ⟨"_merge_cell_pair", [⟨"cell1", "method:update", [.param]⟩]⟩ witnessDicts (.loc 1) (.loc 2)).1.get 1
      ≠ witnessDicts.get 1 := by
  decide +kernel

/-- the seeded change of `Cell.derive_metadata` (fast path `cell.metadata.details[name] = value` once
`cell is not self`): after a top-level attribute definition the new metadata object still SHARES the
details dict of the argument, so the store lands in the argument. Witness: cell 3 with values dict 0,
metadata 2 whose details dict is 1; `derive_metadata(currency=…, region=…)`. -/
def witnessCell : Heap :=
  ⟨[.dict [], .dict [("coverage", .scalar 1)], .dict [("details", .loc 1), ("currency", .scalar 0)],
    .dict [("values", .loc 0), ("metadata", .loc 2)]]⟩

theorem derive_metadata_fast_path_violates_frame :
    (cellDeriveMetadata ⟨"Cell.derive_metadata", [⟨"cell", "store", [.param]⟩]⟩ witnessCell 3 3
        [("currency", true, .scalar 7), ("region", false, .scalar 9)]).1.get 1 ≠ witnessCell.get 1 := by
  decide +kernel

/-- with today's pattern the same call leaves the argument's details dict alone -/
example :
    (cellDeriveMetadata Generated.Accum.pattern_Cell_derive_metadata witnessCell 3 3
        [("currency", true, .scalar 7), ("region", false, .scalar 9)]).1.get 1 = witnessCell.get 1 := by
  decide +kernel

/-- `v *= exchange_rate` on the loop variable multiplies the argument's array in place -/
example :
    (convertCellCurrency ⟨"_convert_cell_currency", [⟨"v", "aug", [.param]⟩]⟩
        ⟨[.arr [2, 4], .dict [("paid_loss", .loc 0)], .dict [("values", .loc 1), ("metadata", .none)]]⟩
        2 ["paid_loss"] ((1 : Rat) / 2) (.scalar 1)).1.get 0 = some (.arr [1, 2]) := by
  decide +kernel

/-! ### 5. the frame property through a TRANSLATOR: HeapIR

`harness/translate_c03ir.py` translates every function, method and module-level lambda of /repo's package
into the language of `Model/HeapIR.lean` on every run (`Generated/HeapIR*.lean`); sections 1–4 above keep
their hand-written models. The discipline `writesOnlyFresh` is an abstract interpretation (classes: immutable
value / object allocated in this call at a ghost level / the object of an UNPROTECTED parameter / anything);
its soundness is proved ONCE (`Lemmas/HeapIR*.lean`: `exec_sound`, `runFn_good`, `sem_good`) and instantiated
here.

PROTECTED and UNPROTECTED parameters. The property protects arguments that are a Triangle, a Cell or a
Metadata and everything they reach. A parameter annotated `pd.DataFrame` is UNPROTECTED (`Fn.wparams`, only
when the function or a callee really writes it; every unannotated parameter is protected): the function may
write into the object that argument refers to — not into what that object contains. The frame
`PreservesW n W h h'` says: every location that existed at entry and is not the object of an unprotected
argument (`W = callW wparams args`) holds the same object afterwards. -/

section HeapIR
open Bermuda.HeapIR

/-- the unprotected parameters of function `i` of a program -/
def wparamsOf (P : List Fn) (i : Nat) : List Nat := ((summaries P).getD i (.any, [])).2

/-- SOUNDNESS OF THE DISCIPLINE (general form). If every function of a program respects the discipline, then a
call of any of its functions — any arguments, any heap, any oracle (= every branch choice, every iteration
count, every key, every datum, every result of a pure callback), any call depth `d`, whether the call returns
or raises — leaves every location that existed at entry unchanged, except the objects handed to its
unprotected parameters. -/
theorem frame_protected (P : List Fn) (hP : disciplined P = true) (d i : Nat) (args : List Ref) (h : Heap)
    (o : Oracle) (hwf : ∀ l, callW (wparamsOf P i) args l → l < h.size) :
    PreservesW h.size (callW (wparamsOf P i) args) h (sem P d i args h o).1 :=
  (sem_good P hP d i).frame args h o hwf

/-- SOUNDNESS, all parameters protected: everything that existed at entry is unchanged -/
theorem frame_of_discipline (P : List Fn) (hP : disciplined P = true) (d i : Nat) (args : List Ref) (h : Heap)
    (o : Oracle) (hw : wparamsOf P i = []) : Preserves h.size h (sem P d i args h o).1 := by
  have p := frame_protected P hP d i args h o (by rw [hw]; exact fun l hl => absurd hl callW_nil)
  rw [hw] at p
  exact (p.mono (Nat.le_refl _) fun _ _ => callW_nil).to_preserves

/-- protected and unprotected arguments are SEPARATED in the entry heap: no location reachable — at ANY depth
(`Reach`: Triangle → cells → Cell → values → arrays …) — from a protected argument is the object of an
unprotected argument (checked in the correspondence by identity of objects, walking the protected arguments
transitively: the data frame is not the Metadata / Triangle / Cell, nor anything inside them) -/
def separated (h : Heap) (wp : List Nat) (args : List Ref) : Prop :=
  ∀ j arg, args[j]? = some arg → j ∉ wp → ∀ l, Reach h arg l → ¬ callW wp args l

/-- IN TERMS OF REACHABILITY (transitive): every location reachable, at any depth, from a PROTECTED argument
holds the same object after the call. `h.Closed` (no dangling references) and "the arguments are live"
discharge the well-formedness side conditions. -/
theorem frame_protected_reachable (P : List Fn) (hP : disciplined P = true) (d i : Nat) (args : List Ref)
    (h : Heap) (o : Oracle) (hc : h.Closed) (hlive : ∀ arg ∈ args, ∀ l, arg = .loc l → l < h.size)
    (hsep : separated h (wparamsOf P i) args) (j : Nat) (arg : Ref)
    (hj : args[j]? = some arg) (hprot : j ∉ wparamsOf P i) :
    ∀ l, Reach h arg l → (sem P d i args h o).1.get l = h.get l := by
  intro l hl
  have hargs : ∀ l, callW (wparamsOf P i) args l → l < h.size := by
    intro l ⟨j', _, hget⟩
    exact hlive _ (List.mem_of_getElem? hget) l rfl
  have hmem : arg ∈ args := List.mem_of_getElem? hj
  exact (frame_protected P hP d i args h o hargs).2.1 l (hl.lt_size hc (hlive arg hmem))
    (hsep j arg hj hprot l hl)

/-- the same for the one-level `reach` of sections 1–4 (a special case: `reach ⊆ Reach`) -/
theorem frame_protected_reach (P : List Fn) (hP : disciplined P = true) (d i : Nat) (args : List Ref)
    (h : Heap) (o : Oracle) (hc : h.Closed) (hlive : ∀ arg ∈ args, ∀ l, arg = .loc l → l < h.size)
    (hsep : separated h (wparamsOf P i) args) (j : Nat) (arg : Ref)
    (hj : args[j]? = some arg) (hprot : j ∉ wparamsOf P i) :
    ∀ l ∈ reach h arg, (sem P d i args h o).1.get l = h.get l :=
  fun l hl => frame_protected_reachable P hP d i args h o hc hlive hsep j arg hj hprot l (reach_sub_Reach hl)

/-- a chain is well formed for the writable set `W` when every object handed to an unprotected parameter EXISTS
WHEN THE CALL THAT RECEIVES IT STARTS (it may have been created earlier in the chain: `to_wide_data_frame` then
`from_wide_data_frame`), and is in `W` if it already existed before the chain (`l < n`) -/
def ChainOK (P : List Fn) (d n : Nat) (W : Loc → Prop) : List (Nat × List Ref × Oracle) → Heap → Prop
  | [], _ => True
  | c :: rest, g =>
    (∀ l, callW (wparamsOf P c.1) c.2.1 l → l < g.size ∧ (l < n → W l)) ∧
      ChainOK P d n W rest (sem P d c.1 c.2.1 g c.2.2).1

/-- POSITION IN A CHAIN: a sequence of calls of disciplined functions (each with its own arguments — which
may be results of earlier calls, also for unprotected parameters — and its own oracle) leaves everything that
existed BEFORE THE CHAIN unchanged, after every prefix of the chain, except the pre-existing objects handed to
unprotected parameters along it -/
theorem frame_chain_ir (P : List Fn) (hP : disciplined P = true) (d : Nat)
    (calls : List (Nat × List Ref × Oracle)) (h : Heap) (W : Loc → Prop)
    (hok : ChainOK P d h.size W calls h) :
    PreservesW h.size W h (calls.foldl (fun g c => (sem P d c.1 c.2.1 g c.2.2).1) h) := by
  suffices ∀ (calls : List (Nat × List Ref × Oracle)) (g : Heap), ChainOK P d h.size W calls g →
      PreservesW h.size W h g →
      PreservesW h.size W h (calls.foldl (fun g c => (sem P d c.1 c.2.1 g c.2.2).1) g) from
    this calls h hok (PreservesW.refl (Nat.le_refl _))
  intro calls
  induction calls with
  | nil => intro g _ hg; exact hg
  | cons c rest ih =>
    intro g hok hg
    simp only [List.foldl_cons]
    obtain ⟨hc, hrest⟩ := hok
    refine ih _ hrest (hg.trans ?_)
    exact (frame_protected P hP d c.1 c.2.1 g c.2.2 (fun l hl => (hc l hl).1)).mono hg.1
      (fun l hlt hl => (hc l hl).2 hlt)

/-- the stronger hypothesis (every such object exists before the chain) is a special case -/
theorem chainOK_of_static (P : List Fn) (hP : disciplined P = true) (d : Nat) (W : Loc → Prop) (n : Nat)
    (calls : List (Nat × List Ref × Oracle))
    (hW : ∀ c ∈ calls, ∀ l, callW (wparamsOf P c.1) c.2.1 l → W l ∧ l < n) :
    ∀ (g : Heap), n ≤ g.size → ChainOK P d n W calls g := by
  induction calls with
  | nil => intro g _; trivial
  | cons c rest ih =>
    intro g hn
    have hlive : ∀ l, callW (wparamsOf P c.1) c.2.1 l → l < g.size :=
      fun l hl => Nat.lt_of_lt_of_le (hW c (List.mem_cons_self ..) l hl).2 hn
    refine ⟨fun l hl => ⟨hlive l hl, fun _ => (hW c (List.mem_cons_self ..) l hl).1⟩, ?_⟩
    exact ih (fun c' hc' => hW c' (List.mem_cons_of_mem _ hc')) _
      (Nat.le_trans hn (frame_protected P hP d c.1 c.2.1 g c.2.2 hlive).1)

/-- TODAY'S SOURCE: every function of the generated program respects the discipline. The chunks are
re-proved by kernel evaluation (`disciplined_of_fast (by decide +kernel)`, `Lemmas/HeapIRFast.lean`) in
`Generated/HeapIRC*.lean` against the source as it is NOW (a store,
`+=`, `.update`, `.sort()`, `out=` … through a reference that may reach a protected parameter or a global
makes this fail). -/
theorem all_disciplined : disciplined Generated.HeapIR.program = true := by
  unfold disciplined
  rw [Generated.HeapIR.program_sums]
  simp only [Generated.HeapIR.program, List.all_append, Bool.and_eq_true]
  exact ⟨⟨⟨⟨⟨⟨⟨Generated.HeapIR.chunk0_disciplined, Generated.HeapIR.chunk1_disciplined⟩,
    Generated.HeapIR.chunk2_disciplined⟩, Generated.HeapIR.chunk3_disciplined⟩,
    Generated.HeapIR.chunk4_disciplined⟩, Generated.HeapIR.chunk5_disciplined⟩,
    Generated.HeapIR.chunk6_disciplined⟩, Generated.HeapIR.chunk7_disciplined⟩

/-- THE FRAME PROPERTY OF THE TRANSLATED FUNCTIONS: every function, method, property and module-level lambda
of /repo's `bermuda` package is in `Generated.HeapIR.program` (today 461 of 464; counts and names in the
evidence of the run) EXCEPT the three mutators by contract `Generated.HeapIR.mutatorsByContract`
(`Matrix.__setitem__`, `_BodyRawIO.readinto`, `_open_s3_stream`), which by design write their receiver / the
caller's buffer / a module-level client cache and take no Triangle, Cell or Metadata to protect (see
`mutators_excluded`).

STATES: for the IR program of each of them, called with any arguments on any heap at any position of a
chain, with any oracle and call depth: every location allocated before the call is unchanged afterwards,
whether it returns or raises — except the object of an argument handed to an unprotected (`pd.DataFrame`)
parameter that the function writes (today: `_check_index_columns`, `wide_data_frame_to_triangle`,
`long_data_frame_to_triangle` and their `Triangle.from_*` aliases).

TRUSTED (not proved; listed in full in the evidence, `trusted_summaries()` of the translator) — this is the
PARTIAL note of the property:
* the translator itself (Python AST → HeapIR): desugaring of comprehensions / loops / `with` / `try`, item
  access as `load`, the REPRESENTATION of objects (an attribute other than `values` sits in a one-entry box
  inside the object; a simple constructor's object is built where it is called, from the constructor's top-level
  `self.attr = E` statements), properties as calls, keys of dicts are not tracked (iteration over `.keys()` /
  `.items()` yields arbitrary references), `a[i]` is an element load (`a[i:j]` a view or a copy), dunder dispatch
  of operators is not followed (`+` gives a number / new array or a new container of the operands' entries);
* the tables of summaries for library calls: pure results by kind, writers (`append`, `update`, `sort`, `fill`,
  `shuffle(x)`, `np.put`, `setattr` …) and the keywords `out=`, `overwrite_input=`, `inplace=`, `copy=False`;
  anything not in a table is `unknown` and is rejected when it receives an object;
* callbacks (callable parameters, callables taken out of containers) are pure;
* annotations are honoured: `int / float / str / bool / date / None / Literal / tuples of these` hold immutable
  values, `dict[K, float]`-like containers hold immutable values, `pd.DataFrame` is unprotected; two parameters
  without annotation are ASSUMED `tuple[int, str]` (`resolution` of `date_utils.standardize_resolution` and
  `date_utils.resolution_delta`) and the assumption is checked on every call of the run;
* a function returning one of its parameters unchanged has that return performed by its caller;
* caches (`cached_property`, `functools.cache`) write the cache slot of their receiver: not modelled. -/
theorem frame_translated_functions (d i : Nat) (args : List Ref) (h : Heap) (o : Oracle)
    (hwf : ∀ l, callW (wparamsOf Generated.HeapIR.program i) args l → l < h.size) :
    PreservesW h.size (callW (wparamsOf Generated.HeapIR.program i) args) h
      (sem Generated.HeapIR.program d i args h o).1 :=
  frame_protected _ all_disciplined d i args h o hwf

theorem frame_translated_chain (d : Nat) (calls : List (Nat × List Ref × Oracle)) (h : Heap) (W : Loc → Prop)
    (hok : ChainOK Generated.HeapIR.program d h.size W calls h) :
    PreservesW h.size W h (calls.foldl (fun g c => (sem Generated.HeapIR.program d c.1 c.2.1 g c.2.2).1) h) :=
  frame_chain_ir _ all_disciplined d calls h W hok

/-- the mutators by contract are not functions of `program`: the frame theorem is not claimed for them -/
theorem mutators_excluded :
    ∀ f ∈ Generated.HeapIR.program, f.name ∉ Generated.HeapIR.mutatorsByContract := by decide +kernel

/-- THE REGISTRY. `Generated.HeapIR.registryOps` is regenerated from the
registry of `harness/c03.py` on every run: each operation with the numbers of the library functions it enters
(`Generated.HeapIR.registry_all_covered : registryUncovered = []` is generated next to it when every operation is
covered — today all of them). For every operation, every entry function, every call depth, heap, arguments and
oracle: everything that existed before the call and is not the object of an unprotected (data frame) argument
is unchanged — so with `separated`, everything reachable from the Triangle / Cell / Metadata arguments. -/
theorem frame_registry_entry_points :
    ∀ op ∈ Generated.HeapIR.registryOps, ∀ i ∈ op.2, ∀ (d : Nat) (args : List Ref) (h : Heap) (o : Oracle),
      (∀ l, callW (wparamsOf Generated.HeapIR.program i) args l → l < h.size) →
      i < Generated.HeapIR.program.length ∧
      PreservesW h.size (callW (wparamsOf Generated.HeapIR.program i) args) h
        (sem Generated.HeapIR.program d i args h o).1 := by
  intro op hop i hi d args h o hwf
  refine ⟨?_, frame_translated_functions d i args h o hwf⟩
  have hall : Generated.HeapIR.registryOps.all
      (fun op => op.2.all (fun i => decide (i < Generated.HeapIR.program.length))) = true := by decide +kernel
  exact of_decide_eq_true (List.all_eq_true.mp (List.all_eq_true.mp hall op hop) i hi)

/-! #### negative controls: programs that violate the discipline AND concretely mutate an argument -/

/-- `total = values[0]; for v in values: total += v; return total` -/
def irBadSum : Fn := ⟨"bad_sum", [0], [],
  .seq (.load 1 0 .dyn) (.seq (.loop [.any, .any, .any] (.seq (.load 2 0 .dyn) (.aug 1 2))) (.ret 1)), .any⟩

/-- `total = 0; for v in values: total += v; return total` -/
def irGoodSum : Fn := ⟨"good_sum", [0], [],
  .seq (.const 1) (.seq (.loop [.any, .lv .num, .any] (.seq (.load 2 0 .dyn) (.aug 1 2))) (.ret 1)), .lv .num⟩

/-- witness: a list (location 2) of two arrays `[1]`, `[2]` -/
def irWitness : Heap := ⟨[.arr [1], .arr [2], .dict [("0", .loc 0), ("1", .loc 1)]]⟩

theorem irBadSum_rejected : writesOnlyFresh [] irBadSum = false := by decide +kernel
theorem irGoodSum_accepted : disciplined [irGoodSum] = true := by decide +kernel

/-- the rejected program really writes into the first argument array (`[1]` becomes `[3]`) -/
theorem irBadSum_mutates :
    (sem [irBadSum] 1 0 [.loc 2] irWitness [.n 0, .n 1, .n 1, .n 0, .d [3]]).1.get 0 = some (.arr [3]) := by
  decide +kernel

/-- the accepted one, same input: both arrays intact, the result is a NEW array -/
theorem irGoodSum_frame :
    (sem [irGoodSum] 1 0 [.loc 2] irWitness [.d [0], .n 2, .n 0, .n 1, .d [1], .n 1, .n 0, .d [3]]).1.objs
      = [.arr [1], .arr [2], .dict [("0", .loc 0), ("1", .loc 1)], .arr [3]] ∧
    (match (sem [irGoodSum] 1 0 [.loc 2] irWitness [.d [0], .n 2, .n 0, .n 1, .d [1], .n 1, .n 0, .d [3]]).2.1 with
      | .ok r => decide (r = .loc 3) | .error _ => false) = true := by
  decide +kernel

/-- `values = cell.values; values[k] = v` (the seeded `_thin_cell` / `fill_forward_gaps` shape) -/
def irAliasStore : Fn := ⟨"alias_store", [0, 1], [], .seq (.load 2 0 (.lit "values")) (.store 2 (.lit "k") 1), .scalar⟩

theorem irAliasStore_rejected : writesOnlyFresh [] irAliasStore = false := by decide +kernel

/-- cell (location 1) with values dict (location 0) `{k: 5}`: the store lands in the argument's dict -/
theorem irAliasStore_mutates :
    (sem [irAliasStore] 1 0 [.loc 1, .scalar 7] ⟨[.dict [("k", .scalar 5)], .dict [("values", .loc 0)]]⟩ []).1.get 0
      = some (.dict [("k", .scalar 7)]) := by decide +kernel

/-- `cell1.values.update(cell2.values)` (the seeded `_merge_cell_pair` shape) -/
def irUpdateParam : Fn := ⟨"update_param", [0, 1], [],
  .seq (.load 2 0 (.lit "values")) (.seq (.load 3 1 (.lit "values")) (.merge 2 3)), .scalar⟩

theorem irUpdateParam_rejected : writesOnlyFresh [] irUpdateParam = false := by decide +kernel

theorem irUpdateParam_mutates :
    (sem [irUpdateParam] 1 0 [.loc 2, .loc 3]
      ⟨[.dict [("a", .scalar 1)], .dict [("b", .scalar 2)], .dict [("values", .loc 0)], .dict [("values", .loc 1)]]⟩ []).1.get 0
      = some (.dict [("a", .scalar 1), ("b", .scalar 2)]) := by decide +kernel

/-- `def f(x, acc=[]): acc.append(x); return acc` — the default list is a parameter like any other: it
lives in the heap before the call -/
def irDefaultArg : Fn := ⟨"default_arg", [0, 1], [], .seq (.store 1 .dyn 0) (.ret 1), .any⟩

theorem irDefaultArg_rejected : writesOnlyFresh [] irDefaultArg = false := by decide +kernel

theorem irDefaultArg_mutates :
    (sem [irDefaultArg] 1 0 [.scalar 4, .loc 0] ⟨[.dict []]⟩ [.n 0]).1.get 0 = some (.dict [("k0", .scalar 4)]) := by
  decide +kernel

/-- `cells = triangle.cells; cells.sort()` -/
def irSortParam : Fn := ⟨"sort_param", [0], [], .seq (.load 1 0 (.lit "cells")) (.shrink 1), .scalar⟩

theorem irSortParam_rejected : writesOnlyFresh [] irSortParam = false := by decide +kernel

theorem irSortParam_mutates :
    (sem [irSortParam] 1 0 [.loc 1] ⟨[.dict [("0", .scalar 1), ("1", .scalar 2)], .dict [("cells", .loc 0)]]⟩ [.n 0, .n 1]).1.get 0
      = some (.dict [("1", .scalar 2), ("0", .scalar 1)]) := by decide +kernel

/-- the benign counterpart `d = dict(a); d.update(b)` is accepted: the update goes into the NEW dict -/
def irCopyUpdate : Fn := ⟨"copy_update", [0, 1], [], .seq (.alloc 2 (.sh 0) (.union [0])) (.seq (.merge 2 1) (.ret 2)), .lv (.sh 0)⟩

theorem irCopyUpdate_accepted : disciplined [irCopyUpdate] = true := by decide +kernel

/-- a caller of a mutating callee is caught at the callee: the program is not disciplined -/
theorem irCaller_rejected :
    disciplined [irAliasStore, ⟨"caller", [0, 1], [], .call 2 0 [0, 1], .scalar⟩] = false := by decide +kernel

/-! #### controls for the UNPROTECTED-parameter rule -/

/-- `def f(df, metadata): df[k] = metadata` with `df : pd.DataFrame` unprotected: writes the data frame object only -/
def irWriteFrame : Fn := ⟨"write_frame", [0, 1], [0], .store 0 (.lit "col") 1, .scalar⟩

theorem irWriteFrame_accepted : disciplined [irWriteFrame] = true := by decide +kernel

/-- the same body with the first parameter PROTECTED is rejected -/
theorem irWriteFrame_protected_rejected :
    writesOnlyFresh [] ⟨"write_frame", [0, 1], [], .store 0 (.lit "col") 1, .scalar⟩ = false := by decide +kernel

/-- concretely: the frame object (location 1) changes, the Metadata's details dict (location 0) does not -/
theorem irWriteFrame_frame :
    (sem [irWriteFrame] 1 0 [.loc 1, .loc 0] ⟨[.dict [("cov", .scalar 1)], .dict []]⟩ []).1.objs
      = [.dict [("cov", .scalar 1)], .dict [("col", .loc 0)]] := by decide +kernel

/-- `def f(df, metadata): x = df[k]; x[k2] = 0` — a write THROUGH the unprotected container: what a data frame
holds may be (reachable from) a protected argument, so this is rejected … -/
def irWriteThroughFrame : Fn := ⟨"write_through_frame", [0, 1], [0],
  .seq (.load 2 0 .dyn) (.seq (.const 3) (.store 2 (.lit "cov") 3)), .scalar⟩

theorem irWriteThroughFrame_rejected : writesOnlyFresh [] irWriteThroughFrame = false := by decide +kernel

/-- … and it does mutate the Metadata's details dict (location 0) when the frame (location 1) holds it -/
theorem irWriteThroughFrame_mutates :
    (sem [irWriteThroughFrame] 1 0 [.loc 1, .loc 0]
      ⟨[.dict [("cov", .scalar 1)], .dict [("meta", .loc 0)]]⟩ [.n 0, .d [9]]).1.get 0
      = some (.dict [("cov", .scalar 9)]) := by decide +kernel

/-- a caller may hand to a callee's written parameter only its own unprotected object or a new unconstrained one:
handing over a PROTECTED parameter is rejected … -/
theorem irPassProtected_rejected :
    disciplined [irWriteFrame, ⟨"caller", [0, 1], [], .call 2 0 [0, 1], .scalar⟩] = false := by decide +kernel

/-- … handing over its own unprotected parameter, or a copy made in this call, is accepted -/
theorem irPassUnprotected_accepted :
    disciplined [irWriteFrame, ⟨"caller", [0, 1], [0], .call 2 0 [0, 1], .scalar⟩,
      ⟨"caller_copy", [0, 1], [], .seq (.alloc 2 (.sh 0) (.union [0])) (.call 3 0 [2, 1]), .scalar⟩] = true := by
  decide +kernel

/-- NON-VACUITY of the chain hypothesis: a writer → reader chain. `make_frame()` allocates a new "data frame"
(location 1) mid-chain, `write_frame(df, metadata)` then receives it at its unprotected parameter: `ChainOK` holds
with NO pre-existing writable object (`irChain_writer_reader_ok`), so the hypothesis of `frame_chain_ir` can be met;
what the chain leaves on this heap is computed in `irChain_writer_reader_frame`: the Metadata object (location 0) is
intact. -/
def irMakeFrame : Fn := ⟨"make_frame", [], [], .seq (.alloc 0 (.sh 0) .dict) (.ret 0), .lv (.sh 0)⟩

theorem irChain_disciplined : disciplined [irMakeFrame, irWriteFrame] = true := by decide +kernel

theorem irChain_writer_reader_ok :
    ChainOK [irMakeFrame, irWriteFrame] 1 1 (fun _ => False)
      [(0, [], []), (1, [.loc 1, .loc 0], [])] ⟨[.dict [("cov", .scalar 1)]]⟩ := by
  have hw0 : wparamsOf [irMakeFrame, irWriteFrame] 0 = [] := by decide +kernel
  have hw1 : wparamsOf [irMakeFrame, irWriteFrame] 1 = [0] := by decide +kernel
  have hsz : (sem [irMakeFrame, irWriteFrame] 1 0 [] ⟨[.dict [("cov", .scalar 1)]]⟩ []).1.size = 2 := by
    decide +kernel
  refine ⟨?_, ?_, trivial⟩
  · intro l hl
    rw [hw0] at hl
    exact absurd hl callW_nil
  · intro l ⟨j, hj, hget⟩
    rw [hw1] at hj
    have hj0 : j = 0 := by simpa using hj
    subst hj0
    have hl : l = 1 := by simpa using hget.symm
    subst hl
    exact ⟨by rw [hsz]; decide, fun h => absurd h (by decide)⟩

theorem irChain_writer_reader_frame :
    ((sem [irMakeFrame, irWriteFrame] 1 1 [.loc 1, .loc 0]
      (sem [irMakeFrame, irWriteFrame] 1 0 [] ⟨[.dict [("cov", .scalar 1)]]⟩ []).1 []).1).objs
      = [.dict [("cov", .scalar 1)], .dict [("col", .loc 0)]] := by decide +kernel

end HeapIR

end Bermuda.Properties.C03
