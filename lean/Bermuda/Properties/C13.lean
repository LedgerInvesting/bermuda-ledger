/-
C13 — descriptive accessors and the triangle taxonomy agree with the cells.
The theorems of the property, the Spec bridges (every predicate the driver evaluates on the implementation holds on
the model) and the non-vacuity witnesses.
-/
import Bermuda.Model.Accessors
import Bermuda.Spec.C13
import Bermuda.Lemmas.Accessors
import Bermuda.Lemmas.AccessorsExt
import Bermuda.Lemmas.AccessorsHelpers
namespace Bermuda.Properties.C13
open Bermuda Std Bermuda.Spec.C13 Bermuda.C13L

/-! ### 1. the accessors are the sorted distinct values present in the cells -/

/-- **`periods` is the strictly ascending list of the distinct periods of the cells** -/
theorem periods_eq_sortedDedup (t : List Cell) :
    (Triangle.periods t).Pairwise (fun a b => periodCmp a b = .lt) ∧
    ∀ p, p ∈ Triangle.periods t ↔ ∃ c ∈ t, c.period = p :=
  ⟨(sortedDedup_spec (cmp := periodCmp) (fun _ _ => periodCmp_eq_eq) _).1, fun _ => mem_periods⟩

theorem evaluationDates_eq_sortedDedup (t : List Cell) :
    (Triangle.evaluationDates t).Pairwise (fun a b => a < b) ∧
    ∀ d, d ∈ Triangle.evaluationDates t ↔ ∃ c ∈ t, c.ev = d := by
  obtain ⟨h1, h2⟩ := sortedDedup_spec (cmp := Date.cmp) (fun _ _ => Date.cmp_eq_eq.mp) (t.map (·.ev))
  exact ⟨h1, fun d => by rw [Triangle.evaluationDates, h2]; simp⟩

theorem devLags_eq_sortedDedup (t : List Cell) (u : LagUnit) :
    ∃ l, Triangle.devLags t (some u) = .ok l ∧ l.Pairwise (fun a b => ratCmp a b = .lt) ∧
      ∀ q, q ∈ l ↔ ∃ c ∈ t, c.devLag u = q := by
  obtain ⟨h1, h2⟩ := sortedDedup_spec (cmp := ratCmp) (fun _ _ => ratCmp_eq_eq.mp) (t.map (·.devLag u))
  exact ⟨_, rfl, h1, fun q => by rw [h2]; simp⟩

theorem fields_eq_sortedDedup (t : List Cell) :
    (Triangle.fields t).Pairwise (fun a b => strCmp a b = .lt) ∧
    ∀ f, f ∈ Triangle.fields t ↔ ∃ c ∈ t, f ∈ c.values.keys := by
  obtain ⟨h1, h2⟩ := sortedDedup_spec (cmp := strCmp) (fun a b h => by simpa [strCmp] using h)
    (t.flatMap (·.values.keys))
  refine ⟨h1, fun f => ?_⟩
  rw [Triangle.fields, h2]; simp

/-- `metadata` is the strictly ascending (by `Metadata.__lt__`) list of the distinct metadata -/
theorem metadata_eq_sortedDedup (t : List Cell) (hc : ∀ c ∈ t, c.md.Canon) :
    (Triangle.metadata t).Pairwise (fun a b => Metadata.cmp a b = .lt) ∧
    ∀ m, m ∈ Triangle.metadata t ↔ ∃ c ∈ t, c.md = m := by
  have hm : ∀ m, m ∈ Triangle.metadata t ↔ ∃ c ∈ t, c.md = m := fun _ => Triangle.mem_metadata
  refine ⟨?_, hm⟩
  apply pairwise_lt_of_sorted_nodup (cmp := Metadata.cmp)
  · intro a ha b hb h
    obtain ⟨ca, hca, rfl⟩ := (hm a).mp ha
    obtain ⟨cb, hcb, rfl⟩ := (hm b).mp hb
    exact (Metadata.cmp_eq_eq (hc ca hca) (hc cb hcb)).mp h
  · exact sorted_mergeSort (cmp := Metadata.cmp) (metasOf t)
  · exact (Triangle.metadata_perm t).nodup_iff.mpr (metasOf_nodup t)

/-! ### 2. counts -/

/-- `field_cell_counts[f]` is the number of cells holding field `f` -/
theorem fieldCellCounts_eq_countP (t : List Cell) :
    Triangle.fieldCellCounts t =
      (Triangle.fields t).map fun f => (f, t.countP fun c => c.values.keys.contains f) := by
  unfold Triangle.fieldCellCounts
  apply List.map_congr_left
  intro f _
  rw [sumBools_map_eq_countP]

/-- `field_slice_counts[f]` is the number of slices in which some cell holds field `f` -/
theorem fieldSliceCounts_eq_countP (t : List Cell) :
    Triangle.fieldSliceCounts t =
      (Triangle.fields t).map fun f =>
        (f, (Triangle.slices t).countP fun slc => (Triangle.fields slc.2).contains f) := by
  unfold Triangle.fieldSliceCounts
  apply List.map_congr_left
  intro f _
  rw [sumBools_map_eq_countP]

/-! ### 3. evaluation_date -/

/-- **`evaluation_date`** is refused (`TriangleEmptyError`) on the empty triangle and otherwise
is the latest evaluation date present in the cells -/
theorem evaluationDate_spec (t : List Cell) :
    (t = [] → Triangle.evaluationDate t = .error .triangleError) ∧
    (t ≠ [] → ∃ d, Triangle.evaluationDate t = .ok d ∧ (∃ c ∈ t, c.ev = d) ∧ ∀ c ∈ t, c.ev ≤ d) := by
  constructor
  · rintro rfl; rfl
  · intro ht
    obtain ⟨_, hmem⟩ := evaluationDates_eq_sortedDedup t
    have hne : Triangle.evaluationDates t ≠ [] := by
      cases t with
      | nil => exact absurd rfl ht
      | cons c0 rest => exact List.ne_nil_of_mem ((hmem c0.ev).mpr ⟨c0, by simp, rfl⟩)
    obtain ⟨d, h1, h2, h3⟩ := maxDate_spec hne
    refine ⟨d, ?_, (hmem d).mp h2, fun c hc => h3 _ ((hmem c.ev).mpr ⟨c, hc, rfl⟩)⟩
    unfold Triangle.evaluationDate
    simp [List.isEmpty_eq_false_iff.mpr ht, h1]

/-! ### 4. num_samples -/

/-- all cell values of the triangle, in iteration order -/
def allValues (t : List Cell) : List Val := t.flatMap fun c => c.values.map (·.2)

/-- **`num_samples`**: when every sample array (size > 1) in the triangle has the same size `k`,
the answer is `k` if there is such an array and 1 otherwise; when two sample arrays differ in
size it is refused with `ValueError` -/
theorem numSamples_spec (t : List Cell) :
    (∀ k, (∀ v ∈ allValues t, ∀ n, v.sampleSize = some n → n = k) →
      Triangle.numSamples t =
        .ok (if (allValues t).any (fun v => v.sampleSize.isSome) then k else 1)) ∧
    ((∃ v ∈ allValues t, ∃ w ∈ allValues t, ∃ n n',
        v.sampleSize = some n ∧ w.sampleSize = some n' ∧ n ≠ n') →
      Triangle.numSamples t = .error .valueError) := by
  constructor
  · intro k hk
    have := numSamples_fold_none (allValues t) k hk
    show (do let r ← (allValues t).foldlM numSamplesStep none; pure (r.getD 1)) = _
    rw [this]
    cases (allValues t).any (fun v => v.sampleSize.isSome) <;> rfl
  · intro h
    have := numSamples_fold_none_error (allValues t) h
    show (do let r ← (allValues t).foldlM numSamplesStep none; pure (r.getD 1)) = _
    rw [this]
    rfl

/-! ### 5. common metadata and differences -/

/-- **common metadata keeps exactly what all slices share** — the six top-level attributes:
each is kept with value `x` iff every slice's metadata has value `x` (so an attribute on which
two slices differ, or which is `None` everywhere, is `None`) -/
theorem common_keeps_exactly_shared_attrs {t : List Cell} {c : Metadata}
    (h : Triangle.commonMetadata t = .ok c) :
    (∀ x, c.riskBasis = some x ↔ ∀ m ∈ Triangle.metadata t, m.riskBasis = some x) ∧
    (∀ x, c.country = some x ↔ ∀ m ∈ Triangle.metadata t, m.country = some x) ∧
    (∀ x, c.currency = some x ↔ ∀ m ∈ Triangle.metadata t, m.currency = some x) ∧
    (∀ x, c.reinsuranceBasis = some x ↔ ∀ m ∈ Triangle.metadata t, m.reinsuranceBasis = some x) ∧
    (∀ x, c.lossDefinition = some x ↔ ∀ m ∈ Triangle.metadata t, m.lossDefinition = some x) ∧
    (∀ x, c.limit = some x ↔ ∀ m ∈ Triangle.metadata t, m.limit = some x) :=
  ⟨common_attr_iff (·.riskBasis) (fun _ _ => rfl) h, common_attr_iff (·.country) (fun _ _ => rfl) h,
   common_attr_iff (·.currency) (fun _ _ => rfl) h, common_attr_iff (·.reinsuranceBasis) (fun _ _ => rfl) h,
   common_attr_iff (·.lossDefinition) (fun _ _ => rfl) h, common_attr_iff (·.limit) (fun _ _ => rfl) h⟩

/-- **common metadata keeps exactly what all slices share** — the detail dictionaries: an item
`(key, value)` is kept iff every slice's metadata has that item -/
theorem common_keeps_exactly_shared_details {t : List Cell} {c : Metadata}
    (h : Triangle.commonMetadata t = .ok c)
    (hk : ∀ m ∈ Triangle.metadata t, KeysDistinct m.details ∧ KeysDistinct m.lossDetails) :
    (∀ kv, kv ∈ c.details ↔ ∀ m ∈ Triangle.metadata t, kv ∈ m.details) ∧
    (∀ kv, kv ∈ c.lossDetails ↔ ∀ m ∈ Triangle.metadata t, kv ∈ m.lossDetails) := by
  obtain ⟨m, rest, hm, rfl⟩ := commonMetadata_eq_fold h
  rw [hm] at hk ⊢
  constructor
  · intro kv
    rw [foldl_common_details rest m (fun x hx => (hk x (by simp [hx])).1)]
    simp only [List.mem_cons, forall_eq_or_imp]
  · intro kv
    rw [foldl_common_lossDetails rest m (hk m (by simp)).2 (fun x hx => (hk x (by simp [hx])).2)]
    simp only [List.mem_cons, forall_eq_or_imp]

/-- **common metadata keeps exactly what all slices share**: an attribute is kept with value `x`
iff every slice has value `x`, and a `details` / `loss_details` item is kept iff every slice has
that item -/
theorem common_keeps_exactly_shared {t : List Cell} {c : Metadata}
    (h : Triangle.commonMetadata t = .ok c)
    (hk : ∀ m ∈ Triangle.metadata t, KeysDistinct m.details ∧ KeysDistinct m.lossDetails) :
    ((∀ x, c.riskBasis = some x ↔ ∀ m ∈ Triangle.metadata t, m.riskBasis = some x) ∧
     (∀ x, c.country = some x ↔ ∀ m ∈ Triangle.metadata t, m.country = some x) ∧
     (∀ x, c.currency = some x ↔ ∀ m ∈ Triangle.metadata t, m.currency = some x) ∧
     (∀ x, c.reinsuranceBasis = some x ↔ ∀ m ∈ Triangle.metadata t, m.reinsuranceBasis = some x) ∧
     (∀ x, c.lossDefinition = some x ↔ ∀ m ∈ Triangle.metadata t, m.lossDefinition = some x) ∧
     (∀ x, c.limit = some x ↔ ∀ m ∈ Triangle.metadata t, m.limit = some x)) ∧
    (∀ kv, kv ∈ c.details ↔ ∀ m ∈ Triangle.metadata t, kv ∈ m.details) ∧
    (∀ kv, kv ∈ c.lossDetails ↔ ∀ m ∈ Triangle.metadata t, kv ∈ m.lossDetails) :=
  ⟨common_keeps_exactly_shared_attrs h, common_keeps_exactly_shared_details h hk⟩

/-- **common metadata recombines with each entry of `metadata_differences` into that slice's
metadata** — the six top-level attributes -/
theorem recombine_diff_attrs {t : List Cell} {c : Metadata} (h : Triangle.commonMetadata t = .ok c)
    {m : Metadata} (hm : m ∈ Triangle.metadata t) :
    let r := recombine c (metadataDiff c m)
    r.riskBasis = m.riskBasis ∧ r.country = m.country ∧ r.currency = m.currency ∧
    r.reinsuranceBasis = m.reinsuranceBasis ∧ r.lossDefinition = m.lossDefinition ∧ r.limit = m.limit :=
  ⟨recombine_attr (·.riskBasis) (fun _ _ => rfl) h hm, recombine_attr (·.country) (fun _ _ => rfl) h hm,
   recombine_attr (·.currency) (fun _ _ => rfl) h hm, recombine_attr (·.reinsuranceBasis) (fun _ _ => rfl) h hm,
   recombine_attr (·.lossDefinition) (fun _ _ => rfl) h hm, recombine_attr (·.limit) (fun _ _ => rfl) h hm⟩

/-- **the detail dictionaries recombine**: the items of the common metadata together with the
items of a slice's difference are exactly the items of that slice's metadata, and the two parts
share no key -/
theorem recombine_diff_details {t : List Cell} {c : Metadata} (h : Triangle.commonMetadata t = .ok c)
    (hk : ∀ m ∈ Triangle.metadata t, KeysDistinct m.details ∧ KeysDistinct m.lossDetails)
    {m : Metadata} (hm : m ∈ Triangle.metadata t) :
    (∀ kv, kv ∈ c.details ++ (metadataDiff c m).details ↔ kv ∈ m.details) ∧
    (∀ kv, kv ∈ c.lossDetails ++ (metadataDiff c m).lossDetails ↔ kv ∈ m.lossDetails) ∧
    (∀ kv ∈ (metadataDiff c m).details, c.details.contains kv.1 = false) ∧
    (∀ kv ∈ (metadataDiff c m).lossDetails, c.lossDetails.contains kv.1 = false) := by
  obtain ⟨hd, hl⟩ := common_keeps_exactly_shared_details h hk
  have key : ∀ (cd md : Dict MVal), KeysDistinct md → (∀ kv, kv ∈ cd → kv ∈ md) →
      ∀ kv, kv ∈ cd ++ md.filter (fun kv => !cd.contains kv.1) ↔ kv ∈ md := by
    intro cd md hmd hsub kv
    rw [List.mem_append, List.mem_filter]
    constructor
    · rintro (h | h)
      · exact hsub kv h
      · exact h.1
    · intro hkv
      cases hc : cd.contains kv.1 with
      | false => exact Or.inr ⟨hkv, by simp⟩
      | true =>
        obtain ⟨v, hv⟩ := contains_iff.mp hc
        have : v = kv.2 := keysDistinct_unique hmd (hsub _ hv) hkv
        subst this
        exact Or.inl hv
  refine ⟨key c.details m.details (hk m hm).1 (fun kv h => (hd kv).mp h m hm),
    key c.lossDetails m.lossDetails (hk m hm).2 (fun kv h => (hl kv).mp h m hm), ?_, ?_⟩
  · intro kv hkv
    have := (List.mem_filter.mp hkv).2
    simpa using this
  · intro kv hkv
    have := (List.mem_filter.mp hkv).2
    simpa using this

/-- **common metadata recombines with each entry of `metadata_differences` into that slice's
metadata** (canonical metadata: detail dicts key-sorted, as the wire form and `Metadata.__eq__`
see them) -/
theorem recombine_diff {t : List Cell} {c : Metadata} (h : Triangle.commonMetadata t = .ok c)
    (hc : ∀ m ∈ Triangle.metadata t, m.Canon) {m : Metadata} (hm : m ∈ Triangle.metadata t) :
    recombine c (metadataDiff c m) = m := by
  have hk : ∀ m ∈ Triangle.metadata t, KeysDistinct m.details ∧ KeysDistinct m.lossDetails :=
    fun m hm => ⟨keysDistinct_of_canon (hc m hm).1, keysDistinct_of_canon (hc m hm).2⟩
  obtain ⟨a1, a2, a3, a4, a5, a6⟩ := recombine_diff_attrs h hm
  obtain ⟨d1, d2, d3, d4⟩ := recombine_diff_details h hk hm
  have hcd : KeysDistinct c.details ∧ KeysDistinct c.lossDetails := by
    obtain ⟨m0, rest, hm0, rfl⟩ := commonMetadata_eq_fold h
    refine foldl_common_keysDistinct rest m0 (hk m0 (by rw [hm0]; simp)) ?_
    intro x hx; exact (hk x (by rw [hm0]; simp [hx])).2
  refine metadata_ext_fields a1 a2 a3 a4 a5 a6 ?_ ?_
  · show sortItems (c.details ++ (metadataDiff c m).details) = m.details
    refine sortItems_recombine hcd.1 ?_ d3 (hc m hm).1 d1
    show (m.details.filter _).Nodup
    exact (keysDistinct_nodup (hk m hm).1).sublist List.filter_sublist
  · show sortItems (c.lossDetails ++ (metadataDiff c m).lossDetails) = m.lossDetails
    refine sortItems_recombine hcd.2 ?_ d4 (hc m hm).2 d2
    show (m.lossDetails.filter _).Nodup
    exact (keysDistinct_nodup (hk m hm).2).sublist List.filter_sublist

/-- `metadata_differences` has one entry per slice -/
theorem metadataDifferences_length {t : List Cell} {ds : List Metadata}
    (h : Triangle.metadataDifferences t = .ok ds) : ds.length = (Triangle.metadata t).length := by
  unfold Triangle.metadataDifferences at h
  split at h
  · rename_i hm; cases h; simp [hm]
  · obtain ⟨c, -, h⟩ := bind_ok h
    cases h; simp

theorem metadataDifferences_eq_map {t : List Cell} {c : Metadata} (h : Triangle.commonMetadata t = .ok c) :
    Triangle.metadataDifferences t = .ok ((Triangle.metadata t).map (metadataDiff c)) := by
  unfold Triangle.metadataDifferences
  split
  · rename_i hm
    rw [commonMetadata_eq, hm] at h; cases h
  · simp [h, ok_bind, pure_eq_ok]

/-- entry `i` of `metadata_differences` is `metadata_diff(common_metadata, metadata[i])` -/
theorem metadataDifferences_getElem {t : List Cell} {c : Metadata} {ds : List Metadata}
    (h : Triangle.commonMetadata t = .ok c) (hd : Triangle.metadataDifferences t = .ok ds)
    (i : Nat) (hi : i < (Triangle.metadata t).length) :
    ds[i]'(by rw [metadataDifferences_length hd]; exact hi) = metadataDiff c (Triangle.metadata t)[i] := by
  rw [metadataDifferences_eq_map h] at hd
  cases hd
  simp

/-! ### 6. the taxonomy: is_disjoint (the adjacent test is complete), nesting, agreement with the independent definitions -/

/-- **`is_disjoint` (an adjacent-pairs test on the sorted periods) holds iff no two different
periods of the triangle overlap** — for cells whose periods are proper intervals
(`period_start ≤ period_end`, enforced by the cell constructor) -/
theorem isDisjoint_iff_pairwise_nonoverlap (t : List Cell) (hv : ∀ c ∈ t, c.ps ≤ c.pe) :
    Triangle.isDisjoint t = true ↔
      ∀ a ∈ t, ∀ b ∈ t, a.period = b.period ∨ overlap a.period b.period = false := by
  rw [isDisjoint_iff_apart hv]
  constructor
  · intro hp a ha b hb
    by_cases hab : a.period = b.period
    · exact Or.inl hab
    · exact Or.inr (pairwise_forall_of_symm (fun x y h => by rw [overlap_comm]; exact h)
        (hp.imp overlap_false_of_lt) _ (mem_periods.mpr ⟨a, ha, rfl⟩) _ (mem_periods.mpr ⟨b, hb, rfl⟩) hab)
  · intro h
    refine (periods_eq_sortedDedup t).1.imp_of_mem ?_
    intro p q hp hq hpq
    obtain ⟨a, ha, rfl⟩ := mem_periods.mp hp
    obtain ⟨b, hb, rfl⟩ := mem_periods.mp hq
    have hne : a.period ≠ b.period := by
      intro e
      rw [e, ReflCmp.compare_self (cmp := periodCmp)] at hpq
      cases hpq
    rcases h a ha b hb with e | hov
    · exact absurd e hne
    · have hb' := hv b hb
      rw [periodCmp_lt_iff] at hpq
      simp only [Cell.period] at *
      -- `b` does not end before `a` starts: it starts no earlier than `a` and is a proper interval
      refine (overlap_eq_false_iff.mp hov).resolve_right fun hlt => DateOrder.not_le.mpr hlt ?_
      rcases hpq with hpq | ⟨e, _⟩
      · exact DateOrder.le_of_lt (DateOrder.lt_of_lt_of_le hpq hb')
      · rw [e]; exact hb'

/-- the executable independent definition agrees with the implementation's adjacent test -/
theorem isDisjoint_eq_spec (t : List Cell) (hv : ∀ c ∈ t, c.ps ≤ c.pe) :
    Triangle.isDisjoint t = disjoint t := by
  rw [Bool.eq_iff_iff, isDisjoint_iff_pairwise_nonoverlap t hv, disjoint_iff]

theorem regular_imp_semiRegular (t : List Cell) (u : Option LagUnit)
    (h : Triangle.isRegular t u = .ok true) : Triangle.isSemiRegular t u = .ok true := by
  unfold Triangle.isRegular at h
  obtain ⟨b, hs, h⟩ := bind_ok h
  cases b with
  | true => exact hs
  | false => cases h

theorem semiRegular_imp_disjoint (t : List Cell) (u : Option LagUnit)
    (h : Triangle.isSemiRegular t u = .ok true) : Triangle.isDisjoint t = true := by
  unfold Triangle.isSemiRegular at h
  cases hd : Triangle.isDisjoint t with
  | true => rfl
  | false => simp [hd] at h

/-- **`is_semi_regular` ⇔ disjoint and all periods of equal length** (the independent,
pairwise-over-cells definition `Spec.C13.semiRegular`) -/
theorem isSemiRegular_iff_equal_lengths (t : List Cell) (u : LagUnit) (hv : ∀ c ∈ t, c.ps ≤ c.pe) :
    Triangle.isSemiRegular t (some u) = .ok (semiRegular t u) := by
  unfold Triangle.isSemiRegular semiRegular
  rw [isDisjoint_eq_spec t hv]
  cases hd : disjoint t with
  | false => simp
  | true =>
    simp only [Bool.not_true, Bool.false_eq_true, if_false, Bool.true_and]
    cases t with
    | nil => simp [equalLengths]
    | cons c0 rest =>
      simp only [List.isEmpty_cons, Bool.false_eq_true, if_false]
      have hmem := fun p => mem_periods (t := c0 :: rest) (p := p)
      cases hp : Triangle.periods (c0 :: rest) with
      | nil => exact absurd hp (periods_ne_nil (List.cons_ne_nil _ _))
      | cons base ps =>
        simp only []
        congr 1
        rw [Bool.eq_iff_iff]
        simp only [equalLengths_iff, List.all_eq_true, beq_iff_eq, duration_eq_iff]
        constructor
        · intro h a ha b hb
          have key : ∀ c ∈ c0 :: rest, periodLength u c.period = periodLength u base := by
            intro c hc
            have : c.period ∈ base :: ps := hp ▸ (hmem _).mpr ⟨c, hc, rfl⟩
            rcases List.mem_cons.mp this with e | e
            · rw [e]
            · exact h _ e
          rw [key a ha, key b hb]
        · intro h p hpm
          obtain ⟨a, ha, rfl⟩ := (hmem p).mp (hp ▸ List.mem_cons_of_mem _ hpm)
          obtain ⟨b, hb, hbe⟩ := (hmem base).mp (hp ▸ List.mem_cons_self)
          rw [← hbe]; exact h a ha b hb

theorem constSpacing_iff (t : List Cell) (u : LagUnit) :
    constSpacing t u = true ↔ SpacedC13 (· ∈ t.map (·.devLag u)) := by
  simp only [constSpacing, not_or_eq_true, Bool.and_eq_true, decide_eq_true_eq, not_between_iff, beq_iff_eq,
    List.all_eq_true, List.mem_eraseDups]
  exact ⟨fun h x y z hx hy hz hxy hyz n1 n2 => h x hx y hy z hz ⟨⟨⟨hxy, hyz⟩, n1⟩, n2⟩,
    fun h x hx y hy z hz ⟨⟨⟨hxy, hyz⟩, n1⟩, n2⟩ => h x y z hx hy hz hxy hyz n1 n2⟩

/-- **`is_regular` ⇔ semi-regular and constant lag spacing** (the independent definition
`Spec.C13.regular`: neighbouring development lags are equally far apart) -/
theorem isRegular_iff_const_spacing (t : List Cell) (u : LagUnit) (hv : ∀ c ∈ t, c.ps ≤ c.pe) :
    Triangle.isRegular t (some u) = .ok (regular t u) := by
  unfold Triangle.isRegular regular
  rw [isSemiRegular_iff_equal_lengths t u hv]
  simp only [bind, Except.bind, pure, Except.pure]
  cases hsr : semiRegular t u with
  | false => simp
  | true =>
    simp only [Bool.not_true, Bool.false_eq_true, if_false, Bool.true_and]
    cases t with
    | nil => simp [constSpacing]
    | cons c0 rest =>
      simp only [List.isEmpty_cons, Bool.false_eq_true, if_false]
      obtain ⟨L, hL, hsorted, hmem⟩ := devLags_eq_sortedDedup (c0 :: rest) u
      have hsorted' : L.Pairwise (· < ·) := hsorted.imp (fun {a b} h => (ratCmp_lt_iff a b).mp h)
      have hS : SpacedC13 (· ∈ L) ↔ constSpacing (c0 :: rest) u = true := by
        rw [constSpacing_iff]
        apply spaced_congr
        intro x; rw [hmem, List.mem_map]
      rw [hL]
      cases L with
      | nil =>
        have : c0.devLag u ∈ ([] : List Rat) := (hmem _).mpr ⟨c0, by simp, rfl⟩
        simp at this
      | cons a L =>
        cases L with
        | nil =>
          simp only []
          congr 1
          symm
          apply hS.mp
          intro x y z hx hy hz hxy hyz _ _
          simp only [List.mem_cons, List.not_mem_nil, or_false] at hx hy
          subst hx; subst hy
          exact absurd hxy Rat.lt_irrefl
        | cons b r =>
          simp only []
          congr 1
          rw [Bool.eq_iff_iff, ← hS, spaced_iff_constDiff a b r hsorted', ← zip_all_iff_constDiff]

/-! ### 7. is_slicewise_disjoint (triangle.py:446-452) -/

/-- **`is_slicewise_disjoint` is "no two different periods of ONE slice share a day"**, computed pairwise
over the cells (no slices, no sorting, no adjacent-pair trick) -/
theorem isSlicewiseDisjoint_eq_spec (t : List Cell) (hv : ∀ c ∈ t, c.ps ≤ c.pe) :
    Triangle.isSlicewiseDisjoint t = slicewiseDisjoint t := by
  -- slice by slice `is_disjoint` is the pairwise statement; the slices partition the cells by metadata
  rw [Bool.eq_iff_iff, slicewiseDisjoint_iff, ← (slices_partition t).forall_pairs]
  unfold Triangle.isSlicewiseDisjoint
  rw [List.all_eq_true]
  exact forall₂_congr fun s hs => isDisjoint_iff_pairwise_nonoverlap s.2 fun c hc =>
    hv c ((Triangle.mem_slice_iff hs c).mp hc).1

/-- nesting: a disjoint triangle is slicewise disjoint -/
theorem isSlicewiseDisjoint_of_isDisjoint (t : List Cell) (hv : ∀ c ∈ t, c.ps ≤ c.pe)
    (h : Triangle.isDisjoint t = true) : Triangle.isSlicewiseDisjoint t = true := by
  rw [isSlicewiseDisjoint_eq_spec t hv, slicewiseDisjoint_iff]
  rw [isDisjoint_iff_pairwise_nonoverlap t hv] at h
  exact fun a ha b hb _ => h a ha b hb

/-- non-vacuity: two slices whose periods overlap ACROSS slices only -- slicewise disjoint, not disjoint -/
example :
    let a : Cell := { ps := ⟨2020, 1, 1⟩, pe := ⟨2020, 6, 30⟩, ev := ⟨2020, 6, 30⟩ }
    let b : Cell := { ps := ⟨2020, 4, 1⟩, pe := ⟨2020, 9, 30⟩, ev := ⟨2020, 9, 30⟩,
                      md := { country := some "US" } }
    slicewiseDisjoint [a, b] = true ∧ disjoint [a, b] = false ∧
      slicewiseDisjoint [a, { b with md := {} }] = false := by decide +kernel

/-! ### 8. slice_period_rows (triangle.py:347-352) -/

/-- **`slice_period_rows` partitions the cells by (metadata, period)**: keys pairwise different and ascending
by (metadata, period), no empty row, every cell in the row of its own key, every row ascending by evaluation
date, all rows together a permutation of the cells (Spec `rowsSpec`, evaluated by the driver on the
implementation's rows) -/
theorem slicePeriodRows_spec (t : List Cell) : rowsSpec t (Triangle.slicePeriodRows t) = true := by
  have P := rows_partition t
  unfold rowsSpec
  simp only [Bool.and_eq_true]
  refine ⟨⟨⟨?_, ?_⟩, ?_⟩, ?_⟩
  · rw [ascBy_iff]; exact rows_keys_asc t
  · rw [ascBy_iff]
    exact (List.nodup_iff_pairwise_ne.mp P.nodup).imp (fun h => by simpa using h)
  · rw [List.all_eq_true]
    intro p hp
    simp only [Bool.and_eq_true]
    refine ⟨⟨?_, ?_⟩, ?_⟩
    · cases hp2 : p.2 with
      | nil => exact (P.ne_nil hp hp2).elim
      | cons _ _ => simp
    · rw [List.all_eq_true]
      exact fun c hc => beq_iff_eq.mpr (P.key_eq hp hc)
    · rw [ascBy_iff]; exact row_sorted hp
  · rw [List.isPerm_iff]; exact P.flatMap_perm

/-- the keys of `slice_period_rows` are exactly the (metadata, period) pairs present in the cells -/
theorem slicePeriodRows_keys (t : List Cell) (k : SliceRowKey) :
    k ∈ (Triangle.slicePeriodRows t).map (·.1) ↔ ∃ c ∈ t, c.rowKey = k :=
  (rows_partition t).keys k

/-! ### 9. calendar meaning of "period length in months" -/

/-- **calendar meaning of the month length of a period**: a period that starts on the first of a month and ends
on a month end is exactly as many months long as the calendar months it spans — the formula shared by the model
(`periodLength`) and the Spec (`duration`) is anchored in month ids -/
theorem periodLength_month_aligned (p : Period) (hv1 : p.1.valid = true) (h1 : p.1.d = 1)
    (h2 : p.2.d = dim p.2.y p.2.m) :
    periodLength .month p = ((monthToId p.2 - monthToId p.1 + 1 : Int) : Rat) := by
  obtain ⟨-, he, hm⟩ := DateOrder.pred_first hv1 h1
  show devLagMonths p.1.pred p.2 = _
  rw [DateOrder.devLagMonths_monthEnds he ((DateOrder.isMonthEnd_iff _).mpr h2), hm]
  congr 1
  omega

/-- the Spec's `duration` of a month-aligned cell is its number of calendar months -/
theorem duration_month_aligned (c : Cell) (hv1 : c.ps.valid = true) (h1 : c.ps.d = 1)
    (h2 : c.pe.d = dim c.pe.y c.pe.m) :
    duration .month c = ((monthToId c.pe - monthToId c.ps + 1 : Int) : Rat) :=
  periodLength_month_aligned c.period hv1 h1 h2

/-- so for month-aligned cells "equal period lengths" (the clause of `is_semi_regular`) is "equally many calendar
months" -/
theorem equalLengths_month_aligned (t : List Cell)
    (ha : ∀ c ∈ t, c.ps.valid = true ∧ c.ps.d = 1 ∧ c.pe.d = dim c.pe.y c.pe.m) :
    equalLengths t .month = true ↔
      ∀ a ∈ t, ∀ b ∈ t, monthToId a.pe - monthToId a.ps = monthToId b.pe - monthToId b.ps := by
  rw [equalLengths_iff]
  constructor
  · intro h a hA b hB
    have := h a hA b hB
    rw [duration_month_aligned a (ha a hA).1 (ha a hA).2.1 (ha a hA).2.2,
      duration_month_aligned b (ha b hB).1 (ha b hB).2.1 (ha b hB).2.2] at this
    have := Rat.intCast_inj.mp this
    omega
  · intro h a hA b hB
    rw [duration_month_aligned a (ha a hA).1 (ha a hA).2.1 (ha a hA).2.2,
      duration_month_aligned b (ha b hB).1 (ha b hB).2.1 (ha b hB).2.2, h a hA b hB]

/-! ### non-vacuity -/

/-- `common_metadata` is defined on every non-empty triangle, so the hypotheses
`Triangle.commonMetadata t = .ok c` above are satisfiable -/
theorem commonMetadata_ok_of_ne_nil {t : List Cell} (ht : t ≠ []) :
    ∃ c, Triangle.commonMetadata t = .ok c := by
  obtain ⟨c0, hc0⟩ := List.exists_mem_of_ne_nil t ht
  rw [commonMetadata_eq]
  cases hm : Triangle.metadata t with
  | nil => exact absurd (Triangle.mem_metadata.mpr ⟨c0, hc0, rfl⟩) (hm ▸ List.not_mem_nil)
  | cons m rest => exact ⟨_, rfl⟩

def exT : List Cell :=
  [ { ps := ⟨2020, 1, 1⟩, pe := ⟨2020, 12, 31⟩, ev := ⟨2020, 12, 31⟩, values := [("paid_loss", .int 1)] },
    { ps := ⟨2020, 1, 1⟩, pe := ⟨2020, 12, 31⟩, ev := ⟨2021, 12, 31⟩, values := [("paid_loss", .int 2)],
      md := { country := some "US" } },
    { ps := ⟨2021, 1, 1⟩, pe := ⟨2021, 12, 31⟩, ev := ⟨2021, 12, 31⟩, values := [("paid_loss", .int 3)] } ]

/-- the hypotheses hold for a concrete 2-slice triangle: proper periods (so the adjacent
disjointness test is complete on it) and a defined common metadata -/
example : (∀ c ∈ exT, c.ps ≤ c.pe) ∧ (∀ c ∈ exT, c.md.Canon) ∧ ∃ c, Triangle.commonMetadata exT = .ok c :=
  ⟨by decide +kernel, by decide +kernel, commonMetadata_ok_of_ne_nil (by decide +kernel)⟩

/-! ### 10. resolutions -/

/-- the value of `_multi_gcd` divides every member (a fact about `_multi_gcd` only; the accessor-level statements
are `periodResolution_largest` and `evalDateResolution_spec`) -/
theorem resolution_dvd_all {xs : List Int} {r : Int} (h : multiGcd xs = .ok r) :
    ∀ x ∈ xs, r ∣ x := by
  obtain ⟨y, rest, hy, rfl⟩ := multiGcd_eq h
  obtain ⟨h1, h2⟩ := gcdFold_dvd rest y
  intro x hx
  have hx' : x ∈ dedup xs := mem_dedup.mpr hx
  rw [hy] at hx'
  rcases List.mem_cons.mp hx' with rfl | hx'
  · exact h1
  · exact h2 x hx'

/-- … and every common divisor of the members divides it: it is the greatest -/
theorem resolution_greatest {xs : List Int} {r : Int} (h : multiGcd xs = .ok r)
    (d : Int) (hd : ∀ x ∈ xs, d ∣ x) : d ∣ r := by
  obtain ⟨y, rest, hy, rfl⟩ := multiGcd_eq h
  have hd' : ∀ x ∈ y :: rest, d ∣ x := fun x hx => hd x (mem_dedup.mp (hy ▸ hx))
  exact dvd_gcdFold (hd' y (by simp)) fun x hx => hd' x (by simp [hx])

/-- the MODEL's expression for the gaps `period_resolution` divides (sorted set over `periods`) -/
def periodBoundaryGaps (t : List Cell) : List Int :=
  diffs (sortedDedup intCmp
    ((Triangle.periods t).map (fun p => monthToId p.1) ++ (Triangle.periods t).map (fun p => monthToId p.2 + 1)))

/-- **the gaps between period boundaries, from the CELLS**: month id of every cell's period start and month id
after every cell's period end, distinct values ascending, consecutive differences (`Spec.C13.gapsOf … true` of
`Spec.C13.periodBoundaries` — the expression the driver evaluates on the implementation's answer) -/
def periodMonthGaps (t : List Cell) : List Int := gapsOf (periodBoundaries t) true

/-- **the gaps between evaluation months, from the CELLS**: one month id per DISTINCT evaluation date (not per
distinct month), ascending, consecutive differences — two evaluation dates inside one month give a gap of 0 -/
def evalMonthGaps (t : List Cell) : List Int := gapsOf ((t.map (·.ev)).eraseDups.map monthToId) false

/-- the model's expression (sorted set over `periods`) is the cell-level one -/
theorem periodBoundaryGaps_eq_cells (t : List Cell) : periodBoundaryGaps t = periodMonthGaps t :=
  diffs_sortedDedup fun x => by
    rw [mem_periodBoundaries, List.mem_append, List.mem_map, List.mem_map]
    exact or_congr exists_mem_periods exists_mem_periods

/-- what `period_resolution` computes, case by case -/
theorem periodResolution_eq (t : List Cell) :
    Triangle.periodResolution t =
      if t = [] then .error .valueError
      else if (periodMonthGaps t).isEmpty then .ok none else (multiGcd (periodMonthGaps t)).map some := by
  rw [← periodBoundaryGaps_eq_cells]
  unfold Triangle.periodResolution
  cases t with
  | nil => simp [Triangle.periods, sortedDedup, dedup]
  | cons c0 rest =>
    rw [if_neg (List.cons_ne_nil _ _)]
    split
    · rename_i hp; exact absurd hp (periods_ne_nil (List.cons_ne_nil _ _))
    · rfl

/-- **`period_resolution` divides every gap between period boundaries (gaps from the cells), is positive, and is
the LARGEST such month count** -/
theorem periodResolution_largest {t : List Cell} {r : Int} (h : Triangle.periodResolution t = .ok (some r)) :
    0 < r ∧ (∀ g ∈ periodMonthGaps t, r ∣ g) ∧
    (∀ d : Int, (∀ g ∈ periodMonthGaps t, d ∣ g) → d ∣ r) ∧
    ∀ d : Int, (∀ g ∈ periodMonthGaps t, d ∣ g) → d ≤ r := by
  have ht : t ≠ [] := fun e => by rw [periodResolution_eq, if_pos e] at h; cases h
  rw [periodResolution_eq, if_neg ht] at h
  obtain ⟨hne, hg⟩ := resolution_some h
  have h0 : 0 ≤ r := multiGcd_nonneg (gapsOf_nonneg _ _) hg
  have h1 := resolution_dvd_all hg
  have h2 := resolution_greatest hg
  obtain ⟨g, hg⟩ := List.exists_mem_of_ne_nil _ (List.isEmpty_eq_false_iff.mp hne)
  have hpos : 0 < r := pos_of_dvd_pos h0 (h1 g hg) (gapsOf_pos _ g hg)
  exact ⟨hpos, h1, h2, fun d hd => Int.le_of_dvd hpos (h2 d hd)⟩

/-- **`period_resolution` is defined exactly when two period boundaries differ** (`None` when all boundaries
coincide, which needs `period_start` in the month after `period_end`; `ValueError` on the empty triangle) -/
theorem periodResolution_defined_iff {t : List Cell} (ht : t ≠ []) :
    (∃ r, Triangle.periodResolution t = .ok (some r)) ↔
      ∃ a ∈ periodBoundaries t, ∃ b ∈ periodBoundaries t, a ≠ b := by
  rw [periodResolution_eq, if_neg ht, ← gapsOf_true_ne_nil_iff]
  exact ⟨fun ⟨r, h⟩ => List.isEmpty_eq_false_iff.mp (resolution_some h).1, resolution_of_ne_nil⟩

/-- **`period_resolution` is defined (a positive month count) on every non-empty triangle of proper cells**
(valid dates, `period_start ≤ period_end` for at least one cell) -/
theorem periodResolution_defined {t : List Cell} {c : Cell} (hc : c ∈ t)
    (hv : c.ps.valid = true ∧ c.pe.valid = true ∧ c.ps ≤ c.pe) :
    ∃ r, Triangle.periodResolution t = .ok (some r) ∧ 0 < r := by
  have ht : t ≠ [] := List.ne_nil_of_mem hc
  obtain ⟨r, hr⟩ := (periodResolution_defined_iff ht).mpr
    ⟨monthToId c.ps, mem_periodBoundaries.mpr (Or.inl ⟨c, hc, rfl⟩),
     monthToId c.pe + 1, mem_periodBoundaries.mpr (Or.inr ⟨c, hc, rfl⟩),
     by have := monthToId_mono' hv.1 hv.2.1 hv.2.2; omega⟩
  exact ⟨r, hr, (periodResolution_largest hr).1⟩

/-- the model's expression (month ids of `evaluation_dates`, sorted, NOT deduplicated) is the cell-level one -/
theorem evalDiffs_eq_cells (t : List Cell) :
    diffs (((Triangle.evaluationDates t).map monthToId).mergeSort (fun a b => intCmp a b != .gt)) =
      evalMonthGaps t := by
  obtain ⟨hlt, hmem⟩ := evaluationDates_eq_sortedDedup t
  have hnd : (Triangle.evaluationDates t).Nodup := by
    refine hlt.imp ?_
    intro a b h e
    rw [e] at h; exact DateOrder.lt_irrefl _ h
  exact diffs_mergeSort ((perm_of_nodup_mem hnd (nodup_eraseDups _) fun d => by
    rw [hmem, List.mem_eraseDups, List.mem_map]).map monthToId)

/-- what `eval_date_resolution` computes, case by case: it never raises -/
theorem evalDateResolution_eq (t : List Cell) :
    Triangle.evalDateResolution t =
      if (evalMonthGaps t).isEmpty then .ok none else (multiGcd (evalMonthGaps t)).map some := by
  rw [← evalDiffs_eq_cells]; rfl

/-- **`eval_date_resolution` divides every gap between evaluation months (gaps from the cells: one month id per
distinct evaluation DATE), is non-negative, and every common divisor of the gaps divides it** — so it is the
largest common divisor whenever some gap is non-zero, and 0 when all gaps are 0 -/
theorem evalDateResolution_spec {t : List Cell} {r : Int} (h : Triangle.evalDateResolution t = .ok (some r)) :
    0 ≤ r ∧ (∀ g ∈ evalMonthGaps t, r ∣ g) ∧ ∀ d : Int, (∀ g ∈ evalMonthGaps t, d ∣ g) → d ∣ r := by
  rw [evalDateResolution_eq] at h
  obtain ⟨_, hg⟩ := resolution_some h
  exact ⟨multiGcd_nonneg (gapsOf_nonneg _ _) hg, resolution_dvd_all hg, resolution_greatest hg⟩

/-- **`eval_date_resolution` is `None` exactly when the cells carry at most one distinct evaluation date, and a
number otherwise** (it never raises, not even on the empty triangle) -/
theorem evalDateResolution_defined (t : List Cell) :
    ((t.map (·.ev)).eraseDups.length ≤ 1 → Triangle.evalDateResolution t = .ok none) ∧
    (2 ≤ (t.map (·.ev)).eraseDups.length → ∃ r, Triangle.evalDateResolution t = .ok (some r)) := by
  have hlen : (evalMonthGaps t).length = (t.map (·.ev)).eraseDups.length - 1 :=
    (gapsOf_length _ false).trans (congrArg (· - 1) (List.length_map _))
  rw [evalDateResolution_eq]
  constructor
  · intro h
    have : evalMonthGaps t = [] := List.eq_nil_of_length_eq_zero (by omega)
    simp [this]
  · intro h
    exact resolution_of_ne_nil fun e => by rw [e] at hlen; simp only [List.length_nil] at hlen; omega

/-- **the quirk**: when all evaluation dates lie in ONE calendar month and there are at least two distinct dates,
`eval_date_resolution` is 0 — not `None` and not a "month count that divides every gap between evaluation months"
in any useful sense (the month ids are sorted but not deduplicated, `date_utils.py:164-166`) -/
theorem evalDateResolution_same_month (t : List Cell) (m : Int) (hm : ∀ c ∈ t, monthToId c.ev = m)
    (h2 : ∃ a ∈ t, ∃ b ∈ t, a.ev ≠ b.ev) : Triangle.evalDateResolution t = .ok (some 0) := by
  have hlen : 2 ≤ (t.map (·.ev)).eraseDups.length := by
    obtain ⟨a, ha, b, hb, hab⟩ := h2
    exact two_le_length_of_mem_ne (List.mem_eraseDups.mpr (List.mem_map.mpr ⟨a, ha, rfl⟩))
      (List.mem_eraseDups.mpr (List.mem_map.mpr ⟨b, hb, rfl⟩)) hab
  obtain ⟨r, hr⟩ := (evalDateResolution_defined t).2 hlen
  have key : ∀ x ∈ (t.map (·.ev)).eraseDups.map monthToId, x = m := by
    intro x hx
    obtain ⟨d, hd, rfl⟩ := List.mem_map.mp hx
    obtain ⟨c, hc, rfl⟩ := List.mem_map.mp (List.mem_eraseDups.mp hd)
    exact hm c hc
  -- all month ids coincide, so 0 divides every difference of two of them
  have : (0 : Int) ∣ r := (evalDateResolution_spec hr).2.2 0 ((dvd_gapsOf_iff 0 _ false).mpr fun x hx y hy => by
    rw [key x hx, key y hy, Int.sub_self]; exact Int.dvd_refl 0)
  rw [Int.zero_dvd.mp this] at hr
  exact hr

/-- the quirk, on a concrete triangle: evaluations on 15 and 31 January only -/
example :
    Triangle.evalDateResolution
      [ { ps := ⟨2020, 1, 1⟩, pe := ⟨2020, 1, 31⟩, ev := ⟨2020, 1, 15⟩ },
        { ps := ⟨2020, 1, 1⟩, pe := ⟨2020, 1, 31⟩, ev := ⟨2020, 1, 31⟩ } ] = .ok (some 0) :=
  evalDateResolution_same_month _ 600 (by decide +kernel) (by decide +kernel)

/-- **the gaps between DISTINCT evaluation months, from the cells** (the literal reading of "between evaluation
months"): distinct month ids of the evaluation dates, ascending, consecutive differences -/
def evalDistinctMonthGaps (t : List Cell) : List Int := gapsOf ((t.map (·.ev)).map monthToId) true

theorem evalMonthGaps_divisors (t : List Cell) (d : Int) :
    (∀ g ∈ evalMonthGaps t, d ∣ g) ↔ (∀ g ∈ evalDistinctMonthGaps t, d ∣ g) := by
  rw [evalMonthGaps, evalDistinctMonthGaps, dvd_gapsOf_iff, dvd_gapsOf_iff]
  simp only [List.mem_map, List.mem_eraseDups]

/-- **outside the one-month quirk the words hold literally**: `eval_date_resolution` divides every gap between
DISTINCT evaluation months and every common divisor of those gaps divides it; when the evaluation dates span at
least two calendar months it is positive and the LARGEST month count dividing every such gap. (Gaps of 0 from two
dates in one month never change the common divisors; they only turn `None` into 0 when there is a single month.) -/
theorem evalDateResolution_distinct_months {t : List Cell} {r : Int}
    (h : Triangle.evalDateResolution t = .ok (some r)) :
    (∀ g ∈ evalDistinctMonthGaps t, r ∣ g) ∧
    (∀ d : Int, (∀ g ∈ evalDistinctMonthGaps t, d ∣ g) → d ∣ r) ∧
    ((∃ a ∈ t, ∃ b ∈ t, monthToId a.ev ≠ monthToId b.ev) →
      0 < r ∧ ∀ d : Int, (∀ g ∈ evalDistinctMonthGaps t, d ∣ g) → d ≤ r) := by
  obtain ⟨h0, h1, h2⟩ := evalDateResolution_spec h
  have h1' := (evalMonthGaps_divisors t r).mp h1
  have h2' : ∀ d : Int, (∀ g ∈ evalDistinctMonthGaps t, d ∣ g) → d ∣ r :=
    fun d hd => h2 d ((evalMonthGaps_divisors t d).mpr hd)
  refine ⟨h1', h2', ?_⟩
  rintro ⟨a, ha, b, hb, hab⟩
  -- some gap between distinct months exists; it is positive, and `r` divides it
  obtain ⟨g, hg⟩ := List.exists_mem_of_ne_nil _ ((gapsOf_true_ne_nil_iff _).mpr
    ⟨_, List.mem_map_of_mem (List.mem_map_of_mem ha), _, List.mem_map_of_mem (List.mem_map_of_mem hb), hab⟩)
  have hpos : 0 < r := pos_of_dvd_pos h0 (h1' g hg) (gapsOf_pos _ g hg)
  exact ⟨hpos, fun d hd => Int.le_of_dvd hpos (h2' d hd)⟩

/-! ### 11. experience_gaps: what the reported ranges mean on a disjoint triangle, and on any other -/

/-- **`experience_gaps` lists, for every two consecutive periods that are not contiguous, the day
range from the day after the first ends to the day before the second starts** -/
theorem experienceGaps_spec (t : List Cell) (g : Period) :
    g ∈ Triangle.experienceGaps t ↔
      ∃ pq ∈ adjacentPairs (Triangle.periods t), pq.2.1 ≠ pq.1.2.succ ∧ g = (pq.1.2.succ, pq.2.1.pred) := by
  simp only [experienceGaps_eq, List.mem_filterMap, gapF_eq_some_iff]

/-- proper cells: valid dates and `period_start ≤ period_end` (the cell constructor's rule) -/
def ProperCells (t : List Cell) : Prop := ∀ c ∈ t, c.ps.valid = true ∧ c.pe.valid = true ∧ c.ps ≤ c.pe

private theorem periods_proper_apart {t : List Cell} (hv : ProperCells t) (hd : Triangle.isDisjoint t = true) :
    (∀ p ∈ Triangle.periods t, ProperP p) ∧ (Triangle.periods t).Pairwise (fun a b => a.2 < b.1) :=
  ⟨forall_mem_periods.mpr hv, (isDisjoint_iff_apart fun c hc => (hv c hc).2.2).mp hd⟩

/-- **on a disjoint triangle every reported gap is a non-empty day range that shares no day with any cell's
period, starts the day after some period ends and ends the day before some period starts** -/
theorem experienceGaps_sound {t : List Cell} (hv : ProperCells t) (hd : Triangle.isDisjoint t = true)
    {g : Period} (hg : g ∈ Triangle.experienceGaps t) :
    g.1 ≤ g.2 ∧ (∀ c ∈ t, overlap c.period g = false) ∧ (∃ c ∈ t, c.pe.succ = g.1) ∧ (∃ c ∈ t, c.ps.pred = g.2) := by
  obtain ⟨hvp, hp⟩ := periods_proper_apart hv hd
  rw [experienceGaps_eq] at hg
  obtain ⟨h1, h2, h3, h4⟩ := gaps_sound hvp hp hg
  exact ⟨h1, fun c hc => overlap_eq_false_iff.mpr (forall_mem_periods.mp h2 c hc), exists_mem_periods.mp h3,
    exists_mem_periods.mp h4⟩

/-- **the gaps are complete on a disjoint triangle**: every day from the earliest period start to the latest
period end lies in some cell's period or in a reported gap (and, by `experienceGaps_sound`, never in both) -/
theorem experienceGaps_complete {t : List Cell} (hv : ProperCells t) (hd : Triangle.isDisjoint t = true)
    {d : Date} (hdv : d.valid = true) (h1 : ∃ c ∈ t, c.ps ≤ d) (h2 : ∃ c ∈ t, d ≤ c.pe) :
    (∃ c ∈ t, c.ps ≤ d ∧ d ≤ c.pe) ∨ ∃ g ∈ Triangle.experienceGaps t, g.1 ≤ d ∧ d ≤ g.2 := by
  obtain ⟨hvp, hp⟩ := periods_proper_apart hv hd
  rw [experienceGaps_eq]
  exact (gaps_complete hvp hp hdv (exists_mem_periods.mpr h1) (exists_mem_periods.mpr h2)).imp_left
    exists_mem_periods.mp

/-- the gaps are strictly ascending (by their first day) on a disjoint triangle -/
theorem experienceGaps_ascending {t : List Cell} (hv : ProperCells t) (hd : Triangle.isDisjoint t = true) :
    (Triangle.experienceGaps t).Pairwise (fun g g' => g.1 < g'.1) := by
  obtain ⟨hvp, hp⟩ := periods_proper_apart hv hd
  rw [experienceGaps_eq]
  exact gaps_ascending hvp hp

/-- **the deviation for overlapping periods**: when two neighbouring periods (in `periods` order) share a day, the
reported "gap" between them is an INVERTED range (`start > end`) — `experience_gaps` does not check `is_disjoint` -/
theorem experienceGaps_inverted_of_overlap {t : List Cell} {pq : Period × Period}
    (hpq : pq ∈ adjacentPairs (Triangle.periods t)) (hov : pq.2.1 ≤ pq.1.2) :
    (pq.1.2.succ, pq.2.1.pred) ∈ Triangle.experienceGaps t ∧ pq.2.1.pred < pq.1.2.succ := by
  have h1 : pq.2.1.pred < pq.2.1 := Date.pred_lt' _
  have h2 : pq.1.2 < pq.1.2.succ := Date.lt_succ' _
  have h3 : pq.2.1 < pq.1.2.succ := DateOrder.lt_of_le_of_lt hov h2
  refine ⟨(experienceGaps_spec t _).mpr ⟨pq, hpq, ?_, rfl⟩, ?_⟩
  · intro e; rw [e] at h3; exact DateOrder.lt_irrefl _ h3
  · exact DateOrder.lt_trans h1 h3

/-- **an inverted range is reported exactly when the triangle is not disjoint** (proper cells): on a disjoint
triangle every gap has `start ≤ end`; otherwise some reported "gap" has `end < start` -/
theorem experienceGaps_inverted_iff {t : List Cell} (hv : ProperCells t) :
    (∃ g ∈ Triangle.experienceGaps t, g.2 < g.1) ↔ Triangle.isDisjoint t = false := by
  constructor
  · rintro ⟨g, hg, hlt⟩
    cases hd : Triangle.isDisjoint t with
    | false => rfl
    | true =>
      have := (experienceGaps_sound hv hd hg).1
      exact absurd this (DateOrder.not_le.mpr hlt)
  · intro hd
    unfold Triangle.isDisjoint at hd
    split at hd
    · cases hd
    · obtain ⟨pq, hpq, hov⟩ := List.all_eq_false.mp hd
      have hov : pq.2.1 ≤ pq.1.2 := by simpa using hov
      obtain ⟨h1, h2⟩ := experienceGaps_inverted_of_overlap hpq hov
      exact ⟨_, h1, h2⟩

/-- a year and a quarter inside it (one slice) -/
def exOverlap : List Cell :=
  [ { ps := ⟨2020, 1, 1⟩, pe := ⟨2020, 12, 31⟩, ev := ⟨2020, 12, 31⟩ },
    { ps := ⟨2020, 4, 1⟩, pe := ⟨2020, 6, 30⟩, ev := ⟨2020, 12, 31⟩ } ]

private theorem exOverlap_periods :
    Triangle.periods exOverlap = [(⟨2020, 1, 1⟩, ⟨2020, 12, 31⟩), (⟨2020, 4, 1⟩, ⟨2020, 6, 30⟩)] := by
  unfold Triangle.periods sortedDedup
  have : dedup (exOverlap.map Cell.period) =
      [(⟨2020, 1, 1⟩, ⟨2020, 12, 31⟩), (⟨2020, 4, 1⟩, ⟨2020, 6, 30⟩)] := by decide +kernel
  rw [this]
  exact List.mergeSort_of_pairwise (by decide +kernel)

/-- witness of the deviation: the reported "gap" runs from 2021-01-01 BACK to 2020-03-31 -/
theorem exOverlap_gaps : Triangle.experienceGaps exOverlap = [(⟨2021, 1, 1⟩, ⟨2020, 3, 31⟩)] := by
  unfold Triangle.experienceGaps
  rw [exOverlap_periods]
  decide +kernel

/-! ### 12. Spec bridges: the model's answers satisfy the predicates the driver evaluates on the implementation -/

theorem spec_sortedDistinct_periods (t : List Cell) :
    sortedDistinct periodCmp (t.map Cell.period) (Triangle.periods t) = true :=
  sortedDistinct_sortedDedup (fun _ _ => periodCmp_eq_eq) _

theorem spec_sortedDistinct_evaluationDates (t : List Cell) :
    sortedDistinct Date.cmp (t.map (·.ev)) (Triangle.evaluationDates t) = true :=
  sortedDistinct_sortedDedup (fun _ _ => Date.cmp_eq_eq.mp) _

theorem spec_sortedDistinct_devLags (t : List Cell) (u : LagUnit) :
    ∃ l, Triangle.devLags t (some u) = .ok l ∧ sortedDistinct ratCmp (t.map (·.devLag u)) l = true :=
  ⟨_, rfl, sortedDistinct_sortedDedup (fun _ _ => ratCmp_eq_eq.mp) _⟩

theorem spec_sortedDistinct_fields (t : List Cell) :
    sortedDistinct strCmp (t.flatMap (·.values.keys)) (Triangle.fields t) = true :=
  sortedDistinct_sortedDedup (fun a b h => by simpa [strCmp] using h) _

theorem spec_sortedDistinct_metadata (t : List Cell) (hc : ∀ c ∈ t, c.md.Canon) :
    sortedDistinct Metadata.cmp (t.map (·.md)) (Triangle.metadata t) = true := by
  obtain ⟨h1, h2⟩ := metadata_eq_sortedDedup t hc
  exact sortedDistinct_of h1 (fun p => by rw [h2, List.mem_map])

theorem spec_countsSpec_cells (t : List Cell) :
    countsSpec (fun (c : Cell) => c.values.keys) t (t.flatMap (·.values.keys)) (Triangle.fieldCellCounts t) = true := by
  rw [fieldCellCounts_eq_countP]
  simp only [countsSpec, Bool.and_eq_true, List.map_map, List.all_map, List.all_eq_true]
  refine ⟨?_, fun f _ => by simp⟩
  have : ((fun (x : String × Nat) => x.1) ∘ fun f => (f, t.countP fun c => c.values.keys.contains f)) = id := rfl
  rw [this, List.map_id]
  exact spec_sortedDistinct_fields t

theorem spec_countsSpec_slices (t : List Cell) :
    countsSpec (fun (m : Metadata) => (t.filter (·.md == m)).flatMap (·.values.keys))
      (t.map (·.md)).eraseDups (t.flatMap (·.values.keys)) (Triangle.fieldSliceCounts t) = true := by
  rw [fieldSliceCounts_eq_countP]
  simp only [countsSpec, Bool.and_eq_true, List.map_map, List.all_map, List.all_eq_true]
  constructor
  · have : ((fun (x : String × Nat) => x.1) ∘ fun f =>
        (f, (Triangle.slices t).countP fun slc => (Triangle.fields slc.2).contains f)) = id := rfl
    rw [this, List.map_id]
    exact spec_sortedDistinct_fields t
  · intro f _
    simp only [Function.comp, beq_iff_eq]
    unfold Triangle.slices
    rw [List.countP_map]
    have hp : (metasOf t).Perm (t.map (·.md)).eraseDups := by
      apply perm_of_nodup_mem (metasOf_nodup t) (nodup_eraseDups _)
      intro m
      rw [List.mem_eraseDups, List.mem_map, mem_metasOf]
    rw [← hp.countP_eq]
    apply List.countP_congr
    intro m _
    simp only [Function.comp, List.contains_iff_mem]
    rw [(fields_eq_sortedDedup _).2 f]
    simp only [List.mem_flatMap, (List.mergeSort_perm _ _).mem_iff]

/-- Spec bridge for `evaluation_date` (the inline predicate of the driver: present in the cells, no later one) -/
theorem spec_evaluationDate {t : List Cell} {d : Date} (h : Triangle.evaluationDate t = .ok d) :
    (t.any (·.ev == d) && t.all (·.ev ≤ d)) = true := by
  obtain ⟨h0, h1⟩ := evaluationDate_spec t
  have ht : t ≠ [] := by
    intro e; rw [h0 e] at h; cases h
  obtain ⟨d', hd', ⟨c, hc, hcd⟩, hle⟩ := h1 ht
  rw [hd'] at h; cases h
  simp only [Bool.and_eq_true, List.any_eq_true, List.all_eq_true, beq_iff_eq, decide_eq_true_eq]
  exact ⟨⟨c, hc, hcd⟩, hle⟩

/-- `num_samples` answer of the model in the shape the driver hands to `numSamplesSpec` (`none` = refused) -/
def numSamplesOut (t : List Cell) : Option Nat :=
  match Triangle.numSamples t with
  | .ok n => some n
  | .error _ => none

theorem spec_numSamplesSpec (t : List Cell) : numSamplesSpec t (numSamplesOut t) = true := by
  -- the Spec's list of sizes is the loop's, and the closed form of the loop decides by its first member
  have hS : (t.flatMap fun c => c.values.filterMap (·.2.sampleSize)) =
      (t.flatMap fun c => c.values.map (·.2)).filterMap (·.sampleSize) := by
    simp only [List.filterMap_flatMap, List.filterMap_map]; rfl
  unfold numSamplesSpec numSamplesOut Triangle.numSamples
  rw [hS, numSamples_fold, Option.toList_none, List.nil_append]
  cases (t.flatMap fun c => c.values.map (·.2)).filterMap (·.sampleSize) with
  | nil => rfl
  | cons k rest =>
    rw [List.eraseDups_cons]
    simp only []
    by_cases h : ∀ n ∈ rest, n = k
    · rw [if_pos h, List.filter_eq_nil_iff.mpr fun n hn => by simp [h n hn]]
      simp [ok_bind, pure_eq_ok]
    · rw [if_neg h]
      -- a size other than the first survives the filter, so the Spec sees two distinct sizes
      cases hf : rest.filter (fun b => !b == k) with
      | nil => exact absurd (fun n hn => by simpa using List.filter_eq_nil_iff.mp hf n hn) h
      | cons x r => rw [List.eraseDups_cons]; rfl

theorem spec_commonSpec {t : List Cell} {c : Metadata} (h : Triangle.commonMetadata t = .ok c)
    (hk : ∀ m ∈ Triangle.metadata t, KeysDistinct m.details ∧ KeysDistinct m.lossDetails) :
    commonSpec (t.map (·.md)).eraseDups c = true := by
  obtain ⟨⟨a1, a2, a3, a4, a5, a6⟩, d1, d2⟩ := common_keeps_exactly_shared h hk
  have conv : ∀ {P : Metadata → Prop}, (∀ m ∈ Triangle.metadata t, P m) ↔ ∀ m ∈ (t.map (·.md)).eraseDups, P m :=
    fun {P} => ⟨fun h m hm => h m ((mem_metadata_iff t m).mpr hm), fun h m hm => h m ((mem_metadata_iff t m).mp hm)⟩
  simp only [commonSpec, Bool.and_eq_true]
  refine ⟨⟨⟨⟨⟨⟨⟨?_, ?_⟩, ?_⟩, ?_⟩, ?_⟩, ?_⟩, ?_⟩, ?_⟩
  · exact optAttr_of_iff (·.riskBasis) _ c (fun x => (a1 x).trans conv)
  · exact optAttr_of_iff (·.country) _ c (fun x => (a2 x).trans conv)
  · exact optAttr_of_iff (·.currency) _ c (fun x => (a3 x).trans conv)
  · exact optAttr_of_iff (·.reinsuranceBasis) _ c (fun x => (a4 x).trans conv)
  · exact optAttr_of_iff (·.lossDefinition) _ c (fun x => (a5 x).trans conv)
  · exact optAttr_of_iff (·.limit) _ c (fun x => (a6 x).trans conv)
  · exact dictShared_of_iff (·.details) _ c (fun kv => (d1 kv).trans conv)
  · exact dictShared_of_iff (·.lossDetails) _ c (fun kv => (d2 kv).trans conv)

theorem spec_recombineSpec {t : List Cell} {c : Metadata} {ds : List Metadata}
    (h : Triangle.commonMetadata t = .ok c) (hd : Triangle.metadataDifferences t = .ok ds)
    (hc : ∀ m ∈ Triangle.metadata t, m.Canon) :
    recombineSpec (Triangle.metadata t) c ds = true := by
  rw [metadataDifferences_eq_map h] at hd
  cases hd
  have hk : ∀ m ∈ Triangle.metadata t, KeysDistinct m.details ∧ KeysDistinct m.lossDetails :=
    fun m hm => ⟨keysDistinct_of_canon (hc m hm).1, keysDistinct_of_canon (hc m hm).2⟩
  unfold recombineSpec
  rw [zip_map_all]
  simp only [List.length_map, beq_self_eq_true, Bool.true_and, List.all_eq_true, Bool.and_eq_true, beq_iff_eq,
    Bool.not_eq_true']
  intro m hm
  obtain ⟨_, _, d3, d4⟩ := recombine_diff_details h hk hm
  refine ⟨⟨recombine_diff h hc hm, fun kv hkv => ?_⟩, fun kv hkv => ?_⟩
  · rw [keys_contains_eq]; exact d3 kv hkv
  · rw [keys_contains_eq]; exact d4 kv hkv

/-- Spec bridge: the model satisfies the predicate the driver evaluates on the implementation's answer -/
theorem spec_isSlicewiseDisjoint (t : List Cell) (hv : ∀ c ∈ t, c.ps ≤ c.pe) :
    slicewiseDisjointSpec t (Triangle.isSlicewiseDisjoint t) = true := by
  unfold slicewiseDisjointSpec
  rw [isSlicewiseDisjoint_eq_spec t hv]; exact beq_self_eq_true _

/-- the shape shared by the two resolutions meets the shape shared by their Spec predicates, for any gap list -/
theorem resolutionSpec_of_model {gaps : List Int} {r : Option Int} (hnn : ∀ g ∈ gaps, 0 ≤ g)
    (h : (if gaps.isEmpty then Except.ok none else (multiGcd gaps).map some) = .ok r) :
    (match (generalizing := false) r with
      | none => gaps.isEmpty
      | some r => !gaps.isEmpty && resolutionSpec gaps r) = true := by
  cases r with
  | none => exact resolution_none h
  | some r =>
    obtain ⟨hne, hg⟩ := resolution_some h
    simp only [hne, Bool.not_false, Bool.true_and]
    exact resolutionSpec_of (multiGcd_nonneg hnn hg) (resolution_dvd_all hg) (resolution_greatest hg)

theorem spec_periodResolutionSpec {t : List Cell} {r : Option Int} (h : Triangle.periodResolution t = .ok r) :
    periodResolutionSpec t r = true := by
  have ht : t ≠ [] := fun e => by rw [periodResolution_eq, if_pos e] at h; cases h
  rw [periodResolution_eq, if_neg ht] at h
  exact resolutionSpec_of_model (gapsOf_nonneg _ _) h

theorem spec_evalResolutionSpec {t : List Cell} {r : Option Int} (h : Triangle.evalDateResolution t = .ok r) :
    evalResolutionSpec t r = true := by
  rw [evalDateResolution_eq] at h
  exact resolutionSpec_of_model (gapsOf_nonneg _ _) h

/-- Spec bridge for `experience_gaps` (the driver evaluates `gapsSpec` whenever `Spec.disjoint t`) -/
theorem spec_gapsSpec {t : List Cell} (hv : ProperCells t) (hd : Triangle.isDisjoint t = true) :
    gapsSpec t (Triangle.experienceGaps t) = true := by
  obtain ⟨hvp, hp⟩ := periods_proper_apart hv hd
  simp only [gapsSpec, Bool.and_eq_true, List.all_eq_true, List.any_eq_true, Bool.or_eq_true, decide_eq_true_eq,
    beq_iff_eq, Bool.not_eq_true', mem_map_period]
  refine ⟨⟨?_, fun g hg => ?_⟩, fun p hpm => or_assoc.mpr (gaps_open hvp hp p hpm)⟩
  · apply strictAsc_of_pairwise
    refine (gaps_ascending hvp hp).imp ?_
    intro g g' h
    rw [periodCmp_lt_iff]; exact Or.inl h
  · obtain ⟨h1, h2, h3, h4⟩ := gaps_sound hvp hp hg
    exact ⟨⟨⟨h1, h3⟩, h4⟩, fun p hpm => overlap_eq_false_iff.mpr (h2 p hpm)⟩

/-- the bridge in exactly the form the driver evaluates (`Drv/C13.lean`: `!disjoint t || gapsSpec t out`) -/
theorem spec_gapsSpec_driver {t : List Cell} (hv : ProperCells t) :
    (!disjoint t || gapsSpec t (Triangle.experienceGaps t)) = true :=
  not_or_eq_true.mpr fun hd => spec_gapsSpec hv ((isDisjoint_eq_spec t fun c hc => (hv c hc).2.2).trans hd)

/-! ### more non-vacuity: a regular triangle with a resolution; details that are shared / not shared -/

private theorem exT_periodMonthGaps : periodMonthGaps exT = [12, 12] := by
  have : (periodBoundaries exT).eraseDups = [600, 612, 624] := by decide +kernel
  rw [periodMonthGaps, gapsOf_true, this, List.mergeSort_of_pairwise (by decide +kernel)]
  decide +kernel

/-- `exT` (two yearly periods) has period resolution 12 -/
theorem exT_periodResolution : Triangle.periodResolution exT = .ok (some 12) := by
  rw [periodResolution_eq, exT_periodMonthGaps, if_neg (by decide +kernel)]
  rfl

/-- `exT` is regular (hence semi-regular and disjoint) in months -/
theorem exT_regular : Triangle.isRegular exT (some .month) = .ok true := by
  rw [isRegular_iff_const_spacing exT .month (by decide +kernel)]
  congr 1
  decide +kernel

def exMdA : Metadata :=
  { country := some "US", details := [("coverage", .str "BI"), ("lob", .str "auto")],
    lossDetails := [("peril", .str "wind")] }

def exMdB : Metadata :=
  { country := some "US", currency := some "USD", details := [("coverage", .str "PD"), ("lob", .str "auto")] }

/-- two slices whose details share `lob` and differ in `coverage`; only one has a loss detail / a currency -/
def exD : List Cell :=
  [ { ps := ⟨2020, 1, 1⟩, pe := ⟨2020, 12, 31⟩, ev := ⟨2020, 12, 31⟩, values := [("paid_loss", .int 1)], md := exMdA },
    { ps := ⟨2020, 1, 1⟩, pe := ⟨2020, 12, 31⟩, ev := ⟨2020, 12, 31⟩, values := [("paid_loss", .int 2)], md := exMdB } ]

private theorem exD_metadata : Triangle.metadata exD = [exMdA, exMdB] := by
  unfold Triangle.metadata
  have : metasOf exD = [exMdA, exMdB] := by decide +kernel
  rw [this]
  exact List.mergeSort_of_pairwise (by decide +kernel)

/-- non-vacuity of the details clauses: the hypotheses hold, the shared item `lob` (and the shared attributes) are
kept, `coverage`, `peril` and `currency` are not -/
theorem exD_common :
    (∀ c ∈ exD, c.md.Canon) ∧
    Triangle.commonMetadata exD =
      .ok { country := some "US", details := [("lob", .str "auto")] } := by
  refine ⟨by decide +kernel, ?_⟩
  rw [commonMetadata_eq, exD_metadata]
  rfl

theorem exD_differences :
    Triangle.metadataDifferences exD = .ok
      [ { riskBasis := none, details := [("coverage", .str "BI")], lossDetails := [("peril", .str "wind")] },
        { riskBasis := none, currency := some "USD", details := [("coverage", .str "PD")] } ] := by
  rw [metadataDifferences_eq_map exD_common.2, exD_metadata]
  rfl

private theorem exT_evalMonthGaps : evalMonthGaps exT = [12] := by
  have : ((exT.map (·.ev)).eraseDups.map monthToId) = [611, 623] := by decide +kernel
  rw [evalMonthGaps, gapsOf_false, this, List.mergeSort_of_pairwise (by decide +kernel)]
  decide +kernel

/-- `exT` (evaluated at two consecutive year ends) has evaluation-date resolution 12 -/
theorem exT_evalDateResolution : Triangle.evalDateResolution exT = .ok (some 12) := by
  rw [evalDateResolution_eq, exT_evalMonthGaps]
  rfl

end Bermuda.Properties.C13
