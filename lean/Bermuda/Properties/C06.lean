/-
C06 — The .trib byte layout is the documented v1 format and stays readable.
Only property theorems live here. `Codec.encode` is the independent encoder written from the layout
comment of `binary_output.py`; every constant it uses comes from `Bermuda.Generated.Binary`, which
is regenerated from `/repo` on every run — a change made symmetrically to writer and reader
(tag values, magic, version, a `struct` format) is invisible to any round trip but changes the
generated tables and breaks `encode_layout_v1` / `encode_formats_v1` below. There are two format tables:
the sets of `Generated.BinaryFormats` are OBSERVED at run time, so a refactoring that writes the same bytes
through the same formats (precompiled Structs, helpers, renamed functions) leaves them unchanged
(`encode_formats_v1`); the per-function table `writerFormats` / `readerFormats` of `Generated.Binary` is
extracted from the source text (`formats_per_function_v1`).
-/
import Bermuda.Lemmas.CodecSpec
import Bermuda.Lemmas.CodecPy
import Bermuda.Lemmas.CodecLiteral
import Bermuda.Spec.C06
import Bermuda.Lemmas.CodecGolden
import Bermuda.Properties.C01
import Bermuda.Generated.BinaryFormats
namespace Bermuda.Properties.C06
open Bermuda Bermuda.Codec
open Bermuda.Generated.Binary

/-! ### 1. the constants and field formats are the literal v1 ones -/

/-- magic `0x0136AF` as `<L`, version 1, type tags `0x80..0x88`, record tags `0x10..0x13` -/
theorem encode_layout_v1 :
    Generated.Binary.ok = true ∧
    magicBytes = [0xAF, 0x36, 0x01, 0x00] ∧ versionBytes = [0x01] ∧
    stringBytes = [0x80] ∧ intBytes = [0x81] ∧ floatBytes = [0x82] ∧ boolBytes = [0x83] ∧
    noneBytes = [0x84] ∧ dateBytes = [0x85] ∧ int_arrayBytes = [0x86] ∧ float_arrayBytes = [0x87] ∧
    dict_endBytes = [0x88] ∧
    metadataBytes = [0x10] ∧ cellBytes = [0x11] ∧ cumulative_cellBytes = [0x12] ∧
    incremental_cellBytes = [0x13] := by
  decide

/-- The `struct` formats the writer and the reader ACTUALLY USE — observed dynamically by
`harness/translate_c06.py` (a recording proxy in place of the `struct` module while probe triangles
covering every value kind, cell class and metadata form are written and read; independent of how
the source spells the calls: `struct.pack(fmt, …)`, precompiled `Struct(fmt).pack`, helper
functions, renamed private functions) — are the little-endian fixed-width v1 ones: `<h`/`<H`
two-byte lengths and indexes, `<hBB` dates, `<q` ints, `<d` floats, `<B` ndim, `<L` dims, `?` bools;
and per probe: an empty file needs only the pool count (written `<h`, read `<H`), ints bring `<q`,
bools `?`, arrays `<B` and `<L` (a 0-d array no `<L`), dates and strings nothing new. A width,
signedness or endianness change on either side — also one made symmetrically — changes this table. -/
theorem encode_formats_v1 :
    Generated.BinaryFormats.ok = true ∧
    Generated.BinaryFormats.writerFormatSet = ["<B", "<H", "<L", "<d", "<h", "<hBB", "<q", "?"] ∧
    Generated.BinaryFormats.readerFormatSet = ["<B", "<H", "<L", "<d", "<h", "<hBB", "<q", "?"] ∧
    Generated.BinaryFormats.probeFormats =
      [("empty triangle", ["<h"], ["<H"]),
       ("cell without values", ["<H", "<d", "<h", "<hBB"], ["<H", "<d", "<h", "<hBB"]),
       ("int value", ["<H", "<d", "<h", "<hBB", "<q"], ["<H", "<d", "<h", "<hBB", "<q"]),
       ("large int value", ["<H", "<d", "<h", "<hBB", "<q"], ["<H", "<d", "<h", "<hBB", "<q"]),
       ("negative int value", ["<H", "<d", "<h", "<hBB", "<q"], ["<H", "<d", "<h", "<hBB", "<q"]),
       ("float value", ["<H", "<d", "<h", "<hBB"], ["<H", "<d", "<h", "<hBB"]),
       ("bool value", ["<H", "<d", "<h", "<hBB", "?"], ["<H", "<d", "<h", "<hBB", "?"]),
       ("None value", ["<H", "<d", "<h", "<hBB"], ["<H", "<d", "<h", "<hBB"]),
       ("int64 array", ["<B", "<H", "<L", "<d", "<h", "<hBB"], ["<B", "<H", "<L", "<d", "<h", "<hBB"]),
       ("float64 array", ["<B", "<H", "<L", "<d", "<h", "<hBB"], ["<B", "<H", "<L", "<d", "<h", "<hBB"]),
       ("0-d array", ["<B", "<H", "<d", "<h", "<hBB"], ["<B", "<H", "<d", "<h", "<hBB"]),
       ("CumulativeCell", ["<H", "<d", "<h", "<hBB", "<q"], ["<H", "<d", "<h", "<hBB", "<q"]),
       ("IncrementalCell", ["<H", "<d", "<h", "<hBB", "<q"], ["<H", "<d", "<h", "<hBB", "<q"]),
       ("metadata strings, None strings and limit", ["<H", "<d", "<h", "<hBB", "<q"],
        ["<H", "<d", "<h", "<hBB", "<q"]),
       ("details of every kind", ["<H", "<d", "<h", "<hBB", "<q", "?"], ["<H", "<d", "<h", "<hBB", "<q", "?"]),
       ("two slices", ["<H", "<d", "<h", "<hBB", "<q"], ["<H", "<d", "<h", "<hBB", "<q"])] := by
  decide +kernel

/-- the model's constants are those bytes -/
theorem model_constants_v1 :
    K.magic = [0xAF, 0x36, 0x01, 0x00] ∧ K.version = [0x01] ∧
    K.tString = 0x80 ∧ K.tInt = 0x81 ∧ K.tFloat = 0x82 ∧ K.tBool = 0x83 ∧ K.tNone = 0x84 ∧
    K.tDate = 0x85 ∧ K.tIntArr = 0x86 ∧ K.tFltArr = 0x87 ∧ K.tDictEnd = 0x88 ∧
    K.tMetadata = 0x10 ∧ K.tCell = 0x11 ∧ K.tCumulative = 0x12 ∧ K.tIncremental = 0x13 :=
  ⟨header_bytes.1, header_bytes.2, tags⟩

theorem tags_distinct :
    [K.tString, K.tInt, K.tFloat, K.tBool, K.tNone, K.tDate, K.tIntArr, K.tFltArr, K.tDictEnd,
     K.tMetadata, K.tCell, K.tCumulative, K.tIncremental].Nodup := by
  decide

theorem dictEnd_not_value_tag :
    K.tDictEnd ∉ [K.tString, K.tInt, K.tFloat, K.tBool, K.tNone, K.tDate, K.tIntArr, K.tFltArr] := by
  decide

/-! ### 2. the bytes of a file: header, pool, records; little-endian fixed-width fields -/

/-- every file starts with `AF 36 01 00 01` -/
theorem encode_header (t : RawTriangle) : (encode t).take 5 = [0xAF, 0x36, 0x01, 0x00, 0x01] := by
  simp [encode, header_bytes]

/-- after the header: the `<h` pool count, the pool strings (`<H` length + UTF-8 bytes) in pool
order, then the records -/
theorem encode_structure (t : RawTriangle) :
    encode t = [0xAF, 0x36, 0x01, 0x00, 0x01] ++ intLE 2 (poolOf t).length ++
      (poolOf t).flatMap (fun s => natLE 2 s.length ++ s) ++ writeRecords (poolOf t) none t := by
  simp [encode, header_bytes, writePool, writeStr]

/-- the string pool is sorted: strictly ascending in UTF-8 byte order (= code point order), with an
unused empty placeholder before every key that would land on an index whose low byte is `0x88` -/
theorem pool_sorted (t : RawTriangle) :
    (sortedKeys t).Pairwise (fun a b => bytesLe a b = true ∧ a ≠ b) ∧
    poolOf t = padPool (sortedKeys t) 0 ∧
    (∀ k ks n, padPool (k :: ks) n =
      if n % 256 = 0x88 then [] :: k :: padPool ks (n + 2) else k :: padPool ks (n + 1)) := by
  refine ⟨sortedKeys_sorted t, rfl, ?_⟩
  intro k ks n
  simp [padPool, dictEnd_toNat]

/-- field widths: dates 4 bytes, ints 8 bytes after the tag byte, dims 4 bytes each -/
theorem field_widths (d : Date) (i : Int) (n : Nat) :
    (writeDate d).length = 4 ∧ (writeVal (.int i)).length = 9 ∧ (natLE 4 n).length = 4 ∧
    (writeVal (.date d)).length = 5 ∧ (writeVal .none).length = 1 ∧
    (∀ b, (writeVal (.bool b)).length = 2) := by
  refine ⟨writeDate_length d, ?_, natLE_length 4 n, ?_, rfl, fun b => rfl⟩
  · simp [writeVal, intLE, natLE_length]
  · simp [writeVal, writeDate_length]

/-- little-endian: the low byte comes first -/
theorem little_endian (n : Nat) :
    natLE 2 n = [UInt8.ofNat (n % 256), UInt8.ofNat (n / 256 % 256)] := rfl

/-- a metadata record (`0x10`) is written only when the metadata differs from the previous cell's -/
theorem metadata_record_only_on_change (pool : List Bytes) (c : RawCell) (cs : List RawCell) :
    writeRecords pool (some c.md) (c :: cs) =
      (kindTag c.kind :: writeCellBody pool c) ++ writeRecords pool (some c.md) cs ∧
    (∀ prev, prev ≠ some c.md → writeRecords pool prev (c :: cs) =
      (0x10 :: writeMetaBody pool c.md) ++
        ((kindTag c.kind :: writeCellBody pool c) ++ writeRecords pool (some c.md) cs)) := by
  constructor
  · simp [writeRecords]
  · intro prev hp
    simp [writeRecords, hp, tags]

/-- the same clause for the writer as it really decides (`prev_metadata != cell.metadata`, Python's
`Metadata.__eq__`: details compared as dicts, numbers by value): cells whose Metadata objects are `==`
— even when their details were filled in another key order or hold `1` vs `1.0` — share ONE record,
which carries the representation of the first cell of the run -/
theorem metadata_record_only_on_python_change (pool : List Bytes) (prev : Option RawMetadata)
    (c : RawCell) (cs : List RawCell) :
    (pyChanged prev c.md = false → writeRecordsPy pool prev (c :: cs) =
      (kindTag c.kind :: writeCellBody pool c) ++ writeRecordsPy pool (some c.md) cs) ∧
    (pyChanged prev c.md = true → writeRecordsPy pool prev (c :: cs) =
      (0x10 :: writeMetaBody pool c.md) ++
        ((kindTag c.kind :: writeCellBody pool c) ++ writeRecordsPy pool (some c.md) cs)) := by
  constructor <;> intro h <;> simp [writeRecordsPy_cons, h, tags]

/-- the file holds exactly one `0x10` record per metadata change along the cell sequence: the
Spec predicate the driver runs on the IMPLEMENTATION's bytes holds for the model's bytes -/
theorem records_on_change (t : RawTriangle) (h : wf t = true) :
    fileMetaRecords (encodePy t) = .ok (metaChanges none t) ∧
    Spec.C06.recordsOnChange t (encodePy t) = true :=
  have e := fileMetaRecords_encodePy t h
  ⟨e, by simp only [Spec.C06.recordsOnChange, e, beq_self_eq_true]⟩

/-- on coherent triangles (adjacent metadata Python-equal exactly when identical — the domain of
the round-trip theorems) the writer-as-written produces the bytes of `encode` -/
theorem encodePy_eq_encode_of_coherent (t : RawTriangle) (h : coherent t = true) :
    encodePy t = encode t := encodePy_eq_encode t h

/-- Python's equality sees through the representation: `1 == 1.0 == True`, `0.0 == -0.0`, dict order -/
example : pyValEq (.int 1) (.flt [0, 0, 0, 0, 0, 0, 240, 63]) = true ∧ pyValEq (.bool true) (.int 1) = true ∧
    pyValEq (.flt [0, 0, 0, 0, 0, 0, 0, 0]) (.flt [0, 0, 0, 0, 0, 0, 0, 128]) = true ∧
    pyValEq (.int 1) (.str [49]) = false ∧
    pyDictEq [([97], .int 1), ([98], .none)] [([98], .none), ([97], .flt [0, 0, 0, 0, 0, 0, 240, 63])] = true := by
  decide +kernel

/-- the first cell always carries its metadata record -/
theorem first_cell_has_metadata (pool : List Bytes) (c : RawCell) (cs : List RawCell) :
    (writeRecords pool none (c :: cs)).head? = some 0x10 := by
  simp [writeRecords, tags]

/-! ### 3. an independent decoder recovers the triangle; an independently encoded file is read back -/

/-- the model's encoder (layout comment) and the model's decoder (mirror of `binary_input.py`) are
inverse on the documented domain: together with the byte-exact correspondence `to_binary bytes =
encode` / `from_binary = decode` this is the both-directions clause of C06 -/
theorem independent_codec_agrees (t : RawTriangle) (h : wf t = true) : decode (encode t) = .ok t :=
  (decode_encode_main t h).1

/-! ### 4. identical bytes regardless of the order in which the cells were supplied -/

/-- The file is a function of the cell sequence, and the sequence does not depend on the order in
which the cells were handed to `Triangle(...)` (C01). `view` is the bit-level view of a cell
(which float bit pattern, which dict insertion order each cell carries). -/
theorem encode_perm_invariant (view : Cell → RawCell) {l₁ l₂ : List Cell} (hp : l₁.Perm l₂)
    (hdup : ∀ a b, a ∈ l₁ → b ∈ l₁ → Cell.cmp a b = .eq → a = b) :
    (Triangle.ofCells l₁).map (fun t => encode (t.map view)) =
    (Triangle.ofCells l₂).map (fun t => encode (t.map view)) := by
  rw [Bermuda.Properties.C01.ofCells_perm_invariant hp hdup]

/-! ### 5. no magic number / another version ⇒ rejected -/

theorem decode_bad_magic_error (s : Bytes) (h : s.take 4 ≠ [0xAF, 0x36, 0x01, 0x00]) :
    decode s = .error .valueError := by
  simp [decode, header_bytes, h]

theorem decode_bad_version_error (s : Bytes) (h : (s.drop 4).take 1 ≠ [0x01]) :
    decode s = .error .valueError := by
  unfold decode
  split
  · rfl
  · simp [header_bytes, h]

example : decode [] = .error .valueError := decode_bad_magic_error _ (by decide)
example : decode [0x00, 0x01, 0x36, 0xAF, 0x01] = .error .valueError := decode_bad_magic_error _ (by decide)
example : decode [0xAF, 0x36, 0x01, 0x00, 0x02, 0, 0] = .error .valueError := decode_bad_version_error _ (by decide)
example : decode [0xAF, 0x36, 0x01, 0x00] = .error .valueError := decode_bad_version_error _ (by decide)

/-! ### 6. the per-function format table -/

def v1Formats : List String := ["<h", "<H", "<hBB", "<q", "<d", "<B", "<L", "?"]

def allowedFormats : String → List String
  | "_write_string_pool" => ["<h"]
  | "_read_string_pool" => ["<H"]
  | "_write_dict" => ["<H"]
  | "_read_dict" => ["<H"]
  | "_write_string" => ["<H", "<h"]
  | "_read_string" => ["<h"]
  | "_write_date" => ["<hBB"]
  | "_read_date" => ["<hBB"]
  | "_write_float" => ["<d"]
  | "_read_float" => ["<d"]
  | "_write_array" => ["<B", "<L"]
  | "_read_array" => ["<B", "<L"]
  | "_write_generic_value" => ["<d", "<q", "?"]
  | "_read_generic_value" => ["<d", "<q", "?"]
  | _ => v1Formats

/-- which `struct` format each private function of writer and reader may use (table `writerFormats` /
`readerFormats` of `Generated.Binary`, extracted from the source text on every run). Stated so that a
behaviour-preserving refactoring (renamed helpers, precompiled `Struct` objects) cannot make it false — an entry
under another function name is only required to use a v1 format — while, as long as the functions keep their
names, the use of `<h` against `<H` is fixed per function: pool count written `<h` and read `<H`, key index
`<H` on both sides, string length written `<H` (`<h` only for the `None` marker −1) and read `<h`. The observed
format SETS of `encode_formats_v1` cannot tell these apart. -/
theorem formats_per_function_v1 :
    (writerFormats.all fun e => e.2.1 == "pack" && (allowedFormats e.1).contains e.2.2) = true ∧
    (readerFormats.all fun e => e.2.1 == "unpack" && (allowedFormats e.1).contains e.2.2) = true := by
  decide +kernel

/-! ### 7. the content of the pool -/

/-- the pool holds exactly the distinct keys of `values` / `details` / `loss_details` of the triangle, and
besides them only the empty placeholder -/
theorem pool_content (t : RawTriangle) :
    (∀ k, k ∈ sortedKeys t ↔ k ∈ allKeys t) ∧
    (∀ s ∈ poolOf t, s = [] ∨ s ∈ allKeys t) ∧
    (∀ k ∈ allKeys t, ∃ j, poolLookup (poolOf t) k = some j ∧ (poolOf t)[j]? = some k) := by
  refine ⟨fun k => mem_sortedKeys t k, ?_, ?_⟩
  · intro s hs
    rcases mem_padPool _ _ _ hs with h | h
    · exact Or.inl h
    · exact Or.inr ((mem_sortedKeys t s).mp h)
  · intro k hk
    obtain ⟨j, h1, _, h3⟩ := poolOf_lookup t k hk
    exact ⟨j, h1, h3⟩

/-! ### 8. the layout fixed by LITERAL byte vectors

The three vectors below were written by `to_binary` of the verified tree (not by the model): an incremental
two-slice triangle with every value kind (`Codec.exTriangle`), a plain `Cell` triangle and a `CumulativeCell`
triangle. The kernel checks (by evaluation) that the model's encoder produces exactly these bytes; that the
model's decoders read them back then follows from the round-trip theorems, the triangles being in the domain.
The order of the fields inside a metadata / cell record, the position of
`prev_evaluation_date` after the values dict, `<h` count vs `<H` index vs `<H`/`<h` string length, the record
and type tags, the placement of `DICT_END` are all fixed by these equalities — a model edit made together with
a symmetric code edit cannot leave every theorem true. -/

def exTriangleBytes : Bytes :=
  [175, 54, 1, 0, 1, 9, 0, 1, 0, 98, 1, 0, 100, 1, 0, 102, 1, 0, 107, 1, 0, 110, 1, 0, 112, 1, 0, 113, 1, 0,
    114, 1, 0, 120, 16, 1, 0, 65, 3, 0, 195, 156, 98, 255, 255, 0, 0, 255, 255, 0, 0, 0, 0, 0, 0, 240, 63, 3, 0,
    128, 2, 0, 195, 159, 1, 0, 133, 228, 7, 2, 29, 0, 0, 131, 1, 136, 4, 0, 132, 8, 0, 129, 251, 255, 255, 255,
    255, 255, 255, 255, 2, 0, 130, 0, 0, 0, 0, 0, 0, 4, 64, 136, 19, 228, 7, 1, 1, 228, 7, 12, 31, 228, 7, 12,
    31, 5, 0, 129, 255, 255, 255, 255, 255, 255, 255, 127, 6, 0, 134, 2, 2, 0, 0, 0, 1, 0, 0, 0, 1, 0, 0, 0, 0,
    0, 0, 0, 2, 0, 0, 0, 0, 0, 0, 0, 7, 0, 135, 0, 0, 0, 0, 0, 0, 0, 248, 127, 136, 228, 7, 11, 30, 16, 1, 0,
    65, 3, 0, 195, 156, 98, 255, 255, 0, 0, 255, 255, 0, 0, 0, 0, 0, 0, 248, 127, 136, 4, 0, 132, 8, 0, 129,
    251, 255, 255, 255, 255, 255, 255, 255, 2, 0, 130, 0, 0, 0, 0, 0, 0, 4, 64, 136, 19, 229, 7, 1, 1, 229, 7,
    12, 31, 229, 7, 12, 31, 5, 0, 132, 136, 229, 7, 11, 30]

def exMeta3 : RawMetadata :=
  { riskBasis := some [65, 99, 99, 105, 100, 101, 110, 116], country := none, currency := some [85, 83, 68],
    reinsuranceBasis := none, lossDefinition := none, limit := none,
    details := [([99, 111, 118], .str [66, 73])], lossDetails := [] }

/-- one plain `Cell` -/
def exCellTriangle : RawTriangle :=
  [ { kind := .cell, ps := ⟨2019, 1, 1⟩, pe := ⟨2019, 3, 31⟩, ev := ⟨2019, 6, 30⟩, prev := none, md := exMeta3,
      values := [([112, 97, 105, 100], .int 100), ([114, 101, 112], .flt [0, 0, 0, 0, 0, 0, 4, 64])] } ]

def exCellBytes : Bytes :=
  [175, 54, 1, 0, 1, 3, 0, 3, 0, 99, 111, 118, 4, 0, 112, 97, 105, 100, 3, 0, 114, 101, 112, 16, 8, 0, 65, 99,
    99, 105, 100, 101, 110, 116, 255, 255, 3, 0, 85, 83, 68, 255, 255, 255, 255, 0, 0, 0, 0, 0, 0, 248, 127, 0,
    0, 128, 2, 0, 66, 73, 136, 136, 17, 227, 7, 1, 1, 227, 7, 3, 31, 227, 7, 6, 30, 1, 0, 129, 100, 0, 0, 0, 0,
    0, 0, 0, 2, 0, 130, 0, 0, 0, 0, 0, 0, 4, 64, 136]

/-- two `CumulativeCell`s of one slice (one metadata record), a bool and a 1-d float64 array -/
def exCumTriangle : RawTriangle :=
  [ { kind := .cumulative, ps := ⟨2019, 1, 1⟩, pe := ⟨2019, 3, 31⟩, ev := ⟨2019, 6, 30⟩, prev := none, md := exMeta3,
      values := [([112, 97, 105, 100], .int 100), ([114, 101, 112], .flt [0, 0, 0, 0, 0, 0, 4, 64])] },
    { kind := .cumulative, ps := ⟨2019, 1, 1⟩, pe := ⟨2019, 3, 31⟩, ev := ⟨2019, 9, 30⟩, prev := none, md := exMeta3,
      values := [([112, 97, 105, 100], .bool false),
                 ([114, 101, 112], .fltArr [2] [0, 0, 0, 0, 0, 0, 248, 63, 0, 0, 0, 0, 0, 0, 0, 192])] } ]

def exCumBytes : Bytes :=
  [175, 54, 1, 0, 1, 3, 0, 3, 0, 99, 111, 118, 4, 0, 112, 97, 105, 100, 3, 0, 114, 101, 112, 16, 8, 0, 65, 99,
    99, 105, 100, 101, 110, 116, 255, 255, 3, 0, 85, 83, 68, 255, 255, 255, 255, 0, 0, 0, 0, 0, 0, 248, 127, 0,
    0, 128, 2, 0, 66, 73, 136, 136, 18, 227, 7, 1, 1, 227, 7, 3, 31, 227, 7, 6, 30, 1, 0, 129, 100, 0, 0, 0, 0,
    0, 0, 0, 2, 0, 130, 0, 0, 0, 0, 0, 0, 4, 64, 136, 18, 227, 7, 1, 1, 227, 7, 3, 31, 227, 7, 9, 30, 1, 0, 131,
    0, 2, 0, 135, 1, 2, 0, 0, 0, 0, 0, 0, 0, 0, 0, 248, 63, 0, 0, 0, 0, 0, 0, 0, 192, 136]

/-- the distinct keys of `exTriangle` in byte order: the `D` of `Codec.literalOk` (Lemmas/CodecLiteral.lean) -/
def exTriangleKeys : List Bytes := [[98], [100], [102], [107], [110], [112], [113], [114], [120]]

theorem encode_exTriangle_bytes : encode exTriangle = exTriangleBytes :=
  encode_of_literalOk (D := exTriangleKeys) (by decide +kernel)

theorem encodePy_exTriangle_bytes : encodePy exTriangle = exTriangleBytes :=
  (encodePy_eq_encode _ (by decide +kernel)).trans encode_exTriangle_bytes

theorem decode_exTriangle_bytes : decode exTriangleBytes = .ok exTriangle :=
  (decoders_of_encode encode_exTriangle_bytes exTriangle_wf).1

/-- the same for `exCellTriangle` and `exCumTriangle` -/
def exSmallKeys : List Bytes := [[99, 111, 118], [112, 97, 105, 100], [114, 101, 112]]

theorem encode_exCell_bytes : encode exCellTriangle = exCellBytes ∧ encodePy exCellTriangle = exCellBytes :=
  have h := encode_of_literalOk (D := exSmallKeys) (by decide +kernel)
  ⟨h, (encodePy_eq_encode _ (by decide +kernel)).trans h⟩

theorem decode_exCell_bytes : decode exCellBytes = .ok exCellTriangle :=
  (decoders_of_encode encode_exCell_bytes.1 (wf_of_cells_keys _ (by decide +kernel) (by decide +kernel))).1

theorem encode_exCum_bytes : encode exCumTriangle = exCumBytes ∧ encodePy exCumTriangle = exCumBytes :=
  have h := encode_of_literalOk (D := exSmallKeys) (by decide +kernel)
  ⟨h, (encodePy_eq_encode _ (by decide +kernel)).trans h⟩

theorem decode_exCum_bytes : decode exCumBytes = .ok exCumTriangle :=
  (decoders_of_encode encode_exCum_bytes.1 (wf_of_cells_keys _ (by decide +kernel) (by decide +kernel))).1

/-! ### 9. history as theorems (model side): the small .trib files shipped with the package and its test data

`Lemmas/CodecGolden.lean` holds the sha256-checked bytes of `bermuda/meyers.trib` (4794 bytes, 100 cells),
`test/test_data/holey_init_tri.trib` (4929), `missing_eval.trib` (2710) and `missing_cells.trib` (1112) and their
recorded contents as literals. For each file the kernel evaluates once that the recorded cells are in the domain
and encode to exactly these bytes (`Lemmas/CodecLiteral.lean`); that the decoders recover the recorded cells from
the bytes is then the round-trip theorem — independent of the run-time corpus reader. (That `from_binary` of the tree under
test returns these cells is the `history` stream of the harness; `ragged_aq_triangle.trib`, 31 KB, stays there only:
its literal alone takes minutes to elaborate.) -/

open Bermuda.Codec.Golden in
theorem golden_missing_cells :
    decode missing_cellsBytes = .ok missing_cellsCells ∧ encode missing_cellsCells = missing_cellsBytes :=
  ⟨missing_cells_file.2.1, missing_cells_file.1⟩

open Bermuda.Codec.Golden in
theorem golden_missing_eval :
    decode missing_evalBytes = .ok missing_evalCells ∧ encode missing_evalCells = missing_evalBytes :=
  ⟨missing_eval_file.2.1, missing_eval_file.1⟩

open Bermuda.Codec.Golden in
theorem golden_meyers :
    decode meyersBytes = .ok meyersCells ∧ encode meyersCells = meyersBytes :=
  ⟨meyers_file.2.1, meyers_file.1⟩

open Bermuda.Codec.Golden in
theorem golden_holey_init_tri :
    decode holey_init_triBytes = .ok holey_init_triCells ∧ encode holey_init_triCells = holey_init_triBytes :=
  ⟨holey_init_tri_file.2.1, holey_init_tri_file.1⟩

/-! ### 10. an independent decoder written from the layout description

`Codec.decodeLayout` (Model/CodecLayout.lean) is written strictly from the layout comment of `binary_output.py`
and the documented constants, NOT from `binary_input.py`: exact string lengths (a short body is an error), end of
input or an unknown type byte inside a value is an error, a string value is never absent, an unknown record marker
is an error, a cell record before any metadata record is an error, no constructor rules. (`Codec.decode`, by
contrast, mirrors the reader statement by statement, quirks included.) -/

/-- **"an independent decoder written from that description recovers exactly the same triangle"** -/
theorem decodeLayout_encode (t : RawTriangle) (h : wf t = true) : decodeLayout (encode t) = .ok t :=
  (decode_encode_main t h).2

/-- … also from the file of the writer as written (coherent triangles) -/
theorem decodeLayout_encodePy (t : RawTriangle) (h : wf t = true) (hc : coherent t = true) :
    decodeLayout (encodePy t) = .ok t := by
  rw [encodePy_eq_encode t hc]; exact decodeLayout_encode t h

/-- it reads the literal files written by `to_binary` of the verified tree … -/
theorem decodeLayout_literals :
    decodeLayout exTriangleBytes = .ok exTriangle ∧ decodeLayout exCellBytes = .ok exCellTriangle ∧
    decodeLayout exCumBytes = .ok exCumTriangle :=
  ⟨(decoders_of_encode encode_exTriangle_bytes exTriangle_wf).2,
   (decoders_of_encode encode_exCell_bytes.1 (wf_of_cells_keys _ (by decide +kernel) (by decide +kernel))).2,
   (decoders_of_encode encode_exCum_bytes.1 (wf_of_cells_keys _ (by decide +kernel) (by decide +kernel))).2⟩

open Bermuda.Codec.Golden in
/-- … and the shipped golden files, to their recorded contents -/
theorem decodeLayout_golden :
    decodeLayout meyersBytes = .ok meyersCells ∧ decodeLayout holey_init_triBytes = .ok holey_init_triCells ∧
    decodeLayout missing_evalBytes = .ok missing_evalCells ∧ decodeLayout missing_cellsBytes = .ok missing_cellsCells :=
  ⟨meyers_file.2.2, holey_init_tri_file.2.2, missing_eval_file.2.2, missing_cells_file.2.2⟩

/-- strictness is real: a file cut inside the last string of the pool, a trailing unknown marker and a cell record
without a preceding metadata record are errors for `decodeLayout` (the reader's mirror `decode` accepts the second) -/
example :
    (decodeLayout (exCellBytes ++ [0x00])).toBool = false ∧ (decode (exCellBytes ++ [0x00])).toBool = true ∧
    (decodeLayout (exCellBytes.take 12)).toBool = false ∧
    (decodeLayout [0xAF, 0x36, 0x01, 0x00, 0x01, 0x00, 0x00, 0x11, 0xE3, 0x07, 1, 1, 0xE3, 0x07, 3, 31, 0xE3, 0x07, 6, 30,
      0x88]).toBool = false := by
  decide +kernel

end Bermuda.Properties.C06
