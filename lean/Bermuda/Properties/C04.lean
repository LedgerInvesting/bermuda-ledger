/-
C04 — cumulative ⇄ incremental conversion is exact, chained and self-inverse.
Only property theorems and non-vacuity examples live here. Hypotheses (`WFcum`, `Consistent`,
`Complete`, `RowChain`, `WFcumUpToKeys`, `WFincUpToKeys`) and helper lemmas: `Lemmas/BasisSpec.lean`,
`Lemmas/BasisRows.lean`, `Lemmas/Basis.lean`.
-/
import Bermuda.Lemmas.BasisSpec
import Bermuda.Lemmas.Eq
namespace Bermuda.Properties.C04
open Bermuda

/-! ### 1. identity on the target basis -/

/-- `to_incremental` is the identity on an incremental triangle -/
theorem toInc_id_of_incremental {t : List Cell} (h : Triangle.isIncremental t = true) :
    Triangle.toIncremental t = .ok t := by
  simp [Triangle.toIncremental, h]

/-- `to_cumulative` is the identity on a triangle that is not incremental (`Cell`s,
`CumulativeCell`s, or empty) -/
theorem toCum_id_of_cumulative {t : List Cell} (h : Triangle.isIncremental t = false) :
    Triangle.toCumulative t = .ok t := by
  simp [Triangle.toCumulative, h]

/-! ### 2. cumulative → incremental → cumulative -/

/-- **to_cumulative ∘ to_incremental = id**, exactly: same cells in the same order with the same
dates, metadata, key order, values and value kinds; the class becomes `CumulativeCell`
(`Spec.asCumulative`). -/
theorem toCum_toInc {t : List Cell} (h : WFcum t) :
    ∃ u, Triangle.toIncremental t = .ok u ∧ Triangle.toCumulative u = .ok (Spec.asCumulative t) :=
  ((toInc_outcome h.upToKeys.1).resolve_right fun h' => h.upToKeys.2 h'.1).2

/-! ### 3. incremental → cumulative → incremental -/

/-- **to_incremental ∘ to_cumulative = id** on every complete incremental triangle, exactly -/
theorem toInc_toCum {u : List Cell} (h : Complete u) :
    ∃ t, Triangle.toCumulative u = .ok t ∧ Triangle.toIncremental t = .ok u :=
  ((toCum_outcome h.1.upToKeys.1).resolve_right fun h' => h'.1.elim fun k hk => hk (h.cumGood k)).2.imp
    fun _ ht => ⟨ht.1, ht.2 h.2⟩

/-! ### 4. refusals -/

/-- **refusal of broken chains**: a consistent incremental triangle in which some row is not a
complete chain (first previous date ≠ day before period start, or a link ≠ the previous evaluation
date — e.g. after removing or shifting one cell) is refused with `TriangleError`. -/
theorem toCum_error_of_broken_chain {u : List Cell} (hc : Consistent u)
    (hpv : ∀ c ∈ u, ∀ p, c.prev = some p → p.valid = true) (hb : ∃ k, ¬ RowChain u k) :
    Triangle.toCumulative u = .error .triangleError :=
  ((toCum_outcome hc.upToKeys.1).resolve_left fun h' => hb.elim fun k hk => hk (rowChain_of_cumGood hpv (h'.1 k))).2

/-- **refusal of inconsistent fields (cumulative side)**: if in some row two consecutive cells have
different key sets, `to_incremental` raises `TriangleError`. -/
theorem toInc_error_of_key_mismatch {t : List Cell} (h : WFcumUpToKeys t)
    (hb : ∃ k, HasMismatch (t.filter (fun c => rowKey c == k))) :
    Triangle.toIncremental t = .error .triangleError :=
  ((toInc_outcome h).resolve_left fun h' => h'.1 hb).2

/-- **refusal of inconsistent fields (incremental side)**: if in some row two consecutive cells have
different key sets, `to_cumulative` raises `TriangleError` (whether or not the chain is complete). -/
theorem toCum_error_of_key_mismatch {u : List Cell} (h : WFincUpToKeys u)
    (hb : ∃ k, HasMismatch (u.filter (fun c => rowKey c == k))) :
    Triangle.toCumulative u = .error .triangleError :=
  ((toCum_outcome h).resolve_left fun h' => hb.elim fun k hk => (h'.1 k).noMismatch hk).2

/-! ### 5. the executable Spec predicates hold of the model's outputs -/

/-- **C04, first clause, on the model**: for a valid cumulative triangle whose value dicts have
distinct keys (as every Python dict has), `to_incremental` succeeds and the executable predicate
`Spec.toIncRowSpec` — per slice and period one increment per evaluation date, previous date = the
preceding evaluation date of the row (day before period start for the first), values = differences
of consecutive cumulative values except `earned_premium` — holds of its result. -/
theorem toInc_row_spec {t : List Cell} (h : WFcum t)
    (hnd : ∀ c ∈ t, Spec.nodupKeys c.values = true) :
    ∃ u, Triangle.toIncremental t = .ok u ∧ Spec.toIncRowSpec t u = true := by
  obtain ⟨u, hu, _⟩ := toCum_toInc h
  exact ⟨u, hu, toIncRowSpec_of_success h.sorted h.notInc h.dates hnd hu⟩

/-- **C04, the same clause read backwards, on the model**: for a complete incremental triangle `to_cumulative`
succeeds and the executable predicate `Spec.toCumRowSpec` — the one the driver evaluates on the IMPLEMENTATION's
`to_cumulative` output — holds of its result: all cells cumulative without a previous date, in canonical order, the
increments of the result are exactly `u` (`Spec.toIncRowSpec t u`: one per evaluation date of every row, linked to
the preceding evaluation date, values = differences except `earned_premium`), and every increment of `u` is
accounted for by exactly one cumulative cell. -/
theorem toCum_row_spec {u : List Cell} (h : Complete u)
    (hnd : ∀ c ∈ u, Spec.nodupKeys c.values = true) :
    ∃ t, Triangle.toCumulative u = .ok t ∧ Spec.toCumRowSpec u t = true :=
  toCumRowSpec_of_good h.1.upToKeys.1 h.cumGood h.2 hnd

/-- **clauses 1-3 under the statement's own hypothesis** ("rows keep one field set"; no hypothesis on the kind, dtype
or shape of the values): on a cumulative triangle in canonical form with distinct coordinates whose rows keep one key
set, WHENEVER `to_incremental` returns a triangle it satisfies `Spec.toIncRowSpec`. (`toInc_row_spec` adds `WFcum.types`
— one kind per field along a row — to show that the conversion does not raise and for the exact round trip.) The proof
makes no use of `hkeys`: when two consecutive cells of a row differ in their keys the conversion raises and `hu` is false. -/
theorem toInc_row_spec_of_success {t u : List Cell} (hs : t.Pairwise (fun a b => Cell.cmp a b = .lt))
    (hni : ∀ c ∈ t, c.kind ≠ .incremental) (hd : ∀ c ∈ t, c.datesOk = true)
    (hkeys : ∀ a ∈ t, ∀ b ∈ t, rowKey a = rowKey b → sameKeys a.values b.values = true)
    (hnd : ∀ c ∈ t, Spec.nodupKeys c.values = true)
    (hu : Triangle.toIncremental t = .ok u) : Spec.toIncRowSpec t u = true :=
  toIncRowSpec_of_success hs hni hd hnd hu

/-- `Spec.roundTripCumSpec` (cell-by-cell equality with exact kinds, `Cell` read as `CumulativeCell`)
holds of the model's `to_cumulative(to_incremental(t))` -/
theorem roundTripCum_spec {t : List Cell} (h : WFcum t)
    (hnd : ∀ c ∈ t, Spec.nodupKeys c.values = true) :
    ∃ u back, Triangle.toIncremental t = .ok u ∧ Triangle.toCumulative u = .ok back ∧
      Spec.roundTripCumSpec t back = true := by
  obtain ⟨u, h1, h2⟩ := toCum_toInc h
  refine ⟨u, _, h1, h2, ?_⟩
  unfold Spec.roundTripCumSpec
  apply cellsEqv_refl
  intro c hc
  obtain ⟨c', hc', rfl⟩ := List.mem_map.mp hc
  exact hnd c' hc'

/-- `Spec.roundTripIncSpec` holds of the model's `to_incremental(to_cumulative(u))` -/
theorem roundTripInc_spec {u : List Cell} (h : Complete u)
    (hnd : ∀ c ∈ u, Spec.nodupKeys c.values = true) :
    ∃ t back, Triangle.toCumulative u = .ok t ∧ Triangle.toIncremental t = .ok back ∧
      Spec.roundTripIncSpec u back = true := by
  obtain ⟨t, h1, h2⟩ := toInc_toCum h
  exact ⟨t, u, h1, h2, cellsEqv_refl hnd⟩

/-! ### 6. non-vacuity -/

def mA : Metadata := { country := some "DE" }
def mB : Metadata := { country := some "US" }
def d (y m dd : Nat) : Date := ⟨y, m, dd⟩
def arrI (l : List Int) : Val := .arr true [l.length] (l.map (fun (i : Int) => ((i : Int) : Rat)))
def arrF (l : List Rat) : Val := .arr false [l.length] l
def mkC (md : Metadata) (y : Nat) (ev : Date) (paid : List Int) (rep : List Rat) (ep : Rat) : Cell :=
  { kind := .cumulative, ps := d y 1 1, pe := d y 12 31, ev := ev, md := md,
    values := [("paid_loss", arrI paid), ("earned_premium", .flt ep), ("reported_loss", arrF rep)] }

def exT : List Cell :=
  [ mkC mA 2020 (d 2020 12 31) [10, 20] [15, 25.5] 100,
    mkC mA 2020 (d 2022 12 31) [30, 25] [35, 30.25] 100,
    mkC mB 2020 (d 2020 12 31) [1, 2] [1.5, 2] 50,
    mkC mB 2020 (d 2021 12 31) [4, 2] [4.5, 2.5] 50,
    mkC mB 2020 (d 2022 12 31) [9, 3] [9, 3.5] 55,
    mkC mB 2021 (d 2021 12 31) [7, 7] [8, 8] 60 ]

/-- non-vacuity: a ragged two-slice triangle (slice DE skips the 2021 evaluation, slice US has a
second, shorter period) with int64-array, float64-array and float (`earned_premium`, varying in one
row) values satisfies `WFcum` -/
theorem exT_wf : WFcum exT := by
  have h : ∀ a ∈ exT, ∀ b ∈ exT, rowKey a = rowKey b →
      sameKeys a.values b.values = true ∧ dictCompatB a.values b.values = true := by decide +kernel
  exact ⟨by decide +kernel, by decide +kernel, by decide +kernel, by decide +kernel,
    fun a ha b hb e => (h a ha b hb e).1, fun a ha b hb e => dictCompat_of_B (h a ha b hb e).2⟩

theorem exT_nodup : ∀ c ∈ exT, Spec.nodupKeys c.values = true := by decide +kernel

/-- hence the round trip theorem and the Spec bridge apply to it -/
example : ∃ u, Triangle.toIncremental exT = .ok u ∧ Spec.toIncRowSpec exT u = true :=
  toInc_row_spec exT_wf exT_nodup

example : ∃ u, Triangle.toIncremental exT = .ok u ∧
    Triangle.toCumulative u = .ok (Spec.asCumulative exT) := toCum_toInc exT_wf

def mkI (md : Metadata) (y : Nat) (prev ev : Date) (paid : List Int) (ep : Rat) : Cell :=
  { kind := .incremental, ps := d y 1 1, pe := d y 12 31, prev := some prev, ev := ev, md := md,
    values := [("earned_premium", .flt ep), ("paid_loss", arrI paid)] }

/-- a complete incremental triangle: slice DE with a two-year first step, slice US with two periods -/
def exU : List Cell :=
  [ mkI mA 2020 (d 2019 12 31) (d 2020 12 31) [10, 20] 100,
    mkI mA 2020 (d 2020 12 31) (d 2022 12 31) [20, 5] 100,
    mkI mB 2020 (d 2019 12 31) (d 2020 12 31) [1, 2] 50,
    mkI mB 2020 (d 2020 12 31) (d 2021 12 31) [3, 0] 50,
    mkI mB 2020 (d 2021 12 31) (d 2022 12 31) [5, 1] 55,
    mkI mB 2021 (d 2020 12 31) (d 2021 12 31) [7, 7] 60 ]

theorem exU_complete : Complete exU := by
  have h : ∀ a ∈ exU, ∀ b ∈ exU, rowKey a = rowKey b →
      sameKeys a.values b.values = true ∧ dictCompatB a.values b.values = true := by decide +kernel
  exact ⟨⟨by decide +kernel, by decide +kernel, by decide +kernel, by decide +kernel,
    fun a ha b hb e => (h a ha b hb e).1, fun a ha b hb e => dictCompat_of_B (h a ha b hb e).2⟩,
    rowChain_of_B (by decide +kernel)⟩

example : ∃ t, Triangle.toCumulative exU = .ok t ∧ Triangle.toIncremental t = .ok exU :=
  toInc_toCum exU_complete

theorem exU_nodup : ∀ c ∈ exU, Spec.nodupKeys c.values = true := by decide +kernel

example : ∃ t, Triangle.toCumulative exU = .ok t ∧ Spec.toCumRowSpec exU t = true :=
  toCum_row_spec exU_complete exU_nodup

/-- `exU` with one link removed (the 2021 evaluation of slice US, period 2020) -/
def exUbroken : List Cell := exU.eraseIdx 3

/-- non-vacuity of `toCum_error_of_broken_chain`: the triangle with one link removed is still
consistent, but the row it was taken from is no longer a complete chain — it is refused -/
example : Triangle.toCumulative exUbroken = .error .triangleError := by
  exact toCum_error_of_broken_chain (exU_complete.1.sublist (List.eraseIdx_sublist ..)) (by decide +kernel)
    ⟨((d 2020 1 1, d 2020 12 31), mB), not_rowChain_of_B (by decide +kernel)⟩

/-- `exT` with `reported_loss` missing from ONE cell (slice US, period 2020, evaluation 2021): rows keep their key
set everywhere else -/
def exTbadKeys : List Cell :=
  [ mkC mA 2020 (d 2020 12 31) [10, 20] [15, 25.5] 100,
    mkC mA 2020 (d 2022 12 31) [30, 25] [35, 30.25] 100,
    mkC mB 2020 (d 2020 12 31) [1, 2] [1.5, 2] 50,
    { mkC mB 2020 (d 2021 12 31) [4, 2] [4.5, 2.5] 50 with
      values := [("paid_loss", arrI [4, 2]), ("earned_premium", .flt 50)] },
    mkC mB 2020 (d 2022 12 31) [9, 3] [9, 3.5] 55,
    mkC mB 2021 (d 2021 12 31) [7, 7] [8, 8] 60 ]

/-- non-vacuity of `toInc_error_of_key_mismatch`: the hypotheses hold of `exTbadKeys`, so it is refused -/
example : Triangle.toIncremental exTbadKeys = .error .triangleError :=
  toInc_error_of_key_mismatch
    ⟨by decide +kernel, by decide +kernel, by decide +kernel, by decide +kernel,
     adjOK_rows_of_B (by decide +kernel)⟩
    ⟨((d 2020 1 1, d 2020 12 31), mB), hasMismatch_of_B (by decide +kernel)⟩

/-- `exU` with an extra field in ONE increment (slice US, period 2020, evaluation 2021) -/
def exUbadKeys : List Cell :=
  [ mkI mA 2020 (d 2019 12 31) (d 2020 12 31) [10, 20] 100,
    mkI mA 2020 (d 2020 12 31) (d 2022 12 31) [20, 5] 100,
    mkI mB 2020 (d 2019 12 31) (d 2020 12 31) [1, 2] 50,
    { mkI mB 2020 (d 2020 12 31) (d 2021 12 31) [3, 0] 50 with
      values := [("earned_premium", .flt 50), ("paid_loss", arrI [3, 0]), ("zz_extra", .int 1)] },
    mkI mB 2020 (d 2021 12 31) (d 2022 12 31) [5, 1] 55,
    mkI mB 2021 (d 2020 12 31) (d 2021 12 31) [7, 7] 60 ]

/-- non-vacuity of `toCum_error_of_key_mismatch` -/
example : Triangle.toCumulative exUbadKeys = .error .triangleError :=
  toCum_error_of_key_mismatch
    ⟨by decide +kernel, by decide +kernel, by decide +kernel, adjOK_rows_of_B (by decide +kernel)⟩
    ⟨((d 2020 1 1, d 2020 12 31), mB), hasMismatch_of_B (by decide +kernel)⟩

/-- a row whose field changes its KIND along the row (int, then float, then a float64 array): outside `WFcum`
(`types` fails), inside `toInc_row_spec_of_success` -/
def exMixed : List Cell :=
  [ { kind := .cumulative, ps := d 2020 1 1, pe := d 2020 12 31, ev := d 2020 12 31, md := mA,
      values := [("paid_loss", .int 5), ("earned_premium", .flt 100)] },
    { kind := .cumulative, ps := d 2020 1 1, pe := d 2020 12 31, ev := d 2021 12 31, md := mA,
      values := [("paid_loss", .flt (15/2)), ("earned_premium", .flt 100)] },
    { kind := .cumulative, ps := d 2020 1 1, pe := d 2020 12 31, ev := d 2022 12 31, md := mA,
      values := [("paid_loss", arrF [8, 9]), ("earned_premium", .flt 100)] } ]

def exMixedInc : List Cell :=
  [ { kind := .incremental, ps := d 2020 1 1, pe := d 2020 12 31, prev := some (d 2019 12 31), ev := d 2020 12 31,
      md := mA, values := [("paid_loss", .int 5), ("earned_premium", .flt 100)] },
    { kind := .incremental, ps := d 2020 1 1, pe := d 2020 12 31, prev := some (d 2020 12 31), ev := d 2021 12 31,
      md := mA, values := [("paid_loss", .flt (5/2)), ("earned_premium", .flt 100)] },
    { kind := .incremental, ps := d 2020 1 1, pe := d 2020 12 31, prev := some (d 2021 12 31), ev := d 2022 12 31,
      md := mA, values := [("paid_loss", arrF [1/2, 3/2]), ("earned_premium", .flt 100)] } ]

theorem exMixed_strict : exMixed.Pairwise (fun a b => Cell.cmp a b = .lt) := by decide +kernel

theorem exMixed_toInc : Triangle.toIncremental exMixed = .ok exMixedInc := by
  have h1 : overRows incRow exMixed = .ok exMixedInc := by
    unfold overRows
    rw [orderedRows_of_strict exMixed_strict]
    exact Codec.of_okIs (by decide +kernel)
  rw [toIncremental_eq (by decide +kernel), h1]
  exact congrArg Except.ok (List.mergeSort_of_pairwise (by decide +kernel))

/-- non-vacuity of `toInc_row_spec_of_success` beyond `WFcum`: the mixed-kind row converts and its increments
(5, then 2.5, then [0.5, 1.5]) satisfy the clause -/
example : Spec.toIncRowSpec exMixed exMixedInc = true :=
  toInc_row_spec_of_success exMixed_strict (by decide +kernel) (by decide +kernel) (by decide +kernel)
    (by decide +kernel) exMixed_toInc

/-! ### 7. the row key of the model and Python's grouping key -/

/-- `to_incremental` / `to_cumulative` group by `(cell.period, cell.metadata)` through `Metadata.__eq__/__hash__`
(detail-dict insertion order ignored); the model groups by structural equality of `rowKey`. On metadata in wire
form (`Canon`: detail dicts sorted by key — what the harness sends and what `WFcum`/`Consistent` triangles are
compared on) the two keys identify exactly the same cells. This is the (only) place where the theorems of this file
rely on the canonical representation of metadata. -/
theorem rowKey_eq_iff_python_key {a b : Cell} (ha : a.md.Canon) (hb : b.md.Canon) :
    rowKey a = rowKey b ↔ a.ps = b.ps ∧ a.pe = b.pe ∧ a.md.eqv b.md = true := by
  simp only [rowKey, Prod.mk.injEq, Metadata.eqv_iff_eq ha hb, and_assoc]

end Bermuda.Properties.C04

