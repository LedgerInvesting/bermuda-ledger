/-
C11 — selection operators return exactly the cells their predicate describes: the theorems of the
property, the Spec bridges (`*_model`, `spec_*`: the predicate the driver evaluates on the
implementation's answer, proved of the model's) and the non-vacuity witnesses.
-/
import Bermuda.Model.Select
import Bermuda.Spec.C11
import Bermuda.Lemmas.Select
import Bermuda.Lemmas.SelectAux
import Bermuda.Lemmas.JoinHelpers
import Bermuda.Properties.C01
namespace Bermuda.Properties.C11
open Bermuda Std Bermuda.Spec.C11

/-! ### 1. clip -/

/-- **clip = one filter by the conjunction of its bounds**, whatever subset of the six bounds is
given, followed by the constructor -/
theorem clip_eq_filter_conj (t : List Cell) (a : ClipFull) (u : LagUnit) (hu : a.unit = some u) :
    Triangle.clipFull t a = Triangle.ofCells (t.filter (clipKeep a u)) :=
  clipFull_eq t a u hu

/-- on a canonical triangle the constructor has nothing to reorder: the result is exactly the
sub-list of cells satisfying all bounds, unchanged and in order -/
theorem clip_exact {t : List Cell} (ht : Canon t) (a : ClipFull) (u : LagUnit) (hu : a.unit = some u) :
    Triangle.clipFull t a = .ok (t.filter (clipKeep a u)) :=
  clipFull_canon ht a u hu

theorem clipSpec_model {t : List Cell} (ht : Canon t) (a : ClipFull) (u : LagUnit) (hu : a.unit = some u)
    {out : List Cell} (h : Triangle.clipFull t a = .ok out) : clipSpec t a out = true := by
  rw [clip_exact ht a u hu] at h
  cases h
  simp [clipSpec, hu, exactly]

/-- with an unrecognised unit a lag bound is refused as soon as one cell reaches it -/
theorem clip_bad_unit (t : List Cell) (q : Rat) (ht : t ≠ []) :
    Triangle.clipFull t { minDev := some q, unit := none } = .error .valueError := by
  cases t with
  | nil => exact absurd rfl ht
  | cons c rest => simp [Triangle.clipFull, optFilter, devFilter, ok_bind]

def ownBounds (c : Cell) (u : LagUnit) : ClipFull where
  minEval := some c.ev
  maxEval := some c.ev
  minPeriod := some c.ps
  maxPeriod := some c.pe
  minDev := some (c.devLag u)
  maxDev := some (c.devLag u)
  unit := some u

/-- **every bound is inclusive**: clipping with all six bounds set to a cell's own evaluation
date, period start, period end and development lag keeps that cell -/
theorem clip_inclusive {t : List Cell} (ht : Canon t) {c : Cell} (hc : c ∈ t) (u : LagUnit) :
    ∃ r, Triangle.clipFull t (ownBounds c u) = .ok r ∧ c ∈ r := by
  refine ⟨_, clip_exact ht _ u rfl, ?_⟩
  refine List.mem_filter.mpr ⟨hc, ?_⟩
  simp [ownBounds, clipKeep, inDates, inLags, DateOrder.le_refl]

/-! ### 2. filter -/

/-- **filter returns exactly the cells satisfying the predicate, unchanged and in order**: the
result is a sub-list of a sorted list, so the constructor does not reorder it -/
theorem filter_unchanged_sorted {t : List Cell} (ht : Canon t) (p : Cell → Bool) :
    Triangle.filterP t p = .ok (t.filter p) :=
  Triangle.ofCells_sublist List.filter_sublist ht.1 ht.2

/-- the same for a predicate given extensionally (a mask over positions) -/
theorem filterMask_unchanged_sorted {t : List Cell} (ht : Canon t) (mask : List Bool) :
    Triangle.filterMask t mask = .ok (maskKeep t mask) :=
  Triangle.ofCells_sublist (maskKeep_sublist t mask) ht.1 ht.2

/-! ### 3. complementary clip / filter pairs -/

/-- **complementary clips partition the triangle**: `clip(max_eval = b)` and
`clip(min_eval = b + 1 day)` together hold every cell exactly once -/
theorem clip_complement_partition {t : List Cell} (ht : Canon t) (b : Date) (hb : b.valid = true)
    (hv : ∀ c ∈ t, c.ev.valid = true) :
    ∃ lo hi, Triangle.clipFull t { maxEval := some b } = .ok lo ∧
      Triangle.clipFull t { minEval := some b.succ } = .ok hi ∧
      (lo ++ hi).Perm t ∧ lo.length + hi.length = t.length := by
  refine ⟨_, _, clip_exact ht _ .month rfl, clip_exact ht _ .month rfl, filter_partition _ _ ?_⟩
  intro c hc
  simp only [clipKeep, inDates, inLags, Option.all_none, Option.all_some, Bool.and_true, Bool.true_and,
    ← decide_not]
  exact decide_eq_decide.mpr (DateOrder.not_le_iff_succ_le (hv c hc)).symm

/-- **complementary filters partition the triangle** -/
theorem filter_complement_partition {t : List Cell} (ht : Canon t) (p : Cell → Bool) :
    ∃ a b, Triangle.filterP t p = .ok a ∧ Triangle.filterP t (fun c => !p c) = .ok b ∧
      (a ++ b).Perm t ∧ a.length + b.length = t.length := by
  exact ⟨_, _, filter_unchanged_sorted ht p, filter_unchanged_sorted ht _, filter_partition p _ fun _ _ => rfl⟩

/-- **a clip and the filter by the negation of its documented predicate partition the triangle**,
whatever subset of the six bounds is given -/
theorem clip_complement_of_agree {t : List Cell} (ht : Canon t) (a : ClipFull) (u : LagUnit)
    (hu : a.unit = some u) (q : Cell → Bool) (hq : ∀ c ∈ t, q c = !clipKeep a u c) :
    ∃ lo hi, Triangle.clipFull t a = .ok lo ∧ Triangle.filterP t q = .ok hi ∧
      (lo ++ hi).Perm t ∧ lo.length + hi.length = t.length :=
  ⟨_, _, clip_exact ht a u hu, filter_unchanged_sorted ht _, filter_partition _ _ hq⟩

theorem clip_filter_complement_partition {t : List Cell} (ht : Canon t) (a : ClipFull) (u : LagUnit)
    (hu : a.unit = some u) :
    ∃ lo hi, Triangle.clipFull t a = .ok lo ∧
      Triangle.filterP t (fun c => !clipKeep a u c) = .ok hi ∧
      (lo ++ hi).Perm t ∧ lo.length + hi.length = t.length :=
  clip_complement_of_agree ht a u hu _ fun _ _ => rfl

/-- `clip(min_dev = b)` and `filter(dev_lag < b)` partition the triangle — any unit, any bound
(whole or fractional number of months, days) -/
theorem clip_minDev_complement {t : List Cell} (ht : Canon t) (b : Rat) (u : LagUnit) :
    ∃ lo hi, Triangle.clipFull t { minDev := some b, unit := some u } = .ok lo ∧
      Triangle.filterP t (fun c => decide (c.devLag u < b)) = .ok hi ∧
      (lo ++ hi).Perm t ∧ lo.length + hi.length = t.length := by
  apply clip_complement_of_agree ht _ u rfl
  intro c _
  simp [clipKeep, inDates, inLags, ← Rat.not_le]

/-- `clip(max_dev = b)` and `filter(dev_lag > b)` partition the triangle -/
theorem clip_maxDev_complement {t : List Cell} (ht : Canon t) (b : Rat) (u : LagUnit) :
    ∃ lo hi, Triangle.clipFull t { maxDev := some b, unit := some u } = .ok lo ∧
      Triangle.filterP t (fun c => decide (b < c.devLag u)) = .ok hi ∧
      (lo ++ hi).Perm t ∧ lo.length + hi.length = t.length := by
  apply clip_complement_of_agree ht _ u rfl
  intro c _
  simp [clipKeep, inDates, inLags, ← Rat.not_le]

/-- `clip(min_period = b)` and `filter(period_start < b)` partition the triangle -/
theorem clip_minPeriod_complement {t : List Cell} (ht : Canon t) (b : Date) :
    ∃ lo hi, Triangle.clipFull t { minPeriod := some b } = .ok lo ∧
      Triangle.filterP t (fun c => decide (c.ps < b)) = .ok hi ∧
      (lo ++ hi).Perm t ∧ lo.length + hi.length = t.length := by
  apply clip_complement_of_agree ht _ .month rfl
  intro c _
  simp [clipKeep, inDates, inLags, ← DateOrder.not_le]

/-- `clip(max_period = b)` and `filter(period_end > b)` partition the triangle -/
theorem clip_maxPeriod_complement {t : List Cell} (ht : Canon t) (b : Date) :
    ∃ lo hi, Triangle.clipFull t { maxPeriod := some b } = .ok lo ∧
      Triangle.filterP t (fun c => decide (b < c.pe)) = .ok hi ∧
      (lo ++ hi).Perm t ∧ lo.length + hi.length = t.length := by
  apply clip_complement_of_agree ht _ .month rfl
  intro c _
  simp [clipKeep, inDates, inLags, ← DateOrder.not_le]

/-- **`clip(max_dev = n)` and `clip(min_dev = n + 1)` partition the triangle when every lag is a
whole number** (in the given unit) -/
theorem clip_wholeLag_complement_partition {t : List Cell} (ht : Canon t) (n : Int) (u : LagUnit)
    (hw : ∀ c ∈ t, ∃ z : Int, c.devLag u = (z : Rat)) :
    ∃ lo hi, Triangle.clipFull t { maxDev := some (n : Rat), unit := some u } = .ok lo ∧
      Triangle.clipFull t { minDev := some ((n + 1 : Int) : Rat), unit := some u } = .ok hi ∧
      (lo ++ hi).Perm t ∧ lo.length + hi.length = t.length := by
  refine ⟨_, _, clip_exact ht _ u rfl, clip_exact ht _ u rfl, filter_partition _ _ ?_⟩
  intro c hc
  obtain ⟨z, hz⟩ := hw c hc
  -- for a whole lag `z`: `n + 1 ≤ z` is `¬ z ≤ n`
  have e1 : ((z : Rat) ≤ (n : Rat)) ↔ z ≤ n := Rat.intCast_le_intCast
  have e2 : (((n + 1 : Int) : Rat) ≤ (z : Rat)) ↔ n + 1 ≤ z := Rat.intCast_le_intCast
  simp only [clipKeep, inDates, inLags, Option.all_none, Option.all_some, Bool.and_true, Bool.true_and, hz,
    e1, e2, ← decide_not]
  exact decide_eq_decide.mpr (by omega)

/-- day and timedelta lags are whole numbers of days, so `clip(max_dev = n)` and
`clip(min_dev = n + 1)` always partition the triangle in these units -/
theorem clip_dayLag_complement_partition {t : List Cell} (ht : Canon t) (n : Int) (u : LagUnit)
    (hu : u = .day ∨ u = .timedelta) :
    ∃ lo hi, Triangle.clipFull t { maxDev := some (n : Rat), unit := some u } = .ok lo ∧
      Triangle.clipFull t { minDev := some ((n + 1 : Int) : Rat), unit := some u } = .ok hi ∧
      (lo ++ hi).Perm t ∧ lo.length + hi.length = t.length := by
  apply clip_wholeLag_complement_partition ht n u
  intro c _
  rcases hu with rfl | rfl <;> exact ⟨_, rfl⟩

theorem partitions_of_perm {t a b : List Cell} (h : (a ++ b).Perm t) : partitions t a b = true := by
  have := h.length_eq
  simp only [List.length_append] at this
  simp [partitions, this, List.isPerm_iff, h]

theorem spec_partitions {t : List Cell} (ht : Canon t) (a : ClipFull) (u : LagUnit)
    (hu : a.unit = some u) {lo hi : List Cell} (h1 : Triangle.clipFull t a = .ok lo)
    (h2 : Triangle.filterP t (fun c => !clipKeep a u c) = .ok hi) : partitions t lo hi = true := by
  obtain ⟨lo', hi', e1, e2, hp, _⟩ := clip_filter_complement_partition ht a u hu
  rw [e1] at h1; rw [e2] at h2
  cases h1; cases h2
  exact partitions_of_perm hp

theorem spec_partitions_filter {t : List Cell} (ht : Canon t) (p : Cell → Bool) {a b : List Cell}
    (h1 : Triangle.filterP t p = .ok a) (h2 : Triangle.filterP t (fun c => !p c) = .ok b) :
    partitions t a b = true := by
  obtain ⟨a', b', e1, e2, hp, _⟩ := filter_complement_partition ht p
  rw [e1] at h1; rw [e2] at h2
  cases h1; cases h2
  exact partitions_of_perm hp

/-! ### 4. slices and split -/

theorem slices_eq {t : List Cell} (ht : Canon t) :
    Triangle.slices t = (metasOf t).map fun m => (m, t.filter (fun c => c.md == m)) :=
  slices_of_sorted ht.1

/-- **slices partition the triangle by metadata**: one entry per distinct metadata, holding
exactly the cells of that metadata in order (never empty), and together a rearrangement of all
cells -/
theorem slices_partition {t : List Cell} (ht : Canon t) :
    ((Triangle.slices t).map (·.1)).Nodup ∧
    (∀ p ∈ Triangle.slices t, p.2 = t.filter (fun c => c.md == p.1) ∧ p.2 ≠ []) ∧
    ((Triangle.slices t).flatMap (·.2)).Perm t :=
  have P := _root_.Bermuda.slices_partition t
  ⟨P.nodup, fun _ hp => ⟨slice_of_sorted ht.1 hp, P.ne_nil hp⟩, P.flatMap_perm⟩

theorem spec_slicesSpec {t : List Cell} (ht : Canon t) : slicesSpec t (Triangle.slices t) = true := by
  obtain ⟨hnd, hgrp, hperm⟩ := slices_partition ht
  exact groupsSpec_of (key := fun c => c.md) hnd hgrp hperm

/-- **split partitions the triangle by the values of the given detail keys**: distinct keys,
each group exactly the cells with that key tuple in order (never empty), together a
rearrangement of all cells -/
theorem split_partition {t : List Cell} (ht : Canon t) (keys : List String) :
    ∃ gs, Triangle.split t keys = .ok gs ∧ (gs.map (·.1)).Nodup ∧
      (∀ p ∈ gs, p.2 = t.filter (fun c => splitKey keys c == p.1) ∧ p.2 ≠ []) ∧
      (gs.flatMap (·.2)).Perm t := by
  refine ⟨groupBy (splitKey keys) t, ?_, groupBy_keys_nodup _ t,
    fun p hp => ⟨groupBy_group_eq hp, groupBy_group_ne_nil hp⟩, groupBy_flatMap_perm⟩
  unfold Triangle.split
  rw [mapM_ok_of_all (g := id)]
  · simp
  · intro p hp
    have hs : p.2.Sublist t := groupBy_group_eq hp ▸ List.filter_sublist
    simp [Triangle.ofCells_sublist hs ht.1 ht.2, ok_bind, pure_eq_ok]

theorem spec_splitSpec {t : List Cell} (ht : Canon t) (keys : List String) :
    ∃ gs, Triangle.split t keys = .ok gs ∧ splitSpec t keys gs = true := by
  obtain ⟨gs, hs, hnd, hgrp, hperm⟩ := split_partition ht keys
  refine ⟨gs, hs, ?_⟩
  unfold splitSpec
  simp only [detailKey_eq_splitKey]
  exact groupsSpec_of (key := splitKey keys) hnd hgrp hperm

/-! ### 5. select -/

/-- **select keeps every cell** (same number, same class and coordinates, same order) and
restricts its values to the listed keys; nothing is reordered or refused on a canonical
triangle whose cells satisfy the constructor's date rules -/
theorem select_keeps_cells {t : List Cell} (ht : Canon t) (hd : ∀ c ∈ t, c.datesOk = true)
    (keys : List String) :
    Triangle.select t keys = .ok (t.map (fun c => c.select keys)) :=
  Properties.C10.select_eq_map keys ⟨ht.1, ht.2, hd⟩

theorem selectSpec_map (t : List Cell) (keys : List String) :
    selectSpec t keys (t.map (fun c => c.select keys)) = true := by
  simp only [selectSpec, List.length_map, beq_self_eq_true, Bool.true_and, zip_map_self,
    List.all_map, List.all_eq_true]
  intro c _
  simp [Cell.select, Cell.coord]

/-! ### 6. extract -/

/-- **extract returns one entry per cell, in the cells' order** -/
theorem extract_length_order (t : List Cell) (f : String) :
    (Triangle.extract t f).length = t.length ∧
    ∀ i (h : i < t.length), (Triangle.extract t f)[i]? = some ((t[i].values.get? f).getD .none) := by
  refine ⟨by simp [Triangle.extract], fun i h => ?_⟩
  simp [Triangle.extract, List.getElem?_map, List.getElem?_eq_getElem h]

theorem extractWith_length_order {α} (t : List Cell) (f : Cell → α) :
    (Triangle.extractWith t f).length = t.length ∧
    ∀ i (h : i < t.length), (Triangle.extractWith t f)[i]? = some (f t[i]) := by
  refine ⟨by simp [Triangle.extractWith], fun i h => ?_⟩
  simp [Triangle.extractWith, List.getElem?_map, List.getElem?_eq_getElem h]

theorem spec_extractSpec (t : List Cell) (f : String) :
    extractSpec t f (Triangle.extract t f) = true := by
  simp only [extractSpec, Triangle.extract, List.length_map, beq_self_eq_true, Bool.true_and,
    zip_map_self, List.all_map, List.all_eq_true, Function.comp]
  intro c _
  unfold Dict.get?
  cases c.values.find? (fun kv => kv.1 == f) <;> simp

/-! ### 7. `t[period, evaluation, metadata]` -/

/-- **indexing equals the corresponding filter**: for date or slice indices,
`t[period, evaluation, metadata]` is the filter by `itemKeep` (period start within the period
index, evaluation date within the evaluation index, metadata equal to the metadata index — all
inclusive, an absent slice end unbounded); a triangle when some index is a slice, else the first
such cell (`IndexError` when there is none) -/
theorem getItem_eq_filter {t : List Cell} (ht : Canon t)
    (hr : ∀ c ∈ t, Date.min ≤ c.ps ∧ c.ps ≤ Date.max)
    (p e : DateIdx) (m : MetaIdx) (hp : p ≠ .bad) (he : e ≠ .bad) :
    Triangle.getItem t p e m = itemResult p e m (t.filter (itemKeep p e m)) := by
  rw [getItem_unfold]
  have hk : t.filter (itemKeep p e m) = (t.filter (metaKeep m)).filter (sliceKeep p e) := by
    rw [List.filter_filter]
    apply List.filter_congr
    intro c _
    rw [itemKeep_eq, sliceKeep, Bool.and_assoc, Bool.and_comm]
  have hf : Canon (t.filter (metaKeep m)) := ht.sublist List.filter_sublist
  have hr' : ∀ c ∈ t.filter (metaKeep m), Date.min ≤ c.ps ∧ c.ps ≤ Date.max :=
    fun c hc => hr c (List.mem_filter.mp hc).1
  rw [metaStage_canon ht m, hk]
  exact tailPipe_eq hf hr' p e m hp he

/-- a non-date, non-slice period index is refused (stated without a metadata component: then nothing runs before
the period stage) -/
theorem getItem_bad_period (t : List Cell) (e : DateIdx) :
    Triangle.getItem t .bad e .none = .error .valueError := rfl

theorem getItem_bad_eval {t : List Cell} (ht : Canon t) (p : DateIdx) (m : MetaIdx) (hp : p ≠ .bad) :
    Triangle.getItem t p .bad m = .error .valueError := by
  obtain ⟨ps, pe, hpb⟩ := periodBounds_of_ne_bad hp
  -- the metadata and the period stage succeed on a canonical triangle; `evalBounds` of a bad index raises
  rw [getItem_unfold, metaStage_canon ht m, ok_bind, tailPipe]
  simp only [hpb, ok_bind, filterP_canon (ht.sublist List.filter_sublist)]
  rfl

theorem getItemSpec_model {t : List Cell} (ht : Canon t)
    (hr : ∀ c ∈ t, Date.min ≤ c.ps ∧ c.ps ≤ Date.max)
    (p e : DateIdx) (m : MetaIdx) (hp : p ≠ .bad) (he : e ≠ .bad) {out : List Cell ⊕ Cell}
    (h : Triangle.getItem t p e m = .ok out) : getItemSpec t p e m out = true := by
  rw [getItem_eq_filter ht hr p e m hp he] at h
  cases out with
  | inl tri => obtain ⟨hs, rfl⟩ := itemResult_ok h; simp [getItemSpec, exactly, hs]
  | inr c => obtain ⟨hs, hc⟩ := itemResult_ok h; simp [getItemSpec, hs, hc]

/-- a junk metadata component selects nothing: an empty triangle when it is a slice (or another
component is), `IndexError` otherwise -/
theorem getItem_junk {t : List Cell} (ht : Canon t)
    (hr : ∀ c ∈ t, Date.min ≤ c.ps ∧ c.ps ≤ Date.max)
    (p e : DateIdx) (b : Bool) (hp : p ≠ .bad) (he : e ≠ .bad) :
    Triangle.getItem t p e (.junk b) =
      if p.isSlice || e.isSlice || b then .ok (.inl []) else .error .indexError := by
  rw [getItem_eq_filter ht hr p e _ hp he]
  have : t.filter (itemKeep p e (.junk b)) = [] := by
    rw [List.filter_eq_nil_iff]; intro c _; simp [itemKeep]
  rw [this]; rfl

/-! ### 8. right_edge -/

theorem rightEdge_subset_sorted {t r : List Cell} (h : Triangle.rightEdge t = .ok r) :
    (∀ c ∈ r, c ∈ t) ∧ r.Pairwise (fun a b => Cell.le a b) :=
  ⟨fun _ hc => (Triangle.rightEdge_latest h hc).1, Triangle.ofCells_sorted h⟩

/-- **right_edge holds, for each slice and period, exactly the cell with the latest evaluation
date**: every kept cell is a cell of the triangle whose evaluation date is maximal in its
(slice, period) row; every row of the triangle is represented; and no two kept cells share a
row (one per (slice, period)) -/
theorem rightEdge_spec {t r : List Cell} (ht : Canon t) (h : Triangle.rightEdge t = .ok r) :
    (∀ c ∈ r, c ∈ t ∧ ∀ c' ∈ t, sameRow c c' = true → c'.ev ≤ c.ev) ∧
    (∀ c ∈ t, ∃ c' ∈ r, sameRow c' c = true) ∧
    r.Pairwise (fun a b => sameRow a b = false) := by
  refine ⟨fun c hc => ?_, fun c hc => ?_, ?_⟩
  · obtain ⟨hct, hmax⟩ := Triangle.rightEdge_latest h hc
    refine ⟨hct, fun c' hc' hrow => ?_⟩
    obtain ⟨hmd, hpd⟩ := (sameRow_iff _ _).mp hrow
    exact hmax c' hc' hmd.symm (congrArg Prod.fst hpd).symm (congrArg Prod.snd hpd).symm
  · obtain ⟨e, he, hm, hp⟩ := Triangle.rightEdge_cover h hc
    exact ⟨e, he, (sameRow_iff _ _).mpr ⟨hm, hp⟩⟩
  · have hsymm : ∀ {x y : Cell}, sameRow x y = false → sameRow y x = false := fun hxy =>
      Bool.eq_false_iff.mpr fun hyx => Bool.eq_false_iff.mp hxy (sameRow_symm hyx)
    rw [rightEdge_eq] at h
    exact (List.Perm.pairwise_iff hsymm (Properties.C01.ofCells_perm h)).mpr (rightEdgeRows_pairwise t)

/-- `right_edge` never refuses a canonical triangle: it is the picked rows, sorted (of `hs` only the
consistent cell class is used) -/
theorem rightEdge_canon {s : List Cell} (hs : Canon s) :
    Triangle.rightEdge s = .ok ((rightEdgeRows s).mergeSort Cell.le) :=
  (rightEdge_eq s).trans
    (Triangle.ofCells_eq_ok.mpr ⟨kindsConsistent_of_subset (fun c hc => mem_rightEdge_rows hc) hs.2, rfl⟩)

theorem rightEdge_ok {s : List Cell} (hs : Canon s) : ∃ r, Triangle.rightEdge s = .ok r := Triangle.rightEdge_isOk hs.2

theorem spec_rightEdgeSpec {t r : List Cell} (ht : Canon t) (h : Triangle.rightEdge t = .ok r) :
    rightEdgeSpec t r = true := by
  obtain ⟨h1, h2, h3⟩ := rightEdge_spec ht h
  simp only [rightEdgeSpec, Bool.and_eq_true, List.all_eq_true, List.contains_iff_mem, beq_iff_eq,
    not_or_eq_true, decide_eq_true_eq]
  refine ⟨⟨h1, fun c hc => ?_⟩, Properties.C01.chainB_of_pairwise (Triangle.ofCells_sorted h)⟩
  apply countP_eq_one
  · obtain ⟨c', hc', hrow⟩ := h2 c hc
    exact ⟨c', hc', sameRow_symm hrow⟩
  · -- two kept cells in the row of `c` would be in one row
    refine h3.imp fun hab ⟨ha, hb⟩ => ?_
    rw [sameRow_trans (sameRow_symm ha) hb] at hab
    cases hab

/-! ### non-vacuity: a concrete canonical triangle meets the hypotheses -/

def exT : List Cell :=
  [ { ps := ⟨2020, 1, 1⟩, pe := ⟨2020, 12, 31⟩, ev := ⟨2020, 12, 31⟩, values := [("paid_loss", .int 1)] },
    { ps := ⟨2020, 1, 1⟩, pe := ⟨2020, 12, 31⟩, ev := ⟨2021, 12, 31⟩, values := [("paid_loss", .int 2)] },
    { ps := ⟨2021, 1, 1⟩, pe := ⟨2021, 12, 31⟩, ev := ⟨2021, 12, 31⟩, values := [("paid_loss", .int 3)] } ]

theorem exT_canon : Canon exT := by
  refine ⟨?_, by decide +kernel⟩
  simp only [exT, List.pairwise_cons, List.mem_cons, List.not_mem_nil, or_false, forall_eq_or_imp,
    forall_eq, List.Pairwise.nil, and_true, false_implies, implies_true]
  refine ⟨⟨?_, ?_⟩, ?_⟩ <;> exact le_of_same_md rfl (by decide +kernel)

theorem exT_dates : ∀ c ∈ exT, c.datesOk = true := by decide +kernel

theorem exT_range : ∀ c ∈ exT, Date.min ≤ c.ps ∧ c.ps ≤ Date.max := by decide +kernel

/-- the hypotheses of the theorems above hold for a concrete 3-cell triangle, and e.g. the
complementary-clip theorem then applies to it -/
example : ∃ lo hi, Triangle.clipFull exT { maxEval := some ⟨2020, 12, 31⟩ } = .ok lo ∧
    Triangle.clipFull exT { minEval := some (Date.succ ⟨2020, 12, 31⟩) } = .ok hi ∧
    (lo ++ hi).Perm exT ∧ lo.length + hi.length = exT.length :=
  clip_complement_partition exT_canon ⟨2020, 12, 31⟩ (by decide +kernel) (by decide +kernel)

/-! ### 9. `TriangleSlice(cells)` -/

/-- **`TriangleSlice(cells)` accepts exactly the class-consistent cell sequences with a single
metadata** and then holds the cells in canonical order (as `Triangle(cells)`); anything else is
refused with `TriangleError` -/
theorem sliceOfCells_eq (cells : List Cell) :
    TriangleSlice.ofCells cells =
      if kindsConsistent cells && singleSlice cells then .ok (cells.mergeSort Cell.le)
      else .error .triangleError := by
  unfold TriangleSlice.ofCells Triangle.ofCells
  by_cases hk : kindsConsistent cells = true
  · have hp : (cells.mergeSort Cell.le).Perm cells := List.mergeSort_perm _ _
    simp only [hk, if_true, ok_bind, Bool.true_and]
    -- one slice per distinct metadata, and how many there are does not depend on the order of the cells
    rw [Triangle.slices_length]
    by_cases h1 : singleSlice cells = true
    · have : ¬ (metasOf (cells.mergeSort Cell.le)).length > 1 := by
        have := (metasOf_length_le_one_iff _).mpr ((singleSlice_perm hp).trans h1)
        omega
      simp [h1, this, pure_eq_ok]
    · have : (metasOf (cells.mergeSort Cell.le)).length > 1 := by
        have := mt (metasOf_length_le_one_iff (cells.mergeSort Cell.le)).mp
          (by rw [singleSlice_perm hp]; exact h1)
        omega
      simp [h1, this, throw_eq_error]
  · simp [hk]

/-- on an already canonical single-slice cell list nothing is reordered -/
theorem sliceOfCells_single {t : List Cell} (ht : Canon t) (h1 : singleSlice t = true) :
    TriangleSlice.ofCells t = .ok t := by
  rw [sliceOfCells_eq, ht.2, h1]
  simp only [Bool.and_self, if_true]
  congr 1
  exact List.mergeSort_of_pairwise ht.1

/-- **the multi-slice refusal**: two cells with different metadata → `TriangleError` -/
theorem sliceOfCells_multi {cells : List Cell} {a b : Cell} (ha : a ∈ cells) (hb : b ∈ cells)
    (hne : a.md ≠ b.md) : TriangleSlice.ofCells cells = .error .triangleError := by
  rw [sliceOfCells_eq]
  have : singleSlice cells = false := by
    cases h : singleSlice cells with
    | false => rfl
    | true => exact absurd ((singleSlice_iff _).mp h a ha b hb) hne
  simp [this]

theorem sliceOfSpec_model {cells out : List Cell} (h : TriangleSlice.ofCells cells = .ok out) :
    sliceOfSpec cells out = true ∧ sliceOfRefused cells = false := by
  rw [sliceOfCells_eq] at h
  split at h
  · rename_i hc
    simp only [Bool.and_eq_true] at hc
    cases h
    have hp : (cells.mergeSort Cell.le).Perm cells := List.mergeSort_perm _ _
    refine ⟨?_, by simp [sliceOfRefused, hc.1, hc.2]⟩
    simp only [sliceOfSpec, hc.2, Bool.true_and, Bool.and_eq_true, List.isPerm_iff]
    exact ⟨hp, Properties.C01.chainB_of_pairwise (sorted_mergeSort (cmp := Cell.cmp) cells)⟩
  · cases h

theorem sliceOfRefused_model {cells : List Cell} {e : Err} (h : TriangleSlice.ofCells cells = .error e) :
    e = .triangleError ∧ sliceOfRefused cells = true := by
  rw [sliceOfCells_eq] at h
  split at h
  · cases h
  · rename_i hc
    cases h
    refine ⟨rfl, ?_⟩
    simp only [sliceOfRefused]
    cases h1 : singleSlice cells <;> cases h2 : kindsConsistent cells <;> simp_all

/-- `slice_to_triangle(triangle_to_slice(t))` gives back a canonical single-slice triangle -/
theorem slice_roundtrip {t : List Cell} (ht : Canon t) (h1 : singleSlice t = true) :
    (triangleToSlice t >>= sliceToTriangle) = .ok t := by
  simp only [triangleToSlice, sliceToTriangle, sliceOfCells_single ht h1, ok_bind]
  exact Triangle.ofCells_of_sorted ht.2 ht.1

/-! ### 10. `slice[period, evaluation]` -/

/-- the result of `TriangleSlice.__getitem__` as a function of the filtered cell list -/
def sliceResult (p e : DateIdx) (r : List Cell) : Except Err (List Cell ⊕ Cell) :=
  if p.isSlice || e.isSlice then .ok (.inl r)
  else match r with
    | [] => .error .indexError
    | c :: _ => .ok (.inr c)

theorem sliceResult_eq_itemResult (p e : DateIdx) (r : List Cell) : sliceResult p e r = itemResult p e .none r := by
  cases h : (p.isSlice || e.isSlice) <;> cases r <;> simp [sliceResult, itemResult, MetaIdx.isSlice, h]

/-- **indexing a slice equals the corresponding filter**: `slice[period, evaluation]` is exactly
the cells whose period START lies within the period index and whose evaluation date lies within the
evaluation index (a date: equal to it; a slice: both ends inclusive, an absent end
unbounded) — unchanged, in canonical order and again a `TriangleSlice` when some index is a slice,
else the first such cell (`IndexError` when there is none) -/
theorem sliceGetItem_eq_filter {t : List Cell} (ht : Canon t) (h1 : singleSlice t = true)
    (hr : ∀ c ∈ t, Date.min ≤ c.ps ∧ c.ps ≤ Date.max)
    (p e : DateIdx) (hp : p ≠ .bad) (he : e ≠ .bad) :
    TriangleSlice.getItem t p e = sliceResult p e (t.filter (sliceKeep p e)) := by
  have hsub : (t.filter (sliceKeep p e)).Sublist t := List.filter_sublist
  have hk : t.filter (itemKeep p e .none) = t.filter (sliceKeep p e) :=
    List.filter_congr fun c _ => by rw [itemKeep_eq, sliceKeep]; rfl
  rw [sliceGetItem_eq_getItem, getItem_eq_filter ht hr p e .none hp he, hk, ← sliceResult_eq_itemResult]
  unfold sliceResult
  split
  · show Except.map Sum.inl (TriangleSlice.ofCells _) = _
    rw [sliceOfCells_single (ht.sublist hsub) (singleSlice_sublist hsub h1)]
    rfl
  · cases t.filter (sliceKeep p e) <;> rfl

/-- a non-date, non-slice period index is refused … -/
theorem sliceGetItem_bad_period (t : List Cell) (e : DateIdx) :
    TriangleSlice.getItem t .bad e = .error .valueError := rfl

/-- … and so is such an evaluation index (after the period stage) -/
theorem sliceGetItem_bad_eval {t : List Cell} (ht : Canon t) (p : DateIdx) (hp : p ≠ .bad) :
    TriangleSlice.getItem t p .bad = .error .valueError := by
  rw [sliceGetItem_eq_getItem, getItem_bad_eval ht p .none hp]
  rfl

theorem sliceItemSpec_model {t : List Cell} (ht : Canon t) (h1 : singleSlice t = true)
    (hr : ∀ c ∈ t, Date.min ≤ c.ps ∧ c.ps ≤ Date.max)
    (p e : DateIdx) (hp : p ≠ .bad) (he : e ≠ .bad) {out : List Cell ⊕ Cell}
    (h : TriangleSlice.getItem t p e = .ok out) : sliceItemSpec t p e out = true := by
  rw [sliceGetItem_eq_filter ht h1 hr p e hp he, sliceResult_eq_itemResult] at h
  cases out with
  | inl tri => obtain ⟨hs, rfl⟩ := itemResult_ok h; simpa [sliceItemSpec, exactly, MetaIdx.isSlice] using hs
  | inr c => obtain ⟨hs, hc⟩ := itemResult_ok h; simpa [sliceItemSpec, hc, MetaIdx.isSlice] using hs

/-- what comes back from slicing a slice is again a canonical single-slice triangle whose cells
are cells of the input (so indexing can be chained); a returned cell is a cell of the input lying
at the requested period start and evaluation date -/
theorem sliceGetItem_result {t : List Cell} (ht : Canon t) (h1 : singleSlice t = true)
    (hr : ∀ c ∈ t, Date.min ≤ c.ps ∧ c.ps ≤ Date.max)
    (p e : DateIdx) (hp : p ≠ .bad) (he : e ≠ .bad) {out : List Cell ⊕ Cell}
    (h : TriangleSlice.getItem t p e = .ok out) :
    match out with
    | .inl r => Canon r ∧ singleSlice r = true ∧ r.Sublist t
    | .inr c => c ∈ t ∧ within p c.ps = true ∧ within e c.ev = true := by
  rw [sliceGetItem_eq_filter ht h1 hr p e hp he, sliceResult_eq_itemResult] at h
  have hsub : (t.filter (sliceKeep p e)).Sublist t := List.filter_sublist
  cases out with
  | inl r => obtain ⟨-, rfl⟩ := itemResult_ok h; exact ⟨ht.sublist hsub, singleSlice_sublist hsub h1, hsub⟩
  | inr c => simpa [sliceKeep] using List.mem_filter.mp (List.mem_of_mem_head? (itemResult_ok h).2)

/-! ### non-vacuity for the `TriangleSlice` theorems -/

theorem exT_single : singleSlice exT = true := by decide +kernel

example : TriangleSlice.getItem exT (.slice (some ⟨2020, 1, 1⟩) none) (.scalar ⟨2021, 12, 31⟩) =
    .ok (.inl (exT.drop 1)) := by
  rw [sliceGetItem_eq_filter exT_canon exT_single exT_range _ _ (by simp) (by simp)]
  have : exT.filter (sliceKeep (.slice (some ⟨2020, 1, 1⟩) none) (.scalar ⟨2021, 12, 31⟩)) = exT.drop 1 := by
    decide +kernel
  rw [this]; rfl

example : TriangleSlice.getItem exT (.scalar ⟨2020, 1, 1⟩) (.scalar ⟨2021, 12, 31⟩) =
    .ok (.inr (exT[1])) := by
  rw [sliceGetItem_eq_filter exT_canon exT_single exT_range _ _ (by simp) (by simp)]
  have : exT.filter (sliceKeep (.scalar ⟨2020, 1, 1⟩) (.scalar ⟨2021, 12, 31⟩)) = [exT[1]] := by
    decide +kernel
  rw [this]; rfl

/-- and the multi-slice refusal applies to a concrete two-metadata sequence -/
example : TriangleSlice.ofCells (exT ++ [{ exT[0] with md := { country := some "US" } }]) =
    .error .triangleError :=
  sliceOfCells_multi (a := exT[0]) (b := { exT[0] with md := { country := some "US" } })
    (List.mem_append_left _ (List.getElem_mem _)) (List.mem_append_right _ (List.mem_singleton.mpr rfl))
    (by decide +kernel)

/-! ### 11. the other index shapes of `__getitem__` -/

/-- **`cells[i]`**: positions `-n … n-1` are served (negative ones counted from the end), every
other position is refused with `IndexError` -/
theorem pyIndex_spec (t : List Cell) (i : Int) :
    (intItemRefused t i = true ∧ pyIndex t i = .error .indexError) ∨
    (intItemRefused t i = false ∧ ∃ c, pyIndex t i = .ok c ∧ intItemSpec t i (.inr c) = true) := by
  unfold pyIndex intItemRefused intItemSpec
  have hT : (decide (i ≥ (t.length : Int)) || decide (i < -(t.length : Int))) = true ↔
      (t.length : Int) ≤ i ∨ i < -(t.length : Int) := by
    rw [Bool.or_eq_true, decide_eq_true_eq, decide_eq_true_eq]
  have hF : (decide (i ≥ (t.length : Int)) || decide (i < -(t.length : Int))) = false ↔
      ¬ ((t.length : Int) ≤ i ∨ i < -(t.length : Int)) := by
    rw [← hT, Bool.not_eq_true]
  by_cases hneg : i < 0
  · simp only [hneg, if_true]
    by_cases hlow : i + (t.length : Int) < 0
    · exact Or.inl ⟨hT.mpr (by omega), by simp only [hlow, if_true]⟩
    · right
      have hk : (i + (t.length : Int)).toNat < t.length := by omega
      refine ⟨hF.mpr (by omega), t[(i + (t.length : Int)).toNat], ?_, ?_⟩
      · simp only [hlow, if_false, List.getElem?_eq_getElem hk]
      · have h0 : ¬ (0 ≤ i) := by omega
        have hk' : (-i - 1).toNat < t.length := by omega
        simp only [h0, if_false, List.getElem?_reverse hk', beq_iff_eq]
        rw [List.getElem?_eq_getElem (by omega)]
        congr 2
        omega
  · have h0 : 0 ≤ i := by omega
    simp only [hneg, if_false, h0, if_true]
    by_cases hhi : i.toNat < t.length
    · right
      refine ⟨hF.mpr (by omega), t[i.toNat], ?_, ?_⟩
      · simp only [List.getElem?_eq_getElem hhi]
      · simp only [List.getElem?_eq_getElem hhi, beq_self_eq_true]
    · left
      refine ⟨hT.mpr (by omega), ?_⟩
      simp only [List.getElem?_eq_none (by omega : t.length ≤ i.toNat)]

theorem getItemAny_int_ok {t : List Cell} {i : Int} {out : List Cell ⊕ Cell}
    (h : Triangle.getItemAny t (.int i) = .ok out) : intItemSpec t i out = true := by
  rcases pyIndex_spec t i with ⟨_, he⟩ | ⟨_, c, hc, hs⟩
  · simp [Triangle.getItemAny, he] at h
  · simp only [Triangle.getItemAny, hc, ok_bind, pure_eq_ok, Except.ok.injEq] at h
    subst h; exact hs

theorem getItemAny_int_err {t : List Cell} {i : Int} {e : Err}
    (h : Triangle.getItemAny t (.int i) = .error e) : e = .indexError ∧ intItemRefused t i = true := by
  rcases pyIndex_spec t i with ⟨hr, he⟩ | ⟨_, c, hc, _⟩
  · simp only [Triangle.getItemAny, he, error_bind, Except.error.injEq] at h
    exact ⟨h.symm, hr⟩
  · simp [Triangle.getItemAny, hc, ok_bind, pure_eq_ok] at h

/-- an integer index means the same on a `TriangleSlice` -/
theorem sliceGetItemAny_int (t : List Cell) (i : Int) :
    TriangleSlice.getItemAny t (.int i) = Triangle.getItemAny t (.int i) := rfl

theorem posSliceSpec_pySlice (t : List Cell) (i j : Option Int) :
    posSliceSpec t i j (.inl (pySlice t i j)) = true := by
  have hle : clampPos t.length j t.length ≤ t.length := by
    cases j with
    | none => simp [clampPos]
    | some x => simp only [clampPos]; split <;> omega
  simp only [posSliceSpec, pySlice_eq_clamp, List.length_drop, List.length_take,
    Bool.and_eq_true, beq_iff_eq, List.all_eq_true, List.mem_range]
  refine ⟨by omega, fun k hk => ?_⟩
  rw [List.getElem?_drop, List.getElem?_take]
  have : clampPos t.length i 0 + k < clampPos t.length j t.length := by omega
  simp [this]

/-- **`t[i:j]`** on a canonical triangle: the cells at positions `i ≤ k < j`, unchanged, in order -/
theorem getItemAny_slice {t : List Cell} (ht : Canon t) (i j : Option Int) :
    Triangle.getItemAny t (.slice i j none) = .ok (.inl (pySlice t i j)) ∧
    posSliceSpec t i j (.inl (pySlice t i j)) = true := by
  refine ⟨?_, posSliceSpec_pySlice t i j⟩
  simp [Triangle.getItemAny, pyGetSlice, ok_bind, pure_eq_ok,
    Triangle.ofCells_sublist (Properties.C01.pySlice_sublist t i j) ht.1 ht.2]

theorem sliceGetItemAny_slice {t : List Cell} (ht : Canon t) (h1 : singleSlice t = true)
    (i j : Option Int) :
    TriangleSlice.getItemAny t (.slice i j none) = .ok (.inl (pySlice t i j)) := by
  have hs := Properties.C01.pySlice_sublist t i j
  simp [TriangleSlice.getItemAny, pyGetSlice, ok_bind, pure_eq_ok,
    sliceOfCells_single (ht.sublist hs) (singleSlice_sublist hs h1)]

/-- with a step the positional slice is C01's `t[i:j:k]` (`Triangle.getSliceStep`) -/
theorem getItemAny_sliceStep (t : List Cell) (i j : Option Int) (k : Int) :
    Triangle.getItemAny t (.slice i j (some k)) = (Triangle.getSliceStep t i j k).map .inl := by
  simp only [Triangle.getItemAny, pyGetSlice, Triangle.getSliceStep]
  split
  · rfl
  · simp only [ok_bind]
    cases Triangle.ofCells (pySliceStep t i j k) <;> rfl

/-- a zero step is refused -/
theorem getItemAny_zero_step (t : List Cell) (i j : Option Int) :
    Triangle.getItemAny t (.slice i j (some 0)) = .error .valueError ∧
    TriangleSlice.getItemAny t (.slice i j (some 0)) = .error .valueError := ⟨rfl, rfl⟩

/-- **a tuple index of the wrong length is refused** (`ValueError`) -/
theorem getItemAny_arity (t : List Cell) (xs : List IdxVal) (h : xs.length ≠ 3) :
    Triangle.getItemAny t (.tuple xs) = .error .valueError := by
  match xs, h with
  | [], _ => rfl
  | [_], _ => rfl
  | [_, _], _ => rfl
  | [_, _, _], h => exact absurd rfl h
  | _ :: _ :: _ :: _ :: _, _ => rfl

theorem sliceGetItemAny_arity (t : List Cell) (xs : List IdxVal) (h : xs.length ≠ 2) :
    TriangleSlice.getItemAny t (.tuple xs) = .error .valueError := by
  match xs, h with
  | [], _ => rfl
  | [_], _ => rfl
  | [_, _], h => exact absurd rfl h
  | _ :: _ :: _ :: _, _ => rfl

/-- an index without a length raises `TypeError` -/
theorem getItemAny_noLen (t : List Cell) :
    Triangle.getItemAny t .noLen = .error .typeError ∧
    TriangleSlice.getItemAny t .noLen = .error .typeError := ⟨rfl, rfl⟩

/-- **`t[period, evaluation, metadata]` with arbitrary components** equals the filter: the
metadata component keeps everything when falsy or `:`, the cells of that metadata when it is a
`Metadata`, nothing when it is any other object; a triangle comes back when some component is a
slice -/
theorem getItemAny_eq_filter {t : List Cell} (ht : Canon t)
    (hr : ∀ c ∈ t, Date.min ≤ c.ps ∧ c.ps ≤ Date.max)
    (p e m : IdxVal) (hp : p.toDateIdx ≠ .bad) (he : e.toDateIdx ≠ .bad) :
    Triangle.getItemAny t (.tuple [p, e, m]) =
      itemResult p.toDateIdx e.toDateIdx m.toMetaIdx
        (t.filter (itemKeep p.toDateIdx e.toDateIdx m.toMetaIdx)) :=
  getItem_eq_filter ht hr _ _ _ hp he

theorem sliceGetItemAny_eq_filter {t : List Cell} (ht : Canon t) (h1 : singleSlice t = true)
    (hr : ∀ c ∈ t, Date.min ≤ c.ps ∧ c.ps ≤ Date.max)
    (p e : IdxVal) (hp : p.toDateIdx ≠ .bad) (he : e.toDateIdx ≠ .bad) :
    TriangleSlice.getItemAny t (.tuple [p, e]) =
      sliceResult p.toDateIdx e.toDateIdx (t.filter (sliceKeep p.toDateIdx e.toDateIdx)) :=
  sliceGetItem_eq_filter ht h1 hr _ _ hp he

/-! ### 12. `is_right_edge_ragged` -/

/-- a cell is the latest of its (slice, period) row -/
def latestIn (t : List Cell) (c : Cell) : Prop := ∀ c' ∈ t, sameRow c c' = true → c'.ev ≤ c.ev

/-- **`is_right_edge_ragged`** is `True` exactly when some slice holds two cells, each the latest
of its period row, with different evaluation dates (and it never raises on a canonical triangle) -/
theorem isRightEdgeRagged_iff {t : List Cell} (ht : Canon t) :
    ∃ b, Triangle.isRightEdgeRagged t = .ok b ∧
      (b = true ↔ ∃ x ∈ t, ∃ y ∈ t, x.md = y.md ∧ latestIn t x ∧ latestIn t y ∧ x.ev ≠ y.ev) := by
  let f : List Cell → List Cell := fun s => (rightEdgeRows s).mergeSort Cell.le
  have hsl := fun {p} (hp : p ∈ Triangle.slices t) (c : Cell) => Triangle.mem_slice_iff hp c
  have hf : ∀ p ∈ Triangle.slices t, Triangle.rightEdge p.2 = .ok (f p.2) := fun p hp =>
    rightEdge_canon (ht.sublist (slice_of_sorted ht.1 hp ▸ List.filter_sublist))
  refine ⟨_, raggedIn_eq _ f hf, ?_⟩
  simp only [List.any_eq_true, decide_eq_true_eq, distinctCount_gt_one_iff, List.mem_map]
  constructor
  · rintro ⟨p, hp, _, ⟨x, hx, rfl⟩, _, ⟨y, hy, rfl⟩, hne⟩
    -- a cell of the slice's right edge is the latest of its row in the whole triangle
    have key : ∀ z ∈ f p.2, z ∈ t ∧ z.md = p.1 ∧ latestIn t z := fun z hz => by
      obtain ⟨hzs, hmax⟩ := Triangle.rightEdge_latest (hf p hp) hz
      obtain ⟨hzt, hzm⟩ := (hsl hp z).mp hzs
      refine ⟨hzt, hzm, fun c' hc' hrow => ?_⟩
      obtain ⟨hmd, hpd⟩ := (sameRow_iff _ _).mp hrow
      exact hmax c' ((hsl hp c').mpr ⟨hc', hmd.symm.trans hzm⟩) hmd.symm (congrArg Prod.fst hpd).symm
        (congrArg Prod.snd hpd).symm
    obtain ⟨hxt, hxm, hxl⟩ := key x hx
    obtain ⟨hyt, hym, hyl⟩ := key y hy
    exact ⟨x, hxt, y, hyt, hxm.trans hym.symm, hxl, hyl, hne⟩
  · rintro ⟨x, hx, y, hy, hmd, hxl, hyl, hne⟩
    obtain ⟨p, hp, hpm, hxp⟩ := Triangle.exists_slice hx
    -- the right edge of the slice holds a cell of the same row, hence with the same evaluation date
    have key : ∀ z ∈ p.2, latestIn t z → ∃ z' ∈ f p.2, z'.ev = z.ev := fun z hz hzl => by
      obtain ⟨e, he, hm, hpd⟩ := Triangle.rightEdge_cover (hf p hp) hz
      obtain ⟨hes, hmax⟩ := Triangle.rightEdge_latest (hf p hp) he
      exact ⟨e, he, DateOrder.le_antisymm (hzl e ((hsl hp e).mp hes).1 ((sameRow_iff _ _).mpr ⟨hm.symm, hpd.symm⟩))
        (hmax z hz hm.symm (congrArg Prod.fst hpd).symm (congrArg Prod.snd hpd).symm)⟩
    obtain ⟨x', hx', ex⟩ := key x hxp hxl
    obtain ⟨y', hy', ey⟩ := key y ((hsl hp y).mpr ⟨hy, hmd.symm.trans hpm.symm⟩) hyl
    exact ⟨p, hp, _, ⟨x', hx', rfl⟩, _, ⟨y', hy', rfl⟩, by rw [ex, ey]; exact hne⟩

theorem raggedSpec_model {t : List Cell} (ht : Canon t) {b : Bool}
    (h : Triangle.isRightEdgeRagged t = .ok b) : raggedSpec t b = true := by
  obtain ⟨b', hb', hiff⟩ := isRightEdgeRagged_iff ht
  rw [hb'] at h
  cases h
  have hl : ∀ c, (t.all (fun c' => !sameRow c c' || decide (c'.ev ≤ c.ev))) = true ↔ latestIn t c := fun c => by
    simp only [latestIn, List.all_eq_true, not_or_eq_true, decide_eq_true_eq]
  simp only [raggedSpec, beq_iff_eq]
  rw [Bool.eq_iff_iff, hiff]
  simp only [List.any_eq_true, Bool.and_eq_true, hl, beq_iff_eq, bne_iff_ne, ne_eq]
  constructor
  · rintro ⟨x, hx, y, hy, hmd, hxl, hyl, hne⟩
    exact ⟨y, hy, hyl, x, hx, ⟨hmd, hxl⟩, hne⟩
  · rintro ⟨y, hy, hyl, x, hx, ⟨hmd, hxl⟩, hne⟩
    exact ⟨x, hx, y, hy, hmd, hxl, hyl, hne⟩

/-! ### 13. behaviour the words leave open, fixed as statements -/

/-- a detail key that is missing and one that holds `None` land in the same `split` group -/
theorem splitKey_missing_eq_none (k : String) (a b : Cell)
    (ha : a.md.details.get? k = none) (hb : b.md.details.get? k = some .none) :
    splitKey [k] a = splitKey [k] b := by
  simp [splitKey, ha, hb]

/-- a date as period index matches the period START only (the period end is not constrained), a
date as evaluation index the evaluation date -/
theorem itemKeep_scalar (d d' : Date) (c : Cell) :
    itemKeep (.scalar d) (.scalar d') .none c = (c.ps == d && c.ev == d') := by
  simp [itemKeep]

/-! ### non-vacuity on a ragged two-slice triangle -/

def mdAuto : Metadata := { country := some "US", limit := some 100, details := [("line", .str "auto")] }

def mdHome : Metadata :=
  { country := some "US", limit := some 250, details := [("line", .str "home"), ("state", .none)] }

theorem mdAuto_lt_mdHome : Metadata.cmp mdAuto mdHome = .lt := by
  have h : ∀ x : Option String, optStrCmp x x = .eq := fun x => ReflCmp.compare_self (cmp := optStrCmp)
  simp only [Metadata.cmp, compareLex, cmpOn, mdAuto, mdHome, h, Ordering.eq_then]
  have : limCmp (some 100) (some 250) = .lt := by decide +kernel
  rw [this]; rfl

/-- two slices (a detail key `line`, one of them with a `state` key holding `None`), cumulative
cells, ragged: the two periods of `auto` end on different evaluation dates, `home` lags behind -/
def exT2 : List Cell :=
  [ { kind := .cumulative, ps := ⟨2020, 1, 1⟩, pe := ⟨2020, 12, 31⟩, ev := ⟨2020, 12, 31⟩, values := [("paid_loss", .int 1)], md := mdAuto },
    { kind := .cumulative, ps := ⟨2020, 1, 1⟩, pe := ⟨2020, 12, 31⟩, ev := ⟨2021, 12, 31⟩, values := [("paid_loss", .int 2), ("reported_loss", .int 5)], md := mdAuto },
    { kind := .cumulative, ps := ⟨2021, 1, 1⟩, pe := ⟨2021, 12, 31⟩, ev := ⟨2022, 6, 30⟩, values := [("paid_loss", .int 3)], md := mdAuto },
    { kind := .cumulative, ps := ⟨2020, 1, 1⟩, pe := ⟨2020, 12, 31⟩, ev := ⟨2020, 12, 31⟩, values := [("paid_loss", .int 7)], md := mdHome },
    { kind := .cumulative, ps := ⟨2020, 1, 1⟩, pe := ⟨2020, 12, 31⟩, ev := ⟨2021, 6, 30⟩, values := [("paid_loss", .int 8)], md := mdHome } ]

theorem exT2_canon : Canon exT2 := by
  refine ⟨?_, by decide +kernel⟩
  simp only [exT2, List.pairwise_cons, List.mem_cons, List.not_mem_nil, or_false, forall_eq_or_imp,
    forall_eq, List.Pairwise.nil, and_true, false_implies, implies_true]
  refine ⟨⟨?_, ?_, ?_, ?_⟩, ⟨?_, ?_, ?_⟩, ⟨?_, ?_⟩, ?_⟩
  all_goals first
    | exact le_of_same_md rfl (by decide +kernel)
    | exact Cell.le_of_cmp_lt (Cell.cmp_of_md_lt mdAuto_lt_mdHome)

theorem exT2_range : ∀ c ∈ exT2, Date.min ≤ c.ps ∧ c.ps ≤ Date.max := by decide +kernel

/-- slices of the two-slice triangle, concretely -/
example : Triangle.slices exT2 = [(mdAuto, exT2.take 3), (mdHome, exT2.drop 3)] := by
  rw [slices_eq exT2_canon]
  decide +kernel

example : slicesSpec exT2 (Triangle.slices exT2) = true := spec_slicesSpec exT2_canon

/-- split by a detail key: the hypotheses are met; and the cell lacking `state` and the cell whose
`state` is `None` get the same key -/
example : ∃ gs, Triangle.split exT2 ["line", "state"] = .ok gs ∧
    splitSpec exT2 ["line", "state"] gs = true := spec_splitSpec exT2_canon _

example : splitKey ["state"] exT2[0] = splitKey ["state"] exT2[3] :=
  splitKey_missing_eq_none "state" _ _ (by decide +kernel) (by decide +kernel)

/-- right edge of the ragged two-slice triangle: exists, satisfies the Spec, and is ragged -/
example : ∃ r, Triangle.rightEdge exT2 = .ok r ∧ rightEdgeSpec exT2 r = true := by
  obtain ⟨r, hr⟩ := rightEdge_ok exT2_canon
  exact ⟨r, hr, spec_rightEdgeSpec exT2_canon hr⟩

example : Triangle.isRightEdgeRagged exT2 = .ok true := by
  obtain ⟨b, hb, hiff⟩ := isRightEdgeRagged_iff exT2_canon
  have : b = true := hiff.mpr ⟨exT2[1], List.getElem_mem _, exT2[2], List.getElem_mem _, rfl, by unfold latestIn; decide +kernel, by unfold latestIn; decide +kernel,
    by decide +kernel⟩
  rw [hb, this]

/-- indexing with a `Metadata` component on the two-slice triangle -/
example : Triangle.getItem exT2 (.slice none none) (.slice none (some ⟨2020, 12, 31⟩)) (.is mdHome) =
    .ok (.inl [exT2[3]]) := by
  rw [getItem_eq_filter exT2_canon exT2_range _ _ _ (by simp) (by simp)]
  have : exT2.filter (itemKeep (.slice none none) (.slice none (some ⟨2020, 12, 31⟩)) (.is mdHome)) =
      [exT2[3]] := by decide +kernel
  rw [this]; rfl

/-- complementary lag clips on it (fractional month bound) -/
example : ∃ lo hi, Triangle.clipFull exT2 { minDev := some (5 / 2 : Rat), unit := some .month } = .ok lo ∧
    Triangle.filterP exT2 (fun c => decide (c.devLag .month < (5 / 2 : Rat))) = .ok hi ∧
    (lo ++ hi).Perm exT2 ∧ lo.length + hi.length = exT2.length :=
  clip_minDev_complement exT2_canon _ _

end Bermuda.Properties.C11
