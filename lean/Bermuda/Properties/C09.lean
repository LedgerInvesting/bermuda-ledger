/-
C09 — summarize conserves totals and keeps exactly the shared metadata.
The definition `Summed` and the executable helpers `wCell` / `returns` / `refuses` of the concrete witnesses stand in
`Lemmas/SummarizeSpec.lean`.
-/
import Bermuda.Model.Summarize
import Bermuda.Spec.C09
import Bermuda.Generated.Summarize
import Bermuda.Lemmas.Summarize
import Bermuda.Lemmas.SummarizeSpec
namespace Bermuda.Properties.C09
open Bermuda Bermuda.Spec.C09

/-! ### 1. the rule table of the code (regenerated from /repo on every run) -/

/-- every additive field is bound to the plain sum OF ITSELF, not of another key (the defect D7 of DESIGN §12) -/
theorem additive_rules_bound :
    ∀ f ∈ ["paid_loss", "reported_loss", "incurred_loss",
           "earned_premium", "used_earned_premium", "written_premium",
           "earned_exposure", "written_exposure",
           "reported_claims", "open_claims", "closed_claims", "closed_with_pay_claims",
           "reported_count", "open_count", "closed_count", "closed_with_pay_count",
           "incurred_loss_developed", "paid_loss_developed", "reported_loss_developed",
           "incurred_loss_prior", "paid_loss_prior", "reported_loss_prior"],
      lowerKey f = f ∧ ruleOf [] f = some ⟨.sum, [f]⟩ := by
  -- evaluated on the character lists: `String.toLower` itself walks byte positions, which the kernel pays dearly
  have h : ∀ f ∈ additiveFields, f.toList.map Char.toLower = f.toList ∧ ruleOf [] f = some ⟨.sum, [f]⟩ := by
    decide +kernel
  exact fun f hf => ⟨lowerKey_eq_self (h f hf).1, (h f hf).2⟩

/-- the list in `additive_rules_bound` is the Spec's `additiveFields` -/
theorem additiveFields_eq :
    additiveFields =
      ["paid_loss", "reported_loss", "incurred_loss",
       "earned_premium", "used_earned_premium", "written_premium",
       "earned_exposure", "written_exposure",
       "reported_claims", "open_claims", "closed_claims", "closed_with_pay_claims",
       "reported_count", "open_count", "closed_count", "closed_with_pay_count",
       "incurred_loss_developed", "paid_loss_developed", "reported_loss_developed",
       "incurred_loss_prior", "paid_loss_prior", "reported_loss_prior"] := rfl

/-- ratio fields carry the documented weights; `log_industry_lr` is the exp/log variant weighted by
`earned_premium` (key binding here; the SHAPE `log((Σ exp(v)·w)/Σ w)` for arbitrary exp/log is
`summarize_wavglog_spec` / `summarize_log_industry_lr_spec`; the numeric value of exp/log is outside the model) -/
theorem ratio_rules_bound :
    ruleOf [] "implied_atu" = some ⟨.wavg, ["implied_atu", "reported_loss"]⟩ ∧
    ruleOf [] "bf_weight" = some ⟨.wavg, ["bf_weight", "reported_loss"]⟩ ∧
    ruleOf [] "geometric_weight" = some ⟨.wavg, ["geometric_weight", "reported_loss"]⟩ ∧
    ruleOf [] "log_industry_lr" = some ⟨.wavglog, ["log_industry_lr", "earned_premium"]⟩ := by
  decide +kernel

/-- the table has no entry beyond the 22 additive and the 4 ratio fields, and the extraction succeeded -/
theorem rules_complete :
    Generated.Summarize.ok = true ∧
    ∀ e ∈ Generated.Summarize.summarizeRules,
      e.1 ∈ additiveFields ∨ e.1 ∈ ratioFields ∨ e.1 = "log_industry_lr" := by
  decide +kernel

/-- NON_LOSS_METRICS: the five premium/exposure fields and the three reported_loss-weighted ratios -/
theorem non_loss_metrics_bound :
    (∀ f ∈ Generated.Summarize.nonLossMetrics, f ∈ premiumFields ∨ f ∈ ratioFields) ∧
    (∀ f ∈ premiumFields ++ ratioFields, f ∈ Generated.Summarize.nonLossMetrics) := by
  decide +kernel

/-- the three ratio fields are lower-case and weighted by `reported_loss` (regenerated table) -/
theorem ratio_lower : ∀ f ∈ ratioFields, lowerKey f = f ∧
    ruleOf [] f = some ⟨.wavg, [f, "reported_loss"]⟩ := by
  have h : ∀ f ∈ ratioFields, f.toList.map Char.toLower = f.toList ∧
      ruleOf [] f = some ⟨.wavg, [f, "reported_loss"]⟩ := by decide +kernel
  exact fun f hf => ⟨lowerKey_eq_self (h f hf).1, (h f hf).2⟩

/-- the loss fields of the Spec (what the driver passes with `summarize_premium = False` on a cumulative triangle)
are additive fields outside NON_LOSS_METRICS -/
theorem lossFields_summed : ∀ f ∈ lossFields, f ∈ additiveFields ∧ f ∉ Generated.Summarize.nonLossMetrics := by
  intro f hf
  obtain ⟨ha, hp⟩ := List.mem_filter.mp hf
  refine ⟨ha, fun hn => ?_⟩
  -- a non-loss metric is a premium field (filtered out of `lossFields`) or a ratio field, whose rule is no sum
  rcases non_loss_metrics_bound.1 f hn with h | h
  · simp [h] at hp
  · have hs := (additive_rules_bound f ha).2
    rw [(ratio_lower f h).2] at hs
    cases hs

theorem lossFields_Summed {prem incr : Bool} : ∀ f ∈ lossFields, f ∈ additiveFields ∧ Summed prem incr f :=
  fun f hf => ⟨(lossFields_summed f hf).1, Or.inr (Or.inr (lossFields_summed f hf).2)⟩

/-- `log_industry_lr` is lower-case and always goes through its rule (it is not in NON_LOSS_METRICS) -/
theorem log_industry_lr_summed (prem incr : Bool) :
    lowerKey "log_industry_lr" = "log_industry_lr" ∧ Summed prem incr "log_industry_lr" := by
  refine ⟨lowerKey_eq_self (by decide +kernel), Or.inr (Or.inr ?_)⟩
  decide +kernel

/-! ### 2. sums: cell level, triangle level, conservation -/

/-- **`summarize_cell_spec`.** One output cell per distinct coordinate (the output coordinates are a
permutation of the distinct input coordinates, so none is missing and none repeated); every output cell
carries the gcd metadata and the class of the triangle; and every field whose rule is the sum of itself equals,
sample by sample, the sum of that field over ALL input cells at the output cell's coordinate (cells without
the field count 0). -/
theorem summarize_cell_spec {tr : Transc} {extra : List RuleEntry} {t out : List Cell} {prem : Bool}
    (h : summarize tr extra t prem = .ok out) :
    (out.map (coordKey (smIsIncremental t))).Perm (smDedup (t.map (coordKey (smIsIncremental t)))) ∧
    ∀ o ∈ out,
      metadataGcd t = .ok o.md ∧
      o.kind = (if smIsIncremental t then CellKind.incremental else CellKind.cumulative) ∧
      ∀ (f : String) (i : Nat),
        ruleOf extra (lowerKey f) = some ⟨.sum, [f]⟩ → Summed prem (smIsIncremental t) f →
        (∀ c ∈ groupOf (smIsIncremental t) t o, (c.getV f).inRange i = true) →
        (o.getV f).at i = sumAt (groupOf (smIsIncremental t) t o) f i ∧ (o.getV f).inRange i = true := by
  obtain ⟨md, cells, hmd, hcells, hof⟩ := summarize_ok h
  have hperm := Triangle.ofCells_perm hof
  have hkeys : cells.map (coordKey (smIsIncremental t)) =
      (groupsOf (coordKey (smIsIncremental t)) t).map (·.1) :=
    smMapE_map _ _ hcells (fun g hg o ho => summaryCell_coordKey hg ho)
  refine ⟨?_, ?_⟩
  · have := hperm.map (coordKey (smIsIncremental t))
    rw [hkeys] at this
    simpa [groupsOf, List.map_map, Function.comp_def] using this
  · intro o ho
    obtain ⟨hvals, _, hmd', hkind⟩ := summarize_out_cell h ho
    exact ⟨hmd', hkind, fun f i hr hs hin => summarizeCellValues_sum_at (i := i) hvals (summed_flag hs) hr hin⟩

/-- **`summarize_conserves`.** Every summed field total is conserved, sample by sample. -/
theorem summarize_conserves {tr : Transc} {extra : List RuleEntry} {t out : List Cell} {prem : Bool}
    {f : String} {i : Nat}
    (h : summarize tr extra t prem = .ok out)
    (hr : ruleOf extra (lowerKey f) = some ⟨.sum, [f]⟩) (hs : Summed prem (smIsIncremental t) f)
    (hin : ∀ c ∈ t, (c.getV f).inRange i = true) :
    sumAt out f i = sumAt t f i ∧ ∀ o ∈ out, (o.getV f).inRange i = true := by
  obtain ⟨hkeys, hcells⟩ := summarize_cell_spec h
  have hcell : ∀ o ∈ out, (o.getV f).at i = sumAt (groupOf (smIsIncremental t) t o) f i ∧
      (o.getV f).inRange i = true :=
    fun o ho => (hcells o ho).2.2 f i hr hs fun c hc => hin c (List.mem_filter.mp hc).1
  -- one output cell per distinct coordinate, each the total of its group
  have := sum_by_groups (coordKey (smIsIncremental t)) (coordKey (smIsIncremental t)) (fun c => (c.getV f).at i)
    (fun o => (o.getV f).at i) (fun _ => true) hkeys fun o ho _ => (hcell o ho).1
  rw [List.filter_eq_self.mpr fun _ _ => rfl, List.filter_eq_self.mpr fun _ _ => rfl] at this
  exact ⟨this, fun o ho => (hcell o ho).2⟩

/-- `summarize_conserves` for the DEFAULT table and the 22 additive fields of the property -/
theorem summarize_conserves_additive {tr : Transc} {t out : List Cell} {prem : Bool} {f : String}
    {i : Nat} (h : summarize tr [] t prem = .ok out) (hf : f ∈ additiveFields)
    (hs : Summed prem (smIsIncremental t) f) (hin : ∀ c ∈ t, (c.getV f).inRange i = true) :
    sumAt out f i = sumAt t f i := by
  have hb := additive_rules_bound f hf
  exact (summarize_conserves h (by rw [hb.1]; exact hb.2) hs hin).1

/-- **`summarize_sum_shape`.** Shape and Python kind of a summed field: index `i` addresses a
sample of the result IFF it addresses a sample of every input value of the group (so the result has no extra
and no missing samples: its length is the common length of the input arrays); the result is integral
(`int` / int64 array) iff every addend is (`None` adds nothing); it is an array iff some addend is one. -/
theorem summarize_sum_shape {tr : Transc} {extra : List RuleEntry} {t out : List Cell} {prem : Bool}
    {f : String} (h : summarize tr extra t prem = .ok out)
    (hr : ruleOf extra (lowerKey f) = some ⟨.sum, [f]⟩) (hs : Summed prem (smIsIncremental t) f) :
    ∀ o ∈ out,
      (∀ i, (o.getV f).inRange i = true ↔ ∀ c ∈ groupOf (smIsIncremental t) t o, (c.getV f).inRange i = true) ∧
      (o.getV f).isIntKind = (groupOf (smIsIncremental t) t o).all (fun c => (c.getV f).isIntKind) ∧
      (o.getV f).isArr = (groupOf (smIsIncremental t) t o).any (fun c => (c.getV f).isArr) := by
  intro o ho
  have s := summarizeCellValues_sum (summarize_out_cell h ho).1 (summed_flag hs) hr
  refine ⟨fun i => ?_, s.int.trans List.all_map, s.arr.trans List.any_map⟩
  rw [Cell.getV_eq, s.range]
  simp [List.all_map]

/-! ### 3. `summarize_premium = False` -/

/-- **`no_premium_sum`.** On a cumulative triangle with `summarize_premium = False` loss fields are still the
sums over all cells of the coordinate (this is `summarize_cell_spec` with `Summed` holding by the third
alternative), while a premium/exposure field present in the group takes the value of the FIRST cell of the group
THAT HAS ONE (`firstValue`: the first value that is not `None`; `None` only if no cell of the group holds a value) —
one existing cell's value, not multiplied by the number of loss layers. -/
theorem no_premium_sum {tr : Transc} {extra : List RuleEntry} {t out : List Cell}
    (h : summarize tr extra t false = .ok out) (hinc : smIsIncremental t = false) :
    ∀ o ∈ out, ∃ c0 rest, groupOf false t o = c0 :: rest ∧
      ∀ f ∈ Generated.Summarize.nonLossMetrics, (∃ c ∈ groupOf false t o, f ∈ c.values.keys) →
        Dict.get? o.values f = some (firstValue ((groupOf false t o).map fun c => c.getV f)) := by
  intro o ho
  obtain ⟨hvals, hne, _, _⟩ := summarize_out_cell h ho
  rw [hinc] at hvals hne
  obtain ⟨c0, rest, hgc⟩ := List.exists_cons_of_ne_nil hne
  exact ⟨c0, rest, hgc, fun f hf hex => summarizeCellValues_noprem_first hvals hf (mem_valueKeys.mpr hex)⟩

/-- what `no_premium_sum`'s value is, without `firstValue`: EITHER it is not `None` and some cell of the group HOLDS it
(`values[f] = v`), OR it is `None` and every cell of the group has `None` or nothing there -/
theorem no_premium_value_existing {tr : Transc} {extra : List RuleEntry} {t out : List Cell}
    (h : summarize tr extra t false = .ok out) (hinc : smIsIncremental t = false) :
    ∀ o ∈ out, ∀ f ∈ Generated.Summarize.nonLossMetrics, (∃ c ∈ groupOf false t o, f ∈ c.values.keys) →
      ∃ v, Dict.get? o.values f = some v ∧
        ((v ≠ .none ∧ ∃ c ∈ groupOf false t o, Dict.get? c.values f = some v) ∨
         (v = .none ∧ ∀ c ∈ groupOf false t o, c.getV f = .none)) := by
  intro o ho f hf hex
  obtain ⟨c0, rest, _, hval⟩ := no_premium_sum h hinc o ho
  refine ⟨_, hval f hf hex, ?_⟩
  rcases firstValue_spec ((groupOf false t o).map fun c => c.getV f) with ⟨h1, h2⟩ | ⟨h1, h2⟩
  · right
    exact ⟨h1, fun c hc => h2 _ (List.mem_map.mpr ⟨c, hc, rfl⟩)⟩
  · left
    refine ⟨h1, ?_⟩
    obtain ⟨c, hc, hcv⟩ := List.mem_map.mp h2
    exact ⟨c, hc, hcv ▸ Cell.get?_of_getV_ne_none (hcv ▸ h1)⟩

/-- **`no_premium_first_cell_lacks_field`** (the input of D28, DESIGN §12). When the FIRST cell of a coordinate lacks a
premium/exposure field and another cell of the coordinate holds a value for it, the output holds A VALUE (not `None`)
that some cell of the group holds — the premium is not lost -/
theorem no_premium_first_cell_lacks_field {tr : Transc} {extra : List RuleEntry} {t out : List Cell}
    (h : summarize tr extra t false = .ok out) (hinc : smIsIncremental t = false) :
    ∀ o ∈ out, ∀ f ∈ Generated.Summarize.nonLossMetrics,
      (∃ c ∈ groupOf false t o, ∃ x, Dict.get? c.values f = some x ∧ x ≠ .none) →
        ∃ v, Dict.get? o.values f = some v ∧ v ≠ .none ∧ ∃ c ∈ groupOf false t o, Dict.get? c.values f = some v := by
  intro o ho f hf ⟨c, hc, x, hx, hxn⟩
  have hk : f ∈ c.values.keys := Assoc.mem_keys_of_get? hx
  have hex : ∃ c ∈ groupOf false t o, f ∈ c.values.keys := ⟨c, hc, hk⟩
  obtain ⟨v, hv, hcase⟩ := no_premium_value_existing h hinc o ho f hf hex
  rcases hcase with ⟨hn, hheld⟩ | ⟨hn, hall⟩
  · exact ⟨v, hv, hn, hheld⟩
  · exact absurd ((Cell.getV_of_get? hx).symm.trans (hall c hc)) hxn

/-- the PLAIN reading `Spec.nonLossOkStrict` ("some cell of the group HOLDS the value") — the clause the driver
evaluates on the implementation — is true on the model's output, without any hypothesis -/
theorem spec_nonLossOkStrict {tr : Transc} {extra : List RuleEntry} {t out : List Cell}
    (h : summarize tr extra t false = .ok out) (hinc : smIsIncremental t = false) :
    nonLossOkStrict Generated.Summarize.nonLossMetrics t out = true := by
  simp only [nonLossOkStrict, List.all_eq_true, hinc]
  intro o ho f hf
  cases hany : (groupOf false t o).any (fun c => c.values.contains f) with
  | false => simp
  | true =>
    obtain ⟨c, hc, hcf⟩ := List.any_eq_true.mp hany
    have hex : ∃ c ∈ groupOf false t o, f ∈ c.values.keys := ⟨c, hc, Dict.contains_iff_mem.mp hcf⟩
    obtain ⟨v, hv, hcase⟩ := no_premium_value_existing h hinc o ho f hf hex
    simp only [Bool.not_true, Bool.false_or]
    rw [hv]
    simp only [List.any_eq_true, beq_iff_eq]
    rcases hcase with ⟨_, c', hc', hheld⟩ | ⟨hn, hall⟩
    · exact ⟨c', hc', hheld⟩
    · -- all `None`: the cell that has the key holds an explicit `None`
      refine ⟨c, hc, ?_⟩
      obtain ⟨x, hx⟩ := Dict.get?_of_mem_keys (Dict.contains_iff_mem.mp hcf)
      rw [hx, hn, ← hall c hc, Cell.getV_of_get? hx]

/-! ### 4. the metadata of the result: exactly what every cell shares -/

/-- **`gcd_keeps_exactly_shared`.** Risk basis and currency are those of every cell; each of the four optional
attributes is kept iff every cell has that same value; a detail (loss-detail) entry is kept iff every cell has the
key with that same value and the value is not `None`. -/
theorem gcd_keeps_exactly_shared {t : List Cell} {m : Metadata} (h : metadataGcd t = .ok m)
    (hn : ∀ c ∈ t, c.md.details.keys.Nodup ∧ c.md.lossDetails.keys.Nodup) :
    (∀ c ∈ t, c.md.riskBasis = m.riskBasis ∧ c.md.currency = m.currency) ∧
    (∀ x, m.country = some x ↔ ∀ c ∈ t, c.md.country = some x) ∧
    (∀ x, m.limit = some x ↔ ∀ c ∈ t, c.md.limit = some x) ∧
    (∀ x, m.lossDefinition = some x ↔ ∀ c ∈ t, c.md.lossDefinition = some x) ∧
    (∀ x, m.reinsuranceBasis = some x ↔ ∀ c ∈ t, c.md.reinsuranceBasis = some x) ∧
    (∀ k v, Dict.get? m.details k = some v ↔ v ≠ .none ∧ ∀ c ∈ t, Dict.get? c.md.details k = some v) ∧
    (∀ k v, Dict.get? m.lossDetails k = some v ↔
      v ≠ .none ∧ ∀ c ∈ t, Dict.get? c.md.lossDetails k = some v) := by
  obtain ⟨hrb, hcu, c0, rest, rfl, rfl⟩ := metadataGcd_ok h
  have hrb' := (allSame_map_iff c0 rest (fun c : Cell => c.md.riskBasis)).mp hrb
  have hcu' := (allSame_map_iff c0 rest (fun c : Cell => c.md.currency)).mp hcu
  refine ⟨fun c hc => ⟨hrb' c hc, hcu' c hc⟩, attrGcd_eq_some_iff c0 rest _, attrGcd_eq_some_iff c0 rest _,
    attrGcd_eq_some_iff c0 rest _, attrGcd_eq_some_iff c0 rest _, ?_, ?_⟩
  · intro k v
    have := detailsGcd_get? c0.md.details (rest.map (·.md.details)) k v (hn c0 (by simp)).1
    simpa [List.mem_map] using this
  · intro k v
    have := detailsGcd_get? c0.md.lossDetails (rest.map (·.md.lossDetails)) k v (hn c0 (by simp)).2
    simpa [List.mem_map] using this

/-! ### 5. refusals -/

theorem summarize_error_mixed_risk_basis {tr : Transc} {extra : List RuleEntry} {t : List Cell}
    {prem : Bool} (h : ∃ a ∈ t, ∃ b ∈ t, a.md.riskBasis ≠ b.md.riskBasis) :
    summarize tr extra t prem = .error .triangleError := by
  obtain ⟨a, ha, b, hb, hne⟩ := h
  have := allSame_false_of_ne (f := fun c : Cell => c.md.riskBasis) ha hb hne
  simp [summarize, metadataGcd, this]

theorem summarize_error_mixed_currency {tr : Transc} {extra : List RuleEntry} {t : List Cell}
    {prem : Bool} (h : ∃ a ∈ t, ∃ b ∈ t, a.md.currency ≠ b.md.currency) :
    summarize tr extra t prem = .error .triangleError := by
  obtain ⟨a, ha, b, hb, hne⟩ := h
  have := allSame_false_of_ne (f := fun c : Cell => c.md.currency) ha hb hne
  unfold summarize metadataGcd
  split <;> simp_all

/-- a field without an aggregation rule is refused by `summarize_cell_values` with `TriangleError`, before any
rule runs -/
theorem summarize_cell_values_error_unknown_field {tr : Transc} {extra : List RuleEntry}
    {cells : List Cell} {prem : Bool}
    (h : ∃ c ∈ cells, ∃ k ∈ c.values.keys, ruleOf extra (lowerKey k) = none) :
    summarizeCellValues tr extra cells prem = .error .triangleError :=
  summarizeCellValues_unknown h

/-- **`summarize_error_unknown_field`.** A triangle holding a field without an aggregation rule is never
summarized. (The class is `TriangleError` unless an EARLIER coordinate group already failed with another
class — groups are processed in order; the exact condition is `summarize_error_class_exact`, the class for an
unknown field in any group `summarize_error_unknown_field_class_any` / `_of_erased`.) -/
theorem summarize_error_unknown_field {tr : Transc} {extra : List RuleEntry} {t : List Cell}
    {prem : Bool} (h : ∃ c ∈ t, ∃ k ∈ c.values.keys, ruleOf extra (lowerKey k) = none) :
    ∃ e, summarize tr extra t prem = .error e := by
  cases hs : summarize tr extra t prem with
  | error e => exact ⟨e, rfl⟩
  | ok out =>
    exfalso
    obtain ⟨c, hc, k, hk, hr⟩ := h
    -- the output cell at the coordinate of `c` would hold the summary of a group with an unknown field
    obtain ⟨o, ho, hko⟩ := List.mem_map.mp ((summarize_cell_spec hs).1.mem_iff.mpr
      (mem_smDedup.mpr (List.mem_map.mpr ⟨c, hc, rfl⟩)))
    have hcg : c ∈ groupOf (smIsIncremental t) t o := List.mem_filter.mpr ⟨hc, by simp [hko]⟩
    have hvals := (summarize_out_cell hs ho).1
    rw [summarizeCellValues_unknown ⟨c, hcg, k, hk, hr⟩] at hvals
    cases hvals

/-- **`summarize_error_class_exact`.** Once the metadata are consistent, `summarize` raises the class `e` IFF the
coordinate groups, in first-occurrence order, split into groups that all summarize, then a group whose summary
cell raises `e`: the FIRST failing group decides the class (and nothing after the groups can fail). -/
theorem summarize_error_class_exact {tr : Transc} {extra : List RuleEntry} {t : List Cell} {prem : Bool}
    {md : Metadata} (hmd : metadataGcd t = .ok md) (e : Err) :
    summarize tr extra t prem = .error e ↔
      ∃ pre g post, groupsOf (coordKey (smIsIncremental t)) t = pre ++ g :: post ∧
        (∀ g' ∈ pre, ∃ o, summaryCell tr extra (smIsIncremental t) prem md g' = .ok o) ∧
        summaryCell tr extra (smIsIncremental t) prem md g = .error e := by
  unfold summarize
  rw [hmd]
  simp only
  rw [groupBy_eq_groupsOf]
  constructor
  · intro h
    split at h
    · rename_i e' he'
      cases h
      exact mapM_error_iff.mp (smMapE_eq_mapM _ _ ▸ he')
    · rename_i cells hcells
      exfalso
      have hk : kindsConsistent cells = true := kindsConsistent_of_all fun o ho => by
        obtain ⟨g, _, hgo⟩ := smMapE_mem hcells ho
        obtain ⟨vals, _, hmk⟩ := summaryCell_ok hgo
        cases (AllOps.mk?_ok hmk).1
        rfl
      exact (Triangle.ofCells_eq_error.mp h).1 hk
  · rintro ⟨pre, g, post, hsplit, hpre, hg⟩
    rw [hsplit, smMapE_eq_mapM, mapM_error_iff.mpr ⟨pre, g, post, rfl, hpre, hg⟩]

/-- **`summarize_error_unknown_field_class_any`.** The class for an unknown field in ANY coordinate group:
metadata consistent ∧ every group BEFORE a group holding a field without a rule summarizes → `TriangleError`.
(`summarize_error_unknown_field_class` is the case `pre = []`.) -/
theorem summarize_error_unknown_field_class_any {tr : Transc} {extra : List RuleEntry} {t : List Cell}
    {prem : Bool} {md : Metadata} (hmd : metadataGcd t = .ok md)
    {pre post : List (CoordKey × List Cell)} {g : CoordKey × List Cell}
    (hsplit : groupsOf (coordKey (smIsIncremental t)) t = pre ++ g :: post)
    (hpre : ∀ g' ∈ pre, ∃ o, summaryCell tr extra (smIsIncremental t) prem md g' = .ok o)
    (hunk : ∃ c ∈ g.2, ∃ k ∈ c.values.keys, ruleOf extra (lowerKey k) = none) :
    summarize tr extra t prem = .error .triangleError := by
  rw [summarize_error_class_exact hmd]
  refine ⟨pre, g, post, hsplit, hpre, ?_⟩
  unfold summaryCell
  rw [summarizeCellValues_unknown hunk]

/-- when the metadata are consistent and the unknown field sits at the coordinate of the first cell (the first
group processed), the class is `TriangleError` -/
theorem summarize_error_unknown_field_class {tr : Transc} {extra : List RuleEntry} {c0 : Cell}
    {rest : List Cell} {prem : Bool} {md : Metadata} (hmd : metadataGcd (c0 :: rest) = .ok md)
    (h : ∃ c ∈ c0 :: rest,
      coordKey (smIsIncremental (c0 :: rest)) c = coordKey (smIsIncremental (c0 :: rest)) c0 ∧
      ∃ k ∈ c.values.keys, ruleOf extra (lowerKey k) = none) :
    summarize tr extra (c0 :: rest) prem = .error .triangleError := by
  obtain ⟨c, hc, hkey, k, hk, hr⟩ := h
  -- the coordinate of the first cell is the key of the first group
  obtain ⟨tl, htl⟩ : ∃ tl, groupsOf (coordKey (smIsIncremental (c0 :: rest))) (c0 :: rest) =
      (_, (c0 :: rest).filter (coordKey _ · == coordKey (smIsIncremental (c0 :: rest)) c0)) :: tl := ⟨_, rfl⟩
  exact summarize_error_unknown_field_class_any hmd (pre := []) htl (fun _ h => nomatch h)
    ⟨c, List.mem_filter.mpr ⟨hc, beq_iff_eq.mpr hkey⟩, k, hk, hr⟩

/-- **`summarize_error_unknown_field_class_of_erased`.** No reference to groups: if the triangle WITHOUT its
fields that have no rule is summarized (so nothing else is wrong with it: metadata consistent, no shape / kind /
missing-weight clash anywhere), then the triangle WITH them is refused with `TriangleError`. -/
theorem summarize_error_unknown_field_class_of_erased {tr : Transc} {extra : List RuleEntry} {t out : List Cell}
    {prem : Bool} (h : ∃ c ∈ t, ∃ k ∈ c.values.keys, ruleOf extra (lowerKey k) = none)
    (hok : summarize tr extra (t.map (eraseUnknown extra)) prem = .ok out) :
    summarize tr extra t prem = .error .triangleError := by
  obtain ⟨md, cells, hmd, hcells, _⟩ := summarize_ok hok
  rw [metadataGcd_map (e := eraseUnknown extra) (fun _ => rfl)] at hmd
  rw [smIsIncremental_map (e := eraseUnknown extra) (fun _ => rfl),
    groupsOf_map _ (eraseUnknown extra) (fun c => by cases hi : smIsIncremental t <;> rfl)] at hcells
  -- the first group holding an unknown key
  obtain ⟨c, hc, k, hk, hr⟩ := h
  have hex : ∃ g ∈ groupsOf (coordKey (smIsIncremental t)) t,
      ∃ c ∈ g.2, ∃ k ∈ c.values.keys, ruleOf extra (lowerKey k) = none := by
    obtain ⟨g, hg, _, hcg⟩ := groupsOf_cover (key := coordKey (smIsIncremental t)) hc
    exact ⟨g, hg, c, hcg, k, hk, hr⟩
  obtain ⟨pre, g, post, hsplit, hg, hpre⟩ := exists_first hex
  refine summarize_error_unknown_field_class_any hmd hsplit ?_ hg
  intro g' hg'
  have hid : g'.2.map (eraseUnknown extra) = g'.2 := by
    have : ∀ c ∈ g'.2, eraseUnknown extra c = c := by
      intro c hc
      apply eraseUnknown_id
      intro k hk hr
      exact hpre g' hg' ⟨c, hc, k, hk, hr⟩
    rw [List.map_congr_left this, List.map_id']
  have hmem : (g'.1, g'.2.map (eraseUnknown extra)) ∈
      (groupsOf (coordKey (smIsIncremental t)) t).map fun g => (g.1, g.2.map (eraseUnknown extra)) :=
    List.mem_map.mpr ⟨g', by rw [hsplit]; simp [hg'], rfl⟩
  obtain ⟨o, _, ho⟩ := smMapE_mem' hcells hmem
  rw [hid] at ho
  exact ⟨o, ho⟩


/-! ### 6. ratio fields -/

/-- **`summarize_ratio_spec`.** With the rules summed (`summarize_premium = True` or an incremental triangle) a
field whose rule is the `w`-weighted average of itself — by `ratio_rules_bound`: `implied_atu`, `bf_weight`,
`geometric_weight` with `w = reported_loss` — satisfies, in the output cell `o` and sample by sample,
`o[f] × Σ w = Σ value × w` over the input cells at `o`'s coordinate, the denominator being the (non-zero) sum of
the weights of ALL those cells — also of cells WITHOUT a value of `f`, which count 0 in the numerator
(`ratio_denominator_counts_valueless_weights` shows the difference from the average over the cells that have a
value). (`log_industry_lr`: `summarize_wavglog_spec`.) -/
theorem summarize_ratio_spec {tr : Transc} {extra : List RuleEntry} {t out : List Cell} {prem : Bool}
    {f w : String} {i : Nat}
    (h : summarize tr extra t prem = .ok out) (hp : prem = true ∨ smIsIncremental t = true)
    (hr : ruleOf extra (lowerKey f) = some ⟨.wavg, [f, w]⟩) :
    ∀ o ∈ out, (∃ c ∈ groupOf (smIsIncremental t) t o, f ∈ c.values.keys) →
      (∀ c ∈ groupOf (smIsIncremental t) t o,
        (c.getV f).inRange i = true ∧ (c.getV w).inRange i = true) →
      (o.getV f).at i * sumAt (groupOf (smIsIncremental t) t o) w i =
        ((groupOf (smIsIncremental t) t o).map fun c => (c.getV f).at i * (c.getV w).at i).sum ∧
      sumAt (groupOf (smIsIncremental t) t o) w i ≠ 0 := by
  intro o ho hex hin
  obtain ⟨v, hd, h1, h2⟩ := summarizeCellValues_wavg_at (i := i) (summarize_out_cell h ho).1
    (summed_flag (hp.elim .inl (.inr ∘ .inl))) hr (mem_valueKeys.mpr hex) hin
  rw [Cell.getV_of_get? hd]
  exact ⟨h1, h2⟩

/-! ### 7. `log_industry_lr`: log of the weighted average of exp -/

/-- **`summarize_wavglog_spec`.** The SHAPE of the `log_industry_lr` rule for arbitrary `np.exp` / `np.log`
(`tr : Transc`): a field whose rule is the exp/log variant weighted by `w` comes out, sample by sample, as
`tr.log ((Σ tr.exp(value_c) · w_c) / Σ w_c)` over the cells of the coordinate, with a non-zero denominator, in
range; and the rule only succeeds when EVERY cell of the group holds a value (`np.exp` of a list with a `None`
is a `TypeError`), so here numerator and denominator run over the same cells. The field is outside
NON_LOSS_METRICS, so this also holds with `summarize_premium = False`. -/
theorem summarize_wavglog_spec {tr : Transc} {extra : List RuleEntry} {t out : List Cell} {prem : Bool}
    {f w : String} {i : Nat}
    (h : summarize tr extra t prem = .ok out) (hs : Summed prem (smIsIncremental t) f)
    (hr : ruleOf extra (lowerKey f) = some ⟨.wavglog, [f, w]⟩) :
    ∀ o ∈ out, (∃ c ∈ groupOf (smIsIncremental t) t o, f ∈ c.values.keys) →
      (∀ c ∈ groupOf (smIsIncremental t) t o,
        (c.getV f).inRange i = true ∧ (c.getV w).inRange i = true) →
      (o.getV f).at i = tr.log
        (((groupOf (smIsIncremental t) t o).map fun c => tr.exp ((c.getV f).at i) * (c.getV w).at i).sum /
          sumAt (groupOf (smIsIncremental t) t o) w i) ∧
      sumAt (groupOf (smIsIncremental t) t o) w i ≠ 0 ∧ (o.getV f).inRange i = true ∧
      ∀ c ∈ groupOf (smIsIncremental t) t o, (c.getV f).isNone = false := by
  intro o ho hex hin
  obtain ⟨hvals, _⟩ := summarize_out_cell h ho
  obtain ⟨v, hd, h1, h2, h3, h4⟩ :=
    summarizeCellValues_wavglog_at (i := i) hvals (summed_flag hs) hr (mem_valueKeys.mpr hex) hin
  rw [Cell.getV_of_get? hd]
  exact ⟨h1, h2, h3, h4⟩

/-- the default table: `log_industry_lr` weighted by `earned_premium` (`ratio_rules_bound`), any `summarize_premium` -/
theorem summarize_log_industry_lr_spec {tr : Transc} {t out : List Cell} {prem : Bool} {i : Nat}
    (h : summarize tr [] t prem = .ok out) :
    ∀ o ∈ out, (∃ c ∈ groupOf (smIsIncremental t) t o, "log_industry_lr" ∈ c.values.keys) →
      (∀ c ∈ groupOf (smIsIncremental t) t o,
        (c.getV "log_industry_lr").inRange i = true ∧ (c.getV "earned_premium").inRange i = true) →
      (o.getV "log_industry_lr").at i = tr.log
        (((groupOf (smIsIncremental t) t o).map fun c =>
            tr.exp ((c.getV "log_industry_lr").at i) * (c.getV "earned_premium").at i).sum /
          sumAt (groupOf (smIsIncremental t) t o) "earned_premium" i) ∧
      sumAt (groupOf (smIsIncremental t) t o) "earned_premium" i ≠ 0 := by
  intro o ho hex hin
  have hl := log_industry_lr_summed prem (smIsIncremental t)
  have := summarize_wavglog_spec (i := i) h hl.2 (by rw [hl.1]; exact ratio_rules_bound.2.2.2) o ho hex hin
  exact ⟨this.1, this.2.1⟩

/-! ### 8. the executable Spec predicates hold on the model's output (bridge) -/


theorem spec_conserves {tr : Transc} {t out : List Cell} {prem : Bool} {fields : List String}
    (h : summarize tr [] t prem = .ok out)
    (hf : ∀ f ∈ fields, f ∈ additiveFields ∧ Summed prem (smIsIncremental t) f) :
    conserves fields t out = true := by
  simp only [conserves, List.all_eq_true]
  intro f hf' i _
  have hb := additive_rules_bound f (hf f hf').1
  exact conserve_clause (summarize_conserves h (by rw [hb.1]; exact hb.2) (hf f hf').2)

theorem spec_cellSums {tr : Transc} {t out : List Cell} {prem : Bool} {fields : List String}
    (h : summarize tr [] t prem = .ok out)
    (hf : ∀ f ∈ fields, f ∈ additiveFields ∧ Summed prem (smIsIncremental t) f) :
    cellSums fields t out = true := by
  simp only [cellSums, List.all_eq_true]
  intro o ho f hf' i _
  have hb := additive_rules_bound f (hf f hf').1
  exact cellSum_clause (((summarize_cell_spec h).2 o ho).2.2 f i (by rw [hb.1]; exact hb.2) (hf f hf').2)

/-- `Spec.coordsOk` is true on the model's output: one cell per distinct coordinate, of the right class -/
theorem spec_coordsOk {tr : Transc} {extra : List RuleEntry} {t out : List Cell} {prem : Bool}
    (h : summarize tr extra t prem = .ok out) : coordsOk t out = true := by
  obtain ⟨hperm, hcells⟩ := summarize_cell_spec h
  simp only [coordsOk, Bool.and_eq_true, List.all_eq_true]
  refine ⟨⟨⟨?_, ?_⟩, ?_⟩, ?_⟩
  · exact nodupB_of_nodup (hperm.nodup_iff.mpr (nodup_smDedup _))
  · intro k hk
    simpa using hperm.mem_iff.mpr (mem_smDedup.mpr hk)
  · intro k hk
    simpa using mem_smDedup.mp (hperm.mem_iff.mp hk)
  · intro o ho
    simpa using (hcells o ho).2.1


/-- `Spec.nonLossOk` is true on the model's output (cumulative triangle, `summarize_premium = False`) -/
theorem spec_nonLossOk {tr : Transc} {extra : List RuleEntry} {t out : List Cell}
    (h : summarize tr extra t false = .ok out) (hinc : smIsIncremental t = false) :
    nonLossOk Generated.Summarize.nonLossMetrics t out = true :=
  nonLossOk_of_strict (spec_nonLossOkStrict h hinc)


/-- `Spec.keysOk` is true on the model's output -/
theorem spec_keysOk {tr : Transc} {extra : List RuleEntry} {t out : List Cell} {prem : Bool}
    (h : summarize tr extra t prem = .ok out) : keysOk t out = true := by
  simp only [keysOk, List.all_eq_true]
  intro o ho
  have hperm := summarizeCellValues_keys_perm (summarize_out_cell h ho).1
  exact keys_clause (hperm.nodup_iff.mpr (nodup_smDedup _)) fun k => hperm.mem_iff.trans mem_valueKeys

/-- `Spec.metaOk` is true on the model's output (details dicts have distinct keys, as Python dicts do) -/
theorem spec_metaOk {tr : Transc} {extra : List RuleEntry} {t out : List Cell} {prem : Bool}
    (h : summarize tr extra t prem = .ok out)
    (hn : ∀ c ∈ t, c.md.details.keys.Nodup ∧ c.md.lossDetails.keys.Nodup) : metaOk t out = true := by
  simp only [metaOk, List.all_eq_true]
  intro o ho
  have hmd := ((summarize_cell_spec h).2 o ho).1
  obtain ⟨h1, h2, h3, h4, h5, h6, h7⟩ := gcd_keeps_exactly_shared hmd hn
  obtain ⟨n1, n2⟩ := metadataGcd_keys_nodup hmd hn
  simp only [mdShared, Bool.and_eq_true, List.all_eq_true, beq_iff_eq]
  refine ⟨⟨⟨⟨⟨⟨fun c hc => h1 c hc, attrShared_of_iff h2⟩, attrShared_of_iff h3⟩, attrShared_of_iff h4⟩,
    attrShared_of_iff h5⟩, ?_⟩, ?_⟩
  · apply detailsShared_of_iff n1
    intro k v; rw [h6]; simp [List.mem_map]
  · apply detailsShared_of_iff n2
    intro k v; rw [h7]; simp [List.mem_map]

/-- `Spec.ratioOk` is true on the model's output, for every non-negative tolerance -/
theorem spec_ratioOk {tr : Transc} {t out : List Cell} {prem : Bool} {tol : Rat} (h0 : 0 ≤ tol)
    (h : summarize tr [] t prem = .ok out) (hp : prem = true ∨ smIsIncremental t = true) :
    ratioOk tol "reported_loss" ratioFields t out = true := by
  simp only [ratioOk, List.all_eq_true]
  intro o ho f hf
  cases hany : (groupOf (smIsIncremental t) t o).any (fun c => c.values.contains f) with
  | false => simp
  | true =>
    cases hw : (groupOf (smIsIncremental t) t o).all
        (fun c => (c.getV f).isNone || !(c.getV "reported_loss").isNone) with
    | false => simp
    | true =>
      simp only [Bool.not_true, Bool.false_or, List.all_eq_true]
      intro i _
      cases hr : (allInRange (groupOf (smIsIncremental t) t o) f i &&
          allInRange (groupOf (smIsIncremental t) t o) "reported_loss" i && (o.getV f).inRange i) with
      | false => simp
      | true =>
        simp only [Bool.and_eq_true] at hr
        obtain ⟨c, hc, hcf⟩ := List.any_eq_true.mp hany
        have hb := ratio_lower f hf
        have := summarize_ratio_spec (i := i) (f := f) (w := "reported_loss") h hp
          (by rw [hb.1]; exact hb.2) o ho ⟨c, hc, Dict.contains_iff_mem.mp hcf⟩
          (fun c' hc' => ⟨allInRange_iff.mp hr.1.1 c' hc', allInRange_iff.mp hr.1.2 c' hc'⟩)
        simp only [Bool.not_true, Bool.false_or, Bool.or_eq_true]
        right
        rw [this.1]
        exact closeTo_self h0


/-- `Spec.conserves` and `Spec.cellSums` hold on the model's output for exactly the field list `Drv/C09.lean`
passes (`additiveFields` when everything is summed, else `lossFields`) -/
theorem spec_driver_fields {tr : Transc} {t out : List Cell} {prem : Bool}
    (h : summarize tr [] t prem = .ok out) :
    conserves (if prem || smIsIncremental t then additiveFields else lossFields) t out = true ∧
    cellSums (if prem || smIsIncremental t then additiveFields else lossFields) t out = true := by
  have hf : ∀ f ∈ (if prem || smIsIncremental t then additiveFields else lossFields),
      f ∈ additiveFields ∧ Summed prem (smIsIncremental t) f := by
    intro f hf
    cases hp : (prem || smIsIncremental t) with
    | true =>
      rw [hp] at hf
      refine ⟨hf, ?_⟩
      rcases Bool.or_eq_true_iff.mp hp with h1 | h1
      · exact Or.inl h1
      · exact Or.inr (Or.inl h1)
    | false =>
      rw [hp] at hf
      exact lossFields_Summed f hf
  exact ⟨spec_conserves h hf, spec_cellSums h hf⟩

/-! ### 9. non-vacuity -/

def exT : List Cell :=
  [ { kind := .cumulative, ps := ⟨2020, 1, 1⟩, pe := ⟨2020, 12, 31⟩, ev := ⟨2020, 12, 31⟩,
      values := [("paid_loss", .int 10), ("earned_premium", .flt 100)],
      md := { country := some "US", details := [("coverage", .str "BI"), ("state", .str "NY")] } },
    { kind := .cumulative, ps := ⟨2020, 1, 1⟩, pe := ⟨2020, 12, 31⟩, ev := ⟨2020, 12, 31⟩,
      values := [("paid_loss", .int 5), ("reported_loss", .int 7)],
      md := { country := some "US", details := [("coverage", .str "PD"), ("state", .str "NY")] } } ]

/-- the theorems are not vacuous: a two-slice triangle (slices differ in a detail, share country and another
detail, hold different field subsets) is summarized to one cell with paid_loss 15, the shared metadata kept -/
example :
    (match summarize Transc.id [] exT true with
     | .ok out => decide (out =
        [ { kind := .cumulative, ps := ⟨2020, 1, 1⟩, pe := ⟨2020, 12, 31⟩, ev := ⟨2020, 12, 31⟩,
            values := [("paid_loss", .int 15), ("earned_premium", .flt 100), ("reported_loss", .int 7)],
            md := { country := some "US", details := [("state", .str "NY")] } } ])
     | .error _ => false) = true := by
  decide +kernel


/-! ### 10. more non-vacuity: `summarize_premium = False`, ratio fields, each refusal

`returns r out = true ↔ r = .ok out`, `refuses r e = true ↔ r = .error e`, `succeeds r = true ↔ ∃ out, r = .ok out`
(`returns_iff`, `refuses_iff`, `succeeds_iff` in `Lemmas/SummarizeSpec.lean`); all by kernel evaluation of the model. -/

/-- two loss layers sharing one premium -/
def exLayersT : List Cell :=
  [ wCell [("paid_loss", .int 10), ("earned_premium", .flt 100)] { lossDetails := [("layer", .str "A")] },
    wCell [("paid_loss", .int 5), ("earned_premium", .flt 100)] { lossDetails := [("layer", .str "B")] } ]

/-- `no_premium_sum` is not vacuous: a cumulative two-layer triangle summarized with `summarize_premium = False`
keeps the premium 100 (losses summed to 15); with `True` the premium is doubled -/
theorem no_premium_sum_example :
    smIsIncremental exLayersT = false ∧
    returns (summarize Transc.id [] exLayersT false)
      [ wCell [("paid_loss", .int 15), ("earned_premium", .flt 100)] {} ] = true ∧
    returns (summarize Transc.id [] exLayersT true)
      [ wCell [("paid_loss", .int 15), ("earned_premium", .flt 200)] {} ] = true := by
  decide +kernel

def exRatio2T : List Cell :=
  [ wCell [("reported_loss", .int 100), ("bf_weight", .flt (1/2)), ("log_industry_lr", .flt (1/2)),
           ("earned_premium", .int 100)] { details := [("s", .str "A")] },
    wCell [("reported_loss", .int 300), ("bf_weight", .flt (1/4)), ("log_industry_lr", .flt (1/4)),
           ("earned_premium", .int 300)] { details := [("s", .str "B")] } ]

/-- `summarize_ratio_spec` and `summarize_wavglog_spec` are not vacuous: (½·100 + ¼·300)/400 = 5/16 (the second
with `exp = log = id`) -/
theorem ratio_example :
    returns (summarize Transc.id [] exRatio2T true)
      [ wCell [("reported_loss", .int 400), ("bf_weight", .flt (5/16)), ("log_industry_lr", .flt (5/16)),
               ("earned_premium", .int 400)] {} ] = true := by
  decide +kernel

/-- each refusal happens, with its class; and the same triangle is summarized once the field has a rule -/
theorem refusal_examples :
    refuses (summarize Transc.id []
      [ wCell [("paid_loss", .int 1)] { currency := some "USD" },
        wCell [("paid_loss", .int 2)] { currency := some "EUR" } ] true) .triangleError = true ∧
    refuses (summarize Transc.id []
      [ wCell [("paid_loss", .int 1)] { riskBasis := some "Accident" },
        wCell [("paid_loss", .int 2)] { riskBasis := some "Policy" } ] true) .triangleError = true ∧
    refuses (summarize Transc.id []
      [ wCell [("paid_loss", .int 1)] {}, wCell [("mystery", .int 2)] { country := some "US" } ] true)
      .triangleError = true ∧
    returns (summarize Transc.id [("mystery", "sum", ["mystery"])]
      [ wCell [("paid_loss", .int 1)] {}, wCell [("mystery", .int 2)] { country := some "US" } ] true)
      [ wCell [("paid_loss", .int 1), ("mystery", .int 2)] {} ] = true := by
  decide +kernel

/-- the unknown field sits in the SECOND coordinate group; the first group summarizes -/
def exLaterT : List Cell :=
  [ wCell [("paid_loss", .int 1)] { details := [("s", .str "A")] },
    wCell [("paid_loss", .int 2)] { details := [("s", .str "B")] },
    wCell2 [("paid_loss", .int 3), ("mystery", .int 9)] { details := [("s", .str "A")] } ]

/-- the same, but the FIRST group holds int64 arrays of unequal shape (`ValueError`) -/
def exClashT : List Cell :=
  [ wCell [("paid_loss", .arr true [2] [1, 2])] { details := [("s", .str "A")] },
    wCell [("paid_loss", .arr true [3] [1, 2, 3])] { details := [("s", .str "B")] },
    wCell2 [("paid_loss", .int 3), ("mystery", .int 9)] { details := [("s", .str "A")] } ]

/-- `summarize_error_unknown_field_class_any` / `_of_erased` are not vacuous (the triangle without `mystery` is
summarized, the triangle with it raises `TriangleError` from the second group), and their hypothesis is needed:
when an EARLIER group fails for another reason the class is that group's (`summarize_error_class_exact`) -/
theorem unknown_field_later_group_examples :
    refuses (summarize Transc.id [] exLaterT true) .triangleError = true ∧
    succeeds (summarize Transc.id [] (exLaterT.map (eraseUnknown [])) true) = true ∧
    refuses (summarize Transc.id [] exClashT true) .valueError = true ∧
    refuses (summarize Transc.id [] (exClashT.map (eraseUnknown [])) true) .valueError = true := by
  decide +kernel

/-! ### 11. witnesses: three behaviours of the code next to the PLAIN reading of the property's words

Each theorem evaluates the model on a one-coordinate triangle (the implementation returns the same) and states the
accepting Spec predicate next to the plain-reading predicate of `Spec/C09.lean` (`ratioOkPlain` and `detailsSharedPlain`
are not clauses of the check; `nonLossOkStrict` is the clause the driver evaluates). -/

/-- the first cell of the coordinate lacks `earned_premium`, the second holds 100 -/
def exPremT : List Cell :=
  [ wCell [("paid_loss", .int 10)] { lossDetails := [("layer", .str "A")] },
    wCell [("paid_loss", .int 5), ("earned_premium", .flt 100)] { lossDetails := [("layer", .str "B")] } ]

def exPremOut : List Cell := [ wCell [("paid_loss", .int 15), ("earned_premium", .flt 100)] {} ]

/-- the output with `None` for the premium: what the code returned with the defect D28 (DESIGN §12) -/
def exPremOutD28 : List Cell := [ wCell [("paid_loss", .int 15), ("earned_premium", .none)] {} ]

/-- **`premium_first_cell_lacks_field_none`.** "premium/exposure fields take one existing
cell's value": the first loss layer lacks `earned_premium`, the second holds 100. With `summarize_premium = False` the
model (and code) returns the premium 100; the `None` of the name is the output `exPremOutD28` of the defect D28,
which no cell holds. `Spec.nonLossOkStrict` (some cell HOLDS the value; the clause the driver evaluates) accepts 100
and rejects that `None`; the weaker `Spec.nonLossOk` accepts both. -/
theorem premium_first_cell_lacks_field_none :
    returns (summarize Transc.id [] exPremT false) exPremOut = true ∧
    returns (summarize Transc.id [] exPremT true) exPremOut = true ∧
    (∀ c ∈ exPremT, c.values.get? "earned_premium" ≠ some .none) ∧
    (∃ c ∈ exPremT, c.values.get? "earned_premium" = some (.flt 100)) ∧
    nonLossOkStrict Generated.Summarize.nonLossMetrics exPremT exPremOut = true ∧
    nonLossOk Generated.Summarize.nonLossMetrics exPremT exPremOutD28 = true ∧
    nonLossOkStrict Generated.Summarize.nonLossMetrics exPremT exPremOutD28 = false := by
  decide +kernel

/-- one cell holds `bf_weight = ½` with weight 100, the other only the weight 300 -/
def exRatioT : List Cell :=
  [ wCell [("reported_loss", .int 100), ("bf_weight", .flt (1/2))] { details := [("s", .str "A")] },
    wCell [("reported_loss", .int 300)] { details := [("s", .str "B")] } ]

def exRatioOut (q : Rat) : List Cell := [ wCell [("reported_loss", .int 400), ("bf_weight", .flt q)] {} ]

/-- **`ratio_denominator_counts_valueless_weights`.** "ratio-type fields are weighted averages": the model (and
the code) returns ½·100/(100+300) = 1/8, below the only value there is; the average over the cells that HAVE a
value is ½. `Spec.ratioOk` (denominator = weights of ALL cells, exact: tolerance 0) accepts 1/8 and rejects ½;
the plain reading `Spec.ratioOkPlain` rejects 1/8 and accepts ½. -/
theorem ratio_denominator_counts_valueless_weights :
    returns (summarize Transc.id [] exRatioT true) (exRatioOut (1/8)) = true ∧
    ratioOk 0 "reported_loss" ratioFields exRatioT (exRatioOut (1/8)) = true ∧
    ratioOkPlain 0 "reported_loss" ratioFields exRatioT (exRatioOut (1/8)) = false ∧
    ratioOkPlain 0 "reported_loss" ratioFields exRatioT (exRatioOut (1/2)) = true ∧
    ratioOk 0 "reported_loss" ratioFields exRatioT (exRatioOut (1/2)) = false := by
  decide +kernel

/-- both slices hold the detail `k = None` and the loss detail `q = None` -/
def exNoneT : List Cell :=
  [ wCell [("paid_loss", .int 1)] { details := [("k", .none), ("s", .str "A")], lossDetails := [("q", .none)] },
    wCell [("paid_loss", .int 2)] { details := [("k", .none), ("s", .str "B")], lossDetails := [("q", .none)] } ]

/-- **`shared_none_detail_dropped`.** "keeps exactly those … detail entries that every input cell shares": the
entries `k ↦ None` / `q ↦ None` are held by every cell with the same value and are dropped by the model (and the
code). `Spec.detailsShared` accepts the empty result (`entryShared` demands a non-`None` value); the plain reading
`Spec.detailsSharedPlain` rejects it and accepts `[k ↦ None]`. Even a ONE-slice triangle does not keep its own
metadata (last conjunct). -/
theorem shared_none_detail_dropped :
    returns (summarize Transc.id [] exNoneT true) [ wCell [("paid_loss", .int 3)] {} ] = true ∧
    (∀ c ∈ exNoneT, c.md.details.get? "k" = some .none ∧ c.md.lossDetails.get? "q" = some .none) ∧
    detailsShared (exNoneT.map (·.md.details)) [] = true ∧
    detailsSharedPlain (exNoneT.map (·.md.details)) [] = false ∧
    detailsSharedPlain (exNoneT.map (·.md.details)) [("k", .none)] = true ∧
    detailsSharedPlain (exNoneT.map (·.md.lossDetails)) [] = false ∧
    returns (summarize Transc.id [] [wCell [("paid_loss", .int 1)] { details := [("k", .none)] }] true)
      [ wCell [("paid_loss", .int 1)] {} ] = true := by
  decide +kernel

end Bermuda.Properties.C09
