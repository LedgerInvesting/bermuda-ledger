/-
C10 — join / merge / coalesce / add_statics / period_merge obey their relational definitions.
The generic helpers, in this file's namespace, are in `Lemmas/JoinHelpers.lean`.
-/
import Bermuda.Lemmas.Join
import Bermuda.Lemmas.JoinHelpers
import Bermuda.Properties.C01
namespace Bermuda.Properties.C10
open Bermuda List
open Bermuda.Properties.C01 (ofCells_perm ofCells_sorted ofCells_ok_iff ofCells_idem Canonical ofCells_perm_invariant)

/-! ### join: the returned coordinates are the relational set expression -/

/-- **join_keys** (after the `on` reduction): for each of the six join types the coordinates of the
returned pairs are pairwise distinct (one pair per coordinate), every pair has a coordinate, and a
coordinate is returned iff it satisfies the set expression of the join type on the operands' key
sets (full = ∪, inner = ∩, left, right, left_anti = A \ B, right_anti = B \ A).
No distinct-keys hypothesis is needed: this holds for the dict-based algorithm as is. -/
theorem join_keys (ty : JoinType) (a b : List Cell) :
    let inc := isIncremental a
    let ks := (joinCore ty a b).map (Spec.pairKey? inc)
    ks.Nodup ∧ none ∉ ks ∧
    ∀ k, some k ∈ ks ↔
      Spec.setExpr ty (a.map (joinKey inc)) (b.map (joinKey inc)) k = true := by
  obtain ⟨ks, hnd, hmem, hkey, e⟩ := joinCore_closed ty a b
  rw [e]
  obtain ⟨h1, h2, h3⟩ := keys_of_closed hnd hkey
  exact ⟨h1, h2, fun k => (h3 k).trans (hmem k)⟩

/-! ### the `join` wrapper: class check, `on` reduction -/

theorem join_ok {ty : JoinType} {on : Option (List String)} {a b : List Cell} {ps : List CellPair}
    (h : join (some ty) on a b = .ok ps) :
    kindMismatch a b = false ∧
    ∃ a' b', reduceOn on a = .ok a' ∧ reduceOn on b = .ok b' ∧ ps = joinCore ty a' b' := by
  obtain ⟨hk, ha, hb, -, e⟩ := join_inv h
  exact ⟨hk, _, _, ha, hb, e⟩

/-- a class mismatch of two non-empty operands is a `ValueError`, whatever the other arguments -/
theorem join_kind_mismatch {ty : Option JoinType} {on : Option (List String)} {a b : List Cell}
    (h : kindMismatch a b = true) : join ty on a b = .error .valueError := by
  rw [join_eq, if_pos h]

/-- an unrecognised join type is a `ValueError` (if nothing raised earlier it is raised last) -/
theorem join_unknown_type {on : Option (List String)} {a b : List Cell} :
    ∃ e, join none on a b = .error e := by
  rw [join_eq]
  split
  · exact ⟨_, rfl⟩
  · cases reduceOn on a with
    | error e => exact ⟨_, rfl⟩
    | ok a' => cases reduceOn on b <;> exact ⟨_, rfl⟩

theorem reduceOn_perm {on : Option (List String)} {a a' : List Cell}
    (h : reduceOn on a = .ok a') : a'.Perm (Spec.onCells on a) := by
  rw [reduceOn_eq_sortedOn h]
  exact sortedOn_perm on a

theorem reduceOn_isIncremental {on : Option (List String)} {a a' : List Cell}
    (h : reduceOn on a = .ok a') : isIncremental a' = isIncremental a :=
  (reduceOn_ok h).2


/-- **join_keys** for `join` itself, `on` included: the coordinates of the result are those of the
set expression on the keys of the operands *with metadata reduced to `on`*. -/
theorem join_keys_on {ty : JoinType} {on : Option (List String)} {a b : List Cell}
    {ps : List CellPair} (h : join (some ty) on a b = .ok ps) :
    let inc := isIncremental a
    let ks := ps.map (Spec.pairKey? inc)
    ks.Nodup ∧ none ∉ ks ∧
    ∀ k, some k ∈ ks ↔
      Spec.setExpr ty ((Spec.onCells on a).map (joinKey inc)) ((Spec.onCells on b).map (joinKey inc)) k
        = true := by
  obtain ⟨ks, hnd, hmem, hkey, rfl⟩ := join_closed h
  obtain ⟨h1, h2, h3⟩ := keys_of_closed hnd hkey
  exact ⟨h1, h2, fun k => (h3 k).trans (hmem k)⟩

/-- **pair_not_both_none**: `(None, None)` never comes out of `join` (every returned pair has a
coordinate: conjunct `none ∉ ks` of `join_keys_on`) — what `_merge_cell_pair` relies on. -/
theorem pair_not_both_none {ty : JoinType} {on : Option (List String)} {a b : List Cell}
    {ps : List CellPair} (h : join (some ty) on a b = .ok ps) : (none, none) ∉ ps := fun hp =>
  (join_keys_on h).2.1 (List.mem_map.mpr ⟨(none, none), hp, rfl⟩)

/-! ### join carries the original cells, metadata reduced to `on` -/

/-- **join_carries_originals**: every cell in a returned pair is a cell of the corresponding
operand (left cell from the left operand, right cell from the right one), unchanged except that its
metadata is reduced to `on` when `on` is given. -/
theorem join_carries_originals {ty : JoinType} {on : Option (List String)} {a b : List Cell}
    {ps : List CellPair} (h : join (some ty) on a b = .ok ps) :
    ∀ p ∈ ps, (∀ c, p.1 = some c → c ∈ Spec.onCells on a) ∧
              (∀ c, p.2 = some c → c ∈ Spec.onCells on b) := by
  obtain ⟨ks, -, -, -, rfl⟩ := join_closed h
  intro p hp
  obtain ⟨k, -, rfl⟩ := List.mem_map.mp hp
  exact ⟨fun c hc => (sortedOn_perm on a).mem_iff.mp (cellAtLast_some hc).1,
         fun c hc => (sortedOn_perm on b).mem_iff.mp (cellAtLast_some hc).1⟩

/-- **join_on_metadata**: with a non-empty `on`, every returned cell is `c₀.selectOn on` for an
original cell `c₀`: attributes outside `on` are `None`, details keep only the keys in `on`,
everything else (dates, values, class) is `c₀`'s. -/
theorem join_on_metadata {ty : JoinType} {x : String} {xs : List String} {a b : List Cell}
    {ps : List CellPair} (h : join (some ty) (some (x :: xs)) a b = .ok ps) :
    ∀ p ∈ ps, (∀ c, p.1 = some c → ∃ c₀ ∈ a, c = c₀.selectOn (x :: xs)) ∧
              (∀ c, p.2 = some c → ∃ c₀ ∈ b, c = c₀.selectOn (x :: xs)) := by
  intro p hp
  have := join_carries_originals h p hp
  simp only [Spec.onCells, List.mem_map] at this
  exact ⟨fun c hc => (this.1 c hc).imp fun c₀ h => ⟨h.1, h.2.symm⟩,
         fun c hc => (this.2 c hc).imp fun c₀ h => ⟨h.1, h.2.symm⟩⟩

/-- **selectOn_spec** — "metadata reduced to `on`", field by field: each of the six attributes is kept
when its name is in `on` and `None` otherwise (also `risk_basis`, whose constructor default is
"Accident"); `details` / `loss_details` keep exactly the entries whose key is in `on`, with their
values. -/
theorem selectOn_spec (m : Metadata) (on : List String) :
    ((m.selectOn on).riskBasis = if "risk_basis" ∈ on then m.riskBasis else none) ∧
    ((m.selectOn on).country = if "country" ∈ on then m.country else none) ∧
    ((m.selectOn on).currency = if "currency" ∈ on then m.currency else none) ∧
    ((m.selectOn on).reinsuranceBasis = if "reinsurance_basis" ∈ on then m.reinsuranceBasis else none) ∧
    ((m.selectOn on).lossDefinition = if "loss_definition" ∈ on then m.lossDefinition else none) ∧
    ((m.selectOn on).limit = if "per_occurrence_limit" ∈ on then m.limit else none) ∧
    (∀ k, (m.selectOn on).details.get? k = if k ∈ on then m.details.get? k else none) ∧
    (∀ k, (m.selectOn on).lossDetails.get? k = if k ∈ on then m.lossDetails.get? k else none) ∧
    (∀ k, k ∈ (m.selectOn on).details.keys ↔ k ∈ on ∧ k ∈ m.details.keys) ∧
    (∀ k, k ∈ (m.selectOn on).lossDetails.keys ↔ k ∈ on ∧ k ∈ m.lossDetails.keys) := by
  have hd : ∀ (d : Dict MVal) k, Dict.get? (d.filter (fun kv => on.contains kv.1)) k =
      if k ∈ on then d.get? k else none := by
    intro d k
    rw [Dict.get?_filter_j d (fun k => on.contains k) k]
    simp only [List.contains_iff_mem]
  have hk : ∀ (d : Dict MVal) k, k ∈ Dict.keys (d.filter (fun kv => on.contains kv.1)) ↔
      k ∈ on ∧ k ∈ d.keys := by
    intro d k
    rw [Dict.mem_keys_filter d (fun k => on.contains k), List.contains_iff_mem]
  simp only [Metadata.selectOn, List.contains_iff_mem]
  exact ⟨trivial, trivial, trivial, trivial, trivial, trivial, hd _, hd _, hk _, hk _⟩

/-- … and nothing else of the cell changes: class, period, evaluation dates, values -/
theorem selectOn_cell (c : Cell) (on : List String) :
    (c.selectOn on).kind = c.kind ∧ (c.selectOn on).ps = c.ps ∧ (c.selectOn on).pe = c.pe ∧
    (c.selectOn on).ev = c.ev ∧ (c.selectOn on).prev = c.prev ∧ (c.selectOn on).values = c.values ∧
    (c.selectOn on).md = c.md.selectOn on := ⟨rfl, rfl, rfl, rfl, rfl, rfl, rfl⟩

/-- without `on` (or with the falsy `[]`) the cells are the operands' own cells -/
theorem join_no_on {ty : JoinType} {a b : List Cell} {ps : List CellPair}
    (h : join (some ty) none a b = .ok ps) : ps = joinCore ty a b :=
  (join_inv h).2.2.2.2

/-- **join_pairs_last** — WHICH cell a pair carries, with NO distinct-keys hypothesis: the pair
returned for coordinate `k` is (the LAST cell with key `k` of the left operand, the last cell with key
`k` of the right operand), `None` where the operand has none, the operands taken as join.py indexes
them (`Spec.sortedOn`): with a non-empty `on` the metadata-reduced cells re-sorted by `Triangle(...)`,
otherwise the operand's own cell order. So when slices that differ only outside `on` collapse to one
key, the surviving cell is the one that sorts last among them (ties: the later one in the operand —
the sort is stable). Under distinct keys this is `join_pairs_exact`. -/
theorem join_pairs_last {ty : JoinType} {on : Option (List String)} {a b : List Cell}
    {ps : List CellPair} (h : join (some ty) on a b = .ok ps) :
    ∀ p ∈ ps, ∃ k, Spec.pairKey? (isIncremental a) p = some k ∧
      p = (Spec.cellAtLast (isIncremental a) (Spec.sortedOn on a) k,
           Spec.cellAtLast (isIncremental a) (Spec.sortedOn on b) k) := by
  obtain ⟨ks, -, -, hkey, rfl⟩ := join_closed h
  intro p hp
  obtain ⟨k, hk, rfl⟩ := List.mem_map.mp hp
  exact ⟨k, hkey k hk, rfl⟩

/-- **join pairs are exactly (left cell at k, right cell at k)** under the distinct-keys
hypothesis: the pair returned for coordinate `k` holds *the* cell of each (reduced) operand at `k`,
or `None` where the operand has none. -/
theorem join_pairs_exact {ty : JoinType} {on : Option (List String)} {a b : List Cell}
    {ps : List CellPair} (h : join (some ty) on a b = .ok ps)
    (hna : ((Spec.onCells on a).map (joinKey (isIncremental a))).Nodup)
    (hnb : ((Spec.onCells on b).map (joinKey (isIncremental a))).Nodup) :
    ∀ p ∈ ps, ∃ k, Spec.pairKey? (isIncremental a) p = some k ∧
      p = (Spec.cellAt (isIncremental a) (Spec.onCells on a) k,
           Spec.cellAt (isIncremental a) (Spec.onCells on b) k) := by
  intro p hp
  obtain ⟨k, hk, hpe⟩ := join_pairs_last h p hp
  exact ⟨k, hk, by rw [hpe, cellAtLast_sortedOn_eq_cellAt hna, cellAtLast_sortedOn_eq_cellAt hnb]⟩

/-- **join_pairs_last_max**: the cell a pair carries for an operand is a GREATEST cell, in the
triangle order `Cell.__lt__`, among the operand's (reduced) cells with that coordinate -/
theorem join_pairs_last_max {ty : JoinType} {on : Option (List String)} {a b : List Cell}
    {ps : List CellPair} (h : join (some ty) on a b = .ok ps)
    (hsa : a.Pairwise (fun x y => Cell.le x y)) (hsb : b.Pairwise (fun x y => Cell.le x y)) :
    ∀ p ∈ ps,
      (∀ x, p.1 = some x → ∀ y ∈ Spec.onCells on a,
        joinKey (isIncremental a) y = joinKey (isIncremental a) x → Cell.le y x = true) ∧
      (∀ x, p.2 = some x → ∀ y ∈ Spec.onCells on b,
        joinKey (isIncremental a) y = joinKey (isIncremental a) x → Cell.le y x = true) := by
  intro p hp
  obtain ⟨k, _, rfl⟩ := join_pairs_last h p hp
  refine ⟨fun x hx y hy hk => ?_, fun x hx y hy hk => ?_⟩
  · have hx' : Spec.cellAtLast (isIncremental a) (Spec.sortedOn on a) k = some x := hx
    exact cellAtLast_max (sortedOn_sorted hsa) hx' y ((sortedOn_perm on a).mem_iff.mpr hy)
      (hk.trans (cellAtLast_some hx').2)
  · have hx' : Spec.cellAtLast (isIncremental a) (Spec.sortedOn on b) k = some x := hx
    exact cellAtLast_max (sortedOn_sorted hsb) hx' y ((sortedOn_perm on b).mem_iff.mpr hy)
      (hk.trans (cellAtLast_some hx').2)

/-- **join_pairs_last_own_order** — the same without the sort: when the cells of each operand that
share a coordinate also share `prev_evaluation_date` (always so for cumulative / plain triangles —
`prev_eq_of_not_incremental` — and whenever the left triangle is incremental, `prev` then being part
of the key), the cells of one coordinate tie under `Cell.__lt__`, the stable sort of `Triangle(...)`
keeps their relative order, and the pair carries the LAST cell with that coordinate in the operand's
OWN cell order (metadata reduced to `on`): of several slices that collapse under `on`, the one that
comes last in the triangle survives, the others are dropped without notice. -/
theorem join_pairs_last_own_order {ty : JoinType} {on : Option (List String)} {a b : List Cell}
    {ps : List CellPair} (h : join (some ty) on a b = .ok ps)
    (hpa : ∀ x ∈ a, ∀ y ∈ a, x.prev = y.prev ∨ isIncremental a = true)
    (hpb : ∀ x ∈ b, ∀ y ∈ b, x.prev = y.prev ∨ isIncremental a = true) :
    ∀ p ∈ ps, ∃ k, Spec.pairKey? (isIncremental a) p = some k ∧
      p = (Spec.cellAtLast (isIncremental a) (Spec.onCells on a) k,
           Spec.cellAtLast (isIncremental a) (Spec.onCells on b) k) := by
  intro p hp
  obtain ⟨k, hk, hpe⟩ := join_pairs_last h p hp
  exact ⟨k, hk, by rw [hpe, cellAtLast_sortedOn_of_ties hpa, cellAtLast_sortedOn_of_ties hpb]⟩

/-! ### merge -/

theorem merge_ok {ty : JoinType} {on : Option (List String)} {a b out : List Cell}
    (h : merge (some ty) on a b = .ok out) :
    ∃ ps, join (some ty) on a b = .ok ps ∧ out.Perm (ps.filterMap mergeCellPair) ∧
      out.Pairwise (fun x y => Cell.le x y) := by
  obtain ⟨ps, hps, h⟩ := bind_ok (show (join (some ty) on a b >>= _) = _ from h)
  exact ⟨ps, hps, ofCells_perm h, ofCells_sorted h⟩

/-- the cells of the merge are exactly the images of the joined pairs -/
theorem merge_cells {ty : JoinType} {on : Option (List String)} {a b out : List Cell}
    {ps : List CellPair} (h : merge (some ty) on a b = .ok out)
    (hj : join (some ty) on a b = .ok ps) (c : Cell) :
    c ∈ out ↔ ∃ p ∈ ps, mergeCellPair p = some c := by
  obtain ⟨ps', hj', hperm, _⟩ := merge_ok h
  rw [hj] at hj'; cases hj'
  rw [hperm.mem_iff, List.mem_filterMap]

/-- **merge_values**: a coordinate present on both sides carries the LEFT cell's frame (class,
dates, reduced metadata) and the right-biased union of the two value dicts: every field of either
cell is present, and a field present on the right has the right value. -/
theorem merge_values {ty : JoinType} {on : Option (List String)} {a b out : List Cell}
    {ps : List CellPair} (h : merge (some ty) on a b = .ok out)
    (hj : join (some ty) on a b = .ok ps) {x y : Cell} (hp : (some x, some y) ∈ ps)
    (hy : y.values.WF) :
    ∃ c ∈ out, c = { x with values := c.values } ∧
      (∀ f, c.values.get? f = (y.values.get? f).or (x.values.get? f)) ∧
      (∀ f, f ∈ c.values.keys ↔ f ∈ x.values.keys ∨ f ∈ y.values.keys) := by
  refine ⟨{ x with values := x.values.union y.values }, ?_, rfl, ?_, ?_⟩
  · exact (merge_cells h hj _).mpr ⟨_, hp, rfl⟩
  · exact fun f => Dict.get?_union x.values y.values hy f
  · exact fun f => Dict.mem_keys_union x.values y.values f

/-- **merge_unmatched_id**: a coordinate present on one side only carries that side's cell
unchanged. -/
theorem merge_unmatched_id {ty : JoinType} {on : Option (List String)} {a b out : List Cell}
    {ps : List CellPair} (h : merge (some ty) on a b = .ok out)
    (hj : join (some ty) on a b = .ok ps) :
    (∀ x, (some x, none) ∈ ps → x ∈ out) ∧ (∀ y, (none, some y) ∈ ps → y ∈ out) :=
  ⟨fun x hx => (merge_cells h hj x).mpr ⟨_, hx, rfl⟩,
   fun y hy => (merge_cells h hj y).mpr ⟨_, hy, rfl⟩⟩

/-- one merged cell per joined pair: `(None, None)` never occurs, nothing is dropped -/
theorem merge_length {ty : JoinType} {on : Option (List String)} {a b out : List Cell}
    {ps : List CellPair} (h : merge (some ty) on a b = .ok out)
    (hj : join (some ty) on a b = .ok ps) : out.length = ps.length := by
  obtain ⟨ps', hj', hperm, _⟩ := merge_ok h
  rw [hj] at hj'; cases hj'
  -- the merged cells carry the pairs' coordinates one for one
  have := congrArg List.length (filterMap_merge_keys (inc := isIncremental a) (ps := ps)
    fun p hp hn => (join_keys_on hj).2.1 (List.mem_map.mpr ⟨p, hp, hn⟩))
  rw [hperm.length_eq, ← List.length_map (as := ps), ← this, List.length_map]

/-! ### select → merge recombination -/

/-- merging two value-only images of one triangle (`t.map f`, `t.map g`, where `f`, `g` rewrite
nothing but `values`) gives, cell by cell and in the same order, the left frame with
`{**f(c).values, **g(c).values}` -/
theorem merge_frame_maps {ty : JoinType} (hty : ty = .full ∨ ty = .inner ∨ ty = .left ∨ ty = .right)
    {f g : Cell → Cell}
    (hf : ∀ c, f c = { c with values := (f c).values })
    (hg : ∀ c, g c = { c with values := (g c).values })
    {t : List Cell} (ht : Canonical t) (hn : (t.map (joinKey (isIncremental t))).Nodup) :
    merge (some ty) none (t.map f) (t.map g) =
      .ok (t.map (fun c => { f c with values := (f c).values.union (g c).values })) := by
  have hkm : kindMismatch (t.map f) (t.map g) = false := by
    cases t with
    | nil => rfl
    | cons c t =>
      simp only [List.map_cons, kindMismatch]
      rw [hf c, hg c]; simp
  have hj := join_of_no_mismatch (ty := ty) hkm
  unfold merge
  rw [hj, ok_bind]
  rw [joinCore_frame_maps hty hf hg hn, List.filterMap_map]
  have : List.filterMap (mergeCellPair ∘ fun c => (some (f c), some (g c))) t =
      t.map (fun c => { f c with values := (f c).values.union (g c).values }) := by
    rw [← List.filterMap_eq_map]
    rfl
  rw [this]
  apply ofCells_idem
  exact frame_map_canonical (f := fun c => { f c with values := (f c).values.union (g c).values })
    (fun c => by show _ = _; rw [hf c]) ht


/-- **select_merge_recombine**: split the fields of a triangle with `select ks₁` / `select ks₂` and
merge the parts back (`full`, `inner`, `left` or `right`; no `on`). Hypotheses: `t` is a canonical
triangle, its join keys are distinct, value dicts have distinct keys. Then the result has the cells
of `t` in the same order with the same frames, and as a finite map the value dict of cell `i` is
that of `t[i]` restricted to `ks₁ ∪ ks₂`. -/
theorem select_merge_recombine {ty : JoinType}
    (hty : ty = .full ∨ ty = .inner ∨ ty = .left ∨ ty = .right)
    {t t₁ t₂ m : List Cell} {ks₁ ks₂ : List String} (ht : Canonical t)
    (hn : (t.map (joinKey (isIncremental t))).Nodup) (hv : ∀ c ∈ t, c.values.WF)
    (h₁ : Triangle.select t ks₁ = .ok t₁) (h₂ : Triangle.select t ks₂ = .ok t₂)
    (h : merge (some ty) none t₁ t₂ = .ok m) :
    m.length = t.length ∧
    ∀ i (hi : i < t.length) (hm : i < m.length),
      m[i] = { t[i] with values := m[i].values } ∧ m[i].values.WF ∧
      ∀ f, m[i].values.get? f =
        if ks₁.contains f || ks₂.contains f then t[i].values.get? f else none := by
  rw [select_eq_map ks₁ ht] at h₁; cases h₁
  rw [select_eq_map ks₂ ht] at h₂; cases h₂
  rw [merge_frame_maps hty (select_frame ks₁) (select_frame ks₂) ht hn] at h
  cases h
  refine ⟨List.length_map _, fun i hi hm => ?_⟩
  rw [List.getElem_map]
  have hw := hv t[i] (List.getElem_mem hi)
  have hw₁ : Dict.WF (t[i].values.filter (fun kv => ks₁.contains kv.1)) := Dict.WF_filter hw _
  have hw₂ : Dict.WF (t[i].values.filter (fun kv => ks₂.contains kv.1)) := Dict.WF_filter hw _
  refine ⟨rfl, Dict.WF_union hw₁ _, fun f => ?_⟩
  show Dict.get? (Dict.union (t[i].values.filter (fun kv => ks₁.contains kv.1))
      (t[i].values.filter (fun kv => ks₂.contains kv.1))) f = _
  rw [Dict.get?_union _ _ hw₂, Dict.get?_filter_j _ (fun k => ks₂.contains k),
    Dict.get?_filter_j _ (fun k => ks₁.contains k)]
  cases ks₁.contains f <;> cases ks₂.contains f <;> simp

/-- … and when `ks₁ ∪ ks₂` covers every field, the original triangle comes back: same cells in the
same order, every field with its original value (value dicts equal as finite maps; Python's
`values_eq` / `Cell.__eq__` do not see dict order). -/
theorem select_merge_original {ty : JoinType}
    (hty : ty = .full ∨ ty = .inner ∨ ty = .left ∨ ty = .right)
    {t t₁ t₂ m : List Cell} {ks₁ ks₂ : List String} (ht : Canonical t)
    (hn : (t.map (joinKey (isIncremental t))).Nodup) (hv : ∀ c ∈ t, c.values.WF)
    (hcov : ∀ c ∈ t, ∀ f ∈ c.values.keys, f ∈ ks₁ ∨ f ∈ ks₂)
    (h₁ : Triangle.select t ks₁ = .ok t₁) (h₂ : Triangle.select t ks₂ = .ok t₂)
    (h : merge (some ty) none t₁ t₂ = .ok m) :
    m.length = t.length ∧
    ∀ i (hi : i < t.length) (hm : i < m.length),
      m[i] = { t[i] with values := m[i].values } ∧
      ∀ f, m[i].values.get? f = t[i].values.get? f := by
  obtain ⟨hl, hcells⟩ := select_merge_recombine hty ht hn hv h₁ h₂ h
  refine ⟨hl, fun i hi hm => ⟨(hcells i hi hm).1, fun f => ?_⟩⟩
  rw [(hcells i hi hm).2.2 f]
  split
  · rfl
  · rename_i hnot
    symm
    rw [Dict.get?_eq_none_iff]
    intro hf
    simp only [Bool.or_eq_true, List.contains_iff_mem, not_or] at hnot
    rcases hcov t[i] (List.getElem_mem hi) f hf with h | h
    · exact hnot.1 h
    · exact hnot.2 h

/-! ### identity law -/

/-- **merge_self**: merging a triangle with itself gives the triangle back (for the four join types
that keep matched coordinates), under distinct keys — the value dicts included, order and all. -/
theorem merge_self {ty : JoinType} (hty : ty = .full ∨ ty = .inner ∨ ty = .left ∨ ty = .right)
    {t : List Cell} (ht : Canonical t) (hn : (t.map (joinKey (isIncremental t))).Nodup)
    (hv : ∀ c ∈ t, c.values.WF) : merge (some ty) none t t = .ok t := by
  have h := merge_frame_maps hty (f := id) (g := id) (fun _ => rfl) (fun _ => rfl) ht hn
  rw [List.map_id] at h
  rw [h]
  exact congrArg Except.ok
    ((List.map_congr_left fun c hc => by rw [id, Dict.union_self (hv c hc)]).trans (List.map_id t))

/-! ### coalesce -/

/-- **coalesce_first_wins**: the result holds exactly the cells that are the FIRST cell with their
coordinate `(metadata, period, evaluation date)` in triangle-list order — the unmodified cell
(equality includes the values) of the earliest triangle that has the coordinate —, one cell per
coordinate, and every coordinate of every triangle is represented. -/
theorem coalesce_first_wins {ts : List (List Cell)} {out : List Cell} (h : coalesce ts = .ok out) :
    (∀ c, c ∈ out ↔ ts.flatten.find? (fun d => coalKey d == coalKey c) = some c) ∧
    (out.map coalKey).Nodup ∧
    (∀ d ∈ ts.flatten, coalKey d ∈ out.map coalKey) := by
  have hp : out.Perm (firstsBy coalKey [] ts.flatten) := ofCells_perm h
  refine ⟨fun c => ?_, ?_, fun d hd => ?_⟩
  · rw [hp.mem_iff, mem_firstsBy]; simp
  · exact (hp.map _).nodup_iff.mpr (firstsBy_keys_nodup coalKey [] _)
  · rcases firstsBy_covers coalKey [] _ d hd with h | h
    · cases h
    · exact (hp.map _).mem_iff.mpr h

/-- every cell of the first triangle survives (when its coordinates are distinct) -/
theorem coalesce_head_kept {t : List Cell} {ts : List (List Cell)} {out : List Cell}
    (h : coalesce (t :: ts) = .ok out) (hn : (t.map coalKey).Nodup) : ∀ c ∈ t, c ∈ out := by
  intro c hc
  rw [(coalesce_first_wins h).1, List.flatten_cons, List.find?_append]
  -- `coalKey` is `joinKey false` (`coalKey_eq_joinKey`), so `Spec.cellAt false` is the search by `coalKey`
  have : t.find? (fun d => coalKey d == coalKey c) = some c :=
    (cellAt_eq_some_iff (inc := false) (t := t) hn).mpr ⟨hc, rfl⟩
  rw [this]; rfl

/-- a cell of the second triangle survives when the first triangle lacks its coordinate, and is
shadowed (absent, unless the very same cell is also in the first triangle) when it has it -/
theorem coalesce_later {t u : List Cell} {out : List Cell}
    (h : coalesce [t, u] = .ok out) (hn : (u.map coalKey).Nodup) {c : Cell} (hc : c ∈ u) :
    (coalKey c ∉ t.map coalKey → c ∈ out) ∧ (coalKey c ∈ t.map coalKey → c ∉ t → c ∉ out) := by
  rw [(coalesce_first_wins h).1]
  simp only [List.flatten_cons, List.flatten_nil, List.append_nil, List.find?_append]
  have hu : u.find? (fun d => coalKey d == coalKey c) = some c :=
    (cellAt_eq_some_iff (inc := false) (t := u) hn).mpr ⟨hc, rfl⟩
  cases ht : t.find? (fun d => coalKey d == coalKey c) with
  | none =>
    refine ⟨fun _ => by simp [hu], fun hm => ?_⟩
    obtain ⟨d, hd, hk⟩ := List.mem_map.mp hm
    have := List.find?_eq_none.mp ht d hd
    simp [hk] at this
  | some d =>
    have hd := List.find?_some ht
    have hm := List.mem_of_find?_eq_some ht
    refine ⟨fun hnm => absurd (List.mem_map.mpr ⟨d, hm, by simpa using hd⟩) hnm, fun _ hct => ?_⟩
    simp only [Option.some_or, Option.some.injEq]
    rintro rfl
    exact hct hm

/-! ### add_statics and period_merge: coordinates and count never change -/

theorem addStaticsCell_frame (src : List Cell) (st : List String) (c : Cell) :
    addStaticsCell src st c = { c with values := (addStaticsCell src st c).values } := by
  unfold addStaticsCell
  split <;> rfl

/-- on a triangle the result of `add_statics` is the cell-wise image, in the same order: same
number of cells, same coordinates, class and metadata position by position -/
theorem addStatics_eq_map {t src : List Cell} {st : List String} (ht : Canonical t) :
    addStatics t src st = .ok (t.map (addStaticsCell src st)) :=
  ofCells_idem (frame_map_canonical (addStaticsCell_frame src st) ht)

theorem sourceCell?_spec {src : List Cell} {c s : Cell} (h : sourceCell? src c = some s) :
    s ∈ src ∧ s.md = c.md ∧ s.ps = c.ps ∧ s.pe = c.pe ∧
    ∀ s' ∈ src, s'.md = c.md → s'.ps = c.ps → s'.pe = c.pe → s'.ev ≤ s.ev := by
  unfold sourceCell? at h
  obtain ⟨hm, hmax⟩ := lastBy?_max (show lastBy? (leOf evCmp) _ = _ from h)
  obtain ⟨hs, hcond⟩ := List.mem_filter.mp hm
  simp only [Bool.and_eq_true, beq_iff_eq] at hcond
  exact ⟨hs, hcond.1.1, hcond.1.2, hcond.2, fun s' hs' h1 h2 h3 =>
    leOf_evCmp_iff.mp (hmax s' (List.mem_filter.mpr ⟨hs', by simp [h1, h2, h3]⟩))⟩

theorem sourceCell?_none {src : List Cell} {c : Cell} (h : sourceCell? src c = none) :
    ∀ s' ∈ src, ¬ (s'.md = c.md ∧ s'.ps = c.ps ∧ s'.pe = c.pe) :=
  sourceCell?_eq_none_iff.mp h

/-- **addStatics_spec** (cell level): only requested fields can change; a requested field takes the
value of the LATEST source cell of the same slice (metadata) and period when that cell has the
field, else keeps the cell's own value; without such a source cell the cell is unchanged. -/
theorem addStaticsCell_values (src : List Cell) (st : List String) (c : Cell) :
    (∀ f, f ∉ st → (addStaticsCell src st c).values.get? f = c.values.get? f) ∧
    (∀ s, sourceCell? src c = some s → s.values.WF → ∀ f ∈ st,
        (addStaticsCell src st c).values.get? f = (s.values.get? f).or (c.values.get? f)) ∧
    (sourceCell? src c = none → addStaticsCell src st c = c) := by
  refine ⟨fun f hf => ?_, fun s hs hwf f hf => ?_, fun hn => ?_⟩
  · unfold addStaticsCell
    split
    · simp only [Cell.addStatics]
      apply Assoc.get?_union_of_not_mem
      intro hmem
      have := ((Dict.mem_keys_filter _ (fun k => st.contains k)).mp hmem).1
      exact hf (List.contains_iff_mem.mp this)
    · rfl
  · rw [addStaticsCell_of_some hs]
    simp only [Cell.addStatics]
    rw [Dict.get?_union _ _ (Dict.WF_filter hwf _), Dict.get?_filter_j _ (fun k => st.contains k)]
    simp [hf]
  · exact addStaticsCell_of_none hn

/-- **addStatics_spec**: on a triangle, `add_statics` returns as many cells as it got, cell `i` of
the result has the frame (class, dates, metadata) of cell `i` of the input, and differs from it
only in requested fields (`addStaticsCell_values` says how). -/
theorem addStatics_spec {t src out : List Cell} {st : List String} (ht : Canonical t)
    (h : addStatics t src st = .ok out) :
    out.length = t.length ∧
    ∀ i (hi : i < t.length) (ho : i < out.length),
      out[i] = { t[i] with values := out[i].values } ∧
      ∀ f, f ∉ st → out[i].values.get? f = t[i].values.get? f := by
  rw [addStatics_eq_map ht] at h
  cases h
  refine ⟨List.length_map _, fun i hi ho => ?_⟩
  rw [List.getElem_map]
  exact ⟨addStaticsCell_frame src st _, (addStaticsCell_values src st _).1⟩

theorem pmCell_frame (b : List Cell) (suffix : Option String) (c : Cell) :
    pmCell b suffix c = { c with values := (pmCell b suffix c).values } := by
  unfold pmCell
  split <;> rfl

/-- **periodMerge_spec**: on a triangle `period_merge` either raises `ValueError` or returns the
cell-wise image in the same order (same count, frames unchanged); a left cell whose
(period, metadata) has exactly one right cell `r` gets `{**values, **suffixed(r.values)}`, every
other cell is returned as is; success means no index of the left triangle had several right cells
and the classes agree. -/
theorem periodMerge_spec {a b out : List Cell} {suffix : Option String} (ha : Canonical a)
    (h : periodMerge a b suffix = .ok out) :
    kindMismatch a b = false ∧ out = a.map (pmCell b suffix) ∧
    ∀ c ∈ a, (b.filter (samePeriodKey c)).length ≤ 1 := by
  rw [periodMerge_eq] at h
  split at h
  · cases h
  · rename_i hk
    split at h
    · rename_i hall
      rw [ofCells_idem (frame_map_canonical (pmCell_frame b suffix) ha)] at h
      cases h
      exact ⟨by simpa using hk, rfl, fun c hc => filter_samePeriodKey b c ▸ hall c hc⟩
    · cases h

/-- values of a period-merged cell: right side wins, names suffixed when the suffix is non-empty -/
theorem pmCell_values {b : List Cell} {suffix : Option String} {c r : Cell}
    (h : b.filter (samePeriodKey c) = [r]) (hr : (applySuffix suffix r.values).WF) (f : String) :
    (pmCell b suffix c).values.get? f =
      (Dict.get? (applySuffix suffix r.values) f).or (c.values.get? f) := by
  unfold pmCell; rw [h]
  exact Dict.get?_union _ _ hr f

theorem periodMerge_kind_mismatch {a b : List Cell} {suffix : Option String}
    (h : kindMismatch a b = true) : periodMerge a b suffix = .error .valueError := by
  rw [periodMerge_eq, if_pos h]

/-! ### the executable Spec predicates hold of the model's results -/

/-- **`Spec.joinSpecLast` holds of the model's `join`** for every join type, every `on` and
arbitrary operands — no hypothesis. The driver evaluates it on every join case, in particular on
those where `Spec.joinHyp` fails (collapsed slices, duplicate coordinates). -/
theorem joinSpecLast_of_join {ty : JoinType} {on : Option (List String)} {a b : List Cell}
    {ps : List CellPair} (h : join (some ty) on a b = .ok ps) :
    Spec.joinSpecLast ty on a b ps = true := by
  obtain ⟨hnd, hnone, hset⟩ := join_keys_on h
  have hex := join_pairs_last h
  unfold Spec.joinSpecLast
  simp only [Bool.and_eq_true, List.all_eq_true]
  refine ⟨⟨nodupB_iff.mpr hnd, fun p hp => ?_⟩, fun k _ => ?_⟩
  · obtain ⟨k, hk, hpe⟩ := hex p hp
    rw [hk]
    simp only [Bool.and_eq_true, beq_iff_eq]
    refine ⟨⟨(hset k).mp (List.mem_map.mpr ⟨p, hp, hk⟩), ?_⟩, ?_⟩
    · rw [hpe]
    · rw [hpe]
  · exact not_or_contains (hset k).mpr

/-- under the distinct-keys hypothesis the two Spec predicates are the same Bool -/
theorem joinSpecLast_eq_joinSpec {ty : JoinType} {on : Option (List String)} {a b : List Cell}
    (hyp : Spec.joinHyp on a b = true) (ps : List CellPair) :
    Spec.joinSpecLast ty on a b ps = Spec.joinSpec ty on a b ps := by
  unfold Spec.joinHyp at hyp
  simp only [Bool.and_eq_true, nodupB_iff] at hyp
  unfold Spec.joinSpecLast Spec.joinSpec
  simp only [cellAtLast_sortedOn_eq_cellAt hyp.1, cellAtLast_sortedOn_eq_cellAt hyp.2]

/-- **`Spec.joinSpec` holds of the model's `join`** for every join type and every `on`, under the
distinct-keys hypothesis `Spec.joinHyp` (this is the predicate the driver evaluates on the
implementation's output). -/
theorem joinSpec_of_join {ty : JoinType} {on : Option (List String)} {a b : List Cell}
    {ps : List CellPair} (hyp : Spec.joinHyp on a b = true) (h : join (some ty) on a b = .ok ps) :
    Spec.joinSpec ty on a b ps = true := by
  rw [← joinSpecLast_eq_joinSpec hyp]
  exact joinSpecLast_of_join h

/-- **`Spec.coalesceSpec` holds of the model's `coalesce`** (no hypothesis needed) -/
theorem coalesceSpec_of_coalesce {ts : List (List Cell)} {out : List Cell}
    (h : coalesce ts = .ok out) : Spec.coalesceSpec ts out = true := by
  obtain ⟨h1, h2, h3⟩ := coalesce_first_wins h
  unfold Spec.coalesceSpec
  simp only [Bool.and_eq_true, List.all_eq_true, beq_iff_eq]
  exact ⟨⟨nodupB_iff.mpr h2, fun c hc => (h1 c).mp hc⟩,
    fun d hd => List.contains_iff_mem.mpr (h3 d hd)⟩

/-- **`Spec.mergeSpecLast` holds of the model's `merge`** for every join type and `on`, for value
dicts with distinct keys — no distinct-coordinates hypothesis. -/
theorem mergeSpecLast_of_merge {ty : JoinType} {on : Option (List String)} {a b out : List Cell}
    (hv : ∀ c ∈ a ++ b, c.values.WF)
    (h : merge (some ty) on a b = .ok out) : Spec.mergeSpecLast ty on a b out = true := by
  obtain ⟨hnd, hmem, hcell⟩ := merge_closed h
  have hwf : ∀ (t : List Cell) {k x}, (∀ c ∈ t, c.values.WF) →
      Spec.cellAtLast (isIncremental a) (Spec.sortedOn on t) k = some x → x.values.WF := fun t _ _ ht hx => by
    obtain ⟨x0, hx0, hxv⟩ := mem_sortedOn_values (cellAtLast_some hx).1
    exact hxv ▸ ht x0 hx0
  unfold Spec.mergeSpecLast
  simp only [Bool.and_eq_true, List.all_eq_true]
  refine ⟨⟨nodupB_iff.mpr hnd, fun c hc => ⟨(hmem _).mp (List.mem_map_of_mem hc), ?_⟩⟩,
    fun k _ => not_or_contains (hmem k).mpr⟩
  -- the pair at the coordinate of `c` is right-only, left-only or matched
  rcases mergeCellPair_some (hcell c hc) with e | e | ⟨x, y, e, rfl⟩ <;> obtain ⟨hx, hy⟩ := Prod.mk.inj e
  · rw [hx, hy]; exact beq_self_eq_true c
  · rw [hx, hy]; exact beq_self_eq_true c
  · rw [hx, hy]
    simp only [Bool.and_eq_true]
    exact ⟨sameFrame_values x _, isRightUnion_union
      (hwf a (fun c hc => hv c (List.mem_append.mpr (Or.inl hc))) hx)
      (hwf b (fun c hc => hv c (List.mem_append.mpr (Or.inr hc))) hy)⟩

/-- under the distinct-keys hypothesis the two merge predicates are the same Bool -/
theorem mergeSpecLast_eq_mergeSpec {ty : JoinType} {on : Option (List String)} {a b : List Cell}
    (hyp : Spec.joinHyp on a b = true) (out : List Cell) :
    Spec.mergeSpecLast ty on a b out = Spec.mergeSpec ty on a b out := by
  unfold Spec.joinHyp at hyp
  simp only [Bool.and_eq_true, nodupB_iff] at hyp
  unfold Spec.mergeSpecLast Spec.mergeSpec
  simp only [cellAtLast_sortedOn_eq_cellAt hyp.1, cellAtLast_sortedOn_eq_cellAt hyp.2]

/-- **`Spec.mergeSpec` holds of the model's `merge`** for every join type and `on`, under the
distinct-keys hypothesis and for value dicts with distinct keys (true of every Python dict). -/
theorem mergeSpec_of_merge {ty : JoinType} {on : Option (List String)} {a b out : List Cell}
    (hyp : Spec.joinHyp on a b = true) (hv : ∀ c ∈ a ++ b, c.values.WF)
    (h : merge (some ty) on a b = .ok out) : Spec.mergeSpec ty on a b out = true := by
  rw [← mergeSpecLast_eq_mergeSpec hyp]
  exact mergeSpecLast_of_merge hv h

/-- **`Spec.addStaticsSpec` holds of the model's `add_statics`** on a triangle, when the source has
one cell per (metadata, period, evaluation date) and value dicts have distinct keys (of `Spec.addStaticsHyp` only
the source half is used; the distinct coordinates of `t` are for the literal loop, `addStaticsSpec_of_addStaticsLit`). -/
theorem addStaticsSpec_of_addStatics {t src out : List Cell} {st : List String} (ht : Canonical t)
    (hyp : Spec.addStaticsHyp t src = true) (hv : ∀ c ∈ t ++ src, c.values.WF)
    (h : addStatics t src st = .ok out) : Spec.addStaticsSpec t src st out = true := by
  rw [addStatics_eq_map ht] at h
  cases h
  unfold Spec.addStaticsHyp at hyp
  simp only [Bool.and_eq_true, nodupB_iff] at hyp
  unfold Spec.addStaticsSpec
  simp only [Bool.and_eq_true, List.length_map, beq_self_eq_true, true_and, zip_map_self,
    List.all_map, List.all_eq_true, Function.comp]
  intro c hc
  refine ⟨sameFrame_of_frame (addStaticsCell_frame src st c), ?_⟩
  rw [latestSource?_eq_sourceCell? hyp.2]
  cases hs : sourceCell? src c with
  | none => simp [(addStaticsCell_values src st c).2.2 hs]
  | some s =>
    simp only []
    have hsm := (sourceCell?_spec hs).1
    rw [addStaticsCell_of_some hs]
    exact isRightUnion_union (hv c (List.mem_append.mpr (Or.inl hc)))
      (Dict.WF_filter (hv s (List.mem_append.mpr (Or.inr hsm))) _)

/-- **`Spec.periodMergeSpec` holds of the model's `period_merge`** on a triangle, when value dicts
have distinct keys (suffixing keeps them distinct: `WF_applySuffix`). -/
theorem periodMergeSpec_of_periodMerge {a b out : List Cell} {suffix : Option String}
    (ha : Canonical a) (hva : ∀ c ∈ a, c.values.WF)
    (hvb : ∀ c ∈ b, c.values.WF)
    (h : periodMerge a b suffix = .ok out) : Spec.periodMergeSpec a b suffix out = true := by
  obtain ⟨_, rfl, hlen⟩ := periodMerge_spec ha h
  unfold Spec.periodMergeSpec
  simp only [Bool.and_eq_true, List.length_map, beq_self_eq_true, true_and, zip_map_self,
    List.all_map, List.all_eq_true, Function.comp]
  intro c hc
  refine ⟨sameFrame_of_frame (pmCell_frame b suffix c), ?_⟩
  have hfil : b.filter (fun r => r.ps == c.ps && r.pe == c.pe && r.md == c.md) =
      b.filter (samePeriodKey c) := rfl
  rw [hfil]
  have hl := hlen c hc
  unfold pmCell
  generalize hf : b.filter (samePeriodKey c) = F at hl
  match F, hl with
  | [], _ => simp
  | [r], _ =>
    simp only []
    have hr : r ∈ b := (List.mem_filter.mp (hf ▸ List.mem_singleton.mpr rfl)).1
    have hw := WF_applySuffix (hvb r hr) suffix
    cases suffix with
    | none =>
      simp only []
      rw [← applySuffix_none]
      exact isRightUnion_union (hva c hc) hw
    | some s =>
      simp only []
      rw [← applySuffix_some]
      exact isRightUnion_union (hva c hc) hw
  | _ :: _ :: _, hl => simp at hl

/-! ### the regrouping loops of `add_statics` / `period_merge` (literal model = direct model) -/

/-- **addStaticsLit_eq**: the literal loop of `add_statics` (per slice of the triangle, source
slice looked up by metadata, source rows grouped by period, concatenation, `Triangle(...)`) returns
what the direct form `addStatics` returns — for a triangle with canonical metadata and distinct
coordinates and a sorted source (what `Triangle.cells` always is). -/
theorem addStaticsLit_eq {t src : List Cell} {st : List String} (hc : ∀ c ∈ t, c.md.Canon)
    (hn : (t.map Cell.coord).Nodup) (hs : src.Pairwise (fun a b => Cell.le a b)) :
    addStaticsLit t src st = addStatics t src st := by
  unfold addStaticsLit addStatics
  have P := slices_partition t
  exact Triangle.ofCells_flatMap_groups P
    (fun p hp => addStatics_block st hs (fun c hc => P.key_eq hp hc) ▸ .refl _)
    (ties_identical_map (addStaticsCell_frame src st) hc hn)

/-- **periodMergeLit_eq**: the literal loop of `period_merge` (two `defaultdict(list)` keyed by
(period, metadata), left groups visited in insertion order, concatenation, `Triangle(...)`) returns
what the direct form `periodMerge` returns — same result, same `ValueError` — for a left triangle
with canonical metadata and distinct coordinates. -/
theorem periodMergeLit_eq {a b : List Cell} {suffix : Option String} (hc : ∀ c ∈ a, c.md.Canon)
    (hn : (a.map Cell.coord).Nodup) : periodMergeLit a b suffix = periodMerge a b suffix := by
  have P := groupBy_partition pmIdx a
  have hq := P.forall_keys fun k => (b.filter (fun r => pmIdx r == k)).length ≤ 1
  -- both sides are the same two tests followed by `Triangle(...)`: per group on the left, per cell on the right
  rw [periodMergeLit_unfold, periodMerge_eq,
    mapM_guarded fun e he => periodMergeGroupLit_spec b suffix e.1 e.2 fun c hc' => P.key_eq he hc']
  split
  · rfl
  · by_cases hall : ∀ c ∈ a, (b.filter (fun r => pmIdx r == pmIdx c)).length ≤ 1
    · rw [if_pos hall, if_pos (hq.mpr hall)]
      simp only [Except.bind]
      rw [← List.flatMap_def]
      exact Triangle.ofCells_flatMap_groups P (fun _ _ => .refl _)
        (ties_identical_map (pmCell_frame b suffix) hc hn)
    · rw [if_neg hall, if_neg (hall ∘ hq.mp)]
      rfl

/-- so every statement about `addStatics` holds of the literal loop, e.g. the Spec bridge -/
theorem addStaticsSpec_of_addStaticsLit {t src out : List Cell} {st : List String} (ht : Canonical t)
    (hc : ∀ c ∈ t, c.md.Canon) (hs : src.Pairwise (fun a b => Cell.le a b))
    (hyp : Spec.addStaticsHyp t src = true) (hv : ∀ c ∈ t ++ src, c.values.WF)
    (h : addStaticsLit t src st = .ok out) : Spec.addStaticsSpec t src st out = true := by
  have hn : (t.map Cell.coord).Nodup := by
    unfold Spec.addStaticsHyp Spec.leftHyp at hyp
    simp only [Bool.and_eq_true, nodupB_iff] at hyp
    exact hyp.1
  rw [addStaticsLit_eq hc hn hs] at h
  exact addStaticsSpec_of_addStatics ht hyp hv h

theorem periodMergeSpec_of_periodMergeLit {a b out : List Cell} {suffix : Option String}
    (ha : Canonical a) (hc : ∀ c ∈ a, c.md.Canon) (hn : (a.map Cell.coord).Nodup)
    (hva : ∀ c ∈ a, c.values.WF) (hvb : ∀ c ∈ b, c.values.WF)
    (h : periodMergeLit a b suffix = .ok out) : Spec.periodMergeSpec a b suffix out = true := by
  rw [periodMergeLit_eq hc hn] at h
  exact periodMergeSpec_of_periodMerge ha hva hvb h

/-! ### non-vacuity: concrete operands satisfy the hypotheses -/

def isValueError {α} : Except Err α → Bool
  | .error .valueError => true
  | _ => false

def exUS : Metadata := { country := some "US", details := [("k", .num 1)] }
def exDE : Metadata := { country := some "DE", details := [("k", .num 2)] }

def exCell (m : Metadata) (ev : Date) (vs : Dict Val) : Cell :=
  { kind := .cumulative, ps := ⟨2020, 1, 1⟩, pe := ⟨2020, 12, 31⟩, ev := ev, values := vs, md := m }

/-- left operand: two slices, three cells -/
def exA : List Cell :=
  [ exCell exDE ⟨2021, 12, 31⟩ [("paid_loss", .int 5)],
    exCell exUS ⟨2021, 12, 31⟩ [("paid_loss", .int 1), ("earned_premium", .int 10)],
    exCell exUS ⟨2022, 12, 31⟩ [("paid_loss", .int 2), ("earned_premium", .int 10)] ]

/-- right operand: shares one coordinate with `exA` (conflicting `paid_loss`, new field), has one
coordinate of its own -/
def exB : List Cell :=
  [ exCell exUS ⟨2021, 12, 31⟩ [("paid_loss", .int 7), ("reported_loss", .int 9)],
    exCell exUS ⟨2023, 12, 31⟩ [("paid_loss", .int 3)] ]

theorem exA_canonical : Canonical exA := by
  refine ⟨by decide +kernel, by decide +kernel, by decide +kernel⟩

example : Spec.joinHyp none exA exB = true := by decide +kernel
example : Spec.joinHyp (some ["country"]) exA exB = true := by decide +kernel


/-- inner join without `on`: exactly the shared coordinate, carrying both original cells -/
example : (join (some .inner) none exA exB).toOption = some [(exA[1]?, exB[0]?)] := by
  decide +kernel

/-- left_anti: the two left-only coordinates, right side `None` -/
example : (join (some .leftAnti) none exA exB).toOption =
    some [(exA[0]?, none), (exA[2]?, none)] := by decide +kernel

/-- full merge, the list handed to `Triangle(...)`: the matched coordinate has the union of fields
and the right value of `paid_loss`; the other cells are the operands' own -/
example : (joinCore .full exA exB).filterMap mergeCellPair =
    [ exA[0]!, exA[2]!,
      exCell exUS ⟨2021, 12, 31⟩
        [("paid_loss", .int 7), ("earned_premium", .int 10), ("reported_loss", .int 9)],
      exB[1]! ] := by decide +kernel

/-- the hypotheses of `merge_self` are satisfiable -/
example : merge (some .full) none exA exA = .ok exA :=
  merge_self (Or.inl rfl) exA_canonical (by decide +kernel) (by unfold Dict.WF; decide +kernel)

/-- coalesce, the list handed to `Triangle(...)`: the first triangle wins the shared coordinate -/
example : firstsBy coalKey [] [exB, exA].flatten = [exB[0]!, exB[1]!, exA[0]!, exA[2]!] := by
  decide +kernel

/-- period_merge refuses a right triangle with two cells in one (period, metadata) -/
example : isValueError (periodMerge exA exB none) = true := by decide +kernel

/-- … and with one right cell per period suffixes the incoming fields -/
example : exA.map (pmCell [exB[0]!] (some "_r")) =
    [ exA[0]!,
      exCell exUS ⟨2021, 12, 31⟩ [("paid_loss", .int 1), ("earned_premium", .int 10),
        ("paid_loss_r", .int 7), ("reported_loss_r", .int 9)],
      exCell exUS ⟨2022, 12, 31⟩ [("paid_loss", .int 2), ("earned_premium", .int 10),
        ("paid_loss_r", .int 7), ("reported_loss_r", .int 9)] ] := by decide +kernel

/-! #### collapsed slices: `on = ["currency"]` erases country and details, `exA[0]` (DE) and `exA[1]`
(US) get one key — `joinHyp` is false, `join_pairs_last` / `joinSpecLast` still say which cell is carried -/

example : Spec.joinHyp (some ["currency"]) exA exB = false := by decide +kernel

/-- the kernel does not evaluate `List.mergeSort`: wherever `on` re-sorts the operand, the sortedness of the reduced
cells is decided and `mergeSort_of_pairwise` gives the value -/
theorem exA_sortedOn_currency :
    Spec.sortedOn (some ["currency"]) exA = exA.map (·.selectOn ["currency"]) :=
  List.mergeSort_of_pairwise (by decide +kernel)
theorem exB_sortedOn_currency :
    Spec.sortedOn (some ["currency"]) exB = exB.map (·.selectOn ["currency"]) :=
  List.mergeSort_of_pairwise (by decide +kernel)

example : Spec.cellAtLast false (Spec.sortedOn (some ["currency"]) exA)
      (joinKey false (exA[0]!.selectOn ["currency"])) = some (exA[1]!.selectOn ["currency"]) := by
  rw [exA_sortedOn_currency]; decide +kernel

theorem exA_reduce_currency :
    reduceOn (some ["currency"]) exA = .ok (exA.map (·.selectOn ["currency"])) := by
  rw [← exA_sortedOn_currency]
  exact (Triangle.ofCells_eq_ok (l := exA.map (·.selectOn ["currency"]))).mpr ⟨by decide +kernel, rfl⟩

theorem exB_reduce_currency :
    reduceOn (some ["currency"]) exB = .ok (exB.map (·.selectOn ["currency"])) := by
  rw [← exB_sortedOn_currency]
  exact (Triangle.ofCells_eq_ok (l := exB.map (·.selectOn ["currency"]))).mpr ⟨by decide +kernel, rfl⟩

theorem ex_join_on_currency :
    join (some .inner) (some ["currency"]) exA exB =
      .ok [(some (exA[1]!.selectOn ["currency"]), some (exB[0]!.selectOn ["currency"]))] := by
  rw [join_eq, if_neg (by decide +kernel : ¬ kindMismatch exA exB = true), exA_reduce_currency,
    exB_reduce_currency]
  exact congrArg Except.ok (by decide +kernel)

/-- the hypothesis of `join_pairs_last_own_order` holds of `exA` (cumulative cells: no `prev`) -/
example : ∀ x ∈ exA, ∀ y ∈ exA, x.prev = y.prev ∨ isIncremental exA = true :=
  fun x hx y hy => Or.inl (prev_eq_of_not_incremental exA_canonical.2.2 (by decide +kernel) x hx y hy)

/-- … the carried left cell is `exA[1]` (US, sorts last among the collapsed cells), not `exA[0]` -/
example : Spec.joinSpecLast .inner (some ["currency"]) exA exB
    [(some (exA[1]!.selectOn ["currency"]), some (exB[0]!.selectOn ["currency"]))] = true :=
  joinSpecLast_of_join ex_join_on_currency

/-! #### incremental operands; `coalesce` ignores `prev_evaluation_date` (code quirk, modelled as is) -/

/-- incremental cell of the period 2020 evaluated end of 2021, increment since `prev` -/
def exInc (prev : Date) (v : Int) : Cell :=
  { kind := .incremental, ps := ⟨2020, 1, 1⟩, pe := ⟨2020, 12, 31⟩, ev := ⟨2021, 12, 31⟩,
    prev := some prev, values := [("paid_loss", .int v)], md := exUS }

def exI1 : Cell := exInc ⟨2020, 12, 31⟩ 1
def exI2 : Cell := exInc ⟨2021, 6, 30⟩ 2

/-- **coalesce_ignores_prev** (witness): two valid incremental cells with equal metadata, period and
evaluation date but different `prev_evaluation_date` are TWO coordinates for `join` (left operand
incremental ⇒ `prev` is in the key: a full join returns two unmatched pairs) but ONE coordinate for
`coalesce` (`coalKey` = `(metadata, period, evaluation_date)`, as in merge.py): the first triangle's
cell wins and the other increment is dropped — also inside a single triangle
(`coalesce([Triangle([c1, c2])])` has one cell). -/
theorem coalesce_ignores_prev :
    exI1.datesOk = true ∧ exI2.datesOk = true ∧
    joinKey true exI1 ≠ joinKey true exI2 ∧ coalKey exI1 = coalKey exI2 ∧
    (coalesce [[exI1], [exI2]]).toOption = some [exI1] ∧
    (coalesce [[exI2], [exI1]]).toOption = some [exI2] ∧
    (join (some .full) none [exI1] [exI2]).toOption = some [(some exI1, none), (none, some exI2)] ∧
    firstsBy coalKey [] [[exI1, exI2]].flatten = [exI1] := by
  decide +kernel

/-- incremental operands: `prev_evaluation_date` is part of the key — of the two left increments only
the one with the right cell's `prev` is matched -/
example : isIncremental [exI1, exI2] = true ∧
    Spec.joinHyp none [exI1, exI2] [exInc ⟨2021, 6, 30⟩ 5] = true ∧
    (join (some .inner) none [exI1, exI2] [exInc ⟨2021, 6, 30⟩ 5]).toOption =
      some [(some exI2, some (exInc ⟨2021, 6, 30⟩ 5))] ∧
    (join (some .leftAnti) none [exI1, exI2] [exInc ⟨2021, 6, 30⟩ 5]).toOption =
      some [(some exI1, none)] := by decide +kernel

/-! #### add_statics -/

/-- source of `add_statics`: two cells for the period of `exA`'s US slice (the later one wins), none for DE -/
def exSrc : List Cell :=
  [ exCell exUS ⟨2021, 12, 31⟩ [("earned_premium", .int 11), ("paid_loss", .int 99)],
    exCell exUS ⟨2023, 12, 31⟩ [("earned_premium", .int 12), ("reported_loss", .int 4)] ]

/-- the hypothesis of `addStaticsSpec_of_addStatics` is satisfiable -/
example : Spec.addStaticsHyp exA exSrc = true := by decide +kernel

/-- add_statics on `exA`: the DE cell (no source slice) is unchanged, the US cells take
`earned_premium` of the LATEST source cell (12, not 11) and nothing else (`paid_loss` 99 and
`reported_loss` are not requested); count, order, coordinates unchanged -/
theorem ex_addStatics : addStatics exA exSrc ["earned_premium"] =
    .ok [ exA[0]!,
      exCell exUS ⟨2021, 12, 31⟩ [("paid_loss", .int 1), ("earned_premium", .int 12)],
      exCell exUS ⟨2022, 12, 31⟩ [("paid_loss", .int 2), ("earned_premium", .int 12)] ] := by
  rw [addStatics_eq_map exA_canonical]
  have hn : (exSrc.map coalKey).Nodup := by decide +kernel
  -- `sourceCell?` is the last of a `mergeSort`, which the kernel does not evaluate; the Spec's fold does
  simp only [exA, List.map, addStaticsCell, ← latestSource?_eq_sourceCell? hn]
  exact congrArg _ (by decide +kernel)

/-- … and the Spec predicate holds of it through the bridge theorem -/
example : Spec.addStaticsSpec exA exSrc ["earned_premium"]
    [ exA[0]!,
      exCell exUS ⟨2021, 12, 31⟩ [("paid_loss", .int 1), ("earned_premium", .int 12)],
      exCell exUS ⟨2022, 12, 31⟩ [("paid_loss", .int 2), ("earned_premium", .int 12)] ] = true :=
  addStaticsSpec_of_addStatics exA_canonical (by decide +kernel)
    (by unfold Dict.WF; decide +kernel) ex_addStatics

end Bermuda.Properties.C10
