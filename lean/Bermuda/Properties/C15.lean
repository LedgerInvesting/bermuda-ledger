/-
C15 — extension operators only add well-placed cells, never touch observed data.
The helper lemmas are in `Lemmas/Extend*.lean`.

Proved: the right triangle and the right diagonal, first on a cumulative (`Cell` / `CumulativeCell`) input
(`*_partial`), then for both bases through the incremental path (`to_cumulative`, `to_incremental`,
`_fix_prev_evaluation_date`: `rightTri_incremental_chain`, `rightTri_lags_exact`, ...); `fill_forward_gaps`;
`backfill`; the bridges `extensionSpec_model_*`: the executable Spec predicates of `Spec/C15.lean` evaluate to
true on the model's output for all four operators; `include_historic = True` (what holds, and the re-created
coordinates); success of the operators (totality on cumulative input, and on a complete incremental triangle when they return
and when they raise `ValueError`; closed instances); a date or a lag requested twice.
-/
import Bermuda.Lemmas.Extend
import Bermuda.Lemmas.ExtendFill
import Bermuda.Lemmas.ExtendBackfill
import Bermuda.Lemmas.ExtendInc
import Bermuda.Lemmas.ExtendSpecDiag
import Bermuda.Lemmas.ExtendNodup
import Bermuda.Lemmas.ExtendSpecFillClauses
import Bermuda.Lemmas.ExtendSpecBackfill
import Bermuda.Lemmas.ExtendTotal
import Bermuda.Lemmas.ExtendExamples
import Bermuda.Spec.C15
namespace Bermuda.Properties.C15
open Bermuda Bermuda.Extend

/-! ### `make_right_triangle` -/

section RightTriangle
variable {t out : List Cell} {lags : Option (List Rat)} {u : LagUnit}

/-- **rightTri_lags_exact_partial** (cumulative input). The result consists exactly of the cells
`emptyCell e (period_end + lag)` for a slice of the triangle, `e` a right-edge cell of the slice (the
latest observation of its row, `RightTriCell.row`) and `lag` ranging over the slice's lag list (the
requested list, or the slice's own lags) restricted to `lag > e.dev_lag`. -/
theorem rightTri_lags_exact_partial (hinc : Triangle.isIncremental t = false) (h : makeRightTriangleU t lags (some u) = .ok out) (c : Cell) :
    c ∈ out ↔ RightTriCell t lags u c := by
  obtain ⟨new, hnew, hfin⟩ := rightOp_fin hinc h
  rw [(finishRight_cum hinc hfin).mem_iff]
  exact rightTriangleCells_mem hnew c

/-- **rightTri_metadata_partial** (cumulative input): every added cell carries the metadata and period of an
observed cell — the latest observation of that slice row -/
theorem rightTri_metadata_partial (hinc : Triangle.isIncremental t = false) (h : makeRightTriangleU t lags (some u) = .ok out) {c : Cell} (hc : c ∈ out) :
    ∃ e ∈ t, c.md = e.md ∧ c.ps = e.ps ∧ c.pe = e.pe ∧
      ∀ o ∈ t, o.md = e.md → o.ps = e.ps → o.pe = e.pe → Date.cmp o.ev e.ev ≠ .gt := by
  obtain ⟨e, he, hce, hlatest, _⟩ := ((rightTri_lags_exact_partial hinc h c).mp hc).row
  refine ⟨e, he, ?_, ?_, ?_, hlatest⟩ <;> (rw [hce]; rfl)

/-- **rightTri_values_empty_partial** (cumulative input) -/
theorem rightTri_values_empty_partial (hinc : Triangle.isIncremental t = false)
    (h : makeRightTriangleU t lags (some u) = .ok out) :
    ∀ c ∈ out, c.values = [] := by
  intro c hc
  obtain ⟨e, _, hce, _⟩ := ((rightTri_lags_exact_partial hinc h c).mp hc).row
  rw [hce]; rfl

/-- **rightTri_basis_partial** (cumulative input): the added cells are cumulative cells -/
theorem rightTri_basis_partial (hinc : Triangle.isIncremental t = false)
    (h : makeRightTriangleU t lags (some u) = .ok out) :
    ∀ c ∈ out, c.kind = .cumulative ∧ c.prev = none := by
  intro c hc
  obtain ⟨e, _, hce, _⟩ := ((rightTri_lags_exact_partial hinc h c).mp hc).row
  rw [hce]; exact ⟨rfl, rfl⟩

/-- **rightTri_empty_when_complete_partial** (cumulative input): if no slice has a lag beyond the lag of one of
its right-edge cells, the result is the empty triangle -/
theorem rightTri_empty_when_complete_partial (hinc : Triangle.isIncremental t = false)
    (h : makeRightTriangleU t lags (some u) = .ok out)
    (hcomplete : ∀ p ∈ Triangle.slices t, ∀ e ∈ p.2, ∀ lag ∈ lagListOf lags u p.2, ¬ lag > e.devLag u) :
    out = [] := by
  obtain ⟨cum, new, hf⟩ := rightTri_facts h
  obtain rfl := hf.cumOf.of_cum hinc
  exact hf.empty_of_edges fun p hp edge hedge e he => hcomplete p hp e (Triangle.rightEdge_latest hedge he).1

/-- **rightTri_disjoint_partial** (cumulative input, month unit, month-aligned triangle from 1970 on, integer
lags): every added cell lies strictly after every observation of its slice row; in particular no
added coordinate is occupied. -/
theorem rightTri_disjoint_partial (hinc : Triangle.isIncremental t = false)
    (h : makeRightTriangleU t lags (some .month) = .ok out)
    (hal : ∀ c ∈ t, MonthAligned c)
    (hint : ∀ p ∈ Triangle.slices t, ∀ lag ∈ lagListOf lags .month p.2, ∃ k : Int, lag = ((k : Int) : Rat))
    {c o : Cell} (hc : c ∈ out) (ho : o ∈ t) (hmd : o.md = c.md) (hps : o.ps = c.ps) (hpe : o.pe = c.pe) :
    o.ev < c.ev := by
  obtain ⟨cum, new, hf⟩ := rightTri_facts h
  obtain rfl := hf.cumOf.of_cum hinc
  refine hf.after (fun p hp e he lag hlag hgt ev hev => ?_) hc ho (rowKey_eq_iff.mpr ⟨hmd, hps, hpe⟩)
  obtain ⟨k, rfl⟩ := hint p hp lag hlag
  obtain ⟨hpe, hee⟩ := monthEnd_of_aligned hal e (mem_of_mem_slices hp he)
  exact lagCoord_month.after hpe hee trivial hgt hev

end RightTriangle

/-- **rightDiag_spec_partial** (cumulative input, `include_historic = False`): the result consists exactly of
the empty cumulative cells on the rows of the slices' right-edge cells at the requested dates that lie
after the slice's latest evaluation date (and not before the period start); every such cell carries the
metadata and period of an observed row and lies strictly after every observation of its slice — so no
added coordinate is occupied. -/
theorem rightDiag_spec_partial {t out : List Cell} {dates : List Date}
    (hinc : Triangle.isIncremental t = false) (h : makeRightDiagonal t dates false = .ok out) :
    (∀ c, c ∈ out ↔ RightDiagCell t dates false c) ∧
    (∀ c ∈ out, ∃ e ∈ t, c = emptyCell e c.ev ∧ c.ev ∈ dates ∧ e.ps ≤ c.ev ∧
      ∀ o ∈ t, o.md = c.md → o.ev < c.ev) := by
  obtain ⟨new, hnew, hfin⟩ := rightOp_fin hinc h
  have hiff : ∀ c, c ∈ out ↔ RightDiagCell t dates false c := fun c => by
    rw [(finishRight_cum hinc hfin).mem_iff]; exact rightDiagonalCells_mem hnew c
  exact ⟨hiff, fun c hc => ((hiff c).mp hc).facts⟩

/-! ### incremental input: `to_cumulative`, `to_incremental`, `_fix_prev_evaluation_date` -/

section Incremental
variable {t out : List Cell} {lags : Option (List Rat)} {u : LagUnit}

/-- **rightTri_incremental_chain**: on an incremental triangle `t` (cumulative form `cum`) every cell of
the result is an empty incremental cell at the coordinate of one of the new cumulative cells `new`
(exactly the `RightTriCell`s of `cum`), and its previous evaluation date continues the chain
(`ChainCell`): the earliest added cell of a row starts at the evaluation date of the row's observed
right-edge cell, every later one at the evaluation date of the added cell immediately before it. -/
theorem rightTri_incremental_chain (hinc : Triangle.isIncremental t = true)
    (h : makeRightTriangleU t lags (some u) = .ok out) :
    ∃ cum new, Triangle.toCumulative t = .ok cum ∧ (∀ n, n ∈ new ↔ RightTriCell cum lags u n) ∧
      ∀ c ∈ out, ChainCell t new c := by
  obtain ⟨cum, new, hf⟩ := rightTri_facts h
  exact ⟨cum, new, hf.cumOf.of_inc hinc, hf.mem_new, hf.chain hinc⟩

/-- the right-edge cell a chain starts from is the latest observation of its row of `t` -/
theorem chain_starts_at_latest {obs : List Cell} {e : Cell} (hobs : Triangle.rightEdge t = .ok obs)
    (he : e ∈ obs) :
    e ∈ t ∧ ∀ o ∈ t, o.md = e.md → o.ps = e.ps → o.pe = e.pe → Date.cmp o.ev e.ev ≠ .gt :=
  Triangle.rightEdge_latest hobs he

/-- **rightTri_values_empty** (both bases) -/
theorem rightTri_values_empty (h : makeRightTriangleU t lags (some u) = .ok out) :
    ∀ c ∈ out, c.values = [] := by
  obtain ⟨cum, new, hf⟩ := rightTri_facts h
  exact spec_values_of_facts hf.empties hf.cumPerm hf.chain

/-- **rightTri_basis** (both bases): incremental in, incremental out (with a previous evaluation date);
otherwise cumulative cells -/
theorem rightTri_basis (h : makeRightTriangleU t lags (some u) = .ok out) :
    ∀ c ∈ out, if Triangle.isIncremental t = true then c.kind = .incremental ∧ c.prev.isSome = true
      else c.kind = .cumulative ∧ c.prev = none := by
  intro c hc
  cases hinc : Triangle.isIncremental t with
  | false => simpa using rightTri_basis_partial hinc h c hc
  | true =>
    obtain ⟨_, _, _, _, hch⟩ := rightTri_incremental_chain hinc h
    obtain ⟨hk, _, hp⟩ := hch c hc
    simp only [if_true]
    refine ⟨hk, ?_⟩
    rcases hp with ⟨_, _, _, _, _, _, hp, _⟩ | ⟨_, _, _, _, _, _, hp, _⟩ <;> simp [hp]

/-- **rightDiag_incremental_chain**: the same for `make_right_diagonal` (any `include_historic`) -/
theorem rightDiag_incremental_chain {dates : List Date} {hist : Bool}
    (hinc : Triangle.isIncremental t = true) (h : makeRightDiagonal t dates hist = .ok out) :
    ∃ cum new, Triangle.toCumulative t = .ok cum ∧ (∀ n, n ∈ new ↔ RightDiagCell cum dates hist n) ∧
      ∀ c ∈ out, ChainCell t new c := by
  obtain ⟨cum, new, hf⟩ := rightDiag_facts h
  exact ⟨cum, new, hf.cumOf.of_inc hinc, hf.mem_new, hf.chain hinc⟩

end Incremental

/-! ### both bases -/

section BothBases
variable {t out : List Cell} {lags : Option (List Rat)} {u : LagUnit}

/-- **rightTri_lags_exact** (both bases): with `cum` the cumulative form of `t`, the coordinates
(metadata, period, evaluation date) of the result are exactly those of the `RightTriCell`s of `cum`:
for each slice and each right-edge cell of it, the lags of the slice's lag list that exceed the cell's lag. -/
theorem rightTri_lags_exact (h : makeRightTriangleU t lags (some u) = .ok out) :
    ∃ (cum new : List Cell), CumOf t cum ∧ (∀ n, n ∈ new ↔ RightTriCell cum lags u n) ∧
      (∀ c ∈ out, ∃ n ∈ new, rowKey c = rowKey n ∧ c.ev = n.ev) ∧
      (∀ n ∈ new, ∃ c ∈ out, rowKey c = rowKey n ∧ c.ev = n.ev) := by
  obtain ⟨cum, new, hf⟩ := rightTri_facts h
  exact ⟨cum, new, hf.cumOf, hf.mem_new, hf.fwd, hf.bwd⟩

/-- **rightTri_metadata** (both bases): every added cell carries the metadata and period of an observed
cell `x` of `t` — the latest observation of that slice row -/
theorem rightTri_metadata (h : makeRightTriangleU t lags (some u) = .ok out) {c : Cell} (hc : c ∈ out) :
    ∃ x ∈ t, c.md = x.md ∧ c.ps = x.ps ∧ c.pe = x.pe ∧
      ∀ o ∈ t, o.md = x.md → o.ps = x.ps → o.pe = x.pe → Date.cmp o.ev x.ev ≠ .gt := by
  obtain ⟨cum, new, hf⟩ := rightTri_facts h
  obtain ⟨x, hk, hx, hlatest, _⟩ := hf.asked.1 c hc
  obtain ⟨k1, k2, k3⟩ := rowKey_eq_iff.mp hk
  exact ⟨x, hx, k1, k2, k3, fun o ho h1 h2 h3 => hlatest o ho (rowKey_eq_iff.mpr ⟨h1, h2, h3⟩)⟩

/-- **rightTri_disjoint** (both bases; month unit, month-aligned triangle from 1970 on, integer requested
lags): every added cell lies strictly after every observation of its slice row — no added coordinate is
occupied. -/
theorem rightTri_disjoint (h : makeRightTriangleU t lags (some .month) = .ok out)
    (hal : ∀ c ∈ t, MonthAligned c)
    (hint : ∀ l, lags = some l → ∀ lag ∈ l, ∃ k : Int, lag = ((k : Int) : Rat))
    {c o : Cell} (hc : c ∈ out) (ho : o ∈ t) (hmd : o.md = c.md) (hps : o.ps = c.ps) (hpe : o.pe = c.pe) :
    o.ev < c.ev := by
  obtain ⟨cum, new, hf⟩ := rightTri_facts h
  exact hf.after (lagCoord_month.lagAfter (monthEnd_of_aligned (aligned_cum hf.cumOf.sameGrid hal)) hint
    fun _ _ _ _ _ _ => trivial) hc ho (rowKey_eq_iff.mpr ⟨hmd, hps, hpe⟩)

/-- **rightTri_empty_when_complete** (both bases): if in the cumulative form no slice has a lag beyond
the lag of one of its cells, the result is the empty triangle (also for an incremental input — D12) -/
theorem rightTri_empty_when_complete (h : makeRightTriangleU t lags (some u) = .ok out)
    {cum : List Cell} (hcum : CumOf t cum)
    (hcomplete : ∀ p ∈ Triangle.slices cum, ∀ e ∈ p.2, ∀ lag ∈ lagListOf lags u p.2, ¬ lag > e.devLag u) :
    out = [] := by
  obtain ⟨cum', new, hf⟩ := rightTri_facts h
  obtain rfl := hcum.unique hf.cumOf
  exact hf.empty_of_edges fun p hp edge hedge e he => hcomplete p hp e (Triangle.rightEdge_latest hedge he).1

/-- **rightDiag_spec** (both bases, `include_historic = False`): with `cum` the cumulative form of `t`, the
coordinates of the result are exactly those of the `RightDiagCell`s of `cum`; every cell of the result is
empty, sits at a requested date not before its period start, on the row of an observed cell, strictly
after every observation of its slice — no added coordinate is occupied. (Incremental chain:
`rightDiag_incremental_chain`.) -/
theorem rightDiag_spec {dates : List Date} (h : makeRightDiagonal t dates false = .ok out) :
    ∃ (cum new : List Cell), CumOf t cum ∧ (∀ n, n ∈ new ↔ RightDiagCell cum dates false n) ∧
      (∀ c ∈ out, ∃ n ∈ new, rowKey c = rowKey n ∧ c.ev = n.ev) ∧
      (∀ n ∈ new, ∃ c ∈ out, rowKey c = rowKey n ∧ c.ev = n.ev) ∧
      (∀ c ∈ out, c.values = [] ∧ c.ev ∈ dates ∧ c.ps ≤ c.ev ∧
        (∃ x ∈ t, x.md = c.md ∧ x.ps = c.ps ∧ x.pe = c.pe) ∧ ∀ o ∈ t, o.md = c.md → o.ev < c.ev) := by
  obtain ⟨cum, new, hf⟩ := rightDiag_facts h
  refine ⟨cum, new, hf.cumOf, hf.mem_new, hf.fwd, hf.bwd, fun c hc => ?_⟩
  obtain ⟨hd, hle, ⟨x, hx, hxk⟩, hafter⟩ := hf.cell hc
  obtain ⟨k1, k2, k3⟩ := rowKey_eq_iff.mp hxk
  exact ⟨spec_values_of_facts hf.empties hf.cumPerm hf.chain c hc, hd, hle, ⟨x, hx, k1, k2, k3⟩, hafter⟩

end BothBases

/-! ### disjointness for any unit: the monotonicity hypothesis, day and month instances -/

section Monotone
variable {t out : List Cell} {lags : Option (List Rat)} {u : LagUnit}

/-- **rightTri_disjoint_of_monotone** (both bases, any unit, any lags): under `LagMonotone` on the
cumulative form, every added cell lies strictly after every observation of its slice row. -/
theorem rightTri_disjoint_of_monotone (h : makeRightTriangleU t lags (some u) = .ok out)
    {cum : List Cell} (hcum : CumOf t cum) (hmono : LagMonotone cum lags u)
    {c o : Cell} (hc : c ∈ out) (ho : o ∈ t) (hmd : o.md = c.md) (hps : o.ps = c.ps) (hpe : o.pe = c.pe) :
    o.ev < c.ev := by
  obtain ⟨cum', new, hf⟩ := rightTri_facts h
  obtain rfl := hcum.unique hf.cumOf
  exact hf.after hmono hc ho (rowKey_eq_iff.mpr ⟨hmd, hps, hpe⟩)

theorem rightTri_disjoint_of_monotone_partial (hinc : Triangle.isIncremental t = false)
    (h : makeRightTriangleU t lags (some u) = .ok out) (hmono : LagMonotone t lags u)
    {c o : Cell} (hc : c ∈ out) (ho : o ∈ t) (hmd : o.md = c.md) (hps : o.ps = c.ps) (hpe : o.pe = c.pe) :
    o.ev < c.ev :=
  rightTri_disjoint_of_monotone h (.inl ⟨hinc, rfl⟩) hmono hc ho hmd hps hpe

/-- `LagMonotone` for the day unit: valid dates, integer lags (a fractional day lag is floored by
`timedelta`), results inside `date.min .. date.max` -/
theorem lagMonotone_day {cum : List Cell} (hval : ∀ c ∈ cum, c.pe.valid = true ∧ c.ev.valid = true)
    (hint : ∀ l, lags = some l → ∀ lag ∈ l, ∃ k : Int, lag = ((k : Int) : Rat))
    (hrange : ∀ p ∈ Triangle.slices cum, ∀ e ∈ p.2, ∀ lag ∈ lagListOf lags .day p.2,
      1 ≤ e.pe.ordinal + lag.floor ∧ e.pe.ordinal + lag.floor ≤ 3652059) :
    LagMonotone cum lags .day := by
  exact lagCoord_day.lagAfter hval hint hrange

/-- `LagMonotone` for the month unit: month-aligned cells from 1970 on, integer requested lags -/
theorem lagMonotone_month {cum : List Cell} (hal : ∀ c ∈ cum, MonthAligned c)
    (hint : ∀ l, lags = some l → ∀ lag ∈ l, ∃ k : Int, lag = ((k : Int) : Rat)) :
    LagMonotone cum lags .month := by
  exact lagCoord_month.lagAfter (monthEnd_of_aligned hal) hint fun _ _ _ _ _ _ => trivial

end Monotone

/-! ### `backfill` -/

/-- **backfill_preserves_observed**: the result is a rearrangement of the observed cells together with
the added ones — no observed cell is dropped, duplicated or altered. -/
theorem backfill_preserves_observed {t out : List Cell} {statics : List String} {res? : Option Int}
    {minLag : Int} (h : backfill t statics res? minLag = .ok out) :
    ∃ added, out.Perm (t ++ added) ∧ ∀ c ∈ t, c ∈ out := by
  obtain ⟨_, parts, _, _, hperm⟩ := backfill_perm h
  exact ⟨parts.flatten, hperm, fun c hc => hperm.mem_iff.mpr (List.mem_append_left _ hc)⟩

/-- **backfill_added_before_first** (structure; that the added dates lie before the first
observation is `backfill_before_first_dates`): the result is a rearrangement of the
observed cells and added cells; every added cell is a copy of the first cell `first` of a period row
(the earliest observation of the period's first slice: same metadata, period, class and previous
date) with the replacement values and evaluation date `period_end + (first_lag - (i+1)·res)`,
`i < backfillSteps`, for the (given or inferred) resolution `res > 0`. -/
theorem backfill_added_before_first {t out : List Cell} {statics : List String} {res? : Option Int}
    {minLag : Int} (h : backfill t statics res? minLag = .ok out) :
    ∃ added pres, periodResolution t = some pres ∧ out.Perm (t ++ added) ∧
      ∀ a ∈ added, ∃ row ∈ periodRows t, ∃ first, row.2.head? = some first ∧
        ∃ repl, replacementValues first statics = .ok repl ∧
        ∃ res, (match res? with | some r => some r | none => evalDateResolution t) = some res ∧ 0 < res ∧
        ∃ i, i < backfillSteps first.devLag res (max minLag (-pres + 1)) ∧
          a = backfillCell first repl res i := by
  obtain ⟨pres, parts, hpres, hparts, hperm⟩ := backfill_perm h
  refine ⟨parts.flatten, pres, hpres, hperm, fun a ha => ?_⟩
  obtain ⟨row, hrow, ys, hys, hay⟩ := (mapM_flatten_mem hparts a).mp ha
  obtain ⟨first, hf, repl, hrepl, res, hres, hpos, i, hi, rfl⟩ := backfillRow_mem hys hay
  refine ⟨row, hrow, first, hf, repl, hrepl, res, ?_, hpos, i, hi, rfl⟩
  cases res? <;> exact hres

/-- **backfill_min_lag** (lower bound), as arithmetic of the loop counter `backfillSteps`: with `cur` the row's first
lag and `lo = max(min_lag, -period_resolution + 1)`, the lag `cur - (i+1)·res` of step `i` is at least `lo` and strictly
below `cur`. -/
theorem backfill_min_lag {cur : Rat} {res lo : Int} {i : Nat} (hres : 0 < res)
    (hi : i < backfillSteps cur res lo) :
    (lo : Rat) ≤ cur - (((i : Int) + 1 : Int) : Rat) * (res : Rat) ∧
    cur - (((i : Int) + 1 : Int) : Rat) * (res : Rat) < cur := by
  have hr : (0 : Rat) < (res : Rat) := by exact_mod_cast hres
  have hi1 : (0 : Rat) < (((i : Int) + 1 : Int) : Rat) := by
    have : (0 : Int) < (i : Int) + 1 := by omega
    exact_mod_cast this
  refine ⟨?_, sub_lt_self _ (mul_pos hi1 hr)⟩
  -- `i + 1 ≤ ⌊(cur - lo) / res⌋`, hence `(i + 1) * res ≤ cur - lo`
  have hfl : ((i : Int) + 1 : Int) ≤ ⌊(cur - (lo : Rat)) / (res : Rat)⌋ := by
    show _ ≤ ((cur - (lo : Rat)) / (res : Rat)).floor
    unfold backfillSteps at hi
    omega
  have h2 := (le_div_iff₀ hr).mp (Int.le_floor.mp hfl)
  linarith

/-- **backfill_values**: the values of a backfilled cell have the keys of the row's first observation;
a static field carries that observation's value, every other field is the integer 0 — no invented
losses. -/
theorem backfill_values {first : Cell} {statics : List String} {repl : Dict Val}
    (h : replacementValues first statics = .ok repl) :
    repl.keys = first.values.keys ∧
    ∀ kv ∈ repl, (kv.1 ∈ statics ∧ first.values.get? kv.1 = some kv.2) ∨
                 (kv.1 ∉ statics ∧ kv.2 = Val.int 0) := by
  exact replacementValues_spec h

/-- **backfill_min_lag_exact**: for every period row (its first cell `first` is the earliest observation
of the period's first slice) and a positive resolution, every step `i < backfillSteps` — i.e. every lag
`first_lag - (i+1)·res` not below `max(min_dev_lag, -period_resolution + 1)` — is supplied, as long as
the cells up to it pass the constructor (the Python loop `break`s at the first `ValueError`). -/
theorem backfill_min_lag_exact {t out : List Cell} {statics : List String} {res? : Option Int}
    {minLag pres res : Int} (h : backfill t statics res? minLag = .ok out)
    (hpres : periodResolution t = some pres) (hres : resolvedRes t res? = some res) (hpos : 0 < res)
    {row : Period × List Cell} (hrow : row ∈ periodRows t) {first : Cell} (hf : row.2.head? = some first) :
    ∃ repl, replacementValues first statics = .ok repl ∧
      ∀ i, i < backfillSteps first.devLag res (max minLag (-pres + 1)) →
        (∀ j, j ≤ i → (backfillCell first repl res j).datesOk = true) →
        backfillCell first repl res i ∈ out := by
  exact backfill_cell_mem h hpres hres hpos hrow hf

/-- **backfill_before_first_dates**: on a month-aligned first cell the evaluation date of the cell of step `i` strictly
precedes the row's first observation. (`h70` is not needed: `add_months` from a month-end `period_end` by a whole
number of months is exact in every year.) -/
theorem backfill_before_first_dates {first : Cell} {repl : Dict Val} {res : Int} {i : Nat}
    (hal : MonthAligned first) (hres : 0 < res)
    (h70 : 0 ≤ monthToId first.ev - ((i : Int) + 1) * res) :
    (backfillCell first repl res i).ev < first.ev := by
  exact backfillCell_before hal repl hres


/-! ### `fill_forward_gaps` -/

/-- **fill_preserves_observed**: when no two cells of a slice row share a development lag (the rows are
keyed by lag in a dict), every observed cell is in the output, unchanged. -/
theorem fill_preserves_observed {t out : List Cell} {res? : Option Int} {nf : Bool}
    (h : fillForwardGaps t res? nf = .ok out)
    (hnd : ∀ r ∈ slicePeriodRows t, r.2.Pairwise (fun a b => a.devLag ≠ b.devLag)) :
    ∀ c ∈ t, c ∈ out := by
  exact fill_preserves_observed' h hnd

/-- **fill_added_inside_gaps**: for a positive resolution (given or inferred) on whose grid all observed
lags of every slice row lie, every cell of the output is an observed cell or a fill cell of one slice
row (`FillCellOf`): same metadata and period as the row, at an unobserved grid lag strictly between the
row's first and last observed lag. -/
theorem fill_added_inside_gaps {t out : List Cell} {res? : Option Int} {nf : Bool} {res : Int}
    (h : fillForwardGaps t res? nf = .ok out) (hres : resolvedRes t res? = some res) (hpos : 0 < res)
    (hgrid : ∀ r ∈ slicePeriodRows t, GridRow res r.2) :
    ∀ c ∈ out, c ∈ t ∨ ∃ r ∈ slicePeriodRows t, FillCellOf res nf r.2 c := by
  exact fill_cells h hres hpos hgrid

/-- **fill_complete**: for a positive resolution on whose grid the observed lags of every slice row lie,
every lag of `range(first_lag, last_lag + res, res)` of every slice row is present in the output on that
row: as the observed cell with that lag, or as a cell at `period_end + lag` (the fill cell). Together
with `fill_added_inside_gaps`: exactly the unobserved inner grid lags are filled. -/
theorem fill_complete {t out : List Cell} {res? : Option Int} {nf : Bool} {res : Int}
    (h : fillForwardGaps t res? nf = .ok out) (hres : resolvedRes t res? = some res) (hpos : 0 < res)
    (hgrid : ∀ r ∈ slicePeriodRows t, GridRow res r.2)
    {r : SliceKey × List Cell} (hr : r ∈ slicePeriodRows t) {f l : Cell}
    (hf : r.2.head? = some f) (hl : r.2.getLast? = some l) {x : Int}
    (hx : x ∈ pyRange (truncInt f.devLag) (truncInt (l.devLag + res)) res) :
    ∃ c ∈ out, ∃ o ∈ r.2, c.md = o.md ∧ c.ps = o.ps ∧ c.pe = o.pe ∧
      ((c = o ∧ o.devLag = ((x : Int) : Rat)) ∨ c.ev = addMonths c.pe ((x : Int) : Rat)) := by
  exact fill_complete' h hres hpos hgrid hr hf hl hx


/-- **fill_values**: a fill cell carries no invented values: it is the observation `o` of its row with
the greatest lag below its own, moved to the new evaluation date — same metadata, period, class and
previous date; its values are those of `o`, or (with `fill_with_none`) the same keys all `None`. -/
theorem fill_values {res : Int} {nf : Bool} {row : List Cell} {c : Cell} (h : FillCellOf res nf row c) :
    ∃ o ∈ row, ∃ lag : Int, o.devLag < (lag : Rat) ∧
      (∀ o' ∈ row, o'.devLag ≤ (lag : Rat) → o'.devLag ≤ o.devLag) ∧
      c.md = o.md ∧ c.ps = o.ps ∧ c.pe = o.pe ∧ c.kind = o.kind ∧ c.prev = o.prev ∧
      c.ev = addMonths o.pe (lag : Rat) ∧
      c.values = (if nf then o.values.map fun (kv : String × Val) => (kv.1, Val.none) else o.values) := by
  obtain ⟨f, l, _, _, lag, _, _, _, _, o, ho, hlt, hnear, rfl⟩ := h
  refine ⟨o, ho, lag, hlt, hnear, ?_⟩
  cases nf <;> simp [fillCell]

/-! ### the executable Spec on the model's output -/

/-- **extensionSpec_model_rightTri_partial**: nine of the ten executable clauses of `rightTriSpec` hold of
the model's right triangle, for both bases (month unit, month-aligned triangle from 1970 on, integer
requested lags). The clause `nodup` (no two cells of the result share a coordinate when the requested lags are
distinct) is not among them; all ten: `extensionSpec_model_rightTri`. -/
theorem extensionSpec_model_rightTri_partial {t out : List Cell} {lags : Option (List Rat)}
    (h : makeRightTriangleU t lags (some .month) = .ok out) (hal : ∀ c ∈ t, MonthAligned c)
    (hint : ∀ l, lags = some l → ∀ lag ∈ l, ∃ k : Int, lag = ((k : Int) : Rat)) :
    Spec.C15.disjoint t out = true ∧ Spec.C15.afterLatest t out = true ∧
    Spec.C15.rightTriOnGrid t lags .month out = true ∧ Spec.C15.rightTriComplete t lags .month out = true ∧
    Spec.C15.valuesEmpty out = true ∧ Spec.C15.basisKept t out = true ∧ Spec.C15.chainOk t out = true ∧
    (!(Spec.C15.rightTriNothingMissing t lags .month) || out.isEmpty) = true ∧
    Spec.isCanonical out = true := by
  obtain ⟨cum, new, hf⟩ := rightTri_facts h
  have hafter : ∀ c ∈ out, ∀ o ∈ t, rowKey o = rowKey c → o.ev < c.ev := by
    intro c hc o ho hk
    obtain ⟨k1, k2, k3⟩ := rowKey_eq_iff.mp hk
    exact rightTri_disjoint h hal hint hc ho k1 k2 k3
  obtain ⟨h5, h6, h7, h9⟩ := hf.toTailFacts.shared
  exact ⟨spec_disjoint hafter, spec_afterLatest hf.outRows hafter, spec_rightTri_onGrid hf hal,
    spec_rightTri_complete hf, h5, h6, h7, spec_rightTri_emptyWhenComplete hf hal, h9⟩

/-- **extensionSpec_model_rightDiag_partial**: nine of the ten executable clauses of `rightDiagSpec` hold
of the model's right diagonal (`include_historic = False`), for both bases and ANY triangle and date
list. The clause `nodup` is not among them; all ten: `extensionSpec_model_rightDiag`. -/
theorem extensionSpec_model_rightDiag_partial {t out : List Cell} {dates : List Date}
    (h : makeRightDiagonal t dates false = .ok out) :
    Spec.C15.disjoint t out = true ∧ Spec.C15.afterLatest t out = true ∧
    Spec.C15.rightDiagOnGrid t dates out = true ∧ Spec.C15.rightDiagComplete t dates out = true ∧
    Spec.C15.valuesEmpty out = true ∧ Spec.C15.basisKept t out = true ∧ Spec.C15.chainOk t out = true ∧
    (!(Spec.C15.rightDiagNothingMissing t dates) || out.isEmpty) = true ∧
    Spec.isCanonical out = true := by
  obtain ⟨cum, new, hf⟩ := rightDiag_facts h
  have hafter : ∀ c ∈ out, ∀ o ∈ t, rowKey o = rowKey c → o.ev < c.ev :=
    fun c hc o ho hk => (hf.cell hc).2.2.2 o ho (md_of_rowKey hk)
  have hrow : ∀ c ∈ out, ∃ x ∈ t, rowKey x = rowKey c := fun c hc => (hf.cell hc).2.2.1
  obtain ⟨h5, h6, h7, h9⟩ := hf.toTailFacts.shared
  exact ⟨spec_disjoint hafter, spec_afterLatest hrow hafter, spec_rightDiag_onGrid hf,
    spec_rightDiag_complete hf, h5, h6, h7, spec_rightDiag_emptyWhenComplete hf, h9⟩


/-- **extensionSpec_model_rightTri**: ALL executable clauses of `rightTriSpec` hold of the model's right
triangle, for both bases (month unit, month-aligned triangle from 1970 on, integer requested lags). -/
theorem extensionSpec_model_rightTri {t out : List Cell} {lags : Option (List Rat)}
    (h : makeRightTriangleU t lags (some .month) = .ok out) (hal : ∀ c ∈ t, MonthAligned c)
    (hint : ∀ l, lags = some l → ∀ lag ∈ l, ∃ k : Int, lag = ((k : Int) : Rat)) :
    Spec.C15.allHold (Spec.C15.rightTriSpec t lags .month out) = true := by
  obtain ⟨cum, new, hf⟩ := rightTri_facts h
  have halc := aligned_cum hf.cumOf.sameGrid hal
  exact rightTriSpec_holds hf (by decide) (lagCoord_month.lagOrder (monthEnd_of_aligned halc)) (lagInj_month halc hint)
    (lagMonotone_month halc hint)

/-- **extensionSpec_model_rightDiag**: ALL executable clauses of `rightDiagSpec` hold of the model's right
diagonal (`include_historic = False`), for both bases, any triangle and any date list. -/
theorem extensionSpec_model_rightDiag {t out : List Cell} {dates : List Date}
    (h : makeRightDiagonal t dates false = .ok out) :
    Spec.C15.allHold (Spec.C15.rightDiagSpec t dates out) = true := by
  obtain ⟨h1, h2, h3, h4, h5, h6, h7, h8, h9⟩ := extensionSpec_model_rightDiag_partial h
  obtain ⟨cum, new, hf⟩ := rightDiag_facts h
  refine allHold_iff.mpr ?_
  simp only [Spec.C15.rightDiagSpec, List.mem_cons, List.not_mem_nil, or_false, forall_eq_or_imp, forall_eq]
  exact ⟨h1, h2, h3, h4, hf.nodupClause, h5, h6, h7, h8, h9⟩


/-! ### non-vacuity: a concrete month-aligned two-row triangle meets the hypotheses -/

def exCells : List Cell :=
  [ { kind := .cumulative, ps := ⟨2020, 1, 1⟩, pe := ⟨2020, 3, 31⟩, ev := ⟨2020, 3, 31⟩, values := [("paid_loss", .int 1)] },
    { kind := .cumulative, ps := ⟨2020, 1, 1⟩, pe := ⟨2020, 3, 31⟩, ev := ⟨2020, 6, 30⟩, values := [("paid_loss", .int 2)] },
    { kind := .cumulative, ps := ⟨2020, 4, 1⟩, pe := ⟨2020, 6, 30⟩, ev := ⟨2020, 6, 30⟩, values := [("paid_loss", .int 3)] } ]

theorem exCells_aligned : ∀ c ∈ exCells, MonthAligned c := by
  intro c hc
  simp only [exCells, List.mem_cons, List.not_mem_nil, or_false] at hc
  rcases hc with rfl | rfl | rfl <;> (unfold MonthAligned; decide)

theorem exCells_cumulative : Triangle.isIncremental exCells = false := rfl

/-- the grid hypothesis of the fill theorems is satisfiable: the lags 0, 3, 0 of `exCells` lie on the
grid of step 3 -/
example : GridRow 3 exCells := by
  refine ⟨0, ?_⟩
  intro o ho
  simp only [exCells, List.mem_cons, List.not_mem_nil, or_false] at ho
  rcases ho with rfl | rfl | rfl
  · exact ⟨0, by decide +kernel⟩
  · exact ⟨1, by decide +kernel⟩
  · exact ⟨0, by decide +kernel⟩

/-- `backfill_min_lag` is not vacuous: first lag 3, resolution 1, bound 0 gives three steps -/
example : 2 < backfillSteps 3 1 0 := by decide +kernel

/-- `backfill_values` is not vacuous: losses become 0, the static field is carried -/
def exFirst : Cell :=
  { ps := ⟨2020, 1, 1⟩, pe := ⟨2020, 1, 31⟩, ev := ⟨2020, 3, 31⟩, values := [("paid_loss", .int 5), ("earned_premium", .int 100)] }

example : replacementValues exFirst ["earned_premium"]
    = .ok [("paid_loss", .int 0), ("earned_premium", .int 100)] := by decide +kernel

/-! ### the executable Spec on the model's output: `fill_forward_gaps`, `backfill` -/

/-- **extensionSpec_model_fill**: ALL executable clauses of `fillSpec` (`preserved` as the list equation
`kept t out = t`, `nodupAdded`, `canonical`, `emptyInput`; on a compatible resolution also `insideGaps`, `complete`,
`values`, `emptyWhenComplete`) hold of the model's `fill_forward_gaps`, for both values of `fill_with_none`, on the
domain `SpecDomain t` (a canonical triangle — sorted, one cell class, constructor date rules — with canonical
metadata, month-aligned from 1970 on, no coordinate occupied twice) and a positive (given or inferred) resolution.
The grid hypothesis of the Prop-level theorems is not assumed: it is derived from the Bool `fillCompatible`, and
for an incompatible resolution the three structural clauses are proved all the same. (`hpos` is not needed:
`fillSpec_holds`.) -/
theorem extensionSpec_model_fill {t out : List Cell} {res? : Option Int} {nf : Bool}
    (h : fillForwardGaps t res? nf = .ok out) (hD : SpecDomain t)
    (hpos : ∀ res, resolvedRes t res? = some res → 0 < res) :
    Spec.C15.allHold (Spec.C15.fillSpec t res? nf out) = true :=
  fillSpec_holds h hD

/-- **extensionSpec_model_backfill**: ALL executable clauses of `backfillSpec` (`preserved` as the list equation,
`nodupAdded`, `canonical`, `beforeFirst`, `minLag`, `values`) hold of the model's `backfill` on the domain
`SpecDomain t`, for a positive (given or inferred) resolution, when the loop runs down to its bound
(`BackfillOk`: on every row, every cell the loop would create from the row's earliest observation passes the `Cell`
constructor — the Python loop `break`s at the first `ValueError` — and lies in a month from 1970 on; the proof uses
only the first part, since `add_months` from a month-end `period_end` is exact in every year). (`hpos` is not needed:
`backfillSpec_holds`.) -/
theorem extensionSpec_model_backfill {t out : List Cell} {statics : List String} {res? : Option Int}
    {minLag : Int} (h : backfill t statics res? minLag = .ok out) (hD : SpecDomain t)
    (hpos : ∀ res, resolvedRes t res? = some res → 0 < res)
    (hok : ∀ res pres, resolvedRes t res? = some res → periodResolution t = some pres →
      BackfillOk t res (max minLag (-pres + 1))) :
    Spec.C15.allHold (Spec.C15.backfillSpec t statics res? minLag out) = true :=
  backfillSpec_holds h hD hok

/-! ### non-vacuity of the bridge hypotheses -/

/-- the domain of the two bridges is inhabited by the two-row triangle `exCells` -/
theorem exCells_domain : SpecDomain exCells := by
  refine ⟨⟨by decide +kernel, by decide +kernel, by decide +kernel⟩, by decide +kernel, exCells_aligned,
    by decide +kernel⟩

theorem exBack_domain : SpecDomain exBack := by
  refine ⟨⟨by decide +kernel, by decide +kernel, by decide +kernel⟩, by decide +kernel, ?_, by decide +kernel⟩
  intro c hc
  simp only [exBack, List.mem_cons, List.not_mem_nil, or_false] at hc
  rcases hc with rfl | rfl <;> (unfold MonthAligned; decide)

/-- `BackfillOk` is satisfiable and not vacuous: the row of `exBack` starts at lag 2, so with resolution 1 and bound
0 the loop creates the lags 1 and 0 — two steps, both valid cells in 2020 (`exBack_backfill_ok`: the model returns and
the whole Spec holds). -/
theorem exBack_ok : BackfillOk exBack 1 0 := by
  intro first hf hearly i hi
  simp only [exBack, List.mem_cons, List.not_mem_nil, or_false] at hf
  rcases hf with rfl | rfl
  · have hs : backfillSteps exB1.devLag 1 0 = 2 := by decide +kernel
    rw [hs] at hi
    have : i = 0 ∨ i = 1 := by omega
    rcases this with rfl | rfl <;> exact ⟨by decide +kernel, by decide +kernel⟩
  · exfalso
    apply hearly exB1 (by simp [exBack]) rfl
    decide +kernel

/-! ### `make_right_diagonal(include_historic=True)`: what holds, and the re-created coordinates -/

/-- **rightDiag_historic_recreates**: with `include_historic = True` (either basis) a requested date that is the
evaluation date of an observed cell `x` (not before its period start) is served like any other: the result contains a
cell ON THE OCCUPIED COORDINATE of `x`, so the clause `disjoint` ("never create a cell at an occupied coordinate") is
FALSE of the model's — and the library's — output for this flag. (The default `include_historic = False` satisfies it:
`rightDiag_spec`, `extensionSpec_model_rightDiag`.) -/
theorem rightDiag_historic_recreates {t out : List Cell} {dates : List Date}
    (h : makeRightDiagonal t dates true = .ok out) {x : Cell} (hx : x ∈ t) (hd : x.ev ∈ dates)
    (hps : x.ps ≤ x.ev) :
    (∃ c ∈ out, Spec.C15.sameCoord c x = true) ∧ Spec.C15.disjoint t out = false := by
  obtain ⟨cum, new, hf⟩ := rightDiag_facts h
  obtain ⟨c, hc, hs⟩ := rightDiag_hist_occupied hf hx hd hps
  refine ⟨⟨c, hc, hs⟩, ?_⟩
  simp only [Spec.C15.disjoint, List.all_eq_false, Bool.not_eq_true, Bool.not_eq_false', List.any_eq_true]
  exact ⟨c, hc, x, hx, hs⟩

/-- **extensionSpec_model_rightDiag_historic**: the exact clause set that DOES hold with `include_historic = True`
(`rightDiagHistSpec`, both bases, any triangle and date list): every cell sits at a requested date not before its
period start on an observed row (`onGrid`), every such (row, date) is supplied (`complete`), no coordinate twice for
distinct dates (`nodup`), empty values, same basis, incremental chain, canonical form. Not claimed (and false in
general): `disjoint`, `afterLatest`, `emptyWhenComplete`. -/
theorem extensionSpec_model_rightDiag_historic {t out : List Cell} {dates : List Date}
    (h : makeRightDiagonal t dates true = .ok out) :
    Spec.C15.allHold (Spec.C15.rightDiagHistSpec t dates out) = true := by
  obtain ⟨cum, new, hf⟩ := rightDiag_facts h
  have h1 := spec_rightDiagHist_onGrid hf
  have h2 := spec_rightDiagHist_complete hf
  obtain ⟨h3, h4, h5, h6⟩ := hf.toTailFacts.shared
  refine allHold_iff.mpr ?_
  simp only [Spec.C15.rightDiagHistSpec, List.mem_cons, List.not_mem_nil, or_false, forall_eq_or_imp, forall_eq]
  exact ⟨h1, h2, hf.nodupClause, h3, h4, h5, h6⟩

/-- **backfill_only_first_slice**: every cell `backfill` adds lies on the LOWEST-metadata slice of its
period — the loop runs over `period_rows`, whose first cell belongs to the first slice; later slices of a period get
no cell. -/
theorem backfill_only_first_slice {t out : List Cell} {statics : List String} {res? : Option Int}
    {minLag : Int} (h : backfill t statics res? minLag = .ok out) :
    ∃ added, out.Perm (t ++ added) ∧
      ∀ a ∈ added, ∀ o ∈ t, o.ps = a.ps → o.pe = a.pe → Metadata.cmp a.md o.md ≠ .gt := by
  obtain ⟨added, _, _, hperm, hall⟩ := backfill_added_before_first h
  refine ⟨added, hperm, ?_⟩
  intro a ha o ho hps hpe
  obtain ⟨row, hrow, first, hf, _, _, _, _, _, _, _, rfl⟩ := hall a ha
  obtain ⟨first', hP⟩ := prow_facts hrow
  have : first' = first := by have := hP.head; rw [hf] at this; cases this; rfl
  subst this
  apply hP.lowest o ho
  rw [← hP.period]
  show (o.ps, o.pe) = (first'.ps, first'.pe)
  rw [hps, hpe]; rfl

/-! ### the operators SUCCEED: totality on cumulative input, closed instances with every bridge hypothesis -/

/-- **rightDiag_total**: `make_right_diagonal` (either flag) returns on a class-consistent cumulative triangle as
soon as no `CumulativeCell(...)` call raises -/
theorem rightDiag_total {t : List Cell} {dates : List Date} {hist : Bool}
    (hk : kindsConsistent t = true) (hinc : Triangle.isIncremental t = false)
    (hdates : ∀ e ∈ t, ∀ d ∈ dates, e.ps ≤ d → (emptyCell e d).datesOk = true) :
    ∃ out, makeRightDiagonal t dates hist = .ok out :=
  (edgeFn_rightDiagonalSlice dates hist).total_cum hinc fun _ hp =>
    rightDiagonalSlice_total (slice_kindsConsistent hk hp) fun e he => hdates e (mem_of_mem_slices hp he)

/-- **rightTri_total**: `make_right_triangle` (month or day unit) returns on a class-consistent cumulative triangle as
soon as no `CumulativeCell(...)` call raises -/
theorem rightTri_total {t : List Cell} {lags : Option (List Rat)} {u : LagUnit} (hu : u ≠ .timedelta)
    (hk : kindsConsistent t = true) (hinc : Triangle.isIncremental t = false)
    (hcells : ∀ e ∈ t, ∀ l,
      ((∃ ls, lags = some ls ∧ l ∈ ls) ∨ (lags = none ∧ ∃ o ∈ t, o.md = e.md ∧ o.devLag u = l)) →
      l > e.devLag u → ∀ ev, addDevLag e.pe l u = .ok ev → (emptyCell e ev).datesOk = true) :
    ∃ out, makeRightTriangleU t lags (some u) = .ok out :=
  (edgeFn_rightTriangleSlice lags u).total_cum hinc fun _ hp =>
    rightTriangleSlice_total hu (slice_kindsConsistent hk hp) fun e he l hl =>
      hcells e (mem_of_mem_slices hp he) l
        (mem_lagSetOf.mp ((lagList_iff_lagSet (.refl t) hp ((Triangle.mem_slice_iff hp e).mp he).2 l).mp hl))

/-- **backfill_total'**: `backfill` returns on a class-consistent non-empty triangle for a positive resolution when
the static fields are present in every cell -/
theorem backfill_total' {t : List Cell} {statics : List String} {res? : Option Int} {minLag pres res : Int}
    (hk : kindsConsistent t = true) (hpr : periodResolution t = some pres)
    (hres : resolvedRes t res? = some res) (hpos : 0 < res)
    (hstat : ∀ c ∈ t, ∀ f ∈ statics, (c.values.get? f).isSome = true) :
    ∃ out, backfill t statics res? minLag = .ok out := by
  replace hstat : ∀ c ∈ t, ∀ f ∈ statics, ∃ v, c.values.get? f = some v :=
    fun c hc f hf => Option.isSome_iff_exists.mp (hstat c hc f hf)
  have hrows : ∀ r ∈ periodRows t, ∃ ys,
      backfillRow statics (resolvedRes t res?) minLag (-pres + 1) r.2 = .ok ys := by
    intro r hr
    rw [hres]
    apply backfillRow_total hpos
    intro first hf
    exact hstat first (((periodRows_spec hr).1 first).mp (List.mem_of_head? hf)).1
  obtain ⟨parts, hparts⟩ := mapM_ok_of_forall hrows
  have hkinds : ∀ a ∈ parts.flatten, ∃ o ∈ t, a.kind = o.kind := by
    intro a ha
    obtain ⟨ys, hys, hay⟩ := List.mem_flatten.mp ha
    obtain ⟨r, hr, hfr⟩ := mapM_ok_mem hparts ys hys
    obtain ⟨first, hf, _, _, _, _, _, _, _, rfl⟩ := backfillRow_mem hfr hay
    exact ⟨first, (((periodRows_spec hr).1 first).mp (List.mem_of_head? hf)).1, rfl⟩
  obtain ⟨addTri, hadd⟩ := Triangle.ofCells_isOk.mpr (kindsConsistent_of_kinds_mem hkinds hk)
  have hperm := Triangle.ofCells_perm hadd
  obtain ⟨out, hout⟩ := (Triangle.ofCells_isOk (l := t ++ addTri)).mpr (kindsConsistent_of_kinds_mem (by
    intro c hc
    rcases List.mem_append.mp hc with hc | hc
    · exact ⟨c, hc, rfl⟩
    · exact hkinds c (hperm.mem_iff.mp hc)) hk)
  exact ⟨out, backfill_ok.mpr ⟨pres, parts, addTri, hpr, hparts, hadd, hout⟩⟩

/-- closed instance: the right triangle of `exCells` exists and satisfies the whole Spec -/
theorem exCells_rightTri_ok :
    ∃ out, makeRightTriangleU exCells none (some .month) = .ok out ∧
      Spec.C15.allHold (Spec.C15.rightTriSpec exCells none .month out) = true := by
  obtain ⟨out, h⟩ : ∃ out, makeRightTriangleU exCells none (some .month) = .ok out := by
    have H : ∀ e ∈ exCells, ∀ o ∈ exCells,
        o.devLag > e.devLag → (emptyCell e (addMonths e.pe o.devLag)).datesOk = true := by decide +kernel
    apply rightTri_total (by decide) (by decide +kernel) rfl
    intro e he l hl hgt ev hev
    rcases hl with ⟨ls, hls, _⟩ | ⟨_, o, ho, _, rfl⟩
    · cases hls
    · cases hev
      exact H e he o ho hgt
  exact ⟨out, h, extensionSpec_model_rightTri h exCells_aligned (fun l hl => by cases hl)⟩

/-- closed instance: the right diagonal of `exCells` at two later dates exists and satisfies the whole Spec -/
theorem exCells_rightDiag_ok :
    ∃ out, makeRightDiagonal exCells [⟨2020, 9, 30⟩, ⟨2020, 12, 31⟩] false = .ok out ∧
      Spec.C15.allHold (Spec.C15.rightDiagSpec exCells [⟨2020, 9, 30⟩, ⟨2020, 12, 31⟩] out) = true := by
  obtain ⟨out, h⟩ := rightDiag_total (t := exCells) (dates := [⟨2020, 9, 30⟩, ⟨2020, 12, 31⟩])
    (hist := false) (by decide +kernel) rfl (by decide +kernel)
  exact ⟨out, h, extensionSpec_model_rightDiag h⟩

/-- closed witness of `rightDiag_historic_recreates`: on `exCells` with the observed date 2020-03-31 requested and
`include_historic = True` the model returns, and `disjoint` is false of its output -/
theorem rightDiag_historic_witness :
    ∃ out, makeRightDiagonal exCells [⟨2020, 3, 31⟩, ⟨2020, 9, 30⟩] true = .ok out ∧
      Spec.C15.disjoint exCells out = false := by
  obtain ⟨out, h⟩ := rightDiag_total (t := exCells) (dates := [⟨2020, 3, 31⟩, ⟨2020, 9, 30⟩])
    (hist := true) (by decide +kernel) rfl (by decide +kernel)
  exact ⟨out, h, (rightDiag_historic_recreates h (x := exCells[0]) (by decide +kernel) (by decide +kernel)
    (by decide +kernel)).2⟩

/-- closed instance: `backfill` of `exBack` (lags 2, 3 → lags 1, 0 added) exists and satisfies the whole Spec;
`List.mergeSort` does not reduce in the kernel, so `periodResolution` is evaluated in stages -/
theorem exBack_backfill_ok :
    ∃ out, backfill exBack ["earned_premium"] (some 1) 0 = .ok out ∧
      Spec.C15.allHold (Spec.C15.backfillSpec exBack ["earned_premium"] (some 1) 0 out) = true := by
  obtain ⟨out, h⟩ := backfill_total' (t := exBack) (statics := ["earned_premium"]) (res? := some 1) (minLag := 0)
    (by decide +kernel) exBack_pres rfl (by decide) (by decide +kernel)
  refine ⟨out, h, extensionSpec_model_backfill h exBack_domain ?_ ?_⟩
  · intro res hres; cases hres; decide
  · intro res pres hres hpres
    cases hres
    rw [exBack_pres] at hpres; cases hpres
    exact exBack_ok

theorem exFill_domain : SpecDomain exFill := by
  refine ⟨⟨by decide +kernel, by decide +kernel, by decide +kernel⟩, by decide +kernel, ?_, by decide +kernel⟩
  intro c hc
  simp only [exFill, List.mem_cons, List.not_mem_nil, or_false] at hc
  rcases hc with rfl | rfl <;> (unfold MonthAligned; decide)

/-- closed instance: `fill_forward_gaps` on a row observed at the lags 0 and 2 with resolution 1 exists, has three
cells (the lag 1 is filled) and satisfies the whole Spec -/
theorem exFill_fill_ok :
    ∃ out, fillForwardGaps exFill (some 1) false = .ok out ∧ out.length = 3 ∧
      Spec.C15.allHold (Spec.C15.fillSpec exFill (some 1) false out) = true := by
  obtain ⟨out, hout⟩ := (Triangle.ofCells_isOk (l := [exF1, exF2, { exF1 with ev := ⟨2020, 2, 29⟩ }])).mpr (by decide +kernel)
  have h : fillForwardGaps exFill (some 1) false = .ok out := by
    unfold fillForwardGaps
    rw [exFill_rows]
    simp only [List.isEmpty_cons, Bool.false_eq_true, if_false, List.mapM_cons, List.mapM_nil, exFill_row,
      bind, Except.bind, pure, Except.pure, List.flatten_cons, List.flatten_nil, List.append_nil]
    exact hout
  refine ⟨out, h, ?_, extensionSpec_model_fill h exFill_domain (fun res hres => by cases hres; decide)⟩
  have := (Triangle.ofCells_perm hout).length_eq
  simpa using this

/-! ### the Bool bridge of the right triangle for the day unit -/

/-- **extensionSpec_model_rightTri_day**: ALL executable clauses of `rightTriSpec` hold of the model's right triangle
for `dev_lag_unit = "day"`, both bases, under the hypotheses of `lagMonotone_day` on the cumulative form `cum` of
`t` (`cum = t` for a cumulative input): valid period-end and evaluation dates, integer requested lags (a fractional
day lag is floored by `timedelta`), results inside `date.min .. date.max`. -/
theorem extensionSpec_model_rightTri_day {t out cum : List Cell} {lags : Option (List Rat)}
    (h : makeRightTriangleU t lags (some .day) = .ok out) (hcum : CumOf t cum)
    (hval : ∀ c ∈ cum, c.pe.valid = true ∧ c.ev.valid = true)
    (hint : ∀ l, lags = some l → ∀ lag ∈ l, ∃ k : Int, lag = ((k : Int) : Rat))
    (hrange : ∀ p ∈ Triangle.slices cum, ∀ e ∈ p.2, ∀ lag ∈ lagListOf lags .day p.2,
      1 ≤ e.pe.ordinal + lag.floor ∧ e.pe.ordinal + lag.floor ≤ 3652059) :
    Spec.C15.allHold (Spec.C15.rightTriSpec t lags .day out) = true := by
  obtain ⟨cum', new, hf⟩ := rightTri_facts h
  obtain rfl := hcum.unique hf.cumOf
  exact rightTriSpec_holds hf (by decide) (lagCoord_day.lagOrder hval) (lagCoord_day.lagInj hval hint hrange)
    (lagMonotone_day hval hint hrange)

/-! ### `fill_forward_gaps` succeeds -/

/-- **fill_total**: on the domain `SpecDomain t`, for a (given or inferred) resolution that is compatible in the sense
of the executable `fillCompatible` (positive, dividing every within-row lag difference), `fill_forward_gaps` RETURNS —
the lookup `period_cells[lag - eval_resolution]` never misses — as soon as no constructor call raises (moving an
observed cell to an integer lag strictly between its own lag and a lag of its row gives a valid cell), and the whole
`fillSpec` holds of the result. -/
theorem fill_total {t : List Cell} {res? : Option Int} {nf : Bool} {res : Int} (hD : SpecDomain t)
    (hres : resolvedRes t res? = some res) (hcomp : Spec.C15.fillCompatible t res = true)
    (hctor : ∀ o ∈ t, ∀ l ∈ t, rowKey l = rowKey o → ∀ x : Int, o.devLag < ((x : Int) : Rat) →
      ((x : Int) : Rat) < l.devLag → ({ o with ev := addMonths o.pe ((x : Int) : Rat) } : Cell).datesOk = true) :
    ∃ out, fillForwardGaps t res? nf = .ok out ∧
      Spec.C15.allHold (Spec.C15.fillSpec t res? nf out) = true := by
  obtain ⟨hpos, hgrid⟩ := gridRow_of_compatible hD hcomp
  obtain ⟨out, h⟩ := fillForwardGaps_total (nf := nf) hD.canonical.2.1 hres hpos hgrid hctor
  exact ⟨out, h, fillSpec_holds h hD⟩

/-- the hypotheses of `fill_total` are satisfiable and not vacuous: on `exFill` (lags 0 and 2, resolution 1) the
constructor hypothesis concerns exactly the lag 1 -/
theorem exFill_total :
    ∃ out, fillForwardGaps exFill (some 1) true = .ok out ∧
      Spec.C15.allHold (Spec.C15.fillSpec exFill (some 1) true out) = true := by
  apply fill_total exFill_domain rfl (by decide +kernel)
  intro o ho l hl _ x h1 h2
  have d1 : exF1.devLag = ((0 : Int) : Rat) := by decide +kernel
  have d2 : exF2.devLag = ((2 : Int) : Rat) := by decide +kernel
  simp only [exFill, List.mem_cons, List.not_mem_nil, or_false] at ho hl
  rcases ho with rfl | rfl <;> rcases hl with rfl | rfl
  · rw [d1] at h1 h2
    have a : (0 : Int) < x := by exact_mod_cast h1
    have b : x < (0 : Int) := by exact_mod_cast h2
    omega
  · rw [d1] at h1; rw [d2] at h2
    have a : (0 : Int) < x := by exact_mod_cast h1
    have b : x < (2 : Int) := by exact_mod_cast h2
    have : x = 1 := by omega
    subst this
    decide +kernel
  · rw [d2] at h1; rw [d1] at h2
    have a : (2 : Int) < x := by exact_mod_cast h1
    have b : x < (0 : Int) := by exact_mod_cast h2
    omega
  · rw [d2] at h1 h2
    have a : (2 : Int) < x := by exact_mod_cast h1
    have b : x < (2 : Int) := by exact_mod_cast h2
    omega

/-- closed instance for the day unit: the right triangle of `exCells` in days exists and satisfies the whole Spec -/
theorem exCells_rightTri_day_ok :
    ∃ out, makeRightTriangleU exCells none (some .day) = .ok out ∧
      Spec.C15.allHold (Spec.C15.rightTriSpec exCells none .day out) = true := by
  obtain ⟨out, h⟩ : ∃ out, makeRightTriangleU exCells none (some .day) = .ok out := by
    have H : ∀ e ∈ exCells, ∀ o ∈ exCells, o.devLag .day > e.devLag .day →
        (emptyCell e (e.pe.addDays (o.devLag .day).floor)).datesOk = true := by decide +kernel
    apply rightTri_total (by decide) (by decide +kernel) rfl
    intro e he l hl hgt ev hev
    rcases hl with ⟨ls, hls, _⟩ | ⟨_, o, ho, _, rfl⟩
    · cases hls
    · cases hev
      exact H e he o ho hgt
  have H : ∀ e ∈ exCells, ∀ o ∈ exCells,
      1 ≤ e.pe.ordinal + (o.devLag .day).floor ∧ e.pe.ordinal + (o.devLag .day).floor ≤ 3652059 := by
    decide +kernel
  refine ⟨out, h, extensionSpec_model_rightTri_day h (Or.inl ⟨rfl, rfl⟩) (by decide +kernel)
    (fun l hl => by cases hl) ?_⟩
  intro p hp e he lag hlag
  simp only [lagListOf, List.mem_eraseDups] at hlag
  obtain ⟨o, ho, rfl⟩ := List.mem_map.mp hlag
  exact H e (mem_of_mem_slices hp he) o (mem_of_mem_slices hp ho)

/-! ### the right-hand operators succeed on a complete incremental triangle -/

/-- **rightDiag_total_incremental**: `make_right_diagonal` (default `include_historic = False`) RETURNS on a complete
`IncrementalCell` triangle (`Complete` of C04: canonical, every row an unbroken chain from the day before the period
start, one key set and value type per row) with canonical metadata, for distinct requested dates, as soon as no
`CumulativeCell(...)` call raises: `to_cumulative` returns (C04 `toInc_toCum`), the slice function returns on every slice of the
cumulative form (`rightDiagonalSlice_total`), `to_incremental` of the added cells returns (C04 `toCum_toInc`) and
`_fix_prev_evaluation_date` passes every constructor call. -/
theorem rightDiag_total_incremental {t : List Cell} {dates : List Date} (hC : Properties.C04.Complete t)
    (hinc : Triangle.isIncremental t = true) (hcanon : ∀ c ∈ t, c.md.Canon) (hd : dates.Nodup)
    (hdates : ∀ e ∈ t, ∀ d ∈ dates, e.ps ≤ d → (emptyCell e d).datesOk = true) :
    ∃ out, makeRightDiagonal t dates false = .ok out := by
  obtain ⟨cum, new, hcum, hnew, hasked, hN⟩ := rightDiag_inc_setup (hist := false) hC hinc hcanon hd hdates
  obtain ⟨out, hout⟩ := finishRight_total_inc hinc (kindsConsistent_of_all hC.1.isInc) hN
    (fun n hn e' he' hk => by
      obtain ⟨x, hnx, _, _, _, hafter⟩ := hasked.1 n hn
      exact hafter rfl e' he' (md_of_rowKey (hk.trans hnx)))
  exact ⟨out, (rightOp_of (.inr ⟨hinc, hcum⟩) hnew).trans hout⟩

/-- **rightTri_total_incremental**: `make_right_triangle` (month unit) RETURNS on a complete `IncrementalCell`
triangle, month-aligned from 1970 on, with canonical metadata, integer and distinct requested lags (or the slices' own
lags), as soon as no `CumulativeCell(...)` call raises. -/
theorem rightTri_total_incremental {t : List Cell} {lags : Option (List Rat)} (hC : Properties.C04.Complete t)
    (hinc : Triangle.isIncremental t = true) (hcanon : ∀ c ∈ t, c.md.Canon)
    (hal : ∀ c ∈ t, MonthAligned c)
    (hint : ∀ l, lags = some l → ∀ lag ∈ l, ∃ k : Int, lag = ((k : Int) : Rat))
    (hnd : ∀ l, lags = some l → l.Nodup)
    (hcells : ∀ e ∈ t, ∀ l,
      ((∃ ls, lags = some ls ∧ l ∈ ls) ∨ (lags = none ∧ ∃ o ∈ t, o.md = e.md ∧ o.devLag = l)) →
      l > e.devLag → (emptyCell e (addMonths e.pe l)).datesOk = true) :
    ∃ out, makeRightTriangleU t lags (some .month) = .ok out := by
  obtain ⟨cum, hcum, _⟩ := Properties.C04.toInc_toCum hC
  have halc := aligned_cum (CumOf.sameGrid (Or.inr ⟨hinc, hcum⟩)) hal
  exact makeRightTriangle_total_inc_u (by decide) hC hinc hcanon hcum (lagMonotone_month halc hint)
    (lagInj_month halc hint) hnd (fun e he l hl hgt ev hev => by cases hev; exact hcells e he l (mem_lagSetOf.mp hl) hgt)

/-- the hypotheses of `rightDiag_total_incremental` hold for C04's complete incremental triangle `exU` -/
theorem exU_rightDiag_ok : ∃ out, makeRightDiagonal Properties.C04.exU [⟨2023, 12, 31⟩, ⟨2024, 12, 31⟩] false = .ok out :=
  rightDiag_total_incremental Properties.C04.exU_complete rfl (by decide +kernel) (by decide +kernel) (by decide +kernel)

theorem exU_aligned : ∀ c ∈ Properties.C04.exU, MonthAligned c := by
  intro c hc
  simp only [Properties.C04.exU, List.mem_cons, List.not_mem_nil, or_false] at hc
  rcases hc with rfl | rfl | rfl | rfl | rfl | rfl <;> (unfold MonthAligned; decide +kernel)

/-- the hypotheses of `rightTri_total_incremental` hold for `exU` with the slices' own lags -/
theorem exU_rightTri_ok : ∃ out, makeRightTriangleU Properties.C04.exU none (some .month) = .ok out := by
  have H : ∀ e ∈ Properties.C04.exU, ∀ o ∈ Properties.C04.exU,
      o.devLag > e.devLag → (emptyCell e (addMonths e.pe o.devLag)).datesOk = true := by decide +kernel
  apply rightTri_total_incremental Properties.C04.exU_complete rfl (by decide +kernel) exU_aligned
    (fun l hl => by cases hl) (fun l hl => by cases hl)
  intro e he l hl hgt
  rcases hl with ⟨ls, hls, _⟩ | ⟨_, o, ho, _, rfl⟩
  · cases hls
  · exact H e he o ho hgt

/-! ### `include_historic = True` on a complete incremental triangle -/

/-- **rightDiag_incremental_historic_raises**: on a complete `IncrementalCell` triangle (hypotheses of
`rightDiag_total_incremental`: canonical metadata, distinct requested dates, no `CumulativeCell(...)` call raises),
`make_right_diagonal(..., include_historic=True)` RAISES `ValueError` as soon as one requested date `d` is not before the
period start of an observed cell `x` (so a cell is created on `x`'s row at `d`) and not after `x`'s evaluation date —
i.e. `d` is at or before the observed right edge of that period. Mechanism (what the library does, confirmed on /repo:
`ValueError: evaluation_date must be > prev_evaluation_date`): `to_cumulative`, the comprehension, `Triangle(...)` and
`to_incremental` all return; `_fix_prev_evaluation_date` re-links the FIRST new cell of the row (its evaluation date is
`≤ d`) to the observed right-edge date (`≥ x.ev`), and the `IncrementalCell` constructor refuses
`evaluation_date <= prev_evaluation_date`. -/
theorem rightDiag_incremental_historic_raises {t : List Cell} {dates : List Date} (hC : Properties.C04.Complete t)
    (hinc : Triangle.isIncremental t = true) (hcanon : ∀ c ∈ t, c.md.Canon) (hd : dates.Nodup)
    (hdates : ∀ e ∈ t, ∀ d ∈ dates, e.ps ≤ d → (emptyCell e d).datesOk = true)
    {x : Cell} {d : Date} (hx : x ∈ t) (hdd : d ∈ dates) (hle : x.ps ≤ d) (hnot : ¬ x.ev < d) :
    makeRightDiagonal t dates true = .error .valueError := by
  obtain ⟨cum, new, hcum, hnew, hasked, hN⟩ := rightDiag_inc_setup (hist := true) hC hinc hcanon hd hdates
  -- the new cell on the row of `x` at date `d`
  obtain ⟨n, hn, hnx, rfl⟩ := hasked.2 x d ⟨hx, hdd, hle, nofun⟩
  exact (rightOp_of (.inr ⟨hinc, hcum⟩) hnew).trans
    (finishRight_error_inc hinc (kindsConsistent_of_all hC.1.isInc) hN hn hx hnx.symm hnot)

/-- **rightDiag_total_incremental_historic**: with `include_historic=True` the operator RETURNS on a complete
`IncrementalCell` triangle when every requested date that creates a cell on a row (`e.ps ≤ d`) lies strictly after every
observation of that row (`e.ev < d` for every observed `e` of the row — beyond the row's right edge); other hypotheses
as in `rightDiag_total_incremental`. Together with `rightDiag_incremental_historic_raises` this decides success of the
flag on the domain: the two hypotheses `hbeyond` / (`hle`, `hnot`) are complementary. -/
theorem rightDiag_total_incremental_historic {t : List Cell} {dates : List Date} (hC : Properties.C04.Complete t)
    (hinc : Triangle.isIncremental t = true) (hcanon : ∀ c ∈ t, c.md.Canon) (hd : dates.Nodup)
    (hdates : ∀ e ∈ t, ∀ d ∈ dates, e.ps ≤ d → (emptyCell e d).datesOk = true)
    (hbeyond : ∀ e ∈ t, ∀ d ∈ dates, e.ps ≤ d → e.ev < d) :
    ∃ out, makeRightDiagonal t dates true = .ok out := by
  obtain ⟨cum, new, hcum, hnew, hasked, hN⟩ := rightDiag_inc_setup (hist := true) hC hinc hcanon hd hdates
  obtain ⟨out, hout⟩ := finishRight_total_inc hinc (kindsConsistent_of_all hC.1.isInc) hN
    (fun n hn e' he' hk => by
      obtain ⟨x, hnx, _, hdd, hle, _⟩ := hasked.1 n hn
      exact hbeyond e' he' n.ev hdd (by rw [ps_of_rowKey (hk.trans hnx)]; exact hle))
  exact ⟨out, (rightOp_of (.inr ⟨hinc, hcum⟩) hnew).trans hout⟩

/-- closed instance: on C04's complete incremental triangle `exU` (observed up to 2022-12-31) the historic date
2021-12-31 makes `include_historic=True` raise `ValueError` (witness: the 2020 row of slice A, observed at 2022-12-31) -/
theorem exU_rightDiag_historic_raises :
    makeRightDiagonal Properties.C04.exU [⟨2021, 12, 31⟩, ⟨2024, 12, 31⟩] true = .error .valueError :=
  rightDiag_incremental_historic_raises (x := Properties.C04.exU[1]) (d := ⟨2021, 12, 31⟩)
    Properties.C04.exU_complete rfl (by decide +kernel) (by decide +kernel) (by decide +kernel)
    (List.getElem_mem _) (by decide) (by decide +kernel) (by decide +kernel)

/-- closed instance: dates beyond the observed right edge — `include_historic=True` returns on `exU` -/
theorem exU_rightDiag_historic_ok :
    ∃ out, makeRightDiagonal Properties.C04.exU [⟨2023, 12, 31⟩, ⟨2024, 12, 31⟩] true = .ok out :=
  rightDiag_total_incremental_historic Properties.C04.exU_complete rfl (by decide +kernel) (by decide +kernel)
    (by decide +kernel) (by decide +kernel)

/-! ### the day unit on a complete incremental triangle -/

/-- **rightTri_total_incremental_day**: `make_right_triangle(..., dev_lag_unit="day")` RETURNS on a complete
`IncrementalCell` triangle with canonical metadata, valid period-end / evaluation dates, integer and distinct requested
lags (or the slices' own lags), every result `period_end + lag days` inside `date.min .. date.max` (`hrange`), as soon as
no `CumulativeCell(...)` call raises (`hcells`). All hypotheses are on the observed triangle `t`. (`make_right_diagonal`
takes dates, not lags: `rightDiag_total_incremental` has no unit and no month-alignment hypothesis, so it needs no day
variant.) -/
theorem rightTri_total_incremental_day {t : List Cell} {lags : Option (List Rat)} (hC : Properties.C04.Complete t)
    (hinc : Triangle.isIncremental t = true) (hcanon : ∀ c ∈ t, c.md.Canon)
    (hval : ∀ c ∈ t, c.pe.valid = true ∧ c.ev.valid = true)
    (hint : ∀ l, lags = some l → ∀ lag ∈ l, ∃ k : Int, lag = ((k : Int) : Rat))
    (hnd : ∀ l, lags = some l → l.Nodup)
    (hrange : ∀ e ∈ t, ∀ l,
      ((∃ ls, lags = some ls ∧ l ∈ ls) ∨ (lags = none ∧ ∃ o ∈ t, o.md = e.md ∧ o.devLag .day = l)) →
      1 ≤ e.pe.ordinal + l.floor ∧ e.pe.ordinal + l.floor ≤ 3652059)
    (hcells : ∀ e ∈ t, ∀ l,
      ((∃ ls, lags = some ls ∧ l ∈ ls) ∨ (lags = none ∧ ∃ o ∈ t, o.md = e.md ∧ o.devLag .day = l)) →
      l > e.devLag .day → (emptyCell e (e.pe.addDays l.floor)).datesOk = true) :
    ∃ out, makeRightTriangleU t lags (some .day) = .ok out := by
  obtain ⟨cum, hcum, _⟩ := Properties.C04.toInc_toCum hC
  have hg := CumOf.sameGrid (.inr ⟨hinc, hcum⟩)
  have hvalc : ∀ c ∈ cum, c.pe.valid = true ∧ c.ev.valid = true := by
    intro c hc
    obtain ⟨x, hx, hxk, hxe⟩ := hg.1 c hc
    rw [← pe_of_rowKey hxk, ← hxe]; exact hval x hx
  have hrangec : ∀ p ∈ Triangle.slices cum, ∀ e ∈ p.2, ∀ lag ∈ lagListOf lags .day p.2,
      1 ≤ e.pe.ordinal + lag.floor ∧ e.pe.ordinal + lag.floor ≤ 3652059 := by
    intro p hp e he lag hlag
    obtain ⟨hec, hem⟩ := (Triangle.mem_slice_iff hp e).mp he
    obtain ⟨x, hx, hxk, _⟩ := hg.1 e hec
    rw [← pe_of_rowKey hxk]
    exact hrange x hx lag (mem_lagSetOf.mp ((lagList_iff_lagSet hg hp ((md_of_rowKey hxk).trans hem) lag).mp hlag))
  exact makeRightTriangle_total_inc_u (by decide) hC hinc hcanon hcum (lagMonotone_day hvalc hint hrangec)
    (lagCoord_day.lagInj hvalc hint hrangec) hnd (by
      intro e he l hl hgt ev hev
      have : e.pe.addDays l.floor = ev := Except.ok.inj hev
      rw [← this]
      exact hcells e he l (mem_lagSetOf.mp hl) hgt)

/-- the hypotheses of `rightTri_total_incremental_day` hold for `exU` with the slices' own lags (in days) -/
theorem exU_rightTri_day_ok : ∃ out, makeRightTriangleU Properties.C04.exU none (some .day) = .ok out := by
  have H : ∀ e ∈ Properties.C04.exU, ∀ o ∈ Properties.C04.exU,
      (1 ≤ e.pe.ordinal + (o.devLag .day).floor ∧ e.pe.ordinal + (o.devLag .day).floor ≤ 3652059) ∧
      (o.devLag .day > e.devLag .day → (emptyCell e (e.pe.addDays (o.devLag .day).floor)).datesOk = true) := by
    decide +kernel
  apply rightTri_total_incremental_day Properties.C04.exU_complete rfl (by decide +kernel) (by decide +kernel)
    (fun l hl => by cases hl) (fun l hl => by cases hl)
  · intro e he l hl
    rcases hl with ⟨ls, hls, _⟩ | ⟨_, o, ho, _, rfl⟩
    · cases hls
    · exact (H e he o ho).1
  · intro e he l hl hgt
    rcases hl with ⟨ls, hls, _⟩ | ⟨_, o, ho, _, rfl⟩
    · cases hls
    · exact (H e he o ho).2 hgt

/-! ### a requested lag that lands on an observed date: `make_right_triangle` on incremental input raises -/

/-- **rightTri_incremental_collision_raises**: on a complete `IncrementalCell` triangle (canonical metadata; unit month or
day; distinct requested lags `ls`; different requested lags beyond a cell's lag give different dates — `hinj`, needed so that
`to_incremental` of the new cells returns; no `CumulativeCell(...)` call raises — `hcells`), `make_right_triangle(ls, unit)`
RAISES `ValueError` as soon as a requested lag `l` that exceeds the lag of every observation of the row of `x` (so a cell is
created on that row) lands on a date `ev` that is not after `x`'s evaluation date. This is the non-monotone case: a fractional
day lag is floored by `date + timedelta` (`2020-01-31 + timedelta(29.5) = 2020-02-29`, lag 29.5 > 29). Mechanism as for
`rightDiag_incremental_historic_raises` (confirmed on /repo: `ValueError: evaluation_date must be >
prev_evaluation_date`): every stage up to `to_incremental` returns, `_fix_prev_evaluation_date` re-links the first new cell
of the row to the observed right-edge date and the `IncrementalCell` constructor refuses it. (On CUMULATIVE input the same
request returns and re-creates the occupied coordinate — see `LagMonotone`.) -/
theorem rightTri_incremental_collision_raises {t : List Cell} {ls : List Rat} {u : LagUnit} (hu : u ≠ .timedelta)
    (hC : Properties.C04.Complete t) (hinc : Triangle.isIncremental t = true) (hcanon : ∀ c ∈ t, c.md.Canon)
    (hnd : ls.Nodup)
    (hinj : ∀ e ∈ t, ∀ l1 ∈ ls, ∀ l2 ∈ ls, l1 > e.devLag u → l2 > e.devLag u →
      addDevLag e.pe l1 u = addDevLag e.pe l2 u → l1 = l2)
    (hcells : ∀ e ∈ t, ∀ l ∈ ls, l > e.devLag u → ∀ ev, addDevLag e.pe l u = .ok ev →
      (emptyCell e ev).datesOk = true)
    {x : Cell} {l : Rat} {ev : Date} (hx : x ∈ t) (hl : l ∈ ls)
    (hgt : ∀ o ∈ t, rowKey o = rowKey x → l > o.devLag u)
    (hev : addDevLag x.pe l u = .ok ev) (hnot : ¬ x.ev < ev) :
    makeRightTriangleU t (some ls) (some u) = .error .valueError := by
  obtain ⟨cum, hcum, _⟩ := Properties.C04.toInc_toCum hC
  have hg := CumOf.sameGrid (.inr ⟨hinc, hcum⟩)
  have hinjc : LagInj cum (some ls) u := by
    intro p hp e he l1 hl1 l2 hl2 h1 h2 ev' e1 e2
    obtain ⟨y, hy, hyk, hye⟩ := hg.1 e (mem_of_mem_slices hp he)
    have hd := devLag_of_row hyk hye u
    refine hinj y hy l1 hl1 l2 hl2 (by rw [hd]; exact h1) (by rw [hd]; exact h2) ?_
    rw [pe_of_rowKey hyk, e1, e2]
  obtain ⟨new, hnew, hasked, hN⟩ := rightTri_inc_setup hu hC hinc hcanon hcum hinjc
    (fun l' hl' => by cases hl'; exact hnd)
    (fun e he l' hl' => hcells e he l' hl')
  -- the colliding new cell: asked for on the row of `x`, from the row's latest observation
  obtain ⟨x', hx', hk, hlx⟩ := exists_latest hx
  obtain ⟨n, hn, hnx, rfl⟩ := hasked.2 x' ev ⟨hx', hlx, l, hl, hgt x' hx' hk.symm, by rw [← pe_of_rowKey hk]; exact hev⟩
  exact (rightOp_of (.inr ⟨hinc, hcum⟩) hnew).trans
    (finishRight_error_inc hinc (kindsConsistent_of_all hC.1.isInc) hN hn hx (hk.trans hnx.symm) hnot)

/-- closed instance: on `exU` (row A/2020 observed at 2020-12-31 and 2022-12-31, lags 0 and 730 days) the requested day lag
730.5 exceeds both lags and lands on 2022-12-31 again — `make_right_triangle([730.5], "day")` raises `ValueError` -/
theorem exU_rightTri_collision_raises :
    makeRightTriangleU Properties.C04.exU (some [(1461 : Rat) / 2]) (some .day) = .error .valueError := by
  refine rightTri_incremental_collision_raises (x := Properties.C04.exU[1]) (l := (1461 : Rat) / 2)
    (ev := ⟨2022, 12, 31⟩) (by decide) Properties.C04.exU_complete rfl (by decide +kernel) (by decide +kernel) ?_ ?_
    (List.getElem_mem _) (by simp) (by decide +kernel) (by decide +kernel) (by decide +kernel)
  · intro e _ l1 h1 l2 h2 _ _ _
    simp only [List.mem_cons, List.not_mem_nil, or_false] at h1 h2
    rw [h1, h2]
  · have H : ∀ e ∈ Properties.C04.exU,
        (emptyCell e (e.pe.addDays ((1461 : Rat) / 2).floor)).datesOk = true := by decide +kernel
    intro e he l hl hgt ev hev
    simp only [List.mem_cons, List.not_mem_nil, or_false] at hl
    subst hl
    cases hev
    exact H e he

/-! ### a date requested twice -/

/-- **rightDiag_duplicate_dates_cumulative**: `make_right_diagonal` (default flag) on a cumulative / plain `Cell` triangle
does NOT deduplicate the requested dates: when the call returns and a date `d` is listed twice (`[d, d]` is a sublist of
`dates`), is not before the period start of an observed cell `x` and lies after every observation of `x`'s slice, the
result contains one cell twice (`¬ out.Nodup`; the clause `nodup` of the Spec is stated under `dates.Nodup`). Confirmed on
/repo: the call returns two equal empty cells and warns `DuplicateCellWarning`; model and library agree. On INCREMENTAL
input the same request raises `ValueError` in the library and in the model (`to_incremental` links the second copy to the
first: `evaluation_date <= prev_evaluation_date`) — observed through the driver, not stated as a theorem. -/
theorem rightDiag_duplicate_dates_cumulative {t out : List Cell} {dates : List Date}
    (hinc : Triangle.isIncremental t = false) (h : makeRightDiagonal t dates false = .ok out)
    {x : Cell} {d : Date} (hx : x ∈ t) (hdup : List.Sublist [d, d] dates) (hle : x.ps ≤ d)
    (hafter : ∀ o ∈ t, o.md = x.md → o.ev < d) : ¬ out.Nodup := by
  obtain ⟨new, hnew, hfin⟩ := rightOp_fin hinc h
  have hperm := finishRight_cum hinc hfin
  intro hnd
  have hndn : new.Nodup := hperm.nodup_iff.mp hnd
  obtain ⟨parts, hparts, rfl⟩ := rightDiagonalCells_ok hnew
  obtain ⟨p, hp, hpm, hxp⟩ := Triangle.exists_slice hx
  obtain ⟨ys, hys, hslice⟩ := mapM_ok_mem' hparts p hp
  obtain ⟨edge, hedge, rfl, _⟩ := rightDiagonalSlice_ok hslice
  obtain ⟨e, he, _, hep⟩ := Triangle.rightEdge_cover hedge hxp
  have hps : e.ps = x.ps := (Prod.mk.inj hep).1
  have hd1 : List.Sublist [d, d] (diagDatesOf dates false p.2) := by
    unfold diagDatesOf
    simp only [Bool.false_eq_true, if_false]
    cases hm : maxEval p.2 with
    | none => exact hdup
    | some m =>
      obtain ⟨o, ho, hoe⟩ := (maxEval_spec hm).1
      obtain ⟨hot, hom⟩ := (Triangle.mem_slice_iff hp o).mp ho
      have hmd : m < d := by rw [← hoe]; exact hafter o hot (hom.trans hpm)
      have := hdup.filter (fun d' => decide (m < d'))
      simpa [hmd] using this
  have hd2 : List.Sublist [d, d] ((diagDatesOf dates false p.2).filter fun d' => e.ps ≤ d') := by
    have := hd1.filter (fun d' => decide (e.ps ≤ d'))
    have hle' : e.ps ≤ d := by rw [hps]; exact hle
    simpa [hle'] using this
  have hd3 : List.Sublist [(e, d), (e, d)] (diagPairs (diagDatesOf dates false p.2) edge) := by
    unfold diagPairs
    exact dup_sublist_flatMap _ he (by simpa using hd2.map (fun d' => (e, d')))
  have hd4 : List.Sublist [emptyCell e d, emptyCell e d] parts.flatten :=
    (hd3.map (fun q : Cell × Date => emptyCell q.1 q.2)).trans (List.sublist_flatten_of_mem hys)
  have := hndn.sublist hd4
  simp at this

/-- closed instance: `exCells` with 2020-12-31 requested twice — the model returns and the result has a repeated cell -/
theorem exCells_rightDiag_duplicate_dates :
    ∃ out, makeRightDiagonal exCells [⟨2020, 12, 31⟩, ⟨2020, 12, 31⟩] false = .ok out ∧ ¬ out.Nodup := by
  obtain ⟨out, h⟩ := rightDiag_total (t := exCells) (dates := [⟨2020, 12, 31⟩, ⟨2020, 12, 31⟩])
    (hist := false) (by decide +kernel) rfl (by decide +kernel)
  exact ⟨out, h, rightDiag_duplicate_dates_cumulative rfl h (x := exCells[0]) (d := ⟨2020, 12, 31⟩)
    (by decide +kernel) (List.Sublist.refl _) (by decide +kernel) (by decide +kernel)⟩

/-! ### two requested day lags floored onto one date (cumulative input) -/

/-- **rightTri_duplicate_lags_cumulative**: `make_right_triangle(ls, "day")` on a cumulative / plain `Cell` triangle does
not deduplicate by DATE: when the call returns and two requested lags `l1`, `l2` (in this order in `ls`), both beyond every lag
of the row of an observed cell `x`, are floored by `date + timedelta` onto the same date, the result contains one cell twice
(`¬ out.Nodup`; the clause `nodup` of the Spec asks for distinct coordinates whenever the requested LAGS are distinct,
so it is false of this output, and the bridge `extensionSpec_model_rightTri_day` assumes `LagInj`). Confirmed on /repo (`[30.2, 30.7]` days: two equal
empty cells at 2020-03-01, `DuplicateCellWarning`); model and library agree. On INCREMENTAL input the same request raises
`ValueError` in the library and in the model (`to_incremental`: `evaluation_date <= prev_evaluation_date` for the second
copy) — observed through the driver, not stated as a theorem. -/
theorem rightTri_duplicate_lags_cumulative {t out : List Cell} {ls : List Rat}
    (hinc : Triangle.isIncremental t = false) (h : makeRightTriangleU t (some ls) (some .day) = .ok out)
    {x : Cell} {l1 l2 : Rat} (hx : x ∈ t) (hdup : List.Sublist [l1, l2] ls)
    (hgt : ∀ o ∈ t, rowKey o = rowKey x → l1 > o.devLag .day ∧ l2 > o.devLag .day)
    (hsame : x.pe.addDays l1.floor = x.pe.addDays l2.floor) : ¬ out.Nodup := by
  obtain ⟨new, hnew, hfin⟩ := rightOp_fin hinc h
  have hperm := finishRight_cum hinc hfin
  intro hnd
  have hndn : new.Nodup := hperm.nodup_iff.mp hnd
  obtain ⟨parts, hparts, rfl⟩ := rightTriangleCells_ok hnew
  obtain ⟨p, hp, hpm, hxp⟩ := Triangle.exists_slice hx
  obtain ⟨ys, hys, hslice⟩ := mapM_ok_mem' hparts p hp
  obtain ⟨edge, hedge, hcells⟩ := rightTriangleSlice_ok hslice
  -- the cells of the slice, written out: the day unit never fails
  obtain rfl : ys = (rightPairs (lagListOf (some ls) .day p.2) .day edge).map fun q =>
      emptyCell q.2 (q.2.pe.addDays q.1.floor) :=
    mapM_ok_eq_map hcells fun x _ y hy => by
      obtain ⟨ev, hev, rfl, _⟩ := rightCellOf_ok.mp hy
      cases hev
      rfl
  obtain ⟨e, he, hem, hep⟩ := Triangle.rightEdge_cover hedge hxp
  have het : e ∈ t := mem_of_mem_slices hp (Triangle.rightEdge_latest hedge he).1
  have hex : rowKey e = rowKey x := rowKey_iff_period.mpr ⟨hep, hem⟩
  obtain ⟨g1, g2⟩ := hgt e het hex
  have hpairs : List.Sublist [(l1, e), (l2, e)] (rightPairs (lagListOf (some ls) .day p.2) .day edge) := by
    unfold rightPairs
    refine pair_sublist_flatMap _ hdup ?_ ?_
    · exact List.mem_map.mpr ⟨e, List.mem_filter.mpr ⟨he, by simpa using g1⟩, rfl⟩
    · exact List.mem_map.mpr ⟨e, List.mem_filter.mpr ⟨he, by simpa using g2⟩, rfl⟩
  have := hndn.sublist ((hpairs.map fun q : Rat × Cell => emptyCell q.2 (q.2.pe.addDays q.1.floor)).trans
    (List.sublist_flatten_of_mem hys))
  simp only [List.map_cons, List.map_nil] at this
  rw [pe_of_rowKey hex, hsame] at this
  simp at this

/-- closed instance: `exCells` with the day lags 100.2 and 100.7 — the model returns and the result has a repeated cell -/
theorem exCells_rightTri_duplicate_lags :
    ∃ out, makeRightTriangleU exCells (some [(501 : Rat) / 5, (1007 : Rat) / 10]) (some .day) = .ok out ∧
      ¬ out.Nodup := by
  obtain ⟨out, h⟩ : ∃ out, makeRightTriangleU exCells (some [(501 : Rat) / 5, (1007 : Rat) / 10]) (some .day)
      = .ok out := by
    have H : ∀ e ∈ exCells, ∀ l ∈ [(501 : Rat) / 5, (1007 : Rat) / 10],
        (emptyCell e (e.pe.addDays l.floor)).datesOk = true := by decide +kernel
    apply rightTri_total (by decide) (by decide +kernel) rfl
    intro e he l hl hgt ev hev
    rcases hl with ⟨ls, hls, hl⟩ | ⟨hn, _⟩
    · cases hls
      cases hev
      exact H e he l hl
    · cases hn
  exact ⟨out, h, rightTri_duplicate_lags_cumulative rfl h (x := exCells[0]) (l1 := (501 : Rat) / 5)
    (l2 := (1007 : Rat) / 10) (by decide +kernel) (List.Sublist.refl _) (by decide +kernel) (by decide +kernel)⟩

end Bermuda.Properties.C15
