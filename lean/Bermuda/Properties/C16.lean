/-
C16 — Blending is a per-cell convex combination or mixture of the inputs.
The lemmas are in `Lemmas/Blend*.lean`; where a theorem here has the statement of a lemma there (`*_core`,
`*_of_blend`) the lemma is the one other proofs use (the Spec bridges, in `Lemmas/BlendSpec.lean` and in section 8
below) and the theorem is the property's named form of it.

PARTIAL by design: numpy's RNG is a parameter of the model (`idx`), so "the choice follows the
weights" and "reproducible for a seed" are outside these theorems (observed by the harness).
Everything structural and algebraic is inside.
-/
import Bermuda.Model.Blend
import Bermuda.Spec.C16
import Bermuda.Lemmas.Blend
import Bermuda.Lemmas.BlendSpec
import Bermuda.Lemmas.BlendBridge
namespace Bermuda.Properties.C16
open Bermuda Bermuda.Blend

/-! ### 1. linear blending: the value -/

/-- **linear_value.** A successful linear blend is the float array of the broadcast length `S`
whose entry `s` is `Σ_j w_j · v_j[s]`, scalars and length-1 arrays being broadcast; every input row has length
exactly 1 or exactly `S`, so no entry read by `bcast` (`getD … 0`) is a default. -/
theorem linear_value {vals : List Val} {w : List Rat} {out : Val}
    (h : linearBlend vals w = .ok out) :
    ∃ rows, mapE rowOf vals = .ok rows ∧
      out = .arr false [maxLen rows] (linearOut rows w (maxLen rows)) ∧
      (linearOut rows w (maxLen rows)).length = maxLen rows ∧
      (∀ r ∈ rows, r.length = 1 ∨ r.length = maxLen rows) ∧
      ∀ s (hs : s < (linearOut rows w (maxLen rows)).length),
        (linearOut rows w (maxLen rows))[s] = dot w (rows.map (bcast · s)) :=
  linear_value_core h

/-- entry `s` of the matched column of one input: its only sample if it has one, else sample `s` -/
theorem bcast_def (row : List Rat) (s : Nat) :
    bcast row s = if row.length = 1 then row.getD 0 0 else row.getD s 0 := rfl

/-- **linear_convex.** With non-negative weights summing to one, every output sample lies between
any lower and upper bound of the inputs' samples at that position — in particular between their
minimum and maximum. -/
theorem linear_convex {vals : List Val} {w : List Rat} {rows : List (List Rat)}
    (hrows : mapE rowOf vals = .ok rows) (hlen : w.length = vals.length)
    (hw : ∀ x ∈ w, 0 ≤ x) (hsum : sumW w = 1) (s : Nat) (lo hi : Rat)
    (hb : ∀ x ∈ rows.map (bcast · s), lo ≤ x ∧ x ≤ hi) :
    lo ≤ dot w (rows.map (bcast · s)) ∧ dot w (rows.map (bcast · s)) ≤ hi :=
  linear_convex_core hrows hlen hw hsum s lo hi hb

/-- **linear_agree.** If all inputs agree at a position and the weights sum to one, the output
is the common value. -/
theorem linear_agree {vals : List Val} {w : List Rat} {rows : List (List Rat)}
    (hrows : mapE rowOf vals = .ok rows) (hlen : w.length = vals.length)
    (hsum : sumW w = 1) (s : Nat) (v : Rat) (hv : ∀ x ∈ rows.map (bcast · s), x = v) :
    dot w (rows.map (bcast · s)) = v :=
  linear_agree_core hrows hlen hsum s v hv

/-- non-vacuity: a scalar (broadcast) and a 2-sample array with weights 1/4, 3/4 -/
example : linearBlend [.int 4, .arr false [2] [8, 12]] [1/4, 3/4] = .ok (.arr false [2] [7, 10]) := by
  decide +kernel

/-! ### 2. weights: per-cell alignment -/

/-- **percell_alignment.** With a dictionary whose concatenated rows have as many columns as the
first triangle has cells (and more than one), cell `i` is blended with COLUMN `i` of the weight
matrix: entry `j` of its weight vector is row `j`'s `i`-th number. -/
theorem percell_alignment {vals : List WArr} {n : Nat} {r0 : List Rat} {rs : List (List Rat)}
    (hrows : vals.flatMap WArr.atleast2d = r0 :: rs)
    (hrect : (r0 :: rs).all (·.length == r0.length) = true)
    (hn : r0.length = n) (h1 : n ≠ 1) :
    ∃ wl, weightList (.dict vals) n = .ok wl ∧ wl.length = n ∧
      ∀ i (hi : i < wl.length), wl[i] = some ((r0 :: rs).map (·.getD i 0)) := by
  rw [weightList_dict n hrows, if_pos ⟨hrect, .inr hn⟩]
  have h1' : r0.length ≠ 1 := hn ▸ h1
  exact ⟨_, rfl, by simp, fun i hi => by simp [column, h1']⟩

/-- a single column is used for every cell -/
theorem global_weights {vals : List WArr} {n : Nat} {r0 : List Rat} {rs : List (List Rat)}
    (hrows : vals.flatMap WArr.atleast2d = r0 :: rs)
    (hrect : (r0 :: rs).all (·.length == r0.length) = true) (h1 : r0.length = 1) :
    weightList (.dict vals) n = .ok (List.replicate n (some ((r0 :: rs).map (·.getD 0 0)))) := by
  rw [weightList_dict n hrows, if_pos ⟨hrect, .inl h1⟩]
  simp only [if_pos h1, List.map_const', List.length_range]
  rfl

theorem list_weights (l : List Rat) (n : Nat) :
    weightList (.list l) n = .ok (List.replicate n (some l)) := rfl

/-- a dictionary with any other number of columns is refused -/
theorem dict_wrong_columns_refused {vals : List WArr} {n : Nat} {r0 : List Rat} {rs : List (List Rat)}
    (hrows : vals.flatMap WArr.atleast2d = r0 :: rs) (h1 : r0.length ≠ 1) (hn : r0.length ≠ n) :
    weightList (.dict vals) n = .error .valueError := by
  rw [weightList_dict n hrows, if_neg fun h => h.2.elim h1 hn]

/-! ### 3. mixture blending -/

/-- **mixture_membership.** For EVERY index vector, a successful mixture blend is a float array of the inputs'
common length `S` whose sample `i` is the sample AT THE SAME INDEX `i` of input `idx[i]` wherever `idx[i]` is below
the number of inputs (`mixture_membership_exists` assumes that of every entry). -/
theorem mixture_membership {vals : List Val} {w : List Rat} {idx : List Nat} {out : Val}
    (h : mixtureBlend vals w idx = .ok out) :
    ∃ (rows : List (List Rat)) (S : Nat) (data : List Rat),
      mapE samplesOf vals = .ok rows ∧ (∀ r ∈ rows, r.length = S) ∧
      out = .arr false [S] data ∧ data.length = S ∧
      ∀ i (hi : i < data.length) (j : Nat) (hj : j < rows.length), idx.getD i 0 = j →
        data[i] = (rows[j]).getD i 0 :=
  mixture_membership_core h

/-- the membership in the form of the Spec: every output sample occurs at the same index in
some input (whatever the index vector, as long as it stays in range) -/
theorem mixture_membership_exists {vals : List Val} {w : List Rat} {idx : List Nat} {out : Val}
    (h : mixtureBlend vals w idx = .ok out) (hidx : ∀ i, idx.getD i 0 < vals.length) :
    ∃ (rows : List (List Rat)) (S : Nat) (data : List Rat),
      mapE samplesOf vals = .ok rows ∧ out = .arr false [S] data ∧
      ∀ i (hi : i < data.length), ∃ r ∈ rows, data[i] = r.getD i 0 := by
  obtain ⟨rows, S, data, hrows, _, hout, _, hget⟩ := mixture_membership_core h
  refine ⟨rows, S, data, hrows, hout, fun i hi => ?_⟩
  have hj : idx.getD i 0 < rows.length := by rw [mapE_ok_length hrows]; exact hidx i
  exact ⟨rows[idx.getD i 0], List.getElem_mem hj, hget i hi _ hj rfl⟩

/-- **mixture_scalar_passthrough.** A scalar field passes through a mixture blend unchanged, and
only if every input carries the same scalar. -/
theorem mixture_scalar_passthrough {v0 : Val} {rest : List Val} {w : Option (List Rat)}
    {idx : List Nat} {out : Val} (hs : isScalar v0 = true)
    (h : blendField .mixture (v0 :: rest) w idx = .ok out) :
    out = v0 ∧ ∀ x ∈ rest, x = v0 := by
  have := (blendField_mixture_ok_iff.mp h).2
  rwa [if_pos hs] at this

/-- non-vacuity: two 3-sample inputs, index vector `[1,0,1]` -/
example : mixtureBlend [.arr false [3] [1, 2, 3], .arr true [3] [10, 20, 30]] [1/2, 1/2] [1, 0, 1]
    = .ok (.arr false [3] [10, 2, 30]) := by decide +kernel

/-! ### 4. refusals at the level of one cell -/

/-- mixture: unequal scalars are refused with `ValueError` -/
theorem mixture_refuses_unequal_scalars {v0 x : Val} {rest : List Val} {w : Option (List Rat)}
    {idx : List Nat} (hs : isScalar v0 = true) (hty : rest.all (sameType v0) = true)
    (hx : x ∈ rest) (hne : x ≠ v0) :
    blendField .mixture (v0 :: rest) w idx = .error .valueError := by
  simp only [blendField, beq_self_eq_true, Bool.true_and, hs, hty, Bool.not_true, if_true]
  have : rest.any (· != v0) = true := List.any_eq_true.mpr ⟨x, hx, by simpa using hne⟩
  simp [this]

/-- mixture: values of different types at one coordinate are refused with `TypeError` -/
theorem mixture_refuses_mixed_types {v0 : Val} {rest : List Val} {w : Option (List Rat)}
    {idx : List Nat} (hty : rest.all (sameType v0) = false) :
    blendField .mixture (v0 :: rest) w idx = .error .typeError := by
  simp [blendField, hty]

/-- cells whose field sets differ are refused with `ValueError` (both methods) -/
theorem fields_mismatch_refused {c0 : Cell} {rest : List Cell} {w : Option (List Rat)} {m : Method}
    {idx : String → List Nat}
    (h : rest.all (fun c => sameKeySet c.values.keys c0.values.keys) = false) :
    blendCells (c0 :: rest) w m idx = .error .valueError := by
  simp only [blendCells, h]
  rfl

/-- a weight vector of the wrong length is refused with `ValueError` (both methods) -/
theorem weight_length_refused {vals : List Val} {w : List Rat} {m : Method} {idx : List Nat}
    (h : w.length ≠ vals.length) : blendSamples vals (some w) m idx = .error .valueError := by
  simp [blendSamples, h]

/-- mixture weights must sum to one (to six decimals) -/
theorem mixture_refuses_weight_sum {vals : List Val} {w : List Rat} {idx : List Nat}
    (h : roundOk w = false) : mixtureBlend vals w idx = .error .valueError := by
  simp [mixtureBlend, h]

/-! ### 5. refusals of `blend` itself -/

/-- triangles of different lengths are refused -/
theorem blend_refuses_length {t0 : List Cell} {rest : List (List Cell)} {w : Weights} {method : String}
    {idx : Nat → String → List Nat} {m : Method}
    (hg : singleGuard (t0 :: rest).length w = .ok ()) (hm : parseMethod method = some m)
    (hlen : rest.any (·.length != t0.length) = true) :
    blend (t0 :: rest) w method idx = .error .valueError := by
  have hg' : singleGuard (rest.length + 1) w = .ok () := by simpa using hg
  simp [blend, blendPrep, hg', hm, hlen]

/-- triangles of different cell classes are refused -/
theorem blend_refuses_kind {t0 : List Cell} {rest : List (List Cell)} {w : Weights} {method : String}
    {idx : Nat → String → List Nat} {m : Method}
    (hg : singleGuard (t0 :: rest).length w = .ok ()) (hm : parseMethod method = some m)
    (hlen : rest.any (·.length != t0.length) = false) (hne : t0 ≠ [])
    (hk : rest.any (fun t => t.head?.map (·.kind) != t0.head?.map (·.kind)) = true) :
    blend (t0 :: rest) w method idx = .error .valueError := by
  have : t0.isEmpty = false := by cases t0 <;> simp_all
  have hg' : singleGuard (rest.length + 1) w = .ok () := by simpa using hg
  simp [blend, blendPrep, hg', hm, hlen, hk, this]

/-- an unknown method name is refused -/
theorem blend_refuses_method {ts : List (List Cell)} {w : Weights} {method : String}
    {idx : Nat → String → List Nat}
    (hg : singleGuard ts.length w = .ok ()) (hm : parseMethod method = none) :
    blend ts w method idx = .error .valueError := by
  simp [blend, blendPrep, hg, hm]

/-- a single triangle with list weights other than `[1.0]` is refused; with `None` or a dictionary
it is NOT refused by this test (D15, D17) -/
theorem single_triangle_guard (w : Weights) :
    (∀ w0 ws, w = .list (w0 :: ws) → w0 ≠ 1 → singleGuard 1 w = .error .valueError) ∧
    (w = .none → singleGuard 1 w = .ok ()) ∧ (∀ vals, w = .dict vals → singleGuard 1 w = .ok ()) := by
  refine ⟨?_, ?_, ?_⟩
  · rintro w0 ws rfl h; simp [singleGuard, h]
  · rintro rfl; rfl
  · rintro vals rfl; rfl

/-! ### 6. structure of the result -/

/-- **blend_structure.** Whenever `blend` succeeds on a first triangle in canonical form (sorted,
pairwise distinct coordinates), the result has exactly one cell per cell of the first triangle,
in the same order, with the first triangle's period, dates and metadata (`coord`), its cell
class and its field names — for every weight form, both methods and EVERY index vector. -/
theorem blend_structure {t0 : List Cell} {rest : List (List Cell)} {w : Weights} {method : String}
    {idx : Nat → String → List Nat} {out : List Cell}
    (h : blend (t0 :: rest) w method idx = .ok out)
    (hnd : (t0.map Cell.coord).Nodup) (hs : t0.Pairwise (fun a b => Cell.le a b)) :
    List.Forall₂ (fun c o => o.coord = c.coord ∧ o.kind = c.kind ∧ o.values.keys = c.values.keys)
      t0 out := by
  obtain ⟨m, wl, _, hwl, hlen, hat⟩ := blend_inv h hnd hs
  refine forall₂_iff_getElem.mpr ⟨hlen, fun i h0 h1 => ?_⟩
  obtain ⟨cs, _, hb⟩ := hat i h0 h1 (hwl ▸ h0)
  obtain ⟨hc, hk, hv, -⟩ := blendCells_inv hb
  exact ⟨hc, hk, hv⟩

/-- the same, by position -/
theorem blend_structure_getElem {t0 : List Cell} {rest : List (List Cell)} {w : Weights}
    {method : String} {idx : Nat → String → List Nat} {out : List Cell}
    (h : blend (t0 :: rest) w method idx = .ok out)
    (hnd : (t0.map Cell.coord).Nodup) (hs : t0.Pairwise (fun a b => Cell.le a b)) :
    out.length = t0.length ∧ ∀ i (h0 : i < t0.length) (h1 : i < out.length),
      out[i].coord = t0[i].coord ∧ out[i].kind = t0[i].kind ∧
      out[i].values.keys = t0[i].values.keys :=
  forall₂_iff_getElem.mp (blend_structure h hnd hs)

/-- a coordinate of the first triangle that is missing from some triangle's index is refused with
`ValueError` when its turn comes -/
theorem missing_coordinate_refused {idxs : List (List (Coord × Cell))} {k : Coord}
    (h : ∃ d ∈ idxs, lookup d k = none) : gatherCells idxs k = .error .valueError :=
  gatherCells_missing h

/-- **blend_refuses_missing_coord.** Lifted to `blend`: if some input triangle lacks the coordinate (metadata,
period, evaluation date, previous evaluation date) of a cell of the canonical first triangle, `blend` returns an
error — for every weight form, method and index vector. (`missing_coordinate_refused` gives the class,
`ValueError`, when that cell's turn comes; an earlier cell's failure may pre-empt it.) -/
theorem blend_refuses_missing_coord {t0 t : List Cell} {rest : List (List Cell)} {w : Weights}
    {method : String} {idx : Nat → String → List Nat} {c : Cell}
    (hnd : (t0.map Cell.coord).Nodup) (hs : t0.Pairwise (fun a b => Cell.le a b))
    (ht : t ∈ t0 :: rest) (hndt : (t.map Cell.coord).Nodup) (hc : c ∈ t0)
    (hmiss : c.coord ∉ t.map Cell.coord) :
    ∃ e, blend (t0 :: rest) w method idx = .error e := by
  cases hb : blend (t0 :: rest) w method idx with
  | error e => exact ⟨e, rfl⟩
  | ok out =>
    exfalso
    obtain ⟨m, wl, _, hwl, hlen, hat⟩ := blend_inv hb hnd hs
    obtain ⟨n, hn, rfl⟩ := List.getElem_of_mem hc
    obtain ⟨cs, hg, _⟩ := hat n hn (hlen ▸ hn) (hwl ▸ hn)
    rw [missing_coordinate_refused ⟨_, List.mem_map_of_mem ht, lookup_indexTriangle_none hmiss⟩] at hg
    cases hg

/-- **blend_refuses_unequal_scalars.** Lifted to `blend`: with method mixture, if at the coordinate of the `n`-th
cell of the canonical first triangle the inputs (found by coordinate, `Spec.C16.cellsAt`) carry for one of its
fields a scalar first, values of the same type after it and one of them differs, `blend` returns an error. -/
theorem blend_refuses_unequal_scalars {t0 : List Cell} {rest : List (List Cell)} {w : Weights}
    {method : String} {idx : Nat → String → List Nat} {cs : List Cell} {f : String} {v0 x : Val}
    {restv : List Val} {n : Nat} (hm : parseMethod method = some .mixture)
    (hnd : ∀ t ∈ t0 :: rest, (t.map Cell.coord).Nodup) (hs : t0.Pairwise (fun a b => Cell.le a b))
    (hn : n < t0.length) (hcs : Spec.C16.cellsAt (t0 :: rest) (t0[n]).coord = some cs)
    (hf : f ∈ (t0[n]).values.keys) (hvals : fieldVals cs f = v0 :: restv)
    (hsc : isScalar v0 = true) (hty : restv.all (sameType v0) = true) (hx : x ∈ restv) (hne : x ≠ v0) :
    ∃ e, blend (t0 :: rest) w method idx = .error e := by
  cases hb : blend (t0 :: rest) w method idx with
  | error e => exact ⟨e, rfl⟩
  | ok out =>
    exfalso
    obtain ⟨m, wl, hprep, hwl, hlen, hat⟩ := blend_inv hb (hnd t0 (by simp)) hs
    obtain rfl := Option.some.inj ((blendPrep_inv hprep).2.1.symm.trans hm)
    obtain ⟨cs', hg, hbc⟩ := hat n hn (hlen ▸ hn) (hwl ▸ hn)
    obtain rfl := Option.some.inj ((cellsAt_of_gather hnd hg).symm.trans hcs)
    obtain ⟨_, _, hkeys, hv⟩ := blendCells_inv hbc
    obtain ⟨v, hfv⟩ := Dict.get?_of_mem_keys (hkeys ▸ hf)
    have := hv f v (Assoc.mem_of_get? hfv)
    rw [hvals, mixture_refuses_unequal_scalars hsc hty hx hne] at this
    cases this

/-! ### 7. the values of the result, composed through the loop -/

/-- **blend_value_composed.** On a canonical first triangle, output cell `n` is obtained from the
cells found AT THE COORDINATE of the first triangle's `n`-th cell in every triangle's index (one
per triangle, in the order of the triangles), with the `n`-th entry `wl[n]` of the normalised weight
list (`percell_alignment`, `global_weights`, `list_weights` say what that is), and every field value
of it is `blendField` of the inputs' values of that field — to which `linear_value`,
`linear_convex`, `linear_agree`, `mixture_membership`, `mixture_scalar_passthrough` apply. -/
theorem blend_value_composed {t0 : List Cell} {rest : List (List Cell)} {w : Weights}
    {method : String} {idx : Nat → String → List Nat} {out : List Cell}
    (h : blend (t0 :: rest) w method idx = .ok out)
    (hnd : (t0.map Cell.coord).Nodup) (hs : t0.Pairwise (fun a b => Cell.le a b)) :
    ∃ m wl, blendPrep (t0 :: rest) w method = .ok (m, t0, wl) ∧ wl.length = t0.length ∧
      out.length = t0.length ∧
      ∀ n (h0 : n < t0.length) (h1 : n < out.length) (h2 : n < wl.length),
        ∃ cs, gatherCells ((t0 :: rest).map indexTriangle) t0[n].coord = .ok cs ∧
          List.Forall₂ (fun d c => lookup d t0[n].coord = some c) ((t0 :: rest).map indexTriangle) cs ∧
          ∀ f v, (f, v) ∈ out[n].values → blendField m (fieldVals cs f) wl[n] (idx n f) = .ok v := by
  obtain ⟨m, wl, hprep, hwl, hlen, hat⟩ := blend_inv h hnd hs
  refine ⟨m, wl, hprep, hwl, hlen, fun n h0 h1 h2 => ?_⟩
  obtain ⟨cs, hg, hb⟩ := hat n h0 h1 h2
  exact ⟨_, hg, gatherCells_spec hg, (blendCells_inv hb).2.2.2⟩

/-! ### 8. the executable Spec predicates hold on the model's outputs -/

/-- `Spec.C16.structureOk` is true of every successful model blend of a canonical first triangle -/
theorem spec_structure {t0 : List Cell} {rest : List (List Cell)} {w : Weights} {method : String}
    {idx : Nat → String → List Nat} {out : List Cell}
    (h : blend (t0 :: rest) w method idx = .ok out)
    (hnd : (t0.map Cell.coord).Nodup) (hs : t0.Pairwise (fun a b => Cell.le a b)) :
    Spec.C16.structureOk t0 out = true :=
  structureOk_of_forall₂ (blend_structure h hnd hs)

/-- `Spec.C16.linearValueOk … 0` (exact equality over ℚ, weights read straight from the argument,
cells found by coordinate) is true of the model's linear blend -/
theorem spec_linear {t0 : List Cell} {rest : List (List Cell)} {w : Weights}
    {method : String} {idx : Nat → String → List Nat} {out : List Cell}
    (h : blend (t0 :: rest) w method idx = .ok out) (hm : parseMethod method = some .linear)
    (hnd : ∀ t ∈ t0 :: rest, (t.map Cell.coord).Nodup) (hs : t0.Pairwise (fun a b => Cell.le a b)) :
    Spec.C16.linearValueOk (t0 :: rest) w out 0 = true :=
  forFields_linear_model h hm hnd hs fun _ _ _ _ _ _ _ hlin hl =>
    linearFieldOk_of_blend hlin hl

/-- `Spec.C16.mixtureMembership` is true of the model's mixture blend for ALL index vectors
staying below the number of triangles -/
theorem spec_mixture {t0 : List Cell} {rest : List (List Cell)} {w : Weights}
    {method : String} {idx : Nat → String → List Nat} {out : List Cell}
    (h : blend (t0 :: rest) w method idx = .ok out) (hm : parseMethod method = some .mixture)
    (hnd : ∀ t ∈ t0 :: rest, (t.map Cell.coord).Nodup) (hs : t0.Pairwise (fun a b => Cell.le a b))
    (hidx : ∀ n f i, (idx n f).getD i 0 < (t0 :: rest).length) :
    Spec.C16.mixtureMembership (t0 :: rest) out = true := by
  refine forFields_model h hnd hs fun m wl n f cs v _ _ hprep _ hlenv hb => ?_
  obtain rfl := Option.some.inj ((blendPrep_inv hprep).2.1.symm.trans hm)
  exact mixtureFieldOk_of_blend hb fun i => hlenv ▸ hidx n f i

/-- **spec_convex.** `Spec.C16.convexOk … 0` is true of the model's linear blend whenever the weight vector of
every cell (read straight from the argument: `1/M`, the list, the dictionary's column) is non-negative and sums to
one: every sample of every field of every OUTPUT cell lies between the minimum and the maximum of the inputs'
samples at that coordinate and position. -/
theorem spec_convex {t0 : List Cell} {rest : List (List Cell)} {w : Weights}
    {method : String} {idx : Nat → String → List Nat} {out : List Cell}
    (h : blend (t0 :: rest) w method idx = .ok out) (hm : parseMethod method = some .linear)
    (hnd : ∀ t ∈ t0 :: rest, (t.map Cell.coord).Nodup) (hs : t0.Pairwise (fun a b => Cell.le a b))
    (hconv : ∀ n < t0.length, (∀ x ∈ Spec.C16.specWeights w n (t0 :: rest).length, 0 ≤ x) ∧
      sumW (Spec.C16.specWeights w n (t0 :: rest).length) = 1) :
    Spec.C16.convexOk (t0 :: rest) out 0 = true := by
  rw [convexOk_eq]
  apply forFields_linear_model h hm hnd hs
  intro n f cs v hn _ hlv hlin hl
  exact convexField_of_blend hlin hl (hconv n hn).1 (hconv n hn).2

/-- **spec_agree.** `Spec.C16.agreeOk … 0` is true of the model's linear blend of copies of one canonical
triangle with weights summing to one per cell: the OUTPUT carries the common value, sample by sample. -/
theorem spec_agree {t0 : List Cell} {rest : List (List Cell)} {w : Weights}
    {method : String} {idx : Nat → String → List Nat} {out : List Cell}
    (h : blend (t0 :: rest) w method idx = .ok out) (hm : parseMethod method = some .linear)
    (hnd : (t0.map Cell.coord).Nodup) (hs : t0.Pairwise (fun a b => Cell.le a b))
    (hagree : ∀ t ∈ rest, t = t0)
    (hsum : ∀ n < t0.length, sumW (Spec.C16.specWeights w n (t0 :: rest).length) = 1) :
    Spec.C16.agreeOk (t0 :: rest) out 0 = true := by
  have hall : ∀ t ∈ t0 :: rest, t = t0 := List.forall_mem_cons.mpr ⟨rfl, hagree⟩
  rw [agreeOk_eq]
  apply forFields_linear_model h hm (fun t ht => hall t ht ▸ hnd) hs
  intro n f cs v hn hcs hlv hlin hl
  -- every cell found at that coordinate is the one `find?` returns in `t0`, so the field values coincide
  have hsame := cellsAt_all_same hall hcs
  cases cs with
  | nil => simp [fieldVals] at hlv
  | cons c cs' =>
    refine agreeField_of_blend (v0 := (c.values.get? f).getD .none) hlin hl (hsum n hn)
      (List.cons_ne_nil _ _) fun x hx => ?_
    obtain ⟨c', hc', rfl⟩ := List.mem_map.mp hx
    cases (hsame c' hc').symm.trans (hsame c List.mem_cons_self)
    rfl

/-- non-vacuity of `h : blend … = .ok out`: two triangles of two cells (scalar against 2-sample array, in either
order), weights 1/4, 3/4, linear — `blend` succeeds in the model with values `[7, 10]` and `[2, 4]` -/
example : blend [blExA, blExB] (.list [1/4, 3/4]) "linear" (fun _ _ => []) = .ok blExOut := blEx_blend

/-- field level: the per-field predicates on the per-field model -/
theorem spec_linear_field {vals : List Val} {w : List Rat} {v : Val}
    (h : linearBlend vals w = .ok v) (hl : w.length = vals.length) :
    Spec.C16.linearFieldOk w 0 vals v = true :=
  linearFieldOk_of_blend h hl

theorem spec_mixture_field {vals : List Val} {w : Option (List Rat)} {idx : List Nat} {v : Val}
    (h : blendField .mixture vals w idx = .ok v) (hidx : ∀ i, idx.getD i 0 < vals.length) :
    Spec.C16.mixtureFieldOk vals v = true :=
  mixtureFieldOk_of_blend h hidx

end Bermuda.Properties.C16
