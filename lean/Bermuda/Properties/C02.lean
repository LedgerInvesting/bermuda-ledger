/-
C02 — `==` means identical contents; hash, membership and subset tests agree.
Only property theorems live here (helper lemmas: `Lemmas/Eq.lean`, `Lemmas/EqHash.lean`,
`Lemmas/EqSet.lean`).  Model: `Model/Eq.lean`; Spec predicates run on the implementation:
`Spec/C02.lean`.  A theorem here that carries the name of a lemma of namespace `Bermuda` (`valuesEq_iff`,
`cellEq_refl`, `triEq_symm`, …) is the property-level statement; inside this file the lemma is written `Bermuda.…`.

Standing hypotheses, where a theorem needs them, are stated as `Cell.datesOk` (the constructor's
rules: in particular exactly the incremental cells carry a `prev_evaluation_date`),
`Metadata.Canon` (detail dicts in key order: the wire form; Python's `==`/`hash` do not see
insertion order) and `Nodup` field names (Python dicts).  ℚ has no NaN: "NaN-free data" is the
harness's obligation and is recorded in the evidence.
-/
import Bermuda.Lemmas.EqSet
import Bermuda.Properties.C01
import Bermuda.Generated.HashDeps
namespace Bermuda.Properties.C02
open Bermuda Bermuda.Properties.C01

/-! ### 1. characterisation of `==` -/

/-- class compatibility as `isinstance` decides it: `Cell` ≈ `CumulativeCell`, a `CumulativeCell`
never equals an `IncrementalCell`; (`Cell`, `IncrementalCell`) passes the class test and is then
separated by `prev_evaluation_date` (see `cellEq_same_basis`). -/
theorem classCompat_table :
    classCompat .cell .cumulative = true ∧ classCompat .cumulative .cell = true ∧
    classCompat .cell .cell = true ∧ classCompat .cumulative .cumulative = true ∧
    classCompat .incremental .incremental = true ∧
    classCompat .cumulative .incremental = false ∧ classCompat .incremental .cumulative = false := by
  decide

/-- `np.array_equal`: numerically equal values of equal shape -/
theorem valEq_iff {x y : Val} : x.eqv y = true ↔ x.shape = y.shape ∧ x.data = y.data := Val.eqv_iff

/-- `values_eq`: same field names, numerically equal values of equal shape under every name -/
theorem valuesEq_iff {a b : Dict Val} :
    valuesEq a b = true ↔
      a.keys.Perm b.keys ∧
      ∀ k ∈ a.keys, ∃ x y, a.get? k = some x ∧ b.get? k = some y ∧ x.shape = y.shape ∧ x.data = y.data := by
  simp only [Bermuda.valuesEq_iff, Val.eqv_iff]

/-- `Cell.__eq__` / `IncrementalCell.__eq__` exactly as the code combines them (no hypotheses) -/
theorem cellEq_iff_code {a b : Cell} :
    cellEq a b = true ↔
      classCompat a.kind b.kind = true ∧ a.ps = b.ps ∧ a.pe = b.pe ∧ a.ev = b.ev ∧
      ((a.kind = .incremental ∨ b.kind = .incremental) → a.prev = b.prev) ∧
      a.md.eqv b.md = true ∧ valuesEq a.values b.values = true := Bermuda.cellEq_iff_code

/-- an `IncrementalCell` only equals an `IncrementalCell` -/
theorem cellEq_same_basis {a b : Cell} (ha : a.datesOk = true) (hb : b.datesOk = true)
    (h : cellEq a b = true) : (a.kind = .incremental ↔ b.kind = .incremental) :=
  cellEq_sameBasis (Cell.kindOk_of_datesOk ha) (Cell.kindOk_of_datesOk hb) h

/-- **`c1 == c2` exactly when** the cells are of the same basis (`Cell` and `CumulativeCell`
interchangeable) and agree on period, evaluation date, previous evaluation date, metadata, field
names, and numerically equal values of equal shape. -/
theorem cellEq_iff {a b : Cell} (ha : a.datesOk = true) (hb : b.datesOk = true)
    (hma : a.md.Canon) (hmb : b.md.Canon) :
    cellEq a b = true ↔
      (a.kind = .incremental ↔ b.kind = .incremental) ∧ a.ps = b.ps ∧ a.pe = b.pe ∧ a.ev = b.ev ∧
      a.prev = b.prev ∧ a.md = b.md ∧ a.values.keys.Perm b.values.keys ∧
      ∀ k ∈ a.values.keys, ∃ x y, a.values.get? k = some x ∧ b.values.get? k = some y ∧
        x.shape = y.shape ∧ x.data = y.data := by
  rw [cellEq_iff_of_kindOk (Cell.kindOk_of_datesOk ha) (Cell.kindOk_of_datesOk hb),
    Metadata.eqv_iff_eq hma hmb, valuesEq_iff]

/-- **`a == b` exactly when** both have the same number of cells and are equal cell by cell -/
theorem triEq_iff {a b : List Cell} :
    triEq a b = true ↔ a.length = b.length ∧
      ∀ i (h₁ : i < a.length) (h₂ : i < b.length), cellEq a[i] b[i] = true := triEq_iff_getElem

/-- **the headline clause in one statement**: on well-formed cells (constructor date rules, key-sorted detail dicts)
`a == b` is True exactly when both have the same number of cells and, position by position, the cells are of the same
basis and agree on period, evaluation date, previous evaluation date, metadata, field names and — under every field —
shape and numbers -/
theorem triEq_iff_contents {a b : List Cell}
    (ha : ∀ x ∈ a, x.datesOk = true ∧ x.md.Canon) (hb : ∀ x ∈ b, x.datesOk = true ∧ x.md.Canon) :
    triEq a b = true ↔ a.length = b.length ∧
      ∀ i (h₁ : i < a.length) (h₂ : i < b.length),
        (a[i].kind = .incremental ↔ b[i].kind = .incremental) ∧ a[i].ps = b[i].ps ∧ a[i].pe = b[i].pe ∧
        a[i].ev = b[i].ev ∧ a[i].prev = b[i].prev ∧ a[i].md = b[i].md ∧
        a[i].values.keys.Perm b[i].values.keys ∧
        ∀ k ∈ a[i].values.keys, ∃ x y, a[i].values.get? k = some x ∧ b[i].values.get? k = some y ∧
          x.shape = y.shape ∧ x.data = y.data := by
  rw [triEq_iff]
  exact and_congr_right fun _ => forall_congr' fun i => forall_congr' fun h₁ => forall_congr' fun h₂ =>
    cellEq_iff (ha _ (List.getElem_mem h₁)).1 (hb _ (List.getElem_mem h₂)).1
      (ha _ (List.getElem_mem h₁)).2 (hb _ (List.getElem_mem h₂)).2

/-- regression of D3: no proper prefix (in particular not the empty triangle) equals the triangle -/
theorem triEq_prefix_false {t : List Cell} {n : Nat} (h : n < t.length) :
    triEq (t.take n) t = false ∧ triEq t (t.take n) = false := by
  have hl : (t.take n).length ≠ t.length := by rw [List.length_take]; omega
  exact ⟨triEq_of_length_ne hl, triEq_of_length_ne hl.symm⟩

/-! ### 2. `==` is an equivalence relation -/

theorem cellEq_refl (a : Cell) : cellEq a a = true := Bermuda.cellEq_refl a

theorem cellEq_symm {a b : Cell} (h : cellEq a b = true) : cellEq b a = true := Bermuda.cellEq_symm h

theorem cellEq_trans {a b c : Cell} (ha : a.datesOk = true) (hb : b.datesOk = true)
    (hc : c.datesOk = true) (h₁ : cellEq a b = true) (h₂ : cellEq b c = true) : cellEq a c = true :=
  Bermuda.cellEq_trans (Cell.kindOk_of_datesOk ha) (Cell.kindOk_of_datesOk hb)
    (Cell.kindOk_of_datesOk hc) h₁ h₂

theorem triEq_refl (a : List Cell) : triEq a a = true := Bermuda.triEq_refl a

theorem triEq_symm {a b : List Cell} (h : triEq a b = true) : triEq b a = true := Bermuda.triEq_symm h

theorem triEq_trans {a b c : List Cell} (ha : ∀ x ∈ a, x.datesOk = true)
    (hb : ∀ x ∈ b, x.datesOk = true) (hc : ∀ x ∈ c, x.datesOk = true)
    (h₁ : triEq a b = true) (h₂ : triEq b c = true) : triEq a c = true :=
  Bermuda.triEq_trans (fun x hx => Cell.kindOk_of_datesOk (ha x hx))
    (fun x hx => Cell.kindOk_of_datesOk (hb x hx)) (fun x hx => Cell.kindOk_of_datesOk (hc x hx)) h₁ h₂

/-! ### 3. any single edit makes it False

The edited triangle is `Triangle(cells with one replaced / added / dropped)`, i.e. it goes through
the sorting constructor; the edited cell may end up at another position. -/

/-- dropping the trailing cell -/
theorem triEq_dropLast_false {t : List Cell} (h : t ≠ []) :
    triEq t.dropLast t = false ∧ triEq t t.dropLast = false := by
  rw [List.dropLast_eq_take]
  exact triEq_prefix_false (Nat.sub_lt (List.length_pos_iff.mpr h) Nat.one_pos)

/-- dropping the trailing cell of a canonical triangle and re-constructing -/
theorem triEq_ofCells_dropLast_false {t t' : List Cell} (h : t ≠ [])
    (ht : Triangle.ofCells t.dropLast = .ok t') : triEq t' t = false ∧ triEq t t' = false := by
  have hl : t'.length ≠ t.length := by
    have := List.length_pos_iff.mpr h
    rw [(ofCells_perm ht).length_eq, List.length_dropLast]; omega
  exact ⟨triEq_of_length_ne hl, triEq_of_length_ne hl.symm⟩

/-- adding one cell (wherever it sorts to) -/
theorem triEq_snoc_false {t t' : List Cell} {c : Cell} (ht : Triangle.ofCells (t ++ [c]) = .ok t') :
    triEq t' t = false ∧ triEq t t' = false := by
  have hl : t'.length ≠ t.length := by rw [(ofCells_perm ht).length_eq, List.length_append]; simp
  exact ⟨triEq_of_length_ne hl, triEq_of_length_ne hl.symm⟩

/-- **replacing one cell by any cell that is not `==` to it** -/
theorem triEq_edit_false {t t' : List Cell} {i : Nat} {c' : Cell} (hi : i < t.length)
    (hwf : ∀ c ∈ t, c.datesOk = true) (hc' : c'.datesOk = true)
    (hne : cellEq t[i] c' = false) (ht : Triangle.ofCells (t.set i c') = .ok t') :
    triEq t t' = false ∧ triEq t' t = false := by
  have h1 : triEq t t' = false :=
    triEq_perm_set_false hi (fun c hc => Cell.kindOk_of_datesOk (hwf c hc))
      (Cell.kindOk_of_datesOk hc') hne (ofCells_perm ht)
  exact ⟨h1, Bool.eq_false_iff.mpr fun h2 => Bool.eq_false_iff.mp h1 (Bermuda.triEq_symm h2)⟩

/-- changing `period_start` of one cell -/
theorem triEq_edit_date_false_period_start {t t' : List Cell} {i : Nat} {d : Date} (hi : i < t.length)
    (hwf : ∀ c ∈ t, c.datesOk = true) (hd : d ≠ t[i].ps)
    (hc' : ({ t[i] with ps := d } : Cell).datesOk = true)
    (ht : Triangle.ofCells (t.set i { t[i] with ps := d }) = .ok t') :
    triEq t t' = false ∧ triEq t' t = false :=
  triEq_edit_false hi hwf hc' (cellEq_edit_ps_false hd) ht

/-- changing `period_end` of one cell -/
theorem triEq_edit_date_false_period_end {t t' : List Cell} {i : Nat} {d : Date} (hi : i < t.length)
    (hwf : ∀ c ∈ t, c.datesOk = true) (hd : d ≠ t[i].pe)
    (hc' : ({ t[i] with pe := d } : Cell).datesOk = true)
    (ht : Triangle.ofCells (t.set i { t[i] with pe := d }) = .ok t') :
    triEq t t' = false ∧ triEq t' t = false :=
  triEq_edit_false hi hwf hc' (cellEq_edit_pe_false hd) ht

/-- changing `evaluation_date` of one cell -/
theorem triEq_edit_date_false_evaluation_date {t t' : List Cell} {i : Nat} {d : Date} (hi : i < t.length)
    (hwf : ∀ c ∈ t, c.datesOk = true) (hd : d ≠ t[i].ev)
    (hc' : ({ t[i] with ev := d } : Cell).datesOk = true)
    (ht : Triangle.ofCells (t.set i { t[i] with ev := d }) = .ok t') :
    triEq t t' = false ∧ triEq t' t = false :=
  triEq_edit_false hi hwf hc' (cellEq_edit_ev_false hd) ht

/-- changing `prev_evaluation_date` of one incremental cell -/
theorem triEq_edit_date_false_prev_evaluation_date {t t' : List Cell} {i : Nat} {d : Date}
    (hi : i < t.length) (hwf : ∀ c ∈ t, c.datesOk = true) (hk : t[i].kind = .incremental)
    (hd : some d ≠ t[i].prev) (hc' : ({ t[i] with prev := some d } : Cell).datesOk = true)
    (ht : Triangle.ofCells (t.set i { t[i] with prev := some d }) = .ok t') :
    triEq t t' = false ∧ triEq t' t = false :=
  triEq_edit_false hi hwf hc' (cellEq_edit_prev_false hk hd) ht

/-- changing one value to a numerically different one (or to another shape, or to/from `None`) -/
theorem triEq_edit_value_false {t t' : List Cell} {i : Nat} {k : String} {v v' : Val} (hi : i < t.length)
    (hwf : ∀ c ∈ t, c.datesOk = true) (hk : t[i].values.get? k = some v) (hv : v.eqv v' = false)
    (ht : Triangle.ofCells (t.set i { t[i] with values := t[i].values.set k v' }) = .ok t') :
    triEq t t' = false ∧ triEq t' t = false :=
  triEq_edit_false hi hwf (by exact hwf t[i] (List.getElem_mem hi))
    (cellEq_edit_value_false hk hv) ht

/-- renaming one field to a name the cell does not have yet -/
theorem triEq_rename_field_false {t t' : List Cell} {i : Nat} {k k' : String} (hi : i < t.length)
    (hwf : ∀ c ∈ t, c.datesOk = true) (hk : k ∈ t[i].values.keys) (hk' : k' ∉ t[i].values.keys)
    (ht : Triangle.ofCells (t.set i { t[i] with values := t[i].values.rename k k' }) = .ok t') :
    triEq t t' = false ∧ triEq t' t = false :=
  triEq_edit_false hi hwf (by exact hwf t[i] (List.getElem_mem hi))
    (cellEq_rename_field_false hk hk') ht

/-- changing the metadata of one cell to a different metadata (any attribute: the eight attributes
are exactly the components of canonical `Metadata`) -/
theorem triEq_edit_meta_false {t t' : List Cell} {i : Nat} {m : Metadata} (hi : i < t.length)
    (hwf : ∀ c ∈ t, c.datesOk = true) (hm : t[i].md.Canon) (hm' : m.Canon) (hne : m ≠ t[i].md)
    (ht : Triangle.ofCells (t.set i { t[i] with md := m }) = .ok t') :
    triEq t t' = false ∧ triEq t' t = false :=
  triEq_edit_false hi hwf (by exact hwf t[i] (List.getElem_mem hi))
    (cellEq_edit_meta_false (Bool.eq_false_iff.mpr fun h => hne ((Metadata.eqv_iff_eq hm hm').mp h).symm)) ht

/-- each of the eight attributes is a real component: two metadata differing in one attribute differ -/
theorem metadata_attribute_edits_differ (m : Metadata) :
    (∀ x, x ≠ m.riskBasis → { m with riskBasis := x } ≠ m) ∧
    (∀ x, x ≠ m.country → { m with country := x } ≠ m) ∧
    (∀ x, x ≠ m.currency → { m with currency := x } ≠ m) ∧
    (∀ x, x ≠ m.reinsuranceBasis → { m with reinsuranceBasis := x } ≠ m) ∧
    (∀ x, x ≠ m.lossDefinition → { m with lossDefinition := x } ≠ m) ∧
    (∀ x, x ≠ m.limit → { m with limit := x } ≠ m) ∧
    (∀ x, x ≠ m.details → { m with details := x } ≠ m) ∧
    (∀ x, x ≠ m.lossDetails → { m with lossDetails := x } ≠ m) := by
  cases m
  refine ⟨?_, ?_, ?_, ?_, ?_, ?_, ?_, ?_⟩ <;> intro x hx h <;> simp_all

/-! ### 4. equal things hash alike -/

/-- equal Metadata have equal hash keys; on the hash key level `==` IS key equality -/
theorem metadata_hashKey_eq_of_eq {a b : Metadata} (h : a.eqv b = true) : a.hashKey = b.hashKey :=
  Metadata.eqv_iff_hashKey.mp h

theorem metadata_eq_iff_hashKey {a b : Metadata} : a.eqv b = true ↔ a.hashKey = b.hashKey :=
  Metadata.eqv_iff_hashKey

/-- equal cells have equal hash keys (regression of D4: `Cell` vs `CumulativeCell`; D5: incremental
cells are hashable and hash consistently) -/
theorem hashKey_eq_of_cellEq {a b : Cell} {ka kb : HKey} (ha : a.datesOk = true) (hb : b.datesOk = true)
    (h : cellEq a b = true) (h₁ : a.hashKey = .ok ka) (h₂ : b.hashKey = .ok kb) : ka = kb :=
  Cell.hashKey_eq_of_cellEq (Cell.kindOk_of_datesOk ha) (Cell.kindOk_of_datesOk hb) h h₁ h₂

/-- equal triangles have equal hash keys -/
theorem triHashKey_eq_of_triEq {a b : List Cell} {ka kb : List HKey}
    (ha : ∀ x ∈ a, x.datesOk = true) (hb : ∀ x ∈ b, x.datesOk = true)
    (h : triEq a b = true) (h₁ : triHashKey a = .ok ka) (h₂ : triHashKey b = .ok kb) : ka = kb :=
  Bermuda.triHashKey_eq_of_triEq (fun x hx => Cell.kindOk_of_datesOk (ha x hx))
    (fun x hx => Cell.kindOk_of_datesOk (hb x hx)) h h₁ h₂

/-- **equal cells are hashable together** and then hash alike: if `a == b` and `hash(a)` answers, `hash(b)` answers
with the same key. The only value form excluded is the 0-d array (`np.array_equal(5, np.array(5))` is True while
`hash` of the cell holding the 0-d array raises `TypeError`; see the example below). -/
theorem hashKey_ok_of_cellEq {a b : Cell} {ka : HKey} (ha : a.datesOk = true) (hb : b.datesOk = true)
    (h : cellEq a b = true) (za : Dict.noZeroD a.values) (zb : Dict.noZeroD b.values)
    (h₁ : a.hashKey = .ok ka) : b.hashKey = .ok ka :=
  Cell.hashKey_ok_of_cellEq (Cell.kindOk_of_datesOk ha) (Cell.kindOk_of_datesOk hb) h za zb h₁

/-- … in both directions: equal cells without 0-d arrays are both hashable or both unhashable -/
theorem hashable_iff_of_cellEq {a b : Cell} (ha : a.datesOk = true) (hb : b.datesOk = true)
    (h : cellEq a b = true) (za : Dict.noZeroD a.values) (zb : Dict.noZeroD b.values) :
    (∃ k, a.hashKey = .ok k) ↔ (∃ k, b.hashKey = .ok k) :=
  ⟨fun ⟨k, hk⟩ => ⟨k, hashKey_ok_of_cellEq ha hb h za zb hk⟩,
   fun ⟨k, hk⟩ => ⟨k, hashKey_ok_of_cellEq hb ha (cellEq_symm h) zb za hk⟩⟩

/-- the excluded form is real: a scalar and the 0-d array holding it are `==`, the first hashes, the second does not -/
def exScalar : Cell := { kind := .cell, ps := ⟨2020, 1, 1⟩, pe := ⟨2020, 12, 31⟩, ev := ⟨2020, 12, 31⟩, prev := none,
                         values := [("x", .int 5)], md := default }
def exZeroD : Cell := { exScalar with values := [("x", .arr true [] [5])] }
example : cellEq exScalar exZeroD = true ∧ exScalar.hashKey.toBool = true ∧ exZeroD.hashKey.toBool = false := by
  decide +kernel

/-! tie to the source, regenerated on every run by `harness/translate_c02.py`: the hash DEPENDENCY
table, probed on the live objects (change exactly one component of random objects, observe whether
`hash` changes).  No AST: a refactoring that keeps the behaviour keeps the table. -/

/-- components of Metadata that `==` distinguishes (= components of `Metadata.hashKey`) -/
def metaSensitive : List String :=
  ["risk_basis", "country", "currency", "reinsurance_basis", "loss_definition", "per_occurrence_limit",
   "details", "details_key", "loss_details", "loss_details_key"]

/-- representation details of Metadata that `==` does not see (folded away in `Metadata.hashKey`) -/
def metaInsensitive : List String :=
  ["details_order", "details_number_type", "loss_details_order", "loss_details_number_type",
   "per_occurrence_limit_number_type"]

/-- components of a cell that `==` distinguishes (= components of `HKey`) -/
def cellSensitive (incremental : Bool) : List String :=
  ["period_start", "period_end", "evaluation_date"] ++
  (if incremental then ["prev_evaluation_date"] else []) ++
  metaSensitive.map ("metadata:" ++ ·) ++
  ["value_scalar", "value_array_element", "value_array_length", "value_none_vs_zero", "field_name",
   "field_added", "class_basis"]

/-- what `==` does not see: dict orders, int vs float, int64 vs float64, Cell vs CumulativeCell -/
def cellInsensitive (incremental : Bool) : List String :=
  metaInsensitive.map ("metadata:" ++ ·) ++
  ["values_order", "value_scalar_number_type", "value_array_dtype"] ++
  (if incremental then [] else ["class_cell_vs_cumulative"])

def hashRows (cls : String) (sens insens : List String) : List (String × String × String) :=
  sens.map (fun c => (cls, c, "all")) ++ insens.map (fun c => (cls, c, "none"))

def expectedHashDeps : List (String × String × String) :=
  hashRows "Metadata" metaSensitive metaInsensitive ++
  hashRows "Cell" (cellSensitive false) (cellInsensitive false) ++
  hashRows "CumulativeCell" (cellSensitive false) (cellInsensitive false) ++
  hashRows "IncrementalCell" (cellSensitive true) (cellInsensitive true)

/-- **the implementation's hashes depend on every component that `==` distinguishes (every probe
changed the hash) and on nothing else that was probed (no probe changed it)** — exactly the
components of the model's hash keys. -/
theorem tables_hash :
    Generated.HashDeps.ok = true ∧
    (∀ r ∈ expectedHashDeps, r ∈ Generated.HashDeps.table) ∧
    (∀ r ∈ Generated.HashDeps.table, r ∈ expectedHashDeps) := by
  decide +kernel

/-! ### 5. membership, subset, intersection, difference, disjointness agree with cell equality -/

theorem mem_iff {c : Cell} {t : List Cell} :
    Triangle.mem c t = true ↔ ∃ x ∈ t, cellEq x c = true := Triangle.mem_iff

/-- membership does not distinguish equal cells -/
theorem mem_congr {c c' : Cell} {t : List Cell} (hc : c.datesOk = true) (hc' : c'.datesOk = true)
    (ht : ∀ x ∈ t, x.datesOk = true) (h : cellEq c c' = true) : Triangle.mem c t = Triangle.mem c' t := by
  rw [Bool.eq_iff_iff, mem_iff, mem_iff]
  have k := Cell.kindOk_of_datesOk hc
  have k' := Cell.kindOk_of_datesOk hc'
  exact exists_congr fun x => and_congr_right fun hx =>
    ⟨fun hxc => Bermuda.cellEq_trans (Cell.kindOk_of_datesOk (ht x hx)) k k' hxc h,
     fun hxc => Bermuda.cellEq_trans (Cell.kindOk_of_datesOk (ht x hx)) k' k hxc (Bermuda.cellEq_symm h)⟩

theorem le_iff {a b : List Cell} :
    Triangle.le a b = true ↔ a.length ≤ b.length ∧ ∀ c ∈ a, ∃ x ∈ b, cellEq x c = true :=
  Triangle.le_iff

/-- equal triangles are subsets of each other -/
theorem le_of_triEq {a b : List Cell} (h : triEq a b = true) : Triangle.le a b = true := by
  rw [le_iff]
  obtain ⟨hl, hc⟩ := triEq_iff.mp h
  refine ⟨by omega, fun c hcm => ?_⟩
  obtain ⟨i, hi, rfl⟩ := List.getElem_of_mem hcm
  exact ⟨b[i]'(hl ▸ hi), List.getElem_mem _, Bermuda.cellEq_symm (hc i hi (hl ▸ hi))⟩

theorem isdisjoint_iff {a b : List Cell} :
    Triangle.isdisjoint a b = true ↔ ∀ c ∈ b, ∀ x ∈ a, cellEq x c = false := Triangle.isdisjoint_iff

/-- `a & b` succeeds and consists of exactly the cells of `b` that are `==` to a cell of `a`: a sorted
permutation of them, and — `b` being sorted, as every constructed triangle is — exactly them in
`b`'s order -/
theorem inter_spec {a b : List Cell} (hb : kindsConsistent b = true) :
    ∃ t, Triangle.inter a b = .ok t ∧ t.Perm (b.filter (fun c => Triangle.mem c a)) ∧
      t.Pairwise (fun x y => Cell.le x y) ∧
      (∀ c, c ∈ t ↔ c ∈ b ∧ ∃ x ∈ a, cellEq x c = true) ∧
      (b.Pairwise (fun x y => Cell.le x y) → t = b.filter (fun c => Triangle.mem c a)) := by
  obtain ⟨t, h1, h2, h3, h4⟩ := Triangle.ofCells_filter (fun c => Triangle.mem c a) hb
  refine ⟨t, h1, h2, h3, fun c => ?_, h4⟩
  rw [h2.mem_iff, List.mem_filter, mem_iff]

/-- `a - b` succeeds and consists of exactly the cells of `a` that are `==` to no cell of `b` -/
theorem diff_spec {a b : List Cell} (ha : kindsConsistent a = true) :
    ∃ t, Triangle.diff a b = .ok t ∧ t.Perm (a.filter (fun c => !Triangle.mem c b)) ∧
      t.Pairwise (fun x y => Cell.le x y) ∧
      (∀ c, c ∈ t ↔ c ∈ a ∧ ∀ x ∈ b, cellEq x c = false) ∧
      (a.Pairwise (fun x y => Cell.le x y) → t = a.filter (fun c => !Triangle.mem c b)) := by
  obtain ⟨t, h1, h2, h3, h4⟩ := Triangle.ofCells_filter (fun c => !Triangle.mem c b) ha
  refine ⟨t, h1, h2, h3, fun c => ?_, h4⟩
  rw [h2.mem_iff, List.mem_filter]
  simp [Triangle.mem]

/-- `a | b` is `a + b`: the mixin chains both operands into the constructor, which keeps duplicates -/
theorem union_eq_add (a b : List Cell) : Triangle.union a b = Triangle.add a b := rfl

/-- `a | b`, when it succeeds, is the sorted permutation of all cells of both operands -/
theorem union_spec {a b t : List Cell} (h : Triangle.union a b = .ok t) :
    t.Perm (a ++ b) ∧ t.Pairwise (fun x y => Cell.le x y) := ⟨ofCells_perm h, ofCells_sorted h⟩

/-- `a | b == b | a` (as sequences, hence `==` and equal hashes), cells at one coordinate being
identical cells -/
theorem union_comm {a b : List Cell}
    (hdup : ∀ x y, x ∈ a ++ b → y ∈ a ++ b → Cell.cmp x y = .eq → x = y) :
    Triangle.union a b = Triangle.union b a :=
  ofCells_perm_invariant List.perm_append_comm hdup

/-- re-uniting the parts of a canonical triangle (however they interleave) gives back the triangle -/
theorem union_of_parts {a b t : List Cell} (ht : Canonical t) (hp : (a ++ b).Perm t)
    (hdup : ∀ x y, x ∈ t → y ∈ t → Cell.cmp x y = .eq → x = y) : Triangle.union a b = .ok t := by
  unfold Triangle.union
  rw [ofCells_perm_invariant hp (fun x y hx hy => hdup x y (hp.mem_iff.mp hx) (hp.mem_iff.mp hy))]
  exact ofCells_idem ht

/-- `a ^ b`, when it succeeds, is the sorted permutation of the cells of `a` not in `b` and the
cells of `b` not in `a` -/
theorem symdiff_spec {a b t : List Cell} (h : Triangle.symdiff a b = .ok t) :
    t.Perm (a.filter (fun c => !Triangle.mem c b) ++ b.filter (fun c => !Triangle.mem c a)) ∧
    t.Pairwise (fun x y => Cell.le x y) := by
  obtain ⟨x, hx, h⟩ := bind_ok h
  obtain ⟨y, hy, h⟩ := bind_ok h
  exact ⟨(ofCells_perm h).trans ((ofCells_perm hx).append (ofCells_perm hy)), ofCells_sorted h⟩

/-- the three set tests fit together: `a.isdisjoint(b)` iff `a & b` is empty -/
theorem isdisjoint_iff_inter_empty {a b t : List Cell} (h : Triangle.inter a b = .ok t) :
    Triangle.isdisjoint a b = true ↔ t = [] := by
  have hp := ofCells_perm h
  have hnil : b.filter (fun c => Triangle.mem c a) = [] ↔ Triangle.isdisjoint a b = true := by
    simp [Triangle.isdisjoint, List.filter_eq_nil_iff]
  rw [← hnil]
  exact ⟨fun e => List.perm_nil.mp (e ▸ hp), fun e => List.perm_nil.mp (e ▸ hp.symm)⟩

/-! ### 6. the model meets the Spec predicates the driver evaluates on the implementation -/

theorem spec_eq {a b : List Cell} (ha : ∀ x ∈ a, Spec.wfCell x = true) (hb : ∀ x ∈ b, Spec.wfCell x = true) :
    Spec.eqClause a b (triEq a b) = true := by
  simp [Spec.eqClause, Spec.triSame_eq_triEq (Spec.wf_of_all ha) (Spec.wf_of_all hb)]

theorem spec_cellEq {a b : Cell} (ha : Spec.wfCell a = true) (hb : Spec.wfCell b = true) :
    Spec.cellEqClause a b (cellEq a b) = true := by
  simp [Spec.cellEqClause, Spec.cellSame_eq_cellEq (Spec.wfCell_iff.mp ha) (Spec.wfCell_iff.mp hb)]

/-- equal hash keys is what the model answers for `hash(a) == hash(b)` -/
theorem spec_hash {a b : List Cell} {ka kb : List HKey} (ha : ∀ x ∈ a, Spec.wfCell x = true)
    (hb : ∀ x ∈ b, Spec.wfCell x = true) (h₁ : triHashKey a = .ok ka) (h₂ : triHashKey b = .ok kb) :
    Spec.hashClause a b (ka == kb) = true := by
  have wa := Spec.wf_of_all ha
  have wb := Spec.wf_of_all hb
  unfold Spec.hashClause
  rw [Spec.triSame_eq_triEq wa wb]
  cases h : triEq a b
  · rfl
  · simp [triHashKey_eq_of_triEq (fun x hx => (wa x hx).dates) (fun x hx => (wb x hx).dates) h h₁ h₂]

/-- the cell-level hash clause holds of the model's answer `ka == kb` -/
theorem spec_cellHash {a b : Cell} {ka kb : HKey} (ha : Spec.wfCell a = true) (hb : Spec.wfCell b = true)
    (h₁ : a.hashKey = .ok ka) (h₂ : b.hashKey = .ok kb) :
    Spec.cellHashClause a b (ka == kb) = true := by
  have wa := Spec.wfCell_iff.mp ha
  have wb := Spec.wfCell_iff.mp hb
  unfold Spec.cellHashClause
  rw [Spec.cellSame_eq_cellEq wa wb]
  cases h : cellEq a b
  · rfl
  · simp [hashKey_eq_of_cellEq wa.dates wb.dates h h₁ h₂]

/-- on wire-form (key-sorted) metadata the model's `Metadata.__eq__` meets the declarative clause -/
theorem spec_metaEq {a b : Metadata} (ha : a.Canon) (hb : b.Canon) :
    Spec.metaEqClause a b (a.eqv b) = true := by
  rw [Spec.metaEqClause, beq_iff_eq, Bool.eq_iff_iff, Metadata.eqv_iff_eq ha hb, beq_iff_eq]

/-- equal metadata have equal hash keys: the model's answer `a.hashKey == b.hashKey` meets the clause -/
theorem spec_metaHash {a b : Metadata} : Spec.metaHashClause a b (a.hashKey == b.hashKey) = true := by
  unfold Spec.metaHashClause
  by_cases h : a = b
  · subst h; simp
  · simp [h]

theorem spec_mem {c : Cell} {t : List Cell} (hc : Spec.wfCell c = true) (ht : ∀ x ∈ t, Spec.wfCell x = true) :
    Spec.memClause c t (Triangle.mem c t) = true := by
  have := Spec.isIn_eq_mem (Spec.wfCell_iff.mp hc) (Spec.wf_of_all ht)
  unfold Spec.isIn at this
  simp [Spec.memClause, this]

theorem spec_le {a b : List Cell} (ha : ∀ x ∈ a, Spec.wfCell x = true) (hb : ∀ x ∈ b, Spec.wfCell x = true) :
    Spec.leClause a b (Triangle.le a b) = true := by
  have wa := Spec.wf_of_all ha
  have wb := Spec.wf_of_all hb
  have : a.all (fun c => Spec.isIn c b) = a.all (fun c => Triangle.mem c b) :=
    all_congr_mem (Spec.isIn_eq_mem_on wb wa)
  unfold Spec.leClause Triangle.le
  rw [this]
  by_cases h : a.length ≤ b.length
  · simp [h, Nat.not_lt.mpr h]
  · simp [h, Nat.lt_of_not_le h]

theorem spec_disj {a b : List Cell} (ha : ∀ x ∈ a, Spec.wfCell x = true) (hb : ∀ x ∈ b, Spec.wfCell x = true) :
    Spec.disjClause a b (Triangle.isdisjoint a b) = true := by
  have wa := Spec.wf_of_all ha
  have wb := Spec.wf_of_all hb
  have : b.any (fun c => Spec.isIn c a) = b.any (fun c => Triangle.mem c a) :=
    any_congr_mem (Spec.isIn_eq_mem_on wa wb)
  unfold Spec.disjClause Triangle.isdisjoint
  rw [this]
  simp [List.all_eq_not_any_not]

theorem spec_inter {a b t : List Cell} (ha : ∀ x ∈ a, Spec.wfCell x = true)
    (hb : ∀ x ∈ b, Spec.wfCell x = true) (h : Triangle.inter a b = .ok t) :
    Spec.interClause a b t = true := by
  have wa := Spec.wf_of_all ha
  have wb := Spec.wf_of_all hb
  simp only [Spec.interClause, Bool.and_eq_true, List.isPerm_iff, filter_isIn_eq wa wb]
  exact ⟨ofCells_perm h, chainB_of_pairwise (ofCells_sorted h)⟩

theorem spec_diff {a b t : List Cell} (ha : ∀ x ∈ a, Spec.wfCell x = true)
    (hb : ∀ x ∈ b, Spec.wfCell x = true) (h : Triangle.diff a b = .ok t) :
    Spec.diffClause a b t = true := by
  have wa := Spec.wf_of_all ha
  have wb := Spec.wf_of_all hb
  simp only [Spec.diffClause, Bool.and_eq_true, List.isPerm_iff, filter_not_isIn_eq wb wa]
  exact ⟨ofCells_perm h, chainB_of_pairwise (ofCells_sorted h)⟩

theorem spec_union {a b t : List Cell} (ha : ∀ x ∈ a, Spec.wfCell x = true)
    (hb : ∀ x ∈ b, Spec.wfCell x = true) (h : Triangle.union a b = .ok t) :
    Spec.unionClause a b t = true := by
  have wa := Spec.wf_of_all ha
  have wb := Spec.wf_of_all hb
  have hp := ofCells_perm h
  have wt : ∀ x ∈ t, x.WF := fun x hx => by
    rcases List.mem_append.mp (hp.mem_iff.mp hx) with h' | h'
    · exact wa x h'
    · exact wb x h'
  have self_in : ∀ (c : Cell) (l : List Cell), c.WF → (∀ x ∈ l, x.WF) → c ∈ l → Spec.isIn c l = true :=
    fun c l hc hl hm => by
      rw [Spec.isIn_eq_mem hc hl, mem_iff]; exact ⟨c, hm, Bermuda.cellEq_refl c⟩
  simp only [Spec.unionClause, Bool.and_eq_true, Bool.or_eq_true, List.all_eq_true, List.isPerm_iff]
  refine ⟨⟨⟨⟨chainB_of_pairwise (ofCells_sorted h), fun c hc => ?_⟩, fun c hc => ?_⟩, fun c hc => ?_⟩, Or.inr hp⟩
  · exact self_in c t (wa c hc) wt (hp.mem_iff.mpr (List.mem_append_left _ hc))
  · exact self_in c t (wb c hc) wt (hp.mem_iff.mpr (List.mem_append_right _ hc))
  · rcases List.mem_append.mp (hp.mem_iff.mp hc) with h' | h'
    · exact Or.inl (self_in c a (wa c h') wa h')
    · exact Or.inr (self_in c b (wb c h') wb h')

theorem spec_xor {a b t : List Cell} (ha : ∀ x ∈ a, Spec.wfCell x = true)
    (hb : ∀ x ∈ b, Spec.wfCell x = true) (h : Triangle.symdiff a b = .ok t) :
    Spec.xorClause a b t = true := by
  have wa := Spec.wf_of_all ha
  have wb := Spec.wf_of_all hb
  simp only [Spec.xorClause, Bool.and_eq_true, List.isPerm_iff, filter_not_isIn_eq wb wa,
    filter_not_isIn_eq wa wb]
  exact ⟨(symdiff_spec h).1, chainB_of_pairwise (symdiff_spec h).2⟩

/-! ### 7. non-vacuity: concrete cells and triangles meet the hypotheses -/

def exMd : Metadata := { country := some "US", details := [("coverage", .str "BI")] }

/-- a plain `Cell` with an int and a float field -/
def exA : Cell :=
  { kind := .cell, ps := ⟨2020, 1, 1⟩, pe := ⟨2020, 12, 31⟩, ev := ⟨2020, 12, 31⟩,
    values := [("paid_loss", .int 100), ("reported_loss", .flt 250)], md := exMd }

/-- its re-typed copy: `CumulativeCell`, int ↔ float, other dict order -/
def exA' : Cell :=
  { kind := .cumulative, ps := ⟨2020, 1, 1⟩, pe := ⟨2020, 12, 31⟩, ev := ⟨2020, 12, 31⟩,
    values := [("reported_loss", .int 250), ("paid_loss", .flt 100)], md := exMd }

/-- a later evaluation with an array field and a `None` field -/
def exB : Cell :=
  { kind := .cell, ps := ⟨2020, 1, 1⟩, pe := ⟨2020, 12, 31⟩, ev := ⟨2021, 12, 31⟩,
    values := [("paid_loss", .arr true [2] [150, 160]), ("reported_loss", .none)], md := exMd }

def exT : List Cell := [exA, exB]

theorem exA_ok : exA.datesOk = true := by decide
theorem exA'_ok : exA'.datesOk = true := by decide
theorem exMd_canon : exMd.Canon := by decide
theorem exT_ok : ∀ c ∈ exT, c.datesOk = true := by decide

/-- `Cell` vs `CumulativeCell`, `100` vs `100.0`, other key order: equal (hypotheses of `cellEq_iff`
hold, and its right-hand side is met by a pair of distinct model cells) -/
theorem exA_eq_exA' : cellEq exA exA' = true := by
  rw [cellEq_iff exA_ok exA'_ok exMd_canon exMd_canon]
  refine ⟨by decide, rfl, rfl, rfl, rfl, rfl, by decide, ?_⟩
  intro k hk
  simp only [exA, Dict.keys, List.map_cons, List.map_nil, List.mem_cons, List.not_mem_nil, or_false] at hk
  rcases hk with rfl | rfl
  · exact ⟨.int 100, .flt 100, by decide, by decide, rfl, by decide⟩
  · exact ⟨.flt 250, .int 250, by decide, by decide, rfl, by decide⟩

example : exA ≠ exA' := by decide

example : triEq exT [exA', exB] = true := by
  simp [exT, exA_eq_exA', Bermuda.cellEq_refl]

/-- transitivity along `exA'` ≈ `exA` ≈ `exA'` (two representations of one cell: int/float values, key order) -/
example : cellEq exA' exA' = true :=
  cellEq_trans exA'_ok exA_ok exA'_ok (cellEq_symm exA_eq_exA') exA_eq_exA'

theorem exA_keys_sorted : sortStrings exA.values.keys = ["paid_loss", "reported_loss"] :=
  List.mergeSort_of_pairwise (by decide)

theorem exA'_keys_sorted : sortStrings exA'.values.keys = ["paid_loss", "reported_loss"] := by
  rw [← exA_keys_sorted]
  exact sortStrings_eq_iff_perm.mpr (by decide)

/-- both cells are hashable and (by `hashKey_eq_of_cellEq`) have the same key -/
example : ∃ k, exA.hashKey = .ok k ∧ exA'.hashKey = .ok k := by
  have h1 : ∃ k, exA.hashKey = .ok k := by
    simp only [Cell.hashKey, valsHashKey, exA_keys_sorted]; exact ⟨_, rfl⟩
  have h2 : ∃ k, exA'.hashKey = .ok k := by
    simp only [Cell.hashKey, valsHashKey, exA'_keys_sorted]; exact ⟨_, rfl⟩
  obtain ⟨k1, hk1⟩ := h1
  obtain ⟨k2, hk2⟩ := h2
  exact ⟨k1, hk1, by rw [hk2, hashKey_eq_of_cellEq exA_ok exA'_ok exA_eq_exA' hk1 hk2]⟩

/-- the hypotheses of the single-edit theorems are met on `exT`: here and in the three examples below an edited
`evaluation_date`, value, field name and metadata; `triEq_dropLast_false` further down. The edits of `period_start`,
`period_end`, `prev_evaluation_date`, `triEq_ofCells_dropLast_false` and `triEq_snoc_false` are not instantiated. -/
example : ∃ t', Triangle.ofCells (exT.set 0 { exA with ev := ⟨2021, 1, 31⟩ }) = .ok t' ∧ triEq exT t' = false := by
  obtain ⟨t', ht⟩ := (ofCells_ok_iff (exT.set 0 { exA with ev := ⟨2021, 1, 31⟩ })).mpr (by decide)
  exact ⟨t', ht, (triEq_edit_date_false_evaluation_date (t := exT) (i := 0) (by decide) exT_ok (by decide)
    (by decide) ht).1⟩

example : ∃ t', Triangle.ofCells (exT.set 0 { exA with values := exA.values.set "paid_loss" (.int 101) }) = .ok t' ∧
    triEq exT t' = false := by
  obtain ⟨t', ht⟩ := (ofCells_ok_iff (exT.set 0 { exA with values := exA.values.set "paid_loss" (.int 101) })).mpr
    (by decide)
  exact ⟨t', ht, (triEq_edit_value_false (t := exT) (i := 0) (k := "paid_loss") (v := .int 100) (by decide)
    exT_ok (by decide) (by decide) ht).1⟩

example : ∃ t', Triangle.ofCells (exT.set 1 { exB with values := exB.values.rename "reported_loss" "incurred" }) = .ok t' ∧
    triEq exT t' = false := by
  obtain ⟨t', ht⟩ := (ofCells_ok_iff (exT.set 1 { exB with values := exB.values.rename "reported_loss" "incurred" })).mpr
    (by decide)
  exact ⟨t', ht, (triEq_rename_field_false (t := exT) (i := 1) (by decide) exT_ok (by decide) (by decide) ht).1⟩

example : ∃ t', Triangle.ofCells (exT.set 1 { exB with md := { exMd with country := some "DE" } }) = .ok t' ∧
    triEq exT t' = false := by
  obtain ⟨t', ht⟩ := (ofCells_ok_iff (exT.set 1 { exB with md := { exMd with country := some "DE" } })).mpr
    (by decide)
  exact ⟨t', ht, (triEq_edit_meta_false (t := exT) (i := 1) (by decide) exT_ok (by decide) (by decide)
    (by decide) ht).1⟩

/-- re-uniting interleaving parts in either order gives one and the same triangle: the hypotheses of
`union_of_parts` are met by the triangle constructed from `[exB, exA]` -/
example : ∃ t, Triangle.union [exB] [exA] = .ok t ∧ Triangle.union [exA] [exB] = .ok t := by
  obtain ⟨t, ht⟩ := (ofCells_ok_iff ([exB] ++ [exA])).mpr (by decide)
  have hc : Canonical t := ofCells_canonical ht (by decide)
  have hp : ([exB] ++ [exA]).Perm t := (ofCells_perm ht).symm
  have hdup : ∀ x y, x ∈ t → y ∈ t → Cell.cmp x y = .eq → x = y := by
    intro x y hx hy hxy
    have hx' := hp.mem_iff.mpr hx
    have hy' := hp.mem_iff.mpr hy
    have inj : ∀ a ∈ [exB] ++ [exA], ∀ b ∈ [exB] ++ [exA], a.coord = b.coord → a = b := by decide
    have canon : ∀ a ∈ [exB] ++ [exA], a.md.Canon := by decide
    exact inj x hx' y hy' ((Cell.cmp_eq_eq (canon x hx') (canon y hy')).mp hxy)
  exact ⟨t, union_of_parts hc hp hdup, union_of_parts hc (List.perm_append_comm.trans hp) hdup⟩

example : triEq exT.dropLast exT = false := (triEq_dropLast_false (by decide)).1

/-- `a & b` on a pair of triangles sharing the first cell up to representation: the result exists and
holds `b`'s copy of the shared cell -/
example : ∃ t, Triangle.inter [exA', exB] exT = .ok t ∧ exA ∈ t := by
  obtain ⟨t, ht, _, _, hm, _⟩ := inter_spec (a := [exA', exB]) (b := exT) (by decide)
  exact ⟨t, ht, (hm exA).mpr ⟨by simp [exT], exA', by simp, cellEq_symm exA_eq_exA'⟩⟩

end Bermuda.Properties.C02
