/-
C05 — Binary (.trib/.tribc) write-then-read returns the identical triangle.
Only property theorems live here (helper lemmas: `Lemmas/Codec*.lean`).

`WF t` (= `Codec.wf t = true`, executable: the driver evaluates it on every generated triangle) is the
documented domain of the format: strings < 32768 UTF-8 bytes (written `<H`, read `<h`), padded
pool < 32768 entries (written `<h`, read `<H`), ints in int64, floats 8 bytes, array dims < 2^32,
ndim < 256, payload = 8·∏dims bytes, years 1..9999 and valid dates, limit not NaN (NaN is the
encoding of `None`), unique keys per dict, the constructor's date rules, cell values not str/date.
-/
import Bermuda.Lemmas.CodecSpec
import Bermuda.Lemmas.CodecPy
import Bermuda.Model.AllOps3
import Bermuda.Lemmas.AllOps
namespace Bermuda.Properties.C05
open Bermuda Bermuda.Codec

/-- the documented domain of the format -/
def WF (t : RawTriangle) : Prop := wf t = true

/-! ### 1. `read (write x ++ rest) = ok (x, rest)` per syntactic class -/

theorem read_write_date (d : Date) (h : dateOk d = true) (rest : Bytes) :
    readDate (writeDate d ++ rest) = .ok (d, rest) := readDate_writeDate d h rest

/-- strings and `None` (length −1) -/
theorem read_write_optString (s : Option Bytes) (h : optStrOk s = true) (rest : Bytes) :
    readStr (writeStr s ++ rest) = .ok (s, rest) := (readStr_spec s h).reads rest

/-- `per_occurrence_limit`: `None` travels as NaN -/
theorem read_write_limit (l : Option Bytes) (h : limitOk l = true) (rest : Bytes) :
    readLimit (writeLimit l ++ rest) = .ok (l, rest) := (readLimit_spec l h).reads rest

theorem read_write_array (dims : List Nat) (p : Bytes) (h : arrOk dims p = true) (rest : Bytes) :
    readArrBody (writeArrBody dims p ++ rest) = .ok ((dims, p), rest) :=
  (readArrBody_spec dims p h).reads rest

/-- every value kind keeps its kind and its bits: int stays int, float stays float (same 8 bytes),
bool stays bool, None stays None, arrays keep dtype, shape and bytes -/
theorem read_write_value (v : RawVal) (h : valOk v = true) (rest : Bytes) :
    readVal (writeVal v ++ rest) = .ok (v, rest) := (readVal_spec v h).reads rest

/-- **the placeholder lemma (D6)**: with the padded pool every key used in the triangle has a pool
index whose low byte is not the `DICT_END` byte (so `_read_dict`'s one-byte peek never mistakes a
key index for the end of the dictionary), and the pool holds the key at that index. -/
theorem pool_index_never_dict_end (t : RawTriangle) (k : Bytes) (hk : k ∈ allKeys t) :
    ∃ j, poolLookup (poolOf t) k = some j ∧ j % 256 ≠ 0x88 ∧ (poolOf t)[j]? = some k := by
  obtain ⟨j, h1, h2, h3⟩ := poolOf_lookup t k hk
  exact ⟨j, h1, by rw [dictEnd_toNat] at h2; exact h2, h3⟩

theorem read_write_dict (pool : List Bytes) (hp : pool.length ≤ 65536) (d : RawDict)
    (hd : dictOk d = true) (hk : KeysIn pool d) (rest : Bytes) :
    readDict (pool.map some) (writeDict pool d ++ rest) = .ok (d, rest) :=
  (readDict_spec pool hp d hd hk).reads rest

theorem read_write_metadata (pool : List Bytes) (hp : pool.length ≤ 65536) (m : RawMetadata)
    (hm : metaOk m = true) (hk1 : KeysIn pool m.details) (hk2 : KeysIn pool m.lossDetails)
    (rest : Bytes) :
    readMetaBody (pool.map some) (writeMetaBody pool m ++ rest) = .ok (m, rest) :=
  (readMetaBody_spec pool hp m hm hk1 hk2).reads rest

/-- cell class, the three dates, `prev_evaluation_date` for incremental cells, values -/
theorem read_write_cell (pool : List Bytes) (hp : pool.length ≤ 65536) (c : RawCell)
    (hc : cellOk c = true) (hk : KeysIn pool c.values) (rest : Bytes) :
    readCellBody (pool.map some) c.kind c.md (writeCellBody pool c ++ rest) = .ok (c, rest) :=
  (readCellBody_spec pool hp c hc hk).reads rest

theorem read_write_pool (pool : List Bytes) (hlen : pool.length < 32768)
    (h : ∀ s ∈ pool, strOk s = true) (rest : Bytes) :
    readPool (writePool pool ++ rest) = .ok (pool.map some, rest) :=
  (readPool_spec pool hlen h).reads rest

/-- the record loop: metadata written only on change is re-attached to every cell -/
theorem read_write_records (pool : List Bytes) (hp : pool.length ≤ 65536)
    (cells : List RawCell) (hc : ∀ c ∈ cells, cellOk c = true ∧ CellIn pool c)
    (prev : Option RawMetadata) (fuel : Nat) (hf : (writeRecords pool prev cells).length < fuel) :
    readRecords (pool.map some) fuel prev (writeRecords pool prev cells) = .ok cells :=
  let ⟨_, hr⟩ := records_writeRecords hc prev
  (hr.read hp fuel hf).1

/-! ### 2. the round trip -/

/-- **C05.** Writing any triangle inside the documented limits and reading it back returns the
identical triangle: same cell classes, dates, every metadata attribute, details and loss_details
entries, field names (in insertion order), values with their kind and bits, arrays with dtype,
shape and bytes. Unconditional in the number of distinct keys (up to the pool limit). -/
theorem decode_encode (t : RawTriangle) (h : WF t) : decode (encode t) = .ok t :=
  (decode_encode_main t h).1

/-- the same for the writer as it really decides (a metadata record when Python's `!=` says so):
on coherent triangles — adjacent metadata are Python-equal exactly when they are identical — it
writes the bytes of `encode`. (Outside: a run of `==`-equal metadata in different representations is
one slice for the library and comes back in the representation of the run's first cell.) -/
theorem decode_encodePy (t : RawTriangle) (h : WF t) (hc : coherent t = true) :
    decode (encodePy t) = .ok t := by
  rw [encodePy_eq_encode t hc]; exact decode_encode t h

/-- **the writer as written on EVERY triangle of the domain** (no `coherent`): what comes back is `firstRepr t` —
every cell with its own class, dates and values, and with the metadata representation of the FIRST cell of its run
of Python-equal metadata (`1` vs `1.0` vs `True`, `0.0` vs `-0.0`, another insertion order of a detail dict are one
slice for the library and share one metadata record). This characterises the region the words "writing any
triangle" do not hold for literally; it is the read-back oracle of the harness stream `md-repr`. -/
theorem decode_encodePy_firstRepr (t : RawTriangle) (h : WF t) : decode (encodePy t) = .ok (firstRepr t) :=
  Codec.decode_encodePy_firstRepr t h

/-- on coherent triangles `firstRepr` is the identity (so `decode_encodePy` is an instance of the theorem above) -/
theorem firstRepr_of_coherent (t : RawTriangle) (hc : coherent t = true) : firstRepr t = t :=
  firstReprFrom_of_coherent t none hc

/-! ### 2b. … up to and including the final `Triangle(cells)` of `_read_triangle`

`Fn.fromBinary s = (decode s).bind fun raw => (raw.mapM cellOfRaw).bind Triangle.ofCells` (Model/AllOps3.lean) is the
whole of `Triangle.from_binary` on the shared numeric cell type: the decoded records are seen as cells (`cellOfRaw`:
exact value of every IEEE double, UTF-8 decoded) and handed to the constructor (class check + stable sort, C01).
`cells` is that view of the triangle that was written; `Canonical cells` (sorted, one cell class, constructor date
rules) is what every `Triangle` object satisfies (`C01.ofCells_canonical`). -/

/-- **C05 for the function `from_binary` as a whole**: the constructor at the end neither raises nor reorders -/
theorem fromBinary_encode (t : RawTriangle) (h : WF t) {cells : List Cell}
    (hv : t.mapM Fn.cellOfRaw = .ok cells) (hc : Properties.C01.Canonical cells) :
    Fn.fromBinary (encode t) = .ok cells := by
  unfold Fn.fromBinary
  rw [decode_encode t h]
  simp only [Except.bind, hv, Properties.C01.ofCells_idem hc]

/-- the same for the writer as written, on every triangle of the domain: `from_binary(to_binary(t))` is the view
of `firstRepr t` -/
theorem fromBinary_encodePy (t : RawTriangle) (h : WF t) {cells : List Cell}
    (hv : (firstRepr t).mapM Fn.cellOfRaw = .ok cells) (hc : Properties.C01.Canonical cells) :
    Fn.fromBinary (encodePy t) = .ok cells := by
  unfold Fn.fromBinary
  rw [decode_encodePy_firstRepr t h]
  simp only [Except.bind, hv, Properties.C01.ofCells_idem hc]

/-- a sufficient condition for `WF` that mentions no sorting: all cells fine and at most 16383
key occurrences -/
theorem wf_of_cells (t : RawTriangle) (hc : t.all cellOk = true) (hk : 2 * (allKeys t).length < 32768) :
    WF t := wf_of_cells_keys t hc hk

/-- the empty triangle: header and an empty pool -/
theorem decode_encode_empty : decode (encode []) = .ok [] :=
  decode_encode [] (wf_of_cells [] (by decide) (by decide))

/-! ### 3. the Spec predicate the driver runs on the implementation's output -/

theorem spec_roundTrip (t : RawTriangle) (h : WF t) :
    ∃ r, decode (encode t) = .ok r ∧ Spec.C05.roundTrip t r = true :=
  ⟨t, decode_encode t h, roundTrip_self t fun c hc => ((wf_parts h).2 c hc).1⟩

/-! ### 4. compression and the extension / flag decision table -/

/-- with and without compression, explicit and extension-inferred: whenever the flavour the reader
settles on is the flavour that was written, the triangle comes back. gzip is a parameter. -/
theorem roundtrip_compressed (gzip : Bytes → Bytes) (gunzip : Bytes → Except Err Bytes)
    (hg : ∀ b, gunzip (gzip b) = .ok b) (t : RawTriangle) (h : WF t)
    (ext : Ext) (flag : Option Bool) (c : Bool) (hi : inferCompress ext flag = .ok c) :
    decodeFile gunzip ext flag (encodeFile gzip c t) = .ok t := by
  unfold decodeFile encodeFile
  rw [hi]
  cases c
  · simp [decode_encode t h]
  · simp [hg, decode_encode t h]

/-- the file as `to_binary` really writes it (`_write_triangle` decides on a metadata record with Python's `!=`) -/
def encodeFilePy (gzip : Bytes → Bytes) (compress : Bool) (t : RawTriangle) : Bytes :=
  if compress then gzip (encodePy t) else encodePy t

/-- `roundtrip_compressed` for the writer as written (coherent triangles) -/
theorem roundtrip_compressed_py (gzip : Bytes → Bytes) (gunzip : Bytes → Except Err Bytes)
    (hg : ∀ b, gunzip (gzip b) = .ok b) (t : RawTriangle) (h : WF t) (hc : coherent t = true)
    (ext : Ext) (flag : Option Bool) (c : Bool) (hi : inferCompress ext flag = .ok c) :
    decodeFile gunzip ext flag (encodeFilePy gzip c t) = .ok t := by
  have := roundtrip_compressed gzip gunzip hg t h ext flag c hi
  simpa [encodeFilePy, encodeFile, encodePy_eq_encode t hc] using this

/-- `binary_to_triangle`'s decision table: an explicit `True` wins; `None` AND an explicit `False`
are re-inferred from the extension; any other extension is refused -/
theorem inferCompress_spec :
    (∀ e, inferCompress e (some true) = .ok true) ∧
    (∀ f, f ≠ some true → inferCompress .trib f = .ok false) ∧
    (∀ f, f ≠ some true → inferCompress .tribc f = .ok true) ∧
    (∀ f, f ≠ some true → inferCompress .other f = .error .valueError) := by
  refine ⟨fun e => rfl, ?_, ?_, ?_⟩ <;>
  · intro f hf
    match f, hf with
    | none, _ => rfl
    | some false, _ => rfl
    | some true, hf => exact absurd rfl hf

/-! ### 5. non-vacuity: a 2-slice incremental triangle with all eight value kinds, a non-ASCII
string, a `None` string, a 2-d array and a limit -/

example : decode (encode exTriangle) = .ok exTriangle := decode_encode _ Codec.exTriangle_wf

/-- the witness is coherent, so the theorem about the writer as written applies to it too -/
theorem exTriangle_coherent : coherent exTriangle = true := by decide +kernel

example : decode (encodePy exTriangle) = .ok exTriangle :=
  decode_encodePy _ Codec.exTriangle_wf exTriangle_coherent

/-- a NON-coherent triangle: two cells of one slice whose details are `{"a": 1}` and `{"a": 1.0}` -/
def exNonCoherent : RawTriangle :=
  [ { kind := .cumulative, ps := ⟨2020, 1, 1⟩, pe := ⟨2020, 12, 31⟩, ev := ⟨2020, 12, 31⟩, prev := none,
      md := { riskBasis := some [65], country := none, currency := none, reinsuranceBasis := none,
              lossDefinition := none, limit := none, details := [([97], .int 1)], lossDetails := [] },
      values := [([112], .int 5)] },
    { kind := .cumulative, ps := ⟨2021, 1, 1⟩, pe := ⟨2021, 12, 31⟩, ev := ⟨2021, 12, 31⟩, prev := none,
      md := { riskBasis := some [65], country := none, currency := none, reinsuranceBasis := none,
              lossDefinition := none, limit := none, details := [([97], .flt [0, 0, 0, 0, 0, 0, 240, 63])],
              lossDetails := [] },
      values := [([112], .int 6)] } ]

/-- it is in the domain, not coherent, and reads back with `1` in BOTH cells — not as written -/
example : decode (encodePy exNonCoherent) = .ok (firstRepr exNonCoherent) ∧ coherent exNonCoherent = false ∧
    firstRepr exNonCoherent ≠ exNonCoherent ∧
    (firstRepr exNonCoherent).map (·.md.details) = [[([97], .int 1)], [([97], .int 1)]] :=
  ⟨decode_encodePy_firstRepr _ (wf_of_cells _ (by decide +kernel) (by decide +kernel)), by decide +kernel,
   by decide +kernel, by decide +kernel⟩

/-- non-vacuity of `fromBinary_encodePy`: the numeric view of what comes back for `exNonCoherent` — both cells with
`details = {"a": 1}` — is a canonical triangle, and it IS what `from_binary(to_binary(t))` returns -/
def exNonCoherentBack : List Cell :=
  [ { kind := .cumulative, ps := ⟨2020, 1, 1⟩, pe := ⟨2020, 12, 31⟩, ev := ⟨2020, 12, 31⟩, prev := none,
      md := { riskBasis := some "A", details := [("a", .num 1)] }, values := [("p", .int 5)] },
    { kind := .cumulative, ps := ⟨2021, 1, 1⟩, pe := ⟨2021, 12, 31⟩, ev := ⟨2021, 12, 31⟩, prev := none,
      md := { riskBasis := some "A", details := [("a", .num 1)] }, values := [("p", .int 6)] } ]

example : Fn.fromBinary (encodePy exNonCoherent) = .ok exNonCoherentBack :=
  fromBinary_encodePy _ (wf_of_cells _ (by decide +kernel) (by decide +kernel)) (of_okIs (by decide +kernel))
    ⟨by decide +kernel, by decide +kernel, by decide +kernel⟩

end Bermuda.Properties.C05
