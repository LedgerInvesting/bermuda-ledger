/-
C12 — development-lag and month arithmetic are mutually inverse and calendar-exact.
The helper lemmas are in `Lemmas/DateUtils.lean`; a few theorems here restate one of them under the property's name.

The model (`Model/DateUtils.lean`) mirrors `bermuda/date_utils.py` over exact rationals, `int()`
truncation included.  Consequence (finding D8): the laws hold for every result from 1970-01-01 on and for every
month-end result in any year, and fail for every other result before 1970 (`addMonths_devLag_iff`); the theorems carry
the hypothesis, the failure is a theorem too.
-/
import Bermuda.Model.DateUtils
import Bermuda.Model.DateUtilsExt
import Bermuda.Spec.C12
import Bermuda.Lemmas.DateUtils
namespace Bermuda.Properties.C12
open Bermuda

/-! ### 1. `add_months(p, dev_lag_months(p, e)) = e` -/

/-- PARTIAL: the inverse law for every evaluation date from 1970-01-01 on (any start date `p`,
before or after 1970).  Missing part: `e` before 1970, where the law is false (next theorem). -/
theorem addMonths_devLag_partial (p e : Date) (_hp : p.valid) (he : e.valid) (h70 : 1970 ≤ e.y) :
    addMonths p (devLagMonths p e) = e :=
  addMonths_devLag_eq p e he (Or.inl h70)

/-- the lag from the fixed origin 1969-12-31 is `month index + day / days in month` -/
theorem originLag_eq (d : Date) :
    devLagMonths ⟨1969, 12, 31⟩ d = (monthToId d : Rat) + (d.d : Rat) / (dim d.y d.m : Rat) :=
  initLag_eq d

-- REFUTED addMonths_devLag
--   theorem addMonths_devLag (p e : Date) (hp : p.valid) (he : e.valid) :
--       addMonths p (devLagMonths p e) = e
-- The property's first clause for ALL dates. It is FALSE for the code as it stands because of known
-- finding D8 (`int()` truncates toward zero): refuted by `addMonths_devLag_all_dates_false` (from
-- `addMonths_devLag_pre1970_counterexample`); `addMonths_devLag_iff` says exactly for which targets it
-- holds (from 1970 on, or month ends), `addMonths_devLag_partial` is the part that is true.

/-- D8 (known finding): a valid pair before 1970 for which the law fails — already with lag 0:
`add_months(date(1969,12,15), 0.0) == date(1970,1,15)`. -/
theorem addMonths_devLag_pre1970_counterexample :
    (Date.mk 1969 12 15).valid = true ∧ devLagMonths ⟨1969, 12, 15⟩ ⟨1969, 12, 15⟩ = 0 ∧
    addMonths ⟨1969, 12, 15⟩ (devLagMonths ⟨1969, 12, 15⟩ ⟨1969, 12, 15⟩) = ⟨1970, 1, 15⟩ ∧
    addMonths ⟨1969, 12, 15⟩ (devLagMonths ⟨1969, 12, 15⟩ ⟨1969, 12, 15⟩) ≠ ⟨1969, 12, 15⟩ := by
  decide +kernel

/-- the value pinned by `test_add_float_months` is the off-by-one one: three months after
1962-05-17 is reported as 1962-09-16 -/
theorem addMonths_pinned_pre1970 : addMonths ⟨1962, 5, 17⟩ 3 = ⟨1962, 9, 16⟩ := by decide +kernel

/-- so the full law is refutable: it is not the case that it holds for all valid dates -/
theorem addMonths_devLag_all_dates_false :
    ¬ ∀ p e : Date, p.valid → e.valid → addMonths p (devLagMonths p e) = e := by
  intro h
  have := h ⟨1969, 12, 15⟩ ⟨1969, 12, 15⟩ (by decide) (by decide)
  exact addMonths_devLag_pre1970_counterexample.2.2.2 this

/-- month-end targets are recovered in EVERY year (the lag from the origin is an integer, where
truncation and floor agree) -/
theorem addMonths_devLag_monthEnd (p e : Date) (he : e.valid) (hme : e.isMonthEnd) :
    addMonths p (devLagMonths p e) = e :=
  addMonths_devLag_eq p e he (Or.inr hme)

/-- exact extent of D8 in the model: the law holds for a valid target `e` iff `e` is from 1970 on or
a month end; every other target before 1970 is missed (by one month, `addMonths_int_pre1970`) -/
theorem addMonths_devLag_iff (p e : Date) (he : e.valid) :
    addMonths p (devLagMonths p e) = e ↔ (1970 ≤ e.y ∨ e.isMonthEnd = true) :=
  addMonths_devLag_eq_iff p e he

/-! ### 2. integer offsets move the month index by exactly `k` -/

/-- adding the integer `k` lands in month `monthToId d + k` (result from 1970 on) -/
theorem addMonths_int_monthId (d : Date) (k : Int) (hv : d.valid) (h : 0 ≤ monthToId d + k) :
    monthToId (addMonths d (k : Rat)) = monthToId d + k :=
  (addMonths_int_month d k hv h).2

/-- … on a real calendar day -/
theorem addMonths_int_valid (d : Date) (k : Int) (hv : d.valid) (h : 0 ≤ monthToId d + k) :
    (addMonths d (k : Rat)).valid = true :=
  (addMonths_int_month d k hv h).1

/-- … and the DAY is determined for every start date, month end or not: the elapsed fraction of the start month carried
to the target month, rounded half to even (`Spec.scaledDay`) -/
theorem addMonths_int_day (d : Date) (k : Int) (hv : d.valid) (h : 0 ≤ monthToId d + k) :
    addMonths d (k : Rat) = ⟨1970 + (monthToId d + k) / 12, ((monthToId d + k) % 12).toNat + 1,
      (Spec.scaledDay d (monthToId d + k)).toNat⟩ :=
  addMonths_int_day_form d k hv h

/-- D8 for integer offsets: a date that is not a month end, moved into a month before 1970, lands
exactly one month late -/
theorem addMonths_int_pre1970 (d : Date) (k : Int) (hv : d.valid) (hne : d.isMonthEnd = false)
    (h : monthToId d + k < 0) : monthToId (addMonths d (k : Rat)) = monthToId d + k + 1 := by
  obtain ⟨-, -, h1, h2⟩ := (valid_iff d).mp hv
  have hd : d.d ≠ dim d.y d.m := mt (isMonthEnd_iff d).mpr (Bool.eq_false_iff.mp hne)
  rw [addMonths_int_scaled d k h1 h2 (if_neg (not_or.mpr ⟨Int.not_le.mpr h, hd⟩)).symm]
  exact monthToId_mk _ _

/-- month ends map to the last day of month `monthToId d + k` — in EVERY year, also before 1970 -/
theorem addMonths_monthEnd_eq (d : Date) (k : Int) (he : d.isMonthEnd) :
    addMonths d (k : Rat) = monthEndOf (monthToId d + k) :=
  addMonths_monthEnd_all d k he

/-- month ends map to month ends, exactly `k` months later, on a real date (every year) -/
theorem addMonths_monthEnd (d : Date) (k : Int) (he : d.isMonthEnd) :
    (addMonths d (k : Rat)).isMonthEnd = true ∧ (addMonths d (k : Rat)).valid = true ∧
    monthToId (addMonths d (k : Rat)) = monthToId d + k := by
  rw [addMonths_monthEnd_eq d k he]
  exact ⟨monthEndOf_isMonthEnd _, monthEndOf_valid _, monthToId_monthEndOf _⟩

/-- `k = 0` is the identity on every valid date from 1970 on -/
theorem addMonths_zero (d : Date) (hv : d.valid) (h70 : 1970 ≤ d.y) : addMonths d 0 = d :=
  (addMonths_zero_iff d hv).mpr (Or.inl h70)

/-- composition on month ends (every year): `(d + j) + k = d + (j + k)` -/
theorem addMonths_add (d : Date) (j k : Int) (he : d.isMonthEnd) :
    addMonths (addMonths d (j : Rat)) (k : Rat) = addMonths d ((j + k : Int) : Rat) := by
  rw [addMonths_monthEnd_eq d j he, addMonths_monthEnd_eq _ k (monthEndOf_isMonthEnd _),
      addMonths_monthEnd_eq d (j + k) he, monthToId_monthEndOf]
  congr 1; omega

/-- inverse on month ends (every year): adding `-k` undoes adding `k` -/
theorem addMonths_neg (d : Date) (k : Int) (hv : d.valid) (he : d.isMonthEnd) :
    addMonths (addMonths d (k : Rat)) ((-k : Int) : Rat) = d := by
  rw [addMonths_monthEnd_eq d k he, addMonths_monthEnd_eq _ (-k) (monthEndOf_isMonthEnd _),
      monthToId_monthEndOf]
  have : monthToId d + k + -k = monthToId d := by omega
  rw [this]; exact monthEndOf_monthToId hv he

/-! ### 3. lags -/

/-- month-end to month-end lags are exact integers: the difference of the month indices
(all years, also before 1970) -/
theorem devLag_monthEnds_int (s e : Date) (_hs : s.valid) (_he : e.valid)
    (hse : s.isMonthEnd) (hee : e.isMonthEnd) :
    devLagMonths s e = ((monthToId e - monthToId s : Int) : Rat) :=
  devLagMonths_monthEnds hse hee

/-- a cell's lag in days and as timedelta is the difference of the ordinals … -/
theorem devLag_days_eq_ordinal_diff (c : Cell) :
    c.devLag .day = ((c.ev.ordinal - c.pe.ordinal : Int) : Rat) ∧
    c.devLag .timedelta = ((c.ev.ordinal - c.pe.ordinal : Int) : Rat) ∧
    c.devLag .month = devLagMonths c.pe c.ev := ⟨rfl, rfl, rfl⟩

/-- … and ordinals count calendar days: the `n`-th day after `d` has ordinal `ordinal d + n` -/
theorem ordinal_counts_days (d : Date) (hv : d.valid) (n : Nat) :
    (Date.succ^[n] d).valid = true ∧ (Date.succ^[n] d).ordinal = d.ordinal + n :=
  ⟨iterate_succ_valid hv n, ordinal_iterate_succ hv n⟩

/-- hence the day lag to the `n`-th day after the period end is `n` -/
theorem devLag_days_counts_days (pe : Date) (hv : pe.valid) (n : Nat) :
    calculateDevLag pe (Date.succ^[n] pe) .day = (n : Rat) := by
  simp only [calculateDevLag, ordinal_iterate_succ hv n]
  have : pe.ordinal + (n : Int) - pe.ordinal = (n : Int) := by omega
  rw [this]; rfl

/-! ### 4. month ids -/

/-- `id_to_month(month_to_id(d))` is the first day of `d`'s month, with `beginning=False` the last -/
theorem idToMonth_monthToId (d : Date) (hv : d.valid) :
    idToMonth (monthToId d) true = ⟨d.y, d.m, 1⟩ ∧
    idToMonth (monthToId d) false = ⟨d.y, d.m, dim d.y d.m⟩ := by
  rw [idToMonth_true, idToMonth_false, firstOf, monthEndOf, yearOf_monthToId hv, monthOf_monthToId hv]
  exact ⟨rfl, rfl⟩

/-- `month_to_id(id_to_month(id, beginning)) = id` for every integer id, both flags; the dates are
real, the first resp. last day of their month -/
theorem monthToId_idToMonth (id : Int) (b : Bool) :
    monthToId (idToMonth id b) = id ∧ (idToMonth id b).valid = true ∧
    (if b then (idToMonth id b).d = 1 else (idToMonth id b).isMonthEnd = true) := by
  cases b
  · rw [idToMonth_false]
    exact ⟨monthToId_monthEndOf id, monthEndOf_valid id, by simpa using monthEndOf_isMonthEnd id⟩
  · rw [idToMonth_true]
    exact ⟨monthToId_firstOf id, firstOf_valid id, rfl⟩

/-! ### 5. resolutions -/

/-- month units: `resolution_delta` is `add_months` with the signed quantity -/
theorem resolutionDelta_month (d : Date) (q : Int) (neg : Bool) :
    resolutionDelta d q .month neg = addMonths d (((if neg then -q else q) : Int) : Rat) :=
  _root_.Bermuda.resolutionDelta_month d q neg

/-- day units: `resolution_delta` is day arithmetic with the signed quantity -/
theorem resolutionDelta_day (d : Date) (q : Int) (neg : Bool) :
    resolutionDelta d q .day neg = d.addDays (if neg then -q else q) :=
  _root_.Bermuda.resolutionDelta_day d q neg

/-- … and day arithmetic is exact on `date.min .. date.max` (ordinals 1 .. 3652059): the result is a
real date whose ordinal is the start's plus the signed quantity (weeks enter as 7 days through
`standardize_resolution`) -/
theorem resolutionDelta_day_ordinal (d : Date) (q : Int) (neg : Bool)
    (h1 : 1 ≤ d.ordinal + (if neg then -q else q)) (h2 : d.ordinal + (if neg then -q else q) ≤ 3652059) :
    (resolutionDelta d q .day neg).valid = true ∧
    (resolutionDelta d q .day neg).ordinal = d.ordinal + (if neg then -q else q) := by
  rw [resolutionDelta_day]; exact addDays_ordinal d _ h1 h2

/-! unit dispatch (`lowerHas u s` = `s in u.lower()`): general statements following the code's if-chain
order, then the table over every spelling the harness uses -/
theorem standardizeResolution_month (q : Int) (u : String) (h : lowerHas u "month" = true) :
    standardizeResolution q u = .ok (q, .month) := by
  simp [standardizeResolution, h]

theorem standardizeResolution_quarter (q : Int) (u : String) (h0 : lowerHas u "month" = false)
    (h : lowerHas u "quarter" = true) : standardizeResolution q u = .ok (q * 3, .month) := by
  simp [standardizeResolution, h0, h]

theorem standardizeResolution_year (q : Int) (u : String) (h0 : lowerHas u "month" = false)
    (h1 : lowerHas u "quarter" = false) (h : lowerHas u "year" = true) :
    standardizeResolution q u = .ok (q * 12, .month) := by
  simp [standardizeResolution, h0, h1, h]

theorem standardizeResolution_day (q : Int) (u : String) (h0 : lowerHas u "month" = false)
    (h1 : lowerHas u "quarter" = false) (h2 : lowerHas u "year" = false) (h : lowerHas u "day" = true) :
    standardizeResolution q u = .ok (q, .day) := by
  simp [standardizeResolution, h0, h1, h2, h]

theorem standardizeResolution_week (q : Int) (u : String) (h0 : lowerHas u "month" = false)
    (h1 : lowerHas u "quarter" = false) (h2 : lowerHas u "year" = false) (h3 : lowerHas u "day" = false)
    (h : lowerHas u "week" = true) : standardizeResolution q u = .ok (q * 7, .day) := by
  simp [standardizeResolution, h0, h1, h2, h3, h]

theorem standardizeResolution_error (q : Int) (u : String) (h0 : lowerHas u "month" = false)
    (h1 : lowerHas u "quarter" = false) (h2 : lowerHas u "year" = false) (h3 : lowerHas u "day" = false)
    (h4 : lowerHas u "week" = false) : standardizeResolution q u = .error .valueError := by
  simp [standardizeResolution, h0, h1, h2, h3, h4]

/-- the table over every unit spelling the harness uses -/
theorem standardizeResolution_units (q : Int) :
    (∀ u ∈ ["month", "months", "Month", "MONTHS", "3-monthly", "yearmonth"],
      standardizeResolution q u = .ok (q, .month)) ∧
    (∀ u ∈ ["quarter", "quarters", "Quarter", "Quarters", "per quarter"],
      standardizeResolution q u = .ok (q * 3, .month)) ∧
    (∀ u ∈ ["year", "years", "YEAR", "half-year"], standardizeResolution q u = .ok (q * 12, .month)) ∧
    (∀ u ∈ ["day", "days", "Day", "weekday", "calendar days"], standardizeResolution q u = .ok (q, .day)) ∧
    (∀ u ∈ ["week", "weeks", "WEEK", "biweekly"], standardizeResolution q u = .ok (q * 7, .day)) ∧
    (∀ u ∈ ["timedelta", "period", ""], standardizeResolution q u = .error .valueError) := by
  -- the general statements above; which of the words a spelling contains is evaluated, row by row (the kernel
  -- decodes a spelling once per evaluation, and that is what costs)
  refine ⟨fun u hu => standardizeResolution_month q u ?_, fun u hu => ?_, fun u hu => ?_, fun u hu => ?_, fun u hu => ?_,
    fun u hu => ?_⟩
  · revert u; decide +kernel
  · have h : lowerHas u "month" = false ∧ lowerHas u "quarter" = true := by revert u; decide +kernel
    exact standardizeResolution_quarter q u h.1 h.2
  · have h : lowerHas u "month" = false ∧ lowerHas u "quarter" = false ∧ lowerHas u "year" = true := by
      revert u; decide +kernel
    exact standardizeResolution_year q u h.1 h.2.1 h.2.2
  · have h : lowerHas u "month" = false ∧ lowerHas u "quarter" = false ∧ lowerHas u "year" = false ∧
        lowerHas u "day" = true := by revert u; decide +kernel
    exact standardizeResolution_day q u h.1 h.2.1 h.2.2.1 h.2.2.2
  · have h : lowerHas u "month" = false ∧ lowerHas u "quarter" = false ∧ lowerHas u "year" = false ∧
        lowerHas u "day" = false ∧ lowerHas u "week" = true := by revert u; decide +kernel
    exact standardizeResolution_week q u h.1 h.2.1 h.2.2.1 h.2.2.2.1 h.2.2.2.2
  · have h : lowerHas u "month" = false ∧ lowerHas u "quarter" = false ∧ lowerHas u "year" = false ∧
        lowerHas u "day" = false ∧ lowerHas u "week" = false := by revert u; decide +kernel
    exact standardizeResolution_error q u h.1 h.2.1 h.2.2.1 h.2.2.2.1 h.2.2.2.2

theorem lagUnit_month (u : String) (h : lowerHas u "month" = true) : LagUnit.parse? u = some .month := by
  simp [LagUnit.parse?, h]

theorem lagUnit_day (u : String) (h0 : lowerHas u "month" = false) (h : lowerHas u "day" = true) :
    LagUnit.parse? u = some .day := by
  simp [LagUnit.parse?, h0, h]

theorem lagUnit_timedelta (u : String) (h0 : lowerHas u "month" = false) (h1 : lowerHas u "day" = false)
    (h : u.toList.map Char.toLower = "timedelta".toList) : LagUnit.parse? u = some .timedelta := by
  unfold LagUnit.parse?
  rw [if_neg (by rw [h0]; exact Bool.false_ne_true), if_neg (by rw [h1]; exact Bool.false_ne_true),
      if_pos (by rw [h]; exact beq_self_eq_true _)]

theorem lagUnit_none (u : String) (h0 : lowerHas u "month" = false) (h1 : lowerHas u "day" = false)
    (h : u.toList.map Char.toLower ≠ "timedelta".toList) : LagUnit.parse? u = none := by
  unfold LagUnit.parse?
  rw [if_neg (by rw [h0]; exact Bool.false_ne_true), if_neg (by rw [h1]; exact Bool.false_ne_true),
      if_neg (fun hh => h (eq_of_beq hh))]

/-- `calculate_dev_lag` / `Cell.dev_lag` unit dispatch on every spelling the harness uses -/
theorem lagUnit_units :
    (∀ u ∈ ["months", "month", "Month", "MONTHS", "dev_months", "monthday"], LagUnit.parse? u = some .month) ∧
    (∀ u ∈ ["day", "days", "Day", "DAYS", "calendar_days", "in days"], LagUnit.parse? u = some .day) ∧
    (∀ u ∈ ["timedelta", "Timedelta", "TIMEDELTA"], LagUnit.parse? u = some .timedelta) ∧
    (∀ u ∈ ["timedeltas", "time", "weeks", ""], LagUnit.parse? u = none) := by
  decide +kernel

/-! ### 5b. `resolution_delta` on the caller's RAW unit string -/

/-- the exact string `"month"` is month arithmetic … -/
theorem resolutionDeltaRaw_month (d : Date) (q : Int) (neg : Bool) :
    resolutionDeltaRaw d q "month" neg = resolutionDelta d q .month neg := by
  cases neg <;> rfl

/-- … and EVERY other unit string is day arithmetic with the UNSCALED quantity: `"months"`, `"quarter"`, `"year"`, `"week"`
included (the function does not standardise; `standardize_resolution` must have been applied by the caller) -/
theorem resolutionDeltaRaw_other (d : Date) (q : Int) (units : String) (neg : Bool) (h : units ≠ "month") :
    resolutionDeltaRaw d q units neg = resolutionDelta d q .day neg := by
  have : (units == "month") = false := by simpa using h
  cases neg <;> simp [resolutionDeltaRaw, resolutionDelta, this]

/-- on the output of `standardize_resolution` (how `aggregate` calls it) the raw function is the two-unit one: the clause
"agrees with add_months for month units and with day arithmetic for day and week units" holds for the composition -/
theorem resolutionDeltaRaw_standardized (d : Date) (q q' : Int) (u : String) (ru : ResUnit) (neg : Bool)
    (_h : standardizeResolution q u = .ok (q', ru)) :
    resolutionDeltaRaw d q' ru.name neg = resolutionDelta d q' ru neg := by
  cases ru
  · exact resolutionDeltaRaw_month d q' neg
  · exact resolutionDeltaRaw_other d q' "day" neg (by decide)

/-- the library's own raw calls `resolution_delta(period_start, (-1, "days"))` / `(1, "days")` are day arithmetic -/
theorem resolutionDeltaRaw_days (d : Date) (q : Int) (neg : Bool) :
    resolutionDeltaRaw d q "days" neg = d.addDays (if neg then -q else q) := by
  rw [resolutionDeltaRaw_other d q "days" neg (by decide), resolutionDelta_day]

/-- WITNESS of the raw-string behaviour: from 2020-01-31, `(1, "months")`, `(1, "quarter")`, `(1, "year")`, `(1, "week")` all
give 2020-02-01 (one DAY later), while the standardised resolutions give 2020-02-29, 2020-04-30, 2021-01-31, 2020-02-07 -/
theorem resolutionDeltaRaw_unstandardized_units :
    resolutionDeltaRaw ⟨2020, 1, 31⟩ 1 "months" = ⟨2020, 2, 1⟩ ∧ resolutionDeltaRaw ⟨2020, 1, 31⟩ 1 "quarter" = ⟨2020, 2, 1⟩ ∧
    resolutionDeltaRaw ⟨2020, 1, 31⟩ 1 "year" = ⟨2020, 2, 1⟩ ∧ resolutionDeltaRaw ⟨2020, 1, 31⟩ 1 "week" = ⟨2020, 2, 1⟩ ∧
    resolutionDelta ⟨2020, 1, 31⟩ 1 .month = ⟨2020, 2, 29⟩ ∧ resolutionDelta ⟨2020, 1, 31⟩ 3 .month = ⟨2020, 4, 30⟩ ∧
    resolutionDelta ⟨2020, 1, 31⟩ 12 .month = ⟨2021, 1, 31⟩ ∧ resolutionDelta ⟨2020, 1, 31⟩ 7 .day = ⟨2020, 2, 7⟩ := by
  decide +kernel

/-! ### 5c. ordinals, and the day lag as a difference of ordinals -/

/-- `ofOrdinal` / `ordinal` are inverse on the whole `date.min .. date.max` range (ordinals 1 .. 3652059): the date built
from ordinal `n` is a real calendar date with ordinal `n` (the other direction is `ofOrdinal_ordinal`, Lemmas/DateUtils.lean) -/
theorem ordinal_ofOrdinal (n : Int) (h1 : 1 ≤ n) (h2 : n ≤ 3652059) :
    (Date.ofOrdinal n).valid = true ∧ (Date.ofOrdinal n).ordinal = n :=
  ofOrdinal_spec n h1 h2

/-- day lags are antisymmetric: an evaluation date BEFORE the period end has the negative of the forward lag
(`ordinal_counts_days` then gives negative lags their calendar meaning, too) -/
theorem devLag_days_antisymm (a b : Date) :
    calculateDevLag a b .day = - calculateDevLag b a .day ∧
    calculateDevLag a b .timedelta = - calculateDevLag b a .timedelta := by
  constructor <;> (unfold calculateDevLag; push_cast; ring)

/-! ### 6. the model satisfies the Spec predicates the driver evaluates on the implementation -/

theorem spec_inverse (p e : Date) (he : e.valid) (h70 : 1970 ≤ e.y) :
    Spec.inverseOk e (addMonths p (devLagMonths p e)) = true := by
  simp [Spec.inverseOk, addMonths_devLag_eq p e he (Or.inl h70)]

theorem spec_intShift (d : Date) (k : Int) (hv : d.valid) (h : 0 ≤ monthToId d + k) :
    Spec.intShiftOk d k (addMonths d (k : Rat)) = true := by
  unfold Spec.intShiftOk
  rw [addMonths_int_valid d k hv h, addMonths_int_monthId d k hv h]
  cases hme : d.isMonthEnd
  · simp
  · simp [(addMonths_monthEnd d k hme).1]

theorem spec_intShiftDay (d : Date) (k : Int) (hv : d.valid) (h : 0 ≤ monthToId d + k) :
    Spec.intShiftDayOk d k (addMonths d (k : Rat)) = true := by
  unfold Spec.intShiftDayOk
  simp only []
  rw [← addMonths_int_day d k hv h]
  simp

/-- the inverse law read through a cell: its month lag added to its period end is its evaluation date, for every
evaluation date from 1970 on and for every month-end evaluation date (`addMonths_devLag_iff`) -/
theorem spec_cellLagInverse (c : Cell) (he : c.ev.valid) (h : 1970 ≤ c.ev.y ∨ c.ev.isMonthEnd = true) :
    Spec.cellLagInverseOk c.ev (addMonths c.pe (c.devLag .month)) = true := by
  have := (addMonths_devLag_iff c.pe c.ev he).mpr h
  simp [Spec.cellLagInverseOk, Cell.devLag, calculateDevLag, this]

/-- month ends: in every year -/
theorem spec_monthEndShift (d : Date) (k : Int) (he : d.isMonthEnd) :
    Spec.monthEndShiftOk d k (addMonths d (k : Rat)) = true := by
  obtain ⟨h1, h2, h3⟩ := addMonths_monthEnd d k he
  unfold Spec.monthEndShiftOk
  rw [h1, h2, h3]
  simp

theorem spec_monthEndLag (s e : Date) (hs : s.valid) (he : e.valid) (hse : s.isMonthEnd)
    (hee : e.isMonthEnd) : Spec.monthEndLagOk s e (devLagMonths s e) = true := by
  simp [Spec.monthEndLagOk, devLag_monthEnds_int s e hs he hse hee]

theorem spec_dayDelta (d : Date) (q : Int) (neg : Bool)
    (h1 : 1 ≤ d.ordinal + (if neg then -q else q)) (h2 : d.ordinal + (if neg then -q else q) ≤ 3652059) :
    Spec.dayDeltaOk d q neg (resolutionDelta d q .day neg) = true := by
  obtain ⟨hv, ho⟩ := resolutionDelta_day_ordinal d q neg h1 h2
  simp [Spec.dayDeltaOk, hv, ho]

theorem spec_dayLag (c : Cell) : Spec.dayLagOk c.pe c.ev (c.ev.ordinal - c.pe.ordinal) = true := by
  simp [Spec.dayLagOk]

theorem spec_monthId (d : Date) (hv : d.valid) :
    Spec.monthIdOk d (monthToId d) = true ∧ Spec.firstDayOk d (idToMonth (monthToId d) true) = true ∧
    Spec.lastDayOk d (idToMonth (monthToId d) false) = true := by
  obtain ⟨h1, h2⟩ := idToMonth_monthToId d hv
  refine ⟨by simp [Spec.monthIdOk, monthToId], by simp [Spec.firstDayOk, h1], by simp [Spec.lastDayOk, h2]⟩

theorem spec_idToMonth (id : Int) (b : Bool) : Spec.idToMonthOk id b (idToMonth id b) = true := by
  obtain ⟨h1, h2, h3⟩ := monthToId_idToMonth id b
  unfold Spec.idToMonthOk
  rw [h1, h2]
  cases b <;> simp_all

/-- two calls compose on month ends (every year) -/
theorem spec_compose (d : Date) (j k : Int) (he : d.isMonthEnd) :
    Spec.composeOk d j k (addMonths (addMonths d (j : Rat)) (k : Rat)) = true := by
  rw [addMonths_add d j k he]
  exact spec_monthEndShift d (j + k) he

/-- adding `-k` undoes adding `k` on month ends (every year) -/
theorem spec_undo (d : Date) (k : Int) (hv : d.valid) (he : d.isMonthEnd) :
    Spec.undoOk d (addMonths (addMonths d (k : Rat)) ((-k : Int) : Rat)) = true := by
  unfold Spec.undoOk
  rw [addMonths_neg d k hv he]
  simp

/-! ### 7. non-vacuity: the hypotheses are satisfiable by non-trivial inputs -/

example : (Date.mk 2019 11 17).valid = true ∧ (Date.mk 2024 2 29).valid = true ∧ (1970 : Int) ≤ 2024 ∧
    devLagMonths ⟨2019, 11, 17⟩ ⟨2024, 2, 29⟩ = 51 + 13 / 30 ∧
    addMonths ⟨2019, 11, 17⟩ (51 + 13 / 30) = ⟨2024, 2, 29⟩ := by decide +kernel

example : (Date.mk 2020 2 29).valid = true ∧ (Date.mk 2020 2 29).isMonthEnd = true ∧
    addMonths ⟨2020, 2, 29⟩ ((-5 : Int) : Rat) = ⟨2019, 9, 30⟩ ∧
    addMonths ⟨2019, 9, 30⟩ ((5 : Int) : Rat) = ⟨2020, 2, 29⟩ ∧
    monthToId ⟨2020, 2, 29⟩ + (-5) = monthToId ⟨2019, 9, 30⟩ := by decide +kernel

/-- a mid-month date moved across a February: the month index moves by exactly 1, the day scales -/
example : addMonths ⟨2021, 1, 15⟩ ((1 : Int) : Rat) = ⟨2021, 2, 14⟩ ∧ (0 : Int) ≤ monthToId ⟨2021, 1, 15⟩ + 1 := by
  decide +kernel

/-- the day rule on a leap February: 2024-02-15 plus twelve months is 2025-02-14 (15/29 of 28 days = 14.48), not the 15th;
2023-01-30 plus one month is 2023-02-27 (30/31 of 28 = 27.1) -/
example : addMonths ⟨2024, 2, 15⟩ ((12 : Int) : Rat) = ⟨2025, 2, 14⟩ ∧ Spec.intShiftDayOk ⟨2024, 2, 15⟩ 12 ⟨2025, 2, 14⟩ = true ∧
    Spec.intShiftDayOk ⟨2024, 2, 15⟩ 12 ⟨2025, 2, 15⟩ = false ∧ Spec.intShiftDayOk ⟨2023, 1, 30⟩ 1 ⟨2023, 2, 27⟩ = true := by
  decide +kernel

/-- a cell that starts on the 1st and ends mid-month, evaluated at a month end: the lag is NOT a whole number and only
the fractional lag leads back to the evaluation date -/
example : devLagMonths ⟨2020, 1, 15⟩ ⟨2020, 3, 31⟩ = 2 + 16 / 31 ∧
    Spec.cellLagInverseOk ⟨2020, 3, 31⟩ (addMonths ⟨2020, 1, 15⟩ (devLagMonths ⟨2020, 1, 15⟩ ⟨2020, 3, 31⟩)) = true ∧
    Spec.cellLagInverseOk ⟨2020, 3, 31⟩ (addMonths ⟨2020, 1, 15⟩ 2) = false := by
  decide +kernel

/-! ### 8. the `date.max` sentinel (date_utils.py:36-40, 58-59): `calculateDevLagExt`, `addMonthsExt` -/

/-- below `date.max` the extended function is the finite one behind the unit dispatch -/
theorem calculateDevLagExt_fin (pe ev : Date) (u : String) (h : ev ≠ Date.max) :
    calculateDevLagExt pe ev u = (LagUnit.parse? u).map fun un => LagExt.fin (calculateDevLag pe ev un) := by
  unfold calculateDevLagExt
  rw [if_neg (fun hh => h (eq_of_beq hh))]
  cases LagUnit.parse? u <;> rfl

/-- at `date.max` EVERY unit string is answered (the short-circuit precedes the unit dispatch):
`timedelta.max` for the spelling "timedelta" in any case, `inf` for anything else -/
theorem calculateDevLagExt_max (pe : Date) (u : String) :
    calculateDevLagExt pe Date.max u =
      if u.toList.map Char.toLower == "timedelta".toList then some .tdMax else some .inf := by
  unfold calculateDevLagExt
  rw [if_pos (beq_self_eq_true _)]

/-- an infinite delta lands on `date.max` from every start date -/
theorem addMonthsExt_inf (d : Date) : addMonthsExt d .inf = some Date.max := rfl

/-- a finite delta is `addMonths` -/
theorem addMonthsExt_fin (d : Date) (q : Rat) : addMonthsExt d (.fin q) = some (addMonths d q) := rfl

/-- the inverse law extends to the sentinel: for every period end and every unit that is not spelled
"timedelta", adding `calculate_dev_lag(p, date.max, unit)` months to `p` returns `date.max` -/
theorem addMonthsExt_devLagExt_max (p : Date) (u : String)
    (h : u.toList.map Char.toLower ≠ "timedelta".toList) :
    (calculateDevLagExt p Date.max u).bind (addMonthsExt p) = some Date.max := by
  rw [calculateDevLagExt_max, if_neg (fun hh => h (eq_of_beq hh))]
  rfl

/-- Spec bridge for the sentinel stream of the driver -/
theorem spec_inverse_max (p : Date) (u : String) (h : u.toList.map Char.toLower ≠ "timedelta".toList) :
    ((calculateDevLagExt p Date.max u).bind (addMonthsExt p)).map (Spec.inverseOk Date.max) = some true := by
  rw [addMonthsExt_devLagExt_max p u h]
  rfl

/-- the month spellings of the harness are not "timedelta": the hypothesis above is satisfiable -/
example : ("months".toList.map Char.toLower ≠ "timedelta".toList) ∧
    calculateDevLagExt ⟨2020, 1, 31⟩ Date.max "bogus" = some .inf ∧
    calculateDevLagExt ⟨2020, 1, 31⟩ Date.max "TimeDelta" = some .tdMax ∧
    calculateDevLagExt ⟨2020, 1, 31⟩ ⟨2020, 3, 31⟩ "bogus" = none := by decide +kernel

end Bermuda.Properties.C12
