/-
C01 — A Triangle is a canonical sorted set: same cells in, same sequence out.
The invariant `Canonical` with `ofCells_canonical` / `ofCells_idem` is declared here, and the lemma modules that speak of it
import this file; the constructor facts themselves (`ofCells_sorted`, `ofCells_perm`, `ofCells_perm_invariant`) are those
of `Lemmas/Canonical.lean`.
-/
import Bermuda.Model.Ops
import Bermuda.Spec.C01
import Bermuda.Lemmas.Sort
import Bermuda.Lemmas.Ops
import Bermuda.Lemmas.Canonical
import Bermuda.Lemmas.AllOpsSpec
import Bermuda.Lemmas.AllOpsOrder
import Bermuda.Generated.Order
namespace Bermuda.Properties.C01
open Bermuda Std

/-! ### 1. `Metadata.__lt__` is a strict total order on distinct metadata -/

def mlt (a b : Metadata) : Prop := Metadata.cmp a b = .lt

theorem metadata_lt_irrefl (a : Metadata) : ¬ mlt a a := by
  unfold mlt; rw [ReflCmp.compare_self (cmp := Metadata.cmp)]; simp

theorem metadata_lt_asymm {a b : Metadata} (h : mlt a b) : ¬ mlt b a := by
  unfold mlt at *
  rw [OrientedCmp.eq_swap (cmp := Metadata.cmp), h]; simp

theorem metadata_lt_trans {a b c : Metadata} (h₁ : mlt a b) (h₂ : mlt b c) : mlt a c :=
  TransCmp.lt_trans h₁ h₂

/-- totality: two canonical metadata that are not equal are ordered one way or the other -/
theorem metadata_lt_trichotomous {a b : Metadata} (ha : a.Canon) (hb : b.Canon) (hne : a ≠ b) :
    mlt a b ∨ mlt b a := by
  unfold mlt
  have h : Metadata.cmp a b ≠ .eq := fun h => hne ((Metadata.cmp_eq_eq ha hb).mp h)
  rw [OrientedCmp.eq_swap (cmp := Metadata.cmp) (a := b) (b := a)]
  revert h
  cases Metadata.cmp a b <;> simp

/-! ### 2. the constructor: sorted, a permutation, class-consistent -/

theorem ofCells_ok_iff (l : List Cell) :
    (∃ t, Triangle.ofCells l = .ok t) ↔ kindsConsistent l = true :=
  Triangle.ofCells_isOk

theorem ofCells_mixed_error {l : List Cell} (h : kindsConsistent l = false) :
    Triangle.ofCells l = .error .triangleError :=
  Triangle.ofCells_eq_error.mpr ⟨by simp [h], rfl⟩

theorem ofCells_sorted {l t : List Cell} (h : Triangle.ofCells l = .ok t) :
    t.Pairwise (fun a b => Cell.le a b) :=
  Triangle.ofCells_sorted h

theorem ofCells_perm {l t : List Cell} (h : Triangle.ofCells l = .ok t) : t.Perm l :=
  Triangle.ofCells_perm h

/-- **Input-order independence.** Supplying the same cells in any order gives the same
sequence, provided cells at the same coordinate (same metadata, period, dates) are identical
cells (for distinct cells sharing a coordinate the library itself only warns). -/
theorem ofCells_perm_invariant {l₁ l₂ : List Cell} (hp : l₁.Perm l₂)
    (hdup : ∀ a b, a ∈ l₁ → b ∈ l₁ → Cell.cmp a b = .eq → a = b) :
    Triangle.ofCells l₁ = Triangle.ofCells l₂ :=
  Triangle.ofCells_congr_perm hp hdup

/-- without any assumption on duplicates the sequence of COORDINATES is still order-independent -/
theorem ofCells_coords_perm_invariant {l₁ l₂ t₁ t₂ : List Cell} (hp : l₁.Perm l₂)
    (hc : ∀ c ∈ l₁, c.md.Canon)
    (h₁ : Triangle.ofCells l₁ = .ok t₁) (h₂ : Triangle.ofCells l₂ = .ok t₂) :
    t₁.map Cell.coord = t₂.map Cell.coord :=
  have p₁ := ofCells_perm h₁
  have p₂ := ofCells_perm h₂
  coords_eq_of_sorted (ofCells_sorted h₁) (ofCells_sorted h₂) (fun c m => hc c (p₁.mem_iff.mp m))
    (fun c m => hc c (hp.mem_iff.mpr (p₂.mem_iff.mp m))) ((p₁.trans (hp.trans p₂.symm)).map _)

/-! ### 3. slices are contiguous and follow Metadata's order -/

/-- in a constructed triangle, any cell lying between two cells of one slice belongs to it -/
theorem slices_contiguous {l t : List Cell} (h : Triangle.ofCells l = .ok t)
    (hc : ∀ c ∈ l, c.md.Canon) {i j k : Nat} (hij : i < j) (hjk : j < k) (hk : k < t.length)
    (hm : t[i].md = t[k].md) : t[j].md = t[i].md := by
  have canon : ∀ n (hn : n < t.length), (t[n]).md.Canon := fun n hn =>
    hc _ ((ofCells_perm h).mem_iff.mp (List.getElem_mem hn))
  exact ((Metadata.cmp_eq_eq (canon i _) (canon j _)).mp
    (Cell.md_eq_of_between_sorted (ofCells_sorted h) hij hjk hk (hm ▸ ReflCmp.compare_self))).symm

/-- slices appear in strictly ascending `Metadata.__lt__` order, cells of a slice ascend -/
theorem slice_order {l t : List Cell} (h : Triangle.ofCells l = .ok t)
    (hc : ∀ c ∈ l, c.md.Canon) {i j : Nat} (hij : i < j) (hj : j < t.length) :
    (t[i].md = t[j].md ∧ Cell.le t[i] t[j]) ∨ mlt t[i].md t[j].md := by
  have canon : ∀ n (hn : n < t.length), (t[n]).md.Canon := fun n hn =>
    hc _ ((ofCells_perm h).mem_iff.mp (List.getElem_mem hn))
  exact (Cell.slice_order_sorted (ofCells_sorted h) hij hj).imp_left
    (.imp_left (Metadata.cmp_eq_eq (canon i _) (canon j hj)).mp)

/-! ### 4. closure under operations -/

/-- what `Triangle(...)` returns: sorted by `Cell.__lt__`, one cell class, every cell passes the constructor's date rules
(`Cell.datesOk`) -/
def Canonical (t : List Cell) : Prop :=
  t.Pairwise (fun a b => Cell.le a b) ∧ kindsConsistent t = true ∧ ∀ c ∈ t, c.datesOk = true

theorem ofCells_canonical {l t : List Cell} (h : Triangle.ofCells l = .ok t)
    (hd : ∀ c ∈ l, c.datesOk = true) : Canonical t := by
  refine ⟨ofCells_sorted h, ?_, fun c hc => hd c ((ofCells_perm h).mem_iff.mp hc)⟩
  rw [kindsConsistent_perm (ofCells_perm h)]
  exact (Triangle.ofCells_eq_ok.mp h).1

/-- re-constructing a canonical triangle changes nothing (`Triangle(t.cells) == t`) -/
theorem ofCells_idem {t : List Cell} (h : Canonical t) : Triangle.ofCells t = .ok t :=
  Triangle.ofCells_of_sorted h.2.1 h.1

/-- operands supplied from outside (the `other` of `+`) must themselves be canonical triangles -/
def _root_.Bermuda.Op.argsCanonical : Op → Prop
  | .add o => Canonical o
  | _ => True

theorem mapM_mk_ok {f : Cell → Cell} {t out : List Cell}
    (h : t.mapM (fun c => (f c).mk?) = .ok out) : ∀ c ∈ out, c.datesOk = true :=
  mapM_forall h fun _ _ _ => AllOps.mk?_ok_dates

theorem pySlice_sublist {α} (l : List α) (i j : Option Int) : (pySlice l i j).Sublist l := by
  unfold pySlice
  exact (List.drop_sublist _ _).trans (List.take_sublist _ _)

/-- **Every modelled operation returns a canonical triangle.** -/
theorem step_canonical {t t' : List Cell} (op : Op) (ht : Canonical t) (ho : op.argsCanonical)
    (h : step t op = .ok t') : Canonical t' := by
  cases op with
  | slice i j =>
    exact ofCells_canonical h (fun c hc => ht.2.2 c ((pySlice_sublist t i j).subset hc))
  | sliceStep i j k =>
    exact ofCells_canonical (of_guard h) (fun c hc => ht.2.2 c (mem_of_mem_pySliceStep hc))
  | removeStaticDetails =>
    rcases of_ite_ok h with rfl | h
    · exact ht
    · obtain ⟨v, hv, h⟩ := bind_ok h
      exact ofCells_canonical h (mapM_mk_ok hv)
  | add o =>
    exact ofCells_canonical h (List.forall_mem_append.mpr ⟨ht.2.2, ho.2.2⟩)
  | clip a =>
    exact ofCells_canonical h (fun c hc => ht.2.2 c (List.mem_filter.mp hc).1)
  | filterMask m =>
    refine ofCells_canonical h (fun c hc => ?_)
    obtain ⟨⟨c', b⟩, hmem, hsome⟩ := List.mem_filterMap.mp hc
    have : c' = c := by
      revert hsome; simp only []; split <;> simp
    subst this
    exact ht.2.2 c' (List.of_mem_zip hmem).1
  | select ks =>
    obtain ⟨v, hv, h⟩ := bind_ok h
    exact ofCells_canonical h (mapM_mk_ok hv)
  | deriveMetadata e =>
    obtain ⟨v, hv, h⟩ := bind_ok h
    exact ofCells_canonical h (mapM_mk_ok hv)
  | replaceEval d =>
    obtain ⟨v, hv, h⟩ := bind_ok h
    exact ofCells_canonical h (mapM_mk_ok hv)
  | rightEdge =>
    exact ofCells_canonical h (fun c hc => ht.2.2 c (mem_rightEdge_rows hc))

/-- **Every chain of operations keeps the canonical form.** -/
theorem run_canonical {t t' : List Cell} (ops : List Op) (ht : Canonical t)
    (ho : ∀ op ∈ ops, op.argsCanonical) (h : run t ops = .ok t') : Canonical t' := by
  rw [run_eq_foldlM] at h
  exact foldlM_inv Canonical h ht fun _ op _ hacc hop => step_canonical op hacc (ho op hop)

/-! ### 5. a canonical sequence passes the executable Spec predicate -/

theorem chainB_of_pairwise {α} {le : α → α → Bool} {l : List α}
    (h : l.Pairwise (fun a b => le a b)) : Spec.chainB le l = true :=
  Spec.chainB_of_pairwise h

theorem isCanonical_of_canonical {t : List Cell} (h : Canonical t) : Spec.isCanonical t = true := by
  simp only [Spec.isCanonical, Spec.sortedCells, Bool.and_eq_true, List.all_eq_true]
  exact ⟨⟨chainB_of_pairwise h.1, h.2.1⟩, h.2.2⟩

/-! ### 6. the converse, and the same for `Spec.sliceOrder` / `Spec.slicesContiguous`

What the driver evaluates on the implementation's dumps are adjacent-pair checks (`Spec.chainB`); by transitivity
of the comparisons they are equivalent to the pairwise propositions, so a `true` verdict on a dump IS the
property of that dump. -/

/-- Spec verdict `true` on a sequence ⇒ the sequence is canonical (converse of `isCanonical_of_canonical`) -/
theorem canonical_of_isCanonical {t : List Cell} (h : Spec.isCanonical t = true) : Canonical t := by
  simp only [Spec.isCanonical, Spec.sortedCells, Bool.and_eq_true, List.all_eq_true] at h
  exact ⟨pairwise_of_chainB Cell.le_trans h.1.1, h.1.2, h.2⟩

theorem isCanonical_iff {t : List Cell} : Spec.isCanonical t = true ↔ Canonical t :=
  ⟨canonical_of_isCanonical, isCanonical_of_canonical⟩

/-- **Contiguity for every canonical sequence** (hence for every chain result), stated modulo Python's `==` on
metadata (`Metadata.cmp = .eq`; no `Canon` hypothesis): a cell between two cells of one slice belongs to it -/
theorem canonical_slices_contiguous {t : List Cell} (h : Canonical t) {i j k : Nat} (hij : i < j) (hjk : j < k)
    (hk : k < t.length) (hm : Metadata.cmp t[i].md t[k].md = .eq) : Metadata.cmp t[i].md t[j].md = .eq :=
  Cell.md_eq_of_between_sorted h.1 hij hjk hk hm

/-- **Slice order for every canonical sequence**: two cells are in one slice (metadata `==`) and ascend, or the
earlier one's metadata is strictly smaller -/
theorem canonical_slice_order {t : List Cell} (h : Canonical t) {i j : Nat} (hij : i < j) (hj : j < t.length) :
    (Metadata.cmp t[i].md t[j].md = .eq ∧ Cell.le t[i] t[j] = true) ∨ mlt t[i].md t[j].md :=
  Cell.slice_order_sorted h.1 hij hj

/-- `Spec.sliceOrder` holds on every canonical sequence with canonical metadata (e.g. every model output on
wire inputs) -/
theorem sliceOrder_of_canonical {t : List Cell} (h : Canonical t) (hc : ∀ c ∈ t, c.md.Canon) :
    Spec.sliceOrder t = true := by
  show Spec.chainB sliceRel t = true
  refine chainB_of_pairwise (h.1.imp_of_mem fun {a b} ha hb hle => sliceRel_iff.mpr ⟨hle, ?_⟩)
  exact (Cell.le_cases hle).imp_left (Metadata.cmp_eq_eq (hc a ha) (hc b hb)).mp

/-- Spec verdict `sliceOrder = true` on a dump ⇒ slices follow `Metadata.__lt__` strictly and cells ascend inside
a slice, for EVERY pair of positions (transitivity of the adjacent check) -/
theorem sliceOrder_sound {t : List Cell} (h : Spec.sliceOrder t = true) {i j : Nat} (hij : i < j) (hj : j < t.length) :
    (t[i].md = t[j].md ∧ Cell.le t[i] t[j] = true) ∨ mlt t[i].md t[j].md := by
  have hp : t.Pairwise (fun a b => sliceRel a b = true) := pairwise_of_chainB sliceRel_trans h
  obtain ⟨hle, hmd⟩ := sliceRel_iff.mp (List.pairwise_iff_getElem.mp hp i j (Nat.lt_trans hij hj) hj hij)
  exact hmd.imp_left (⟨·, hle⟩)

/-- … and contiguity: `sliceOrder = true` already forbids a slice from coming back -/
theorem contiguous_of_sliceOrder {t : List Cell} (h : Spec.sliceOrder t = true) {i j k : Nat} (hij : i < j)
    (hjk : j < k) (hk : k < t.length) (hm : t[i].md = t[k].md) : t[j].md = t[i].md := by
  rcases sliceOrder_sound h hij (Nat.lt_trans hjk hk) with ⟨he, _⟩ | hlt
  · exact he.symm
  · rcases sliceOrder_sound h hjk hk with ⟨he, _⟩ | hlt2
    · rw [he, ← hm] at hlt; exact absurd hlt (metadata_lt_irrefl _)
    · have := metadata_lt_trans hlt hlt2
      rw [hm] at this; exact absurd this (metadata_lt_irrefl _)

/-- the scan `Spec.slicesContiguous` never fails where `Spec.sliceOrder` holds: the second verdict is implied by
the first (it is evaluated as an independent re-statement of contiguity) -/
theorem slicesContiguous_of_sliceOrder {t : List Cell} (h : Spec.sliceOrder t = true) :
    Spec.slicesContiguous t = true :=
  slicesContiguous_of_pairwise (pairwise_of_chainB sliceRel_trans h)

/-- `Spec.slicesContiguous` holds on every canonical sequence with canonical metadata -/
theorem slicesContiguous_of_canonical {t : List Cell} (h : Canonical t) (hc : ∀ c ∈ t, c.md.Canon) :
    Spec.slicesContiguous t = true :=
  slicesContiguous_of_sliceOrder (sliceOrder_of_canonical h hc)

/-! ### 7. the comparison the CODE has: `Metadata.__lt__` is partial

`Metadata.cmp` (total, detail values of different kinds ordered by `MVal.rank`) is the model's sort key; Python's
`<` raises `TypeError` (the constructor: `TriangleError`) when the deciding position holds the same detail key with
values of different kinds. `Metadata.cmp?` (Model/AllOpsOrder.lean) is that partial comparison and
`detailKindsComparable` / `cellsComparable` the decidable domain on which it cannot raise. The order theorems
above (`metadata_lt_trichotomous`, `ofCells_ok_iff`, `ofCells_perm_invariant`) speak about the model's total order;
the versions below are the ones that speak about the code. -/

/-- on metadata whose shared detail keys carry values of one kind, Python's `<` never raises and is the model's
comparison -/
theorem metadata_cmpPy_eq {a b : Metadata} (h : a.detailKindsComparable b = true) :
    Metadata.cmp? a b = .ok (Metadata.cmp a b) :=
  Metadata.cmp?_eq h

/-- Python's `<` raises only outside that domain -/
theorem metadata_cmpPy_error {a b : Metadata} {e : Err} (h : Metadata.cmp? a b = .error e) :
    a.detailKindsComparable b = false := by
  cases hk : a.detailKindsComparable b
  · rfl
  · rw [Metadata.cmp?_eq hk] at h; cases h

/-- **Strict total order of the code's `<`**, correctly scoped: distinct comparable metadata are ordered one way or
the other by `Metadata.__lt__` itself -/
theorem metadata_ltPy_trichotomous {a b : Metadata} (ha : a.Canon) (hb : b.Canon)
    (hk : a.detailKindsComparable b = true) (hne : a ≠ b) :
    Metadata.cmp? a b = .ok .lt ∨ Metadata.cmp? b a = .ok .lt := by
  rw [Metadata.cmp?_eq hk, Metadata.cmp?_eq (Metadata.detailKindsComparable_symm a b ▸ hk)]
  exact (metadata_lt_trichotomous ha hb hne).imp (congrArg Except.ok) (congrArg Except.ok)

/-- irreflexivity of the code's `<` (asymmetry and transitivity are proved for the model's total `Metadata.cmp`
only: `metadata_lt_asymm`, `metadata_lt_trans`) -/
theorem metadata_ltPy_irrefl (a : Metadata) : Metadata.cmp? a a ≠ .ok .lt := by
  rw [Metadata.cmp?_self]; intro h; cases h

/-- **The constructor on the code's domain**: `Triangle(cells)` succeeds exactly for one cell class. The model's
constructor sorts by the total `Metadata.cmp`, so this is `ofCells_ok_iff` and the comparability hypothesis only
marks the domain on which the model's sort is the code's (`metadata_cmpPy_eq` for each pair); that `sorted(cells)`
raises nowhere on that domain is not part of the statement. -/
theorem ofCells_ok_iff_comparable {l : List Cell} (_hk : cellsComparable l = true) :
    (∃ t, Triangle.ofCells l = .ok t) ↔ kindsConsistent l = true :=
  ofCells_ok_iff l

/-- non-vacuity of the restriction: the same detail key with a number and a string — Python raises, the total model
comparison orders them by kind -/
example : (match Metadata.cmp? { details := [("k", .num 1)] } { details := [("k", .str "x")] } with
      | .error .typeError => true | _ => false) = true ∧
    Metadata.cmp { details := [("k", .num 1)] } { details := [("k", .str "x")] } = .lt ∧
    Metadata.detailKindsComparable { details := [("k", .num 1)] } { details := [("k", .str "x")] } = false ∧
    Metadata.detailKindsComparable { details := [("k", .num 1)] } { details := [("k", .num 2), ("j", .str "x")] } = true := by
  decide +kernel

/-! ### 8. tie to the source: the attribute order of the compared tuples (regenerated tables) -/

theorem tables_order :
    Generated.Order.ok = true ∧
    Generated.Order.metadataLtConsistent = true ∧
    Generated.Order.metadataLtPriority =
      ["risk_basis", "country", "currency", "reinsurance_basis", "loss_definition",
       "per_occurrence_limit", "details", "loss_details"] ∧
    Generated.Order.metadataNoneSortsFirst = true ∧
    Generated.Order.limitNoneSortsLast = true ∧
    Generated.Order.cellLtConsistent = true ∧
    Generated.Order.cellLtPriority = ["metadata", "period_start", "period_end", "evaluation_date"] ∧
    Generated.Order.incrementalLtConsistent = true ∧
    Generated.Order.incrementalLtPriority =
      ["metadata", "period_start", "period_end", "evaluation_date", "prev_evaluation_date"] := by
  decide

/-! ### 9. non-vacuity: a concrete 4-slice multiset meets the hypotheses -/

def exMetas : List Metadata :=
  [ {}, { country := some "US" }, { lossDetails := [("k", .num 1)] }, { country := some "" } ]

def exCells : List Cell :=
  exMetas.map fun m => { ps := ⟨2020, 1, 1⟩, pe := ⟨2020, 12, 31⟩, ev := ⟨2020, 12, 31⟩, md := m }

theorem exCells_canon : ∀ c ∈ exCells, c.md.Canon := by decide
theorem exCells_dates : ∀ c ∈ exCells, c.datesOk = true := by decide
theorem exCells_coord_inj : ∀ a ∈ exCells, ∀ b ∈ exCells, a.coord = b.coord → a = b := by decide

/-- the hypotheses of `ofCells_perm_invariant` hold for a 4-slice multiset whose metadata differ
in one attribute each (one pair only in `loss_details`, one pair `None` vs `""`), and the
theorem then gives equal triangles for the reversed input. -/
example : Triangle.ofCells exCells.reverse = Triangle.ofCells exCells :=
  ofCells_perm_invariant (List.reverse_perm _) (fun a b ha hb h =>
    exCells_coord_inj a (List.mem_reverse.mp ha) b (List.mem_reverse.mp hb)
      ((Cell.cmp_eq_eq (exCells_canon a (List.mem_reverse.mp ha))
        (exCells_canon b (List.mem_reverse.mp hb))).mp h))

end Bermuda.Properties.C01
